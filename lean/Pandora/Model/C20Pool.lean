/-
C20 (round 6) — the grpc/json provider's reading loop over POOLED AMMO OBJECTS, core Lean only.

`components/providers/grpc/ammo.go`: an `Ammo` is tag, call, metadata, payload, an id and the flag `isInvalid`;
`Reset` assigns the whole struct (the flag is cleared), `Invalidate` sets the flag. The provider takes every object from a
`sync.Pool` (`p.Pool.Get()`): what `Get` returns is up to the pool — a new zero object, or ANY object released earlier
(by any instance, after any entry, valid or invalid) — so the pool is an ORACLE here: `pool k` is what the k-th `Get` of
the run returns, any object at all. `Model.C20Feed.scanPass` fixed the pooled object to "the previously delivered ammo"
and had no flag; this file has both, and `Proofs/C20Pool.lean` proves that the oracle does not matter.
-/
import Pandora.Model.C20Feed

namespace Pandora.Model.C20

/-- a pooled `*ammo.Ammo`: the four fields and the invalid flag (`id` is assigned by `Acquire`, after delivery) -/
structure Obj where
  e : Entry
  invalid : Bool

def zeroObj : Obj := { e := zeroEntry, invalid := false }

/-- `(*Ammo).Reset(tag, call, metadata, payload)`: `*a = Ammo{tag, call, metadata, payload, 0, false}` -/
def Obj.reset (_o : Obj) (tag call : String) (md : List (String × String)) (payload : List (String × PVal)) : Obj :=
  { e := { tag := tag, call := call, md := md, payload := payload }, invalid := false }

/-- `(*Ammo).Invalidate()` -/
def Obj.invalidate (o : Obj) : Obj := { o with invalid := true }

inductive ActionO where
  | stop (s : Stop)
  | skip
  | deliver (o : Obj)

/-- the loop body for one line, on the object `Get` returned: `decodeAmmo` (a line that decodes: the object is reset
from a FRESH decoding of the line; one that does not: reset to nothing, error), then `Invalidate` under
continueonerror, then the chosen-cases filter on the object's tag -/
def actionO (cfg : ProvCfg) (got : Obj) : Raw → ActionO
  | .long => .stop .scan
  | .bad =>
    let a := got.reset "" "" [] []
    if cfg.coe then
      let a := a.invalidate
      if isChosen a.e.tag cfg.chosen then .deliver a else .skip
    else .stop .decode
  | .line l =>
    let fresh := unmarshalInto zeroEntry l
    let a := got.reset fresh.tag fresh.call fresh.md fresh.payload
    if isChosen a.e.tag cfg.chosen then .deliver a else .skip

/-- one pass; `g` = number of `Get`s so far, `n` = ammo delivered so far. Returns the objects delivered, the new `g`, the
new `n`, how the pass ended. (`Get` is evaluated after `Scan()` and the limit check, as an argument of `decodeAmmo`.) -/
def scanPassO (cfg : ProvCfg) (pool : Nat → Obj) : List Raw → Nat → Nat → List Obj × Nat × Nat × Stop
  | [], g, n => ([], g, n, .none)
  | r :: rs, g, n =>
    if isLong r then ([], g, n, .scan) else
    if cfg.limit != 0 && n ≥ cfg.limit then ([], g, n, .none) else
    match actionO cfg (pool g) r with
    | .stop s => ([], g + 1, n, s)
    | .skip => scanPassO cfg pool rs (g + 1) n
    | .deliver a =>
      let rest := scanPassO cfg pool rs (g + 1) (n + 1)
      (a :: rest.1, rest.2.1, rest.2.2.1, rest.2.2.2)

def runPassesO (cfg : ProvCfg) (pool : Nat → Obj) (raws : List Raw) : Nat → Nat → Nat → Nat → List Obj × Stop
  | 0, _, _, _ => ([], .none)
  | fuel + 1, passNum, g, n =>
    let p := scanPassO cfg pool raws g n
    if p.2.2.2 != .none then (p.1, p.2.2.2)
    else if cfg.limit != 0 && p.2.2.1 ≥ cfg.limit then (p.1, .none)
    else if cfg.passes != 0 && passNum + 1 ≥ cfg.passes then (p.1, .none)
    else if p.2.2.1 == 0 then (p.1, .noammo)
    else
      let rest := runPassesO cfg pool raws fuel (passNum + 1) p.2.1 p.2.2.1
      (p.1 ++ rest.1, rest.2)

/-- everything the provider puts on its sink when the pool behaves as `pool` says -/
def feedO (cfg : ProvCfg) (pool : Nat → Obj) (raws : List Raw) : List Obj × Stop :=
  runPassesO cfg pool raws (feedFuel cfg) 0 0 0

/-- `Gun.shoot` on a delivered object: an ammo flagged invalid is one failed sample (code 0) and no call, BEFORE the
method lookup; anything else is `shootEntry` of its four fields -/
def shootObj (tmo : Nat) (o : Obj) : Outcome :=
  if o.invalid then { calls := [], samples := [sampleText o.e.tag 0] } else shootEntry tmo o.e

/-- the pool the harness prepares with `dirty=<k>`: objects that carry a rich earlier entry (metadata, all payload
fields, a tag, a call), every other one flagged invalid -/
def dirtyObj (k : Nat) : Obj :=
  { e := { tag := "dirty" ++ toString k, call := "target.TargetService.Order",
           md := [("x-stale", "stale" ++ toString k), ("authorization", "Bearer stale")],
           payload := [("token", PVal.s "stale"), ("user_id", PVal.n "77"), ("item_id", PVal.n "7001")] },
    invalid := k % 2 == 1 }

end Pandora.Model.C20
