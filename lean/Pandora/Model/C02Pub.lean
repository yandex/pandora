/-
C02 round 6 — how a STARTING unlimited leaf publishes its state to a concurrent `Left` (core/schedule/unlilmited.go,
start_sync.go).

`unlimitedSchedule.Left` does not go through the once: it loads the started flag and then the finish time.  The caller
that starts the leaf (first `Next`, or `Start`) stores the finish time and raises the started flag — two atomic
stores, and a `Left` of another caller may run between them.  The concurrent leaf model (`Model/C02LeafPar.lean`)
treats the once body as ONE action and `Left` as ONE action; this file models the four accesses one by one, in the
orders the source performs them (regenerated: `Gen/C02Leaf.lean leafOrder`), so that `Proofs/C02Pub.lean` can show
that with the order of the source (finish before flag; flag before finish) every `Left` sees a pair it could have
seen atomically — and that with the order the code had before fix 4d9aa06 it does not.
-/
namespace Pandora.Model.C02.Pub

/-- what `Left` of an unlimited leaf reads -/
structure USh where
  started : Bool
  finish : Int
deriving Repr, DecidableEq

inductive WAcc where | storeFinish | storeStarted
deriving Repr, DecidableEq

inductive RAcc where | loadStarted | loadFinish
deriving Repr, DecidableEq

structure USt where
  sh : USh
  w : List WAcc                 -- what the starting caller still has to do
  r : List RAcc                 -- what the caller of `Left` still has to do
  seenStarted : Option Bool
  seenFinish : Option Int
deriving Repr, DecidableEq

/-- one access of the starting caller (`writer = true`) or of the caller of `Left`; `v` = the finish time being stored -/
def ustep (v : Int) (st : USt) (writer : Bool) : USt :=
  if writer then
    match st.w with
    | [] => st
    | .storeFinish :: w => { st with sh := { st.sh with finish := v }, w := w }
    | .storeStarted :: w => { st with sh := { st.sh with started := true }, w := w }
  else
    match st.r with
    | [] => st
    | .loadStarted :: r => { st with seenStarted := some st.sh.started, r := r }
    | .loadFinish :: r => { st with seenFinish := some st.sh.finish, r := r }

def urun (v : Int) (st : USt) (sched : List Bool) : USt := sched.foldl (ustep v) st

def uinit (f0 : Int) (w : List WAcc) (r : List RAcc) : USt := ⟨⟨false, f0⟩, w, r, none, none⟩

/-- `if !s.IsStarted() || time.Now().Before(s.finish.Load()) { return -1 }; return 0` on what was read -/
def leftOfView (started : Bool) (finish now : Int) : Int := if !started || decide (now < finish) then -1 else 0

/-- the stores / loads among the accesses of a method, in their order (names as `gen/area_c02leaf.go` prints them) -/
def wOrder (l : List String) : List WAcc :=
  l.filterMap fun a =>
    if a == "finish.Store" then some .storeFinish
    else if a == "started.Swap" || a == "started.Store" || a == "started.CAS" || a == "started.CompareAndSwap" then some .storeStarted
    else none

def rOrder (l : List String) : List RAcc :=
  l.filterMap fun a =>
    if a == "started.Load" then some .loadStarted else if a == "finish.Load" then some .loadFinish else none

end Pandora.Model.C02.Pub
