/-
C09 — HTTP wire fidelity: the request reaching the target equals ammo plus gun config.

Theorems about the model `Pandora.Model.C09` (decoder merge per format → BuildRequest/Enrich → BaseGun.Shoot) against the
declarative expectations of `Pandora.Spec.C09`, for ALL configured header lists, ALL in-file header lines (any
names, any case, duplicates, Host), ALL entries and all five file syntaxes (uri, uripost, jsonline, json array,
raw). Lists are unbounded; proofs are inductions over them (`Pandora.Proofs.C09`).

The uri/uripost merge is the REPAIRED one (fixes/C09-uri-header-precedence.diff); the code of the unrepaired tree
is `mergeUriOld`, for which `C09_unrepaired_uri_counterexample` shows the precedence theorem false.

net/http's serialisation, URL escaping, TLS and connection pooling are library behaviour: observed by the tie
(harness/cmd/c09 against `Pandora.Drv.C09`), not proved.
-/
import Pandora.Proofs.C09
import Pandora.Proofs.C09Conn
import Pandora.Proofs.C09Volley
import Pandora.Proofs.C09Ammo
import Pandora.Bridge.HttpWire

namespace Pandora.Props.C09
open Pandora.Model.C09 Pandora.Spec.C09 Pandora.Proofs.C09

/-- DecodeHeader over the rendered `[k:v]` lines of a uri/uripost file; `none` = some line is malformed -/
def decodeLines : List (Str × Str) → Option (List (Str × Str))
  | [] => some []
  | kv :: rest =>
    match decodeHeader (headerLine kv) with
    | .error _ => none
    | .ok p => match decodeLines rest with
      | some ps => some (p :: ps)
      | none => none

/-! ### the property theorems -/

/-- **Precedence, every format.** For every format, `headers` option list `conf` (decoded `[k: v]` pairs), header
lines `lines` in effect for the entry and entry `e`: BuildRequest succeeds (EnrichRequestWithHeaders never
indexes an empty slice), and on the request handed to the transport
* every header name `n` other than Host carries the ammo's value(s) when the ammo entry defines `n`, else the
  configured value(s), else nothing (`expHeader`; names compared after MIME canonicalisation);
* Host is the ammo's (URL host / `host` field / Host line) whenever the ammo gives a non-empty one;
* when the ammo gives no Host at all it is the configured Host, else the host of the gun's target. -/
theorem C09_precedence (f : Format) (conf lines : List (Str × Str)) (e : Entry) (g : Gun) :
    ∃ r, buildReq f (confHdr conf) lines e = some r ∧
      (∀ n, n ≠ hostKey → hget (shoot g r).header n = expHeader f conf (seenLines f lines) n) ∧
      (ammoHost f (seenLines f lines) e ≠ [] → (shoot g r).host = ammoHost f (seenLines f lines) e) ∧
      (ammoHasHost f (seenLines f lines) e = false →
        (shoot g r).host = confHost conf (hostWithoutPort g.target)) := by
  obtain ⟨r, hr⟩ := buildReq_total f conf lines e
  refine ⟨r, hr, fun n hn => header_of_buildReq f conf lines e r hr n hn, ?_, ?_⟩
  · intro ha
    have hh := host_of_buildReq f conf lines e r hr
    simp only [ammoHost] at ha ⊢
    simp only [shoot]
    by_cases hu : urlHost f e = []
    · simp only [hu, ne_eq, not_true_eq_false, if_false] at ha hh ⊢
      cases hf : fileHost f (seenLines f lines) with
      | none => simp [hf] at ha
      | some v =>
        simp only [hf, Option.getD_some] at ha hh ⊢
        have : r.host = v := by rw [hh]; simp [ha]
        simp [this, ha]
    · simp only [hu, ne_eq, not_false_eq_true, if_true] at hh ⊢
      simp [hh, hu]
  · intro hno
    have hh := host_of_buildReq f conf lines e r hr
    simp only [ammoHasHost, Bool.or_eq_false_iff, bne_eq_false_iff_eq, Option.isSome_eq_false_iff,
      Option.isNone_iff_eq_none] at hno
    simp only [hno.1, hno.2, ne_eq, not_true_eq_false, if_false] at hh
    simp only [shoot, hh]
    exact confHost_eq conf _

/-- the corner left open by `C09_precedence`: the ammo gives an EMPTY Host line. uri/uripost/jsonline then send the
target's host; raw falls back to the configured Host first. Either way Host is the configured one or the target's. -/
theorem C09_precedence_empty_host (f : Format) (conf lines : List (Str × Str)) (e : Entry) (g : Gun) (r : Req)
    (hr : buildReq f (confHdr conf) lines e = some r)
    (hno : ammoHost f (seenLines f lines) e = []) :
    (shoot g r).host = hostWithoutPort g.target ∨ (shoot g r).host = confHost conf (hostWithoutPort g.target) := by
  have hh := host_of_buildReq f conf lines e r hr
  simp only [ammoHost] at hno
  by_cases hu : urlHost f e = []
  · simp only [hu, ne_eq, not_true_eq_false, if_false] at hno hh
    simp only [shoot]
    cases hf : fileHost f (seenLines f lines) with
    | none =>
      simp only [hf] at hh
      exact Or.inr (hh ▸ confHost_eq conf _)
    | some v =>
      simp only [hf, Option.getD_some] at hno hh
      subst hno
      by_cases hraw : f = .raw
      · simp only [hraw, not_true_eq_false, or_false, if_false] at hh
        exact Or.inr (hh ▸ confHost_eq conf _)
      · simp [hraw] at hh; simp [hh]
  · simp [hu] at hno

/-- **Method, request-URI and body bytes are the entry's**, whatever the configured headers are: GET/POST for
uri/uripost, the entry's method token otherwise; the entry's URI as its format's parser reads it (`wireURI`:
`URL.RequestURI()`, which for an origin-form URI is the URI itself — `C09_origin_form_unchanged`); the body unchanged. -/
theorem C09_unchanged (f : Format) (conf : Hdr) (lines : List (Str × Str)) (e : Entry) (g : Gun) (r : Req)
    (h : buildReq f conf lines e = some r) :
    (shoot g r).method = methodOf f e ∧ (shoot g r).uri = wireURI f e ∧
      (shoot g r).body = bodyOf f e := by
  have hp : POST ≠ [] := by decide
  have hg : GET ≠ [] := by decide
  cases f <;> simp only [buildReq, buildAmmo] at h <;> have hf := enrich_fields _ _ _ h <;>
    simp [shoot, hf, newRequest, readRequest, readRequestWith, methodOf, urlOf, bodyOf, wireURI, viaOf, splitURL, hp, hg]

/-- an origin-form request target: one leading `/` (not `//`: that is a network-path reference whose first segment
is an authority for url.Parse) -/
def originForm (u : Str) : Prop := ∃ rest, u = 47 :: rest ∧ rest.head? ≠ some 47

/-- **An origin-form URI reaches the wire byte for byte** in every format (for http/json provided the `host` field
is a plain authority: no `/`, `?`, `#` in it), and it names no host of its own. -/
theorem C09_origin_form_unchanged (f : Format) (e : Entry) (ho : originForm e.uri)
    (hh : e.host.all (fun c => !isAuthEnd c) = true) :
    wireURI f e = e.uri ∧ (f ≠ .jsonline → f ≠ .jsonarr → urlHost f e = []) := by
  obtain ⟨rest, hu, hr⟩ := ho
  have h1 : stripPrefix? httpPfx (47 :: rest) = none := by simp [stripPrefix?, httpPfx]
  have h2 : stripPrefix? httpsPfx (47 :: rest) = none := by simp [stripPrefix?, httpsPfx]
  have plain : ∀ via, splitURLv via (47 :: rest) = ([], 47 :: rest) := by
    intro via
    simp only [splitURLv, h1, h2]
    cases rest with
    | nil => simp
    | cons c cs =>
      have hc : c ≠ 47 := by simpa using hr
      simp [hc]
  have json : splitURLv false (httpPfx ++ (e.host ++ 47 :: rest)) = (e.host, 47 :: rest) :=
    splitURLv_absolute false false e.host rest hh
  cases f <;> simp [wireURI, urlHost, urlOf, viaOf, hu, plain, json]

/-- **Target and scheme.** Whatever the entry says (absolute URI naming another host or scheme, any Host), the
transport is told to dial the gun's resolved target, with https iff `ssl`. -/
theorem C09_target (g : Gun) (r : Req) :
    (shoot g r).dial = g.targetResolved ∧ (shoot g r).scheme = (if g.ssl then Scheme.https else Scheme.http) :=
  ⟨rfl, rfl⟩

/-- **All formats merge alike.** Two entries in any two formats whose header lines define the same values
(name by name, as each format reads them) and that run under the same `headers` option reach the wire with the
same value(s) for every header; and with the same Host when they give the same non-empty Host or none at all. -/
theorem C09_formats_agree (f₁ f₂ : Format) (conf l₁ l₂ : List (Str × Str)) (e₁ e₂ : Entry) (g : Gun) (r₁ r₂ : Req)
    (h₁ : buildReq f₁ (confHdr conf) l₁ e₁ = some r₁) (h₂ : buildReq f₂ (confHdr conf) l₂ e₂ = some r₂)
    (hv : ∀ n, fileVals f₁ (seenLines f₁ l₁) n = fileVals f₂ (seenLines f₂ l₂) n) :
    (∀ n, n ≠ hostKey → hget (shoot g r₁).header n = hget (shoot g r₂).header n) ∧
    (ammoHost f₁ (seenLines f₁ l₁) e₁ = ammoHost f₂ (seenLines f₂ l₂) e₂ →
      ammoHasHost f₁ (seenLines f₁ l₁) e₁ = ammoHasHost f₂ (seenLines f₂ l₂) e₂ →
      (ammoHost f₁ (seenLines f₁ l₁) e₁ ≠ [] ∨ ammoHasHost f₁ (seenLines f₁ l₁) e₁ = false) →
      (shoot g r₁).host = (shoot g r₂).host) := by
  obtain ⟨r₁', hr₁, p₁, a₁, b₁⟩ := C09_precedence f₁ conf l₁ e₁ g
  obtain ⟨r₂', hr₂, p₂, a₂, b₂⟩ := C09_precedence f₂ conf l₂ e₂ g
  rw [h₁] at hr₁; rw [h₂] at hr₂
  cases hr₁; cases hr₂
  refine ⟨fun n hn => ?_, fun ha hs hc => ?_⟩
  · rw [p₁ n hn, p₂ n hn]; simp only [expHeader, hv n]
  · rcases hc with hc | hc
    · rw [a₁ hc, a₂ (ha ▸ hc), ha]
    · rw [b₁ hc, b₂ (hs ▸ hc)]

/-- the same lines with pairwise different names and values without surrounding blanks mean the same in every
format, so `C09_formats_agree` applies to one entry written in any two syntaxes -/
theorem C09_formats_agree_same_lines (f₁ f₂ : Format) (lines : List (Str × Str))
    (hd : ∀ n, (valsOf lines n).length ≤ 1) (ht : ∀ kv ∈ lines, trimHTTP kv.2 = kv.2) (n : Str) :
    fileVals f₁ (seenLines f₁ lines) n = fileVals f₂ (seenLines f₂ lines) n := by
  have hmap : (lines.map fun kv => (kv.1, trimHTTP kv.2)) = lines := by
    have : ∀ kv ∈ lines, (fun kv : Str × Str => (kv.1, trimHTTP kv.2)) kv = kv := fun kv hkv => by
      simp [ht kv hkv]
    simpa using List.map_congr_left this
  have hs : ∀ f, seenLines f lines = lines := fun f => by cases f <;> simp [seenLines, hmap]
  have hl : lastOf (valsOf lines n) = valsOf lines n := by
    have := hd n
    cases hv : valsOf lines n with
    | nil => rfl
    | cons v t =>
      cases t with
      | nil => rfl
      | cons w t' => rw [hv] at this; simp at this
  cases f₁ <;> cases f₂ <;> simp [fileVals, hs, hl]

/-- **uri/uripost: the header lines in effect are all `[k: v]` lines of the pass so far.** In a file
`pre ++ it :: rest` whose header lines up to and including `it`'s decode to `ls`, the request produced for `it`
(it has index `pre.length` in the pass) is `buildReq` of `ls`: headers persist across entries, later lines of a
name replace earlier ones, and nothing of an earlier REQUEST leaks into a later one. -/
theorem C09_uri_sequence (post : Bool) (conf : Hdr) (wc : WF conf) (pre : List Item) (it : Item) (rest : List Item)
    (ls : List (Str × Str)) (hdec : decodeLines ((pre ++ [it]).flatMap (·.hdrs)) = some ls) :
    (scanUri post conf [] (pre ++ it :: rest)).1[pre.length]? =
      buildReq (if post then .uripost else .uri) conf ls it.ent := by
  -- generalised over the common header accumulated before `pre`
  have key : ∀ (pre : List Item) (common : Hdr) (ls : List (Str × Str)), WF common →
      decodeLines ((pre ++ [it]).flatMap (·.hdrs)) = some ls →
      (scanUri post conf common (pre ++ it :: rest)).1[pre.length]? =
        buildAmmo (if post then POST else GET) it.ent.uri (if post then it.ent.body else [])
          (mergeUri (commonOf common ls) conf) := by
    have hread : ∀ (hs : List (Str × Str)) (common : Hdr) (l : List (Str × Str)), decodeLines hs = some l →
        readHeaderLines common hs = some (commonOf common l) := by
      intro hs
      induction hs with
      | nil => intro common l h; simp [decodeLines] at h; subst h; simp [readHeaderLines, commonOf]
      | cons kv t ih =>
        intro common l h
        simp only [decodeLines] at h
        cases hd : decodeHeader (headerLine kv) with
        | error e => simp [hd] at h
        | ok p =>
          simp only [hd] at h
          cases ht : decodeLines t with
          | none => simp [ht] at h
          | some ps =>
            simp only [ht, Option.some.injEq] at h
            subst h
            obtain ⟨k, v⟩ := p
            simp [readHeaderLines, hd, ih _ _ ht, commonOf]
    have hsplit : ∀ (a b : List (Str × Str)) (l : List (Str × Str)), decodeLines (a ++ b) = some l →
        ∃ la lb, decodeLines a = some la ∧ decodeLines b = some lb ∧ l = la ++ lb := by
      intro a
      induction a with
      | nil => intro b l h; exact ⟨[], l, rfl, by simpa using h, rfl⟩
      | cons kv t ih =>
        intro b l h
        simp only [List.cons_append, decodeLines] at h ⊢
        cases hd : decodeHeader (headerLine kv) with
        | error e => simp [hd] at h
        | ok p =>
          simp only [hd] at h ⊢
          cases ht : decodeLines (t ++ b) with
          | none => simp [ht] at h
          | some ps =>
            simp only [ht, Option.some.injEq] at h
            obtain ⟨la, lb, h1, h2, h3⟩ := ih b ps ht
            exact ⟨p :: la, lb, by simp [h1], h2, by rw [← h, h3]; rfl⟩
    intro pre
    induction pre with
    | nil =>
      intro common ls wcm hdec
      simp only [List.nil_append, List.flatMap_cons, List.flatMap_nil, List.append_nil] at hdec
      simp only [List.nil_append, scanUri, hread _ common ls hdec, List.length_nil]
      have wm := WF_mergeUri _ _ (WF_foldl_hset common wcm ls) wc
      obtain ⟨r, hr⟩ := enrich_no_panic (newRequest (if post then POST else GET) it.ent.uri
        (if post then it.ent.body else [])) _ wm.nonempty
      simp only [buildAmmo] at hr ⊢
      simp [hr]
    | cons p pre' ih =>
      intro common ls wcm hdec
      simp only [List.cons_append, List.flatMap_cons] at hdec
      obtain ⟨la, lb, h1, h2, h3⟩ := hsplit _ _ _ hdec
      simp only [List.cons_append, scanUri, hread _ common la h1, List.length_cons]
      have wcm' := WF_foldl_hset common wcm la
      have wm := WF_mergeUri _ _ wcm' wc
      obtain ⟨r, hr⟩ := enrich_no_panic (newRequest (if post then POST else GET) p.ent.uri
        (if post then p.ent.body else [])) _ wm.nonempty
      simp only [buildAmmo] at hr ⊢
      simp only [hr, List.getElem?_cons_succ]
      rw [ih _ lb wcm' h2, h3]
      simp [commonOf, List.foldl_append, buildAmmo]
  rw [key pre [] ls WF_nil hdec]
  cases post <;> simp [buildReq]

/-- **The target of every gun plugin.** For the http, http2 and connect plugins alike (import.go): the address the
transport dials is the configured target itself or the address the reachability lookup found FOR that target; the
scheme is https iff `ssl`; and the default Host header is the host of the CONFIGURED target (not of the resolved
address), used exactly when the request has none. -/
theorem C09_target_all_guns (k : GunKind) (ssl dnsCache isResolved : Bool) (l : Lookup) (target : Str) (r : Req) :
    let g := factory k ssl dnsCache isResolved l target
    ((shoot g r).dial = target ∨ l = .found (shoot g r).dial) ∧
    (shoot g r).scheme = (if ssl then Scheme.https else Scheme.http) ∧
    (shoot g r).host = (if r.host = [] then hostWithoutPort target else r.host) := by
  refine ⟨?_, rfl, rfl⟩
  simp only [shoot, factory, preResolve]
  cases dnsCache <;> cases isResolved <;> cases l <;> simp

/-- **connect plugin: the tunnel.** The TCP connection of every tunnel and the authority of its `CONNECT` request are the
same address: the configured target, or the address the reachability lookup found for it (an address, if found, is not
empty). -/
theorem C09_connect_tunnel (ssl dnsCache isResolved : Bool) (l : Lookup) (target : Str) (r : Req)
    (hl : l ≠ .found []) :
    let g := factory .connect ssl dnsCache isResolved l target
    let t := connectTunnel g (shoot g r)
    t.tcp = t.authority ∧ (t.tcp = target ∨ l = .found t.tcp) := by
  simp only [connectTunnel, shoot, factory, preResolve]
  cases dnsCache <;> cases isResolved <;> cases l with
  | fails => simp
  | found a =>
    have ha : a ≠ [] := fun e => hl (by rw [e])
    by_cases ht : target = [] <;> simp [ha, ht]

/-- the http2 plugin refuses to be built without ssl, so whatever an http2 gun sends goes over TLS -/
theorem C09_http2_needs_ssl (ssl : Bool) (h : constructible .http2 ssl = true) : ssl = true := by
  simpa [constructible] using h

/-- the connect plugin of the UNREPAIRED tree overwrote `Target` with the resolved address: with a named target the
default Host was the resolved IP (fixes/C09-connect-gun-host.diff) -/
theorem C09_unrepaired_connect_counterexample :
    ¬ ∀ (ssl : Bool) (l : Lookup) (target : Str) (r : Req),
      (shoot (factoryOld .connect ssl true false l target) r).host =
        (if r.host = [] then hostWithoutPort target else r.host) := by
  intro h
  -- target "localhost:80", found "127.0.0.1:80"
  have := h false (.found [49, 50, 55, 46, 48, 46, 48, 46, 49, 58, 56, 48])
    [108, 111, 99, 97, 108, 104, 111, 115, 116, 58, 56, 48]
    { method := GET, uri := [47], host := [], header := [], body := [] }
  revert this
  decide

/-! ### connections -/

/-- with requests that ask to close (`Connection: close` given by the ammo or the option) every such request costs at
most one more connection -/
theorem C09_connections_close_bound (inst : Nat) (fs : List Flight) (hg : ∀ f ∈ fs, f.gun < inst) :
    connRun true inst fs ≤ inst + countClosing fs := by
  have h := connRunFrom_keepalive (List.replicate inst false, 0) fs (by simpa using hg)
  have hlen := connRunFrom_length true (List.replicate inst false, 0) fs
  have hle := List.count_le_length (a := true) (l := (connRunFrom true (List.replicate inst false, 0) fs).1)
  simp only [connRun]
  simp only [count_true_replicate_false, List.length_replicate] at h hlen
  omega

/-- **Keep-alive, the bound of the property.** `inst` guns, each with its own transport, each shooting one request
at a time; the flights `fs` in ANY order of sending (any interleaving of the instances); keep-alives enabled and no
request asking to close: the target sees at most `inst` connections — exactly one per gun that got a request through. -/
theorem C09_connections_keepalive (inst : Nat) (fs : List Flight) (hg : ∀ f ∈ fs, f.gun < inst)
    (hc : ∀ f ∈ fs, f.close = false) :
    connRun true inst fs ≤ inst := by
  have := C09_connections_close_bound inst fs hg
  rwa [countClosing_zero fs hc] at this

/-- **Keep-alives disabled: one connection per request that arrives**, whatever the schedule. -/
theorem C09_connections_no_keepalive (inst : Nat) (fs : List Flight) :
    connRun false inst fs = countArrived fs := by
  have := (connRunFrom_no_keepalive (List.replicate inst false, 0) fs (count_true_replicate_false inst)).1
  simpa [connRun] using this

/-- **The count does not depend on the interleaving of the instances**: it is the sum over the guns of what each gun's
own sequence of requests costs (`gunConns`, a one-connection pool). Two sending orders with the same per-gun
subsequences give the same number of connections — so the sequential driver speaks for every interleaving. -/
theorem C09_connections_per_gun (ka : Bool) (inst : Nat) (fs : List Flight) (hg : ∀ f ∈ fs, f.gun < inst) :
    connRun ka inst fs = sumRange inst (fun g => gunConns ka false (flightsOf g fs)) := by
  have := connRunFrom_decompose ka (List.replicate inst false, 0) fs (by simpa using hg)
  simp only [connRun, this, List.length_replicate, Nat.zero_add]
  apply sumRange_congr
  intro i _
  rw [getD_replicate_false]

theorem C09_connections_interleaving (ka : Bool) (inst : Nat) (fs₁ fs₂ : List Flight)
    (h₁ : ∀ f ∈ fs₁, f.gun < inst) (h₂ : ∀ f ∈ fs₂, f.gun < inst)
    (hsame : ∀ g, flightsOf g fs₁ = flightsOf g fs₂) :
    connRun ka inst fs₁ = connRun ka inst fs₂ := by
  rw [C09_connections_per_gun ka inst fs₁ h₁, C09_connections_per_gun ka inst fs₂ h₂]
  apply sumRange_congr
  intro g _
  rw [hsame g]

/-- **Who asks to close.** In every format (raw with an HTTP/1.0 or 1.1 request line alike): a request whose ammo entry
and `headers` option define no `Connection` header does not ask the transport to close its connection — these are the
flights with `close = false` that `C09_connections_keepalive` speaks about. -/
theorem C09_no_connection_header_no_close (f : Format) (conf lines : List (Str × Str)) (e : Entry) (g : Gun) (r : Req)
    (h : buildReq f (confHdr conf) lines e = some r)
    (hn : expHeader f conf (seenLines f lines) connKey = none) :
    (shoot g r).close = false :=
  close_of_buildReq f conf lines e r h hn

/-- the keep-alive bound for shots: guns `< inst`, shots built from entries that say nothing about `Connection`, any
sending order, any subset arriving -/
theorem C09_connections_of_shots (inst : Nat) (shots : List (Nat × Shot)) (arrived : Shot → Bool)
    (hg : ∀ p ∈ shots, p.1 < inst) (hc : ∀ p ∈ shots, p.2.close = false) :
    connRun true inst (shots.map fun p => ⟨p.1, arrived p.2, p.2.close⟩) ≤ inst :=
  C09_connections_keepalive inst _ (List.forall_mem_map.mpr hg) (List.forall_mem_map.mpr hc)

/-- an instance on its own: with keep-alive and no request asking to close, all its requests share one connection -/
theorem C09_one_connection_per_instance (fs : List Flight) (hc : ∀ f ∈ fs, f.close = false) :
    gunConns true false fs ≤ 1 := (gunConns_keepalive_le_one false fs hc).1

/-! ### connections and time: the transport's timeouts -/

/-- **Refinement.** With the gun's transport `t`, as long as no instance pauses as long as the idle timeout and no answer
takes as long as the response-header timeout, the timed pool is the untimed one with keep-alive = `keeps t`: all the
theorems above speak about it. -/
theorem C09_connections_timed_refines (t : Transport) (inst : Nat) (fs : List TFlight)
    (hq : ∀ f ∈ fs, idleExpired t f.pause = false ∧ responseLost t f.delay = false) :
    tconnRun t inst fs = connRun (keeps t) inst (fs.map TFlight.untimed) := by
  simp only [tconnRun, connRun, tconnRunFrom_quiet t _ fs hq]

/-- **Keep-alive over time.** A transport that keeps connections, `inst` instances in any interleaving, no request asking
to close, every pause of an instance shorter than the idle timeout, every answer in time: at most `inst` connections. -/
theorem C09_connections_timed_keepalive (t : Transport) (inst : Nat) (fs : List TFlight) (hk : keeps t = true)
    (hg : ∀ f ∈ fs, f.gun < inst) (hc : ∀ f ∈ fs, f.close = false)
    (hq : ∀ f ∈ fs, idleExpired t f.pause = false ∧ responseLost t f.delay = false) :
    tconnRun t inst fs ≤ inst := by
  rw [C09_connections_timed_refines t inst fs hq, hk]
  exact C09_connections_keepalive inst _ (List.forall_mem_map.mpr hg) (List.forall_mem_map.mpr hc)

/-- in general every connection beyond one per instance is paid for by a request that asked to close, a pause that
outlasted the idle timeout, or an answer lost to the response-header timeout -/
theorem C09_connections_timed_bound (t : Transport) (inst : Nat) (fs : List TFlight) (hk : keeps t = true)
    (hg : ∀ f ∈ fs, f.gun < inst) :
    tconnRun t inst fs ≤ inst + countClosing (fs.map TFlight.untimed) + countExpired t fs + countLost t fs := by
  have h := tconnRunFrom_bound t (List.replicate inst false, 0) fs (by simpa using hg) hk
  have hlen := tconnRunFrom_length t (List.replicate inst false, 0) fs
  have hle := List.count_le_length (a := true) (l := (tconnRunFrom t (List.replicate inst false, 0) fs).1)
  simp only [tconnRun]
  simp only [count_true_replicate_false, List.length_replicate] at h hlen
  omega

/-- **Which options have a say.** Two configurations that agree on `disable-keep-alives`, `max-idle-conns`,
`max-idle-conns-per-host`, `idle-conn-timeout` and `response-header-timeout` give the same number of connections for
every run: `tls-handshake-timeout`, `expect-continue-timeout` and `disable-compression` do not decide about reuse
(NewTransport hands every option to the transport field of its own name: `Bridge.HttpWire.newTransport_eq`). -/
theorem C09_reuse_options_only (c c' : TransportCfg) (inst : Nat) (fs : List TFlight)
    (h1 : c.disableKeepAlives = c'.disableKeepAlives) (h2 : c.maxIdleConns = c'.maxIdleConns)
    (h3 : c.maxIdleConnsPerHost = c'.maxIdleConnsPerHost) (h4 : c.idleConnTimeout = c'.idleConnTimeout)
    (h5 : c.responseHeaderTimeout = c'.responseHeaderTimeout) :
    tconnRun (newTransport c) inst fs = tconnRun (newTransport c') inst fs := by
  have hs : tconnStep (newTransport c) = tconnStep (newTransport c') := by
    funext st f
    simp only [tconnStep, keeps, idleExpired, responseLost, newTransport, h1, h2, h3, h4, h5]
    rfl
  simp only [tconnRun, tconnRunFrom, hs]

/-- pandora's default transport options with the three options that have no say about reuse set to anything -/
def defaultsWith (hs ect : Int) (dc : Bool) : TransportCfg :=
  { defaultTransportCfg with tlsHandshakeTimeout := hs, expectContinueTimeout := ect, disableCompression := dc }

/-- **The defaults keep the property's promise, whatever the handshake timeout.** With pandora's default keep-alive
options (`DefaultTransportConfig`: keep-alives on, no idle limits, idle connections live 90 s, no response-header
timeout) and ANY `tls-handshake-timeout` / `expect-continue-timeout` / `disable-compression`: instances that pause less
than 90 s between their requests, none of which asks to close, share one connection each — for every interleaving,
however slowly the target answers. -/
theorem C09_default_transport_reuses (hs ect : Int) (dc : Bool) (inst : Nat) (fs : List TFlight)
    (hg : ∀ f ∈ fs, f.gun < inst) (hc : ∀ f ∈ fs, f.close = false) (hp : ∀ f ∈ fs, (f.pause : Int) < 90 * sec) :
    tconnRun (newTransport (defaultsWith hs ect dc)) inst fs ≤ inst := by
  apply C09_connections_timed_keepalive _ inst fs (by simp [keeps, newTransport, defaultsWith, defaultTransportCfg]) hg hc
  intro f hf
  have := hp f hf
  refine ⟨?_, by simp [responseLost, newTransport, defaultsWith, defaultTransportCfg]⟩
  simp only [idleExpired, newTransport, defaultsWith, defaultTransportCfg, sec] at this ⊢
  have h2 : ¬ ((90000000000 : Int) ≤ (f.pause : Int)) := by omega
  simp [h2]

/-- the same through the option decoding: a gun section that sets `tls-handshake-timeout` only -/
theorem C09_handshake_option_reuses (v : Int) (inst : Nat) (fs : List TFlight)
    (hg : ∀ f ∈ fs, f.gun < inst) (hc : ∀ f ∈ fs, f.close = false) (hp : ∀ f ∈ fs, (f.pause : Int) < 90 * sec) :
    tconnRun (transportOf [("tls-handshake-timeout", v)]) inst fs ≤ inst := by
  have : transportOf [("tls-handshake-timeout", v)] = newTransport (defaultsWith v (1 * sec) true) := by
    simp [transportOf, setTransportOpt, transportTags, defaultTransportCfg, defaultsWith]
  rw [this]
  exact C09_default_transport_reuses v (1 * sec) true inst fs hg hc hp

/-- the gun section that gives exactly the options of `ro` -/
def optsOf (ro : ReuseOpts) : List TransportOpt :=
  (match ro.idle with | some v => [("idle-conn-timeout", v)] | none => []) ++
  (match ro.rht with | some v => [("response-header-timeout", v)] | none => []) ++
  (match ro.mic with | some v => [("max-idle-conns", v)] | none => []) ++
  (match ro.mich with | some v => [("max-idle-conns-per-host", v)] | none => [])

/-- the transport of `optsOf ro`, field by field: the given value, else pandora's default -/
theorem C09_transportOf_optsOf (ro : ReuseOpts) :
    (transportOf (optsOf ro)).idleConnTimeout = ro.idle.getD (90 * sec) ∧
    (transportOf (optsOf ro)).responseHeaderTimeout = ro.rht.getD 0 ∧
    (transportOf (optsOf ro)).maxIdleConns = ro.mic.getD 0 ∧
    (transportOf (optsOf ro)).maxIdleConnsPerHost = ro.mich.getD 0 ∧
    (transportOf (optsOf ro)).disableKeepAlives = false := by
  obtain ⟨idle, rht, mic, mich⟩ := ro
  cases idle <;> cases rht <;> cases mic <;> cases mich <;>
    simp [transportOf, optsOf, setTransportOpt, transportTags, newTransport, defaultTransportCfg]

/-- **The Spec's reading of the documentation is the code's behaviour.** `reuseExpected` (Spec: the options as given, the
documented default of 90 s for `idle-conn-timeout`, "zero means no limit") holds for the pauses and delays of a run ⇒ the
transport pandora builds from these options keeps connections, none expires and no answer is lost, so `inst` instances
that do not ask to close see at most `inst` connections. Whenever the Spec judges the keep-alive bound, the model meets it. -/
theorem C09_reuse_expected_sound (ro : ReuseOpts) (mp md inst : Nat) (fs : List TFlight)
    (h : reuseExpected ro mp md = true) (hg : ∀ f ∈ fs, f.gun < inst) (hc : ∀ f ∈ fs, f.close = false)
    (hp : ∀ f ∈ fs, f.pause ≤ mp ∧ f.delay ≤ md) :
    tconnRun (transportOf (optsOf ro)) inst fs ≤ inst := by
  obtain ⟨t1, t2, t3, t4, t5⟩ := C09_transportOf_optsOf ro
  simp only [reuseExpected, docIdleConnTimeout, Bool.and_eq_true, Bool.or_eq_true] at h
  obtain ⟨⟨⟨h1, h2⟩, h3⟩, h4⟩ := h
  have hk : keeps (transportOf (optsOf ro)) = true := by
    simp only [keeps, t3, t4, t5, Bool.not_false, Bool.true_and, Bool.and_eq_true, decide_eq_true_eq]
    constructor
    · cases hm : ro.mich with
      | none => simp
      | some v => simpa [hm] using h4
    · cases hm : ro.mic with
      | none => simp
      | some v => simpa [hm] using h3
  apply C09_connections_timed_keepalive _ inst fs hk hg hc
  intro f hf
  obtain ⟨hp1, hp2⟩ := hp f hf
  constructor
  · simp only [idleExpired, t1, sec, Bool.and_eq_false_iff, decide_eq_false_iff_not, Int.reduceMul]
    simp only [Int.reduceMul] at h1
    have : (f.pause : Int) ≤ (mp : Int) := by exact_mod_cast hp1
    rcases h1 with h1 | h1
    · left; have := of_decide_eq_true h1; omega
    · right; have := of_decide_eq_true h1; omega
  · simp only [responseLost, t2, Bool.and_eq_false_iff, decide_eq_false_iff_not]
    have : (f.delay : Int) ≤ (md : Int) := by exact_mod_cast hp2
    cases hr : ro.rht with
    | none => left; simp
    | some v =>
      simp only [hr, Bool.or_eq_true, decide_eq_true_eq] at h2
      simp only [Option.getD_some]
      rcases h2 with h2 | h2
      · left; omega
      · right; omega

/-- an idle timeout below the pauses is the operator's own demand: a lone instance that pauses at least that long before
every request dials for each of them -/
theorem C09_idle_timeout_expires (t : Transport) (fs : List TFlight) (hg : ∀ f ∈ fs, f.gun = 0)
    (ha : ∀ f ∈ fs, f.arrived = true) (he : ∀ f ∈ fs, idleExpired t f.pause = true) :
    tconnRun t 1 fs = fs.length := by
  have key : ∀ (st : List Bool × Nat), st.1.length = 1 → (tconnRunFrom t st fs).2 = st.2 + fs.length := by
    induction fs with
    | nil => intro st _; rfl
    | cons f fs ih =>
      intro st hl
      rw [tconnRunFrom_cons, ih (fun f' h' => hg f' (List.mem_cons_of_mem _ h'))
        (fun f' h' => ha f' (List.mem_cons_of_mem _ h')) (fun f' h' => he f' (List.mem_cons_of_mem _ h'))
        _ (by rw [tconnStep_length]; exact hl)]
      simp only [tconnStep, ha f List.mem_cons_self, he f List.mem_cons_self, Bool.not_true, Bool.false_eq_true,
        if_false, Bool.and_false, List.length_cons]
      omega
  simpa [tconnRun] using key (List.replicate 1 false, 0) (by simp)

/-! ### absolute-form request targets -/

/-- **An absolute URI `http(s)://authority/path` reaches the wire as `/path` with Host `authority`** in the uri,
uripost and raw formats (the authority being a plain one: no `/`, `?`, `#`; the path starting with `/`): the
request-URI on the wire is the path-and-query of the entry byte for byte, and the connection still goes to the gun's
target (`C09_target`). -/
theorem C09_absolute_form (f : Format) (e : Entry) (https : Bool) (auth path : Str)
    (hf : f = .uri ∨ f = .uripost ∨ f = .raw)
    (hu : e.uri = (if https then httpsPfx else httpPfx) ++ auth ++ 47 :: path)
    (ha : auth.all (fun c => !isAuthEnd c) = true) :
    wireURI f e = 47 :: path ∧ urlHost f e = auth := by
  have hsplit : ∀ via, splitURLv via e.uri = (auth, 47 :: path) := fun via => by
    rw [hu, List.append_assoc]
    exact splitURLv_absolute via https auth path ha
  rcases hf with rfl | rfl | rfl <;> simp [wireURI, urlHost, urlOf, viaOf, hsplit]

/-! ### raw entries: the version in the request line does not decide about connections -/

/-- **raw, HTTP/1.0 or 1.1 alike** (repaired, fixes/C09-raw-http10-keepalive.diff): the request a raw entry becomes is
the same for both versions — in particular it asks to close iff the entry has an explicit `Connection: close`. -/
theorem C09_raw_version_irrelevant (method target : Str) (lines : List (Str × Str)) (body : Str) :
    readRequest 0 method target lines body = readRequest 1 method target lines body := by
  simp [readRequest, readRequestWith, decodeClose, goShouldClose]

/-- the unrepaired tree: http.ReadRequest marked an HTTP/1.0 request "close" — a raw entry `GET / HTTP/1.0` without
any Connection header cost one connection per request although keep-alives were enabled -/
theorem C09_unrepaired_raw10_counterexample :
    ¬ ∀ (minor : Nat) (conn : List Str), hasTok conn closeTok = false → decodeCloseOld minor conn = false := by
  intro h
  have := h 0 [] (by decide)
  revert this
  decide

/-! ### preload -/

/-- **`preload: true` delivers what scanning delivers**: when a pass over the file decodes, the preloaded provider
hands out exactly the requests the scanning provider does, pass after pass. -/
theorem C09_preload_same_requests (f : Format) (conf : Hdr) (items : List Item) (passes : Nat) (rs : List Req)
    (hok : scanPass f conf items = (rs, .ok)) :
    provide true f conf items passes = provide false f conf items passes := by
  simp only [provide, hok, if_true, Bool.false_eq_true, if_false]
  induction passes with
  | zero => simp [scanAll]
  | succ n ih =>
    simp only [scanAll, hok, List.replicate_succ, List.flatten_cons]
    rw [← ih]

/-! ### entries of the http/json and raw formats do not influence each other -/

/-- **http/json: the request of an entry depends on that entry (and the option) only.** -/
theorem C09_json_sequence (conf : Hdr) (wc : WF conf) (pre : List Item) (it : Item) (rest : List Item)
    (hm : ∀ x ∈ pre ++ [it], validMethod x.ent.method = true) :
    (scanJson conf (pre ++ it :: rest)).1[pre.length]? = buildReq .jsonline conf it.hdrs it.ent := by
  induction pre with
  | nil =>
    have hv : validMethod it.ent.method = true := hm it (by simp)
    obtain ⟨r, hr⟩ := enrich_no_panic (newRequest it.ent.method (httpPfx ++ (it.ent.host ++ it.ent.uri)) it.ent.body)
      (mergeJson conf it.hdrs) (by rw [mergeJson_eq]; exact (WF_foldl_hset _ wc it.hdrs).nonempty)
    simp [scanJson, hv, buildReq, buildAmmo, hr]
  | cons p pre' ih =>
    have hv : validMethod p.ent.method = true := hm p (by simp)
    obtain ⟨r, hr⟩ := enrich_no_panic (newRequest p.ent.method (httpPfx ++ p.ent.host ++ p.ent.uri) p.ent.body)
      (mergeJson conf p.hdrs) (by rw [mergeJson_eq]; exact (WF_foldl_hset _ wc p.hdrs).nonempty)
    have := ih (fun x hx => hm x (by simp at hx ⊢; rcases hx with hx | hx; exact Or.inr (Or.inl hx); exact Or.inr (Or.inr hx)))
    simp only [List.cons_append, scanJson, hv, Bool.not_true, Bool.false_eq_true, if_false, buildAmmo, hr,
      List.length_cons, List.getElem?_cons_succ]
    exact this

/-- **raw: the request of an entry depends on that entry (and the option) only.** -/
theorem C09_raw_sequence (conf : Hdr) (wc : WF conf) (pre : List Item) (it : Item) (rest : List Item) :
    (scanRaw conf (pre ++ it :: rest)).1[pre.length]? = buildReq .raw conf it.hdrs it.ent := by
  induction pre with
  | nil =>
    obtain ⟨r, hr⟩ := enrich_no_panic (readRequest it.ent.minor it.ent.method it.ent.uri it.hdrs it.ent.body) conf wc.nonempty
    simp [scanRaw, buildReq, hr]
  | cons p pre' ih =>
    obtain ⟨r, hr⟩ := enrich_no_panic (readRequest p.ent.minor p.ent.method p.ent.uri p.hdrs p.ent.body) conf wc.nonempty
    simp only [List.cons_append, scanRaw, hr, List.length_cons, List.getElem?_cons_succ]
    exact ih

/-! ### shared clients, the provider's limit, redirects, the body under the gun's optional features -/

/-- **Shared clients** (`shared-client`, outside the property's "per-instance clients"): `inst` guns bound to a pool of
`clients` shared transports (the k-th gun takes client `(k+1) % clients`, one client when the number is below one), requests sent
ONE AT A TIME in any order, keep-alive, nobody asking to close: sharing never costs a connection compared with per-instance
clients, so the target sees at most as many connections as there are clients and at most as many as there are instances. -/
theorem C09_shared_client_connections (clients inst : Nat) (fs : List Flight) (hg : ∀ f ∈ fs, f.gun < inst)
    (hc : ∀ f ∈ fs, f.close = false) :
    connRun true (max clients 1) (fs.map (viaShared clients)) ≤ connRun true inst fs ∧
    connRun true (max clients 1) (fs.map (viaShared clients)) ≤ min (max clients 1) inst := by
  have hpos : 0 < max clients 1 := by omega
  have h1 : connRun true (max clients 1) (fs.map (viaShared clients)) ≤ connRun true inst fs := by
    have := connRunFrom_merge (clientOf clients) (List.replicate inst false, 0) (List.replicate (max clients 1) false, 0) fs
      (by simpa using hg)
      (by intro f _; simp only [List.length_replicate, clientOf]; exact Nat.mod_lt _ hpos)
      hc
      (by intro g h; rw [getD_replicate_false] at h; exact absurd h (by decide))
      (Nat.le_refl _)
    have hmap : (fs.map fun f => ({ f with gun := clientOf clients f.gun } : Flight)) = fs.map (viaShared clients) := rfl
    rw [hmap] at this
    simpa [connRun] using this
  have h2 : connRun true (max clients 1) (fs.map (viaShared clients)) ≤ max clients 1 :=
    C09_connections_keepalive _ _ (List.forall_mem_map.mpr fun f _ => Nat.mod_lt _ hpos) (List.forall_mem_map.mpr hc)
  have h3 := C09_connections_keepalive inst fs hg hc
  exact ⟨h1, by omega⟩

/-- **The provider's `limit`**: the requests delivered are the first `lim` of those delivered without a limit (all of them
when there are fewer); `limit: 0` is no limit. -/
theorem C09_limit_is_prefix (pre : Bool) (f : Format) (conf : Hdr) (items : List Item) (passes lim : Nat) :
    (provideLim pre f conf items passes lim).1 =
      if lim = 0 then (provide pre f conf items passes).1 else (provide pre f conf items passes).1.take lim := by
  simp only [provideLim]
  by_cases h0 : lim = 0
  · simp [h0]
  · by_cases hl : lim ≤ (provide pre f conf items passes).1.length
    · simp [h0, hl]
    · simp only [h0, hl, if_false]
      rw [List.take_of_length_le (by omega)]

/-- **Redirects are followed only at the operator's demand**: with the default `redirect: false` nothing reaches another host,
whatever the target answers and however many requests it got. -/
theorem C09_redirects_only_on_demand (targetRedirects : Bool) (arrived : Nat) :
    decoyHits false targetRedirects arrived = 0 := by
  simp [decoyHits]

/-- **The answer log's GetBody keeps the body**: what the transport reads afterwards is what it would have read before,
a request without a body stays without one, and the bytes kept for the log are those very bytes. -/
theorem C09_answlog_keeps_body (b : BodyRd) :
    (getBody b).2.rest = b.rest ∧ (getBody b).2.present = b.present ∧
    (b.present = true → (getBody b).1 = some b.rest) := by
  cases hb : b.present <;> simp [getBody, hb, BodyRd.readAll, BodyRd.ofBytes]

/-- without the put-back the body is gone: the repaired statement is not a tautology of the reader model -/
theorem C09_answlog_without_put_back_counterexample :
    ¬ (∀ b : BodyRd, (getBodyNoPutBack b).2.rest = b.rest) := by
  intro h
  have := h { present := true, rest := [98] }
  revert this
  decide

/-- **The optional features of the gun leave the body alone**: whatever combination of debug log, auto-tag, answer log,
trace and dump is switched on, Client.Do gets a body reader that yields the entry's body bytes. -/
theorem C09_features_keep_body (ft : Feat) (body : Str) :
    (bodyAtDo ft (BodyRd.fresh body)).rest = body := by
  have hg := fun b => (C09_answlog_keeps_body b).1
  have hd : ∀ b : BodyRd, (dumpRequestBody b).rest = b.rest := by
    intro b
    cases hb : b.present <;> simp [dumpRequestBody, hb, BodyRd.readAll, BodyRd.ofBytes]
  simp only [bodyAtDo]
  cases ft.answLog <;> cases ft.dump <;> simp [hg, hd, BodyRd.fresh]

/-! ### the shared-client switch, paced shooting under all timeouts, instances that shoot in volleys -/

/-- **`shared-client.enabled` decides alone.** With `enabled: false` there is no pool whatever `client-number` says (also the
`client-number: 1` that the full config of docs/eng/http-generator.md prints): every instance keeps the client of its own;
with `enabled: true` the pool has `client-number` clients, one when the number is below one. (`sharedPool` IS
prepareClientPool: `Bridge.HttpWire.sharedPool_eq`.) -/
theorem C09_shared_switch_decides (n : Int) :
    sharedPool false n = none ∧ (∀ g, transportOfGun (sharedPool false n) g = g) ∧
    sharedPool true n = some (max n 1) := by
  refine ⟨rfl, fun _ => rfl, ?_⟩
  simp only [sharedPool, Bool.not_true, Bool.false_eq_true, if_false]
  split <;> congr 1 <;> omega

/-- hence the keep-alive clause for a gun section that carries `shared-client {enabled: false, client-number: n}`: `inst`
instances, any interleaving, nobody asking to close, pauses below the idle timeout, answers in time: at most `inst` connections -/
theorem C09_disabled_shared_client_connections (n : Int) (t : Transport) (inst : Nat) (fs : List TFlight)
    (hk : keeps t = true) (hg : ∀ f ∈ fs, f.gun < inst) (hc : ∀ f ∈ fs, f.close = false)
    (hq : ∀ f ∈ fs, idleExpired t f.pause = false ∧ responseLost t f.delay = false) :
    tconnRun t inst (fs.map fun f => { f with gun := transportOfGun (sharedPool false n) f.gun }) ≤ inst := by
  have : (fs.map fun f => ({ f with gun := transportOfGun (sharedPool false n) f.gun } : TFlight)) = fs := by
    simp [sharedPool, transportOfGun]
  rw [this]
  exact C09_connections_timed_keepalive t inst fs hk hg hc hq

/-- **`response-header-timeout` has a say against late answers only.** Two gun sections that agree on `disable-keep-alives`,
the idle limits and `idle-conn-timeout` and differ in `response-header-timeout` (and anything else) in any way: as long as
the target answers before either timeout — a target that answers at once does, whatever the value — the connections are the
same for EVERY sequence of pauses. The connection count of paced shooting does not depend on `response-header-timeout`. -/
theorem C09_response_header_timeout_only_against_late_answers (c c' : TransportCfg) (inst : Nat) (fs : List TFlight)
    (h1 : c.disableKeepAlives = c'.disableKeepAlives) (h2 : c.maxIdleConns = c'.maxIdleConns)
    (h3 : c.maxIdleConnsPerHost = c'.maxIdleConnsPerHost) (h4 : c.idleConnTimeout = c'.idleConnTimeout)
    (hd : ∀ f ∈ fs, responseLost (newTransport c) f.delay = false ∧ responseLost (newTransport c') f.delay = false) :
    tconnRun (newTransport c) inst fs = tconnRun (newTransport c') inst fs := by
  have hk : keeps (newTransport c) = keeps (newTransport c') := by
    simp only [keeps, newTransport, h1, h2, h3]; rfl
  have he : ∀ p, idleExpired (newTransport c) p = idleExpired (newTransport c') p := by
    intro p; simp only [idleExpired, newTransport, h4]; rfl
  simp only [tconnRun]
  rw [tconnRunFrom_congr (newTransport c) (newTransport c') fs]
  intro f hf st
  obtain ⟨a, b⟩ := hd f hf
  simp only [tconnStep, a, b, hk, he]

/-- an answer that comes at once is never lost, whatever the response-header timeout -/
theorem C09_responseLost_zero (t : Transport) : responseLost t 0 = false := by
  simp only [responseLost, Bool.and_eq_false_iff, decide_eq_false_iff_not]
  by_cases h : 0 < t.responseHeaderTimeout
  · right; simp only [Int.natCast_zero]; omega
  · left; exact h

/-- NewTransport with the two adjacent duration options crossed (the wrong-operand slip): the statement above is false for it -/
def newTransportCrossed (c : TransportCfg) : Transport :=
  { newTransport c with idleConnTimeout := c.responseHeaderTimeout, responseHeaderTimeout := c.idleConnTimeout }

theorem C09_crossed_timeouts_counterexample :
    ¬ (∀ (c c' : TransportCfg) (inst : Nat) (fs : List TFlight),
        c.disableKeepAlives = c'.disableKeepAlives → c.maxIdleConns = c'.maxIdleConns →
        c.maxIdleConnsPerHost = c'.maxIdleConnsPerHost → c.idleConnTimeout = c'.idleConnTimeout →
        (∀ f ∈ fs, f.delay = 0) →
        tconnRun (newTransportCrossed c) inst fs = tconnRun (newTransportCrossed c') inst fs) := by
  intro h
  have := h { defaultTransportCfg with responseHeaderTimeout := 60000000 } defaultTransportCfg 1
    [⟨0, true, false, 0, 0⟩, ⟨0, true, false, 200000000, 0⟩] rfl rfl rfl rfl (by decide)
  revert this
  decide

/-- **A client of its own never sees more than one request at a time**: the volley pool (a transport that serves several
requests at once and keeps at most `idleLimit` idle connections) is, for the volleys of one instance, the one-connection pool
of the theorems above. -/
theorem C09_volley_pool_refines_per_instance (t : Transport) (fs : List TFlight) (hg : ∀ f ∈ fs, f.gun = 0) :
    vpoolRun t (fs.map TFlight.volley) = tconnRun t 1 fs := by
  have := vpoolRunFrom_single t fs hg false 0
  simp only [b2n, Bool.false_eq_true, if_false] at this
  simp only [vpoolRun, tconnRun, this]
  rfl

/-- **Room for everybody.** A transport that `m` instances share and that may keep `m` idle connections for the target (or
more), nobody asking to close, pauses below the idle timeout, answers in time: at most `m` connections however the instances'
requests overlap. For per-instance clients `m = 1` and every transport that keeps connections at all has that room
(`keeps_idleLimit_pos`), whatever `max-idle-conns-per-host` ≥ 1 says. -/
theorem C09_volleys_with_room (t : Transport) (m : Nat) (hk : keeps t = true) (hL : m ≤ idleLimit t) (vs : List Volley)
    (hv : ∀ v ∈ vs, v.k ≤ m ∧ v.closing = 0 ∧ idleExpired t v.pause = false ∧ responseLost t v.delay = false) :
    vpoolRun t vs ≤ m :=
  (vpoolRunFrom_room t m hk hL vs hv (0, 0) ⟨rfl, Nat.zero_le _⟩).2

theorem C09_volleys_per_instance (t : Transport) (hk : keeps t = true) (vs : List Volley)
    (hv : ∀ v ∈ vs, v.k ≤ 1 ∧ v.closing = 0 ∧ idleExpired t v.pause = false ∧ responseLost t v.delay = false) :
    vpoolRun t vs ≤ 1 :=
  C09_volleys_with_room t 1 hk (keeps_idleLimit_pos t hk) vs hv

/-- the bound of the keep-alive clause stated for a SHARED transport: `m` instances on one transport, at most `m` connections -/
def C09_shared_volley_bound_statement : Prop :=
  ∀ (t : Transport) (m : Nat) (vs : List Volley), keeps t = true →
    (∀ v ∈ vs, v.k ≤ m ∧ v.closing = 0 ∧ idleExpired t v.pause = false ∧ responseLost t v.delay = false) →
    vpoolRun t vs ≤ m

/-- **Why the clause says "per-instance clients".** `n + 1` volleys of `m` requests over ONE transport whose pool keeps
`L < m` connections for the target (pandora's defaults: L = 2): the first volley dials `m`, every further one the surplus
`m − L` again — `m + n·(m − L)` connections. This is what three and more instances see once a change puts them on one
transport (`shared-client {enabled: false, client-number: 1}` read as a pool). -/
theorem C09_shared_volley_surplus (t : Transport) (m p d n : Nat) (hk : keeps t = true) (hm : idleLimit t ≤ m) (hpos : 0 < m)
    (he : idleExpired t p = false) (hl : responseLost t d = false) :
    vpoolRun t (List.replicate (n + 1) { k := m, closing := 0, pause := p, delay := d }) = m + n * (m - idleLimit t) := by
  simp only [vpoolRun, List.replicate_succ, vpoolRunFrom_cons, vpoolStep_first t m p d hk hpos hl, Nat.min_eq_left hm,
    vpoolRunFrom_replicate t m p d hk hm hpos he hl n m]

theorem C09_shared_volley_bound_counterexample : ¬ C09_shared_volley_bound_statement := by
  intro h
  have := h (newTransport defaultTransportCfg) 3 (List.replicate 2 { k := 3, closing := 0, pause := 60000000, delay := 120000000 })
    (by decide) (by decide)
  revert this
  decide

/-- **A `[k: v]` line means header `k` with value `v`.** For every name without a colon (not blank) and EVERY value — colons,
brackets, blanks inside — the line `[k:v]` of a uri / uripost file (and the string `[k: v]` of the `headers` option) is decoded
into exactly (k, v) with the blanks around each of them removed; and the regenerated DecodeHeader of the current source returns
that, without a run-time panic. -/
theorem C09_header_line_means_header (k v : Str) (hc : 58 ∉ k) (hk : trim k ≠ []) :
    decodeHeader (headerLine (k, v)) = .ok (trim k, trim v) ∧
    Gen.HttpWire.decodeHeader (headerLine (k, v)) = some (.ok (trim k, trim v)) := by
  have h := decodeHeader_headerLine k v hc hk
  exact ⟨h, by rw [Bridge.HttpWire.decodeHeader_eq, h]⟩

/-! ### the model is what the source says -/

/-- **The regenerated code is the model.** `Pandora.Gen.HttpWire` is re-extracted from /repo's current source on every
check (translator `/verif/gen -area httpwire`); the functions the theorems above speak about are exactly those:
* `enrich` iterates the regenerated body of EnrichRequestWithHeaders' loop;
* `shoot` is what the regenerated statements of BaseGun.Shoot do to the request, whatever scheme / URL host it had;
* `hostWithoutPort`, `preResolve` are the regenerated getHostWithoutPort / PreResolveTargetAddr;
* `mergeUri` / `mergeJson` fold the regenerated merge-loop bodies of uri.go, uripost.go / jsonline.go (Scan and readArray);
* `decodeClose` is the regenerated rule of raw.DecodeRequest over net/http's shouldClose;
* the http2 constructor's ssl check is the one of `constructible`;
* `newTransport`, `defaultTransportCfg`, `transportTags` are the regenerated NewTransport literal, DefaultTransportConfig
  and `config:` tags of TransportConfig;
* `getBody` is the regenerated GetBody of the answer log;
* `sharedPool` is the regenerated prepareClientPool: which `shared-client` sections get a pool, and of what size;
* `decodeHeader` is the regenerated util.DecodeHeader (the `[key: value]` lines of the option and of uri / uripost files), which
  moreover never panics on any string;
* `decodeAll` + `confHdr` are the regenerated loop of util.DecodeHTTPConfigHeaders: stop at the first bad string, ADD every pair.
(The shape facts — where Setup / NewRequest arguments, the per-gun client, the keep-alive option and the factories'
Target/TargetResolved come from — are pinned in `Pandora.Bridge.HttpWire` and compiled with this module.) -/
theorem C09_regenerated_code_is_model :
    (∀ (r : Req) (k : Str) (vs : List Str) (rest : Hdr),
      enrich r ((k, vs) :: rest) = (Gen.HttpWire.enrichStep r k vs).bind (fun r' => enrich r' rest)) ∧
    (∀ (g : Gun) (r : Req) (sch : Scheme) (d : Str),
      Gen.HttpWire.shootRewrite g.ssl g.target g.targetResolved
        { scheme := sch, dial := d, method := r.method, uri := r.uri, host := r.host, header := r.header, body := r.body,
          close := wantsClose r } = some (shoot g r)) ∧
    (∀ t, Gen.HttpWire.getHostWithoutPort t (splitHostPort? t) = hostWithoutPort t) ∧
    (∀ dns isResolved l t, (Gen.HttpWire.preResolve dns isResolved l t).1 = preResolve dns isResolved l t) ∧
    (∀ common conf, mergeUri common conf =
      conf.foldl (fun h kv => (Gen.HttpWire.uriMergeStep h kv.1 kv.2).getD h) common) ∧
    (∀ h k vv, Gen.HttpWire.uripostMergeStep h k vv = Gen.HttpWire.uriMergeStep h k vv) ∧
    (∀ conf lines, mergeJson conf lines =
      lines.foldl (fun h kv => (Gen.HttpWire.jsonScanMergeStep h kv.1 kv.2).getD h) conf) ∧
    (∀ h k v, Gen.HttpWire.jsonArrayMergeStep h k v = Gen.HttpWire.jsonScanMergeStep h k v) ∧
    (∀ minor conn, Gen.HttpWire.decodeRequestClose 1 minor (goShouldClose minor conn) (hasTok conn closeTok) =
      decodeClose minor conn) ∧
    (∀ ssl, constructible .http2 ssl = (!Gen.HttpWire.http2NeedsSSL || ssl)) ∧
    Gen.HttpWire.defaultDisableKeepAlives = false ∧
    (∀ c, Gen.HttpWire.newTransport c = newTransport c) ∧
    Gen.HttpWire.defaultTransportCfg = defaultTransportCfg ∧
    Gen.HttpWire.transportTags = transportTags ∧
    (∀ b, Gen.HttpWire.getBody b = getBody b) ∧
    (∀ enabled n, Gen.HttpWire.sharedPool enabled n = sharedPool enabled n) ∧
    (∀ h, Gen.HttpWire.decodeHeader h = some (decodeHeader h)) ∧
    (∀ strs, Bridge.HttpWire.runConfigHeaders Gen.HttpWire.configHeadersInit strs =
      some (match decodeAll strs with
        | .error e => .error e
        | .ok kvs => .ok (confHdr kvs))) :=
  ⟨Bridge.HttpWire.enrich_cons, Bridge.HttpWire.shootRewrite_eq, Bridge.HttpWire.getHostWithoutPort_eq,
   fun d i l t => by rw [Bridge.HttpWire.preResolve_eq], Bridge.HttpWire.mergeUri_eq,
   Bridge.HttpWire.uripostMergeStep_eq, Bridge.HttpWire.mergeJson_eq, fun _ _ _ => rfl,
   Bridge.HttpWire.decodeRequestClose_eq, Bridge.HttpWire.http2NeedsSSL_eq, rfl,
   Bridge.HttpWire.newTransport_eq, Bridge.HttpWire.defaultTransportCfg_eq, Bridge.HttpWire.transportTags_eq,
   Bridge.HttpWire.getBody_eq, Bridge.HttpWire.sharedPool_eq,
   Bridge.HttpWire.decodeHeader_eq, Bridge.HttpWire.configHeaders_eq⟩

/-! ### the unrepaired tree -/

/-- precedence for the uri format stated for an arbitrary merge function -/
def C09_uri_precedence_statement (merge : Hdr → Hdr → Hdr) : Prop :=
  ∀ (conf lines : List (Str × Str)) (e : Entry) (n : Str) (r : Req), n ≠ hostKey →
    buildAmmo GET e.uri [] (merge (commonOf [] lines) (confHdr conf)) = some r →
    hget r.header n = expHeader .uri conf lines n

/-- the repaired merge satisfies it (this is `C09_precedence` for `.uri`) -/
theorem C09_uri_precedence_repaired : C09_uri_precedence_statement mergeUri := by
  intro conf lines e n r hn h
  exact header_of_buildReq .uri conf lines e r (by simpa [buildReq] using h) n hn

/-- "X-A" -/
private def xa : Str := [88, 45, 65]
/-- "file" / "conf" -/
private def vFile : Str := [102, 105, 108, 101]
private def vConf : Str := [99, 111, 110, 102]
/-- "/" -/
private def slash : Entry := { method := [], uri := [47], host := [], body := [] }

/-- the merge of the unrepaired tree (`header.Set(k, v)` of every configured value over the file's headers) does
NOT: `[X-A: file]` in the file and `headers: ["[X-A: conf]"]` send `X-A: conf`. -/
theorem C09_unrepaired_uri_counterexample : ¬ C09_uri_precedence_statement mergeUriOld := by
  intro h
  have := h [(xa, vConf)] [(xa, vFile)] slash xa
    { method := GET, uri := [47], host := [], header := [(xa, [vConf])], body := [] } (by decide) (by decide)
  revert this
  decide

/-! ### non-vacuity -/

/-- precedence with a collision in another case, a duplicate in the option, and Host from the file -/
example :
    ∃ r, buildReq .uripost (confHdr [([120, 45, 97], vConf), (xa, vConf), (hostKey, vConf)])
        [(xa, vFile), (hostKey, vFile)] slash = some r ∧
      hget r.header xa = some [vFile] ∧ r.host = vFile := by decide

/-- a configured header the entry does not define arrives with all its values, in order -/
example :
    ∃ r, buildReq .uri (confHdr [([120, 45, 97], vConf), (xa, vFile)]) [] slash = some r ∧
      hget r.header xa = some [vConf, vFile] := by decide

/-- raw: field lines accumulate, configured value ignored; no Host anywhere → the target's host -/
example :
    ∃ r, buildReq .raw (confHdr [(xa, vConf)]) [(xa, vFile), ([120, 45, 97], vFile)]
        { slash with method := GET } = some r ∧
      hget r.header xa = some [vFile, vFile] ∧
      (shoot { ssl := true, target := [104, 58, 56, 48], targetResolved := [49, 58, 56, 48] } r).host = [104] ∧
      (shoot { ssl := true, target := [104, 58, 56, 48], targetResolved := [49, 58, 56, 48] } r).scheme = .https := by
  decide

/-- `C09_uri_sequence` has instances: two entries, the second inherits the first's header line `[X-A:file]` -/
example : decodeLines (List.flatMap Item.hdrs
    ([Item.mk [(xa, vFile)] slash] ++ [Item.mk [] slash])) = some [(xa, vFile)] := by decide

/-- `C09_formats_agree_same_lines` hypotheses are satisfiable with a non-empty list -/
example : (∀ n, (valsOf [(xa, vFile), (hostKey, vConf)] n).length ≤ 1) := by
  intro n
  simp only [valsOf, List.filter_cons, List.filter_nil]
  repeat' split
  all_goals simp_all
  all_goals (rename_i h1 h2; rw [← h1] at h2; revert h2; decide)

/-- `C09_origin_form_unchanged`: "/a" is origin-form, "h" a plain authority -/
example : originForm [47, 97] ∧ ([104] : Str).all (fun c => !isAuthEnd c) = true :=
  ⟨⟨[97], rfl, by decide⟩, by decide⟩

/-- `//a` is NOT origin-form: url.Parse reads `a` as the authority (Host) and the path is empty -/
example : splitURLv false [47, 47, 97] = ([97], [47]) ∧ splitURLv true [47, 47, 97] = ([], [47, 47, 97]) := by decide

/-- `C09_http2_needs_ssl` -/
example : constructible .http2 true = true ∧ constructible .http2 false = false := by decide

/-- `C09_connections_keepalive` / `_interleaving`: 2 guns, 4 arriving requests in two different sending orders with the
same per-gun subsequences: 2 connections both times; one closing request in between costs a third -/
example :
    connRun true 2 [⟨0, true, false⟩, ⟨1, true, false⟩, ⟨0, true, false⟩, ⟨1, true, false⟩] = 2 ∧
    connRun true 2 [⟨1, true, false⟩, ⟨1, true, false⟩, ⟨0, true, false⟩, ⟨0, true, false⟩] = 2 ∧
    (∀ g, flightsOf g [⟨0, true, false⟩, ⟨1, true, false⟩, ⟨0, true, false⟩] =
          flightsOf g [⟨1, true, false⟩, ⟨0, true, false⟩, ⟨0, true, false⟩]) ∧
    connRun true 2 [⟨0, true, false⟩, ⟨0, true, true⟩, ⟨0, true, false⟩] = 2 ∧
    connRun false 2 [⟨0, true, false⟩, ⟨0, false, false⟩, ⟨0, true, false⟩] = 2 := by
  refine ⟨by decide, by decide, ?_, by decide, by decide⟩
  intro g
  simp only [flightsOf, List.filter_cons, List.filter_nil]
  by_cases h0 : (0 == g) = true <;> by_cases h1 : (1 == g) = true <;> simp_all

/-- `C09_no_connection_header_no_close`: a raw HTTP/1.0 entry without headers, option without Connection -/
example : expHeader .raw [(xa, vConf)] (seenLines .raw []) connKey = none := by decide

/-- `C09_preload_same_requests` / `C09_json_sequence` / `C09_raw_sequence`: a pass that decodes, with a well-formed option -/
example : (scanPass .raw (confHdr [(xa, vConf)]) [Item.mk [(xa, vFile)] { slash with method := GET, minor := 0 }]).2 = .ok ∧
    validMethod GET = true := by decide

/-- `C09_connections_timed_keepalive` / `C09_default_transport_reuses` / `C09_handshake_option_reuses`: one
instance, two requests 1.2 s apart, `tls-handshake-timeout: 300ms`: one connection; with `idle-conn-timeout: 300ms`
instead (`C09_idle_timeout_expires`, `C09_connections_timed_bound`): two; an answer 0.9 s late under
`response-header-timeout: 300ms` is lost with its connection -/
example :
    tconnRun (transportOf [("tls-handshake-timeout", 300 * msec)]) 1
      [⟨0, true, false, 0, 0⟩, ⟨0, true, false, 1200000000, 0⟩] = 1 ∧
    tconnRun (transportOf [("idle-conn-timeout", 300 * msec)]) 1
      [⟨0, true, false, 0, 0⟩, ⟨0, true, false, 1200000000, 0⟩] = 2 ∧
    idleExpired (transportOf [("idle-conn-timeout", 300 * msec)]) 1200000000 = true ∧
    keeps (transportOf [("idle-conn-timeout", 300 * msec)]) = true ∧
    tconnRun (transportOf [("response-header-timeout", 300 * msec)]) 1
      [⟨0, true, false, 0, 900000000⟩, ⟨0, true, false, 0, 900000000⟩] = 2 ∧
    keeps (transportOf [("max-idle-conns-per-host", -1)]) = false ∧
    ((1200000000 : Nat) : Int) < 90 * sec := by decide

/-- `C09_reuse_expected_sound`: the seeded witness — nothing but pauses of 0.8 s — and an idle timeout of 2 s given -/
example : reuseExpected {} 800000000 0 = true ∧ reuseExpected { idle := some (2 * sec) } 300000000 0 = true ∧
    reuseExpected { idle := some (300 * msec) } 800000000 0 = false ∧ reuseExpected { mich := some (-1) } 0 0 = false := by
  decide

/-- `C09_reuse_options_only`: two configurations that differ in the handshake timeout only -/
example : ({ defaultTransportCfg with tlsHandshakeTimeout := 5 } : TransportCfg).idleConnTimeout =
    defaultTransportCfg.idleConnTimeout := rfl

/-- `C09_connect_tunnel`: a found address is not empty -/
example : Lookup.found [49, 58, 56, 48] ≠ Lookup.found [] := by decide

/-- `C09_absolute_form`: `https://h/p` -/
example : (if true then httpsPfx else httpPfx) ++ [104] ++ 47 :: [112] =
      [104, 116, 116, 112, 115, 58, 47, 47, 104, 47, 112] ∧
    ([104] : Str).all (fun c => !isAuthEnd c) = true := by decide

-- three guns on two shared clients, five requests in an interleaved order: hypotheses met, two connections instead of three
example :
    (∀ f ∈ ([⟨0, true, false⟩, ⟨1, true, false⟩, ⟨2, true, false⟩, ⟨0, true, false⟩, ⟨1, false, false⟩] : List Flight),
      f.gun < 3 ∧ f.close = false) ∧
    connRun true (max 2 1) (([⟨0, true, false⟩, ⟨1, true, false⟩, ⟨2, true, false⟩, ⟨0, true, false⟩, ⟨1, false, false⟩] :
      List Flight).map (viaShared 2)) = 2 ∧
    connRun true 3 [⟨0, true, false⟩, ⟨1, true, false⟩, ⟨2, true, false⟩, ⟨0, true, false⟩, ⟨1, false, false⟩] = 3 := by
  decide

-- a request that asks to close on a shared client does cost the other gun its connection (why `hc` is needed)
example :
    connRun true 1 (([⟨0, true, false⟩, ⟨1, true, true⟩, ⟨0, true, false⟩] : List Flight).map (viaShared 1)) = 2 := by decide

-- a limit that bites and one that does not
example :
    (provideLim false .uri [] [⟨[], slash⟩, ⟨[], slash⟩, ⟨[], slash⟩] 2 4).1.length = 4 ∧
    (provideLim false .uri [] [⟨[], slash⟩, ⟨[], slash⟩, ⟨[], slash⟩] 2 9).1.length = 6 := by decide

example : decoyHits true true 3 = 3 ∧ decoyHits true false 3 = 0 := by decide

example : (getBody (BodyRd.fresh [98, 99])).1 = some [98, 99] ∧ (getBody (BodyRd.fresh [])).1 = none ∧
    (bodyAtDo { answLog := true, dump := true } (BodyRd.fresh [98, 99])).rest = [98, 99] := by decide

-- `enabled: false` with the documented `client-number: 1`: no pool; `enabled: true` with 0: one client
example : sharedPool false 1 = none ∧ sharedPool true 0 = some 1 ∧ sharedPool true 3 = some 3 ∧
    transportOfGun (sharedPool true 1) 4 = 0 ∧ transportOfGun (sharedPool false 1) 4 = 4 := by decide

-- paced shooting: response-header-timeout 60 ms vs none, pauses of 200 ms, answers at once — hypotheses met, one connection both ways;
-- the crossed wiring dials again (the counterexample above)
example :
    (∀ f ∈ ([⟨0, true, false, 0, 0⟩, ⟨0, true, false, 200000000, 0⟩] : List TFlight),
      responseLost (newTransport { defaultTransportCfg with responseHeaderTimeout := 60000000 }) f.delay = false ∧
      responseLost (newTransport defaultTransportCfg) f.delay = false) ∧
    tconnRun (newTransport { defaultTransportCfg with responseHeaderTimeout := 60000000 }) 1
      [⟨0, true, false, 0, 0⟩, ⟨0, true, false, 200000000, 0⟩] = 1 ∧
    tconnRun (newTransportCrossed { defaultTransportCfg with responseHeaderTimeout := 60000000 }) 1
      [⟨0, true, false, 0, 0⟩, ⟨0, true, false, 200000000, 0⟩] = 2 := by decide

-- volleys: pandora's default transport keeps two idle connections per host; one with `max-idle-conns-per-host: 1`
example : idleLimit (newTransport defaultTransportCfg) = 2 ∧
    idleLimit (newTransport { defaultTransportCfg with maxIdleConnsPerHost := 1 }) = 1 ∧
    keeps (newTransport { defaultTransportCfg with maxIdleConnsPerHost := 1 }) = true := by decide

-- three volleys of an instance's own client: one connection; three volleys of three instances on one default transport: 3 + 1 + 1
example :
    vpoolRun (newTransport defaultTransportCfg) (List.replicate 3 { k := 1, closing := 0, pause := 60000000, delay := 120000000 }) = 1 ∧
    vpoolRun (newTransport defaultTransportCfg) (List.replicate 3 { k := 3, closing := 0, pause := 60000000, delay := 120000000 }) = 5 ∧
    volleyFloor (List.replicate 3 { k := 3, closing := 0, pause := 60000000, delay := 120000000 }) = 3 := by decide

-- two instances on one default transport have room (m = 2 ≤ idleLimit)
example : vpoolRun (newTransport defaultTransportCfg)
    (List.replicate 4 { k := 2, closing := 0, pause := 60000000, delay := 120000000 }) = 2 := by decide

-- a flight as a volley of one
example : (⟨0, true, true, 5, 7⟩ : TFlight).volley = { k := 1, closing := 1, pause := 5, delay := 7 } := by decide

-- `[X-A: with:colon x]y ]`: hypotheses met; the value keeps its colon, bracket and inner blanks. A colon in the NAME cuts there.
example : (58 ∉ ([88, 45, 65] : Str)) ∧ trim ([88, 45, 65] : Str) ≠ [] ∧
    (decodeHeader (headerLine ([88, 45, 65], [32, 119, 58, 99, 32, 32, 120, 93, 121, 32]))).toOption = some ([88, 45, 65], [119, 58, 99, 32, 32, 120, 93, 121]) ∧
    (decodeHeader (headerLine ([88, 58, 65], [118]))).toOption = some ([88], [65, 58, 118]) := by decide

/-! ### COMPOSITION with C07: from the BYTES of the ammo file to what `Client.Do` is handed

`Pandora.Model.C07.uriPassLim` / `uripostPass` are C07's models of uriDecoder.Scan / uripostDecoder.Scan over the bytes of the file
(bufio line reading, TrimSpace, `[k: v]` lines through util.DecodeHeader, the URL / tag cut, size-prefixed bodies), tied to
decoders/uri.go, uripost.go by C07's own regenerated area and bridge lemmas and imported here read-only. The theorems below do not
assume what the decoder hands to `Ammo.Setup`: they quantify over ALL file contents, take whatever ammo C07's model decodes
and carry it through C09's model (add-if-absent merge with the `headers` option → http.NewRequest → Enrich → Shoot). The two
models were written independently (bytes as `UInt8` / `Nat`, single-valued / multi-valued header maps); that they fit is proved
(`Pandora.Proofs.C09R6.canonKey_eq`: the two models of CanonicalMIMEHeaderKey agree on every key, `toHdr_hset`: so do the two
models of http.Header.Set). -/

open Pandora.Proofs.C09R6 in
/-- **uri file → wire.** For EVERY file content, line limit, `headers` option list and gun: each ammo the uri decoder model
of C07 reads from the file is built and shot without panic; the request handed to `Client.Do` is a GET without body whose
request-URI is `URL.RequestURI()` of the ammo's URL; every header other than Host is the FILE's (the header map in effect at
that line, as C07 computes it) when the file defines it, else the option's, else absent; Host is the URL's authority, else
the file's / option's Host, else the target's host; scheme by `ssl`, dialed at the resolved target. -/
theorem C09_uri_file_to_wire (lim : Option Nat) (file : Pandora.Model.C07.Bytes) (confL : List (Str × Str)) (g : Gun)
    (a : Pandora.Model.C07.Ammo) (ha : a ∈ (Pandora.Model.C07.uriPassLim lim file []).1) :
    ∃ r, buildAmmo (toStr a.method) (toStr a.url) (toStr a.body) (mergeUri (toHdr a.hdrs) (confHdr confL)) = some r ∧
      (shoot g r).method = GET ∧ (shoot g r).uri = (splitURL (toStr a.url)).2 ∧ (shoot g r).body = [] ∧
      (shoot g r).dial = g.targetResolved ∧ (shoot g r).scheme = (if g.ssl then Scheme.https else Scheme.http) ∧
      (∀ n, n ≠ hostKey → hget (shoot g r).header n = match hget (toHdr a.hdrs) n with
          | some x => some x
          | none => hget (confHdr confL) n) ∧
      (shoot g r).host =
        (if (splitURL (toStr a.url)).1 ≠ [] then (splitURL (toStr a.url)).1
         else if mapsHost (toHdr a.hdrs) (confHdr confL) ≠ [] then mapsHost (toHdr a.hdrs) (confHdr confL)
         else hostWithoutPort g.target) := by
  obtain ⟨ok, hb⟩ := uriPass_ok lim file [] WF_nil a ha
  obtain ⟨r, h1, h2, h3, h4, h5, h6, h7, h8⟩ := wire_of_ammo _ a ok confL g
  refine ⟨r, h1, ?_, h3, ?_, h5, h6, h7, h8⟩
  · rw [h2]; decide
  · rw [h4, hb]; rfl

open Pandora.Proofs.C09R6 in
/-- **uripost file → wire.** The same for the uripost decoder model of C07 (with or without the last-line repair): a POST whose
body is the bytes C07's model cut out of the file. -/
theorem C09_uripost_file_to_wire (fixed : Bool) (file : Pandora.Model.C07.Bytes) (confL : List (Str × Str)) (g : Gun)
    (a : Pandora.Model.C07.Ammo) (ha : a ∈ (Pandora.Model.C07.uripostPass fixed file []).1) :
    ∃ r, buildAmmo (toStr a.method) (toStr a.url) (toStr a.body) (mergeUri (toHdr a.hdrs) (confHdr confL)) = some r ∧
      (shoot g r).method = POST ∧ (shoot g r).uri = (splitURL (toStr a.url)).2 ∧ (shoot g r).body = toStr a.body ∧
      (shoot g r).dial = g.targetResolved ∧ (shoot g r).scheme = (if g.ssl then Scheme.https else Scheme.http) ∧
      (∀ n, n ≠ hostKey → hget (shoot g r).header n = match hget (toHdr a.hdrs) n with
          | some x => some x
          | none => hget (confHdr confL) n) ∧
      (shoot g r).host =
        (if (splitURL (toStr a.url)).1 ≠ [] then (splitURL (toStr a.url)).1
         else if mapsHost (toHdr a.hdrs) (confHdr confL) ≠ [] then mapsHost (toHdr a.hdrs) (confHdr confL)
         else hostWithoutPort g.target) := by
  have ok := uripostPass_ok fixed file [] WF_nil a ha
  obtain ⟨r, h1, h2, h3, h4, h5, h6, h7, h8⟩ := wire_of_ammo _ a ok confL g
  refine ⟨r, h1, ?_, h3, h4, h5, h6, h7, h8⟩
  rw [h2]; decide

open Pandora.Proofs.C09R6 in
/-- what "the file defines header k" means in C07's terms: the lookups of the two models correspond -/
theorem C09_file_header_lookup (h : Pandora.Model.C07.Hdrs) (k : Pandora.Model.C07.Bytes) :
    hget (toHdr h) (toStr k) = (Pandora.Model.C07.hget h k).map fun v => [toStr v] := hget_toHdr h k

open Pandora.Proofs.C09R6 in
/-- the two independently written models of textproto.CanonicalMIMEHeaderKey (C07: bytes, C09: naturals) agree on EVERY key -/
theorem C09_canon_models_agree (k : Pandora.Model.C07.Bytes) :
    toStr (Pandora.Model.C07.canonKey k) = canon (toStr k) := canonKey_eq k

-- non-vacuity: the file `[x-a: f]\n/a t\n` has an ammo (C07's model computes it), with the header map {X-A: f}; with the option
-- `[X-A: conf]`, `[X-B: conf]` the request carries the FILE's X-A and the option's X-B
example : (Pandora.Model.C07.uriPassLim none [91, 120, 45, 97, 58, 32, 102, 93, 10, 47, 97, 32, 116, 10] []).1 =
    [{ method := Pandora.Model.C07.getBytes, url := [47, 97], body := [], tag := [116], hdrs := [([88, 45, 65], [102])] }] := by
  decide +kernel

open Pandora.Proofs.C09R6 in
example :
    (buildAmmo GET [47, 97] [] (mergeUri (toHdr [([88, 45, 65], [102])]) (confHdr [([88, 45, 65], [99]), ([88, 45, 66], [99])]))).map
      (fun r => (r.header, r.uri)) = some ([([88, 45, 65], [[102]]), ([88, 45, 66], [[99]])], [47, 97]) := by decide

-- uripost: `5 /p\nhello\n` is one POST with body `hello`
example : ((Pandora.Model.C07.uripostPass true [53, 32, 47, 112, 10, 104, 101, 108, 108, 111, 10] []).1.map
    fun a => (a.method, a.url, a.body)) = [(Pandora.Model.C07.postBytes, [47, 112], [104, 101, 108, 108, 111])] := by
  decide +kernel

open Pandora.Proofs.C09R6 in
/-- **http/json entity → wire.** For every entity C07's JSON reader yields (any members) that its decoder model accepts: what
C07's model hands to `Ammo.Setup` (method, `http://` + host + uri, body) together with the header map Scan / readArray build
(`headers` option cloned, the entity's `headers` members Set over it) is exactly what C09's `buildReq .jsonline` starts from — so
`C09_precedence`, `C09_unchanged`, `C09_json_sequence` speak about the ammo of C07's model; and a header lookup in that map is the
entity's own header map first (C07's `hdrs`), the option second. An entity C07's model refuses (bad method) is refused by
C09's `scanJson` too. -/
theorem C09_json_entity_to_wire (e : Pandora.Model.C07.Entity) (a : Pandora.Model.C07.Ammo)
    (h : Pandora.Model.C07.entityAmmo e = .ok a) (conf : Hdr) :
    buildAmmo (toStr a.method) (toStr a.url) (toStr a.body) (mergeJson conf (jsonLines e)) =
        buildReq .jsonline conf (jsonLines e) (jsonEntry e) ∧
      validMethod (jsonEntry e).method = true ∧
      (∀ n, hget (mergeJson conf (jsonLines e)) n = match hget (toHdr a.hdrs) n with
        | some x => some x
        | none => hget conf n) := by
  obtain ⟨h1, h2, h3, h4, h5⟩ := entityAmmo_json e a h
  refine ⟨?_, h5, ?_⟩
  · simp only [buildReq, h1, h2, h3]
  · intro n
    rw [h4, mergeJson_eq, hget_commonOf, hget_commonOf]
    cases lastOf (valsOf (jsonLines e) n) <;> simp [hget]

open Pandora.Proofs.C09R6 in
theorem C09_json_entity_refused (e : Pandora.Model.C07.Entity) (err : Pandora.Model.C07.Err)
    (h : Pandora.Model.C07.entityAmmo e = .error err) (conf : Hdr) (rest : List Item) :
    scanJson conf ({ hdrs := jsonLines e, ent := jsonEntry e } :: rest) = ([], .err) := by
  have := entityAmmo_refused e err h
  simp [scanJson, this]

-- non-vacuity: an entity with method PUT, host h, uri /p, one header member x-a: accepted by C07's model, Setup gets `http://h/p`
open Pandora.Proofs.C09R6 in
example : (Pandora.Model.C07.entityAmmo (⟨[104], [80, 85, 84], [47, 112], [], [98], [([120, 45, 97], [102])]⟩ : Pandora.Model.C07.Entity)).toOption.map
      (fun a => (toStr a.url, toHdr a.hdrs)) =
    some ([104, 116, 116, 112, 58, 47, 47, 104, 47, 112], [([88, 45, 65], [[102]])]) := by decide +kernel

end Pandora.Props.C09
