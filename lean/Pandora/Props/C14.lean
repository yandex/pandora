/-
C14 — preload is behaviour-preserving; chosencases selects exactly the listed tags.

Theorems are about `Pandora.Model.C14` (the http provider's two paths as executable machines over a file of
tagged entries: streaming = Decoder.Scan → filter → send, preloaded = LoadAmmo → filter → cyclic replay; REPAIRED
behaviour of c2aa5a1, 8ec6c57 and b8504d9), for ALL five file shapes of the four formats × ANY file (the empty
file included) × limit × passes × ANY chosen-predicate (chosencases subsets matching everything, something or
nothing) and any cancellation point ≥ 1; no bound on sizes (induction over the loops, `Proofs/C14.lean`,
`Proofs/C08*.lean`).  The loops carry explicit fuel; that the run ENDS within the fuel the model supplies is part
of the theorems (`runWith … = some o`).
Tie: (1) regenerated — `Pandora.Bridge.C14` proves that the filter function, the place where each path applies it,
the loop bodies of runFullScan / runPreloaded, the sentinel mapping and the deferred close regenerated from the
current Go source on every check run (`Gen/ChosenCases.lean`) are what the model says
(`C14_model_is_source`, `C14_listed_is_source_filter`); (2) correspondence — harness/cmd/c14 (real providers via
NewProvider or the plugin registry, preload off/on on the same source) + `Pandora.Drv.C14`; `C14_spec_holds` links
the executable Spec that judges the real providers to the model.
-/
import Pandora.Proofs.C14Spec
import Pandora.Proofs.C14Hdr
import Pandora.Bridge.C14
import Pandora.Bridge.C14Mid
import Pandora.Proofs.C14Mid
import Pandora.Model.C14Fin

namespace Pandora.Props.C14
open Pandora.Model.C08 hiding fullScan httpRun runFuel run
open Pandora.Model.C14 Pandora.Proofs.C08 Pandora.Proofs.C14

variable {α : Type}

/-! ## statement-level definitions -/

/-- the first `t` entries of the list `F` repeated endlessly -/
def cyclicPrefix (F : List α) (t : Nat) : List α := ((List.replicate t F).flatten).take t

/-- the entries of an ammo file (`tags` = the tag of each entry, in file order) whose tag is listed -/
def listed (tags cases : List String) : List Entry := (mkFile tags).filter (fun e => decide (e.tag ∈ cases))

/-! ## the theorems -/

/-- **General form.**  Something is chosen (`f > 0`) and the run stops at count `T` (limit, passes·f or a
cancellation, whichever comes first): in BOTH modes the provider ends within the model's fuel, consumers have
acquired exactly the first `T` entries of the endlessly repeated list of chosen entries (file order), `Run`
returns nil (context.Canceled iff the cancellation is what stopped it) and the sink is closed. -/
theorem C14_run (k : Fmt) (preload : Bool) (file : List α) (chosen : α → Bool) (b : Bounds)
    (cancelAt : Option Nat) (T : Nat) (hf : 0 < (file.filter chosen).length)
    (hT : target b.limit b.passes (file.filter chosen).length cancelAt = some T) :
    runWith k preload file chosen b cancelAt
      = some ⟨cyclicPrefix (file.filter chosen) T, if cancelled cancelAt T then .canceled else .nil, true⟩ := by
  unfold runWith fuelOf
  rw [if_neg (by omega), hT]
  exact runFuel_spec k preload file chosen b cancelAt T hf (tgt_of_target _ _ _ _ _ hf hT)

/-- **Nothing chosen.**  If no entry of the file is chosen (chosencases matching nothing, or an empty file), both
modes deliver nothing and `Run` returns ErrNoAmmo ("no ammo in file") with the sink closed — whatever limit and
passes are. -/
theorem C14_nomatch (k : Fmt) (preload : Bool) (file : List α) (chosen : α → Bool) (b : Bounds)
    (cancelAt : Option Nat) (hf : (file.filter chosen).length = 0) (hc : cancelAt ≠ some 0) :
    runWith k preload file chosen b cancelAt = some ⟨[], .errNoAmmo, true⟩ := by
  unfold runWith fuelOf
  rw [if_pos hf]
  exact runFuel_nomatch k preload file chosen b cancelAt hf hc

/-- **preload is behaviour-preserving** (first sentence of the property): for every format, every file, every
limit, passes and chosen-predicate, and every cancellation point (`none`, or after `c ≥ 1` acquisitions), the
outcome — delivered sequence, what `Run` returns, sink closed — is identical with preload off and on.
(`cancelAt = some 0` is a context that is already cancelled when `Run` starts: not a configuration.) -/
theorem C14_equiv (k : Fmt) (file : List α) (chosen : α → Bool) (b : Bounds) (cancelAt : Option Nat)
    (hc : cancelAt ≠ some 0) :
    runWith k false file chosen b cancelAt = runWith k true file chosen b cancelAt := by
  by_cases hf : (file.filter chosen).length = 0
  · rw [C14_nomatch k false file chosen b cancelAt hf hc, C14_nomatch k true file chosen b cancelAt hf hc]
  · cases hT : target b.limit b.passes (file.filter chosen).length cancelAt with
    | none => simp [runWith, fuelOf, hf, hT]
    | some T =>
      rw [C14_run k false file chosen b cancelAt T (by omega) hT, C14_run k true file chosen b cancelAt T (by omega) hT]

/-- The same without the restriction on the cancellation point: it would also cover a context that is already
cancelled when `Run` is called (not a configuration of the property's quantifier; kept visible because it is FALSE). -/
def C14_equiv_precancelled_statement : Prop :=
  ∀ (k : Fmt) (file : List Nat) (chosen : Nat → Bool) (b : Bounds) (cancelAt : Option Nat),
    runWith k false file chosen b cancelAt = runWith k true file chosen b cancelAt

/-- `C14_equiv` is the part of it that holds. -/
theorem C14_equiv_precancelled_partial (k : Fmt) (file : List Nat) (chosen : Nat → Bool) (b : Bounds)
    (cancelAt : Option Nat) (hc : cancelAt ≠ some 0) :
    runWith k false file chosen b cancelAt = runWith k true file chosen b cancelAt := C14_equiv k file chosen b cancelAt hc

/-- http/json, one entry, nothing chosen, context cancelled before `Run`: the streaming path returns
context.Canceled at once, the preloaded path first loads the file (the http/json decoder never looks at the context)
and fails with "no ammo in file".  Nothing is delivered either way. -/
theorem C14_equiv_precancelled_counterexample : ¬ C14_equiv_precancelled_statement := by
  intro h
  have h1 : (runWith .jsonLines false [0] (fun _ => false) ⟨0, 0⟩ (some 0)).map (·.run) = some .canceled := by decide
  have h2 : (runWith .jsonLines true [0] (fun _ => false) ⟨0, 0⟩ (some 0)).map (·.run) = some .errNoAmmo := by decide
  rw [h .jsonLines [0] (fun _ => false) ⟨0, 0⟩ (some 0), h2] at h1
  simp at h1

/-- **A context cancelled before `Run`, decoders that look at the context** (uri, uripost, raw: `Scan` checks
`ctx.Err()` before every line): both modes deliver nothing and `Run` returns context.Canceled — streaming from the
first check of runFullScan, preload because `LoadAmmo` fails with that error before anything is loaded. -/
theorem C14_precancelled_lines (k : Fmt) (hk : scanChecksCtx k = true) (preload : Bool) (file : List α)
    (chosen : α → Bool) (b : Bounds) :
    runWith k preload file chosen b (some 0) = some ⟨[], .canceled, true⟩ := by
  have key : ∀ fuel, runFuel k preload file chosen b (some 0) (fuel + 1) = some ⟨[], .canceled, true⟩ := by
    intro fuel
    cases preload with
    | true => simp [runFuel, loadSeesCancel, hk, cancelled]
    | false =>
      cases k <;> simp [scanChecksCtx] at hk <;>
        simp [runFuel, loadSeesCancel, httpRun, fullScan, cancelled]
  obtain ⟨m, hm⟩ : ∃ m, fuelOf file.length (file.filter chosen).length b (some 0) = some (m + 1) := by
    unfold fuelOf
    split
    · exact ⟨file.length + 2, rfl⟩
    · cases hT : target b.limit b.passes (file.filter chosen).length (some 0) with
      | none => exact absurd hT (target_some_ne_none _ _ _ _)
      | some t => exact ⟨(t / (file.filter chosen).length + 1) * (file.length + 1) + 1, by simp [fuelFor]⟩
  unfold runWith
  rw [hm]
  exact key m

/-- so for these three formats the equivalence holds for EVERY cancellation point, the one before `Run` included
(the part of `C14_equiv_precancelled_statement` that is true beyond `C14_equiv`; for http/json it is false). -/
theorem C14_equiv_precancelled_lines (k : Fmt) (hk : scanChecksCtx k = true) (file : List α) (chosen : α → Bool)
    (b : Bounds) (cancelAt : Option Nat) :
    runWith k false file chosen b cancelAt = runWith k true file chosen b cancelAt := by
  by_cases hc : cancelAt = some 0
  · subst hc
    rw [C14_precancelled_lines k hk false, C14_precancelled_lines k hk true]
  · exact C14_equiv k file chosen b cancelAt hc

/-- … and the equality is never the vacuous `none = none` for a run that has a reason to end: with a limit, with
passes, with a cancellation, or with nothing chosen, both modes END (within the model's fuel). -/
theorem C14_equiv_ends (k : Fmt) (preload : Bool) (file : List α) (chosen : α → Bool) (b : Bounds)
    (cancelAt : Option Nat) (hc : cancelAt ≠ some 0)
    (h : b.limit ≠ 0 ∨ b.passes ≠ 0 ∨ cancelAt ≠ none ∨ (file.filter chosen).length = 0) :
    ∃ o, runWith k preload file chosen b cancelAt = some o := by
  by_cases hf : (file.filter chosen).length = 0
  · exact ⟨_, C14_nomatch k preload file chosen b cancelAt hf hc⟩
  · cases hT : target b.limit b.passes (file.filter chosen).length cancelAt with
    | none =>
      exfalso
      cases cancelAt with
      | some c => unfold target at hT; simp only at hT; split at hT <;> simp at hT
      | none =>
        have := (target_none_iff _ _ _).mp hT
        rcases h with h | h | h | h
        · exact h this.1
        · exact h this.2
        · exact h rfl
        · exact hf h
    | some T => exact ⟨_, C14_run k preload file chosen b cancelAt T (by omega) hT⟩

/-- **chosencases selects exactly the listed tags; limit counts delivered entries** (second sentence): with a
non-empty chosencases list of which at least one tag occurs in the file, and a limit and/or passes, both modes
deliver exactly the first `m` entries of the endlessly repeated list of the entries WHOSE TAG IS LISTED, in file
order, where `m = min⁺(limit, passes · f)` and `f` = number of such entries — so `limit` counts delivered
entries, not entries read — and end with nil and a closed sink. -/
theorem C14_chosen (k : Fmt) (preload : Bool) (tags cases : List String) (b : Bounds) (m : Nat)
    (hcases : cases ≠ []) (hf : 0 < (listed tags cases).length)
    (hm : Spec.C14.expected b.limit b.passes (listed tags cases).length = some m) :
    run k preload tags cases b none = some ⟨cyclicPrefix (listed tags cases) m, .nil, true⟩ := by
  unfold listed at *
  rw [← filter_isChosen_eq_mem cases hcases] at hf hm ⊢
  rw [expected_eq_target _ _ _ hf] at hm
  have := C14_run k preload (mkFile tags) (isChosen cases) b none m hf hm
  simpa [run, cancelled] using this

/-- without chosencases the same holds for the whole file -/
theorem C14_nofilter (k : Fmt) (preload : Bool) (tags : List String) (b : Bounds) (m : Nat)
    (hn : 0 < tags.length) (hm : Spec.C14.expected b.limit b.passes tags.length = some m) :
    run k preload tags [] b none = some ⟨cyclicPrefix (mkFile tags) m, .nil, true⟩ := by
  have hall : (mkFile tags).filter (isChosen []) = mkFile tags := filter_isChosen_nil _
  have hlen : (mkFile tags).length = tags.length := by simp [mkFile]
  have hf : 0 < ((mkFile tags).filter (isChosen [])).length := by rw [hall, hlen]; exact hn
  have hm' : target b.limit b.passes ((mkFile tags).filter (isChosen [])).length none = some m := by
    rw [← expected_eq_target _ _ _ hf, hall, hlen]; exact hm
  have := C14_run k preload (mkFile tags) (isChosen []) b none m hf hm'
  rw [hall] at this
  simpa [run, cancelled] using this

/-- **unbounded** (no limit, no passes): every finite prefix is the same — cancelled after `c ≥ 0` acquisitions,
both modes have delivered exactly the first `c` entries of the endlessly repeated chosen list. -/
theorem C14_unbounded_prefix (k : Fmt) (preload : Bool) (file : List α) (chosen : α → Bool) (c : Nat)
    (hf : 0 < (file.filter chosen).length) :
    runWith k preload file chosen ⟨0, 0⟩ (some c)
      = some ⟨cyclicPrefix (file.filter chosen) c, .canceled, true⟩ := by
  have := C14_run k preload file chosen ⟨0, 0⟩ (some c) c hf (by simp [target])
  simpa [cancelled] using this

/-- **cancelled in the middle** (of a pass, of the run): the context is cancelled when `c` ammo have been acquired
and `c` is below the number `m` of ammo the run would deliver by itself (any `c` for a run without limit and passes)
— both modes have delivered exactly the first `c` entries of the repeated list of the entries whose tag is listed,
`Run` returns context.Canceled in both modes and the sink is closed. -/
theorem C14_chosen_cancelled (k : Fmt) (preload : Bool) (tags cases : List String) (b : Bounds) (c : Nat)
    (hcases : cases ≠ []) (hf : 0 < (listed tags cases).length)
    (hcm : ∀ m, Spec.C14.expected b.limit b.passes (listed tags cases).length = some m → c < m) :
    run k preload tags cases b (some c) = some ⟨cyclicPrefix (listed tags cases) c, .canceled, true⟩ := by
  unfold listed at *
  rw [← filter_isChosen_eq_mem cases hcases] at hf hcm ⊢
  rw [expected_eq_target _ _ _ hf] at hcm
  have hT : target b.limit b.passes ((mkFile tags).filter (isChosen cases)).length (some c) = some c := by
    cases hE : target b.limit b.passes ((mkFile tags).filter (isChosen cases)).length none with
    | none =>
      obtain ⟨h1, h2⟩ := (target_none_iff _ _ _).mp hE
      simp [target, h1, h2]
    | some m =>
      have := hcm m hE
      rw [target_cancel _ _ _ m c hE, Nat.min_eq_left (by omega)]
  have := C14_run k preload (mkFile tags) (isChosen cases) b (some c) c hf hT
  simpa [run, cancelled] using this

/-- **whole passes**: with `passes = p ≥ 1` and no limit, both modes deliver the list of the entries whose tag is
listed, in file order, exactly `p` times — nothing else, nothing missing. -/
theorem C14_passes_complete (k : Fmt) (preload : Bool) (tags cases : List String) (p : Nat)
    (hcases : cases ≠ []) (hf : 0 < (listed tags cases).length) (hp : 0 < p) :
    run k preload tags cases ⟨0, p⟩ none = some ⟨(List.replicate p (listed tags cases)).flatten, .nil, true⟩ := by
  have hm : Spec.C14.expected 0 p (listed tags cases).length = some (p * (listed tags cases).length) := by
    unfold Spec.C14.expected
    cases p with
    | zero => omega
    | succ p => rfl
  rw [C14_chosen k preload tags cases ⟨0, p⟩ _ hcases hf hm]
  have : cyclicPrefix (listed tags cases) (p * (listed tags cases).length) = (List.replicate p (listed tags cases)).flatten := by
    have h := cycTake_full (listed tags cases) p hf
    unfold cycTake rep at h
    exact h
  rw [this]

/-- … so an entry of the file is delivered **iff its tag is listed** (as soon as one pass is complete). -/
theorem C14_exactly_listed (k : Fmt) (preload : Bool) (tags cases : List String) (p : Nat)
    (hcases : cases ≠ []) (hf : 0 < (listed tags cases).length) (hp : 0 < p) :
    ∃ o, run k preload tags cases ⟨0, p⟩ none = some o ∧
      ∀ e, e ∈ o.delivered ↔ (e ∈ mkFile tags ∧ e.tag ∈ cases) := by
  refine ⟨_, C14_passes_complete k preload tags cases p hcases hf hp, ?_⟩
  intro e
  simp only [List.mem_flatten, List.mem_replicate]
  constructor
  · rintro ⟨l, ⟨_, rfl⟩, he⟩
    simpa [listed] using he
  · intro he
    exact ⟨listed tags cases, ⟨by omega, rfl⟩, by simpa [listed] using he⟩

/-! ## the model is the source (regenerated definitions, `Pandora.Bridge.C14`) -/

/-- The chosen-case filter of the model is `confutil.IsChosenCase` as regenerated from the source, applied to the
entry's tag and the configured list; the preloaded path keeps exactly `filter chosen` of what `LoadAmmo` returned
(regenerated loop of `loadAmmo`), BEFORE the cyclic replay; the streaming path asks the filter about the ammo that
`Decoder.Scan` just returned and counts an ammo only when it is sent (regenerated loop body of `runFullScan`);
`Provider.Run` is built from these pieces, the sentinel mapping and the deferred close as regenerated; a failed
`LoadAmmo` ends `loadAmmo` (regenerated error branch) with an error — the decoder's error class while the context is
not cancelled, context.Canceled for a cancel that ended the load (`loadFail`) — never with nil or with the filter loop. -/
theorem C14_model_is_source :
    (∀ (cases : List String) (e : Entry), isChosen cases e = Gen.ChosenCases.isChosenCase e.tag cases) ∧
    (∀ (chosen : Entry → Bool) (ammos : List Entry), Gen.ChosenCases.loadAmmoKeep chosen ammos = ammos.filter chosen) ∧
    (∀ (preload : Bool) (l p f : RunRes), Gen.ChosenCases.httpRunBody preload l p f =
      if preload then (if l = .nil then (["loadAmmo", "runPreloaded"], mapSentinel p) else (["loadAmmo"], l))
      else (["runFullScan"], f)) ∧
    Gen.ChosenCases.passCounterImplemented = true ∧
    Gen.ChosenCases.httpRunCloses = true ∧ (∀ l, Gen.ChosenCases.decoderLimit l = 0) ∧
    Gen.ChosenCases.runPreloadedDone = Gen.ChosenCases.runFullScanDone ∧
    (∀ (c : Bool) (e : RunRes), e ≠ .nil →
      (Gen.ChosenCases.loadAmmoFail c e).isSome = true ∧ Gen.ChosenCases.loadAmmoFail c e ≠ some .nil ∧
      (c = false ∨ e = .canceled → Gen.ChosenCases.loadAmmoFail c e = some (loadFail c e))) :=
  ⟨Bridge.C14.isChosen_eq_source, Bridge.C14.loadAmmoKeep_eq, Bridge.C14.runBody_source, Bridge.C14.passCounter_source,
   rfl, fun _ => rfl, rfl,
   fun c e he => ⟨(Bridge.C14.loadFail_source.2.1 c e he).1, (Bridge.C14.loadFail_source.2.1 c e he).2, fun h => by
     rcases h with h | h
     · subst h; exact Bridge.C14.loadFail_source.2.2.1 e he
     · subst h; exact Bridge.C14.loadFail_source.2.2.2 c⟩⟩

/-- With a non-empty chosencases list, filtering a file with the REGENERATED `IsChosenCase` gives exactly the
entries whose tag is listed (the list the theorems above speak about); with an empty list, the whole file. -/
theorem C14_listed_is_source_filter (tags cases : List String) :
    (mkFile tags).filter (fun e => Gen.ChosenCases.isChosenCase e.tag cases)
      = if cases = [] then mkFile tags else listed tags cases := by
  have h : (fun e : Entry => Gen.ChosenCases.isChosenCase e.tag cases) = isChosen cases := by
    funext e; exact (Bridge.C14.isChosen_eq_source cases e).symm
  rw [h]
  by_cases hc : cases = []
  · subst hc; simp [filter_isChosen_nil]
  · rw [if_neg hc]; exact filter_isChosen_eq_mem cases hc _

/-- the model's two sides of a cell are the same `Side` -/
theorem C14_model_sides_agree (k : Fmt) (tags cases : List String) (b : Bounds) (cap : Nat) (hasFile closeFails : Bool)
    (hcap : 0 < cap) :
    Drv.C14.modelSideOf k true tags cases b cap hasFile closeFails
      = Drv.C14.modelSideOf k false tags cases b cap hasFile closeFails := by
  have hcne : (if cap = 0 then none else some cap) = some cap := by rw [if_neg (by omega)]
  have hc0 : some cap ≠ some 0 := by simp; omega
  unfold Drv.C14.modelSideOf
  split
  · rw [hcne]; unfold run; rw [C14_equiv k (mkFile tags) (isChosen cases) b (some cap) hc0]
  · rfl

/-- **Spec holds of Model.run** for every cell shape the harness generates (cap ≥ 1; cap different from the number
of ammo a bounded cell delivers — greater: never reached; smaller: the run is cancelled in the middle): the
executable Spec that judges the two real providers accepts the pair of observations the model predicts — for every
format, file (also the empty one and the one NewProvider rejects), chosencases list, limit and passes. -/
theorem C14_spec_holds (k : Fmt) (tags cases : List String) (limit passes cap : Nat) (hasFile closeFails : Bool)
    (hcap : 0 < cap) (hne : Spec.C14.inconclusive ⟨tags, cases, limit, passes, cap⟩ = false) :
    Spec.C14.holds ⟨tags, cases, limit, passes, cap⟩
      (Drv.C14.modelObsOf k tags cases ⟨limit, passes⟩ cap hasFile closeFails) = true := by
  have hcne : (if cap = 0 then none else some cap) = some cap := by rw [if_neg (by omega)]
  have hc0 : some cap ≠ some 0 := by simp; omega
  have hsame := C14_model_sides_agree k tags cases ⟨limit, passes⟩ cap hasFile closeFails hcap
  have hids := chosenIds_eq tags cases limit passes cap
  have hidlen : (Spec.C14.chosenIds ⟨tags, cases, limit, passes, cap⟩).length
      = ((mkFile tags).filter (isChosen cases)).length := by rw [hids, List.length_map]
  unfold Spec.C14.holds Drv.C14.modelObsOf
  rw [hsame]
  by_cases hno : Spec.C14.noMatch ⟨tags, cases, limit, passes, cap⟩ = true
  · -- nothing chosen: nothing delivered
    rw [if_pos hno]
    have hf : ((mkFile tags).filter (isChosen cases)).length = 0 := by
      unfold Spec.C14.noMatch at hno; rw [hidlen] at hno; simpa using hno
    have hseq : (Drv.C14.modelSideOf k false tags cases ⟨limit, passes⟩ cap hasFile closeFails).seq = [] := by
      unfold Drv.C14.modelSideOf
      split
      · rw [hcne]; unfold run
        rw [C14_nomatch k false (mkFile tags) (isChosen cases) ⟨limit, passes⟩ (some cap) hf hc0]
        rfl
      · rfl
    simp [hseq, Spec.C14.equivOk, Spec.C14.seqEquivOk, Spec.C14.endEquivOk]
  · rw [if_neg hno]
    have hf : 0 < ((mkFile tags).filter (isChosen cases)).length := by
      unfold Spec.C14.noMatch at hno; rw [hidlen] at hno
      have : ((mkFile tags).filter (isChosen cases)).length ≠ 0 := by simpa using hno
      omega
    have hn : 0 < tags.length := by
      have h1 : ((mkFile tags).filter (isChosen cases)).length ≤ (mkFile tags).length := List.length_filter_le _ _
      have h2 : (mkFile tags).length = tags.length := by simp [mkFile]
      omega
    have hcon : constructs k tags.length = true := by
      unfold constructs
      cases tags with
      | nil => simp at hn
      | cons t ts => simp
    have hside : Drv.C14.modelSideOf k false tags cases ⟨limit, passes⟩ cap hasFile closeFails
        = Drv.C14.sideOf cap hasFile closeFails (run k false tags cases ⟨limit, passes⟩ (some cap)) := by
      unfold Drv.C14.modelSideOf; rw [if_pos hcon, hcne]
    have hcount : Spec.C14.expectedCount ⟨tags, cases, limit, passes, cap⟩
        = Spec.C14.expected limit passes ((mkFile tags).filter (isChosen cases)).length := by
      unfold Spec.C14.expectedCount; rw [hidlen]
    -- the count T at which the model's run stops, and what the Spec expects of it
    have hT : ∃ T, target limit passes ((mkFile tags).filter (isChosen cases)).length (some cap) = some T ∧
        Spec.C14.expectedLen ⟨tags, cases, limit, passes, cap⟩ = T ∧
        Spec.C14.cutExpected ⟨tags, cases, limit, passes, cap⟩ = decide (cap ≤ T) := by
      unfold Spec.C14.expectedLen Spec.C14.cutExpected
      cases hE : Spec.C14.expected limit passes ((mkFile tags).filter (isChosen cases)).length with
      | none =>
        have h00 : limit = 0 ∧ passes = 0 := by
          rw [expected_eq_target _ _ _ hf] at hE; exact (target_none_iff _ _ _).mp hE
        obtain ⟨rfl, rfl⟩ := h00
        exact ⟨cap, by simp [target], by simp [hcount, hE], by simp [hcount, hE]⟩
      | some m =>
        have hmc : m ≠ cap := by
          intro h
          have : Spec.C14.inconclusive ⟨tags, cases, limit, passes, cap⟩ = true := by
            unfold Spec.C14.inconclusive; rw [hcount, hE, h]; simp
          rw [this] at hne; exact Bool.noConfusion hne
        have htc := target_cancel limit passes _ m cap (by rw [← expected_eq_target _ _ _ hf]; exact hE)
        by_cases hlt : cap < m
        · refine ⟨cap, by rw [htc, Nat.min_eq_left (by omega)], by simp [hcount, hE, hlt], by simp [hcount, hE, hlt]⟩
        · have hgt : m < cap := by omega
          have hnle : ¬ cap ≤ m := by omega
          refine ⟨m, by rw [htc, Nat.min_eq_right (by omega)], by simp [hcount, hE, hlt], by simp [hcount, hE, hlt, hnle]⟩
    obtain ⟨T, hTt, hTlen, hTcut⟩ := hT
    have hchosen : Spec.C14.chosenOk ⟨tags, cases, limit, passes, cap⟩
        ⟨Drv.C14.modelSideOf k false tags cases ⟨limit, passes⟩ cap hasFile closeFails,
         Drv.C14.modelSideOf k false tags cases ⟨limit, passes⟩ cap hasFile closeFails, true⟩ = true := by
      rw [hside]
      unfold Spec.C14.chosenOk Spec.C14.expectedSeq
      unfold run
      rw [C14_run k false (mkFile tags) (isChosen cases) ⟨limit, passes⟩ (some cap) T hf hTt]
      have hl : (cyclicPrefix ((mkFile tags).filter (isChosen cases)) T).length = T := length_cycTake _ _ hf
      simp only [hTlen, hTcut, hids, Drv.C14.sideOf, hl]
      have hm := map_cycTake (fun e : Entry => e.id) ((mkFile tags).filter (isChosen cases)) T
      unfold cycTake rep at hm
      unfold cyclicPrefix
      simp [hm, hcap]
    simp [hchosen, Spec.C14.equivOk, Spec.C14.seqEquivOk, Spec.C14.endEquivOk, Spec.C14.tagsOk]

/-! ## the earlier revisions of the code do NOT have the property -/

/-- C14's equivalence for /repo before 8ec6c57 and c2aa5a1 (`Model.C14.Orig`): whenever both modes end, they
deliver the same and end the same way. -/
def C14_equiv_orig_statement : Prop :=
  ∀ (k : Fmt) (file : List Nat) (chosen : Nat → Bool) (b : Bounds) (fuel : Nat) (o₁ o₂ : Outcome Nat),
    Orig.runFuel k false file chosen b none fuel = some o₁ → Orig.runFuel k true file chosen b none fuel = some o₂ →
    o₁.delivered = o₂.delivered ∧ o₁.run = o₂.run

/-- `/a t1, /b t2, /c t3`, limit 2, chosencases [t2, t3]: streaming delivers `[/b]` (the decoder's limit counts the
filtered-out /a), preload delivers `[/b, /c]` and ends with the error "ammo limit faced". -/
theorem C14_equiv_orig_counterexample : ¬ C14_equiv_orig_statement := by
  intro h
  have h1 : Orig.runFuel .uri false [0, 1, 2] (fun i => decide (1 ≤ i)) ⟨2, 0⟩ none 10 = some ⟨[1], .nil, true⟩ := by decide
  have h2 : Orig.runFuel .uri true [0, 1, 2] (fun i => decide (1 ≤ i)) ⟨2, 0⟩ none 10 = some ⟨[1, 2], .errLimit, true⟩ := by decide
  have := (h .uri [0, 1, 2] (fun i => decide (1 ≤ i)) ⟨2, 0⟩ 10 _ _ h1 h2).1
  simp at this

/-- the same for /repo a3063a3 (with 8ec6c57 and c2aa5a1, before b8504d9; `Model.C14.Head`) -/
def C14_equiv_head_statement : Prop :=
  ∀ (k : Fmt) (file : List Nat) (chosen : Nat → Bool) (b : Bounds) (fuel : Nat) (o₁ o₂ : Outcome Nat),
    Head.runFuel k false file chosen b none fuel = some o₁ → Head.runFuel k true file chosen b none fuel = some o₂ →
    o₁.delivered = o₂.delivered ∧ o₁.run = o₂.run

/-- three entries, nothing chosen, passes 1: streaming ends with nil, preload with "no ammo in file". -/
theorem C14_equiv_head_counterexample : ¬ C14_equiv_head_statement := by
  intro h
  have h1 : Head.runFuel .uri false [0, 1, 2] (fun _ => false) ⟨0, 1⟩ none 10 = some ⟨[], .nil, true⟩ := by decide
  have h2 : Head.runFuel .uri true [0, 1, 2] (fun _ => false) ⟨0, 1⟩ none 10 = some ⟨[], .errNoAmmo, true⟩ := by decide
  have := (h .uri [0, 1, 2] (fun _ => false) ⟨0, 1⟩ 10 _ _ h1 h2).2
  simp at this

/-- … and with passes = 0 the streaming path of that revision NEVER ends on a non-empty file from which nothing
is chosen (for every format, limit and fuel: it rescans the file for ever), while the preloaded path ends with
ErrNoAmmo. -/
theorem C14_head_stream_never_ends (k : Fmt) (file : List α) (chosen : α → Bool) (limit : Nat)
    (cancelAt : Option Nat) (hn : 0 < file.length) (hf : (file.filter chosen).length = 0) (hc : cancelAt ≠ some 0)
    (fuel : Nat) : Head.runFuel k false file chosen ⟨limit, 0⟩ cancelAt fuel = none :=
  head_runFuel_never_ends k file chosen limit cancelAt hn (List.eq_nil_of_length_eq_zero hf) hc fuel

/-! ## the delivered REQUESTS — headers of the source and of the `headers` option -/

section Headers
open Pandora.Model.C14H Pandora.Proofs.C14H

/-- **preload is behaviour-preserving, headers included**: over a source that declares headers (uri / uripost:
`[K: v]` lines anywhere between the entries; http/json, raw: per entry) and any `headers` option, the outcome with
preload off and on is identical as a sequence of WHOLE decoded ammo (position, tag, the header map the request is
built from), for every format, chosencases list, limit, passes and cancellation point. -/
theorem C14_headers_equiv (k : Fmt) (s : Source) (cases : List String) (b : Bounds) (cancelAt : Option Nat)
    (hc : cancelAt ≠ some 0) :
    runH k false s cases b cancelAt = runH k true s cases b cancelAt :=
  C14_equiv k (decode k s) (isChosenH cases) b cancelAt hc

/-- … and every delivered ammo IS an entry of the source with the headers declared for it: it is `entryOf` of its
position and tag (so its header map is `hdrLines` / `hdrJson` / the option + own lines of that position — on every
pass, in both modes), and with chosencases set its tag is listed. -/
theorem C14_headers_delivered (k : Fmt) (preload : Bool) (s : Source) (cases : List String) (b : Bounds)
    (cancelAt : Option Nat) (hc : cancelAt ≠ some 0) (o : Outcome EntryH)
    (h : runH k preload s cases b cancelAt = some o) :
    ∀ e ∈ o.delivered, ∃ i t, s.tags[i]? = some t ∧ e = entryOf k s i t ∧ (cases ≠ [] → t ∈ cases) := by
  intro e he
  have key : e ∈ (decode k s).filter (isChosenH cases) := by
    unfold runH at h
    by_cases hf : ((decode k s).filter (isChosenH cases)).length = 0
    · rw [C14_nomatch k preload _ _ b cancelAt hf hc] at h
      cases h; simp at he
    · cases hT : target b.limit b.passes ((decode k s).filter (isChosenH cases)).length cancelAt with
      | none => simp [runWith, fuelOf, hf, hT] at h
      | some T =>
        rw [C14_run k preload _ _ b cancelAt T (by omega) hT] at h
        cases h
        exact mem_cycTake _ T e he
  obtain ⟨hmem, hch⟩ := List.mem_filter.mp key
  obtain ⟨i, t, ht, rfl⟩ := mem_decode k s e hmem
  refine ⟨i, t, ht, rfl, ?_⟩
  intro hcs
  have : isChosen cases ⟨i, t⟩ = true := by
    have h2 : (entryOf k s i t).entry = ⟨i, t⟩ := by cases k <;> rfl
    simpa [isChosenH, h2] using hch
  exact (isChosen_iff_mem cases hcs ⟨i, t⟩).mp this

/-- … hence the Host / headers text the harness reads off a delivered ammo is the one the Spec expects for its entry
(`Drv.C14.ehdrOf`, what `Spec.C14.hdOk` compares the real providers with). -/
theorem C14_headers_text (k : Fmt) (preload : Bool) (s : Source) (cases : List String) (b : Bounds)
    (cancelAt : Option Nat) (hc : cancelAt ≠ some 0) (o : Outcome EntryH)
    (h : runH k preload s cases b cancelAt = some o) :
    ∀ e ∈ o.delivered, (Drv.C14.ehdrOf k s)[e.id]? = some (render (reqOf k e)) := by
  intro e he
  obtain ⟨i, t, ht, rfl, _⟩ := C14_headers_delivered k preload s cases b cancelAt hc o h e he
  have hi : i < s.tags.length := by
    cases hlt : decide (i < s.tags.length) with
    | true => exact of_decide_eq_true hlt
    | false =>
      have : s.tags[i]? = none := List.getElem?_eq_none (by simpa using hlt)
      rw [this] at ht; cases ht
  have hid : (entryOf k s i t).id = i := by cases k <;> rfl
  rw [hid]
  unfold Drv.C14.ehdrOf
  rw [List.getElem?_map, List.getElem?_range hi]
  simp [reqText, ht]

/-- **the uri / uripost decoder with its header accumulator refines the abstract decoder**: `Provider.Run` over
`scanLines` (header lines Set on the accumulator, an entry gets a clone completed from the `headers` option, the
accumulator is replaced by an empty map when Scan wraps to the next pass) has exactly the outcome of `Provider.Run`
over the abstract stream decoder on the list of decoded entries — in both modes, for every source, filter, bound
and cancellation point. -/
theorem C14_lines_refine (s : Source) (preload : Bool) (chosen : EntryH → Bool) (b : Bounds)
    (cancelAt : Option Nat) (hc : cancelAt ≠ some 0) :
    runLines s preload chosen b cancelAt = runWith .uri preload (decodeLines s) chosen b cancelAt := by
  by_cases hf : ((decodeLines s).filter chosen).length = 0
  · rw [C14_nomatch .uri preload _ chosen b cancelAt hf hc]
    unfold runLines fuelOf
    rw [if_pos hf]
    exact runLinesFuel_nomatch s preload chosen b cancelAt hf hc
  · cases hT : target b.limit b.passes ((decodeLines s).filter chosen).length cancelAt with
    | none => simp [runLines, runWith, fuelOf, hf, hT]
    | some T =>
      rw [C14_run .uri preload _ chosen b cancelAt T (by omega) hT]
      unfold runLines fuelOf
      rw [if_neg hf, hT]
      exact runLinesFuel_spec s preload chosen b cancelAt T (by omega) (tgt_of_target _ _ _ _ _ (by omega) hT)

/-- so with the accumulator modelled, preload on and off still deliver the same whole ammo and end the same way -/
theorem C14_lines_equiv (s : Source) (chosen : EntryH → Bool) (b : Bounds) (cancelAt : Option Nat)
    (hc : cancelAt ≠ some 0) :
    runLines s false chosen b cancelAt = runLines s true chosen b cancelAt := by
  rw [C14_lines_refine s false chosen b cancelAt hc, C14_lines_refine s true chosen b cancelAt hc]
  exact C14_equiv .uri _ chosen b cancelAt hc

/-- **what `Scan` hands to `a.Setup` is the decoded entry's header map, in every pass**: from the decoder state after
`q` complete passes and `r` entries of the current pass, the next `Scan` returns entry `r` (resp. entry `0` after
wrapping) and the header map it built is the one of `decodeLines` at that position — nothing of an earlier pass or of
a later line is in it. -/
theorem C14_lines_handout (s : Source) (passes : Nat) (hn : 0 < s.n) (q r : Nat) (d : LDec) (hR : RLine s q r d) :
    (r < s.n → (passes = 0 ∨ q < passes) →
      ∃ d', scanLines s ⟨0, passes⟩ d = (.ammo r, d') ∧ RLine s q (r + 1) d' ∧
        ((decodeLines s)[r]?).map (·.hdr) = some d'.last) ∧
    (r = s.n → (passes = 0 ∨ q + 1 < passes) →
      ∃ d', scanLines s ⟨0, passes⟩ d = (.ammo 0, d') ∧ RLine s (q + 1) 1 d' ∧
        ((decodeLines s)[0]?).map (·.hdr) = some d'.last) :=
  lines_handout s passes hn q r d hR

/-- The decoder WITHOUT the clone (`readLine` handing its accumulator itself to the ammo when there is no `headers`
option): a preloaded provider — every entry decoded before the first is delivered — would deliver what the real one
delivers. -/
def C14_alias_statement : Prop :=
  ∀ s : Source, s.ch = [] → Alias.decodePreloaded s = decodeLines s

/-- true only for sources whose header lines all stand before the first entry … -/
theorem C14_alias_partial (s : Source) (hch : s.ch = []) (htop : ∀ i, 1 ≤ i → s.block i = []) :
    Alias.decodePreloaded s = decodeLines s := by
  unfold Alias.decodePreloaded decodeLines decode
  congr 1
  funext i t
  have h1 : accAt s (s.n + 1) = accAt s 1 := accAt_top_only s htop _ (by omega)
  have h2 : accAt s (i + 1) = accAt s 1 := accAt_top_only s htop _ (by omega)
  simp [entryOf, hdrLines, hch, mergeMissing_nil, h1, h2]

/-- … and false in general: `/e0 a`, `[X-A: 1]`, `/e1 b` — without the clone the preloaded `/e0` carries `X-A`,
which the source declares only for `/e1`. -/
theorem C14_alias_counterexample : ¬ C14_alias_statement := by
  intro h
  have := h ⟨["a", "b"], [[], [("X-A", "1")], []], []⟩ rfl
  have h2 := congrArg (fun l => l.map (fun e : EntryH => e.hdr.length)) this
  revert h2
  decide

/-- **the header model is the source** (regenerated area "c14hdr", `Bridge/C14.lean`): every decoder hands every ammo
a header map of its own (a clone defined once on the path to `Setup` — uri, uripost, http/json stream and array, raw);
the map an entry of a uri / uripost source gets, the header-line branch, what `Scan` does with the accumulator when it
wraps, the http/json map and one iteration of `EnrichRequestWithHeaders` are the model's definitions. -/
theorem C14_headers_model_is_source :
    (Gen.C14Hdr.uriEntryHeaderFresh = true ∧ Gen.C14Hdr.uripostEntryHeaderFresh = true ∧
      Gen.C14Hdr.jsonScanFresh = true ∧ Gen.C14Hdr.jsonArrayFresh = true ∧ Gen.C14Hdr.rawCommonFresh = true) ∧
    (∀ acc cfg, Gen.C14Hdr.uriEntryHeader acc cfg = mergeMissing acc cfg ∧
      Gen.C14Hdr.uripostEntryHeader acc cfg = mergeMissing acc cfg) ∧
    (∀ (acc : HMap) (kv : String × String), Gen.C14Hdr.uriHeaderLine acc kv.1 kv.2 = acc.setH kv ∧
      Gen.C14Hdr.uripostHeaderLine acc kv.1 kv.2 = acc.setH kv) ∧
    (Gen.C14Hdr.uriWrapAcc = some [] ∧ Gen.C14Hdr.uripostWrapAcc = some []) ∧
    (∀ s i, hdrJson s i = Gen.C14Hdr.jsonEntryHeader (cfgMap s.ch) (s.block i)) ∧
    (∀ k e, reqOf k e = e.hdr.foldl Gen.C14Hdr.enrichStep ((match k with | .uri | .uripost => "" | _ => entryHost), e.own)) :=
  ⟨Bridge.C14.hdr_fresh_source, Bridge.C14.hdr_entry_source, Bridge.C14.hdr_line_source, Bridge.C14.hdr_wrap_source,
   Bridge.C14.hdr_json_source, Bridge.C14.hdr_enrich_source⟩

/-- **the decoders' pass / limit / end-of-ammo logic is the source**: the limit check that opens every `Scan`, the
block that ends a pass in uri.go, uripost.go, raw.go (count the pass, ErrPassLimit, ErrNoAmmo, seek) and the top check
and end-of-file block of the http/json stream decoder, regenerated statement by statement (area "c14hdr"), are one
round of `Model.C08.scanStream` — the decoder machines that every theorem above is about — and of `scanLines`. -/
theorem C14_scan_model_is_source :
    (∀ style b n d, scanStream style b n d =
      if Gen.C14Hdr.uriScanLimit b.limit d.ammoNum then (.errLimit, d) else scanLoop style b.passes n 2 d) ∧
    (∀ passes n fuel (d : Dec), scanLoop .eofCheck passes n (fuel + 1) d =
      if d.pos < n then (.ammo d.pos, { d with pos := d.pos + 1, ammoNum := d.ammoNum + 1 })
      else match Gen.C14Hdr.uriEof passes d.ammoNum d.passNum with
        | .ret r pn => (r, { d with passNum := pn })
        | .again pn => scanLoop .eofCheck passes n fuel { d with passNum := pn, pos := 0 }) ∧
    (∀ passes n fuel (d : Dec), scanLoop .topCheck passes n (fuel + 1) d =
      if Gen.C14Hdr.jsonTopCheck passes d.passNum then (.errPass, d)
      else if d.pos < n then (.ammo d.pos, { d with pos := d.pos + 1, ammoNum := d.ammoNum + 1 })
      else match Gen.C14Hdr.jsonEof passes d.ammoNum d.passNum with
        | .ret r pn => (r, { d with passNum := pn })
        | .again pn => scanLoop .topCheck passes n fuel { d with pos := 0, passNum := pn }) ∧
    (Gen.C14Hdr.uripostEof = Gen.C14Hdr.uriEof ∧ Gen.C14Hdr.rawEof = Gen.C14Hdr.uriEof ∧
      Gen.C14Hdr.uripostScanLimit = Gen.C14Hdr.uriScanLimit ∧ Gen.C14Hdr.rawScanLimit = Gen.C14Hdr.uriScanLimit ∧
      Gen.C14Hdr.jsonScanLimit = Gen.C14Hdr.uriScanLimit) :=
  ⟨Bridge.C14.scanStream_limit_source, Bridge.C14.scanLoop_eof_source, Bridge.C14.scanLoop_top_source, Bridge.C14.eof_same⟩

/-- **Spec holds of the model, requests included**: for every cell shape (as in `C14_spec_holds`) over every source
with header declarations, the executable Spec that judges the two real providers — also: no side kills its
process, every delivered request has the method and body of its entry, both sides carry the same Host / headers per
entry, and these are the ones the source declares — accepts the observation the model predicts. -/
theorem C14_spec_holds_hdr (k : Fmt) (src : Source) (cases : List String) (limit passes cap : Nat)
    (hasFile closeFails : Bool) (hcap : 0 < cap)
    (hne : Spec.C14.inconclusive ⟨src.tags, cases, limit, passes, cap⟩ = false) :
    Spec.C14.holdsH ⟨src.tags, cases, limit, passes, cap⟩ (Drv.C14.ehdrOf k src)
      (Drv.C14.modelObsHOf k src cases ⟨limit, passes⟩ cap hasFile closeFails) = true := by
  have hb := C14_spec_holds k src.tags cases limit passes cap hasFile closeFails hcap hne
  have hs := C14_model_sides_agree k src.tags cases ⟨limit, passes⟩ cap hasFile closeFails hcap
  have hf1 := modelSideOf_not_fatal k false src.tags cases ⟨limit, passes⟩ cap hasFile closeFails
  unfold Drv.C14.modelObsOf at hb
  rw [hs] at hb
  unfold Spec.C14.holdsH Drv.C14.modelObsHOf
  simp only [Spec.C14.fatalOk, Spec.C14.hdEquivOk, Spec.C14.hdOk, Drv.C14.modelObsOf, hs]
  simp [hb, hf1]

end Headers

/-! ## how `Run` ENDS — the deferred function (sink, source, ONE error) -/

section Epilogue

/-- **preload is behaviour-preserving, the end of `Run` included**: for every format, file, filter, bound and
cancellation point, whether or not `p.Close` is set and whether or not closing the ammo source FAILS, the whole run —
the delivered sequence, the sink closed, how often the source was closed, and the ONE error `Run` returns (as errors.Is
sees it: the provider's own class and/or the error of `Close`) — is identical with preload off and on. -/
theorem C14_equiv_final (k : Fmt) (file : List α) (chosen : α → Bool) (b : Bounds) (cancelAt : Option Nat)
    (hasClose closeFails : Bool) (hc : cancelAt ≠ some 0) :
    runFinal k false file chosen b cancelAt hasClose closeFails = runFinal k true file chosen b cancelAt hasClose closeFails := by
  unfold runFinal
  rw [C14_equiv k file chosen b cancelAt hc]

/-- … and what that run is, explicitly (something chosen, the run stops at count `T`): the first `T` entries of the
repeated chosen list, then the epilogue applied to nil (resp. context.Canceled iff the cancellation stopped it). -/
theorem C14_final_run (k : Fmt) (preload : Bool) (file : List α) (chosen : α → Bool) (b : Bounds)
    (cancelAt : Option Nat) (T : Nat) (hasClose closeFails : Bool) (hf : 0 < (file.filter chosen).length)
    (hT : target b.limit b.passes (file.filter chosen).length cancelAt = some T) :
    runFinal k preload file chosen b cancelAt hasClose closeFails
      = some ⟨cyclicPrefix (file.filter chosen) T,
              epilogue hasClose closeFails (EV.ofRun (if cancelled cancelAt T then .canceled else .nil))⟩ := by
  unfold runFinal
  rw [C14_run k preload file chosen b cancelAt T hf hT]
  rfl

/-- nothing chosen: nothing delivered, the epilogue applied to "no ammo in file" — in both modes -/
theorem C14_final_nomatch (k : Fmt) (preload : Bool) (file : List α) (chosen : α → Bool) (b : Bounds)
    (cancelAt : Option Nat) (hasClose closeFails : Bool) (hf : (file.filter chosen).length = 0) (hc : cancelAt ≠ some 0) :
    runFinal k preload file chosen b cancelAt hasClose closeFails
      = some ⟨[], epilogue hasClose closeFails (EV.ofRun .errNoAmmo)⟩ := by
  unfold runFinal
  rw [C14_nomatch k preload file chosen b cancelAt hf hc]
  rfl

/-- **the source is closed exactly once, the sink is closed** — by every run that returns, in both modes, whatever
the path ended with and whether or not closing fails (never twice: not early by the preloaded path and again at the
end; never not at all). -/
theorem C14_close_once (k : Fmt) (preload : Bool) (file : List α) (chosen : α → Bool) (b : Bounds)
    (cancelAt : Option Nat) (hasClose closeFails : Bool) (o : Final α)
    (h : runFinal k preload file chosen b cancelAt hasClose closeFails = some o) :
    o.fin.closeCalls = (if hasClose then 1 else 0) ∧ o.fin.sinkClosed = true := by
  unfold runFinal at h
  cases hr : runWith k preload file chosen b cancelAt with
  | none => rw [hr] at h; cases h
  | some o' =>
    rw [hr] at h
    cases h
    cases hasClose <;> cases closeFails <;> cases hre : o'.run <;>
      simp [finish, epilogue, hre, EV.ofRun, EV.isNil, EV.ofClose, EV.join]

/-- **a failing `Close` is never swallowed and never changes what was delivered**: with `p.Close` set and closing
failing, `Run` returns a non-nil error in both modes; if the path itself ended with nil (a bounded run that was not
cancelled) that error IS the error of `Close`; if the path ended with an error of its own (cancelled, "no ammo") the two
are made into one error in which errors.Is finds neither (xerrors.Errorf with two `%w`).  When closing succeeds the
epilogue returns the path's result untouched. -/
theorem C14_close_fault (k : Fmt) (preload : Bool) (file : List α) (chosen : α → Bool) (b : Bounds)
    (cancelAt : Option Nat) (closeFails : Bool) (o : Outcome α)
    (h : runWith k preload file chosen b cancelAt = some o) :
    ∃ f, runFinal k preload file chosen b cancelAt true closeFails = some f ∧ f.delivered = o.delivered ∧
      (closeFails = false → f.fin.err = EV.ofRun o.run) ∧
      (closeFails = true → f.fin.err.isNil = false ∧
        (o.run = .nil → f.fin.err = EV.ofClose true) ∧
        (o.run ≠ .nil → f.fin.err = ⟨.errOther, false⟩)) := by
  refine ⟨finish true closeFails o, by simp [runFinal, h], rfl, ?_, ?_⟩
  · intro hcf; subst hcf; simp [finish, epilogue]
  · intro hcf; subst hcf
    cases hre : o.run <;> simp [finish, epilogue, hre, EV.ofRun, EV.isNil, EV.ofClose, EV.join]

/-- **the epilogue is the source**: the deferred function of `Run` regenerated statement by statement (area
"chosencases", gen/area_chosencases_fin.go) is `Model.C14.epilogue`; the `Close` field is called nowhere else in package
provider, the `defer` stands before every `return` of Run, and NewProvider fills the field. -/
theorem C14_epilogue_is_source :
    (∀ hasClose closeFails e, Gen.ChosenCases.httpRunDefer hasClose closeFails e = epilogue hasClose closeFails e) ∧
    Gen.ChosenCases.closeCallsElsewhere = 0 ∧ Gen.ChosenCases.deferBeforeReturns = true ∧
    Gen.ChosenCases.newProviderSetsClose = true :=
  ⟨Bridge.C14.epilogue_source, Bridge.C14.close_sites_source.1, Bridge.C14.close_sites_source.2.1,
   Bridge.C14.close_sites_source.2.2⟩

/-- **NewProvider's source switch is the source, and does not look at `preload`**: which configurations are accepted as
an ammo source — inline `uris` only with the uri decoder and without a file, else a named file — is `sourceAccepted`,
read off the regenerated guards of uriReadSeekCloser / fileReadSeekCloser (in which the translator accepts nothing but
the decoder type and the file name: a guard on `conf.Preload` makes gen fail); so a source is rejected or accepted alike
with preload off and on, and a rejected one runs nothing in either mode. -/
theorem C14_source_switch_is_source (k : Fmt) (nUris : Nat) (hasFile : Bool) :
    sourceAccepted k nUris hasFile =
      !(if Gen.ChosenCases.sourceOf nUris = "uriReadSeekCloser" then Gen.ChosenCases.urisRejected (k == .uri) hasFile
        else Gen.ChosenCases.fileRejected hasFile) ∧
    (sourceAccepted k nUris hasFile = true ↔ (nUris > 0 ∧ k = .uri ∧ hasFile = false) ∨ (nUris = 0 ∧ hasFile = true)) := by
  refine ⟨Bridge.C14.source_guards_source k nUris hasFile, ?_⟩
  unfold sourceAccepted
  by_cases h : nUris > 0
  · simp only [h, if_true]
    cases k <;> cases hasFile <;> simp <;> omega
  · have h0 : nUris = 0 := by omega
    simp [h0]

/-- The variant in which the sentinel mapping of the preloaded path (ErrAmmoLimit / ErrPassLimit ↦ nil) is done at the
END of the deferred function, after Run's result and the error of Close were made into one: "both paths end the same
way whatever ended them". -/
def C14_equiv_latemap_statement : Prop :=
  ∀ (hasClose closeFails : Bool) (endedBy : RunRes),
    Late.epilogue hasClose closeFails (Late.pathResult false endedBy)
      = Late.epilogue hasClose closeFails (Late.pathResult true endedBy)

/-- true as long as closing the source succeeds (that is why no test without a failing Close notices) … -/
theorem C14_equiv_latemap_partial (hasClose : Bool) (endedBy : RunRes) :
    Late.epilogue hasClose false (Late.pathResult false endedBy)
      = Late.epilogue hasClose false (Late.pathResult true endedBy) := by
  cases hasClose <;> cases endedBy <;> decide

/-- … and false when it fails: a preloaded run that ends at its pass limit hands "passes limit faced" to the deferred
function, which combines it with the error of Close into an error in which the sentinel is no longer found — `Run`
returns that, while the streaming run (whose path already returned nil) returns the error of Close. -/
theorem C14_equiv_latemap_counterexample : ¬ C14_equiv_latemap_statement := by
  intro h
  have := h true true .errPasses
  revert this
  decide

end Epilogue

/-! ## non-vacuity: concrete cells, evaluated by the kernel -/

-- the documented witness, repaired behaviour: limit 2 counts DELIVERED entries, both modes deliver [/b, /c]
example : (runWith .uri false [0, 1, 2] (fun i => decide (1 ≤ i)) ⟨2, 0⟩ none).map (fun o => (o.delivered, o.run, o.sinkClosed))
    = some ([1, 2], .nil, true) := by decide
example : (runWith .uri true [0, 1, 2] (fun i => decide (1 ≤ i)) ⟨2, 0⟩ none).map (fun o => (o.delivered, o.run, o.sinkClosed))
    = some ([1, 2], .nil, true) := by decide
-- the same through tags and a chosencases list: `/a t1, /b t2, /c t3`, limit 2, chosencases [t2, t3]
example : (run .uri false ["t1", "t2", "t3"] ["t2", "t3"] ⟨2, 0⟩ none).map (fun o => (o.delivered.map (·.id), o.run))
    = some ([1, 2], .nil) := by decide
example : (run .uri true ["t1", "t2", "t3"] ["t2", "t3"] ⟨2, 0⟩ none).map (fun o => (o.delivered.map (·.id), o.run))
    = some ([1, 2], .nil) := by decide
example : (listed ["t1", "t2", "t3"] ["t2", "t3"]).map (·.id) = [1, 2] ∧
    Spec.C14.expected 2 0 (listed ["t1", "t2", "t3"] ["t2", "t3"]).length = some 2 := by decide
-- passes count passes over the file, limit cuts inside the third pass of the chosen entries
example : (runWith .jsonArray false [0, 1, 2, 3] (fun i => decide (i % 2 = 1)) ⟨5, 3⟩ none).map (·.delivered)
    = some [1, 3, 1, 3, 1] := by decide
example : (runWith .jsonLines true [0, 1, 2, 3] (fun i => decide (i % 2 = 1)) ⟨0, 2⟩ none).map (·.delivered)
    = some [1, 3, 1, 3] := by decide
-- nothing chosen, passes = 0: both modes end with ErrNoAmmo
example : (runWith .raw false [0, 1, 2] (fun _ => false) ⟨2, 0⟩ none).map (fun o => (o.delivered, o.run, o.sinkClosed))
    = some ([], .errNoAmmo, true) := by decide
example : (runWith .raw true [0, 1, 2] (fun _ => false) ⟨2, 0⟩ none).map (fun o => (o.delivered, o.run, o.sinkClosed))
    = some ([], .errNoAmmo, true) := by decide
-- unbounded, cancelled after 5 acquisitions
example : (runWith .uripost false [0, 1, 2] (fun i => decide (i ≠ 1)) ⟨0, 0⟩ (some 5)).map (fun o => (o.delivered, o.run))
    = some ([0, 2, 0, 2, 0], .canceled) := by decide
-- cancelled in the middle of the second pass: limit 5, chosen [t2,t3], cancelled after 3 acquisitions
example : (run .jsonLines false ["t1", "t2", "t3"] ["t2", "t3"] ⟨5, 0⟩ (some 3)).map (fun o => (o.delivered.map (·.id), o.run, o.sinkClosed))
    = some ([1, 2, 1], .canceled, true) := by decide
example : (run .jsonLines true ["t1", "t2", "t3"] ["t2", "t3"] ⟨5, 0⟩ (some 3)).map (fun o => (o.delivered.map (·.id), o.run, o.sinkClosed))
    = some ([1, 2, 1], .canceled, true) := by decide
-- hypotheses of C14_chosen_cancelled / C14_passes_complete / C14_exactly_listed
example : ["t2", "t3"] ≠ [] ∧ 0 < (listed ["t1", "t2", "t3"] ["t2", "t3"]).length ∧
    (∀ m, Spec.C14.expected 5 0 (listed ["t1", "t2", "t3"] ["t2", "t3"]).length = some m → 3 < m) := by
  refine ⟨by decide, by decide, ?_⟩
  intro m h
  have : Spec.C14.expected 5 0 (listed ["t1", "t2", "t3"] ["t2", "t3"]).length = some 5 := by decide
  rw [this] at h; cases h; decide
example : (run .raw true ["t1", "t2", "t3"] ["t2", "t3"] ⟨0, 2⟩ none).map (fun o => o.delivered.map (·.id)) = some [1, 2, 1, 2] := by decide
-- the regenerated IsChosenCase on concrete tags: whole-tag, case-sensitive comparison; untagged entries
example : Gen.ChosenCases.isChosenCase "ab" ["a", "b"] = false ∧ Gen.ChosenCases.isChosenCase "B" ["b"] = false ∧
    Gen.ChosenCases.isChosenCase "" ["a"] = false ∧ Gen.ChosenCases.isChosenCase "" [""] = true ∧
    Gen.ChosenCases.isChosenCase "x" [] = true ∧ Gen.ChosenCases.isChosenCase "b" ["a", "b"] = true := by decide
-- the regenerated error branch of loadAmmo on concrete errors (C14_model_is_source, hypothesis `e ≠ .nil`): a cancel that
-- ended the load ↦ context.Canceled, "no ammo" with a live context ↦ "no ammo", no error ↦ on to the filter loop; an
-- empty http/json array with preload ends with the decoder's "no ammo" through this branch (`LoadAmmo` fails)
example : RunRes.errNoAmmo ≠ RunRes.nil ∧ Gen.ChosenCases.loadAmmoFail true .canceled = some .canceled ∧
    Gen.ChosenCases.loadAmmoFail false .errNoAmmo = some .errNoAmmo ∧ Gen.ChosenCases.loadAmmoFail false .nil = none ∧
    (match loadAmmo (fun b => scanArr b 0) ([] : List Nat) 3 ArrDec.init [] with
     | some (.error e) => decide (e = .errNoAmmo) | _ => false) = true ∧
    (runWith .jsonArray true ([] : List Nat) (fun _ => true) ⟨0, 0⟩ none).map (fun o => (o.delivered, o.run)) = some ([], .errNoAmmo) := by decide
-- C14_spec_holds: a cell cancelled in the middle (cap 3 < 5) and one that is not (cap 9 > 5) are not inconclusive
example : Spec.C14.inconclusive ⟨["t1", "t2", "t3"], ["t2", "t3"], 5, 0, 3⟩ = false ∧
    Spec.C14.inconclusive ⟨["t1", "t2", "t3"], ["t2", "t3"], 5, 0, 9⟩ = false ∧
    Spec.C14.inconclusive ⟨["t1", "t2", "t3"], ["t2", "t3"], 5, 0, 5⟩ = true := by decide
-- hypotheses of C14_chosen / C14_spec_holds are satisfiable
example : Spec.C14.expected 2 1 3 = some 2 ∧ target 2 1 3 none = some 2 := by decide
example : cyclicPrefix [1, 2] 5 = [1, 2, 1, 2, 1] := by decide

-- C14_precancelled_lines: raw, nothing chosen, preload; its hypothesis; http/json differs (the counterexample above)
example : (runWith .raw true [0, 1] (fun _ => false) ⟨0, 0⟩ (some 0)).map (fun o => (o.delivered, o.run)) = some ([], .canceled) ∧
    scanChecksCtx .raw = true ∧ scanChecksCtx .jsonArray = false := by decide
-- a uri source `[X-A: 1]`, `/e0 a`, `[x-a: 2]`, `/e1 b`, `[X-B: z]` with `headers: [X-C: c]`, two passes:
-- the header redeclared between the entries reaches only /e1, the trailing one nobody, on both passes, in both modes
example : (Model.C14H.runH .uri true ⟨["a", "b"], [[("X-A", "1")], [("x-a", "2")], [("X-B", "z")]], [("X-C", "c")]⟩ [] ⟨0, 2⟩ none).map
      (fun o => o.delivered.map (fun e => (e.id, e.hdr)))
    = some [(0, [("X-A", ["1"]), ("X-C", ["c"])]), (1, [("X-A", ["2"]), ("X-C", ["c"])]),
            (0, [("X-A", ["1"]), ("X-C", ["c"])]), (1, [("X-A", ["2"]), ("X-C", ["c"])])] := by decide
-- the same source through the decoder WITH its accumulator (`scanLines`), streaming, limit 3 (cut inside pass 2)
example : (Model.C14H.runLines ⟨["a", "b"], [[("X-A", "1")], [("x-a", "2")], [("X-B", "z")]], [("X-C", "c")]⟩ false
      (fun _ => true) ⟨3, 0⟩ none).map (fun o => o.delivered.map (fun e => (e.id, e.hdr)))
    = some [(0, [("X-A", ["1"]), ("X-C", ["c"])]), (1, [("X-A", ["2"]), ("X-C", ["c"])]),
            (0, [("X-A", ["1"]), ("X-C", ["c"])])] := by decide
-- what the harness reads off the requests: Host from the source beats Host from the option; http/json ignores both
example : Drv.C14.ehdrOf .uripost ⟨["a", "b"], [[("Host", "f.example")], [("x-a", "2")], []], [("Host", "cfg.example"), ("X-C", "c1"), ("x-c", "c2")]⟩
      = ["f.example^X-C=c1+c2", "f.example^X-A=2&X-C=c1+c2"] ∧
    Drv.C14.ehdrOf .jsonArray ⟨["a", "b"], [[("X-A", "1")], [], []], [("Host", "cfg.example"), ("x-a", "c")]⟩
      = ["h.example^X-A=1", "h.example^X-A=c"] ∧
    Drv.C14.ehdrOf .raw ⟨["a", "b"], [[("X-A", "1")], [], []], [("Host", "cfg.example"), ("x-a", "c")]⟩
      = ["h.example^X-A=1", "h.example^X-A=c"] := by decide
-- hypotheses of C14_lines_handout (initial state) and of C14_alias_partial (header lines only on top)
example : Proofs.C14H.RLine ⟨["a", "b"], [[("X-A", "1")], [], []], []⟩ 0 0 Model.C14H.LDec.init ∧
    0 < (⟨["a", "b"], [[("X-A", "1")], [], []], []⟩ : Model.C14H.Source).n :=
  ⟨Proofs.C14H.RLine_init _, by decide⟩
example : ∀ i, 1 ≤ i → (⟨["a", "b"], [[("X-A", "1")]], []⟩ : Model.C14H.Source).block i = [] := by
  intro i hi
  match i, hi with
  | i + 1, _ => simp [Model.C14H.Source.block]
-- the Spec's request part is not vacuous: a side whose /e0 carries the header declared for /e1 is rejected
example : Spec.C14.renderHd ["^", "^X-A=1"] [0, 1, 0, 1] = "0:^|1:^X-A=1" ∧ Spec.C14.renderHd ["^", "^"] [1, 0] = "*:^" ∧
    Spec.C14.renderHd ["^"] [] = "-" := by decide

-- the epilogue on concrete runs.  `/e0 a, /e1 b, /e2 a`, chosencases [a], passes 2, closing the file fails:
-- both modes deliver [0,2,0,2], close the source once, and return the error of Close
example : (runFinal .uri false (mkFile ["a", "b", "a"]) (isChosen ["a"]) ⟨0, 2⟩ none true true).map
      (fun f => (f.delivered.map (·.id), f.fin.closeCalls, f.fin.sinkClosed, f.fin.err.token)) = some ([0, 2, 0, 2], 1, true, "closeerr") ∧
    (runFinal .uri true (mkFile ["a", "b", "a"]) (isChosen ["a"]) ⟨0, 2⟩ none true true).map
      (fun f => (f.delivered.map (·.id), f.fin.closeCalls, f.fin.sinkClosed, f.fin.err.token)) = some ([0, 2, 0, 2], 1, true, "closeerr") := by decide
-- the same cancelled after 3 acquisitions: context.Canceled and the close error become ONE error in which neither is found
example : (runFinal .jsonArray true (mkFile ["a", "b", "a"]) (isChosen ["a"]) ⟨0, 2⟩ (some 3) true true).map
      (fun f => (f.delivered.map (·.id), f.fin.closeCalls, f.fin.err.token)) = some ([0, 2, 0], 1, "other") ∧
    (runFinal .jsonArray true (mkFile ["a", "b", "a"]) (isChosen ["a"]) ⟨0, 2⟩ (some 3) true false).map
      (fun f => (f.delivered.map (·.id), f.fin.closeCalls, f.fin.err.token)) = some ([0, 2, 0], 1, "canceled") := by decide
-- hypotheses of C14_final_run / C14_close_fault are satisfiable; the regenerated deferred function on concrete values
example : target 0 2 ((mkFile ["a", "b", "a"]).filter (isChosen ["a"])).length none = some 4 ∧
    (runWith .raw false (mkFile ["a", "b", "a"]) (isChosen ["zz"]) ⟨0, 2⟩ none).map (·.run) = some .errNoAmmo ∧
    Gen.ChosenCases.httpRunDefer true true (EV.ofRun .nil) = ⟨true, 1, ⟨.errOther, true⟩⟩ ∧
    Gen.ChosenCases.httpRunDefer true true (EV.ofRun .errNoAmmo) = ⟨true, 1, ⟨.errOther, false⟩⟩ ∧
    Gen.ChosenCases.httpRunDefer true false (EV.ofRun .canceled) = ⟨true, 1, ⟨.canceled, false⟩⟩ ∧
    Gen.ChosenCases.httpRunDefer false true (EV.ofRun .nil) = ⟨true, 0, ⟨.nil, false⟩⟩ := by decide
-- the source switch on concrete configurations: uris with the raw decoder, a file and uris, no source, uris alone, a file alone
example : sourceAccepted .raw 2 false = false ∧ sourceAccepted .uri 2 true = false ∧ sourceAccepted .uri 0 false = false ∧
    sourceAccepted .uri 2 false = true ∧ sourceAccepted .jsonArray 0 true = true := by decide
-- what the harness prints for these errors; errors.Join instead of the two `%w` would keep both parts findable
example : (EV.ofClose true).token = "closeerr" ∧ (EV.join (EV.ofRun .canceled) (EV.ofClose true) true true).token = "canceled+closeerr" ∧
    (EV.join (EV.ofRun .canceled) (EV.ofClose true) false false).token = "other" ∧ (EV.ofRun .nil).token = "nil" := by decide

/-! ## the definitions regenerated by symbolic execution, on concrete values -/

/-- non-vacuity: the body of `Run` as regenerated by symbolic execution, on concrete results of the path methods -/
example : Gen.ChosenCases.httpRunBody true .nil .errPasses .nil = (["loadAmmo", "runPreloaded"], .nil) ∧
    Gen.ChosenCases.httpRunBody true .nil .canceled .nil = (["loadAmmo", "runPreloaded"], .canceled) ∧
    Gen.ChosenCases.httpRunBody true .errNoAmmo .nil .nil = (["loadAmmo"], .errNoAmmo) ∧
    Gen.ChosenCases.httpRunBody false .nil .nil .canceled = (["runFullScan"], .canceled) := by decide

/-- non-vacuity: the regenerated filter loop of loadAmmo and the regenerated IsChosenCase on an unsorted list
(only observable values: the way the source scans the list may change) -/
example : Gen.ChosenCases.loadAmmoKeep (fun n : Nat => n % 2 == 0) [1, 2, 3, 4] = [2, 4] ∧
    Gen.ChosenCases.isChosenCase "a" ["b", "a"] = true ∧ Gen.ChosenCases.isChosenCase "a" ["ab", "b"] = false ∧
    Gen.ChosenCases.passCounterImplemented = true := by decide

/-- non-vacuity: one iteration of each regenerated loop on concrete states — the limit is reached; nothing
delivered after a complete pass; a chosen ammo is offered and counted; a filtered-out ammo is not counted; the replay
offers entry `k % length` -/
example :
    (match Gen.ChosenCases.runFullScanStep 2 false 2 0 (.ammo 0) true with | .ret .nil => true | _ => false) = true ∧
    (match Gen.ChosenCases.runFullScanStep 0 false 0 1 (.ammo 0) true with | .ret .errNoAmmo => true | _ => false) = true ∧
    (match Gen.ChosenCases.runFullScanStep 5 false 1 0 (.ammo 3) true with | .offer 3 2 => true | _ => false) = true ∧
    (match Gen.ChosenCases.runFullScanStep 5 false 1 0 (.ammo 3) false with | .tau 1 => true | _ => false) = true ∧
    (match Gen.ChosenCases.runPreloadedStep 0 0 3 false 7 0 with | .offer 1 (8, _) => true | _ => false) = true ∧
    (match Gen.ChosenCases.runPreloadedStep 2 0 3 false 6 0 with | .ret .errPasses => true | _ => false) = true := by decide

/-! ## a cancellation that lands while the decoder is inside `Scan` (Model/C14Mid.lean)

`plan.j` = the Scan call of the run during which the context is cancelled (any), `plan.notices` / `plan.sendWins` = how
the two races it opens are decided (any).  The decoders' way of handing on a cancelled context (`Bridge.C14.ctxRetOf`)
and loadAmmo's normalisation are the REGENERATED ones. -/

/-- **However the cancellation lands, both modes end in a way core/engine recognises.**  For every format, file,
chosen-predicate, limit, passes, every Scan call in which the cancel lands and every outcome of the races: a run that
ends, ends with an error that is nil, a sentinel class, or the context's OWN error (errutil.IsCtxError holds — a stopped
run, not a failed provider) — with preload off and on alike; the preloaded provider has delivered nothing. -/
theorem C14_midscan_recognised (k : Fmt) (preload : Bool) (file : List α) (chosen : α → Bool) (b : Bounds)
    (plan : MidPlan) (fuel : Nat) (o : List α) (e : MidEnd)
    (h : runMid k preload file chosen b (Bridge.C14.ctxRetOf k) true plan fuel = some (o, e)) :
    e.recognised = true ∧ (preload = true → o = []) := by
  rw [Bridge.C14.scan_ctx_source.2 k] at h
  cases preload
  · refine ⟨?_, by simp⟩
    cases k <;> exact fullScanMid_recognised _ _ _ _ _ _ _ _ _ _ _ _ _ _ h
  · have := by
      cases k <;> exact preloadMid_recognised _ _ _ _ _ _ _ _ _ _ h
    exact ⟨this.2, fun _ => this.1⟩

/-- **Wherever the cancel lands, only listed entries are delivered.**  Every ammo the streaming provider has delivered
when it ends is an entry of the file that the filter chooses (the preloaded one has delivered nothing:
`C14_midscan_recognised`) — for every Scan call in which the cancel lands and every outcome of the races. -/
theorem C14_midscan_only_chosen (k : Fmt) (file : List α) (chosen : α → Bool) (b : Bounds) (ret : CtxRet) (norm : Bool)
    (plan : MidPlan) (fuel : Nat) (o : List α) (e : MidEnd)
    (h : runMid k false file chosen b ret norm plan fuel = some (o, e)) :
    ∀ a ∈ o, a ∈ file ∧ chosen a = true := by
  have key : ∃ more, o = [] ++ more ∧ ∀ a ∈ more, a ∈ file ∧ chosen a = true := by
    cases k <;> exact fullScanMid_only_chosen _ _ _ _ _ _ _ _ _ _ _ _ _ _ _ h
  obtain ⟨more, rfl, hm⟩ := key
  simpa using hm

/-- **The cancel lands in the first read of the file** (what the harness drives, `rc=1`): something is chosen; the
streaming provider delivers nothing or — the first entry being chosen and the send winning the race — that entry,
the preloaded provider nothing; BOTH end with the context's own error. -/
theorem C14_midscan_first (k : Fmt) (a : α) (rest : List α) (chosen : α → Bool) (b : Bounds) (notices sendWins : Bool)
    (fuel : Nat) (hfuel : rest.length + 2 ≤ fuel) (hf : 0 < ((a :: rest).filter chosen).length) :
    ∃ os, runMid k false (a :: rest) chosen b (Bridge.C14.ctxRetOf k) true ⟨0, notices, sendWins⟩ (fuel + 1)
            = some (os, ⟨.canceled, true⟩) ∧
          runMid k true (a :: rest) chosen b (Bridge.C14.ctxRetOf k) true ⟨0, notices, sendWins⟩ (fuel + 1)
            = some ([], ⟨.canceled, true⟩) ∧
          (os = [] ∨ (os = [a] ∧ chosen a = true)) := by
  rw [Bridge.C14.scan_ctx_source.2 k, runMid_stream_first]
  have hp := runMid_preload_first k a rest chosen b .bare notices sendWins fuel hfuel hf
  by_cases h1 : (scanChecksCtx k && notices) = true
  · exact ⟨[], by simp [h1, scanCtxEnd], hp, Or.inl rfl⟩
  · by_cases h2 : (chosen a && sendWins) = true
    · refine ⟨[a], by simp [h1, h2, ownCtxEnd], hp, Or.inr ⟨rfl, ?_⟩⟩
      simp at h2; exact h2.1
    · exact ⟨[], by simp [h1, h2, ownCtxEnd], hp, Or.inl rfl⟩

/-- the same claim for a decoder that hands the cancelled context on WRAPPED with `%w` (seeded change C14-r5-1) -/
def C14_midscan_wrapped_statement : Prop :=
  ∀ (k : Fmt) (a : Nat) (rest : List Nat) (chosen : Nat → Bool) (b : Bounds) (notices sendWins : Bool),
    0 < ((a :: rest).filter chosen).length →
    (runMid k false (a :: rest) chosen b .wrapped true ⟨0, notices, sendWins⟩ (rest.length + 3)).map (·.2) =
    (runMid k true (a :: rest) chosen b .wrapped true ⟨0, notices, sendWins⟩ (rest.length + 3)).map (·.2)

/-- … is false: a uripost file that starts with a header line (the Scan call goes round its loop once more and notices
the cancel): streaming ends with an error the engine does not recognise, preload with the context's own -/
theorem C14_midscan_wrapped_counterexample : ¬ C14_midscan_wrapped_statement := by
  intro h
  have := h .uripost 0 [] (fun _ => true) ⟨0, 0⟩ true false (by decide)
  revert this; decide

/-- what is true of the wrapped variant: as long as the Scan call does not go round its loop again both modes still
end alike -/
theorem C14_midscan_wrapped_partial (k : Fmt) (a : Nat) (rest : List Nat) (chosen : Nat → Bool) (b : Bounds) (sendWins : Bool)
    (hf : 0 < ((a :: rest).filter chosen).length) :
    (runMid k false (a :: rest) chosen b .wrapped true ⟨0, false, sendWins⟩ (rest.length + 3)).map (·.2) =
    (runMid k true (a :: rest) chosen b .wrapped true ⟨0, false, sendWins⟩ (rest.length + 3)).map (·.2) := by
  rw [runMid_stream_first]
  have hp := runMid_preload_first k a rest chosen b .wrapped false sendWins (rest.length + 2) (Nat.le_refl _) hf
  rw [hp]
  by_cases h2 : (chosen a && sendWins) = true <;> simp [h2, ownCtxEnd]

/-- the regenerated facts the three theorems above rest on -/
theorem C14_midscan_is_source :
    ((Gen.C14Hdr.uriScanChecksCtx = scanChecksCtx .uri ∧ Gen.C14Hdr.uripostScanChecksCtx = scanChecksCtx .uripost ∧
      Gen.C14Hdr.rawScanChecksCtx = scanChecksCtx .raw ∧ Gen.C14Hdr.jsonScanChecksCtx = scanChecksCtx .jsonLines ∧
      Gen.C14Hdr.jsonScanChecksCtx = scanChecksCtx .jsonArray) ∧
     (∀ k, Bridge.C14.ctxRetOf k = .bare)) ∧
    ((∀ eb, Gen.ChosenCases.loadAmmoFailBare true .canceled eb = some true) ∧
     (∀ c e eb, Gen.ChosenCases.loadAmmoFailBare c e eb = none ↔ Gen.ChosenCases.loadAmmoFail c e = none)) ∧
    (ownCtxEnd = ⟨Gen.ChosenCases.runFullScanDone, Gen.ChosenCases.runFullScanCtxBare⟩ ∧
     ownCtxEnd = ⟨Gen.ChosenCases.runPreloadedDone, Gen.ChosenCases.runPreloadedCtxBare⟩) :=
  ⟨Bridge.C14.scan_ctx_source, Bridge.C14.loadFail_bare_source, Bridge.C14.own_ctx_source⟩

/-- **Where the two modes can part.**  In the current source the config field `Preload` is read by exactly two
functions: `Provider.Run` (which path — everything `C14_equiv` … `C14_midscan_first` are about) and `Provider.Release`
(a preloaded ammo is not handed back to the decoder's pool).  NewProvider, the decoders' constructors and Scan
functions, Acquire, loadAmmo, runFullScan and runPreloaded never ask: a new reader re-opens this obligation. -/
theorem C14_preload_read_only_by_run_and_release :
    Gen.ChosenCases.preloadReadSites = ["provider.Provider.Release", "provider.Provider.Run"] ∧
    (∀ preload, Gen.ChosenCases.releaseToPool preload = !preload) :=
  ⟨Bridge.C14.preload_sites_source, fun p => by rw [Bridge.C14.release_source]; rfl⟩

-- non-vacuity: a run of three entries, two chosen, cancel inside the SECOND Scan call, noticed there
example : runMid .uripost false [1, 2, 3] (fun x => x != 2) ⟨0, 2⟩ (Bridge.C14.ctxRetOf .uripost) true ⟨1, true, false⟩ 9
    = some ([1], ⟨.canceled, true⟩) := by decide
example : runMid .uripost true [1, 2, 3] (fun x => x != 2) ⟨0, 2⟩ (Bridge.C14.ctxRetOf .uripost) true ⟨1, true, false⟩ 9
    = some ([], ⟨.canceled, true⟩) := by decide
-- the hypotheses of C14_midscan_first, and its two streaming outcomes
example : (2 : Nat) + 2 ≤ 4 ∧ 0 < (([1, 2, 3] : List Nat).filter (fun x => x != 2)).length := by decide
example : runMid .jsonArray false [1, 2, 3] (fun x => x != 2) ⟨0, 0⟩ .bare true ⟨0, false, true⟩ 5 = some ([1], ⟨.canceled, true⟩) ∧
    runMid .jsonArray false [1, 2, 3] (fun x => x != 2) ⟨0, 0⟩ .bare true ⟨0, false, false⟩ 5 = some ([], ⟨.canceled, true⟩) ∧
    runMid .jsonArray true [1, 2, 3] (fun x => x != 2) ⟨0, 0⟩ .bare true ⟨0, false, true⟩ 5 = some ([], ⟨.canceled, true⟩) := by decide

end Pandora.Props.C14
