/-
C13 — malformed ammo, scenario or config input is rejected, never crashes or hangs.

The models (`Pandora.Model.C13*`) make every partial Go operation an explicit outcome - slice / index expression,
`make` with a negative or absurd size, integer remainder and division, `Intn`, type assertion, method call on a nil
interface - so "no panic" is a real statement: it is proved by exhibiting the bound each operation relies on.
Every model carries the code variant `fixed : Bool`: `true` is the repaired code (the `fix:` commits of /repo and
fixes/C13-*.diff), `false` the tree as found. All theorems quantify over ALL inputs (all byte strings, all integers,
all paths, all weight lists, all oracles for the third-party `url.Parse` / jsoniter), with no size bound.

* `C13_no_panic`             the function returns a value or an error, never panics or dies   (+ one theorem per component)
* `C13_rejected_or_skipped`  a malformed input is answered by an error, or skipped with continue_on_error
* `C13_prefix_preserved`     entries before the malformed part are delivered exactly as without it
* `C13_terminates`           the decoding loops stop (measure: unread bytes), the GCD loop stops, an empty pass is not repeated
                             (grpc/json, the four http decoders, `MultiPassReader` under the generic JSON provider)
* `…_counterexample`         the statement for `fixed := false` is refuted by the witness of the defect
* `C13_unrepaired_*`         the same witnesses, as computed facts about the tree as found
-/
import Pandora.Proofs.C13Ammo
import Pandora.Proofs.C13Funcs
import Pandora.Proofs.C13Multi
import Pandora.Proofs.C13Jsonline
import Pandora.Proofs.C13Grpc
import Pandora.Proofs.C13Cfg
import Pandora.Proofs.C13Csv
import Pandora.Proofs.C13Run
import Pandora.Bridge.C13

namespace Pandora.Props.C13
open Pandora.Model.C13 Pandora.Proofs.C13

/-- a provider run ended by plain return: end of data, or an error value -/
def Returned (r : Run) : Prop := r.end_ = .ok ∨ ∃ c, r.end_ = .err c

/-- the same for a grpc/json run -/
def GReturned (r : GRun) : Prop := r.end_ = .ok ∨ ∃ c, r.end_ = .err c

/-- `good` is a complete well-formed piece of a raw file: decoded alone it ends at the end of data, and it is empty or
ends with a newline (since dbbf16d the raw decoder decodes a last line without newline, which more bytes would lengthen) -/
def WellFormed (run : Bytes → Run) (good : Bytes) : Prop := (run good).end_ = .ok ∧ Terminated good

/-- `good` is a well-formed piece of a uripost file: decoded alone it ends at the end of data, and it is empty or ends
with a newline (the uripost decoder also decodes a last line without newline, which more bytes would lengthen) -/
def WellFormedU (run : Bytes → Run) (good : Bytes) : Prop := (run good).end_ = .ok ∧ Terminated good

/-! ## never panics -/

/-- uripost files: every byte string, every `url.Parse` oracle -/
theorem C13_no_panic_uripost (urlOk : Bytes → Bool) (s : Bytes) : Returned (uripostRun true urlOk s) :=
  (lineRun_end (uripostLine_lineStep true urlOk) s).imp id (·.2 rfl)

/-- raw (size-prefixed HTTP request) files: every byte string -/
theorem C13_no_panic_raw (s : Bytes) : Returned (rawRun true s) :=
  (lineRun_end (rawLine_lineStep true) s).imp id (·.2 rfl)

/-- uri files: every byte string (this decoder needed no repair) -/
theorem C13_no_panic_uri (urlOk : Bytes → Bool) (s : Bytes) : Returned (uriRun urlOk s) :=
  End.clean_iff.mp (uriLines_end_clean urlOk _)

/-- `util.DecodeHeader` on every string: `h[0]`, `h[len-1]`, `h[1:len-1]` are inside the string -/
theorem C13_no_panic_decodeHeader (h : Bytes) : (decodeHeader h).returns = true := decodeHeader_returns h

/-- `str.ParseStringFunc` on every string: the three slice expressions are inside the string -/
theorem C13_no_panic_parseStringFunc (shoot : Bytes) : (parseStringFunc shoot).returns = true :=
  parseStringFunc_returns shoot

theorem C13_no_panic_parseShootName (shoot : Bytes) : (parseShootName shoot).returns = true :=
  parseShootName_returns shoot

/-- scenario request lists (http and grpc `convertScenarioToAmmo`): every list of strings, every request registry -/
theorem C13_no_panic_expand (known : Bytes → Bool) (reqs : List Bytes) : (expand true known reqs).returns = true :=
  expandGo_fixed_returns known reqs []

/-- `mp.calcIndex`: every index string, every length (empty, negative), every iterator value:
an error, or an index inside `[0, length)` - which is what makes the following `v[index]` safe -/
theorem C13_no_panic_calcIndex (indexStr : Bytes) (length next : Int) (rnd : Nat) (hnext : 0 ≤ next) :
    (∃ c, calcIndex true indexStr length next rnd = .err c) ∨
    (∃ i, calcIndex true indexStr length next rnd = .ok i ∧ 0 ≤ i ∧ i < length) :=
  calcIndex_fixed indexStr length next rnd hnext

/-- `mp.GetMapValue`: every variable tree, every path, every iterator state -/
theorem C13_no_panic_getMapValue (cur : List (Bytes × Val)) (path : Bytes) (st : IterState) (rnd : Nat) :
    (getMapValue true cur path st rnd).1.returns = true :=
  getGo_fixed_returns rnd _ _

/-- `${type:var}` placeholders: every string, every environment, every file system -/
theorem C13_no_panic_resolveTags (env : Bytes → Option Bytes) (fileOf : Bytes → Option (List Bytes)) (s : Bytes) :
    (resolveTags true env fileOf s).returns = true :=
  resolveGo_fixed_returns env fileOf _ _

theorem C13_no_panic_propertyResolve (fileOf : Bytes → Option (List Bytes)) (inp : Bytes) :
    (propertyResolve true fileOf inp).returns = true :=
  propertyResolve_fixed_returns fileOf inp

/-- `randInt(f, t)`: all pairs of integers (equal, reversed, spanning more than int64) -/
theorem C13_no_panic_randInt (f t : Int) (rnd : Nat) : (randInt true f t rnd).returns = true := by
  unfold randInt
  simp only
  generalize randIntBounds true f t = b
  by_cases hd : wrap64 (b.2 - b.1) ≤ 0
  · simp [hd, ret_err]
  · -- rand.Int63n(t - f): the argument is positive
    simp only [hd, Bool.true_and, decide_false, Bool.false_eq_true, if_false]
    rw [intnC_ok _ _ (by omega)]
    exact ret_ok _

/-- `cli.readConfig`: every shape of the `pools` value (missing, scalar, list with non-mapping items) -/
theorem C13_no_panic_readConfig (p : PoolsVal) : ∃ v, massagePools true p = .ok v := by
  cases p with
  | absent => exact ⟨.absent, rfl⟩
  | notList => exact ⟨.notList, rfl⟩
  | list items =>
    obtain ⟨l, hl, _⟩ := massageItems_fixed items
    exact ⟨.list l, by simp [massagePools, hl]⟩

/-! ## terminates (measure: number of unread bytes; holds for the unrepaired code too) -/

theorem C13_terminates_uripost (fixed : Bool) (urlOk : Bytes → Bool) (s : Bytes) :
    (uripostRun fixed urlOk s).end_ ≠ .fuel :=
  (lineRun_end (uripostLine_lineStep fixed urlOk) s).elim (fun h => h ▸ End.noConfusion) (·.1.1)

theorem C13_terminates_raw (fixed : Bool) (s : Bytes) : (rawRun fixed s).end_ ≠ .fuel :=
  (lineRun_end (rawLine_lineStep fixed) s).elim (fun h => h ▸ End.noConfusion) (·.1.1)

/-- every decoding step that does not stop consumes at least one byte -/
theorem C13_terminates_step (fixed : Bool) (urlOk : Bytes → Bool) (s : Bytes) :
    Step.decreases s (uripostStep fixed urlOk s) ∧ Step.decreases s (rawStep fixed s) :=
  ⟨uripostStep_decreases fixed urlOk s, rawStep_decreases fixed s⟩

/-! ## prefix preserved -/

/-- uripost: whatever follows a well-formed piece of file - garbage, a negative size, a truncated entry, nothing -
the entries of the well-formed piece are delivered unchanged and first; the rest is decoded as if it stood alone -/
theorem C13_prefix_preserved_uripost (fixed : Bool) (urlOk : Bytes → Bool) (good junk : Bytes)
    (h : WellFormedU (uripostRun fixed urlOk) good) :
    (uripostRun fixed urlOk (good ++ junk)).entries =
      (uripostRun fixed urlOk good).entries ++ (uripostRun fixed urlOk junk).entries := by
  rw [uripostRun_append fixed urlOk good junk h.1 h.2]; rfl

theorem C13_prefix_preserved_raw (fixed : Bool) (good junk : Bytes) (h : WellFormed (rawRun fixed) good) :
    (rawRun fixed (good ++ junk)).entries = (rawRun fixed good).entries ++ (rawRun fixed junk).entries := by
  rw [rawRun_append fixed good junk h.1 h.2]; rfl

/-- uri: `good` is a block of complete lines (the `\n` after it is written explicitly) that decodes cleanly -/
theorem C13_prefix_preserved_uri (urlOk : Bytes → Bool) (good junk : Bytes) (h : (uriRun urlOk good).end_ = .ok) :
    uriRun urlOk (good ++ 10 :: junk) = (uriRun urlOk junk).prepend (uriRun urlOk good).entries := by
  unfold uriRun at h ⊢
  have hne := split_ne_nil good 10
  have hsplit : split good 10 = (split good 10).dropLast ++ [(split good 10).getLast hne] :=
    (List.dropLast_concat_getLast hne).symm
  rw [split_append_sep good junk 10 _ _ hsplit]
  have e : (split good 10).dropLast ++ (split good 10).getLast hne :: split junk 10 = split good 10 ++ split junk 10 := by
    conv => rhs; rw [hsplit]
    simp
  rw [e]
  exact uriLines_append urlOk _ _ h

/-! ## rejected -/

/-- a negative announced size is an error (uripost and raw share the reader) -/
theorem C13_rejected_negative_size (size : Int) (rest : Bytes) (h : size < 0) :
    readBody true size rest = .err "size" := by
  rcases readBody_fixed size rest with ⟨_, h'⟩ | ⟨h0, _, _⟩ | ⟨h0, _, _⟩
  · exact h'
  · omega
  · omega

/-- an announced size beyond what the file holds (truncated body, absurdly large size) is an error,
whatever the size: nothing is allocated from the announced number -/
theorem C13_rejected_oversize (size : Int) (rest : Bytes) (h : size > rest.length) :
    readBody true size rest = .err "trunc" ∨ readBody true size rest = .err "size" := by
  rcases readBody_fixed size rest with ⟨_, h'⟩ | ⟨_, _, h'⟩ | ⟨_, h1, _⟩
  · right; exact h'
  · left; exact h'
  · omega

/-- uripost: if the first thing after a well-formed piece is something the decoder refuses, the run delivers exactly
the well-formed entries and ends with that refusal, which is an error value -/
theorem C13_rejected_uripost (urlOk : Bytes → Bool) (good junk : Bytes) (e : End)
    (h : WellFormedU (uripostRun true urlOk) good) (hj : uripostStep true urlOk junk = .fail e) :
    uripostRun true urlOk (good ++ junk) = ⟨(uripostRun true urlOk good).entries, e, junk⟩ ∧ ∃ c, e = .err c :=
  lineRun_rejected (uripostLine_lineStep true urlOk) good junk e h.1 h.2 hj

theorem C13_rejected_raw (good junk : Bytes) (e : End)
    (h : WellFormed (rawRun true) good) (hj : rawStep true junk = .fail e) :
    rawRun true (good ++ junk) = ⟨(rawRun true good).entries, e, junk⟩ ∧ ∃ c, e = .err c :=
  lineRun_rejected (rawLine_lineStep true) good junk e h.1 h.2 hj

/-- raw, since dbbf16d: a LAST size line that lacks its newline and announces a request (`size ≠ 0`) is refused - nothing
follows it, so what it announces is not there - after exactly the entries of the well-formed piece in front of it
(before dbbf16d the line was dropped and the truncated file accepted: `C13_unrepaired_raw_drops_last_size_line`) -/
theorem C13_rejected_raw_unterminated_size_line (good line : Bytes) (size : Int) (tag : Bytes)
    (h : WellFormed (rawRun true) good) (hnl : cut line 10 = none) (hne : ¬ (trimSpace line).isEmpty)
    (hd : decodeRawHeader (trimSpace line) = .ok (size, tag)) (hs : size ≠ 0) :
    (rawRun true (good ++ line)).entries = (rawRun true good).entries ∧
    ((rawRun true (good ++ line)).end_ = .err "trunc" ∨ (rawRun true (good ++ line)).end_ = .err "size") := by
  have hl : line ≠ [] := by
    intro hl; subst hl; exact hne (by decide)
  have hr : readLineU line = some (line, []) := by
    unfold readLineU; rw [hnl]; cases line with
    | nil => exact absurd rfl hl
    | cons _ _ => simp
  have hstep : ∃ e, rawStep true line = .fail e ∧ (e = .err "trunc" ∨ e = .err "size") := by
    unfold rawStep; rw [hr]; simp only
    unfold rawLine; simp only [hne, if_false, hd, hs]
    rcases readBody_fixed size [] with ⟨_, h'⟩ | ⟨_, _, h'⟩ | ⟨h0, h1, _⟩
    · exact ⟨_, by rw [h']; simp [endOfRes], .inr rfl⟩
    · exact ⟨_, by rw [h']; simp [endOfRes], .inl rfl⟩
    · simp at h1; omega
  obtain ⟨e, he, hcls⟩ := hstep
  have := (C13_rejected_raw good line e h he).1
  rw [this]
  exact ⟨rfl, hcls⟩

/-- a size line with a negative size is refused by the uripost step, whatever follows -/
theorem C13_rejected_uripost_negative_line (urlOk : Bytes → Bool) (line rest : Bytes) (size : Int) (uri tag : Bytes) (b : UInt8)
    (hne : ¬ (trimSpace line).isEmpty) (hb : indexC (trimSpace line) 0 = .ok b) (hb' : b ≠ 91)
    (hd : decodeURI (trimSpace line) = .ok (size, uri, tag)) (hu : urlOk uri = true) (hneg : size < 0) :
    uripostLine true urlOk line rest = .fail (.err "size") := by
  unfold uripostLine
  simp only [hne, Bool.false_eq_true, if_false, hb]
  -- (`simp only` has already chosen the `.ok _` arm: the literal arm `.ok 91` is excluded by `hb'`)
  split
  · rename_i sz u t heq
    rw [hd] at heq
    simp only [Res.ok.injEq, Prod.mk.injEq] at heq
    obtain ⟨rfl, rfl, rfl⟩ := heq
    simp [hu, C13_rejected_negative_size size rest hneg, endOfRes]
  · rename_i h2; exact absurd hd (h2 size uri tag)

/-- a header line that does not end with `]` is an error -/
theorem C13_rejected_header_no_bracket (h : Bytes) (hl : 3 ≤ h.length)
    (hlast : indexC h ((h.length : Int) - 1) = .ok b) (hb : b ≠ 93) : decodeHeader h = .err "hdr" := by
  unfold decodeHeader
  have : ¬ h.length < 3 := by omega
  simp only [this, if_false]
  obtain ⟨a, ha⟩ := indexC_ok h 0 (by omega) (by omega)
  rw [ha]; simp only
  split
  · rfl
  · rw [hlast]; simp [hb]

/-- a scenario whose request list starts with `sleep(…)` is an error at provider construction -/
theorem C13_rejected_leading_sleep (known : Bytes → Bool) (sh : Bytes) (rest : List Bytes) (cnt sl : Int)
    (h : parseShootName sh = .ok ⟨sleepName, cnt, sl⟩) :
    expand true known (sh :: rest) = .err "leading-sleep" := by
  unfold expand expandGo
  simp [h, addSleep]

/-- a request name that is not defined makes the scenario an error, wherever it stands in the list -/
theorem C13_rejected_unknown_request (known : Bytes → Bool) (pre : List Bytes) (sh : Bytes) (rest : List Bytes)
    (name : Bytes) (cnt sl : Int) (h : parseShootName sh = .ok ⟨name, cnt, sl⟩)
    (hn : name ≠ sleepName) (hk : known name = false) :
    (expand true known (pre ++ sh :: rest)).isOk = false ∧ (expand true known (pre ++ sh :: rest)).returns = true := by
  refine ⟨expandGo_rejects true known pre sh rest ?_ [], expandGo_fixed_returns known _ []⟩
  intro acc
  unfold expandGo
  simp [h, hn, hk, Res.isOk]

/-- `name(n)` with a count that is not an integer (or any other string `ParseShootName` refuses) -/
theorem C13_rejected_bad_shoot (known : Bytes → Bool) (pre : List Bytes) (sh : Bytes) (rest : List Bytes) (c : String)
    (h : parseShootName sh = .err c) :
    (expand true known (pre ++ sh :: rest)).isOk = false ∧ (expand true known (pre ++ sh :: rest)).returns = true := by
  refine ⟨expandGo_rejects true known pre sh rest ?_ [], expandGo_fixed_returns known _ []⟩
  intro acc
  unfold expandGo
  simp [h, Res.isOk]

/-- `[next]`, `[rand]`, `[last]`, `[0]`, `[-1]`, … on an empty source -/
theorem C13_rejected_empty_source (indexStr : Bytes) (next : Int) (rnd : Nat) :
    ∃ c, calcIndex true indexStr 0 next rnd = .err c :=
  calcIndex_fixed_nonpos indexStr 0 next rnd (Int.le_refl 0)

/-- `${property:file}` without `#` -/
theorem C13_rejected_property_no_hash (fileOf : Bytes → Option (List Bytes)) (inp : Bytes)
    (h : cut inp 35 = none) : propertyResolve true fileOf inp = .err "format" := by
  unfold propertyResolve
  simp [h]

/-- `randInt(f, f)` for an in-range `f`: a value in `[f, f+10)` -/
theorem C13_randInt_equal_bounds (f : Int) (rnd : Nat) (h0 : minInt64 ≤ f) (h1 : f + 10 ≤ maxInt64) (hf : f ≠ 0) :
    ∃ v, randInt true f f rnd = .ok v ∧ f ≤ v ∧ v < f + 10 := by
  unfold randInt randIntBounds
  have e1 : wrap64 (f + 10) = f + 10 := wrap64_id _ (by unfold minInt64 at *; omega) h1
  have e2 : wrap64 (f + 10 - f) = 10 := by
    have : f + 10 - f = 10 := by omega
    rw [this]; unfold wrap64; omega
  simp [hf, e1, e2]
  rw [intnC_ok 10 rnd (by omega)]
  simp only
  have hm0 : 0 ≤ Int.ofNat rnd % 10 := Int.emod_nonneg _ (by omega)
  have hm1 : Int.ofNat rnd % 10 < 10 := Int.emod_lt_of_pos _ (by omega)
  refine ⟨_, rfl, ?_, ?_⟩
  · rw [wrap64_id _ (by unfold minInt64 at *; omega) (by unfold maxInt64 at *; omega)]; omega
  · rw [wrap64_id _ (by unfold minInt64 at *; omega) (by unfold maxInt64 at *; omega)]; omega

/-- after the massage of `readConfig` every pool that is a mapping carries `discard_overflow`, and nothing else changed shape -/
theorem C13_readConfig_massage (items : List PoolItem) :
    ∃ l, massagePools true (.list items) = .ok (.list l) ∧ l.length = items.length ∧
      ∀ i ∈ l, i = .mapping true ∨ i = .other := by
  obtain ⟨l, hl, h2, h3⟩ := massageItems_fixed items
  exact ⟨l, by simp [massagePools, hl], h2, h3⟩

/-! ## concrete witnesses: non-vacuity of the hypotheses above, and the defects of the unrepaired tree -/

namespace Ex
def anyUrl : Bytes → Bool := fun _ => true
/-- `5 /a t\nhello\n` -/
def good1 : Bytes := [53, 32, 47, 97, 32, 116, 10, 104, 101, 108, 108, 111, 10]
/-- `-1 /b t2\n` -/
def junkNeg : Bytes := [45, 49, 32, 47, 98, 32, 116, 50, 10]
/-- `9 /b t2\nshort\n` -/
def junkTrunc : Bytes := [57, 32, 47, 98, 32, 116, 50, 10, 115, 104, 111, 114, 116, 10]
/-- `[Host example.com\n0 /b\n` -/
def junkHdr : Bytes := [91, 72, 111, 115, 116, 32, 101, 120, 97, 109, 112, 108, 101, 46, 99, 111, 109, 10, 48, 32, 47, 98, 10]
/-- `-5 /a\n` -/
def negOnly : Bytes := [45, 53, 32, 47, 97, 10]
/-- `99999999999999 /a t\n` -/
def huge : Bytes := [57, 57, 57, 57, 57, 57, 57, 57, 57, 57, 57, 57, 57, 57, 32, 47, 97, 32, 116, 10]
/-- `16 t1\nGET / HTTP/1.0\n\n\n` -/
def rawGood : Bytes := [49, 54, 32, 116, 49, 10, 71, 69, 84, 32, 47, 32, 72, 84, 84, 80, 47, 49, 46, 48, 10, 10, 10]
/-- `16 t1` (a size line cut before its newline) -/
def rawCutLine : Bytes := [49, 54, 32, 116, 49]
/-- `r1(1048575)` -/
def r1Huge : Bytes := [114, 49, 40, 49, 48, 52, 56, 53, 55, 53, 41]
/-- `-5 t\n` -/
def rawNeg : Bytes := [45, 53, 32, 116, 10]
/-- `[A: b]\n/a t` -/
def uriGood : Bytes := [91, 65, 58, 32, 98, 93, 10, 47, 97, 32, 116]
/-- `[broken\n/b\n` -/
def uriJunk : Bytes := [91, 98, 114, 111, 107, 101, 110, 10, 47, 98, 10]
def sleep10 : Bytes := [115, 108, 101, 101, 112, 40, 49, 48, 41]
def r1 : Bytes := [114, 49]
/-- `r1(2, 50)` -/
def r1x2 : Bytes := [114, 49, 40, 50, 44, 32, 53, 48, 41]
def nosuch : Bytes := [110, 111, 115, 117, 99, 104, 40, 49, 41]
/-- `r1(x)` -/
def r1bad : Bytes := [114, 49, 40, 120, 41]
/-- `[Host: example.com` -/
def hdrNoClose : Bytes := [91, 72, 111, 115, 116, 58, 32, 101, 120, 97, 109, 112, 108, 101, 46, 99, 111, 109]
/-- `/tmp/x` -/
def propNoHash : Bytes := [47, 116, 109, 112, 47, 120]
/-- `source.users[next]` -/
def pathNext : Bytes := [115, 111, 117, 114, 99, 101, 46, 117, 115, 101, 114, 115, 91, 110, 101, 120, 116, 93]
def source : Bytes := [115, 111, 117, 114, 99, 101]
def users : Bytes := [117, 115, 101, 114, 115]
/-- `${property:/tmp/x}` -/
def tagProp : Bytes := [36, 123, 112, 114, 111, 112, 101, 114, 116, 121, 58, 47, 116, 109, 112, 47, 120, 125]
def emptySource : List (Bytes × Val) := [(source, .map [(users, .arr true [])])]
def knownR1 : Bytes → Bool := fun n => n = r1
end Ex

open Ex

/- the well-formed piece is well-formed, and each kind of junk is refused: the hypotheses of
`C13_rejected_uripost` / `C13_prefix_preserved_uripost` are met by real files -/
example : WellFormedU (uripostRun true anyUrl) good1 := ⟨by decide, .inr (by decide)⟩
example : uripostStep true anyUrl junkNeg = .fail (.err "size") := by decide
example : uripostStep true anyUrl junkTrunc = .fail (.err "trunc") := by decide
example : uripostStep true anyUrl junkHdr = .fail (.err "hdr") := by decide
example : uripostRun true anyUrl (good1 ++ junkNeg) = ⟨[⟨[116], [47, 97], [104, 101, 108, 108, 111]⟩], .err "size", junkNeg⟩ := by decide
example : uripostRun true anyUrl huge = ⟨[], .err "trunc", huge⟩ := by decide
example : WellFormed (rawRun true) rawGood := ⟨by decide, .inr (by decide)⟩
example : rawStep true rawNeg = .fail (.err "size") := by decide
example : (uriRun anyUrl uriGood).end_ = .ok ∧ (uriRun anyUrl uriGood).entries.length = 1 := by decide
example : (uriRun anyUrl (uriGood ++ 10 :: uriJunk)).end_ = .err "hdr" ∧ (uriRun anyUrl (uriGood ++ 10 :: uriJunk)).entries.length = 1 := by decide
example : decodeHeader hdrNoClose = .err "hdr" := by decide
example : parseShootName sleep10 = .ok ⟨sleepName, 10, 0⟩ := by decide
example : expand true knownR1 [r1x2, sleep10, r1] = .ok [(r1, 50), (r1, 60), (r1, 0)] := by decide
example : expand true knownR1 [sleep10, r1] = .err "leading-sleep" := by decide
example : expand true knownR1 [r1, nosuch] = .err "unknown-request" := by decide
example : ∃ c, parseShootName r1bad = .err c := ⟨"count", by decide⟩
example : cut propNoHash 35 = none := by decide
example : resolveTags true (fun _ => none) (fun _ => none) tagProp = .err "format" := by decide
example : (getMapValue true emptySource pathNext [] 0).1.isErr = true := by decide

/- a last size line without newline after a well-formed piece: the hypotheses of `C13_rejected_raw_unterminated_size_line` -/
example : cut rawCutLine 10 = none ∧ ¬ (trimSpace rawCutLine).isEmpty ∧ decodeRawHeader (trimSpace rawCutLine) = .ok (16, [116, 49]) := by decide
example : rawRun true (rawGood ++ rawCutLine) = ⟨(rawRun true rawGood).entries, .err "trunc", rawCutLine⟩ := by decide

/-- the raw decoder before dbbf16d: the truncated last entry is dropped and the file accepted -/
theorem C13_unrepaired_raw_drops_last_size_line :
    rawRunDrop true (rawGood ++ rawCutLine) = ⟨(rawRun true rawGood).entries, .ok, rawCutLine⟩ := by decide

/-- the tree as found: a negative size panics in `make([]byte, size)` -/
theorem C13_unrepaired_negative_size_panics :
    (uripostRun false anyUrl negOnly).end_ = .panic ∧ (rawRun false rawNeg).end_ = .panic := by decide

/-- the tree as found: a huge size is a fatal out-of-memory (not even recoverable) -/
theorem C13_unrepaired_huge_size_fatal : (uripostRun false anyUrl huge).end_ = .fatal := by decide

/-- the tree as found: a well-formed entry followed by the negative size - the run panics -/
theorem C13_unrepaired_prefix_then_panic :
    uripostRun false anyUrl (good1 ++ junkNeg) = ⟨[⟨[116], [47, 97], [104, 101, 108, 108, 111]⟩], .panic, junkNeg⟩ := by decide

/-- the tree as found: `requests: [sleep(10), r1]` indexes `Requests[-1]` -/
theorem C13_unrepaired_leading_sleep_panics : (expand false knownR1 [sleep10, r1]).isPanic = true := by decide

/-- the tree as found: `[next]` on an empty source divides by zero; `[last]` indexes -1; `[rand]` calls Intn(0) -/
theorem C13_unrepaired_empty_source_panics :
    (calcIndex false kwNext 0 0 0).isPanic = true ∧ (calcIndex false kwRand 0 0 0).isPanic = true ∧
    (calcIndex false [48] 0 0 0).isPanic = true ∧
    (getMapValue false emptySource pathNext [] 0).1.isPanic = true := by decide

/-- the tree as found: `${property:/tmp/x}` indexes `split[1]` of a one-element slice -/
theorem C13_unrepaired_property_no_hash_panics :
    (resolveTags false (fun _ => none) (fun _ => none) tagProp).isPanic = true := by decide

/-- the tree as found: `randInt(5,5)` calls `rand.Int63n(-10)` -/
theorem C13_unrepaired_randInt_equal_panics : (randInt false 5 5 0).isPanic = true := by decide

/-- the tree as found: a config without `pools`, or with a scalar among the pools, panics in a type assertion -/
theorem C13_unrepaired_readConfig_panics :
    (massagePools false .absent).isPanic = true ∧ (massagePools false (.list [.mapping false, .other])).isPanic = true := by decide

/-! ## grpc/json lines, scenario weights, randString -/

/-- grpc/json files: every byte string, every jsoniter oracle, with and without `continue_on_error` -/
theorem C13_no_panic_grpcjson (coe : Bool) (json : Bytes → Option Bytes) (s : Bytes) : GReturned (grpcRun coe json s) :=
  End.clean_iff.mp (grpcLines_end_clean coe json (rawLines s))

/-- grpc/json: lines the loop got through, then a line jsoniter refuses. Without `continue_on_error` the run delivers the
entries of the lines before it and ends with an error; with it the line is delivered as an invalidated ammo (which the
gun skips) and the following lines are decoded as if the bad line were not there -/
theorem C13_rejected_or_skipped_grpcjson (json : Bytes → Option Bytes) (pre : List Bytes) (bad : Bytes) (post : List Bytes)
    (hshort : bad.length < maxToken) (hbad : json (dropCR bad) = none) :
    ((grpcLines false json pre).end_ = .ok →
      grpcLines false json (pre ++ bad :: post) = ⟨(grpcLines false json pre).entries, .err "other"⟩) ∧
    ((grpcLines true json pre).end_ = .ok →
      grpcLines true json (pre ++ bad :: post) =
        (grpcLines true json post).prepend ((grpcLines true json pre).entries ++ [.invalid])) := by
  have hns : ¬ bad.length ≥ maxToken := by omega
  constructor
  · intro h
    rw [grpcLines_append false json pre _ h, grpcLines]
    simp [hns, hbad, GRun.prepend]
  · intro h
    rw [grpcLines_append true json pre _ h, grpcLines]
    simp [hns, hbad, GRun.prepend, GRun.cons]

/-- grpc/json: a line that does not fit the scanner's buffer ends the run with an error after the lines before it -/
theorem C13_rejected_grpcjson_token_too_long (coe : Bool) (json : Bytes → Option Bytes) (pre : List Bytes) (bad : Bytes)
    (post : List Bytes) (hlong : bad.length ≥ maxToken) (h : (grpcLines coe json pre).end_ = .ok) :
    grpcLines coe json (pre ++ bad :: post) = ⟨(grpcLines coe json pre).entries, .err "toolong"⟩ := by
  rw [grpcLines_append coe json pre _ h, grpcLines]
  simp [hlong, GRun.prepend]

/-- uri files: a block of lines that decodes cleanly, then a refused line (broken header, url.Parse error): the block's
entries are delivered and the run ends with that refusal, which is an error value -/
theorem C13_rejected_uri (urlOk : Bytes → Bool) (pre : List Bytes) (bad : Bytes) (post : List Bytes) (e : End)
    (hpre : (uriLines urlOk pre).end_ = .ok) (hbad : uriLine urlOk bad = .fail e) :
    uriLines urlOk (pre ++ bad :: post) = ⟨(uriLines urlOk pre).entries, e, []⟩ ∧ ∃ c, e = .err c := by
  refine ⟨?_, uriLine_fail urlOk bad e hbad⟩
  rw [uriLines_append urlOk pre _ hpre, uriLines, hbad, Run.prepend, List.append_nil]

/-- scenario weights (`SpreadNames` + `CheckSpread` + `decodeAmmo`, http and grpc; since 4cfc662 with NO assumption about memory):
EVERY list of weights gives an error or one count per scenario; no division by zero, no negative or absurd `make` -/
theorem C13_no_panic_spread (ws : List Int) : (spread true ws).returns = true := by
  rcases spread_fixed ws with ⟨c, h⟩ | ⟨cs, h, _⟩ <;> rw [h] <;> simp [Res.returns, Res.isPanic, Res.isFatal]

/-- what is allocated from the weights is bounded by `MaxSpreadSize`, whatever the weights announce: every count lies in
`[0, MaxSpreadSize]`, and (with fewer than 2^39 scenarios, so that a Go int cannot wrap) so does their sum = the capacity of
the slice and the number of ammo appended -/
theorem C13_spread_bounded (ws cs : List Int) (h : spread true ws = .ok cs) :
    cs.length = ws.length ∧ (∀ c ∈ cs, 0 ≤ c ∧ c ≤ maxSpreadSize) ∧
    (ws.length < 549755813888 → sumInt cs ≤ maxSpreadSize) := by
  have ht := spread_fixed_total ws cs h
  rcases spread_fixed ws with ⟨c, hc⟩ | ⟨cs', h', hl, hb, _⟩
  · rw [hc] at h; cases h
  · rw [h'] at h; cases h; exact ⟨hl, hb, ht⟩

theorem C13_rejected_negative_weight (ws : List Int) (w : Int) (hw : w ∈ ws) (hneg : w < 0) :
    spread true ws = .err "weight" := spread_fixed_neg ws ⟨w, hw, hneg⟩

/-- weights that are not negative: one count per scenario, none negative, together at most the announced total -/
theorem C13_spread_counts (ws : List Int) (h : ∀ w ∈ ws, ¬ w < 0) :
    ∃ cs, spreadCounts ws = .ok cs ∧ cs.length = ws.length ∧ (∀ c ∈ cs, 0 ≤ c) ∧ sumInt cs ≤ sumInt (ws.map normWeight) :=
  spreadCounts_nonneg ws h

/-- `randString(n, letters)` (since 28b7d1e with NO assumption about memory): EVERY announced length gives an error or
that many letters -/
theorem C13_no_panic_randString (n : Int) : (randStringLen true n).returns = true := by
  rcases randStringLen_fixed n with ⟨_, h⟩ | ⟨_, h⟩ | ⟨_, _, h⟩ | ⟨_, h⟩ <;> rw [h] <;> simp [Res.returns, Res.isPanic, Res.isFatal]

/-- what `randString` allocates is bounded by `maxRandStringLength`, whatever length is announced; a longer one is refused -/
theorem C13_randString_bounded (n : Int) :
    (∀ k, randStringLen true n = .ok k → (k : Int) ≤ maxRandStringLength) ∧
    (maxRandStringLength < n → randStringLen true n = .err "length") := by
  rcases randStringLen_fixed n with ⟨h0, h⟩ | ⟨h0, h⟩ | ⟨h0, h1, h⟩ | ⟨h0, h⟩
  · exact ⟨fun k hk => (by rw [h] at hk; cases hk), fun _ => h⟩
  · refine ⟨fun k hk => ?_, fun hb => ?_⟩
    · rw [h] at hk; cases hk; decide
    · subst h0; revert hb; decide
  · refine ⟨fun k hk => ?_, fun hb => ?_⟩
    · rw [h] at hk; cases hk; omega
    · omega
  · exact ⟨fun k hk => (by rw [h] at hk; cases hk), fun _ => h⟩

theorem C13_rejected_negative_length (n : Int) (h : n < 0) : randStringLen true n = .err "length" := by
  unfold randStringLen
  have : n ≠ 0 := by omega
  simp [this, h]

/-- every letter of the result is taken from inside the letter set (`Intn` of a positive number, index in range) -/
theorem C13_no_panic_pickLetter (nLetters rnd : Nat) : ∃ i, pickLetter nLetters rnd = .ok i := by
  unfold pickLetter defaultLetters
  simp only
  generalize hk : (if nLetters = 0 then 64 else nLetters) = k
  have hpos : 0 < k := by subst hk; split <;> omega
  rw [intnC_ok (k : Int) rnd (by omega)]
  simp only [Res.bind]
  have h0 : 0 ≤ Int.ofNat rnd % (k : Int) := Int.emod_nonneg _ (by omega)
  have h1 : Int.ofNat rnd % (k : Int) < k := Int.emod_lt_of_pos _ (by omega)
  exact indexC_ok (List.range k) _ h0 (by simpa using h1)

/-- an empty list item in a scenario file, wherever it stands: provider construction returns (an error where a plugin was
expected), and no nil plugin is left behind for the provider or the gun to call -/
theorem C13_no_panic_nullItem (site : NullSite) : (nullItem true site).returns = true ∧ nilPluginLeft true site = false := by
  cases site <;> decide

theorem C13_rejected_empty_plugin_item :
    nullItem true .variableSource = .err "empty-item" ∧ nullItem true .postprocessor = .err "empty-item" ∧
    nullItem true .grpcPreprocessor = .err "empty-item" := by decide

/-- the loop of `math.GCD` ends: `a + b` steps are enough whatever the weights -/
theorem C13_terminates_gcd (a b : Int) (k : Nat) : gcdGo (a.toNat + b.toNat + 1 + k) a b = gcd64 a b := by
  induction k with
  | zero => rfl
  | succ k ih => rw [← Nat.add_assoc, gcdGo_fuel _ a b (by omega), ih]

/-- grpc/json provider, end of a pass: the repaired loop goes round again only when the pass has delivered something,
so every pass of an endless run makes progress through the sink (where cancellation is observed) -/
theorem C13_terminates_grpcjson_pass (limit passes passNum ammoNum : Nat) (scanErr : Bool)
    (h : grpcPassEnd true limit passes passNum ammoNum scanErr = .again) : 0 < ammoNum :=
  (grpcPassEnd_again h).2.2

/-- a `sleep(…)` that is not the first item of the list but still follows no request - the items before it are repeated
zero (or a negative number of) times - is rejected like a leading one -/
theorem C13_rejected_sleep_without_request (known : Bytes → Bool) (pre : List Bytes) (sh : Bytes) (rest : List Bytes)
    (cnt sl : Int) (hpre : expand true known pre = .ok []) (h : parseShootName sh = .ok ⟨sleepName, cnt, sl⟩) :
    expand true known (pre ++ sh :: rest) = .err "leading-sleep" := by
  unfold expand at hpre ⊢
  rw [expandGo_append true known pre (sh :: rest) [] [] hpre]
  unfold expandGo
  simp [h, addSleep]

/-! ## reading a source more than once -/

/-- the http decoders (uripost, raw, uri, jsonline `Scan`) at the end of the file: the file is read again only when it
has given an entry, and only while the pass limit allows -/
theorem C13_terminates_http_pass (passes passNum ammoNum : Nat) (h : httpPassEnd passes passNum ammoNum = .again) :
    0 < ammoNum ∧ (passes = 0 ∨ passNum < passes) := httpPassEnd_again passes passNum ammoNum h

/-- the http provider over any file (`one` = what a single pass over it does, whatever that is), with a limit or a pass
limit: the run ends - with the limit reached, the passes done, the file's error, or "no ammo" -/
theorem C13_terminates_http_passes (one : Run) (passes limit : Nat) (hone : one.end_ ≠ .fuel)
    (h : limit ≠ 0 ∨ passes ≠ 0) : (multiRunAll one passes limit).end_ ≠ .fuel := by
  unfold multiRunAll
  by_cases hl : limit ≠ 0
  · rw [if_pos hl]
    exact multiRun_no_fuel_limit one passes limit hone hl _ 0 0 (by simp) (by omega)
  · have hl0 : limit = 0 := by omega
    have hp : passes ≠ 0 := by rcases h with h | h; exact absurd hl0 h; exact h
    rw [if_neg hl]
    exact multiRun_no_fuel_passes one passes limit hone hp _ 0 0 (by omega)

/-- a file without a single entry (empty, blank lines, header lines only) is never read twice: "no ammo in file",
whatever the limit, also without a pass limit -/
theorem C13_rejected_http_no_ammo (one : Run) (limit : Nat) (he : one.entries = []) (hok : one.end_ = .ok) :
    multiRunAll one 0 limit = ⟨[], .err "noammo", []⟩ := by
  unfold multiRunAll
  have : ¬ (limit ≠ 0 ∧ 0 + one.entries.length ≥ limit) := by rw [he]; simp
  rw [multiRun]
  simp only [this, if_false, hok, ne_eq, not_true_eq_false, if_false]
  simp [httpPassEnd, he]

/-- `MultiPassReader.Read` keeps its state well-formed -/
theorem C13_multipass_wf (fixed : Bool) (data : Bytes) (passes : Nat) (s : MPR) (h : MPR.WF data s) :
    MPR.WF data MPR.init ∧ MPR.WF data (mprReadByte fixed data passes s).2 :=
  ⟨MPR.init_WF data, mprReadByte_WF fixed data passes s h⟩

/-- `MultiPassReader` under jsoniter's `loadMore` loop (`for { n, err := Read(buf); if n == 0 { if err != nil { return } } else { return } }`):
over the repaired reader, from every reachable state, for every source and pass limit, the loop is left after at most
two `Read` calls - a `(0, nil)` answer is always followed by data -/
theorem C13_terminates_multipass (data : Bytes) (passes : Nat) (s : MPR) (h : MPR.WF data s) (k : Nat) :
    (loadByte true data passes (k + 2) s).1 ≠ .again := by
  unfold loadByte
  cases hr : mprReadByte true data passes s with
  | mk r s' =>
    cases r with
    | byte b => simp
    | eof => simp
    | again =>
      simp only
      obtain ⟨hp, hl, _⟩ := mprReadByte_fixed_again data passes s s' h hr
      obtain ⟨b, s'', hb⟩ := mprReadByte_fixed_after_again data passes s' hp hl
      unfold loadByte
      rw [hb]
      simp

/-- the generic JSON provider over a source without ammo - empty, or nothing but white space - ends well at once,
whatever `passes` and `limit` (before 9d5241f it read the source again for ever with `passes: 0`) -/
theorem C13_rejected_genjson_no_ammo (data : Bytes) (hws : ∀ b ∈ data, isJsonWs b = true) (passes limit : Nat) :
    genjsonRun true data passes limit = ⟨[], "ok"⟩ := by
  unfold genjsonRun
  simp only
  rw [show (if limit ≠ 0 then limit else data.length * passes) + 2 = ((if limit ≠ 0 then limit else data.length * passes) + 1) + 1 by omega]
  unfold genjsonLoop
  have hlim : ¬ (limit ≠ 0 ∧ MPR.init.ammoNum ≥ limit) := by simp [MPR.init]
  rw [if_neg hlim]
  have hs := skipWs_fixed_ws data passes hws (2 * data.length + 4) MPR.init (by simp only [MPR.init]; omega)
    (by simp [MPR.init])
  have hdec : (decodeOne true data passes MPR.init).1 = .eof := by
    unfold decodeOne
    cases hr : skipWs true data passes (2 * data.length + 4) MPR.init with
    | mk r s' => rw [hr] at hs; cases hs; rfl
  cases hd : decodeOne true data passes MPR.init with
  | mk r s' =>
    rw [hd] at hdec
    simp only at hdec
    subst hdec
    rfl

/-! ## the same statements about the definitions regenerated from the current source (`Pandora.Gen.C13Src`) -/

open Pandora.Bridge.C13 in
/-- `mp.calcIndex` as it stands in lib/mp/map.go: for every index string (`index`, `atoiErr` = what Atoi says about it),
length and iterator value the result is an error or an index inside `[0, length)` -/
theorem C13_no_panic_calcIndex_source (indexStr : Bytes) (length next : Int) (rnd : Nat) (hnext : 0 ≤ next) :
    (∃ c, Gen.C13Src.calcIndex indexStr ((atoi indexStr).getD 0) (atoi indexStr).isNone length next rnd = .err c) ∨
    (∃ i, Gen.C13Src.calcIndex indexStr ((atoi indexStr).getD 0) (atoi indexStr).isNone length next rnd = .ok i ∧ 0 ≤ i ∧ i < length) := by
  rw [calcIndex_bridge]
  rcases C13_no_panic_calcIndex indexStr length next rnd hnext with ⟨c, h⟩ | ⟨i, h, h0, h1⟩
  · exact .inl ⟨"e", eraseErr_err _ c h⟩
  · exact .inr ⟨i, eraseErr_ok _ i h, h0, h1⟩

open Pandora.Bridge.C13 in
/-- `templater.randInt` as it stands: all pairs of int64 bounds -/
theorem C13_no_panic_randInt_source (f t : Int) (rnd : Nat) : (Gen.C13Src.randInt f t rnd).returns = true := by
  rw [randInt_bridge, eraseErr_returns]
  exact C13_no_panic_randInt f t rnd

open Pandora.Bridge.C13 in
/-- `readSized` as it stands: its first test, before anything is allocated, refuses exactly the negative sizes, and its
chunk constant is positive and fits the memory the model assumes (the chunk loop itself is not regenerated: that nothing
larger than a chunk is allocated ahead of the data is left to the correspondence runs with huge announced sizes) -/
theorem C13_rejected_negative_size_source (size : Int) :
    Gen.C13Src.readSizedTestFirst = true ∧ (Gen.C13Src.readSizedRefuses size ↔ size < 0) ∧
    0 < Gen.C13Src.readChunkSize ∧ Gen.C13Src.readChunkSize ≤ memCap := by
  obtain ⟨h1, h2⟩ := readSized_bridge size []
  refine ⟨h1, ?_, readChunkSize_bridge⟩
  rw [h2]
  constructor
  · intro h
    rcases Int.lt_or_le size 0 with hs | hs
    · exact hs
    · unfold readBody at h
      have h' : ¬ size < 0 := by omega
      simp only [if_true, h', if_false] at h
      split at h <;> simp at h
  · intro h; exact C13_rejected_negative_size size [] h

open Pandora.Bridge.C13 in
/-- the four `Scan` loops as they stand (the statements between the end of the file and the next read, executed in
source order): the file is read again only when it has given at least one entry and the pass limit allows another pass,
and then it was sought to its start -/
theorem C13_terminates_http_pass_source (passes passNum ammoNum : Nat) :
    ((Gen.C13Src.uripostPassEnd passes passNum ammoNum).1 = 0 →
      0 < ammoNum ∧ (passes = 0 ∨ passNum + 1 < passes) ∧ (Gen.C13Src.uripostPassEnd passes passNum ammoNum).2.2 = true) ∧
    ((Gen.C13Src.rawPassEnd passes passNum ammoNum).1 = 0 →
      0 < ammoNum ∧ (passes = 0 ∨ passNum + 1 < passes) ∧ (Gen.C13Src.rawPassEnd passes passNum ammoNum).2.2 = true) ∧
    ((Gen.C13Src.uriPassEnd passes passNum ammoNum).1 = 0 →
      0 < ammoNum ∧ (passes = 0 ∨ passNum + 1 < passes) ∧ (Gen.C13Src.uriPassEnd passes passNum ammoNum).2.2 = true) ∧
    ((Gen.C13Src.jsonlinePassEnd passes passNum ammoNum).1 = 0 →
      0 < ammoNum ∧ (passes = 0 ∨ passNum + 1 < passes) ∧ (Gen.C13Src.jsonlinePassEnd passes passNum ammoNum).2.2 = true) := by
  have code0 : ∀ p : PassEnd, passEndCode p = 0 → p = .again := by
    intro p h
    cases p with
    | again => rfl
    | stop e => cases e <;> simp [passEndCode] at h
  have key : ∀ (g : Int × Int × Bool), g.1 = passEndCode (httpPassEnd passes (passNum + 1) ammoNum) →
      (g.1 = 0 → g.2.1 = ((passNum + 1 : Nat) : Int) ∧ g.2.2 = true) → g.1 = 0 →
      0 < ammoNum ∧ (passes = 0 ∨ passNum + 1 < passes) ∧ g.2.2 = true := by
    intro g h1 h2 h0
    obtain ⟨ha, hp⟩ := httpPassEnd_again passes (passNum + 1) ammoNum (code0 _ (by rw [← h1]; exact h0))
    exact ⟨ha, hp, (h2 h0).2⟩
  refine ⟨?_, ?_, ?_, ?_⟩
  · exact key _ (uripostPassEnd_bridge passes passNum ammoNum).1 (uripostPassEnd_bridge passes passNum ammoNum).2
  · exact key _ (rawPassEnd_bridge passes passNum ammoNum).1 (rawPassEnd_bridge passes passNum ammoNum).2
  · exact key _ (uriPassEnd_bridge passes passNum ammoNum).1 (uriPassEnd_bridge passes passNum ammoNum).2
  · intro h0
    obtain ⟨h1, h2⟩ := jsonlinePassEnd_bridge passes passNum ammoNum
    have hag : jlPassEnd passes passNum ammoNum = .again := code0 _ (by rw [← h1]; exact h0)
    rcases jlPassEnd_http passes passNum ammoNum with h | ⟨_, h, _⟩
    · obtain ⟨ha, hp⟩ := httpPassEnd_again passes (passNum + 1) ammoNum (by rw [← h]; exact hag)
      exact ⟨ha, hp, (h2 h0).2⟩
    · rw [hag] at h; cases h

open Pandora.Bridge.C13 in
/-- `scanAmmos` as it stands in decoders/jsonline.go: for every array length, pass limit and pair of counters the
remainder does not divide by zero and the index is inside the slice - the function returns an element or an error -/
theorem C13_no_panic_jsonline_scanAmmos_source (elems : List Bytes) (passes : Nat) (s : JlArr) :
    (Gen.C13Src.scanAmmos elems.length passes s.passNum s.ammoNum).returns = true := by
  have h := scanAmmos_bridge elems passes s
  cases hg : Gen.C13Src.scanAmmos elems.length passes s.passNum s.ammoNum with
  | ok v => rfl
  | err c => rfl
  | panic w => rw [hg] at h; simp at h
  | fatal w => rw [hg] at h; simp at h

open Pandora.Bridge.C13 in
/-- the EOF block of `MultiPassReader.Read` as it stands, executed in source order from any well-formed state at the
end of the source: when it seeks the source to its start (no early return), the source holds data - the next `Read`
delivers a byte, the `(0, nil)` answer is not repeated -/
theorem C13_terminates_multipass_source (data : Bytes) (passes : Nat) (s : MPR) (h : MPR.WF data s)
    (hend : data[s.pos]? = none) (hres : s.resets = decide ((Gen.C13Src.mprEof 1 0 0 false false).2.2.1 = 0))
    (hnoret : (Gen.C13Src.mprEof s.passBytes s.passesCount passes true (decide (Gen.C13Src.dpProgress s.ammoNum s.passStart))).1 = false)
    (hseek : (Gen.C13Src.mprEof s.passBytes s.passesCount passes true (decide (Gen.C13Src.dpProgress s.ammoNum s.passStart))).2.1 = true) :
    0 < data.length ∧ ∃ b s'', mprReadByte true data passes (mprReadByte true data passes s).2 = (.byte b, s'') := by
  have hb := mprRead_bridge data passes s hend hres
  simp only [hnoret, hseek, Bool.false_eq_true, if_false, if_true] at hb
  obtain ⟨hp, hl, _⟩ := mprReadByte_fixed_again data passes s _ h hb
  refine ⟨hl, ?_⟩
  rw [hb]
  exact mprReadByte_fixed_after_again data passes _ hp hl

namespace Ex
/-- `r1(0)` -/
def r1x0 : Bytes := [114, 49, 40, 48, 41]
/-- `{"tag":"t"}\n` -/
def jt : Bytes := [123, 34, 116, 97, 103, 34, 58, 34, 116, 34, 125, 10]
/-- `{"tag":"a` -/
def jtrunc : Bytes := [123, 34, 116, 97, 103, 34, 58, 34, 97]
end Ex

example : expand true knownR1 [r1x0] = .ok [] := by decide
/-- the regenerated pass-end paths on concrete counters: read again after a pass with entries, "no ammo" after one without,
the pass limit; the regenerated `scanAmmos` at the last element of a two-element array; the regenerated EOF block of
`MultiPassReader.Read` in a state that meets the hypotheses of `C13_terminates_multipass_source` -/
example : Gen.C13Src.uriPassEnd 0 0 2 = (0, 1, true) ∧ (Gen.C13Src.rawPassEnd 0 0 0).1 = 2 ∧
    (Gen.C13Src.uripostPassEnd 2 1 5).1 = 1 ∧ (Gen.C13Src.jsonlinePassEnd 0 0 0).1 = 2 ∧
    (Gen.C13Src.jsonlinePassEnd 2 1 5).1 = 1 ∧ Gen.C13Src.jsonlinePassEnd 3 1 5 = (0, 2, true) := by decide
example : Gen.C13Src.scanAmmos 2 0 1 3 = .ok (1, 2, 4) ∧ Gen.C13Src.scanAmmos 0 0 0 0 = .err "noammo" ∧
    Gen.C13Src.scanAmmos 2 1 1 2 = .err "passlimit" := by decide
example : (Gen.C13Src.mprEof 12 0 0 true (decide (Gen.C13Src.dpProgress 1 0))).1 = false ∧
    (Gen.C13Src.mprEof 12 0 0 true (decide (Gen.C13Src.dpProgress 1 0))).2.1 = true ∧
    jt[12]? = none ∧ ((12 : Nat) ≠ 0 → 0 < jt.length) := by decide
example : expand true knownR1 [r1x0, sleep10, r1] = .err "leading-sleep" := by decide
/-- the tree as found indexes `Requests[-1]` here as well: nothing was built when the sleep comes -/
example : (expand false knownR1 [r1x0, sleep10, r1]).isPanic = true := by decide
example : httpPassEnd 0 1 2 = .again ∧ httpPassEnd 0 1 0 = .stop (.err "noammo") ∧ httpPassEnd 2 2 5 = .stop .ok := by decide
example : (multiRunAll (uripostRun true anyUrl good1) 0 3).entries.length = 3 := by decide
example : MPR.WF jt MPR.init := MPR.init_WF jt
example : genjsonRun true (jt ++ jt) 0 3 = ⟨[[116], [116], [116]], "ok"⟩ := by decide
example : genjsonRun true (jt ++ jtrunc) 1 0 = ⟨[[116]], "err"⟩ := by decide
example : genjsonRun true [32, 10] 0 3 = ⟨[], "ok"⟩ := by decide

/-- the reader as found, over an empty source with `passes: 0`: `Read` answers `(0, nil)` for ever - jsoniter's loop never ends -/
theorem C13_unrepaired_multipass_spins (fuel : Nat) : (loadByte false [] 0 fuel MPR.init).1 = .again :=
  loadByte_unfixed_empty fuel MPR.init rfl

theorem C13_unrepaired_genjson_hangs : (genjsonRun false [] 0 3).end_ = "hang" ∧ (genjsonRun false [32, 10] 0 3).end_ = "hang" := by
  decide

/-! ## jsonline (`encoding/json` is a parameter: every reading `JSrc` of the file) -/

/-- `scanAmmos` (a jsonline file that is one JSON array): for every array - the empty one too -, every pass limit and every
value of the two counters, `int(d.ammoNum) % length` does not divide by zero and `d.ammos[i]` is inside the slice -/
theorem C13_no_panic_jsonline_scanAmmos (elems : List Bytes) (passes : Nat) (s : JlArr) :
    (scanAmmos elems passes s).1 ≠ .panic := scanAmmos_no_panic elems passes s

/-- the http provider over a jsonline file, whatever the library makes of it, with and without preload, every passes and
limit, both code variants: it never ends in a panic or a fatal error -/
theorem C13_no_panic_jsonline (fixed : Bool) (src : JSrc) (pre : Bool) (passes limit : Nat) :
    (jsonlineRun fixed src pre passes limit).end_ ≠ .panic ∧ (jsonlineRun fixed src pre passes limit).end_ ≠ .fatal := by
  rcases jsonlineRun_cases fixed src pre passes limit with h | ⟨es, h⟩ | ⟨one, hc, h⟩ <;> rw [h]
  · exact ⟨End.noConfusion, End.noConfusion⟩
  · exact jlArrayLoop_no_panic es passes limit _ _ _ _
  · exact multiRunAll_no_panic one passes limit hc

/-- … and with a limit or a pass limit it ends (an array is handed out `passes` times, element by element; a stream is
read again only after a pass that gave an entry) -/
theorem C13_terminates_jsonline (fixed : Bool) (src : JSrc) (pre : Bool) (passes limit : Nat) (h : limit ≠ 0 ∨ passes ≠ 0) :
    (jsonlineRun fixed src pre passes limit).end_ ≠ .fuel := by
  rcases jsonlineRun_cases fixed src pre passes limit with h' | ⟨es, h'⟩ | ⟨one, hc, h'⟩ <;> rw [h']
  · exact End.noConfusion
  · exact jlArrayRun_terminates es passes limit h
  · exact C13_terminates_http_passes one passes limit (fun he => by rw [he] at hc; exact hc) h

/-- a file the constructor refuses (nothing but white space, a first token that is not `{` / `[`), an array that does not
decode (truncated, a wrong type), an array followed by something that is not white space, an empty array: an error,
nothing is delivered -/
theorem C13_rejected_jsonline_ctor (pre : Bool) (passes limit : Nat) (es : Option (List Bytes)) (tr : Bool) :
    jsonlineRun true .refused pre passes limit = ctorErr ∧ jsonlineRun true (.array none tr) pre passes limit = ctorErr ∧
    jsonlineRun true (.array es true) pre passes limit = ctorErr ∧
    jsonlineRun true (.array (some []) false) pre passes limit = ⟨[], .err "noammo", []⟩ := by
  refine ⟨rfl, rfl, ?_, ?_⟩
  · cases es <;> simp [jsonlineRun]
  · simp [jsonlineRun, jlArrayRun_nil]

/-- objects the decoder gets through, then a value it refuses (not JSON, a wrong type, cut by the end of the file): the
run delivers the entries of the objects - none with preload - and ends with an error, whatever follows, whatever `passes`;
`limit` is not reached by the objects -/
theorem C13_rejected_jsonline (fixed : Bool) (tags : List Bytes) (post : List JItem) (pre : Bool) (passes limit : Nat)
    (hl : limit = 0 ∨ tags.length < limit) :
    jsonlineRun fixed (.stream (tags.map .good ++ .bad :: post)) pre passes limit =
      ⟨if pre then [] else tags.map fun t => ⟨t, [], []⟩, .err "other", []⟩ := by
  have hone : jlItems (tags.map .good ++ .bad :: post) = ⟨tags.map fun t => ⟨t, [], []⟩, .err "other", []⟩ := by
    rw [jlItems_reject _ _ (by rw [jlItems_goods])]
    rw [jlItems_goods]
  simp only [jsonlineRun, hone]
  cases pre with
  | false => exact multiRunAll_failed _ passes limit End.noConfusion (by simpa using hl)
  | true => exact multiRunAll_failed ⟨[], _, _⟩ passes limit End.noConfusion (by simp; omega)

/-- whatever follows well-formed objects, their entries come first and unchanged; the rest is decoded as if it stood alone -/
theorem C13_prefix_preserved_jsonline (tags : List Bytes) (junk : List JItem) :
    jlItems (tags.map .good ++ junk) = (jlItems junk).prepend (tags.map fun t => ⟨t, [], []⟩) := by
  rw [jlItems_append _ _ (by rw [jlItems_goods]), jlItems_goods]

/-- array mode: whatever is delivered is an element of the array (nothing is made up when the index wraps around) -/
theorem C13_jsonline_array_entries (elems : List Bytes) (passes limit : Nat) :
    ∀ e ∈ (jlArrayRun elems passes limit).entries, e.tag ∈ elems := by
  rcases Nat.eq_zero_or_pos elems.length with h0 | hpos
  · have : elems = [] := List.eq_nil_of_length_eq_zero h0
    subst this
    rw [jlArrayRun_nil]; simp
  · exact jlArrayLoop_entries elems passes limit _ _ _ _ (JlArr.init_Inv _ hpos) (by simp)

namespace Ex
def tA : Bytes := [97]
def tB : Bytes := [98]
end Ex

example : jsonlineRun true (.stream [.good tA, .good tB, .bad, .good tA]) false 0 5 = ⟨[⟨tA, [], []⟩, ⟨tB, [], []⟩], .err "other", []⟩ := by decide
example : jsonlineRun true (.stream [.good tA, .good tB]) false 0 5 =
    ⟨[⟨tA, [], []⟩, ⟨tB, [], []⟩, ⟨tA, [], []⟩, ⟨tB, [], []⟩, ⟨tA, [], []⟩], .ok, []⟩ := by decide
example : jsonlineRun true (.array (some [tA, tB]) false) false 2 0 = ⟨[⟨tA, [], []⟩, ⟨tB, [], []⟩, ⟨tA, [], []⟩, ⟨tB, [], []⟩], .ok, []⟩ := by decide
example : jsonlineRun true (.array (some [tA]) false) true 0 3 = ⟨[⟨tA, [], []⟩, ⟨tA, [], []⟩, ⟨tA, [], []⟩], .ok, []⟩ := by decide
example : jsonlineRun true (.array (some [tA]) true) false 1 0 = ctorErr := by decide

/-- the tree as found: a JSON array followed by anything - the beginning of another entry, garbage - is accepted, what
follows the array is never read -/
theorem C13_unrepaired_jsonline_trailing_accepted :
    jsonlineRun false (.array (some [tA]) true) false 1 0 = ⟨[⟨tA, [], []⟩], .ok, []⟩ := by decide

theorem C13_rejected_jsonline_trailing_counterexample :
    ¬ ∀ (es : Option (List Bytes)) (pre : Bool) (passes limit : Nat), jsonlineRun false (.array es true) pre passes limit = ctorErr := by
  intro h
  have := h (some [tA]) false 1 0
  rw [C13_unrepaired_jsonline_trailing_accepted] at this
  revert this
  decide

example : (scanAmmos [] 0 ⟨0, 0⟩).1 = .noAmmo ∧ (scanAmmos [tA, tB] 1 ⟨2, 1⟩).1 = .passLimit ∧ (scanAmmos [tA, tB] 0 ⟨3, 1⟩).1 = .ammo tB := by decide

/-! ## the property, component by component

`C13_no_panic_statement fixed` etc. collect the universally quantified statements for the code variant `fixed`;
they hold for the repaired code and are refuted for the tree as found. -/

/-- nothing panics or dies, on any input -/
def C13_no_panic_statement (fixed : Bool) : Prop :=
  (∀ (urlOk : Bytes → Bool) (s : Bytes), Returned (uripostRun fixed urlOk s)) ∧
  (∀ s : Bytes, Returned (rawRun fixed s)) ∧
  (∀ (known : Bytes → Bool) (reqs : List Bytes), (expand fixed known reqs).returns = true) ∧
  (∀ (cur : List (Bytes × Val)) (path : Bytes) (st : IterState) (rnd : Nat), (getMapValue fixed cur path st rnd).1.returns = true) ∧
  (∀ (env : Bytes → Option Bytes) (fileOf : Bytes → Option (List Bytes)) (s : Bytes), (resolveTags fixed env fileOf s).returns = true) ∧
  (∀ (f t : Int) (rnd : Nat), (randInt fixed f t rnd).returns = true) ∧
  (∀ p : PoolsVal, (massagePools fixed p).returns = true) ∧
  (∀ ws : List Int, (spread fixed ws).returns = true) ∧
  (∀ n : Int, (randStringLen fixed n).returns = true) ∧
  (∀ site : NullSite, (nullItem fixed site).returns = true ∧ nilPluginLeft fixed site = false)

/-- the parts of the code that needed no repair -/
def C13_no_panic_unchanged_statement : Prop :=
  (∀ (urlOk : Bytes → Bool) (s : Bytes), Returned (uriRun urlOk s)) ∧
  (∀ (coe : Bool) (json : Bytes → Option Bytes) (s : Bytes), GReturned (grpcRun coe json s)) ∧
  (∀ h : Bytes, (decodeHeader h).returns = true) ∧
  (∀ shoot : Bytes, (parseStringFunc shoot).returns = true) ∧
  (∀ shoot : Bytes, (parseShootName shoot).returns = true) ∧
  (∀ nLetters rnd : Nat, ∃ i, pickLetter nLetters rnd = .ok i) ∧
  (∀ (fixed : Bool) (src : JSrc) (pre : Bool) (passes limit : Nat),
    (jsonlineRun fixed src pre passes limit).end_ ≠ .panic ∧ (jsonlineRun fixed src pre passes limit).end_ ≠ .fatal)

/-- C13, "never crashes the process with a panic": all byte strings as uripost / raw / uri / grpc-json files, all request
lists, variable paths, placeholder strings, randInt / randString arguments, pools shapes and scenario weights, all readings of a jsonline file -/
theorem C13_no_panic : C13_no_panic_statement true ∧ C13_no_panic_unchanged_statement :=
  ⟨⟨C13_no_panic_uripost, C13_no_panic_raw, C13_no_panic_expand, C13_no_panic_getMapValue, C13_no_panic_resolveTags,
    C13_no_panic_randInt,
    fun p => by obtain ⟨v, h⟩ := C13_no_panic_readConfig p; rw [h]; simp [Res.returns, Res.isPanic, Res.isFatal],
    C13_no_panic_spread, C13_no_panic_randString, C13_no_panic_nullItem⟩,
   ⟨C13_no_panic_uri, C13_no_panic_grpcjson, C13_no_panic_decodeHeader, C13_no_panic_parseStringFunc,
    C13_no_panic_parseShootName, C13_no_panic_pickLetter, C13_no_panic_jsonline⟩⟩

/-- C13, "is rejected with an error, or skipped where continue-on-error is requested" -/
def C13_rejected_or_skipped_statement : Prop :=
  -- size-prefixed files: the refusal of what follows a well-formed piece ends the run with that error
  (∀ (urlOk : Bytes → Bool) (good junk : Bytes) (e : End), WellFormedU (uripostRun true urlOk) good →
    uripostStep true urlOk junk = .fail e →
    uripostRun true urlOk (good ++ junk) = ⟨(uripostRun true urlOk good).entries, e, junk⟩ ∧ ∃ c, e = .err c) ∧
  (∀ (good junk : Bytes) (e : End), WellFormed (rawRun true) good → rawStep true junk = .fail e →
    rawRun true (good ++ junk) = ⟨(rawRun true good).entries, e, junk⟩ ∧ ∃ c, e = .err c) ∧
  (∀ (urlOk : Bytes → Bool) (pre : List Bytes) (bad : Bytes) (post : List Bytes) (e : End),
    (uriLines urlOk pre).end_ = .ok → uriLine urlOk bad = .fail e →
    uriLines urlOk (pre ++ bad :: post) = ⟨(uriLines urlOk pre).entries, e, []⟩ ∧ ∃ c, e = .err c) ∧
  -- negative and oversized announced sizes
  (∀ (size : Int) (rest : Bytes), size < 0 → readBody true size rest = .err "size") ∧
  (∀ (size : Int) (rest : Bytes), size > rest.length →
    readBody true size rest = .err "trunc" ∨ readBody true size rest = .err "size") ∧
  -- grpc/json: error, or skipped with continue_on_error
  (∀ (json : Bytes → Option Bytes) (pre : List Bytes) (bad : Bytes) (post : List Bytes),
    bad.length < maxToken → json (dropCR bad) = none →
    ((grpcLines false json pre).end_ = .ok →
      grpcLines false json (pre ++ bad :: post) = ⟨(grpcLines false json pre).entries, .err "other"⟩) ∧
    ((grpcLines true json pre).end_ = .ok →
      grpcLines true json (pre ++ bad :: post) =
        (grpcLines true json post).prepend ((grpcLines true json pre).entries ++ [.invalid]))) ∧
  -- scenario request lists
  (∀ (known : Bytes → Bool) (sh : Bytes) (rest : List Bytes) (cnt sl : Int),
    parseShootName sh = .ok ⟨sleepName, cnt, sl⟩ → expand true known (sh :: rest) = .err "leading-sleep") ∧
  (∀ (known : Bytes → Bool) (pre : List Bytes) (sh : Bytes) (rest : List Bytes) (name : Bytes) (cnt sl : Int),
    parseShootName sh = .ok ⟨name, cnt, sl⟩ → name ≠ sleepName → known name = false →
    (expand true known (pre ++ sh :: rest)).isOk = false ∧ (expand true known (pre ++ sh :: rest)).returns = true) ∧
  (∀ (known : Bytes → Bool) (pre : List Bytes) (sh : Bytes) (rest : List Bytes) (c : String),
    parseShootName sh = .err c →
    (expand true known (pre ++ sh :: rest)).isOk = false ∧ (expand true known (pre ++ sh :: rest)).returns = true) ∧
  -- empty data source, placeholder without key, negative weight, negative length
  (∀ (indexStr : Bytes) (next : Int) (rnd : Nat), ∃ c, calcIndex true indexStr 0 next rnd = .err c) ∧
  (∀ (fileOf : Bytes → Option (List Bytes)) (inp : Bytes), cut inp 35 = none → propertyResolve true fileOf inp = .err "format") ∧
  (∀ (ws : List Int) (w : Int), w ∈ ws → w < 0 → spread true ws = .err "weight") ∧
  (∀ n : Int, n < 0 → randStringLen true n = .err "length") ∧
  -- a sleep after items that expand to nothing; files and sources without a single entry
  (∀ (known : Bytes → Bool) (pre : List Bytes) (sh : Bytes) (rest : List Bytes) (cnt sl : Int),
    expand true known pre = .ok [] → parseShootName sh = .ok ⟨sleepName, cnt, sl⟩ →
    expand true known (pre ++ sh :: rest) = .err "leading-sleep") ∧
  (∀ (one : Run) (limit : Nat), one.entries = [] → one.end_ = .ok → multiRunAll one 0 limit = ⟨[], .err "noammo", []⟩) ∧
  (∀ (data : Bytes), (∀ b ∈ data, isJsonWs b = true) → ∀ passes limit : Nat, genjsonRun true data passes limit = ⟨[], "ok"⟩) ∧
  -- jsonline: a refused file / array, an empty array; a refused value after objects
  (∀ (pre : Bool) (passes limit : Nat) (es : Option (List Bytes)) (tr : Bool),
    jsonlineRun true .refused pre passes limit = ctorErr ∧ jsonlineRun true (.array none tr) pre passes limit = ctorErr ∧
    jsonlineRun true (.array es true) pre passes limit = ctorErr ∧
    jsonlineRun true (.array (some []) false) pre passes limit = ⟨[], .err "noammo", []⟩) ∧
  (∀ (fixed : Bool) (tags : List Bytes) (post : List JItem) (pre : Bool) (passes limit : Nat), limit = 0 ∨ tags.length < limit →
    jsonlineRun fixed (.stream (tags.map .good ++ .bad :: post)) pre passes limit =
      ⟨if pre then [] else tags.map fun t => ⟨t, [], []⟩, .err "other", []⟩)

theorem C13_rejected_or_skipped : C13_rejected_or_skipped_statement :=
  ⟨C13_rejected_uripost, C13_rejected_raw, C13_rejected_uri, C13_rejected_negative_size, C13_rejected_oversize,
   C13_rejected_or_skipped_grpcjson, C13_rejected_leading_sleep, C13_rejected_unknown_request, C13_rejected_bad_shoot,
   C13_rejected_empty_source, C13_rejected_property_no_hash, C13_rejected_negative_weight, C13_rejected_negative_length,
   C13_rejected_sleep_without_request, C13_rejected_http_no_ammo, C13_rejected_genjson_no_ammo,
   C13_rejected_jsonline_ctor, C13_rejected_jsonline⟩

/-- C13, "never alters how well-formed entries before it are delivered" (both code variants of the size-prefixed decoders) -/
def C13_prefix_preserved_statement (fixed : Bool) : Prop :=
  (∀ (urlOk : Bytes → Bool) (good junk : Bytes), WellFormedU (uripostRun fixed urlOk) good →
    (uripostRun fixed urlOk (good ++ junk)).entries =
      (uripostRun fixed urlOk good).entries ++ (uripostRun fixed urlOk junk).entries) ∧
  (∀ (good junk : Bytes), WellFormed (rawRun fixed) good →
    (rawRun fixed (good ++ junk)).entries = (rawRun fixed good).entries ++ (rawRun fixed junk).entries) ∧
  (∀ (urlOk : Bytes → Bool) (good junk : Bytes), (uriRun urlOk good).end_ = .ok →
    uriRun urlOk (good ++ 10 :: junk) = (uriRun urlOk junk).prepend (uriRun urlOk good).entries) ∧
  (∀ (coe : Bool) (json : Bytes → Option Bytes) (l1 l2 : List Bytes), (grpcLines coe json l1).end_ = .ok →
    grpcLines coe json (l1 ++ l2) = (grpcLines coe json l2).prepend (grpcLines coe json l1).entries) ∧
  (∀ (tags : List Bytes) (junk : List JItem),
    jlItems (tags.map .good ++ junk) = (jlItems junk).prepend (tags.map fun t => ⟨t, [], []⟩))

theorem C13_prefix_preserved (fixed : Bool) : C13_prefix_preserved_statement fixed :=
  ⟨C13_prefix_preserved_uripost fixed, C13_prefix_preserved_raw fixed, C13_prefix_preserved_uri, grpcLines_append,
   C13_prefix_preserved_jsonline⟩

/-- C13, "never makes a provider loop or block forever": the decoding loops stop on every input (measure: unread bytes),
the GCD loop stops, and a grpc/json pass that delivered nothing is not repeated -/
def C13_terminates_statement (fixed : Bool) : Prop :=
  (∀ (urlOk : Bytes → Bool) (s : Bytes), (uripostRun fixed urlOk s).end_ ≠ .fuel) ∧
  (∀ s : Bytes, (rawRun fixed s).end_ ≠ .fuel) ∧
  (∀ (urlOk : Bytes → Bool) (s : Bytes), Step.decreases s (uripostStep fixed urlOk s) ∧ Step.decreases s (rawStep fixed s)) ∧
  (∀ (a b : Int) (k : Nat), gcdGo (a.toNat + b.toNat + 1 + k) a b = gcd64 a b) ∧
  (∀ (limit passes passNum ammoNum : Nat) (scanErr : Bool),
    grpcPassEnd fixed limit passes passNum ammoNum scanErr = .again → 0 < ammoNum) ∧
  -- the http decoders over any file, read again and again: with a limit or a pass limit the run ends
  (∀ (one : Run) (passes limit : Nat), one.end_ ≠ .fuel → limit ≠ 0 ∨ passes ≠ 0 → (multiRunAll one passes limit).end_ ≠ .fuel) ∧
  -- MultiPassReader under jsoniter's loadMore loop: never more than two Read calls
  (∀ (data : Bytes) (passes : Nat) (s : MPR), MPR.WF data s → ∀ k : Nat, (loadByte fixed data passes (k + 2) s).1 ≠ .again) ∧
  -- jsonline, every reading of the file: with a limit or a pass limit the run ends
  (∀ (fx : Bool) (src : JSrc) (pre : Bool) (passes limit : Nat), limit ≠ 0 ∨ passes ≠ 0 → (jsonlineRun fx src pre passes limit).end_ ≠ .fuel)

theorem C13_terminates : C13_terminates_statement true :=
  ⟨C13_terminates_uripost true, C13_terminates_raw true, C13_terminates_step true, C13_terminates_gcd,
   C13_terminates_grpcjson_pass, C13_terminates_http_passes, C13_terminates_multipass, C13_terminates_jsonline⟩

/-! ## the tree as found: each repaired statement is refuted for the variant `fixed := false` -/

namespace Ex
/-- `{"tag":"t"}`-like lines are whatever the oracle says; here: lines starting with `{` are accepted -/
def jsonBrace : Bytes → Option Bytes := fun l => match l with | 123 :: _ => some [116] | _ => none
/-- `{}` -/
def jl : Bytes := [123, 125]
/-- `oops` -/
def jbad : Bytes := [111, 111, 112, 115]
end Ex

example : grpcRun false jsonBrace (jl ++ 10 :: jbad ++ 10 :: jl) = ⟨[.valid [116]], .err "other"⟩ := by decide
example : grpcRun true jsonBrace (jl ++ 10 :: jbad ++ 10 :: jl ++ [13, 10]) = ⟨[.valid [116], .invalid, .valid [116]], .ok⟩ := by decide
example : spread true [6, 9, 0] = .ok [6, 9, 1] := by decide
example : spread true [4, 6, 10, 8] = .ok [2, 3, 5, 4] := by decide
example : spread true [-5, 1] = .err "weight" := by decide
example : randStringLen true (-1) = .err "length" ∧ randStringLen true 0 = .ok 1 ∧ randStringLen true 12 = .ok 12 := by decide
example : sumInt ([6, 9, 0].map normWeight) * 8 ≤ memCap := by decide
example : uriLine anyUrl [91, 98, 114, 111, 107, 101, 110] = .fail (.err "hdr") := by decide
example : grpcPassEnd true 0 0 1 3 false = .again := by decide
/-- an unterminated last line of a uripost file is decoded: `0 /b t2` -/
example : uripostRun true anyUrl [48, 32, 47, 98, 32, 116, 50] = ⟨[⟨[116, 50], [47, 98], []⟩], .ok, []⟩ := by decide

theorem C13_no_panic_uripost_counterexample : ¬ ∀ (urlOk : Bytes → Bool) (s : Bytes), Returned (uripostRun false urlOk s) := by
  intro h
  have hp : (uripostRun false anyUrl negOnly).end_ = .panic := by decide
  rcases h anyUrl negOnly with h | ⟨c, h⟩ <;> rw [hp] at h <;> cases h

theorem C13_no_panic_raw_counterexample : ¬ ∀ s : Bytes, Returned (rawRun false s) := by
  intro h
  have hp : (rawRun false rawNeg).end_ = .panic := by decide
  rcases h rawNeg with h | ⟨c, h⟩ <;> rw [hp] at h <;> cases h

theorem C13_no_panic_expand_counterexample :
    ¬ ∀ (known : Bytes → Bool) (reqs : List Bytes), (expand false known reqs).returns = true := by
  intro h; have := h knownR1 [sleep10, r1]; revert this; decide

theorem C13_no_panic_getMapValue_counterexample :
    ¬ ∀ (cur : List (Bytes × Val)) (path : Bytes) (st : IterState) (rnd : Nat), (getMapValue false cur path st rnd).1.returns = true := by
  intro h; have := h emptySource pathNext [] 0; revert this; decide

theorem C13_no_panic_resolveTags_counterexample :
    ¬ ∀ (env : Bytes → Option Bytes) (fileOf : Bytes → Option (List Bytes)) (s : Bytes), (resolveTags false env fileOf s).returns = true := by
  intro h; have := h (fun _ => none) (fun _ => none) tagProp; revert this; decide

theorem C13_no_panic_randInt_counterexample : ¬ ∀ (f t : Int) (rnd : Nat), (randInt false f t rnd).returns = true := by
  intro h; have := h 5 5 0; revert this; decide

theorem C13_no_panic_readConfig_counterexample : ¬ ∀ p : PoolsVal, (massagePools false p).returns = true := by
  intro h; have := h .absent; revert this; decide

/-- two scenarios with weights -5 and 1: `make([]*Scenario, 0, -4)` -/
theorem C13_no_panic_spread_counterexample :
    ¬ ∀ ws : List Int, (spread false ws).returns = true := by
  intro h; have := h [-5, 1]; revert this; decide

/-- `randString(-1)`: `make([]rune, -1)` -/
theorem C13_no_panic_randString_counterexample : ¬ ∀ n : Int, (randStringLen false n).returns = true := by
  intro h; have := h (-1); revert this; decide

/-- `variable_sources: [null]`: `source.Init()` on a nil interface; `postprocessors: [null]`: a nil plugin is left for the gun -/
theorem C13_no_panic_nullItem_counterexample :
    ¬ ∀ site : NullSite, (nullItem false site).returns = true ∧ nilPluginLeft false site = false := by
  intro h; have := h .variableSource; revert this; decide

theorem C13_nil_plugin_left_counterexample : nilPluginLeft false .postprocessor = true ∧ nilPluginLeft false .grpcPreprocessor = true := by
  decide

theorem C13_no_panic_counterexample : ¬ C13_no_panic_statement false :=
  fun h => C13_no_panic_uripost_counterexample h.1

/-- the tree as found: a pass over an empty grpc/json file with `passes: 0` is repeated without having delivered anything -/
theorem C13_terminates_counterexample : ¬ C13_terminates_statement false := by
  intro h
  have := h.2.2.2.2.1 0 0 1 0 false (by decide)
  omega

/-- … and so does `MultiPassReader` as found, over an empty source -/
theorem C13_terminates_multipass_counterexample :
    ¬ ∀ (data : Bytes) (passes : Nat) (s : MPR), MPR.WF data s → ∀ k : Nat, (loadByte false data passes (k + 2) s).1 ≠ .again :=
  fun h => h [] 0 MPR.init (MPR.init_WF []) 0 (C13_unrepaired_multipass_spins 2)

/-! ## grpc/json as the engine uses it: pooled ammo objects, passes, limit, chosen cases

The provider takes every ammo object from a `sync.Pool` into which the engine's instances release the objects they have
shot. The pool of the model is adversarial: the k-th `Pool.Get()` answers `pool k`, any object in any state - fresh, or
still carrying an earlier entry (tag, call, metadata, payload), its id and its invalid flag. -/

/-- what `Provider.start` sends to the sink does not depend on what the pool hands out -/
def C13_grpc_pool_invisible_statement (fixed : Bool) : Prop :=
  ∀ (coe : Bool) (json : Bytes → Option GFields) (chosen : Bytes → Bool) (limit passes : Nat) (p q : Nat → GObj)
    (lines : List Bytes) (fuel : Nat),
    gStart fixed coe json chosen limit passes p lines fuel 0 0 0 = gStart fixed coe json chosen limit passes q lines fuel 0 0 0

/-- every file (list of scanner tokens), every jsoniter oracle, every option, every two pools: the same run -/
theorem C13_grpc_pool_invisible : C13_grpc_pool_invisible_statement true := by
  intro coe json chosen limit passes p q lines fuel
  rw [gStart_pure, gStart_pure]

/-- "never alters how well-formed entries are delivered", "skipped where continue-on-error is requested": every object
sent to the sink is what its OWN line says - a line jsoniter decodes arrives with exactly its fields and VALID, whatever
the pooled object held; a line it refuses arrives (continue_on_error) EMPTY and invalidated, never with an earlier entry's
call and payload - in every pass, under every limit and chosen-cases filter. -/
theorem C13_grpc_delivered_as_line (coe : Bool) (json : Bytes → Option GFields) (chosen : Bytes → Bool) (limit passes : Nat)
    (pool : Nat → GObj) (lines : List Bytes) (fuel : Nat) (o : GObj)
    (h : o ∈ (gStart true coe json chosen limit passes pool lines fuel 0 0 0).out) :
    ∃ l ∈ lines, chosen o.f.tag = true ∧
      ((∃ f, json (dropCR l) = some f ∧ o = ⟨f, 0, false⟩) ∨
       (coe = true ∧ json (dropCR l) = none ∧ o = ⟨GFields.zero, 0, true⟩)) := by
  rw [gStart_pure] at h
  obtain ⟨l, hl, ho, hc⟩ := gStartPure_mem coe json chosen limit passes lines fuel 0 0 0 o h
  refine ⟨l, hl, hc, ?_⟩
  unfold gLineObj at ho
  cases hj : json (dropCR l) with
  | some f =>
    left
    simp only [hj, Option.some.injEq] at ho
    exact ⟨f, rfl, ho.symm⟩
  | none =>
    right
    simp only [hj] at ho
    cases coe with
    | true => simp only [if_true, Option.some.injEq] at ho; exact ⟨rfl, rfl, ho.symm⟩
    | false => simp at ho

/-- one pass without limit and chosen cases: the pooled provider IS the line model of `C13_rejected_or_skipped_grpcjson`,
`C13_prefix_preserved` and `C13_no_panic_grpcjson` (so those theorems speak about the pooled provider too) -/
theorem C13_grpc_pooled_is_grpcLines (coe : Bool) (json : Bytes → Option GFields) (pool : Nat → GObj) (lines : List Bytes) :
    grpcLines coe (fun l => (json l).map (·.tag)) lines =
      ⟨(gScan true coe json (fun _ => true) 0 pool lines 0 0).out.map gView,
       gEndOf (gScan true coe json (fun _ => true) 0 pool lines 0 0).end_⟩ := by
  rw [gScan_pure]
  exact gScanPure_grpcLines coe json lines 0 0

/-- "never makes a provider loop": with a pass limit `Provider.start` ends after `passes` passes, with an ammo limit after
at most `limit + 1` (a pass that reaches an entry it delivers once reaches it every time; a first pass that delivers
nothing is "no ammo in file") - every file, oracle, pool, filter -/
theorem C13_terminates_grpc_start (coe : Bool) (json : Bytes → Option GFields) (chosen : Bytes → Bool) (limit passes : Nat)
    (pool : Nat → GObj) (lines : List Bytes) (h : limit ≠ 0 ∨ passes ≠ 0) :
    (gStart true coe json chosen limit passes pool lines (gFuel limit passes) 0 0 0).end_ ≠ .fuel := by
  rw [gStart_pure]
  unfold gFuel
  by_cases hp : passes ≠ 0
  · rw [if_pos hp]
    exact gStartPure_passes coe json chosen limit passes lines passes 0 0 0 (by omega) (by omega)
  · rw [if_neg hp]
    by_cases hr : gReaches coe json chosen lines = true
    · exact gStartPure_limit coe json chosen limit passes lines hr (limit + 1) 0 0 0 (by omega) (by omega)
    · -- the first pass delivers nothing, so there is no second one: "no ammo in file"
      rcases gStartPure_succ_cases coe json chosen limit passes lines limit 0 0 0 with ⟨_, he⟩ | ⟨hag, _⟩
      · exact End.returned_ne_fuel he
      · exact absurd (gScanPure_delivers_reaches coe json chosen limit lines 0 0 (grpcPassEnd_again hag).2.2) hr

/-- … and it ends with the end of the data or an error value -/
theorem C13_no_panic_grpc_start (coe : Bool) (json : Bytes → Option GFields) (chosen : Bytes → Bool) (limit passes : Nat)
    (pool : Nat → GObj) (lines : List Bytes) (h : limit ≠ 0 ∨ passes ≠ 0) :
    let e := (gStart true coe json chosen limit passes pool lines (gFuel limit passes) 0 0 0).end_
    e = .ok ∨ ∃ c, e = .err c := by
  have ht := C13_terminates_grpc_start coe json chosen limit passes pool lines h
  rw [gStart_pure] at ht ⊢
  have := gStartPure_end coe json chosen limit passes lines (gFuel limit passes) 0 0 0
  simp only at this ⊢
  rcases this with h1 | h1
  · exact absurd h1 ht
  · exact h1

/-! the same facts about the definitions regenerated from the current source (`Gen.C13Src`, area `c13src`) -/

/-- `decodeAmmo` as it stands hands back the same object whatever it took from the pool -/
theorem C13_grpc_pool_invisible_source (parsed : Option GFields) (a b : GObj) :
    Gen.C13Src.decodeAmmo parsed a = Gen.C13Src.decodeAmmo parsed b := by
  rw [Bridge.C13.decodeAmmo_bridge, Bridge.C13.decodeAmmo_bridge, gDecodeAmmo_fixed, gDecodeAmmo_fixed]

/-- `(*Ammo).Reset` as it stands clears the invalid flag and the id of a recycled object, and the two accessors agree -/
theorem C13_grpc_reset_clears_source (a : GObj) (tag call metadata payload : Bytes) :
    Gen.C13Src.ammoIsInvalid (Gen.C13Src.ammoReset a tag call metadata payload) = false ∧
    Gen.C13Src.ammoIsValid (Gen.C13Src.ammoReset a tag call metadata payload) = true ∧
    (Gen.C13Src.ammoReset a tag call metadata payload).id = 0 := by
  rw [Bridge.C13.ammoIsValid_bridge, Bridge.C13.ammoIsInvalid_bridge, Bridge.C13.ammoReset_bridge]
  simp [gReset]

/-- the body of the scan loop as it stands: what goes to the sink for a line is what the line says -/
theorem C13_grpc_delivered_as_line_source (coe : Bool) (chosen : Bytes → Bool) (parsed : Option GFields) (pooled : GObj)
    (ammoNum : Nat) (o : GObj) (n' : Int)
    (h : Gen.C13Src.startBody coe chosen parsed pooled ammoNum = some (some o, n')) :
    n' = ammoNum + 1 ∧ chosen o.f.tag = true ∧
      ((∃ f, parsed = some f ∧ o = ⟨f, 0, false⟩) ∨ (coe = true ∧ parsed = none ∧ o = ⟨GFields.zero, 0, true⟩)) := by
  rw [Bridge.C13.startBody_bridge] at h
  unfold gBody at h
  rw [gDecodeAmmo_fixed] at h
  cases parsed with
  | some f =>
    simp only [Bool.false_and, Bool.false_eq_true, if_false] at h
    split at h
    · simp at h
    · rename_i hc
      simp only [Option.map_some, Option.some.injEq, Prod.mk.injEq] at h
      obtain ⟨h1, h2⟩ := h
      subst h1
      exact ⟨by omega, by simpa using hc, .inl ⟨f, rfl, rfl⟩⟩
  | none =>
    cases coe with
    | false => simp at h
    | true =>
      simp only [Bool.not_true, Bool.and_false, Bool.false_eq_true, if_false, if_true, gInvalidate] at h
      split at h
      · simp at h
      · rename_i hc
        simp only [Option.map_some, Option.some.injEq, Prod.mk.injEq] at h
        obtain ⟨h1, h2⟩ := h
        subst h1
        exact ⟨by omega, by simpa using hc, .inr ⟨rfl, rfl, rfl⟩⟩

/-- a round of the outer loop as it stands: the file is scanned again only after a seek to its start, and only when the
passes so far have delivered something -/
theorem C13_terminates_grpcjson_pass_source (limit passes passNum ammoNum : Nat) (scanErr : Bool) :
    Gen.C13Src.grpcPassEnd limit passes passNum ammoNum scanErr ≠ 4 ∧
    (Gen.C13Src.grpcPassEnd limit passes passNum ammoNum scanErr = 0 → 0 < ammoNum) := by
  rw [Bridge.C13.grpcPassEnd_bridge]
  cases hp : grpcPassEnd true limit passes (passNum + 1) ammoNum scanErr with
  | again =>
    have := C13_terminates_grpcjson_pass limit passes (passNum + 1) ammoNum scanErr hp
    simp [Bridge.C13.grpcEndCode, this]
  | stop e =>
    cases e <;> simp [Bridge.C13.grpcEndCode]
    split <;> simp

/-- the statement for the tree before 9da7ed8 (`decodeAmmo` left the pooled object alone when the line could not be
decoded) is false: with `continue_on_error` the refused line `x` is delivered with whatever the recycled object held -/
theorem C13_grpc_pool_invisible_counterexample : ¬ C13_grpc_pool_invisible_statement false := by
  intro h
  have := h true (fun _ => none) (fun _ => true) 0 1 (fun _ => ⟨GFields.zero, 0, false⟩)
    (fun _ => ⟨⟨[116], [99], [], [112]⟩, 7, false⟩) [[120]] 1
  revert this
  decide

/-- non-vacuity: a file of three lines (`good`, `bad`, `good`) read twice with continue_on_error from a pool of dirty
objects - six entries, the well-formed ones valid with their own fields, the refused ones empty and invalidated -/
example :
    (gStart true true (fun l => if l = [103] then some ⟨[116], [99], [], []⟩ else none) (fun _ => true) 0 2
      (fun k => ⟨⟨[115], [115], [115], [115]⟩, k, true⟩) [[103], [98, 13], [103]] (gFuel 0 2) 0 0 0) =
    ⟨[⟨⟨[116], [99], [], []⟩, 0, false⟩, ⟨GFields.zero, 0, true⟩, ⟨⟨[116], [99], [], []⟩, 0, false⟩,
      ⟨⟨[116], [99], [], []⟩, 0, false⟩, ⟨GFields.zero, 0, true⟩, ⟨⟨[116], [99], [], []⟩, 0, false⟩], .ok⟩ := by decide

/-- non-vacuity: limit 4 without a pass limit over a two-line file with a chosen-cases filter that keeps one line -/
example :
    (gStart true true (fun l => if l = [103] then some ⟨[116], [], [], []⟩ else some ⟨[117], [], [], []⟩) (fun t => t == [116]) 4 0
      (fun _ => ⟨GFields.zero, 0, true⟩) [[103], [104]] (gFuel 4 0) 0 0 0).out.length = 4 := by decide

example : Gen.C13Src.startBody true (fun _ => true) none ⟨⟨[115], [115], [115], [115]⟩, 9, true⟩ (3 : Nat) =
    some (some ⟨GFields.zero, 0, true⟩, 4) := by decide

example : Gen.C13Src.grpcPassEnd 0 0 0 3 false = 0 := by decide

/-! ## the `chosen_cases` filter of the http provider, the `type` of a plugin, the separator of a csv source -/

/-- "never makes a provider loop forever / empty data sources are rejected", for the provider variant `guarded`
(`true`: `runFullScan` tests `ammoNum == 0 && passes.PassNum() > 0` in front of `Scan` and the decoder answers the
`passCounter` assertion): a filter that lets no entry of the file through - wrong tags, a typo - ends the run after ONE pass
with "no ammo" (or with the file's own error), whatever `passes` and `limit` are, zero included, with and without preload -/
def C13_terminates_http_chosen_nothing_statement (guarded : Bool) : Prop :=
  ∀ (one : Run) (chosen : Bytes → Bool) (pre : Bool) (passes limit : Nat),
    (∀ e ∈ one.entries, chosen e.tag = false) →
      ccRunAll guarded one chosen pre passes limit =
        if one.end_ ≠ .ok then ⟨[], one.end_, one.rest⟩ else ⟨[], .err "noammo", []⟩

theorem C13_terminates_http_chosen_nothing : C13_terminates_http_chosen_nothing_statement true := by
  intro one chosen pre passes limit hnone
  have hsel : selOf chosen one.entries = [] := by
    unfold selOf
    rw [List.filter_eq_nil_iff]
    intro e he
    simp [hnone e he]
  unfold ccRunAll
  simp only [hsel, List.length_nil]
  cases pre with
  | true =>
    simp only [if_true]
  | false =>
    simp only [Bool.false_eq_true, if_false]
    unfold ccFuel
    exact ccMulti_nothing one passes limit _ 0 0

/-- without the test (or with a decoder that no longer answers the assertion, which still compiles) the statement is false:
a one-entry file, a filter that refuses its tag, no limits - every amount of fuel runs out -/
theorem C13_terminates_http_chosen_nothing_counterexample : ¬ C13_terminates_http_chosen_nothing_statement false := by
  intro h
  have h1 := h ⟨[⟨[116], [47], []⟩], .ok, []⟩ (fun _ => false) false 0 0 (by simp)
  have h2 := ccMulti_unguarded_spins ⟨[116], [47], []⟩ [] 0 (ccFuel 0 0) 0 0
  have h3 : (ccRunAll false ⟨[⟨[116], [47], []⟩], .ok, []⟩ (fun _ => false) false 0 0).end_ = .fuel := by
    unfold ccRunAll
    simpa [selOf] using h2
  rw [h1] at h3
  simp at h3

/-- … and the same spin with an ammo limit: the limit counts DELIVERED ammo, so it is never reached -/
theorem C13_unrepaired_http_chosen_spins (limit fuel : Nat) :
    (ccMulti false ⟨[⟨[116], [47], []⟩], .ok, []⟩ [] 0 limit fuel 0 0 0).end_ = .fuel :=
  ccMulti_unguarded_spins _ _ limit fuel 0 0

/-- with a limit or a pass limit the provider with a filter ends, whatever the filter lets through -/
theorem C13_terminates_http_chosen (one : Run) (chosen : Bytes → Bool) (pre : Bool) (passes limit : Nat)
    (hone : one.end_ ≠ .fuel) (h : limit ≠ 0 ∨ passes ≠ 0) : (ccRunAll true one chosen pre passes limit).end_ ≠ .fuel := by
  unfold ccRunAll
  cases pre with
  | true =>
    simp only [if_true]
    split
    · exact hone
    · split
      · simp
      · exact C13_terminates_http_passes ⟨selOf chosen one.entries, .ok, []⟩ passes limit (by simp) h
  | false =>
    simp only [Bool.false_eq_true, if_false]
    unfold ccFuel
    by_cases hl : limit ≠ 0
    · rw [if_pos hl]
      exact ccMulti_no_fuel_limit one _ passes limit hone hl _ 0 0 0 (by simp) (by omega)
    · have hl0 : limit = 0 := by omega
      have hp : passes ≠ 0 := by rcases h with h | h; exact absurd hl0 h; exact h
      rw [if_neg hl]
      exact ccMulti_no_fuel_passes true one _ passes limit hone hp _ 0 0 0 (by omega)

/-- it never ends in a panic or a fatal error when a single pass does not -/
theorem C13_no_panic_http_chosen (guarded : Bool) (one : Run) (chosen : Bytes → Bool) (pre : Bool) (passes limit : Nat)
    (hone : End.clean one.end_) :
    (ccRunAll guarded one chosen pre passes limit).end_ ≠ .panic ∧ (ccRunAll guarded one chosen pre passes limit).end_ ≠ .fatal := by
  unfold ccRunAll
  cases pre with
  | true =>
    simp only [if_true]
    split
    · exact End.not_crash hone (.inr (.inl rfl))
    · split
      · exact ⟨End.noConfusion, End.noConfusion⟩
      · exact multiRunAll_no_panic _ passes limit trivial
  | false => exact End.not_crash hone (ccMulti_end_cases guarded one _ passes limit _ 0 0 0)

/-- "never alters how well-formed entries are delivered": with a filter the provider hands out entries of the file that
pass the filter, and nothing else -/
theorem C13_http_chosen_delivers_chosen (guarded : Bool) (one : Run) (chosen : Bytes → Bool) (pre : Bool) (passes limit : Nat) :
    ∀ e ∈ (ccRunAll guarded one chosen pre passes limit).entries, e ∈ one.entries ∧ chosen e.tag = true := by
  intro e he
  have hsel : ∀ e ∈ selOf chosen one.entries, e ∈ one.entries ∧ chosen e.tag = true := by
    intro e he
    unfold selOf at he
    simpa [List.mem_filter] using he
  unfold ccRunAll at he
  cases pre with
  | true =>
    simp only [if_true] at he
    split at he
    · simp at he
    · split at he
      · simp at he
      · exact hsel e (multiRun_mem ⟨selOf chosen one.entries, .ok, []⟩ passes limit _ 0 0 e he)
  | false =>
    simp only [Bool.false_eq_true, if_false] at he
    exact hsel e (ccMulti_mem guarded one _ passes limit _ 0 0 0 e he)

/-- a filter that lets everything through delivers what the provider of the earlier theorems (`multiRun`) delivers, entry
by entry (the two ends differ in one case only - a pass limit reached with nothing delivered - see `ccMulti_all`) -/
theorem C13_http_chosen_all (one : Run) (passes limit fuel : Nat) :
    (ccMulti true one one.entries passes limit fuel 0 0 0).entries = (multiRun one passes limit fuel 0 0).entries :=
  (ccMulti_all one passes limit fuel 0 0).1

/-- a jsonline file that is one JSON array none of whose elements passes the filter: "no ammo" after one pass over the
array, whatever `passes` and `limit` are; `scanAmmos` never panics under the filter -/
theorem C13_terminates_jsonline_array_chosen_nothing (chosen : Bytes → Bool) (elems : List Bytes) (pre : Bool) (passes limit : Nat)
    (hnone : ∀ t ∈ elems, chosen t = false) :
    jlArrayRunCC true chosen elems pre passes limit = ⟨[], .err "noammo", []⟩ := by
  unfold jlArrayRunCC
  cases pre with
  | true =>
    have : elems.filter chosen = [] := by
      rw [List.filter_eq_nil_iff]
      intro t ht
      simp [hnone t ht]
    simp [this]
  | false =>
    simp only [Bool.false_eq_true, if_false]
    rcases Nat.eq_zero_or_pos elems.length with h0 | hpos
    · have : elems = [] := List.eq_nil_of_length_eq_zero h0
      subst this
      unfold jlArrayFuelCC jlArrayLoopCC
      simp [scanAmmos]
    · have := jlArrayLoopCC_nothing chosen elems passes limit hnone (jlArrayFuelCC elems.length passes limit) ⟨0, 0⟩ []
        (JlArr.init_Inv _ hpos) (by unfold jlArrayFuelCC; omega) (by intro _; unfold jlArrayFuelCC; simp; omega)
      simpa using this

theorem C13_no_panic_jsonline_chosen (guarded : Bool) (src : JSrc) (chosen : Bytes → Bool) (pre : Bool) (passes limit : Nat) :
    (jsonlineRunCC guarded src chosen pre passes limit).end_ ≠ .panic ∧
    (jsonlineRunCC guarded src chosen pre passes limit).end_ ≠ .fatal := by
  cases src with
  | refused => simp [jsonlineRunCC, ctorErr]
  | array elems tr =>
    cases elems with
    | none => simp [jsonlineRunCC, ctorErr]
    | some es =>
      simp only [jsonlineRunCC]
      split
      · simp [ctorErr]
      · unfold jlArrayRunCC
        cases pre with
        | true =>
          simp only [if_true]
          split
          · simp
          · exact multiRunAll_no_panic _ passes limit trivial
        | false =>
          simp only [Bool.false_eq_true, if_false]
          exact jlArrayLoopCC_no_panic guarded chosen es passes limit _ _ _ _
  | stream items =>
    simp only [jsonlineRunCC]
    exact C13_no_panic_http_chosen guarded (jlItems items) chosen pre passes limit (jlItems_end_clean items)

/-- the array loop with a filter that refuses nothing is the loop of `C13_no_panic_jsonline` / `C13_terminates_jsonline` -/
theorem C13_jsonline_array_chosen_all (elems : List Bytes) (passes limit fuel : Nat) (s : JlArr) (n : Nat) (acc : List Entry) :
    jlArrayLoopCC true (fun _ => true) elems passes limit fuel s n acc = jlArrayLoop elems passes limit fuel s n acc :=
  jlArrayLoopCC_all elems passes limit fuel s n acc

/-- about the regenerated code: in front of every `Scan`, after a complete pass (`PassNum() ≥ 1`) that delivered nothing,
`runFullScan` as it stands returns `ErrNoAmmo` - for every file decoder (each answers the `passCounter` assertion, from the
types), every limit; the limit counts delivered ammo only; and a pass limit reached with nothing delivered is "no ammo" -/
theorem C13_terminates_http_chosen_source (limit passNum : Nat) (hp : 1 ≤ passNum) :
    (∀ d ∈ Gen.C13Src.passCounterDecoders, Gen.C13Src.fullScanHead limit 0 d.2 passNum = 2) ∧
    Gen.C13Src.fullScanCountsDelivered = true ∧
    (∀ isAmmoLimit, Gen.C13Src.fullScanAfterErr (0 : Nat) true isAmmoLimit = 2) := by
  refine ⟨?_, Bridge.C13.fullScanCounts_bridge, ?_⟩
  · intro d hd
    have hall := Bridge.C13.passCounter_bridge.1
    rw [List.all_eq_true] at hall
    have hd2 : d.2 = true := hall d hd
    rw [hd2]
    have hb := Bridge.C13.fullScanHead_bridge limit 0 passNum true
    simp only [Int.natCast_zero] at hb
    rw [hb]
    unfold Bridge.C13.fullScanHeadModel
    have h1 : ¬ (limit ≠ 0 ∧ 0 ≥ limit) := by omega
    rw [if_neg h1, if_pos ⟨rfl, rfl, by omega⟩]
  · intro b
    rw [Bridge.C13.fullScanAfterErr_bridge]
    simp

/-- "a malformed configuration value is rejected with an error, never a panic": decoding a plugin config, for EVERY shape
of its `type` key(s) (absent, twice, not a string, any string - empty, blank, huge) and every registry, gives a value or an
error, as long as the string `parseConf` tests for emptiness is empty whenever the name it hands on is -/
def C13_no_panic_plugin_type_statement (tested returned : Bytes → Bytes) : Prop :=
  ∀ (registered : Bytes → Bool) (vals : List TypeVal), (pluginFromConf tested returned registered vals).returns = true

theorem C13_no_panic_plugin_type (tested returned : Bytes → Bytes) (h : ∀ s, returned s = [] → tested s = []) :
    C13_no_panic_plugin_type_statement tested returned := by
  intro registered vals
  unfold pluginFromConf parseConfName
  by_cases hany : (vals.any fun v => !v.isStr) = true
  · rw [if_pos hany]; simp [Res.bind, Res.returns, Res.isPanic, Res.isFatal]
  · rw [if_neg hany]
    match vals with
    | [] => simp [Res.bind, Res.returns, Res.isPanic, Res.isFatal]
    | [.other] => simp [Res.bind, Res.returns, Res.isPanic, Res.isFatal]
    | [.str s] =>
      simp only
      by_cases ht : tested s = []
      · rw [if_pos ht]; simp [Res.bind, Res.returns, Res.isPanic, Res.isFatal]
      · rw [if_neg ht]
        have hr : returned s ≠ [] := fun hr => ht (h s hr)
        simp only [Res.bind, registryNew, hr, if_false]
        split <;> simp [Res.returns, Res.isPanic, Res.isFatal]
    | _ :: _ :: _ => simp [Res.bind, Res.returns, Res.isPanic, Res.isFatal]

/-- a name trimmed AFTER the emptiness test: the statement is false - a `type` of one space passes the test, becomes the
empty name and reaches the registry's `expect(name != "")` -/
theorem C13_no_panic_plugin_type_counterexample : ¬ C13_no_panic_plugin_type_statement id trimSpace := by
  intro h
  have := h (fun _ => true) [.str [32]]
  revert this
  decide

/-- a `type` that is empty or nothing but white space is an error (no plugin has a blank name) -/
theorem C13_rejected_blank_plugin_type (registered : Bytes → Bool) (s : Bytes) (hs : trimSpace s = [])
    (hreg : ∀ n, registered n = true → trimSpace n ≠ []) : ∃ c, pluginFromConf id id registered [.str s] = .err c := by
  unfold pluginFromConf parseConfName
  simp only [List.any_cons, TypeVal.isStr, Bool.not_true, List.any_nil, Bool.or_self, Bool.false_eq_true, if_false, id]
  by_cases he : s = []
  · exact ⟨"empty", by simp [he, Res.bind]⟩
  · have hnr : registered s ≠ true := fun hr => hreg s hr hs
    refine ⟨"noplugin", ?_⟩
    simp [he, Res.bind, registryNew, hnr]

/-- … about `parseConf` as it stands (regenerated: which function of the raw value is tested, which one is handed on) -/
theorem C13_no_panic_plugin_type_source :
    C13_no_panic_plugin_type_statement Gen.C13Src.pcTested Gen.C13Src.pcReturned :=
  C13_no_panic_plugin_type _ _ Bridge.C13.parseConf_bridge

/-- "scenario descriptions … never crash the process": the separator a csv variable source gives its reader is a value for
EVERY `delimiter` string, the empty one included (`guarded`: `delimiter[0]` stands behind the test `delimiter != ""`) -/
def C13_no_panic_csv_delimiter_statement (guarded : Bool) : Prop :=
  ∀ delimiter : Bytes, (csvOpen guarded delimiter).returns = true

theorem C13_no_panic_csv_delimiter : C13_no_panic_csv_delimiter_statement true := csvOpen_returns

theorem C13_no_panic_csv_delimiter_counterexample : ¬ C13_no_panic_csv_delimiter_statement false := by
  intro h
  have := h []
  revert this
  decide

/-- … about `readCsv` as it stands: wherever `delimiter[i]` is evaluated, `i` is inside the string -/
theorem C13_no_panic_csv_delimiter_source (delimiter : Bytes) (h : Gen.C13Src.csvCommaGuard delimiter) :
    boundC Gen.C13Src.csvCommaIndex delimiter.length = .ok () ∧
    (∃ c, (if Gen.C13Src.csvCommaGuard delimiter then indexC delimiter Gen.C13Src.csvCommaIndex else .ok 44) = .ok c) := by
  refine ⟨(Bridge.C13.csvComma_bridge delimiter).1 h, ?_⟩
  rw [(Bridge.C13.csvComma_bridge delimiter).2]
  exact csvComma_guarded delimiter

/-- non-vacuity: a three-entry file, a filter that keeps the tag `u`, limit 5 without a pass limit: `u u u u u` -/
example : (ccRunAll true ⟨[⟨[116], [47], []⟩, ⟨[117], [47], []⟩, ⟨[116], [47], []⟩], .ok, []⟩ (fun t => t == [117]) false 0 5).entries.length = 5 ∧
    (ccRunAll true ⟨[⟨[116], [47], []⟩, ⟨[117], [47], []⟩, ⟨[116], [47], []⟩], .ok, []⟩ (fun t => t == [117]) false 0 5).end_ = .ok := by decide
/-- … the same file with a filter that matches nothing, no limits at all, and with two passes -/
example : ccRunAll true ⟨[⟨[116], [47], []⟩, ⟨[117], [47], []⟩], .ok, []⟩ (fun t => t == [120]) false 0 0 = ⟨[], .err "noammo", []⟩ ∧
    ccRunAll true ⟨[⟨[116], [47], []⟩, ⟨[117], [47], []⟩], .ok, []⟩ (fun t => t == [120]) false 2 0 = ⟨[], .err "noammo", []⟩ := by decide
example : jlArrayRunCC true (fun t => t == [120]) [[116], [117]] false 0 0 = ⟨[], .err "noammo", []⟩ ∧
    (jlArrayRunCC true (fun t => t == [117]) [[116], [117]] false 0 3).entries.length = 3 := by decide
example : Gen.C13Src.fullScanHead 0 0 true 1 = 2 ∧ Gen.C13Src.fullScanHead 3 0 true 0 = 0 ∧ Gen.C13Src.fullScanHead 3 3 true 1 = 1 := by decide
example : pluginFromConf id id (fun n => n == [104]) [.str [104]] = .ok () ∧
    pluginFromConf id id (fun n => n == [104]) [.str [32]] = .err "noplugin" ∧
    pluginFromConf id id (fun n => n == [104]) [.str []] = .err "empty" ∧
    pluginFromConf id id (fun n => n == [104]) [.str [104], .str [104]] = .err "toomany" := by decide
example : csvOpen true [] = .ok 44 ∧ csvOpen true [59, 59] = .ok 59 ∧ csvOpen true [10] = .err "delim" := by decide
example : Gen.C13Src.csvCommaGuard [59] := by decide

/-! ## the rows a csv variable source makes of its file (`vs.readCsv`) -/

/-- "a malformed data source never crashes the process": `readCsv`, for EVERY file (every answer `parse` of `csv.Reader`,
for every separator), every `fields` list, `ignore_first_line` and `delimiter`; `guarded` = the test in front of `record[i]` -/
def C13_no_panic_csv_rows_statement (guarded : Bool) : Prop :=
  ∀ (parse : UInt8 → Option (List (List Bytes))) (ign : Bool) (delimiter : Bytes) (fields : List Bytes),
    (readCsvModel true guarded parse ign delimiter fields).returns = true

theorem C13_no_panic_csv_rows : C13_no_panic_csv_rows_statement true := by
  intro parse ign delimiter fields
  unfold readCsvModel
  have hopen := csvOpen_returns delimiter
  cases hc : csvOpen true delimiter with
  | ok c =>
    simp only [Res.bind]
    cases hp : parse c with
    | none => simp [Res.returns, Res.isPanic, Res.isFatal]
    | some records =>
      obtain ⟨rows, h, _⟩ := csvRows_guarded records (fields.map underscored) ign
      simp [h, Res.returns, Res.isPanic, Res.isFatal]
  | err e => simp [Res.bind, Res.returns, Res.isPanic, Res.isFatal]
  | panic w => rw [hc] at hopen; simp [Res.returns, Res.isPanic] at hopen
  | fatal w => rw [hc] at hopen; simp [Res.returns, Res.isPanic, Res.isFatal] at hopen

/-- without the test the statement is false: a file with one column under a configuration that names two -/
theorem C13_no_panic_csv_rows_counterexample : ¬ C13_no_panic_csv_rows_statement false := by
  intro h
  have := h (fun _ => some [[[97]]]) false [] [[120], [121]]
  revert this
  decide

/-- … and so for every record shorter than the list of configured columns -/
theorem C13_unrepaired_csv_short_record (record fields : List Bytes) (h : record.length < fields.length) :
    ∃ i, i < fields.length ∧ (csvRowFrom false record (fields.drop i) i).isPanic = true :=
  ⟨record.length, h, csvRowFrom_unguarded_short record _ _ (by
    intro hd
    have := congrArg List.length hd
    simp at this
    omega) (Nat.le_refl _)⟩

/-- nothing is dropped and nothing invented: one row per record the reader hands out, but for an ignored first one -/
theorem C13_csv_rows_complete (records : List (List Bytes)) (fields : List Bytes) (ign : Bool) :
    ∃ rows, csvRows true records fields ign = .ok rows ∧ rows.length = csvRowCount records.length ign :=
  csvRows_guarded records fields ign

/-- every row names every configured column (a column the file does not have is the empty string) -/
theorem C13_csv_rows_columns (records : List (List Bytes)) (fields : List Bytes) (ign : Bool) (hf : fields.length ≠ 0)
    (rows : List (List (Bytes × Bytes))) (h : csvRows true records fields ign = .ok rows) :
    ∀ row ∈ rows, row.length = fields.length := by
  induction records generalizing ign rows with
  | nil => simp [csvRows] at h; subst h; simp
  | cons r more ih =>
    cases ign with
    | true =>
      have hc : csvCols fields r = fields := by simp [csvCols, hf]
      simp only [csvRows, hc] at h
      exact ih false rows (by simpa using h)
    | false =>
      obtain ⟨row, hr, hrl⟩ := csvRowFrom_guarded r fields 0
      obtain ⟨rest, hrest, _⟩ := csvRows_guarded more fields false
      have hc : csvCols fields r = fields := by simp [csvCols, hf]
      simp [csvRows, hc, hr, hrest, Res.bind] at h
      subst h
      intro x hx
      rcases List.mem_cons.mp hx with rfl | hx
      · exact hrl
      · exact ih false rest hrest x hx

/-- "never alters how well-formed entries before it are delivered": the rows of the records read first do not depend on
what follows them -/
theorem C13_prefix_preserved_csv (good more : List (List Bytes)) (fields : List Bytes) (ign : Bool) :
    ∃ rows tail, csvRows true good fields ign = .ok rows ∧ csvRows true (good ++ more) fields ign = .ok (rows ++ tail) := by
  induction good generalizing fields ign with
  | nil =>
    obtain ⟨t, ht, _⟩ := csvRows_guarded more fields ign
    exact ⟨[], t, by simp [csvRows], by simpa using ht⟩
  | cons r g ih =>
    obtain ⟨rows, tail, h1, h2⟩ := ih (csvCols fields r) false
    cases ign with
    | true => exact ⟨rows, tail, by simp [csvRows, h1], by simp [csvRows, h2]⟩
    | false =>
      obtain ⟨row, hr, _⟩ := csvRowFrom_guarded r (csvCols fields r) 0
      exact ⟨row :: rows, tail, by simp [csvRows, h1, hr, Res.bind], by simp [csvRows, h2, hr, Res.bind]⟩

/-- "is rejected with an error": a file the reader refuses (a quote that is not closed, a record with another number of
columns, …) makes `readCsv` return that error, whatever was read before; so does a separator the reader refuses -/
theorem C13_rejected_csv_reader_error (guardedR : Bool) (parse : UInt8 → Option (List (List Bytes))) (ign : Bool)
    (delimiter : Bytes) (fields : List Bytes) :
    (∀ c, csvOpen true delimiter = .ok c → parse c = none →
      readCsvModel true guardedR parse ign delimiter fields = .err "csv") ∧
    (∀ e, csvOpen true delimiter = .err e → readCsvModel true guardedR parse ign delimiter fields = .err e) := by
  constructor
  · intro c hc hp
    simp [readCsvModel, hc, Res.bind, hp]
  · intro e he
    simp [readCsvModel, he, Res.bind]

/-- … about `readCsv` as it stands (regenerated: the conditions under which `record[…]` is evaluated inside the loop over
the column names, and the index): the index is inside the record, and the cell is read exactly when the record has it -/
theorem C13_no_panic_csv_rows_source (i recLen : Int) (hi : 0 ≤ i) :
    (Gen.C13Src.csvRecordGuard i recLen → boundC (Gen.C13Src.csvRecordIndex i recLen) recLen = .ok ()) ∧
    (Gen.C13Src.csvRecordGuard i recLen ↔ ¬ i ≥ recLen) :=
  Bridge.C13.csvRecord_bridge i recLen hi

/-- non-vacuity: a header, two records (one column more than configured, one less), `ignore_first_line`, a column without
a name and one named twice -/
example : csvRows true [[[104]], [[97], [98], [99]], [[100]]] [[120], [], [120]] true =
    .ok [[([120], [97]), ([49], [98]), ([120], [99])], [([120], [100]), ([49], []), ([120], [])]] := by decide
example : csvRows true [[[97, 32, 98], [99]], [[49], [50]]] [] true = .ok [[([97, 95, 98], [49]), ([99], [50])]] := by decide
example : readCsvModel true true (fun c => if c == 59 then some [[[97], [98]]] else none) false [59] [[120]] = .ok [[([120], [97])]] := by decide
example : readCsvModel true true (fun _ => none) false [] [[120]] = .err "csv" := by decide
example : readCsvModel true true (fun _ => some []) true [10] [] = .err "delim" := by decide
example : Gen.C13Src.csvRecordGuard 0 1 ∧ ¬ Gen.C13Src.csvRecordGuard 1 1 := by decide

/-! ## nothing is allocated in proportion to an announced repeat count (1eaf10a, 4cfc662, 28b7d1e)

The code bounds all three (`name(n)` in a request list, scenario weights, `randString(n)`), so memory is no assumption of
this check: `C13_no_panic_spread` and `C13_no_panic_randString` above hold for EVERY input, `C13_spread_bounded` /
`C13_randString_bounded` give the bounds, and: -/

/-- EVERY request list, every registry: `convertScenarioToAmmo` returns an error or at most `MaxScenarioRequests` requests -
`r1(99999999999)` is an error value, not an append loop that exhausts the memory -/
theorem C13_expand_bounded (known : Bytes → Bool) (reqs : List Bytes) (steps : List ScnStep)
    (h : expand true known reqs = .ok steps) : (steps.length : Int) ≤ maxScenarioRequests :=
  expandGo_bounded known reqs [] steps (by decide) h

/-- "absurdly large sizes … rejected with an error": a repeat count above what is left of the bound ends the conversion with an
error, wherever the item stands in the list and whatever follows it -/
theorem C13_rejected_too_many_requests (known : Bytes → Bool) (pre : List Bytes) (sh : Bytes) (rest : List Bytes)
    (out : List ScnStep) (name : Bytes) (cnt sl : Int)
    (hpre : expand true known pre = .ok out) (h : parseShootName sh = .ok ⟨name, cnt, sl⟩)
    (hn : name ≠ sleepName) (hk : known name = true) (hbig : cnt > maxScenarioRequests - (out.length : Int)) :
    expand true known (pre ++ sh :: rest) = .err "too-many-requests" := by
  unfold expand at hpre ⊢
  rw [expandGo_append true known pre (sh :: rest) [] out hpre]
  unfold expandGo
  simp [h, hn, hk, hbig]

/-- the unrepaired conversion (before 1eaf10a) builds whatever is announced: no bound holds -/
theorem C13_expand_bounded_counterexample :
    ¬ ∀ (known : Bytes → Bool) (reqs : List Bytes) (steps : List ScnStep),
      expand false known reqs = .ok steps → (steps.length : Int) ≤ 3 := by
  intro h; have := h Ex.knownR1 [Ex.r1x2, Ex.r1x2] _ rfl; revert this; decide

/-- … about the code as it stands: the regenerated tests in front of the append loops (http and grpc) refuse exactly the
counts `expandGo` refuses, the regenerated `CheckSpread` is `checkSpread` and both `decodeAmmo` call it before their `make`,
the regenerated `randString` is `randStringLen`, and the three constants are the model's -/
theorem C13_bounded_allocation_source (cnt built : Int) (counts : List Int) (total n : Int) :
    (Gen.C13Src.httpRepeatRefused cnt built ↔ cnt > maxScenarioRequests - built) ∧
    (Gen.C13Src.grpcRepeatRefused cnt built ↔ cnt > maxScenarioRequests - built) ∧
    Gen.C13Src.httpDecodeAmmoChecksSpread = true ∧ Gen.C13Src.grpcDecodeAmmoChecksSpread = true ∧
    (checkSpread counts total = true ↔ (Gen.C13Src.checkSpreadTotal total ∨ ∃ c ∈ counts, Gen.C13Src.checkSpreadCount c)) ∧
    (∀ k, Gen.C13Src.randStringLen n = .ok k → 0 < k ∧ k ≤ Gen.C13Src.maxRandStringLength) ∧
    (Gen.C13Src.randStringLen n).returns = true := by
  have hr := Bridge.C13.repeatRefused_bridge cnt built
  have hc := Bridge.C13.checkSpread_bridge counts total
  refine ⟨hr.1, hr.2, hc.1, hc.2.1, hc.2.2, ?_, ?_⟩
  · intro k hk
    rw [Bridge.C13.randStringLen_bridge] at hk
    rcases randStringLen_fixed n with ⟨_, h⟩ | ⟨h0, h⟩ | ⟨h0, h1, h⟩ | ⟨_, h⟩ <;> rw [h] at hk <;>
      simp [Bridge.C13.eraseErr, Res.bind] at hk
    · subst hk; decide
    · subst hk; rw [Bridge.C13.maxRandStringLength_bridge]; omega
  · rw [Bridge.C13.randStringLen_bridge, Bridge.C13.eraseErr_returns]
    rcases randStringLen_fixed n with ⟨_, h⟩ | ⟨_, h⟩ | ⟨_, _, h⟩ | ⟨_, h⟩ <;> rw [h] <;>
      simp [Res.bind, Res.returns, Res.isPanic, Res.isFatal]

/- non-vacuity: a list that expands, one whose second item exceeds what is left, weights and lengths around the bounds -/
example : expand true Ex.knownR1 [Ex.r1x2, Ex.r1] = .ok [(Ex.r1, 50), (Ex.r1, 50), (Ex.r1, 0)] := by decide
example : parseShootName Ex.r1Huge = .ok ⟨Ex.r1, 1048575, 0⟩ ∧ Ex.knownR1 Ex.r1 = true ∧ Ex.r1 ≠ sleepName ∧
    (1048575 : Int) > maxScenarioRequests - (([(Ex.r1, 50), (Ex.r1, 50)] : List ScnStep).length : Int) := by decide
example : spread true [16777217, 1] = .err "spread" ∧ spread true [16777215, 1] = .ok [16777215, 1] ∧
    spread true [9223372036854775807, 9223372036854775807, 2] = .err "spread" := by decide
example : randStringLen true 16777216 = .ok 16777216 ∧ randStringLen true 16777217 = .err "length" := by decide

/-! ### the end of `Run`: "never makes a provider … block forever", seen from the instances

An instance waits in `Acquire` (`<-sink`, no context) and is released by an entry or by the close of the sink; `Run` closes the
sink in a `defer`, which covers the return paths AFTER the `defer` statement only. -/

/-- a `Run` whose closing defer stands in front of every statement that may return: at EVERY return (every fault point `k`:
the file cannot be opened, a read fails, the context is cancelled, the regular end) the sink is closed, and an instance that
acquires afterwards - whatever is still buffered - is told "no more ammo" after exactly the buffered entries, never blocked -/
theorem C13_acquire_returns_after_run (l : List RunStmt) (h : closesOnEveryReturn l = true) (k : Nat) (closed : Bool)
    (hk : closedAtReturn l k false = some closed) (buffered : Nat) :
    drainAfterRun (buffered + 1) ⟨buffered, closed⟩ = some buffered := by
  have := closesOnEveryReturn_sound l h k false closed hk
  subst this
  exact drain_closed buffered (buffered + 1) (by omega)

/-- the full statement for an arbitrary `Run` is false: one `return` in front of the defer (the seeded change C13-r6-3: the
open of the ammo file moved above `defer close(p.Sink)`) and every instance blocks for ever, with any fuel -/
def C13_acquire_returns_after_run_statement : Prop :=
  ∀ (l : List RunStmt) (k : Nat) (closed : Bool), closedAtReturn l k false = some closed →
    ∀ buffered, ∃ fuel, drainAfterRun fuel ⟨buffered, closed⟩ ≠ none

theorem C13_acquire_returns_after_run_counterexample : ¬ C13_acquire_returns_after_run_statement := by
  intro h
  obtain ⟨fuel, hf⟩ := h [.other, .mayReturn, .deferClose, .other, .mayReturn] 0 false rfl 0
  exact hf (drain_open 0 fuel)

/-- exactly the lists accepted by `closesOnEveryReturn` are safe: any other has a return that leaves the sink open -/
theorem C13_run_close_complete (l : List RunStmt) (h : closesOnEveryReturn l = false) (buffered fuel : Nat) :
    closedAtReturn l 0 false = some false ∧ drainAfterRun fuel ⟨buffered, false⟩ = none :=
  ⟨closesOnEveryReturn_complete l h, drain_open buffered fuel⟩

/-- … about the code as it stands (regenerated statement lists of `Run` of the grpc provider base, the http provider,
`DecodeProvider` and the scenario provider): whichever return is taken, `Acquire` returns afterwards -/
theorem C13_acquire_returns_after_run_source (k : Nat) (closed : Bool) (buffered : Nat) :
    (closedAtReturn Gen.C13Src.grpcRunStmts k false = some closed → drainAfterRun (buffered + 1) ⟨buffered, closed⟩ = some buffered) ∧
    (closedAtReturn Gen.C13Src.httpRunStmts k false = some closed → drainAfterRun (buffered + 1) ⟨buffered, closed⟩ = some buffered) ∧
    (closedAtReturn Gen.C13Src.decodeRunStmts k false = some closed → drainAfterRun (buffered + 1) ⟨buffered, closed⟩ = some buffered) ∧
    (closedAtReturn Gen.C13Src.scenarioRunStmts k false = some closed → drainAfterRun (buffered + 1) ⟨buffered, closed⟩ = some buffered) := by
  obtain ⟨h1, h2, h3, h4⟩ := Bridge.C13.runClosesSink_bridge
  exact ⟨fun hk => C13_acquire_returns_after_run _ h1 k closed hk buffered,
    fun hk => C13_acquire_returns_after_run _ h2 k closed hk buffered,
    fun hk => C13_acquire_returns_after_run _ h3 k closed hk buffered,
    fun hk => C13_acquire_returns_after_run _ h4 k closed hk buffered⟩

/- non-vacuity: the grpc `Run` has two returns (the failed open, the end of `start`), both after the defer; three entries buffered -/
example : closedAtReturn Gen.C13Src.grpcRunStmts 0 false = some true ∧ closedAtReturn Gen.C13Src.grpcRunStmts 1 false = some true ∧
    closedAtReturn Gen.C13Src.grpcRunStmts 3 false = none := by decide
example : drainAfterRun 4 ⟨3, true⟩ = some 3 ∧ drainAfterRun 100 ⟨3, false⟩ = none := by decide

end Pandora.Props.C13
