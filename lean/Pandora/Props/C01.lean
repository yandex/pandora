/-
C01 — RPS schedules realise the configured load profile.

Every theorem is about the REGENERATED definitions of `Pandora.Gen.Schedule` (rewritten from /repo's current source on
every run): the constructors `NewConstConf/NewLineConf/NewStepConf/NewOnceConf` (and what they call), the predicates
`*_valid` read off the `validate` struct tags (= what config validation accepts), the `register.Limiter` table of
`core/import`, and the `doAtSchedule` record with its `Start/Next/Left` methods. Arithmetic is exact real arithmetic
except in C01_const_float / C01_float_partial; for decreasing lines float64 rounding is *measured* by the sampling tie
(harness `cmd/c01` + `Pandora.Spec.C01`), not proved.

Clause → theorem (details in notes/C01.md):
  valid = accepted by validation      C01_validation, C01_registry; C01_json_numbers (a float64 given for an int64 option:
                                       the regenerated decode hooks of core/config pass exactly the integers of the range)
  rate integral                        C01_cum_is_integral
  const: time of op k, count           C01_const
  line (incr./decr./flat/zero ends)    C01_line   (C01_line_flat: from = to is the const profile)
  step = one const per level           C01_step   (chaining of the parts: C02_chain / C02_conc_linearizable)
  once                                 C01_once
  every prefix instant                 C01_prefix
  no division by 0 / sqrt of negative  C01_defined
  bounds, finish, Left                 C01_leaf_run, C01_finish, C01_bounds, C01_left_before_start
  never Start()ed                      C01_implicit_start
  succession of the step levels in time C01_chain, C01_step_chain  (one consumer; several consumers: C02)
  int64 range of every integer          C01_int64_range
  float64 rounding of the const profile C01_const_float (standard model of floating-point arithmetic, every `fl`);
                                        line: C01_float_partial proves C01_float_statement for from ≤ to (flat and
                                        increasing lines, u = 2⁻⁵³, 27 roundings); decreasing lines are open
  several consumers, any interleaving   C01_lazy_start_concurrent (never Start()ed), C01_started_concurrent: small-step
                                        model of the start protocol over access lists regenerated from do_at.go /
                                        start_sync.go (`Gen/SchedConc.lean`); C01_lazy_start_flag_check_counterexample,
                                        C01_start_overlapping_next_counterexample (limits); C01_start_effect: what the
                                        regenerated access list of Start leaves behind (= initStarted), a second Start panics
  compositions                          C01_chain_is_c02_composite (the sequential composite of C01_chain IS C02's composite model
                                        over the regenerated leaf methods; Left() of a step profile before its start),
                                        C01_engine_fires_profile (profile → schedule → Waiter → instance loop over C04's model:
                                        operations acted on in profile order, at most once, none before its instant, all of
                                        them when nothing interferes)
-/
import Pandora.Proofs.C01
import Pandora.Proofs.C01Chain
import Pandora.Proofs.C01Float
import Pandora.Proofs.C01LineFloat
import Pandora.Bridge.C01Conc
import Pandora.Proofs.C01Composite
import Pandora.Proofs.C01InstanceLoop
import Mathlib.Analysis.SpecialFunctions.Integrals.Basic

set_option linter.unreachableTactic false
set_option linter.unusedTactic false

namespace Pandora.Props.C01
open Pandora Pandora.Gen.Schedule Pandora.Bridge.Schedule Pandora.Bridge.C01 Pandora.Proofs.LineMath Pandora.Proofs.C01
open Pandora.Proofs.C01Chain Pandora.Proofs.C01Float

/-! ### statement-level definitions -/

/-- configured rate (ops/s) of `line(from,to,D)` at `x` seconds after its start: linear from `from` to `to` -/
noncomputable def lineRate (f t : ℝ) (D : ℤ) (x : ℝ) : ℝ := f + (t - f) / secs D * x
/-- ∫₀ˣ lineRate (see `C01_cum_is_integral`) -/
noncomputable def lineCum (f t : ℝ) (D : ℤ) (x : ℝ) : ℝ := f * x + (t - f) * x ^ 2 / (2 * secs D)
/-- ∫₀ˣ of the constant rate `ops` -/
noncomputable def constCum (ops : ℝ) (x : ℝ) : ℝ := ops * x

/-- `x` (seconds after the start) is the earliest instant of the profile at which the integral `c` reaches `k` -/
def EarliestAt (c : ℝ → ℝ) (D : ℤ) (k : ℝ) (x : ℝ) : Prop :=
  0 ≤ x ∧ x ≤ secs D ∧ c x = k ∧ ∀ y, 0 ≤ y → y < x → c y < k

/-- "the constructor returned a leaf schedule of length `D` whose operation `k` (k = 0, 1, …) is scheduled at the
ns-truncation of the earliest instant at which the integral `c` reaches `k`, which holds as many operations as the
integral over the whole duration, rounded down, and none outside [0, D]" -/
def Realises (s : Sched) (c : ℝ → ℝ) (D : ℤ) : Prop :=
  ∃ (n : ℤ) (at_ : ℤ → ℤ), s = Sched.doAt D n at_ ∧ n = ⌊c (secs D)⌋ ∧
    ∀ k : ℤ, 0 ≤ k → k < n →
      ∃ x : ℝ, EarliestAt c D k x ∧ at_ k = ⌊x * 1000000000⌋ ∧ 0 ≤ at_ k ∧ at_ k ≤ D

/-- one `Next` per clock reading in `nows`, in sequence (`Except.error` = a panic) -/
def drainFrom (s : DoAtSt) : List ℤ → Except String (List (ℤ × Bool))
  | [] => Except.ok []
  | now :: rest =>
      match doAtSchedule_Next now s with
      | Except.error e => Except.error e
      | Except.ok (r, s') =>
          match drainFrom s' rest with
          | Except.error e => Except.error e
          | Except.ok rs => Except.ok (r :: rs)

/-- what a caller observes from a fresh leaf `doAt D n f`: `Start t0`, then one `Next` per clock reading in `nows` -/
def startAndDrain (D n : ℤ) (f : ℤ → ℤ) (t0 : ℤ) (nows : List ℤ) : Except String (List (ℤ × Bool)) :=
  match doAtSchedule_Start (NewDoAtSchedule D n f) t0 with
  | Except.error e => Except.error e
  | Except.ok (_, s) => drainFrom s nows

theorem lineCum_eq_cum (f t : ℝ) (D : ℤ) : lineCum f t D = cum (Bridge.Schedule.slope f t D) f := by
  funext x; unfold lineCum cum Bridge.Schedule.slope; ring

theorem lineCum_flat (f : ℝ) (D : ℤ) : lineCum f f D = constCum f := by
  funext x; unfold lineCum constCum; rw [sub_self, zero_mul, zero_div, add_zero]

/-- a started leaf that has answered `m0` calls answers the further ones by their position alone, whatever the clock
shows -/
theorem drainFrom_started (D n : ℤ) (f : ℤ → ℤ) (t0 : ℤ) : ∀ (nows : List ℤ) (m0 : ℕ),
    drainFrom (startedSt D n f t0 m0) nows = Except.ok ((List.range nows.length).map fun (j : ℕ) =>
      if n ≤ ((m0 + j : ℕ) : ℤ) then (t0 + D, false) else (t0 + f ((m0 + j : ℕ) : ℤ), true))
  | [], _ => rfl
  | now :: rest, m0 => by
      simp only [drainFrom, next_started, drainFrom_started D n f t0 rest (m0 + 1), List.length_cons,
        List.range_succ_eq_map, List.map_cons, List.map_map, Nat.add_zero, Function.comp_def, Nat.add_assoc,
        Nat.add_comm 1]

/-! ### which configurations are valid, and which constructor they reach -/

/-- Config validation (the regenerated `validate` struct tags) accepts exactly: rates ≥ 0, duration ≥ 1 ms, step ≥ 1,
times ≥ 1 — the hypotheses of the theorems below are these regenerated predicates themselves. -/
theorem C01_validation :
    (∀ (ops : ℝ) (D : ℤ), ConstConfig_valid ops D ↔ (0 ≤ ops ∧ 1000000 ≤ D)) ∧
    (∀ (f t : ℝ) (D : ℤ), LineConfig_valid f t D ↔ (0 ≤ f ∧ 0 ≤ t ∧ 1000000 ≤ D)) ∧
    (∀ (f t : ℝ) (s D : ℤ), StepConfig_valid f t s D ↔ (0 ≤ f ∧ 0 ≤ t ∧ 1 ≤ s ∧ 1000000 ≤ D)) ∧
    (∀ n : ℤ, OnceConfig_valid n ↔ 1 ≤ n) :=
  ⟨ConstConfig_valid_iff, LineConfig_valid_iff, StepConfig_valid_iff, OnceConfig_valid_iff⟩

/-- `core/import` registers the four profile kinds under their documented names, each with its own constructor. -/
theorem C01_registry :
    limiters.lookup "const" = some "NewConstConf" ∧ limiters.lookup "line" = some "NewLineConf" ∧
    limiters.lookup "step" = some "NewStepConf" ∧ limiters.lookup "once" = some "NewOnceConf" ∧
    (limiters.map Prod.fst).Nodup := by
  decide

/-- **numbers in JSON configs** (every number arrives as a float64): a float64 `v` given for an int64 option — `times`,
`step`, a `duration` written as a number of nanoseconds — passes the two decode hooks of core/config that stand in front
of every numeric option (REGENERATED: `WholeNumberHook`'s rejection test, `NumberRangeHook`'s range test for a signed
field with `kindBits(reflect.Int64)` bits; both are among `DefaultHooks`) iff it is an integer of the int64 range, i.e.
the number that is written is the option's value; in particular every value the validation predicates accept can be
written as a number. -/
theorem C01_json_numbers :
    "WholeNumberHook" ∈ defaultHooks ∧ "NumberRangeHook" ∈ defaultHooks ∧
    (∀ v : ℝ, (¬ WholeNumberHook_rejects v ∧ NumberRangeHook_fits_float kindBits_Int64 v) ↔
      ∃ z : ℤ, (z : ℝ) = v ∧ -(2:ℤ) ^ 63 ≤ z ∧ z < (2:ℤ) ^ 63) ∧
    (∀ n : ℤ, OnceConfig_valid n → n < 2 ^ 63 →
      ¬ WholeNumberHook_rejects (n : ℝ) ∧ NumberRangeHook_fits_float kindBits_Int64 (n : ℝ)) :=
  ⟨by decide, by decide, float_for_int64_iff, fun n hn h63 =>
    (float_for_int64_iff (n : ℝ)).mpr ⟨n, rfl, by have := (OnceConfig_valid_iff n).mp hn; omega, h63⟩⟩

/-- `lineCum` / `constCum` are the integrals of the configured rate since the profile's start. -/
theorem C01_cum_is_integral (f t ops : ℝ) (D : ℤ) (x : ℝ) :
    lineCum f t D x = ∫ y in (0:ℝ)..x, lineRate f t D y ∧ constCum ops x = ∫ _y in (0:ℝ)..x, ops ∧
    lineRate f t D 0 = f ∧ (0 < D → lineRate f t D (secs D) = t) := by
  refine ⟨?_, ?_, ?_, ?_⟩
  · have h1 : IntervalIntegrable (fun _ : ℝ => f) MeasureTheory.volume 0 x := by simp
    have h2 : IntervalIntegrable (fun y : ℝ => (t - f) / secs D * y) MeasureTheory.volume 0 x :=
      (continuous_const.mul continuous_id).intervalIntegrable _ _
    unfold lineRate lineCum
    rw [intervalIntegral.integral_add h1 h2, intervalIntegral.integral_const, intervalIntegral.integral_const_mul,
      integral_id]
    simp
    ring
  · unfold constCum; rw [intervalIntegral.integral_const]; simp; ring
  · unfold lineRate; ring
  · intro hD
    have := (secs_pos hD).ne'
    unfold lineRate; field_simp; ring

/-! ### const, line, step, once -/

/-- **const**: for every accepted `(ops, duration)`: count = ⌊ops·D⌋; operation k at the ns-truncation of k/ops seconds,
the earliest instant with ops·x = k; inside [0, D]. Includes ops = 0 (no operations) and fractional-second durations. -/
theorem C01_const (ops : ℝ) (D : ℤ) (h : ConstConfig_valid ops D) :
    Realises (NewConstConf ops D) (constCum ops) D := by
  obtain ⟨hops, hD⟩ := (ConstConfig_valid_iff ops D).mp h
  have hD0 : 0 < D := by omega
  have htot0 : 0 ≤ ops * secs D := mul_nonneg hops (secs_pos hD0).le
  refine ⟨_, _, NewConst_eq ops D hops, ?_, ?_⟩
  · unfold constCum; exact Go.f2i_of_nonneg htot0
  · intro k hk0 hkn
    obtain ⟨h1, h2, h3, h4, h5, h6, h7⟩ := const_core ops D hops hD0 k hk0 hkn
    exact ⟨(k:ℝ) / ops, ⟨h1, h2, h3, h4⟩, h5, h5 ▸ h6, h5 ▸ h7⟩

/-- a flat line is the const profile of the same rate (every accepted rate). Holds whether line.go returns `NewConst`
for `from == to` or lets the line formula run with slope 0 (`Bridge.Schedule.NewLine_flat` proves either reading). -/
theorem C01_line_flat (f : ℝ) (D : ℤ) (hf : 0 ≤ f) : NewLineConf f f D = NewConstConf f D := NewLine_flat f D hf

/-- **line**: for every accepted `(from, to, duration)` — increasing, decreasing, flat, zero end rates, any duration
≥ 1 ms: count = ⌊∫ rate⌋ = ⌊(from+to)/2 · D⌋; operation k sits at the ns-truncation of the earliest instant where the
integral reaches k; inside [0, D]. -/
theorem C01_line (f t : ℝ) (D : ℤ) (h : LineConfig_valid f t D) :
    Realises (NewLineConf f t D) (lineCum f t D) D ∧ lineCum f t D (secs D) = (f + t) / 2 * secs D := by
  obtain ⟨hf, ht, hD⟩ := (LineConfig_valid_iff f t D).mp h
  have hD0 : 0 < D := by omega
  have htotal : lineCum f t D (secs D) = (f + t) / 2 * secs D := by rw [lineCum_eq_cum, line_total hD0]
  refine ⟨?_, htotal⟩
  by_cases hne : f = t
  · -- flat: the const profile, whose integral is the same function
    subst hne
    rw [lineCum_flat, C01_line_flat f D hf]
    exact C01_const f D ((ConstConfig_valid_iff f D).mpr ⟨hf, hD⟩)
  · obtain ⟨at_, hnew, hk⟩ := line_core f t D hf ht hD0 hne
    refine ⟨_, at_, hnew, by rw [htotal], ?_⟩
    intro k hk0 hkn
    obtain ⟨he, hat, h0, hDle⟩ := hk k hk0 hkn
    -- `EarliestAt (lineCum …)` is `Earliest` of the same integral
    rw [lineCum_eq_cum]
    exact ⟨xk (slope f t D) f (k:ℝ), he, hat, h0, hDle⟩

/-- **step**: for every accepted `(from, to, step, duration)` the profile is the succession of one const profile of
length `duration` per rate level from, from+step, … ≤ to, each level itself an accepted const configuration (so
`C01_const` applies to every part). `from = to` is a single const profile; `from > to` has no level. That part j+1 starts
where part j finished is the composite schedule's contract (C02). -/
theorem C01_step (f t : ℝ) (s D : ℤ) (h : StepConfig_valid f t s D) :
    (f = t → NewStepConf f t s D = NewConstConf f D) ∧
    (f ≠ t → NewStepConf f t s D = Sched.composite ((Go.loopLE f t (s : ℝ)).map (fun r => NewConstConf r D))) ∧
    Go.loopLE f t (s : ℝ) =
      (if f ≤ t then (List.range (⌊(t - f) / (s : ℝ)⌋₊ + 1)).map (fun (j : ℕ) => f + (j : ℝ) * (s : ℝ)) else []) ∧
    ∀ r ∈ Go.loopLE f t (s : ℝ), f ≤ r ∧ r ≤ t ∧ ConstConfig_valid r D := by
  obtain ⟨hf, _, hs, hD⟩ := (StepConfig_valid_iff f t s D).mp h
  refine ⟨?_, ?_, rfl, ?_⟩
  · rintro rfl; exact NewStep_flat f s D
  · intro hne; exact NewStep_eq f t s D hne
  · intro r hr
    obtain ⟨h1, h2⟩ := loopLE_levels f t s hs r hr
    exact ⟨h1, h2, (ConstConfig_valid_iff r D).mpr ⟨le_trans hf h1, hD⟩⟩

/-- **every prefix instant**: at every instant `y` of the profile, operation `k` has been scheduled by `y` exactly when
the integral up to `y` has reached `k` — i.e. the number of operations scheduled in [0, y] is the number of
k = 0, 1, … with k ≤ ∫₀ʸ rate (const is the flat line `from = to`). -/
theorem C01_prefix (f t : ℝ) (D : ℤ) (h : LineConfig_valid f t D) (k x y : ℝ)
    (hx : EarliestAt (lineCum f t D) D k x) (hy0 : 0 ≤ y) (hyD : y ≤ secs D) :
    x ≤ y ↔ k ≤ lineCum f t D y := by
  obtain ⟨hf, ht, hD⟩ := (LineConfig_valid_iff f t D).mp h
  have hD0 : 0 < D := by omega
  obtain ⟨hx0, hxD, hcx, hmin⟩ := hx
  constructor
  · intro hxy
    -- the rate is non-negative on [0, D], so the integral does not decrease from x to y
    rw [← hcx, lineCum_eq_cum]
    exact cum_mono (secs_pos hD0) hf ((slope_end f t hD0).symm ▸ ht) hx0 hxy hyD
  · intro hk
    by_contra hlt
    exact absurd (hmin y hy0 (not_le.mp hlt)) (not_lt.mpr hk)

/-- **nothing is defined only by Lean's totalisation**: Go's float division by zero and square root of a negative number
give ±Inf/NaN, Lean's give 0. Wherever the regenerated const/line code divides, the divisor is non-zero, and wherever it
takes a square root the argument is non-negative — for every operation index `k < n` the closures are ever called with
(`Next` calls `doAt i` only for `i < n`, `C01_leaf_run`). The bridge lemmas identify the regenerated expressions with
these closed forms by commutative-ring identities only, which never cancel a divisor. (`1e9/ops` is also evaluated
once for `ops = 0`, giving +Inf that no operation uses since then `n = 0`.) -/
theorem C01_defined :
    (∀ (ops : ℝ) (D : ℤ), ConstConfig_valid ops D →
        (D : ℝ) / 1000000000 ≠ 0 ∧ ∀ k : ℤ, 0 ≤ k → k < ⌊constCum ops (secs D)⌋ → ops ≠ 0) ∧
    (∀ (f t : ℝ) (D : ℤ), LineConfig_valid f t D → f ≠ t →
        (D : ℝ) / 1000000000 ≠ 0 ∧ Bridge.Schedule.slope f t D ≠ 0 ∧
        ∀ k : ℤ, 0 ≤ k → k < ⌊lineCum f t D (secs D)⌋ →
          0 ≤ 2 * Bridge.Schedule.slope f t D * (k:ℝ) + f * f ∧
          (0 < k → Real.sqrt (2 * Bridge.Schedule.slope f t D * (k:ℝ) + f * f) + f ≠ 0)) := by
  constructor
  · intro ops D h
    obtain ⟨hops, hD⟩ := (ConstConfig_valid_iff ops D).mp h
    have hs := secs_pos (D := D) (by omega)
    refine ⟨by unfold secs at hs; exact hs.ne', ?_⟩
    rintro k hk0 hkn rfl
    rw [constCum, zero_mul, Int.floor_zero] at hkn
    omega
  · intro f t D h hne
    obtain ⟨hf, ht, hD⟩ := (LineConfig_valid_iff f t D).mp h
    have hD0 : 0 < D := by omega
    have hs := secs_pos hD0
    have hc := line_cfg hf ht hD0 hne
    refine ⟨by unfold secs at hs; exact hs.ne', hc.a_ne, ?_⟩
    intro k hk0 hkn
    rw [lineCum_eq_cum] at hkn
    have hR := radicand_nonneg hc (Int.cast_nonneg hk0) ((Int.cast_lt.mpr hkn).trans_le (Int.floor_le _)).le
    rw [sq] at hR
    refine ⟨hR, fun hkpos => ?_⟩
    have hsq := Real.sqrt_nonneg (2 * Bridge.Schedule.slope f t D * (k:ℝ) + f * f)
    rcases hf.lt_or_eq with hfpos | hf0
    · exact (add_pos_of_nonneg_of_pos hsq hfpos).ne'
    · -- from = 0: the line increases, the radicand 2ak is positive
      subst hf0
      have hend := hc.end_nonneg
      rw [add_zero] at hend
      have ha : 0 < Bridge.Schedule.slope 0 t D :=
        lt_of_le_of_ne ((mul_nonneg_iff_of_pos_right hs).mp hend) hc.a_ne.symm
      have : 0 < 2 * Bridge.Schedule.slope 0 t D * (k:ℝ) + 0 * 0 :=
        add_pos_of_pos_of_nonneg (mul_pos (mul_pos two_pos ha) (Int.cast_pos.mpr hkpos)) (mul_self_nonneg 0)
      exact (add_pos_of_pos_of_nonneg (Real.sqrt_pos.mpr this) le_rfl).ne'

/-! ### bounds and finish time: what a started leaf answers -/

/-- A leaf `doAt D n f` started at `t0` answers call number j (0-based) of `Next` with `(t0 + f j, true)` while
`j < n` and with `(t0 + D, false)` for ever after — whatever the clock shows; it never panics. -/
theorem C01_leaf_run (D n : ℤ) (f : ℤ → ℤ) (t0 : ℤ) (nows : List ℤ) :
    startAndDrain D n f t0 nows =
      Except.ok ((List.range nows.length).map
        (fun (j : ℕ) => if n ≤ (j : ℤ) then (t0 + D, false) else (t0 + f (j : ℤ), true))) := by
  simp only [startAndDrain, start_fresh, drainFrom_started, Nat.zero_add]

/-- **once**: all `times` operations at the start instant of a zero-length profile, which is also its finish time. -/
theorem C01_once (n : ℤ) (_h : OnceConfig_valid n) :
    NewOnceConf n = Sched.doAt 0 n (fun _ => 0) ∧
    ∀ (t0 : ℤ) (nows : List ℤ), startAndDrain 0 n (fun _ => 0) t0 nows =
      Except.ok ((List.range nows.length).map (fun (j : ℕ) => if n ≤ (j : ℤ) then (t0, false) else (t0, true))) := by
  refine ⟨NewOnce_eq n, ?_⟩
  intro t0 nows
  rw [C01_leaf_run]
  simp

/-- **finish**: an exhausted profile reports exactly start + duration, on every further call. -/
theorem C01_finish (D n : ℤ) (f : ℤ → ℤ) (t0 : ℤ) (nows : List ℤ) (rs : List (ℤ × Bool))
    (hrun : startAndDrain D n f t0 nows = Except.ok rs) (j : ℕ) (hj : j < rs.length) (hn : n ≤ (j : ℤ)) :
    rs[j] = (t0 + D, false) := by
  rw [C01_leaf_run] at hrun
  injection hrun with hrun
  subst hrun
  simp [hn]

/-- **bounds** (and count, and finish once more): for every leaf that realises a profile — by `C01_const` / `C01_line`
every accepted const and line configuration — the started schedule hands out operation j exactly when j < count, every
operation it hands out lies in [start, start + duration], and every later answer is (start + duration, false). -/
theorem C01_bounds (s : Sched) (c : ℝ → ℝ) (D : ℤ) (hs : Realises s c D) :
    ∃ (n : ℤ) (f : ℤ → ℤ), s = Sched.doAt D n f ∧ n = ⌊c (secs D)⌋ ∧
      ∀ (t0 : ℤ) (nows : List ℤ), ∃ rs, startAndDrain D n f t0 nows = Except.ok rs ∧ rs.length = nows.length ∧
        ∀ (j : ℕ) (hj : j < rs.length),
          (rs[j].2 = true ↔ (j : ℤ) < n) ∧
          (rs[j].2 = true → t0 ≤ rs[j].1 ∧ rs[j].1 ≤ t0 + D) ∧
          (rs[j].2 = false → rs[j].1 = t0 + D) := by
  obtain ⟨n, f, rfl, hn, hk⟩ := hs
  refine ⟨n, f, rfl, hn, ?_⟩
  intro t0 nows
  refine ⟨_, C01_leaf_run D n f t0 nows, by simp, ?_⟩
  intro j hj
  simp only [List.getElem_map, List.getElem_range]
  by_cases hnj : n ≤ (j : ℤ)
  · simp [hnj]
  · obtain ⟨x, _, _, h0, hD⟩ := hk (j : ℤ) (by omega) (by omega)
    simp only [hnj, if_false]
    refine ⟨by simp; omega, fun _ => ⟨by omega, by omega⟩, by simp⟩

/-- **Left before start** = the number of operations of the profile. -/
theorem C01_left_before_start (D n : ℤ) (f : ℤ → ℤ) (hn : 0 ≤ n) :
    doAtSchedule_Left (NewDoAtSchedule D n f) = Except.ok (n, NewDoAtSchedule D n f) := by
  rw [left_fresh]; simp [not_lt.mpr hn]


/-- **never `Start()`ed**: a schedule whose first `Next()` comes without a `Start` takes the clock reading of that call as
the profile's start — from then on it answers exactly like one that was started at that instant, so every theorem above
applies with `t0 := now`. -/
theorem C01_implicit_start (D n : ℤ) (f : ℤ → ℤ) (now : ℤ) (nows : List ℤ) :
    drainFrom (NewDoAtSchedule D n f) (now :: nows) = startAndDrain D n f now (now :: nows) := by
  -- after the first call both are the leaf started at `now` that has answered one call
  simp only [startAndDrain, start_fresh, drainFrom, next_fresh, next_started, Nat.cast_zero, Nat.zero_add]

/-! ### the succession of levels in time (step profile) -/

/-- `NewComposite` (regenerated table): no nested schedule → `NewOnce(0)`, one → that schedule itself; `compInit`, the
initial state of the model of `Proofs/C01Chain`, is built on exactly these two rows. -/
theorem C01_composite_small :
    compositeSmall = [(0, "NewOnce(0)"), (1, "scheds[0]")] ∧
    NewOnce 0 = Sched.doAt 0 0 (fun _ => 0) ∧
    compInit [] = (NewDoAtSchedule 0 0 (fun _ => 0), []) ∧
    (∀ l : Level, compInit [l] = (NewDoAtSchedule l.1 l.2.1 l.2.2, [])) :=
  ⟨rfl, NewOnce_eq 0, rfl, fun _ => rfl⟩

/-- **succession**: a profile made of the levels `l₀, l₁, …` (level i = (duration Dᵢ, count nᵢ, offsets fᵢ)), told its
start `t0` and asked by one consumer, never panics and answers call number j with `ans j`, where
* operation `k < nᵢ` of level `i` is call number (n₀ + … + nᵢ₋₁) + k and is scheduled at `t0 + (D₀ + … + Dᵢ₋₁) + fᵢ k`:
  level i starts exactly where level i−1 finished, whether or not that level held any operation;
* every call after the last operation is answered `(t0 + D₀ + … + D_last, false)`. -/
theorem C01_chain (l0 : Level) (levels : List Level) (t0 : ℤ) (nows : List ℤ) :
    ∃ ans : ℕ → ℤ × Bool,
      chainRun (l0 :: levels) t0 nows = Except.ok ((List.range nows.length).map ans) ∧
      (∀ (i : ℕ) (hi : i < (l0 :: levels).length) (k : ℕ), k < ((l0 :: levels)[i]).2.1.toNat →
          ans (opsBefore (l0 :: levels) i + k) =
            (t0 + durBefore (l0 :: levels) i + ((l0 :: levels)[i]).2.2 k, true)) ∧
      (∀ j : ℕ, totalOps (l0 :: levels) ≤ j → ans j = (t0 + totalDur (l0 :: levels), false)) := by
  refine ⟨chainAnswer t0 l0.1 l0.2.1 l0.2.2 0 levels, ?_, ?_, ?_⟩
  · have := compDrain_eq nows levels t0 l0.1 l0.2.1 l0.2.2 0
    simp only [Nat.cast_zero] at this
    simp only [chainRun, compInit, compStart, fresh, start_fresh]
    simpa [fresh] using this
  · intro i hi k hk
    exact chainAnswer_token levels l0 t0 i hi k hk
  · intro j hj
    have := chainAnswer_finish levels t0 l0.1 l0.2.1 l0.2.2 0 j (by simpa [totalOps] using hj)
    rw [this]
    simp only [totalDur]
    congr 1; ring

/-- the levels of a step profile, each the leaf that `C01_const` describes -/
noncomputable def stepLevels (f t : ℝ) (s D : ℤ) : List Level :=
  (Go.loopLE f t (s : ℝ)).map fun r => (D, Go.f2i (r * secs D), fun i => Go.f2i ((i : ℝ) * (1000000000 / r)))

/-- **step = succession of one const profile per level, in time**: for every accepted `(from, to, step, duration)` with
`from ≠ to` the constructor returns the composite of the level leaves; started at `t0`, operation `k` of level `i` (rate
`from + i·step`) is scheduled at `t0 + i·duration + ⌊k/rateᵢ·10⁹⌋` and the exhausted profile reports
`t0 + (number of levels)·duration`; with no level at all (`from > to`) it reports `t0`. -/
theorem C01_step_chain (f t : ℝ) (s D : ℤ) (h : StepConfig_valid f t s D) (hne : f ≠ t) (t0 : ℤ) (nows : List ℤ) :
    NewStepConf f t s D = Sched.composite ((stepLevels f t s D).map fun l => Sched.doAt l.1 l.2.1 l.2.2) ∧
    ∃ ans : ℕ → ℤ × Bool,
      chainRun (stepLevels f t s D) t0 nows = Except.ok ((List.range nows.length).map ans) ∧
      (∀ (i : ℕ) (hi : i < (stepLevels f t s D).length) (k : ℕ), k < ((stepLevels f t s D)[i]).2.1.toNat →
          ans (opsBefore (stepLevels f t s D) i + k) =
            (t0 + (i : ℤ) * D + ((stepLevels f t s D)[i]).2.2 k, true)) ∧
      (∀ j : ℕ, totalOps (stepLevels f t s D) ≤ j → ans j = (t0 + ((stepLevels f t s D).length : ℤ) * D, false)) := by
  obtain ⟨hf, _, hs, hD⟩ := (StepConfig_valid_iff f t s D).mp h
  have hallD : ∀ l ∈ stepLevels f t s D, l.1 = D := by
    intro l hl
    unfold stepLevels at hl
    rw [List.mem_map] at hl
    obtain ⟨r, _, rfl⟩ := hl
    rfl
  constructor
  · rw [(C01_step f t s D h).2.1 hne]
    congr 1
    unfold stepLevels
    rw [List.map_map]
    apply List.map_congr_left
    intro r hr
    have hr0 : 0 ≤ r := le_trans hf (loopLE_levels f t s hs r hr).1
    simp only [Function.comp, NewConstConf]
    exact NewConst_eq r D hr0
  · cases hl : stepLevels f t s D with
    | nil =>
        -- no level at all: the composite is `NewOnce(0)`, a leaf without operations
        refine ⟨chainAnswer t0 0 0 (fun _ => 0) 0 [], ?_, fun i hi => absurd hi (Nat.not_lt_zero i),
          fun j _ => by simp [chainAnswer]⟩
        have := compDrain_eq nows [] t0 0 0 (fun _ => 0) 0
        simpa [chainRun, compInit, compStart, start_fresh] using this
    | cons l0 levels =>
        rw [hl] at hallD
        obtain ⟨ans, hrun, htok, hfin⟩ := C01_chain l0 levels t0 nows
        refine ⟨ans, hrun, ?_, ?_⟩
        · intro i hi k hk
          rw [htok i hi k hk, durBefore_const (l0 :: levels) D hallD i (by omega)]
        · intro j hj
          rw [hfin j hj, totalDur_const (l0 :: levels) D hallD]

/-! ### integer ranges -/

/-- **every integer the constructors compute fits an int64** (the theorems read int64/Duration as ℤ): for an accepted line
or const (= flat line) configuration whose integral stays below 2⁶³ operations, the count is in [0, 2⁶³) and every offset
`at k`, k < count, is in [0, duration] ⊆ [0, 2⁶³) — a `time.Duration` is an int64 to begin with. (A profile of 2⁶³ or
more operations is outside the theorems and skipped by the harness.) -/
theorem C01_int64_range (f t : ℝ) (D : ℤ) (h : LineConfig_valid f t D) (hD : D < 2 ^ 63)
    (htot : lineCum f t D (secs D) < 2 ^ 63) :
    ∃ (n : ℤ) (at_ : ℤ → ℤ), NewLineConf f t D = Sched.doAt D n at_ ∧ 0 ≤ n ∧ n < 2 ^ 63 ∧
      ∀ k : ℤ, 0 ≤ k → k < n → 0 ≤ at_ k ∧ at_ k < 2 ^ 63 := by
  obtain ⟨hf, ht, hD1⟩ := (LineConfig_valid_iff f t D).mp h
  obtain ⟨⟨n, at_, hnew, hn, hk⟩, htotal⟩ := C01_line f t D h
  have hs := secs_pos (D := D) (by omega)
  have h0 : 0 ≤ lineCum f t D (secs D) := by
    rw [htotal]; exact mul_nonneg (div_nonneg (add_nonneg hf ht) zero_le_two) hs.le
  refine ⟨n, at_, hnew, ?_, ?_, ?_⟩
  · rw [hn]; exact Int.floor_nonneg.mpr h0
  · rw [hn]
    have : (⌊lineCum f t D (secs D)⌋ : ℝ) < (2 : ℝ) ^ 63 := lt_of_le_of_lt (Int.floor_le _) htot
    exact_mod_cast this
  · intro k hk0 hkn
    obtain ⟨x, _, _, h1, h2⟩ := hk k hk0 hkn
    exact ⟨h1, by omega⟩

/-! ### float64 rounding of the const profile -/

/-- **the float64 gap of the const profile, proved**: let `fl` be ANY rounding function with relative error ≤ u ≤ 1/16
(IEEE-754 binary64 round-to-nearest without under/overflow: u = 2⁻⁵³). The regenerated float64 reading of `NewConst`
(every float operation of const.go wrapped in `fl`) returns a leaf of the configured length whose
* count ñ satisfies ⌊(1 − 4u)·ops·D⌋ ≤ ñ ≤ ⌊(1 + 4u)·ops·D⌋ (so ñ = ⌊∫rate⌋ unless the integral is within 4u·∫rate of an
  integer);
* operation `i ≥ 0` is at an offset `t ≥ 0` with ∫₀ᵗ rate ≤ i + 4u·i and ∫₀ᵗ⁺¹ rate ≥ i − 4u·i — the acceptance test of the
  executable Spec (whose δ = 2⁻⁴⁶·(i + 1 + ops·D) is 32 times wider for u = 2⁻⁵³);
* and, when 9u·ops·D ≤ 1, no operation `i < ñ` lies after the end of the profile. -/
theorem C01_const_float (u : ℝ) (fl : ℝ → ℝ) (hfl : Rounding u fl) (ops : ℝ) (D : ℤ) (h : ConstConfig_valid ops D) :
    ∃ (n : ℤ) (at_ : ℤ → ℤ), NewConst_fl fl ops D = Sched.doAt D n at_ ∧
      ⌊(1 - 4 * u) * constCum ops (secs D)⌋ ≤ n ∧ n ≤ ⌊(1 + 4 * u) * constCum ops (secs D)⌋ ∧
      (0 < ops → ∀ i : ℤ, 0 ≤ i →
        0 ≤ at_ i ∧
        constCum ops ((at_ i : ℝ) / 1000000000) ≤ (i : ℝ) + 4 * u * (i : ℝ) ∧
        (i : ℝ) - 4 * u * (i : ℝ) ≤ constCum ops (((at_ i : ℝ) + 1) / 1000000000) ∧
        (9 * u * constCum ops (secs D) ≤ 1 → i < n → at_ i ≤ D)) := by
  obtain ⟨hops, hD⟩ := (ConstConfig_valid_iff ops D).mp h
  have hD0 : 0 ≤ D := by omega
  obtain ⟨c, x, hnew, hc, hx⟩ := NewConst_fl_sem hfl ops D hops hD0
  have hcb : CBound u ops D c := hc.within4 hfl
  refine ⟨_, _, hnew, (const_count_ok hfl hops hD0 hcb).1, (const_count_ok hfl hops hD0 hcb).2, fun hpos i hi => ?_⟩
  have hxb : XBound u ops x := fun i hi => (hx hpos i hi).within4 hfl
  obtain ⟨h1, h2, h3⟩ := const_token_ok hfl hpos hxb hi
  exact ⟨h1, h2, h3, fun hsmall hin => const_token_le_D hfl hpos hD0 hcb hxb hsmall hi hin⟩

/-- the same claim for const AND line: every accepted configuration, every rounding function, the Spec's tolerance
δ(i) = 2⁻⁴⁶·(i + 1 + max(from,to)·D) in count space. Not proved for `from ≠ to` (the conjugate square-root form; derivation
on paper in notes/C01.md, bound 16u·(i + max·x)); the sampling tie measures it on every run. -/
def C01_float_statement : Prop :=
  ∀ (fl : ℝ → ℝ), Rounding (1 / 2 ^ 53) fl → ∀ (f t : ℝ) (D : ℤ), LineConfig_valid f t D →
    ∃ (n : ℤ) (at_ : ℤ → ℤ), NewLine_fl fl f t D = Sched.doAt D n at_ ∧
      ∀ i : ℤ, 0 ≤ i → i < n → (i : ℝ) < lineCum f t D (secs D) →
        lineCum f t D ((at_ i : ℝ) / 1000000000) ≤ (i : ℝ) + ((i : ℝ) + 1 + max f t * secs D) / 2 ^ 46 ∧
        (i : ℝ) - ((i : ℝ) + 1 + max f t * secs D) / 2 ^ 46 ≤ lineCum f t D (((at_ i : ℝ) + 1) / 1000000000)

/-- the NON-DECREASING half (`from ≤ to`) of `C01_float_statement`: every float operation of line.go acts on non-negative
quantities, the float64 instant lies within 27 roundings of the exact one (`Proofs/C01LineFloat.NewLine_fl_sem` walks whatever
operation tree the current source yields and accepts up to 63; a flat line may be handed to `NewConst` or run through the line
formula with slope 0) and its truncation passes the Spec's acceptance test.
Open: decreasing lines (`from > to`). -/
theorem C01_float_partial (fl : ℝ → ℝ) (hfl : Rounding (1 / 2 ^ 53) fl) (f t : ℝ) (D : ℤ) (h : LineConfig_valid f t D)
    (hft : f ≤ t) :
    ∃ (n : ℤ) (at_ : ℤ → ℤ), NewLine_fl fl f t D = Sched.doAt D n at_ ∧
      ∀ i : ℤ, 0 ≤ i → i < n → (i : ℝ) < lineCum f t D (secs D) →
        lineCum f t D ((at_ i : ℝ) / 1000000000) ≤ (i : ℝ) + ((i : ℝ) + 1 + max f t * secs D) / 2 ^ 46 ∧
        (i : ℝ) - ((i : ℝ) + 1 + max f t * secs D) / 2 ^ 46 ≤ lineCum f t D (((at_ i : ℝ) + 1) / 1000000000) := by
  obtain ⟨hf, _, hD⟩ := (LineConfig_valid_iff f t D).mp h
  have hD0 : 0 < D := by omega
  obtain ⟨n, at_, hn, hx⟩ := Proofs.C01LineFloat.NewLine_fl_sem hfl hf hft hD0
  refine ⟨n, at_, hn, fun i hi _ hcum => ?_⟩
  rw [lineCum_eq_cum] at hcum ⊢
  -- an operation below the integral (from + to)/2·D exists only if one of the rates is positive
  have hpos : f < t ∨ 0 < f := by
    by_contra hno
    rw [not_or, not_lt, not_lt] at hno
    rw [line_total hD0, le_antisymm hno.2 hf, le_antisymm (hno.1.trans hno.2) (hf.trans hft), add_zero, zero_div,
      zero_mul] at hcum
    exact absurd hcum (not_lt.mpr (Int.cast_nonneg hi))
  obtain ⟨h0, hrel⟩ := hx hpos
  rcases hi.eq_or_lt with rfl | hipos
  · rw [h0]; exact Proofs.C01LineFloat.line_token0_ok hf hft hD
  · obtain ⟨x, hat, hr⟩ := hrel i hipos
    rw [hat]; exact Proofs.C01LineFloat.line_token_ok hf hft hpos hD hipos hr

/-- the flat case (`from = to`, which is the const profile) of `C01_float_statement` -/
theorem C01_float_flat (fl : ℝ → ℝ) (hfl : Rounding (1 / 2 ^ 53) fl) (f : ℝ) (D : ℤ) (h : LineConfig_valid f f D) :
    ∃ (n : ℤ) (at_ : ℤ → ℤ), NewLine_fl fl f f D = Sched.doAt D n at_ ∧
      ∀ i : ℤ, 0 ≤ i → i < n → (i : ℝ) < lineCum f f D (secs D) →
        lineCum f f D ((at_ i : ℝ) / 1000000000) ≤ (i : ℝ) + ((i : ℝ) + 1 + max f f * secs D) / 2 ^ 46 ∧
        (i : ℝ) - ((i : ℝ) + 1 + max f f * secs D) / 2 ^ 46 ≤ lineCum f f D (((at_ i : ℝ) + 1) / 1000000000) := by
  exact C01_float_partial fl hfl f f D h le_rfl

/-! ### several consumers: the start protocol of a leaf under every interleaving

`C01_leaf_run` reads one call of `Next` as one step.  The theorems below justify that reading for any number of
concurrent callers: in the small-step system of `Model/C01Conc.lean` (one step = one access to the shared state; the
access lists `nextProg` / `startProg` are REGENERATED from do_at.go + start_sync.go) every finished call based its answer
on the same start instant `v` and on an index nobody else got, and its answer is the answer of call number `idx` of the
sequential run of `C01_leaf_run` from a leaf started at `v`. -/

/-- `s` is a state of the small-step system in which nobody panicked, the finished calls hold pairwise different
indices below the counter, all of them read the start `v`, and each answered what the REGENERATED sequential
`doAtSchedule.Next` answers as call number `idx` of a leaf started at `v` (`C01_leaf_run`). -/
def ConcOK (D n : ℤ) (f : ℤ → ℤ) (v : ℤ) (s : Model.C01Conc.St) : Prop :=
  s.panics = [] ∧ (s.log.map (·.idx)).Nodup ∧
  ∀ a ∈ s.log, 0 ≤ a.idx ∧ a.idx < s.ctr ∧ a.start = some v ∧
    ∀ now : ℤ, ∃ r s', doAtSchedule_Next now (startedSt D n f v a.idx.toNat) = Except.ok (r, s') ∧
      Model.C01Conc.ansOf D n f a = some r ∧
      r = if n ≤ a.idx then (v + D, false) else (v + f a.idx, true)

theorem C01_conc_of_invariant (D n : ℤ) (f : ℤ → ℤ) (g : Bool) (body : List Model.C01Conc.Stmt) (V : ℤ → Prop)
    (s : Model.C01Conc.St) (h : Proofs.C01Conc.Inv g body V s) :
    ∃ v, (s.log = [] ∨ (V v ∧ s.start = some v)) ∧ ConcOK D n f v s := by
  have hv : ∃ v, s.log = [] ∨ (V v ∧ s.start = some v) := by
    by_cases hop : Proofs.C01Conc.Open g s
    · obtain ⟨v, hV, hs⟩ := h.opened hop
      exact ⟨v, Or.inr ⟨hV, hs⟩⟩
    · exact ⟨0, Or.inl (h.closed hop).1⟩
  obtain ⟨v, hs⟩ := hv
  refine ⟨v, hs, h.nopanic, h.log_nodup, ?_⟩
  intro a ha
  have hsv : s.start = some v := by
    rcases hs with h0 | h1
    · rw [h0] at ha; simp at ha
    · exact h1.2
  obtain ⟨h0, h1⟩ := h.log_lt a ha
  have hst : a.start = some v := by rw [h.logstart a ha, hsv]
  refine ⟨h0, h1, hst, ?_⟩
  intro now
  have hidx : ((a.idx.toNat : ℕ) : ℤ) = a.idx := Int.toNat_of_nonneg h0
  refine ⟨_, _, next_started D n f v now a.idx.toNat, ?_, ?_⟩
  · simp [Model.C01Conc.ansOf, hst, hidx]
  · simp [hidx]

/-- **lazy start, several consumers**: a leaf that is never `Start()`ed and is asked by any number of callers at the
same time, in ANY interleaving of their accesses to the shared state (`sched` = who moves next and what the clock shows
then): nobody panics, and as soon as one call has returned there is ONE instant `v` — a clock reading taken during the
run — such that every finished call answered `(v + f idx, true)` for its own index `idx < n` (no two calls share an
index), or `(v + D, false)` for `idx ≥ n`: the calls are linearised by the atomic increment and each sees the profile of
`C01_leaf_run` started at `v`; no call bases its answer on an unset start. -/
theorem C01_lazy_start_concurrent (D n : ℤ) (f : ℤ → ℤ) (sched : List (ℕ × ℤ)) :
    ∃ v, ((Model.C01Conc.run 0 (Model.C01Conc.initLazy Gen.SchedConc.nextProg) sched).log = [] ∨
            v ∈ sched.map Prod.snd) ∧
      ConcOK D n f v (Model.C01Conc.run 0 (Model.C01Conc.initLazy Gen.SchedConc.nextProg) sched) := by
  obtain ⟨g, body, hp, hb⟩ := Bridge.C01Conc.nextProg_body
  rw [hp]
  have hinv := Proofs.C01Conc.run_inv g body (fun v => v ∈ sched.map Prod.snd) hb 0 sched
    (Model.C01Conc.initLazy (Proofs.C01Conc.progG g body)) (fun x hx => List.mem_map_of_mem hx)
    (Proofs.C01Conc.inv_initLazy g body _)
  obtain ⟨v, hv, hok⟩ := C01_conc_of_invariant D n f g body _ _ hinv
  exact ⟨v, hv.imp id (fun h => h.1), hok⟩

/-- **started leaf, several consumers**: after `Start(t0)` has returned, any number of callers in any interleaving: every
finished call answered as call number `idx` of `C01_leaf_run` with start `t0`, indices pairwise different. -/
theorem C01_started_concurrent (D n : ℤ) (f : ℤ → ℤ) (t0 : ℤ) (sched : List (ℕ × ℤ)) :
    ConcOK D n f t0 (Model.C01Conc.run 0 (Model.C01Conc.initStarted t0 Gen.SchedConc.nextProg) sched) := by
  obtain ⟨g, body, hp, hb⟩ := Bridge.C01Conc.nextProg_body
  rw [hp]
  -- the Once is done from the beginning: no step consults the clock or writes `start`
  have key : ∀ (l : List (ℕ × ℤ)) (s : Model.C01Conc.St), s.once = .done → s.start = some t0 →
      Proofs.C01Conc.Inv g body (fun _ => True) s →
      Proofs.C01Conc.Inv g body (fun _ => True) (Model.C01Conc.run 0 s l) ∧ (Model.C01Conc.run 0 s l).start = some t0 := by
    intro l
    induction l with
    | nil => intro s _ hs h; exact ⟨h, hs⟩
    | cons x r ih =>
      intro s ho hs h
      obtain ⟨t, now⟩ := x
      simp only [Model.C01Conc.run]
      obtain ⟨ho', hs'⟩ := Proofs.C01Conc.step_done g body _ 0 s t now h ho
      exact ih _ ho' (by rw [hs', hs]) (Proofs.C01Conc.step_inv g body _ hb 0 s t now trivial h)
  obtain ⟨h1, h2⟩ := key sched _ rfl rfl (Proofs.C01Conc.inv_initStarted g body _ t0 trivial)
  obtain ⟨v, hv, hok⟩ := C01_conc_of_invariant D n f g body _ _ h1
  rcases hv with hnil | ⟨_, hsv⟩
  · -- no finished call yet: the statement about the log is empty
    refine ⟨hok.1, hok.2.1, ?_⟩
    intro a ha; rw [hnil] at ha; simp at ha
  · rw [h2] at hsv
    injection hsv with hsv
    subst hsv; exact hok

/-- **what `Start(t0)` leaves behind** (the state `C01_started_concurrent` starts from): the REGENERATED access list of
`doAtSchedule.Start`, run alone on a schedule nobody has touched, panics nowhere and ends with the started flag up, the
Once done, `s.start = t0`, no index drawn — exactly the shared fields of `initStarted t0`; a second `Start` panics.
Stated about what the list does, so `MarkStarted()` before or after the Once are both fine. -/
theorem C01_start_effect (t0 t1 : ℤ) :
    let s := Model.C01Conc.soloStart t0 Gen.SchedConc.startProg
    let i := Model.C01Conc.initStarted t0 Gen.SchedConc.nextProg
    s.panics = i.panics ∧ s.started = i.started ∧ s.once = i.once ∧ s.start = i.start ∧ s.ctr = i.ctr ∧ s.log = i.log ∧
    s.th 0 = [] ∧
    (Model.C01Conc.run t1 { s with th := fun j => if j = 0 then Gen.SchedConc.startProg else [] }
      (List.replicate Gen.SchedConc.startProg.length (0, 0))).panics = [0] := by
  obtain ⟨h1, h2, h3, h4, h5, h6, h7⟩ := Bridge.C01Conc.startProg_effect t0
  exact ⟨h1, h2, h3, h4, h5, h7, h6, Bridge.C01Conc.startProg_twice t0 t1⟩

/-- why the Once must come FIRST: a `Next` that consults the started flag before the Once
(`if !s.IsStarted() { s.startOnce.Do(…) }`, flag set as the first statement of the Once's body) lets a second caller skip
the Once while the first is between `MarkStarted()` and `s.start = time.Now()`: it answers from the zero time. -/
def flagCheckedNext : List Model.C01Conc.Stmt :=
  [.skipIfStarted 4, .onceEnter 3, .swapStarted, .writeStartNow, .onceExit, .incI, .readStartRet]

theorem C01_lazy_start_flag_check_counterexample :
    Model.C01Conc.safeLazy flagCheckedNext = false ∧
    -- the same check with the flag raised LAST is covered by `C01_lazy_start_concurrent`'s proof (`safeLazy` accepts it)
    Model.C01Conc.safeLazy [.skipIfStarted 4, .onceEnter 3, .writeStartNow, .swapStarted, .onceExit, .incI, .readStartRet] = true ∧
    ∃ sched : List (ℕ × ℤ), ∃ a ∈ (Model.C01Conc.run 0 (Model.C01Conc.initLazy flagCheckedNext) sched).log,
      a.start = none :=
  ⟨by decide, by decide, [(0, 10), (0, 10), (0, 10), (1, 11), (1, 11), (1, 11)], by decide⟩

/-- a limit of the start protocol as it is (not used by the engine, which never calls `Start` on a schedule that is
being drained; the composite starts its next level under its write lock): `Start` OVERLAPPING a first `Next` goes wrong —
`Start` marks the schedule started before it stores its argument, and the `Next` that wins the Once marks it again and
panics (or, with a flag check in front of the Once, answers from the unset start). -/
theorem C01_start_overlapping_next_counterexample :
    ∃ sched : List (ℕ × ℤ),
      (Model.C01Conc.run 7 { Model.C01Conc.initLazy Gen.SchedConc.nextProg with
          th := fun j => if j = 0 then Gen.SchedConc.startProg else Gen.SchedConc.nextProg } sched).panics ≠ [] ∨
      ∃ a ∈ (Model.C01Conc.run 7 { Model.C01Conc.initLazy Gen.SchedConc.nextProg with
          th := fun j => if j = 0 then Gen.SchedConc.startProg else Gen.SchedConc.nextProg } sched).log, a.start = none :=
  -- the `Next` wins the Once and raises the flag; `Start` finds the flag up (whether it looks before or after the Once)
  by first
    | exact ⟨[(1, 1), (1, 2), (1, 3), (1, 4), (0, 5), (0, 6), (0, 7)], by decide⟩
    | exact ⟨[(0, 1), (1, 2), (1, 3), (1, 4), (1, 5), (1, 6), (1, 7)], by decide⟩

/-! ### non-vacuity: every hypothesis above is met by concrete, non-trivial inputs -/

example : ConstConfig_valid 7.5 1000000 := (ConstConfig_valid_iff _ _).mpr (by norm_num)
example : ConstConfig_valid 0 1500000000 := (ConstConfig_valid_iff _ _).mpr (by norm_num)
-- increasing from a zero rate over a fractional number of seconds; decreasing to zero over half a second; flat
example : LineConfig_valid 0 10 1500000000 := (LineConfig_valid_iff _ _ _).mpr (by norm_num)
example : LineConfig_valid 10 0 500000000 := (LineConfig_valid_iff _ _ _).mpr (by norm_num)
example : LineConfig_valid 7.5 7.5 1000000 := (LineConfig_valid_iff _ _ _).mpr (by norm_num)
example : LineConfig_valid 5 50 2500500000 ∧ (5:ℝ) ≤ 50 := ⟨(LineConfig_valid_iff _ _ _).mpr (by norm_num), by norm_num⟩
-- … and such a profile does contain operations (the `k < n` of `Realises` is not empty): 7 of them
example : ⌊lineCum 0 10 1500000000 (secs 1500000000)⌋ = 7 := by
  rw [(C01_line 0 10 1500000000 ((LineConfig_valid_iff _ _ _).mpr (by norm_num))).2]
  unfold secs; rw [Int.floor_eq_iff]; norm_num
-- C01_defined: a non-flat accepted line (it has 7 operations, see above, so some 0 < k < n exists)
example : LineConfig_valid 0 10 1500000000 ∧ (0:ℝ) ≠ 10 := ⟨(LineConfig_valid_iff _ _ _).mpr (by norm_num), by norm_num⟩
example : StepConfig_valid 1 10 3 1500000000 ∧ (1:ℝ) ≠ 10 := ⟨(StepConfig_valid_iff _ _ _ _).mpr (by norm_num), by norm_num⟩
example : StepConfig_valid 5 5 1 1000000 := (StepConfig_valid_iff _ _ _ _).mpr (by norm_num)
-- C01_prefix: an earliest instant and a later instant of a real profile (operation 1 of const 2/s over 1 s, y = 0.75 s)
example : EarliestAt (lineCum 2 2 1000000000) 1000000000 1 0.5 ∧ (0:ℝ) ≤ 0.75 ∧ (0.75:ℝ) ≤ secs 1000000000 := by
  unfold EarliestAt lineCum secs
  refine ⟨⟨by norm_num, by norm_num, by norm_num, ?_⟩, by norm_num, by norm_num⟩
  intro y _ hy; norm_num; linarith
-- 3·10⁹ operations written as a JSON number: beyond 2³¹, inside the hooks' range; 2.5 is refused
example : OnceConfig_valid 3000000000 ∧ (3000000000 : ℤ) < 2 ^ 63 ∧ WholeNumberHook_rejects 2.5 := by
  refine ⟨(OnceConfig_valid_iff _).mpr (by norm_num), by norm_num, ?_⟩
  by_contra h
  have := ((float_for_int64_iff 2.5).mp ⟨h, by unfold NumberRangeHook_fits_float kindBits_Int64; norm_num⟩)
  obtain ⟨z, hz, _, _⟩ := this
  have h2 : ((2 * z : ℤ) : ℝ) = 5 := by push_cast; rw [hz]; norm_num
  have h3 : (2 * z : ℤ) = 5 := by exact_mod_cast h2
  omega
example : OnceConfig_valid 3 := (OnceConfig_valid_iff _).mpr (by norm_num)
-- a run in which the profile is exhausted (C01_finish) and a leaf that realises a profile (C01_bounds)
example : ∃ rs, startAndDrain 1000 2 (fun i => i * 10) 5 [0, 0, 0] = Except.ok rs ∧ 2 < rs.length ∧ (2:ℤ) ≤ ((2:ℕ):ℤ) :=
  ⟨_, C01_leaf_run _ _ _ _ _, by simp, by simp⟩
example : Realises (NewConstConf 7.5 1000000) (constCum 7.5) 1000000 :=
  C01_const _ _ ((ConstConfig_valid_iff _ _).mpr (by norm_num))
example : (0:ℤ) ≤ 7 := by norm_num
-- C01_chain / C01_step_chain: three levels of which the middle one holds no operation; a step profile with 4 levels
example : chainRun [((10:ℤ), (2:ℤ), fun k => 3 * k), (10, 0, fun _ => 0), (10, 1, fun _ => 7)] 100 [0, 0, 0, 0, 0] =
    Except.ok [(100, true), (103, true), (127, true), (130, false), (130, false)] := by
  obtain ⟨ans, hrun, htok, hfin⟩ :=
    C01_chain ((10:ℤ), (2:ℤ), fun k => 3 * k) [(10, 0, fun _ => 0), (10, 1, fun _ => 7)] 100 [0, 0, 0, 0, 0]
  rw [hrun]
  have a0 := htok 0 (by simp) 0 (by simp)
  have a1 := htok 0 (by simp) 1 (by simp)
  have a2 := htok 2 (by simp) 0 (by simp)
  have a3 := hfin 3 (by simp [totalOps])
  have a4 := hfin 4 (by simp [totalOps])
  simp [opsBefore, durBefore, totalOps, totalDur] at a0 a1 a2 a3 a4
  simp [List.range_succ, a0, a1, a2, a3, a4]
example : StepConfig_valid 1 10 3 1500000000 ∧ (1:ℝ) ≠ 10 ∧ (stepLevels 1 10 3 1500000000).length = 4 := by
  refine ⟨(StepConfig_valid_iff _ _ _ _).mpr (by norm_num), by norm_num, ?_⟩
  have : ⌊((10:ℝ) - 1) / 3⌋₊ = 3 := by rw [Nat.floor_eq_iff (by norm_num)]; norm_num
  simp [stepLevels, Go.loopLE, this]
-- C01_int64_range, C01_const_float, C01_float_partial: the rounding model is inhabited (exact arithmetic, and a rounding
-- that is always 1/16 too high), the configurations are the ones above
example : LineConfig_valid 0 10 1500000000 ∧ (1500000000:ℤ) < 2 ^ 63 ∧
    lineCum 0 10 1500000000 (secs 1500000000) < 2 ^ 63 := by
  refine ⟨(LineConfig_valid_iff _ _ _).mpr (by norm_num), by norm_num, ?_⟩
  rw [(C01_line 0 10 1500000000 ((LineConfig_valid_iff _ _ _).mpr (by norm_num))).2]; unfold secs; norm_num
example : Rounding 0 (fun x => x) ∧ Rounding (1 / 16) (fun x => x * (1 + 1 / 16)) := ⟨rounding_id, rounding_up⟩
example : ∃ fl, Rounding (1 / 2 ^ 53) fl := ⟨fun x => x, by norm_num, by norm_num, by intro x; simp⟩
example : (9:ℝ) * (1 / 16) * constCum 1 (secs 1000000000) ≤ 1 := by unfold constCum secs; norm_num

-- two callers of a never-started leaf taking turns access by access while the clock shows 10: both calls finish, both
-- read the start 10, they hold the indices 0 and 1
example : ((Model.C01Conc.run 0 (Model.C01Conc.initLazy Gen.SchedConc.nextProg)
      (List.replicate 12 [((0 : ℕ), (10 : ℤ)), (1, 10)]).flatten).log.map fun a => (a.start, a.idx)) ∈
        [[(some 10, (0 : ℤ)), (some 10, 1)], [(some 10, 1), (some 10, 0)]] := by decide
example : ((Model.C01Conc.run 0 (Model.C01Conc.initStarted 5 Gen.SchedConc.nextProg)
      (List.replicate 12 [((3 : ℕ), (1 : ℤ)), (4, 1)]).flatten).log.map fun a => (a.start, a.idx)) ∈
        [[(some 5, (0 : ℤ)), (some 5, 1)], [(some 5, 1), (some 5, 0)]] := by decide

/-! ### compositions over the neighbours' models -/

open Pandora.Proofs.C01R6Comp in
/-- **the succession of levels is C02's composite over C01's leaves** (composition with C02): C02 models
`compositeSchedule` generically over the interface `Ops σ` of its nested schedules (`Model.C02.newComposite` with the
backwards `leftAfter` loop, `compStart`, `compNext`, `compLeft`) and ties that model to composite.go for EVERY instance
of the interface (C02_newComposite_is_source, C02_next_is_source, C02_left_is_source, C02_seq_refines). Instantiated
with the REGENERATED leaf methods of C01 (`doAtOps`), for every list of levels, every start and every sequence of calls
of one consumer it answers exactly what `chainRun` answers — so `C01_chain` and `C01_step_chain` are statements about
C02's composite model built on C01's regenerated leaves: operation k of level i at `t0 + i·D + ⌊k/rateᵢ·10⁹⌋`, finish at
`t0 + levels·D`. And `Left()` of that composite (two or more levels) before its start is the number of operations of all
levels together. -/
theorem C01_chain_is_c02_composite (levels : List Level) (t0 : ℤ) (nows : List ℤ) :
    c02Run levels t0 nows = chainRun levels t0 nows ∧
    (∀ (f t : ℝ) (s D : ℤ), StepConfig_valid f t s D → f ≠ t →
      ∃ ans : ℕ → ℤ × Bool,
        c02Run (stepLevels f t s D) t0 nows = Except.ok ((List.range nows.length).map ans) ∧
        (∀ (i : ℕ) (hi : i < (stepLevels f t s D).length) (k : ℕ), k < ((stepLevels f t s D)[i]).2.1.toNat →
            ans (opsBefore (stepLevels f t s D) i + k) =
              (t0 + (i : ℤ) * D + ((stepLevels f t s D)[i]).2.2 k, true)) ∧
        (∀ j : ℕ, totalOps (stepLevels f t s D) ≤ j → ans j = (t0 + ((stepLevels f t s D).length : ℤ) * D, false))) ∧
    (∀ (l l2 : Level) (rest : List Level) (now : ℤ), (∀ x ∈ l :: l2 :: rest, 0 ≤ x.2.1) →
      ∃ c, Model.C02.newComposite doAtOps t0 ((l :: l2 :: rest).map fresh) = .ok (.inr c) ∧
        ∃ c', Model.C02.compLeft doAtOps c now = .ok (c', opsAfter (l :: l2 :: rest))) := by
  refine ⟨c02Run_eq_chainRun levels t0 nows, ?_, ?_⟩
  · intro f t s D h hne
    obtain ⟨_, ans, h1, h2, h3⟩ := C01_step_chain f t s D h hne t0 nows
    exact ⟨ans, by rw [c02Run_eq_chainRun]; exact h1, h2, h3⟩
  · intro l l2 rest now hpos
    exact c02Left_before_start l l2 rest t0 now hpos

open Pandora.Model.C04 Pandora.Proofs.C04 Pandora.Proofs.C01R6Wait in
/-- **end to end: accepted profile → schedule → Waiter → instance loop** (composition with C04's model of
`coreutil.Waiter` and of the loop of `instance.Run`, both tied to the source by `Bridge.Waiter`; C04 proves "no early
shot" for an ARBITRARY token sequence, here the tokens are what the regenerated schedule answers).  For every accepted
const or line configuration, the schedule started at `t0`, one instance, ANY world history `h` (context done or not at the
loop head and at `Wait`'s entry, ammo or not, clock readings, timers that fire or are cancelled — `feed` calls the
regenerated `Left()` / `Next()` exactly where `IsFinished` / `Wait` call them):
* nothing panics;
* the scheduled instants of the actions (Shoot, or Report of a discarded sample), in the order the actions happen, are a
  subsequence of `t0 + at 0, t0 + at 1, …, t0 + at (n−1)` with `n = ⌊∫rate⌋` and `at k` the ns-truncation of the earliest
  instant at which the integral of the configured rate reaches k: operations are acted on in profile order, each at most
  once, never more than the profile holds;
* under the clock hypotheses of C04 (`ClockOK`: readings do not go back, a timer does not fire early) every action happens
  at an instant ≥ its scheduled instant — no operation is fired before the profile's instant for it;
* when nothing interferes (`CalmIter`) and the history is long enough, EVERY operation of the profile is acted on and the
  loop then ends by itself. -/
theorem C01_engine_fires_profile (s : Sched) (c : ℝ → ℝ) (D : ℤ) (hs : Realises s c D) (d : Bool) (t0 : ℤ) :
    ∃ (n : ℤ) (at_ : ℤ → ℤ), s = Sched.doAt D n at_ ∧ n = ⌊c (secs D)⌋ ∧
      (∀ k : ℤ, 0 ≤ k → k < n → ∃ x : ℝ, EarliestAt c D k x ∧ at_ k = ⌊x * 1000000000⌋) ∧
      ∀ h : List Iter, ∃ h', feed (startedSt D n at_ t0 0) h = .ok h' ∧
        (∀ w : Waiter, (evToks (runLoop .fresh d w h').1).Sublist
            ((List.range n.toNat).map fun (k : ℕ) => t0 + at_ (k : ℤ))) ∧
        (∀ w : Waiter, ClockOK w h' →
            ∀ ev ∈ (runLoop .fresh d w h').1, ∃ next, ev.iter.env.tok = some next ∧ next ≤ ev.iter.env.ret) ∧
        ((∀ it ∈ h, CalmIter it) → n.toNat < h.length → ∀ w : Waiter,
            evToks (runLoop .fresh d w h').1 = (List.range n.toNat).map (fun (k : ℕ) => t0 + at_ (k : ℤ)) ∧
            (runLoop .fresh d w h').2 = Exit.loopEnd) := by
  obtain ⟨n, at_, rfl, hn, hk⟩ := hs
  refine ⟨n, at_, rfl, hn, fun k h0 h1 => ?_, fun h => ?_⟩
  · obtain ⟨x, hx, hat, _, _⟩ := hk k h0 h1
    exact ⟨x, hx, hat⟩
  · have hprof : profToks n at_ t0 0 = (List.range n.toNat).map (fun (k : ℕ) => t0 + at_ (k : ℤ)) := by
      unfold profToks
      simp only [Nat.sub_zero, List.range_eq_range']
    obtain ⟨h', hfeed, hsub⟩ := feed_started d D n at_ t0 h 0
    refine ⟨h', hfeed, fun w => hprof ▸ hsub w, fun w hc => no_early d h' w hc, ?_⟩
    intro hcalm hlen w
    obtain ⟨h'', hfeed', hall⟩ := feed_started_calm d D n at_ t0 h 0 hcalm (by omega)
    rw [hfeed] at hfeed'
    injection hfeed' with hEq
    subst hEq
    obtain ⟨e1, e2⟩ := hall w
    exact ⟨hprof ▸ e1, e2 (by omega)⟩

-- non-vacuity of the composition: const 2/s over 1 s started at 100: two passes in a calm world with the clock at
-- the token time fire both operations (at 100 and 500000100), the third pass ends the loop
example :
    let it : Model.C04.Iter := { finished := false, ammoOk := true, env := { now := 600000000, arm := 600000000, ret := 600000000 } }
    ∃ h', Proofs.C01R6Wait.feed (startedSt 1000000000 2 (fun k => k * 500000000) 100 0) [it, it, it] = .ok h' ∧
      Proofs.C01R6Wait.evToks (Model.C04.runLoop .fresh true {} h').1 = [100, 500000100] ∧
      (Model.C04.runLoop .fresh true {} h').2 = Model.C04.Exit.loopEnd ∧
      Proofs.C04.ClockOK {} h' ∧ (∀ x ∈ [it, it, it], Proofs.C01R6Wait.CalmIter x) := by
  refine ⟨_, rfl, by decide, by decide, by decide, ?_⟩
  intro x hx
  simp at hx
  subst hx
  exact ⟨rfl, rfl, rfl, rfl⟩

end Pandora.Props.C01
