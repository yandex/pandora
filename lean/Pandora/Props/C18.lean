/-
C18 — Plugin registry: every constructor shape yields rightly configured components.

All theorems are about `Model.C18.run`, the model of core/plugin/registry.go + constructor.go (tied to the real
registry by the correspondence driver harness/cmd/c18, which runs the FULL cross product of shapes on every check
and must print the model's observation byte for byte).  They quantify over
  * every constructor shape `Shape` (component | factory constructor × no config | struct | *struct × error result
    × the returned factory's error result × product type impl | interface × default-config function
    absent | fresh | nil-returning | one shared pointer),
  * every requested form (`New`, `func() Plugin`, `func() (Plugin, error)`),
  * every world: default values, user settings, fillConf given or not, and ANY fault plan (`Nat → Bool` per kind of
    user code),
  * every number k of calls (induction on k in Proofs/C18: `iter_inv`, `iter_keys`, `iter_frame`, `iter_views`; a run is taken apart by
    `run_eq_phase` / `phase_cases` in Proofs/C18Run).
The statements are the executable Spec predicates of Spec/C18 (the very functions the driver evaluates on the real
registry's observations) plus, for the configuration, the unbounded ∀-fields form.

Further:
  * sessions (`Model.C18Sess`, `Spec.C18Sess`): ONE registry with ANY number of registrations (plugin type × name × shape,
    each with its own user code and fault plan) and ANY interleaving of Register / New / NewFactory / calls of any factory
    handed out so far / Lookup — `C18_session` (the whole session Spec), `C18_lookup` (creation by name: the lookup error
    without any user code, or exactly the one registration for this type and name), `C18_isolation`,
    `C18_session_single` (the session model restricted to one registration and one creation IS `Model.C18.run`);
  * the config hooks (`Model.C18Hook`: `Hook`, `FactoryHook`, `parseConf`) — `C18_hook`, `C18_hook_order`, and for the
    tree as found (an empty plugin name reaches the registry and panics there) `C18_hook_unrepaired_counterexample` /
    `C18_hook_partial`;
  * the validating decoder as fillConf (`Spec.C18Valid`) — `C18_validate*`; a plugin configuration that contains another
    plugin (`Model.C18Nest`) — `C18_nested`; structured options through the config decoder (`Model.C18Over`) —
    `C18_overlay*`;
  * where an error result can come from — `C18_error_source*`, `C18_no_error_result`; the requested forms as Go types and
    the result conversion, regenerated from the source — `C18_requested_forms`, `C18_convert`; composition with the hooks
    and with C17's reading of the decoder — `C18_factory_hook`, `C18_config_composition`.
-/
import Pandora.Proofs.C18Ext
import Pandora.Proofs.C18Eng
import Pandora.Proofs.C18Hist
import Pandora.Bridge.Plugin
import Pandora.Proofs.C18Sess
import Pandora.Proofs.C18Hook
import Pandora.Proofs.C18Valid
import Pandora.Proofs.C18Nest
import Pandora.Proofs.C18Over
import Pandora.Proofs.C18R6
import Pandora.Proofs.C18R6Err
import Pandora.Gen.Config

namespace Pandora.Props.C18
open Pandora.Model.C18 Pandora.Spec.C18 Pandora.Proofs.C18

/-- a registration is accepted iff the default-config function fits the constructor's config argument -/
theorem C18_register (inp : Input) : (run inp).isSome = registerOk inp.sh := by
  unfold run runSt
  cases hr : registerOk inp.sh
  · simp
  · cases hf : inp.form <;> simp
    all_goals split <;> simp

/-- **config**: every component handed out — by `New`, by a factory of either type, made from a component
constructor or from a factory constructor, whatever failed before — was built from the registered defaults
overlaid by the user's settings (every field except the `Mark` field the components themselves write), and from
nothing at all when the constructor takes no config. -/
theorem C18_config (inp : Input) (obs : Obs) (h : run inp = some obs) :
    ∀ p ∈ products obs.steps,
      (inp.sh.cfg = .none → p.seen = []) ∧
      (inp.sh.cfg ≠ .none → ∀ f, f ≠ markField → p.seen.get f = (expected inp.sh inp.w).get f) := by
  obtain ⟨_, rfl⟩ := run_eq_phase h
  intro p hp
  exact config_phase inp _ (initSt_shared _ _) p hp

/-- the executable form of `C18_config` the driver evaluates (any list of fields) -/
theorem C18_config_spec (inp : Input) (obs : Obs) (fields : List Nat) (h : run inp = some obs) :
    configOk inp obs fields = true := by
  have := C18_config inp obs h
  simp only [configOk, List.all_eq_true]
  intro p hp
  obtain ⟨h1, h2⟩ := this p hp
  by_cases hc : inp.sh.cfg = .none
  · simp [hc, h1 hc]
  · simp only [hc, if_false, List.all_eq_true, Bool.or_eq_true, beq_iff_eq]
    intro f _
    by_cases hf : f = markField
    · exact .inl hf
    · exact .inr (h2 hc f hf)

/-- **errors**: a failing fillConf / constructor / registered-factory invocation ends the operation at once and
its error is the operation's result — the error result of `New`, of `NewFactory` and of a
`func() (Plugin, error)` factory; a panic carrying that very error exactly when the requested factory type is
`func() Plugin` and the failure happens in a factory call; an operation without a failing invocation succeeds;
a successful `NewFactory` is followed by exactly k results. -/
theorem C18_errors (inp : Input) (obs : Obs) (h : run inp = some obs) : errorsOk inp obs = true := by
  obtain ⟨_, rfl⟩ := run_eq_phase h
  exact errors_phase inp _

/-- **fresh**: when the requested form must configure per product — `New`, or a factory (of either type) made from
a component constructor — every single call invokes the default-config function once (if one is registered),
fillConf once on the new configuration and, unless fillConf failed, the constructor once on that very
configuration (and a factory constructor's factory once); over the k calls the configurations handed to fillConf
are pairwise distinct, so are those handed to the constructors and those held by the products, and at the very
end every product still reads its own serial number through its configuration pointer: no two products share
configuration state.  `NewFactory` itself invokes no user code.  (Excluded, by `freshApplies`: a default-config
function that itself returns one shared pointer — see the examples with `dflt := .shared` below.) -/
theorem C18_fresh (inp : Input) (obs : Obs) (h : run inp = some obs) (ha : freshApplies inp = true) :
    freshOk inp obs = true :=
  fresh_run h ha

/-- sum over the calls of the number of user-code invocations of one kind -/
def total (p : Ev → Bool) (calls : List Step) : Nat := (calls.map fun s => s.evs.countP p).sum

/-- per-call counts, summed -/
theorem total_const (p : Ev → Bool) (c : Nat) (l : List Step) (h : ∀ s ∈ l, s.evs.countP p = c) :
    total p l = l.length * c := by
  unfold total
  induction l with
  | nil => simp
  | cons a l ih =>
    simp only [List.map_cons, List.sum_cons, List.length_cons, h a (by simp)]
    rw [ih (fun s hs => h s (by simp [hs])), Nat.add_mul]; omega

/-- `C18_fresh` in numbers: a factory made from a component constructor that takes a configuration, called k
times, made k configurations (k default-config calls), filled k of them — k pairwise distinct ones —, and called the
constructor once per call whose fillConf did not fail, each time on another configuration; the products
hold pairwise distinct configurations. -/
theorem C18_fresh_counts (inp : Input) (obs : Obs) (h : run inp = some obs) (ha : freshApplies inp = true)
    (hfa : inp.sh.factory = false) :
    (callsOf inp obs).length = inp.k ∧
    total isDflt (callsOf inp obs) = (if inp.sh.dflt = .absent then 0 else inp.k) ∧
    total isFill (callsOf inp obs) = (if inp.w.hasFill then inp.k else 0) ∧
    ((callsOf inp obs).filterMap fillAddr?).length = (if inp.w.hasFill then inp.k else 0) ∧
    ((callsOf inp obs).filterMap fillAddr?).Nodup ∧
    total isCtor (callsOf inp obs) + (callsOf inp obs).countP fillFailed = inp.k ∧
    total isFact (callsOf inp obs) = 0 ∧
    ((callsOf inp obs).filterMap ctorConf?).Nodup ∧
    ((callsOf inp obs).filterMap prodCell?).Nodup := by
  have hfresh := fresh_run h ha
  simp only [freshOk, Bool.and_eq_true, List.all_eq_true, nodup, decide_eq_true_eq] at hfresh
  obtain ⟨⟨⟨⟨⟨_, n1⟩, n2⟩, n3⟩, _⟩, _⟩ := hfresh
  obtain ⟨_, rfl⟩ := run_eq_phase h
  simp only [freshApplies, Bool.and_eq_true, bne_iff_ne, ne_eq] at ha
  have hc := ha.1.1
  -- the calls are k iterations of one call that gets a config; what each of them shows
  obtain ⟨f, pan, st1, _, hf, _, _, _, hcalls, _⟩ := percall_iter inp (initSt inp.sh inp.w) hc (.inr hfa)
  have hlen : (callsOf inp (phaseObs inp (initSt inp.sh inp.w))).length = inp.k := by rw [hcalls, iter_length]
  have hper : ∀ s ∈ callsOf inp (phaseObs inp (initSt inp.sh inp.w)),
      s.evs.countP isDflt = (if inp.sh.dflt = .absent then 0 else 1) ∧
      s.evs.countP isFill = (if inp.w.hasFill then 1 else 0) ∧
      (fillAddr? s).isSome = inp.w.hasFill ∧
      s.evs.countP isCtor = (if fillFailed s then 0 else 1) ∧
      s.evs.countP isFact = 0 := by
    rw [hcalls]
    exact (iter_inv f (fun _ => True) _ (fun s' _ => ⟨trivial, by
      have hev := callSpec_evs inp.sh inp.w true inp.sh.factory pan s'
      obtain ⟨c1, c2, c3, c4⟩ := callEvs_counts inp.sh inp.w true inp.sh.factory s'
      rw [(tri_step (hf s')).2.2, callEvs_fillFailed hev, callEvs_fillAddr hev, hev, c1, c2, c3, c4]
      refine ⟨by simp [hc], by simp, ?_, rfl, by simp [hfa]⟩
      cases inp.w.hasFill <;> simp [cellOf, hc]⟩) inp.k st1 trivial).2
  generalize callsOf inp (phaseObs inp (initSt inp.sh inp.w)) = l at hlen hper n1 n2 n3 ⊢
  refine ⟨hlen, ?_, ?_, ?_, n1, ?_, ?_, n2, n3⟩
  · rw [total_const isDflt _ _ (fun s hs => (hper s hs).1), hlen]; split <;> simp
  · rw [total_const isFill _ _ (fun s hs => (hper s hs).2.1), hlen]; split <;> simp
  · rw [← hlen]
    clear hlen n1 n2 n3
    induction l with
    | nil => simp
    | cons a l ih =>
      have ha' := (hper a (by simp)).2.2.1
      have ih' := ih (fun s hs => hper s (by simp [hs]))
      rw [List.filterMap_cons]
      cases hfa' : fillAddr? a with
      | none =>
        have hf : inp.w.hasFill = false := by rw [← ha', hfa']; rfl
        simp only [hf, Bool.false_eq_true, if_false] at ih' ⊢
        exact ih'
      | some c =>
        have hf : inp.w.hasFill = true := by rw [← ha', hfa']; rfl
        simp only [hf, if_true, List.length_cons] at ih' ⊢
        rw [ih']
  · rw [← hlen]
    unfold total
    clear hlen n1 n2 n3
    induction l with
    | nil => simp
    | cons a l ih =>
      have ha' := (hper a (by simp)).2.2.2.1
      have ih' := ih (fun s hs => hper s (by simp [hs]))
      simp only [List.map_cons, List.sum_cons, List.countP_cons, List.length_cons, ha']
      cases hff : fillFailed a <;> simp <;> omega
  · rw [total_const isFact 0 _ (fun s hs => (hper s hs).2.2.2.2)]; simp

/-- **once**: a factory (of either type) made from a factory constructor — creation invokes the default-config
function once (if one is registered and the constructor takes a configuration), fillConf once (if given) and, unless
fillConf failed, the registered factory constructor once, and does not invoke the factory it returns; every later
call invokes exactly one piece of user code: the registered factory. -/
theorem C18_once (inp : Input) (obs : Obs) (h : run inp = some obs) (ha : onceApplies inp = true) :
    onceOk inp obs = true :=
  once_run h ha

/-- `C18_once` in numbers: after a successful `NewFactory` the k calls contain no default-config, fillConf or
constructor invocation at all and exactly k invocations of the registered factory. -/
theorem C18_once_counts (inp : Input) (obs : Obs) (h : run inp = some obs) (ha : onceApplies inp = true)
    (c : Step) (calls : List Step) (hsteps : obs.steps = c :: calls) (hmade : c.res = .made) :
    calls.length = inp.k ∧
    c.evs.countP isFill = (if inp.w.hasFill then 1 else 0) ∧ c.evs.countP isCtor = 1 ∧ c.evs.countP isFact = 0 ∧
    total isDflt calls = 0 ∧ total isFill calls = 0 ∧ total isCtor calls = 0 ∧ total isFact calls = inp.k := by
  have honce := once_run h ha
  have herr := C18_errors inp obs h
  simp only [onceApplies, Bool.and_eq_true, bne_iff_ne, ne_eq] at ha
  have hlen : calls.length = inp.k := by
    cases hform : inp.form with
    | component => exact absurd hform ha.2
    | facNoErr | facErr =>
      simp only [errorsOk, hform, hsteps, isMade, hmade, beq_self_eq_true, Bool.true_or, Bool.and_true, if_true,
        Bool.and_eq_true, beq_iff_eq] at herr
      exact herr.1.2
  simp only [onceOk, hsteps, Bool.and_eq_true, List.all_eq_true] at honce
  obtain ⟨hc, hcalls⟩ := honce
  have hnofail : fillFailed c = false := by
    -- a creation step that ends in `made` has no failing invocation
    have h1 : stepErrOk false c = true := by
      cases hform : inp.form with
      | component => exact absurd hform ha.2
      | facNoErr | facErr =>
        simp only [errorsOk, hform, hsteps, Bool.and_eq_true] at herr
        exact herr.1.1.1
    have hnil : c.evs.filterMap evFail = [] := by
      unfold stepErrOk at h1
      rw [hmade] at h1
      split at h1
      · assumption
      · simp at h1
      · simp at h1
    rw [List.filterMap_eq_nil_iff] at hnil
    unfold fillFailed
    rw [List.any_eq_false]
    intro ev hev
    have := hnil ev hev
    cases ev <;> simp_all [evFail]
  simp only [onceCreateOk, hnofail, Bool.false_eq_true, if_false, Bool.and_eq_true, beq_iff_eq] at hc
  obtain ⟨⟨⟨_, c2⟩, c3⟩, c4⟩ := hc
  have hper : ∀ s ∈ calls, s.evs.countP isDflt = 0 ∧ s.evs.countP isFill = 0 ∧ s.evs.countP isCtor = 0 ∧
      s.evs.countP isFact = 1 := by
    intro s hs
    have := hcalls s hs
    simp only [onceCallOk, Bool.and_eq_true, beq_iff_eq] at this
    obtain ⟨l1, l2⟩ := this
    match hev : s.evs, l1, l2 with
    | [e], _, l2 =>
      cases e <;> simp_all [isDflt, isFill, isCtor, isFact, List.countP_cons]
  refine ⟨hlen, c2, c3, c4, ?_, ?_, ?_, ?_⟩
  · rw [total_const isDflt 0 _ (fun s hs => (hper s hs).1)]; simp
  · rw [total_const isFill 0 _ (fun s hs => (hper s hs).2.1)]; simp
  · rw [total_const isCtor 0 _ (fun s hs => (hper s hs).2.2.1)]; simp
  · rw [total_const isFact 1 _ (fun s hs => (hper s hs).2.2.2), hlen]; simp

/-- **fresh, per call — shared default configuration included**: whenever the requested form must configure per
product (`New`, or a factory made from a component constructor that takes a configuration), EVERY call invokes the
default-config function once (if registered), fillConf once on what it returned and, unless fillConf failed, the
constructor once on that very configuration — also when the registered default-config function hands out one and
the same pointer each time.  (`C18_fresh` adds that the configurations are pairwise distinct when the function does
not do that.)  `NewFactory` itself invokes no user code. -/
theorem C18_percall (inp : Input) (obs : Obs) (h : run inp = some obs) (ha : percallApplies inp = true) :
    percallOk inp obs = true :=
  percall_run h ha

/-- **structure, every shape**: for every shape, requested form, world and k, every operation consists of exactly the
invocations of user code — in exactly the order — that the constructor shape prescribes:
`New` = [default-config] [fillConf] constructor [registered factory];
`NewFactory` for a component constructor = nothing (fillConf once on the empty struct when the constructor takes
no config), each call = [default-config] [fillConf] constructor when it takes a config and the constructor alone when it
does not;
`NewFactory` for a factory constructor = [default-config] [fillConf] constructor, each call = the registered factory
alone; a failing fillConf / constructor ends the operation.  This decides the invocation counts of the shapes
`C18_fresh` / `C18_once` do not speak about (no-config constructors, factory constructors through `New`). -/
theorem C18_struct (inp : Input) (obs : Obs) (h : run inp = some obs) : structOk inp obs = true :=
  struct_run h

/-- `C18_struct` in numbers for a component constructor WITHOUT a config requested as a factory: creation invokes
fillConf at most once (on the empty struct) and nothing else, the k calls are exactly k constructor invocations -/
theorem C18_struct_plain (inp : Input) (obs : Obs) (h : run inp = some obs)
    (hc : inp.sh.cfg = .none) (hfa : inp.sh.factory = false) (hform : inp.form ≠ .component)
    (c : Step) (calls : List Step) (hsteps : obs.steps = c :: calls) :
    c.evs.map kindOf = (if inp.w.hasFill then [K.f] else []) ∧
    ∀ s ∈ calls, s.evs.map kindOf = [K.c] := by
  have hs := struct_run h
  have hcalls : callsOf inp obs = calls := by
    cases hf : inp.form with
    | component => exact absurd hf hform
    | facNoErr | facErr => simp [callsOf, hsteps]
  have hne : (inp.form == Form.component) = false := by simp [hform]
  simp only [structOk, structOkBy, hcalls, hsteps, List.head?_cons, hne, Bool.false_or, Bool.and_eq_true,
    List.all_eq_true, beq_iff_eq] at hs
  obtain ⟨⟨h1, h2⟩, _⟩ := hs
  refine ⟨?_, fun s hs => ?_⟩
  · rw [h1]; simp [createKindsBy, hfa, hc]
  · rw [h2 s hs]; simp [callKindsBy, reconfigures, hne, hfa, hc]

/-! ### registration: which Go types `Register` accepts (expectations regenerated from core/plugin on every run) -/

open Pandora.Model.C18Ty in
/-- **supported ways of registering, as Go types**: for EVERY type of the registered constructor and of the optional
default-config function (an unbounded space of Go types: any nesting of funcs, pointers, named types), the
expectations `Register` checks — `newImplConstructor`, `newPluginConstructor`, `newFactoryConstructor`,
`expectPluginConstructor`, `newDefaultConfigContainer`, regenerated from the source into Gen/Plugin.lean — all hold iff
the constructor is `func([Conf | *Conf]) (Impl | func() (Impl [, error]) [, error])` with `Impl` implementing the plugin
interface, and the default-config function is absent or `func() <the constructor's config type>` -/
theorem C18_register_types (p t : Ty) (d : Option Ty) :
    Pandora.Bridge.Plugin.accepts p t d = Pandora.Model.C18Reg.supported p t d :=
  Pandora.Bridge.Plugin.accepts_eq_supported p t d

/-- every shape of the model, given its Go types (as the driver builds them with reflect.FuncOf), is accepted by the
regenerated expectations iff the model says `Register` accepts it, and is taken as a factory constructor iff it is a
factory shape -/
theorem C18_register_shapes (sh : Shape) :
    Pandora.Bridge.Plugin.accepts Pandora.Model.C18Reg.plugT (Pandora.Model.C18Reg.ctorTy sh)
      (Pandora.Model.C18Reg.dfltTy sh) = registerOk sh ∧
    Pandora.Gen.Plugin.isFactoryConstructor Pandora.Model.C18Reg.plugT (Pandora.Model.C18Reg.ctorTy sh) = sh.factory :=
  ⟨Pandora.Bridge.Plugin.accepts_shape sh, Pandora.Bridge.Plugin.isFactoryConstructor_shape sh⟩

/-! ### the engine's use of a gun factory -/

open Pandora.Model.C18Engine in
/-- **engine**: a pool that starts `inst` instances calls its gun factory — a `func() (core.Gun, error)` made by
`NewFactory` — once to warm up and once per instance, until the first error.  For every shape, world (any fault plan)
and `inst`: the run is a registry run of form `func() (Plugin, error)` with at most `inst + 1` calls; at most that
many guns are built; every gun was built from the registered defaults overlaid by the user's settings; and when the
registered gun constructor is a component constructor with a config (and no shared default pointer) the guns hold
pairwise distinct configuration objects (`cells` = number of pointer-holding guns) and at the end every one of them still
reads its own serial number through its pointer (`own = cells`): instances never share configuration state. -/
theorem C18_engine (inp : Input) (inst : Nat) (per : Bool) (eo : EngineObs) (h : engineRun inp inst per = some eo) :
    ∃ obs, run (gunInput inp inst) = some obs ∧
      (gunInput inp inst).form = .facErr ∧ (gunInput inp inst).k ≤ inst + 1 ∧
      eo.guns = (Pandora.Spec.C18.products obs.steps).length ∧ eo.guns ≤ inst + 1 ∧
      (inp.sh.cfg ≠ .none → ∀ t ∈ eo.seen,
        t = ((expected inp.sh inp.w).get 1, (expected inp.sh inp.w).get 2, (expected inp.sh inp.w).get 3)) ∧
      (freshApplies (gunInput inp inst) = true →
        eo.cells = ((Pandora.Spec.C18.products obs.steps).filterMap (·.cell)).length ∧ eo.own = eo.cells) := by
  obtain ⟨obs, h1, h2, h3, h4, h5⟩ := engine_run h
  have hk := gunK_le inp inst
  have hp : poolGunCalls inst = inst + 1 := by simp [poolGunCalls, warmupGunCalls, gunCallsPerInstance, Nat.add_comm]
  exact ⟨obs, h1, rfl, by simp only [gunInput]; omega, h2, by omega, h4, h5⟩

/-! ### histories: all sequences of creations and calls on one registration -/

/-- **histories**: a registration is used again and again — `New` / `NewFactory` with other user settings, each followed
by any number of calls (phases, each started in the state the earlier ones left: configuration objects, invocation
counters; one fault plan over the global invocation indices).  For EVERY shape, default values, fault plan and list of
phases:
(1) every phase satisfies the whole single-creation Spec with ITS OWN user settings — errors, structure, per-call,
once, fresh, and its products were built from the defaults overlaid by the settings of THAT creation (the
configuration clause excludes a shared default pointer, which keeps earlier users' settings by the plugin author's
choice): an earlier creation never leaks into a later one;
(2) across phases (unless the default-config function shares one object): the configurations held by the products of
all per-product-configuring phases are pairwise distinct whichever creations they come from, and at the very end of
the history every such product still reads its own serial number through its configuration pointer — no later
creation or call disturbed it. -/
theorem C18_history (h : HInput) (o : HObs) (fields : List Nat) (hr : runHist h = some o) :
    histPhasesOk h fields h.phases o.phases = true ∧ histCrossOk h o = true := by
  refine ⟨?_, hist_cross hr⟩
  unfold runHist at hr
  by_cases hreg : registerOk h.sh = true
  · simp only [hreg, Bool.not_true, Bool.false_eq_true, if_false, Option.some.injEq] at hr
    subst hr
    exact hist_phases h fields h.phases (histInit h)
  · simp [hreg] at hr

/-- the verdict the driver computes for a history is `ok` on the model's own observation -/
theorem C18_history_spec (h : HInput) (fields : List Nat) : judgeHist h (runHist h) fields = "ok" := by
  cases hrun : runHist h with
  | none =>
    have : registerOk h.sh = false := by
      unfold runHist at hrun
      by_cases hreg : registerOk h.sh = true
      · simp [hreg] at hrun
      · simpa using hreg
    simp [judgeHist, this]
  | some o =>
    have hreg : registerOk h.sh = true := by
      unfold runHist at hrun
      by_cases hreg : registerOk h.sh = true
      · exact hreg
      · simp [hreg] at hrun
    obtain ⟨h1, h2⟩ := C18_history h o fields hrun
    simp [judgeHist, hreg, h1, h2]

/-- a single creation is the one-phase history (so everything above speaks about `run` as well) -/
theorem C18_history_single (inp : Input) (obs : Obs) (h : run inp = some obs) :
    obs = phaseObs inp (initSt inp.sh inp.w) :=
  (run_eq_phase h).2

/-- the whole Spec verdict the driver computes is `ok` on the model's own observation, for every input -/
theorem C18_spec (inp : Input) (fields : List Nat) : judge inp (run inp) fields = "ok" := by
  cases hrun : run inp with
  | none =>
    have := C18_register inp
    rw [hrun] at this
    simp only [judge]
    rw [← this]; simp
  | some obs =>
    have hreg : registerOk inp.sh = true := by
      have := C18_register inp
      rw [hrun] at this
      exact this.symm
    simp only [judge, hreg, Bool.not_true, Bool.false_eq_true, if_false, C18_errors inp obs hrun,
      C18_config_spec inp obs fields hrun]
    have hp : (percallApplies inp && !percallOk inp obs) = false := by
      by_cases hp : percallApplies inp = true
      · simp [C18_percall inp obs hrun hp]
      · simp [hp]
    simp only [hp, C18_struct inp obs hrun, Bool.not_true, Bool.false_eq_true, if_false]
    by_cases hf : freshApplies inp = true
    · by_cases ho : onceApplies inp = true
      · simp [hf, ho, C18_fresh inp obs hrun hf, C18_once inp obs hrun ho]
      · simp [hf, ho, C18_fresh inp obs hrun hf]
    · by_cases ho : onceApplies inp = true
      · simp [hf, ho, C18_once inp obs hrun ho]
      · simp [hf, ho]

/-! ### sessions: several registrations in ONE registry, any interleaving of operations

`Model.C18Sess`: a registry holds any number of registrations (plugin type × name × constructor shape, each with its own
user code and fault plan); a session is ANY list of `Register` / `New` / `NewFactory` / call of ANY factory handed out so
far / `Lookup`.  The Spec (`Spec.C18Sess.judgeSess`) keeps its own book, resolves every creation "by name" itself and
judges every single step by the clauses of the single-creation Spec w.r.t. the registration that was meant and the user
settings of the creation the called factory came from. -/
section
open Pandora.Model.C18Sess Pandora.Spec.C18Sess Pandora.Proofs.C18Sess

/-- **every session satisfies the whole session Spec**: for every list of operations (no bound on the number of
registrations, creations, calls, on their order) and every list of fields:
(1) a registration is accepted iff its name is not empty, nothing is registered under this (plugin type, name) yet and the
default-config function fits the constructor; a creation for a (type, name) nobody registered ends with the error result
of the lookup; a creation for a registered one runs on exactly that registration; `Lookup` never denies a registered
type;
(2) every step — the creation of a factory, every call of every factory at whatever later moment, every `New` — satisfies
the error, configuration (defaults of ITS registration overlaid by the user settings of ITS creation, every listed field),
per-call, once and invocation-structure clauses of the single-creation Spec;
(3) at the very end every product that must own its configuration reads its own serial number through its configuration
pointer, whatever was created or called after it;
(4) the configurations obtained by different `Get`s of one registration are pairwise distinct: no two per-product
configurations, and no configuration captured by a factory constructor and any other, coincide. -/
theorem C18_session (ops : List Op) (fields : List Nat) : judgeSess ops (Pandora.Model.C18Sess.run ops) fields = "ok" := by
  have h1 := opsOk_run fields ops SSt.empty Track.empty rel_empty inv_empty
  have h2 := viewsOk_run ops SSt.empty Track.empty (runFrom SSt.empty ops).1 rel_empty inv_empty (frame_refl _)
  have c1 := (cells_run projFills (fun sst tr op hR hI => (cells_exec hR hI op).1) ops _ _ rel_empty inv_empty).2
  have c2 := (cells_run projConfs (fun sst tr op hR hI => (cells_exec hR hI op).2.1) ops _ _ rel_empty inv_empty).2
  have c3 := (cells_run projProds (fun sst tr op hR hI => (cells_exec hR hI op).2.2) ops _ _ rel_empty inv_empty).2
  simp only [projFills, projConfs, projProds] at c1 c2 c3
  simp [judgeSess, Pandora.Model.C18Sess.run, h1, h2, nodupP, c1, c2, c3]

/-- the operations of a session, one by one (clauses (1) and (2) of `C18_session`) -/
theorem C18_session_steps (ops : List Op) (fields : List Nat) :
    opsOk fields Track.empty ops (Pandora.Model.C18Sess.run ops).outs = "" :=
  opsOk_run fields ops SSt.empty Track.empty rel_empty inv_empty

/-- **creation by name**: after ANY session `pre`, with `book` the Spec's own record of the accepted registrations:
* nothing registered for (t, n): `New` and `NewFactory` end with the lookup error, NO user code runs and nothing in the
  registry changes;
* otherwise there is exactly ONE accepted registration for (t, n) and `New` is the single-registration `regNew` of
  Model/C18 on the current state of that registration — with that registration's constructor shape, defaults and fault
  plan, and this creation's user settings. -/
theorem C18_lookup (pre : List Op) (t : Nat) (n : String) (user : Cfg) (hasFill : Bool) :
    (resolve (trackRun Track.empty pre (runFrom SSt.empty pre).2).regs t n = none →
      exec (runFrom SSt.empty pre).1 (.new t n user hasFill) =
        ((runFrom SSt.empty pre).1, .noEntry ((runFrom SSt.empty pre).1.types.contains t)) ∧
      ∀ e, exec (runFrom SSt.empty pre).1 (.newFactory t n e user hasFill) =
        ((runFrom SSt.empty pre).1, .noEntry ((runFrom SSt.empty pre).1.types.contains t))) ∧
    (∀ i, resolve (trackRun Track.empty pre (runFrom SSt.empty pre).2).regs t n = some i →
      ∃ sl, (runFrom SSt.empty pre).1.slots[i]? = some sl ∧ sl.reg.ptype = t ∧ sl.reg.name = n ∧
        (∀ (j : Nat) (sl' : Slot), (runFrom SSt.empty pre).1.slots[j]? = some sl' → sl'.reg.ptype = t → sl'.reg.name = n → j = i) ∧
        exec (runFrom SSt.empty pre).1 (.new t n user hasFill) =
          (setSt (runFrom SSt.empty pre).1 i sl (step (regNew sl.reg.sh (sl.reg.world user hasFill)) sl.st).1,
           .step i (step (regNew sl.reg.sh (sl.reg.world user hasFill)) sl.st).2)) := by
  obtain ⟨hR, hI⟩ := rel_run pre SSt.empty Track.empty rel_empty inv_empty
  have hU := uniq_run pre SSt.empty Track.empty rel_empty inv_empty uniq_empty
  generalize (runFrom SSt.empty pre).1 = sst at hR hI ⊢
  generalize trackRun Track.empty pre (runFrom SSt.empty pre).2 = book at hR hU ⊢
  refine ⟨fun hres => ?_, fun i hres => ?_⟩
  · have hfind : findSlot sst.slots t n = none := by rw [findSlot_eq, ← hR.regs]; exact hres
    exact ⟨by simp [exec, hfind], fun e => by simp [exec, hfind]⟩
  · obtain ⟨r, hr, h1, h2⟩ := resolve_some hres
    obtain ⟨sl, hsl, hreg⟩ := slot_of_rel hR hr
    have hfind : findSlot sst.slots t n = some i := by rw [findSlot_eq, ← hR.regs]; exact hres
    subst hreg
    refine ⟨sl, hsl, h1, h2, fun j sl' hj g1 g2 => ?_, by simp [exec, hfind, hsl]⟩
    have hj' : book.regs[j]? = some sl'.reg := by rw [hR.regs, List.getElem?_map, hj]; rfl
    exact hU j i sl'.reg sl.reg hj' hr (by rw [g1, h1]) (by rw [g2, h2])

/-- **the session model extends the single-creation model**: a session that registers one constructor and then does what
`Model.C18.run` does — `NewFactory` followed by k calls of the factory, or k calls of `New` — has exactly the steps of
`Model.C18.run` for the corresponding input (so `C18_config`, `C18_errors`, `C18_fresh`, `C18_once`, … speak about
sessions as well, and `C18_session` generalises them to every interleaving and any number of registrations) -/
theorem C18_session_single (r : Reg) (hn : r.name ≠ "") (hreg : registerOk r.sh = true) (user : Cfg) (hasFill : Bool) (k : Nat) :
    (∀ e : Bool, some ((Pandora.Model.C18Sess.run
        (.register r :: .newFactory r.ptype r.name e user hasFill :: List.replicate k (.call 0))).outs.filterMap stepOf) =
      (run { r.input (formOf e) user hasFill with k := k }).map (·.steps)) ∧
    some ((Pandora.Model.C18Sess.run
        (.register r :: List.replicate k (.new r.ptype r.name user hasFill))).outs.filterMap stepOf) =
      (run { r.input .component user hasFill with k := k }).map (·.steps) :=
  ⟨fun e => single_factory r hn hreg e user hasFill k, single_new r hn hreg user hasFill k⟩

/-- **registrations do not interfere**: an operation that the Spec attributes to registration `i` changes the state of
no other registration; an operation that reaches no registration (failed lookup, call of a factory that was never
handed out, `Lookup`) changes nothing at all, and `Register` changes no existing registration and no factory -/
theorem C18_isolation (pre : List Op) (op : Op) :
    (∀ i inp creation, target (trackRun Track.empty pre (runFrom SSt.empty pre).2) op = some (i, inp, creation) →
      ∀ j : Nat, j ≠ i → (exec (runFrom SSt.empty pre).1 op).1.slots[j]? = (runFrom SSt.empty pre).1.slots[j]?) ∧
    (target (trackRun Track.empty pre (runFrom SSt.empty pre).2) op = none →
      (exec (runFrom SSt.empty pre).1 op).1.handles = (runFrom SSt.empty pre).1.handles ∧
      ∀ (j : Nat) (sl : Slot), (runFrom SSt.empty pre).1.slots[j]? = some sl → (exec (runFrom SSt.empty pre).1 op).1.slots[j]? = some sl) := by
  obtain ⟨hR, hI⟩ := rel_run pre SSt.empty Track.empty rel_empty inv_empty
  generalize (runFrom SSt.empty pre).1 = sst at hR hI ⊢
  generalize trackRun Track.empty pre (runFrom SSt.empty pre).2 = book at hR ⊢
  refine ⟨fun i inp creation ht j hj => ?_, fun ht => ?_⟩
  · obtain ⟨sl, st', s, newH, touched, hsl, hsh, hex, _⟩ := exec_slot [] hR hI op i inp creation ht
    rw [hex]
    simp only [slotExec]
    exact List.getElem?_set_ne (fun hh => hj hh.symm)
  · obtain ⟨types', extra, hex, _⟩ := exec_other [] hR hI op ht
    rw [hex]
    refine ⟨rfl, fun j sl hj => ?_⟩
    simp only
    rw [List.getElem?_append_left (lt_of_getElem? hj)]
    exact hj

end

/-! ### the config hooks (core/plugin/pluginconfig): from config data to a creation by name -/
section
open Pandora.Model.C18Hook Pandora.Proofs.C18Hook

/-- **what reaches the registry through the hooks** (repaired `parseConf`): a creation by name happens exactly for
well-formed data — a map with string keys and exactly one key that spells `type` in any letter case, with a string value
— the plugin name is that value and is NEVER empty (so the registry's `expect(name != "")` cannot fire on user data),
and the user's settings are all other entries, in their order, none of them a `type` key; for every other data the hook
ends with the error result (and for a type without any registered plugin it hands the data back untouched) -/
theorem C18_hook (typeKnown : Bool) (dk : DataKind) (nsk : Bool) (data : List KV) :
    (typeKnown = false → hook true typeKnown dk nsk data = .pass) ∧
    (typeKnown = true → ∀ name, WellFormed true dk nsk data name →
      hook true typeKnown dk nsk data = .create name (data.filter fun kv => !isTypeKey kv.key) ∧ name ≠ "") ∧
    (typeKnown = true → (¬ ∃ name, WellFormed true dk nsk data name) → hook true typeKnown dk nsk data = .parseErr) ∧
    (∀ name rest, hook true typeKnown dk nsk data = .create name rest →
      name ≠ "" ∧ WellFormed true dk nsk data name ∧ ∀ kv ∈ rest, isTypeKey kv.key = false) := by
  refine ⟨fun h => by simp [hook, h], fun h name hw => ?_, fun h hn => ?_, fun name rest hc => ?_⟩
  · refine ⟨by simp [hook, h, parseConf_of_wf hw], ?_⟩
    obtain ⟨_, _, _, _, _, _, h5⟩ := hw
    exact h5 rfl
  · simp [hook, h, parseConf_err hn]
  · unfold hook at hc
    cases typeKnown with
    | false => simp at hc
    | true =>
      simp only [Bool.not_true, Bool.false_eq_true, if_false] at hc
      cases hp : parseConf true dk nsk data with
      | err => simp [hp] at hc
      | ok n r =>
        simp only [hp, Out.create.injEq] at hc
        obtain ⟨rfl, rfl⟩ := hc
        obtain ⟨hw, hr⟩ := parseConf_ok hp
        refine ⟨?_, hw, fun kv hkv => ?_⟩
        · obtain ⟨_, _, _, _, _, _, h5⟩ := hw
          exact h5 rfl
        · rw [hr] at hkv
          simpa using (List.mem_filter.mp hkv).2

/-- a Go map has no iteration order: whichever enumeration of the data the model is given, the outcome is the same (the
settings up to their order) -/
theorem C18_hook_order (typeKnown : Bool) (dk : DataKind) (nsk : Bool) (data data' : List KV) (hp : data.Perm data') :
    match hook true typeKnown dk nsk data, hook true typeKnown dk nsk data' with
    | .pass, .pass => True
    | .parseErr, .parseErr => True
    | .create n r, .create n' r' => n = n' ∧ r.Perm r'
    | _, _ => False := by
  cases typeKnown with
  | false => simp [hook]
  | true =>
    by_cases hw : ∃ name, WellFormed true dk nsk data name
    · obtain ⟨name, hw⟩ := hw
      have hw' := wf_perm hp hw
      simp only [hook, Bool.not_true, Bool.false_eq_true, if_false, parseConf_of_wf hw, parseConf_of_wf hw']
      exact ⟨trivial, hp.filter _⟩
    · have hw' : ¬ ∃ name, WellFormed true dk nsk data' name := fun ⟨n, h⟩ => hw ⟨n, wf_perm hp.symm h⟩
      simp [hook, parseConf_err hw, parseConf_err hw']

/-- the tree as found: `type: ""` goes through to the registry, whose `expect(name != "")` panics — the statement that the
name handed to the registry is never empty is FALSE without the repair -/
def C18_hook_unrepaired_statement : Prop :=
  ∀ (typeKnown : Bool) (dk : DataKind) (nsk : Bool) (data : List KV) (name : String) (rest : List KV),
    hook false typeKnown dk nsk data = .create name rest → name ≠ ""

theorem C18_hook_unrepaired_counterexample : ¬ C18_hook_unrepaired_statement := by
  intro h
  exact h true .strMap false [⟨['t', 'y', 'p', 'e'], true, ""⟩] "" [] (by decide) rfl

/-- what holds of the tree as found as well: everything but the emptiness of the name -/
theorem C18_hook_partial (typeKnown : Bool) (dk : DataKind) (nsk : Bool) (data : List KV) (name : String) (rest : List KV)
    (h : hook false typeKnown dk nsk data = .create name rest) :
    WellFormed false dk nsk data name ∧ rest = data.filter (fun kv => !isTypeKey kv.key) := by
  unfold hook at h
  cases typeKnown with
  | false => simp at h
  | true =>
    simp only [Bool.not_true, Bool.false_eq_true, if_false] at h
    cases hp : parseConf false dk nsk data with
    | err => simp [hp] at h
    | ok n r =>
      simp only [hp, Out.create.injEq] at h
      obtain ⟨rfl, rfl⟩ := h
      exact parseConf_ok hp

/-- non-vacuity: `Type: x` with settings, in a `map[interface{}]interface{}` -/
example : hook true true .anyMap false [⟨['a'], false, "5"⟩, ⟨['T', 'y', 'p', 'e'], true, "x"⟩, ⟨['b'], false, "7"⟩] =
    .create "x" [⟨['a'], false, "5"⟩, ⟨['b'], false, "7"⟩] := by decide
/-- two spellings of the key / a number as name / no key / an empty name / a non-string key: the error result -/
example : hook true true .strMap false [⟨['t', 'y', 'p', 'e'], true, "x"⟩, ⟨['T', 'Y', 'P', 'E'], true, "x"⟩] = .parseErr ∧
    hook true true .strMap false [⟨['t', 'y', 'p', 'e'], false, "5"⟩] = .parseErr ∧
    hook true true .strMap false [⟨['t', 'y', 'p'], true, "x"⟩] = .parseErr ∧
    hook true true .strMap false [⟨['t', 'y', 'p', 'e'], true, ""⟩] = .parseErr ∧
    hook true true .anyMap true [⟨['t', 'y', 'p', 'e'], true, "x"⟩] = .parseErr ∧
    hook true false .other false [] = .pass := by decide
end

/-! ### validation of the decoded configuration: config errors reach the caller also when the user sets nothing -/

/-- **validation, one creation started in any state** (so: every creation of a history, with its own settings): when the
fillConf is the validating decoder (`validating r inp`: always given — the hooks always pass one —, decodes the user's
settings over the configuration and fails exactly when the result breaks the rule of the config type),
  * no component is ever built from a configuration that breaks the rule,
  * if the defaults overlaid by the user's settings satisfy the rule, no operation ends with fillConf's error,
  * if they break it — whatever the user's settings are, EMPTY settings included — every operation that needs the
    configuration (every `New`, every call of a factory made from a component constructor, the `NewFactory` of a factory
    constructor) ends with fillConf's error and nothing at all is built.
Every shape, form, default-config variant that does not share one pointer, any constructor / factory fault plan, any k. -/
theorem C18_validate_phase (r : Rule) (hr : r.field ≠ markField) (inp : Input) (st : St) (hs : inp.sh.dflt ≠ .shared) :
    validProductsOk r inp (phaseObs (validating r inp) st) = true ∧
    validAcceptedOk r inp (phaseObs (validating r inp) st) = true ∧
    invalidRefusedOk r inp (phaseObs (validating r inp) st) = true :=
  validate_phase r hr inp st fun h => absurd h hs

/-- **validation, a run** (registration, creation, k calls) — also for a default-config function that hands out one
shared pointer -/
theorem C18_validate (r : Rule) (hr : r.field ≠ markField) (inp : Input) (obs : Obs)
    (h : run (validating r inp) = some obs) :
    validProductsOk r inp obs = true ∧ validAcceptedOk r inp obs = true ∧ invalidRefusedOk r inp obs = true := by
  obtain ⟨_, rfl⟩ := run_eq_phase h
  exact validate_phase r hr inp _ (initSt_shared _ _)

/-- the user's settings do not matter for the REFUSAL of an invalid default: with empty settings (a plugin config that
is nothing but `type: name`) the decision is the rule on the registered defaults resp. the zero configuration -/
theorem C18_validate_typeonly (r : Rule) (inp : Input) (hu : inp.w.user = []) :
    ruleHolds r inp = (inp.sh.cfg == .none || r.ok (defaults inp.sh inp.w)) := by
  simp [ruleHolds, expected, withFill, hu, defaults]

/-! ### nested plugins: a plugin whose configuration contains another plugin -/
section
open Pandora.Model.C18Nest

/-- **nested creation**: the decoder creates the nested component while it fills the outer configuration (`Model.C18Nest`:
the outer fillConf fails when its own plan says so or the nested creation it triggered failed; the nested registration
runs `New` once per outer fillConf invocation).  For every pair of shapes, forms, worlds and fault plans:
  * the outer creation satisfies the whole single-creation Spec (errors as the error result / panic rule, configuration =
    defaults overlaid by ITS settings, fresh / once / per-call structure, invocation structure),
  * so does the nested registration, with ITS defaults and ITS settings: one nested creation per fillConf invocation of the
    outer creation — exactly as many as the outer creation invokes fillConf, which is at most k + 1,
  * and the composition is consistent: the nested creations that decide the outer fillConf's failures are the nested
    creations that happen (the i-th outer fillConf fails by the nested plugin's doing iff the i-th nested creation failed). -/
theorem C18_nested (outer0 inner0 : Input) (m : NestObs) (fields : List Nat) (h : nestRun outer0 inner0 = some m) :
    judge (nestOuter outer0 inner0) (some m.outer) fields = "ok" ∧
    judge (nestInner inner0 (fillCount m.outer.steps)) (some m.inner) fields = "ok" ∧
    m.inner.steps.length = fillCount m.outer.steps ∧
    fillCount m.outer.steps ≤ outer0.k + 1 ∧
    ∀ i s, m.inner.steps[i]? = some s → innerFails inner0 (bound outer0) i = !stepOk s := by
  unfold nestRun at h
  cases ho : run (nestOuter outer0 inner0) with
  | none => simp [ho] at h
  | some oo =>
    cases hi : run (nestInner inner0 (fillCount oo.steps)) with
    | none => simp [ho, hi] at h
    | some io =>
      simp only [ho, hi, Option.some.injEq] at h
      subst h
      have hcount : fillCount oo.steps ≤ outer0.k + 1 := by
        have hs := C18_struct _ _ ho
        have he := C18_errors _ _ ho
        have h1 := sum_le_length (fun s : Step => s.evs.countP isFillEv) oo.steps (struct_fill_le_one _ _ hs)
        have h2 := errors_length _ _ he
        simp only [nestOuter] at h2
        exact Nat.le_trans h1 h2
      have hlen : io.steps.length = fillCount oo.steps := by
        have he := C18_errors _ _ hi
        simp only [errorsOk, nestInner, Bool.and_eq_true, beq_iff_eq] at he
        exact he.1
      refine ⟨?_, ?_, hlen, hcount, ?_⟩
      · have := C18_spec (nestOuter outer0 inner0) fields
        rwa [ho] at this
      · have := C18_spec (nestInner inner0 (fillCount oo.steps)) fields
        rwa [hi] at this
      · intro i s his
        replace his : io.steps[i]? = some s := his
        have hpre := innerSteps_prefix inner0 (fillCount oo.steps) (bound outer0) (by simp only [bound]; omega) io hi
        have hlt : i < fillCount oo.steps := by
          have := (List.getElem?_eq_some_iff.mp his).1
          omega
        have : (innerSteps inner0 (bound outer0))[i]? = some s := by
          rw [hpre, List.getElem?_take] at his
          simpa [hlt] using his
        simp [innerFails, this]
end

/-! ### structured options: the config decoder overlays defaults with settings for EVERY kind of option -/

section Over
open Pandora.Model.C18Over

/-- **"configured with the registered defaults overlaid by the user's settings"**, for a configuration with scalar, MAP,
LIST, ARRAY and POINTER-to-struct options and settings that may give any option as an explicit NULL: whatever the
registered defaults `d` and the user's settings `u` are, every field `f` (unbounded: every map key, every list index) of
what the decoder of core/config makes of them — `decode` with the ZeroFields flag REGENERATED from `newDecoderConfig` —
is the user's value where the settings name the field (`semSet`) and the default's value otherwise. -/
theorem C18_overlay (d : OCfg) (u : OSet) (f : Nat) :
    sem (decode Pandora.Gen.Plugin.decoderZeroFields d u) f = overlaid d u f := by
  rw [Pandora.Bridge.Plugin.decoder_flags.1]; exact Pandora.Proofs.C18Over.overlay d u f

/-- the driver's flattening is sound: the finite `Cfg`s an `ext=1` case hands to `Model.C18.run` (settings `flatSet`,
defaults `flat`) make the model's "user settings laid over the defaults" (`Spec.C18.expected` is `user ++ defaults`)
equal to the decoded configuration on every listed field — so `C18_config` & co. speak about structured options too -/
theorem C18_overlay_flat (fs : List Nat) (d : OCfg) (u : OSet) (f : Nat) (hf : f ∈ fs) :
    Cfg.get (flatSet fs u ++ flat fs d) f = sem (decode false d u) f :=
  Pandora.Proofs.C18Over.flat_overlay fs d u f hf

/-- what a decoder with ZeroFields = true would have to satisfy -/
def C18_overlay_zerofields_statement : Prop :=
  ∀ (d : OCfg) (u : OSet) (f : Nat), sem (decode true d u) f = overlaid d u f

/-- … and does not: an option given as an explicit null loses its registered default (field 2), a map option of which
the user sets one key loses the default's other keys (field 20 = key k0) -/
theorem C18_overlay_zerofields_counterexample : ¬ C18_overlay_zerofields_statement := by
  intro h
  have := h { OCfg.zero with b := 52 } { OSet.none with b := .null } 2
  revert this; decide

theorem C18_overlay_zerofields_counterexample_map :
    sem (decode true { OCfg.zero with m := some [(0, 7)] } { OSet.none with m := .val [(1, 9)] }) 20 ≠
      overlaid { OCfg.zero with m := some [(0, 7)] } { OSet.none with m := .val [(1, 9)] } 20 := by decide

/-- settings that a ZeroFields decoder treats alike: scalars given or absent, no structured option named -/
def scalarOnly (u : OSet) : Prop :=
  u.a ≠ .null ∧ u.b ≠ .null ∧ u.c ≠ .null ∧ u.m = .absent ∧ u.l = .absent ∧ u.r = .absent ∧ u.p = .absent

/-- what remains true of a ZeroFields decoder: on scalar-only settings the flag makes no difference -/
theorem C18_overlay_zerofields_partial (d : OCfg) (u : OSet) (f : Nat) (hu : scalarOnly u) :
    sem (decode true d u) f = overlaid d u f := by
  obtain ⟨ha, hb, hc, hm, hl, hr, hp⟩ := hu
  rw [← Pandora.Proofs.C18Over.overlay d u f]
  have hs : ∀ (x : Int) (o : Opt Int), o ≠ .null → decScalar true x o = decScalar false x o := by
    intro x o ho; cases o <;> simp_all [decScalar]
  simp only [decode, hm, hl, hr, hp, hs _ _ ha, hs _ _ hb, hs _ _ hc, decMap, decList, decArrAt, decPtr]

end Over

/-! ### where an error result can come from; the requested forms; the glue around the core, semantically -/

/-- **error source**: an error result — and a panic carrying an error — of ANY operation (every `New`, `NewFactory`, every
call of a factory of either form) is the error of an invocation of user code that the fault plan makes fail AND that has
an error result at all (`planned`: a given fillConf; the registered constructor if it has an error result; the registered
factory if it has one) — and nothing else.  For every shape, form, world, k.  (`C18_errors` is the converse direction: a
failing invocation ends the operation with its error.) -/
theorem C18_error_source (inp : Input) (obs : Obs) (h : run inp = some obs) :
    ∀ s ∈ obs.steps, ∀ e, (s.res = .err e ∨ s.res = .panic e) → planned inp.sh inp.w e = true := by
  obtain ⟨_, rfl⟩ := run_eq_phase h
  exact src_phase inp _

/-- … for a creation started in ANY state (so: every creation of a history) -/
theorem C18_error_source_phase (inp : Input) (st : St) :
    ∀ s ∈ (phaseObs inp st).steps, ∀ e, (s.res = .err e ∨ s.res = .panic e) → planned inp.sh inp.w e = true :=
  src_phase inp st

/-- **no error result, no error**: when neither the registered constructor nor the factory it returns has an error result
and fillConf (if given) does not fail, EVERY operation succeeds — whatever the component is (its implementation type may
itself implement `error`: the registry must not mistake a constructor's only result for an error) -/
theorem C18_no_error_result (inp : Input) (obs : Obs) (h : run inp = some obs)
    (hc : inp.sh.ctorErr = false) (hf : inp.sh.factErr = false)
    (hfill : inp.w.hasFill = false ∨ ∀ i, inp.w.fillFault i = false) :
    ∀ s ∈ obs.steps, s.res = .made ∨ ∃ p, s.res = .ok p := by
  intro s hs
  have hsrc := C18_error_source inp obs h s hs
  have hno : ∀ e, planned inp.sh inp.w e = false := by
    intro e
    cases e with
    | fill i => rcases hfill with h1 | h1 <;> simp [planned, h1]
    | ctor i => simp [planned, hc]
    | fact i => simp [planned, hf]
  cases hres : s.res with
  | made => exact .inl rfl
  | ok p => exact .inr ⟨p, rfl⟩
  | err e => have := hsrc e (.inl hres); rw [hno e] at this; exact absurd this (by simp)
  | panic e => have := hsrc e (.inr hres); rw [hno e] at this; exact absurd this (by simp)

open Pandora.Model.C18Ty Pandora.Model.C18Reg in
/-- **requested forms, as Go types**: for EVERY Go type `t` and name, the expectations `NewFactory` checks before anything
else (regenerated from the source) hold iff `t` is `func() (X [, error])` with `X` an interface type and the name is not
empty — so also what `LookupFactory` / `FactoryPluginType` / the config hook `FactoryHook` take as a factory type; those of
`New` hold iff `t` is an interface type and the name is not empty; the two factory forms of the model are such types, with
the model's number of results, asking for the plugin interface -/
theorem C18_requested_forms (t : Ty) (name : String) :
    (Pandora.Gen.Plugin.newFactoryExpects t name).all id = (requestedOk t && name != "") ∧
    (Pandora.Gen.Plugin.newExpects t name).all id = (t.kind == .iface && name != "") ∧
    Pandora.Gen.Plugin.isFactoryType t = requestedOk t ∧
    requestedOk (formTy 1) = true ∧ requestedOk (formTy 2) = true ∧
    (formTy 1).numOut = Form.facNoErr.numOut ∧ (formTy 2).numOut = Form.facErr.numOut :=
  ⟨Pandora.Proofs.C18R6.newFactoryExpects_eq t name, Pandora.Proofs.C18R6.newExpects_eq t name,
   Pandora.Proofs.C18R6.isFactoryType_eq t, Pandora.Proofs.C18R6.forms_requested.1,
   Pandora.Proofs.C18R6.forms_requested.2.1, Pandora.Proofs.C18R6.forms_requested.2.2.1,
   Pandora.Proofs.C18R6.forms_requested.2.2.2.1⟩

open Pandora.Model.C18Ty Pandora.Model.C18Reg Pandora.Model.C18Hook Pandora.Proofs.C18Hook in
/-- **composition: a factory-typed config field through `FactoryHook`**.  `FactoryHook` first asks
`LookupFactory(t)` = `isFactoryType(t) && Lookup(t.Out(0))` (regenerated: `lookupFactory_steps`, `hook_steps`); composing the
regenerated `isFactoryType` with the hook model: for EVERY Go type `t` of the field and every set `registered` of plugin
types that own a name table — a field whose type is not `func() (Interface [, error])`, or whose interface has no
registered plugin, gets its data back untouched (no user code, no error); otherwise well-formed data reach `NewFactory`
with the parsed non-empty name and the settings without the `type` key, and ill-formed data end with the error result -/
theorem C18_factory_hook (registered : Ty → Bool) (t : Ty) (dk : DataKind) (nsk : Bool) (data : List KV) :
    ((requestedOk t = false ∨ registered (requestedPlugin t) = false) →
      hook true (Pandora.Gen.Plugin.isFactoryType t && registered (requestedPlugin t)) dk nsk data = .pass) ∧
    (requestedOk t = true → registered (requestedPlugin t) = true →
      (∀ name, WellFormed true dk nsk data name →
        hook true (Pandora.Gen.Plugin.isFactoryType t && registered (requestedPlugin t)) dk nsk data =
          .create name (data.filter fun kv => !isTypeKey kv.key) ∧ name ≠ "") ∧
      ((¬ ∃ name, WellFormed true dk nsk data name) →
        hook true (Pandora.Gen.Plugin.isFactoryType t && registered (requestedPlugin t)) dk nsk data = .parseErr)) := by
  rw [Pandora.Proofs.C18R6.isFactoryType_eq]
  refine ⟨fun h => ?_, fun h1 h2 => ?_⟩
  · have : (requestedOk t && registered (requestedPlugin t)) = false := by
      rcases h with h | h <;> simp [h]
    rw [this]
    exact (C18_hook false dk nsk data).1 rfl
  · rw [h1, h2]
    exact ⟨(C18_hook true dk nsk data).2.1 rfl, (C18_hook true dk nsk data).2.2.1 rfl⟩

open Pandora.Model.C18Over in
/-- **composition with the config decoder as C17 reads it** (`Gen/Config.lean`, the regenerated definitions of property C17,
imported read-only; area `config` is regenerated by `./check C18` as well): the chain config file → decoder → plugin hooks →
registry.  (1) `coreimport.Import` installs `pluginconfig.AddHooks()`, which adds exactly `Hook` and `FactoryHook`, and they
end in `plugin.New` / `plugin.NewFactory` with the parsed name and fillConf (C17's reading) — the hooks `C18_hook` /
`C18_factory_hook` speak about; (2) the fillConf they pass is `config.DecodeAndValidate` = Decode, then Validate (C17's
reading of the closure and of the function) — the world of `C18_validate`; (3) with the decoder flags AS C17 REGENERATES
THEM every field of the decoded configuration is the user's value where the settings name it and the registered default
otherwise (`C18_overlay` over C17's `zeroFields`), unknown keys are errors, no weak typing; and the two independent
readings of the flags (C17's and C18's) agree. -/
theorem C18_config_composition (d : OCfg) (u : OSet) (f : Nat) :
    "pluginconfig.AddHooks()" ∈ Pandora.Gen.Config.importHooks ∧
    Pandora.Gen.Config.pluginHooks = ["Hook", "FactoryHook"] ∧
    Pandora.Gen.Config.pluginHookCalls =
      ["Hook: plugin.New(t, name, fillConf)", "FactoryHook: plugin.NewFactory(t, name, fillConf)"] ∧
    "x13 := config.DecodeAndValidate(x6, x12)" ∈ Pandora.Gen.Config.fillConfStmts ∧
    Pandora.Gen.Config.fillConfReturns = ["return x13"] ∧
    Pandora.Gen.Config.decodeAndValidateStmts = ["x2 := Decode(x0, x1)", "if x2 != nil {", "return x2", "}", "return Validate(x1)"] ∧
    sem (decode Pandora.Gen.Config.zeroFields d u) f = overlaid d u f ∧
    Pandora.Gen.Config.errorUnused = true ∧ Pandora.Gen.Config.weaklyTypedInput = false ∧
    Pandora.Gen.Config.zeroFields = Pandora.Gen.Plugin.decoderZeroFields ∧
    Pandora.Gen.Config.errorUnused = Pandora.Gen.Plugin.decoderErrorUnused ∧
    Pandora.Gen.Config.weaklyTypedInput = Pandora.Gen.Plugin.decoderWeaklyTyped := by
  -- the two membership claims are searched for, everything else is the regenerated constant itself
  exact ⟨by decide, rfl, rfl, by decide, rfl, rfl, Pandora.Proofs.C18Over.overlay d u f, rfl, rfl, rfl, rfl, rfl⟩

/-- **the result conversion of the source IS the model's** (semantic tie): the decision table obtained by evaluating
`convertFactoryOutParams` for every requested arity, callee arity and nil / non-nil error equals `convertOut`: an ok result
stays, a nil error is appended or dropped, a non-nil error is the error result when the requested form has one and a panic
carrying it when not; and a config error inside the closure of a component-constructor factory becomes a panic carrying
it for `func() Plugin`, the error result for `func() (Plugin, error)` — never a call of the constructor -/
theorem C18_convert (numOut outLen : Nat) (p : Product) (e : Err) :
    convertOut numOut outLen (.ok p) = .ok p ∧
    convertOut numOut outLen (.error e) = (if numOut < outLen then .panic e else .err e) ∧
    (∀ n ∈ [1, 2], ∀ l ∈ [1, 2], ∀ errNil ∈ [true, false], (l = 1 → errNil = true) →
      Pandora.Proofs.C18R6.convOutcome n l errNil = Pandora.Proofs.C18R6.modelOutcome n l errNil) ∧
    Pandora.Gen.Plugin.confErrTable = [(1, "panic:err"), (2, "ret:zero,err"), (3, "panic:other")] :=
  ⟨(Pandora.Proofs.C18R6.convertOut_spec numOut outLen p e).1, (Pandora.Proofs.C18R6.convertOut_spec numOut outLen p e).2,
   Pandora.Proofs.C18R6.convert_sem.1, Pandora.Proofs.C18R6.confErr_sem⟩

/-! ### non-vacuity: concrete inputs that meet the hypotheses and exercise every branch of the statements -/

/-- defaults 5/6/7 on fields 1..3, the user sets field 2 to 9 -/
def exWorld (fillFault ctorFault factFault : Nat → Bool) : World :=
  { dflt := [(1, 5), (2, 6), (3, 7)], user := [(2, 9)], hasFill := true, fillFault, ctorFault, factFault }

def noFault : Nat → Bool := fun _ => false

/-- `func(*Conf) (*comp, error)` + `func() *Conf`, requested as `func() Plugin`, called 3 times -/
def exFresh : Input :=
  { sh := { factory := false, cfg := .ptr, ctorErr := true, factErr := false, iface := false, dflt := .fresh },
    form := .facNoErr, w := exWorld noFault noFault noFault, k := 3 }

example : (run exFresh).isSome = true ∧ freshApplies exFresh = true ∧ exFresh.sh.factory = false := by decide
/-- three products, three distinct configurations 0,1,2, each seeing 5/9/7 -/
example : (run exFresh).map (fun o => (products o.steps).map fun p => (p.cell, p.seen.get 1, p.seen.get 2, p.seen.get 3)) =
    some [(some 0, 5, 9, 7), (some 1, 5, 9, 7), (some 2, 5, 9, 7)] := by decide
example : (run exFresh).map (fun o => total isFill (callsOf exFresh o)) = some 3 := by decide

/-- `func(*Conf) (func() (Plugin, error), error)` + default config, requested as `func() (Plugin, error)`, 3 calls -/
def exOnce : Input :=
  { sh := { factory := true, cfg := .ptr, ctorErr := true, factErr := true, iface := true, dflt := .fresh },
    form := .facErr, w := exWorld noFault noFault noFault, k := 3 }

example : (run exOnce).isSome = true ∧ onceApplies exOnce = true := by decide
example : (run exOnce).map (fun o => o.steps.map fun s => (s.evs.countP isFill, s.evs.countP isCtor, s.evs.countP isFact)) =
    some [(1, 1, 0), (0, 0, 1), (0, 0, 1), (0, 0, 1)] := by decide
/-- the three products of a factory constructor given a `*Conf` DO share that one configuration (that is the
registered factory's business): the last writer's serial number is what all of them read -/
example : (run exOnce).map (·.views) = some [(0, 2), (1, 2), (2, 2)] := by decide

/-- the second constructor call fails: a panic carrying `ctor 1` for `func() Plugin`, the error result for
`func() (Plugin, error)`; the calls before and after succeed -/
def exErr (form : Form) : Input :=
  { exFresh with form := form, w := exWorld noFault (fun i => i == 1) noFault }

example : (run (exErr .facNoErr)).map (fun o => o.steps.map fun s => match s.res with
      | .made => "made" | .ok _ => "ok" | .err _ => "err" | .panic _ => "panic") =
    some ["made", "ok", "panic", "ok"] := by decide
example : (run (exErr .facErr)).map (fun o => o.steps.map (·.res) |>.filter (fun r => r == .err (.ctor 1))) =
    some [.err (.ctor 1)] := by decide
/-- a fillConf error at creation of a factory from a factory constructor is `NewFactory`'s error result -/
example : (run { exOnce with w := exWorld (fun _ => true) noFault noFault }).map (fun o => o.steps.map (·.res)) =
    some [.err (.fill 0)] := by decide

/-- why `freshApplies` excludes a default-config function returning one shared pointer: there the products of a
component-constructor factory all hold that pointer (identity 0) -/
example : (run { exFresh with sh := { exFresh.sh with dflt := .shared } }).map
    (fun o => (products o.steps).map (·.cell)) = some [some 0, some 0, some 0] := by decide

/-- `C18_percall` is not vacuous for the shared default configuration: the hypotheses hold and every one of the
three calls shows default-config, fillConf and constructor on identity 0 -/
example : (run { exFresh with sh := { exFresh.sh with dflt := .shared } }).isSome = true ∧
    percallApplies { exFresh with sh := { exFresh.sh with dflt := .shared } } = true ∧
    freshApplies { exFresh with sh := { exFresh.sh with dflt := .shared } } = false := by decide
example : (run { exFresh with sh := { exFresh.sh with dflt := .shared } }).map
    (fun o => (callsOf exFresh o).map fun s => (s.evs.map kindOf, fillAddr? s, ctorConf? s)) =
    some [([K.d, K.f, K.c], some 0, some 0), ([K.d, K.f, K.c], some 0, some 0), ([K.d, K.f, K.c], some 0, some 0)] := by
  decide

/-- `func() (Plugin, error)` without config requested as `func() Plugin` (wrapped) and as `func() (Plugin, error)`
(handed out as is): fillConf once on the empty struct at creation, then one constructor invocation per call -/
def exPlain (form : Form) : Input :=
  { sh := { factory := false, cfg := .none, ctorErr := true, factErr := false, iface := true, dflt := .absent },
    form := form, w := exWorld noFault noFault noFault, k := 3 }

example : (run (exPlain .facNoErr)).map (fun o => o.steps.map fun s => s.evs.map kindOf) =
    some [[K.f], [K.c], [K.c], [K.c]] := by decide
example : (run (exPlain .facErr)).map (fun o => o.steps.map fun s => s.evs.map kindOf) =
    some [[K.f], [K.c], [K.c], [K.c]] := by decide
/-- a factory constructor through `New`: configuration, constructor and the factory it returns once per `New` -/
example : (run { exOnce with form := .component }).map (fun o => o.steps.map fun s => s.evs.map kindOf) =
    some [[K.d, K.f, K.c, K.r], [K.d, K.f, K.c, K.r], [K.d, K.f, K.c, K.r]] := by decide

/-! histories: two factories and a `New` on one registration, with different user settings -/
def exHist : HInput :=
  { sh := exFresh.sh, dflt := [(1, 5), (2, 6), (3, 7)], fillFault := noFault, ctorFault := noFault, factFault := noFault,
    phases := [⟨.facNoErr, [(2, 9)], true, 2⟩, ⟨.facErr, [(1, 4)], true, 2⟩, ⟨.component, [], false, 1⟩] }

/-- each creation's products see the defaults overlaid by THAT creation's settings, on five distinct configurations,
and at the very end all five read their own serial number -/
example : (runHist exHist).map (fun o => o.phases.map fun ob => (products ob.steps).map fun p =>
      (p.cell, p.seen.get 1, p.seen.get 2, p.seen.get 3)) =
    some [[(some 0, 5, 9, 7), (some 1, 5, 9, 7)], [(some 2, 4, 6, 7), (some 3, 4, 6, 7)], [(some 4, 5, 6, 7)]] := by decide
example : (runHist exHist).map (·.views) = some [(0, 0), (1, 1), (2, 2), (3, 3), (4, 4)] := by decide
example : (runHist exHist).map (fun o => freshCellsH exHist exHist.phases o.phases) = some [0, 1, 2, 3, 4] := by decide

/-! sessions: two registrations with the SAME name under different plugin types, a refused duplicate, interleaved calls
of three factories, creations for a name / a type nobody registered -/
section
open Pandora.Model.C18Sess Pandora.Spec.C18Sess

def exSess : List Op :=
  [ .register ⟨0, "x", exFresh.sh, [(1, 5), (2, 6), (3, 7)], noFault, noFault, noFault⟩,
    .register ⟨1, "x", exOnce.sh, [(1, 1)], noFault, noFault, noFault⟩,
    .register ⟨0, "x", exOnce.sh, [], noFault, noFault, noFault⟩,            -- duplicate (type 0, "x"): refused
    .newFactory 0 "x" true [(2, 9)] true,                                      -- factory 0: component constructor
    .newFactory 1 "x" false [(3, 8)] true,                                     -- factory 1: factory constructor
    .call 0, .call 1,
    .newFactory 0 "x" false [] false,                                          -- factory 2, other settings
    .call 0, .call 2, .call 1,                                                 -- factory 0 again AFTER the later creation
    .new 0 "y" [] true, .new 2 "x" [] false,                                   -- unknown name / unknown type
    .lookup 2, .lookup 1 ]

/-- which registration served which operation, and what every product saw: the products of factory 0 see 5/9/7 before
and after factory 2 (5/6/7) was created and used; factory 1 belongs to the other plugin type (defaults 1/0/0, user 8) -/
example : (Pandora.Model.C18Sess.run exSess).outs.map (fun o => match o with
      | .accepted => (0, 0, none, 0, 0, 0) | .refused => (1, 0, none, 0, 0, 0) | .noEntry _ => (2, 0, none, 0, 0, 0)
      | .noHandle => (3, 0, none, 0, 0, 0) | .found b => (if b then 4 else 5, 0, none, 0, 0, 0)
      | .step i s => match s.res with
        | .ok p => (7, i, p.cell, p.seen.get 1, p.seen.get 2, p.seen.get 3)
        | .made => (6, i, none, 0, 0, 0) | _ => (8, i, none, 0, 0, 0)) =
    ([(0, 0, none, 0, 0, 0), (0, 0, none, 0, 0, 0), (1, 0, none, 0, 0, 0), (6, 0, none, 0, 0, 0), (6, 1, none, 0, 0, 0),
      (7, 0, some 0, 5, 9, 7), (7, 1, some 0, 1, 0, 8), (6, 0, none, 0, 0, 0), (7, 0, some 1, 5, 9, 7),
      (7, 0, some 2, 5, 6, 7), (7, 1, some 0, 1, 0, 8), (2, 0, none, 0, 0, 0), (2, 0, none, 0, 0, 0),
      (5, 0, none, 0, 0, 0), (4, 0, none, 0, 0, 0)] : List (Nat × Nat × Option Nat × Int × Int × Int)) := by decide
/-- at the very end the three per-product configurations of registration 0 still hold their own serial numbers (the two
products of the factory constructor of registration 1 share its one configuration: both read the last serial, 1) -/
example : (Pandora.Model.C18Sess.run exSess).views =
    [none, none, none, none, none, some 0, some 1, none, some 1, some 2, some 1, none, none, none, none] := by decide
example : (collect Track.empty exSess (Pandora.Model.C18Sess.run exSess).outs).prods = [(0, 0), (0, 1), (0, 2)] ∧
    (collect Track.empty exSess (Pandora.Model.C18Sess.run exSess).outs).confs = [(1, 0), (0, 0), (0, 1), (0, 2)] := by decide
/-- the lookup clause is not vacuous: after the three registrations (type 0, "y") resolves to nothing, (type 1, "x") to
registration 1 -/
example : resolve (trackRun Track.empty (exSess.take 3) (runFrom SSt.empty (exSess.take 3)).2).regs 0 "y" = none ∧
    resolve (trackRun Track.empty (exSess.take 3) (runFrom SSt.empty (exSess.take 3)).2).regs 1 "x" = some 1 := by decide
/-- a refused registration leaves its (empty) name table behind: `Lookup` answers true for that plugin type although
nothing can be created for it (the quirk the model keeps) -/
example : (Pandora.Model.C18Sess.run
      [.register ⟨2, "x", { exFresh.sh with cfg := .none }, [], noFault, noFault, noFault⟩, .lookup 2, .new 2 "x" [] false]).outs =
    [.refused, .found true, .noEntry true] := by decide
end

/-! registration types: a supported and three unsupported constructor types -/
section
open Pandora.Model.C18Ty Pandora.Model.C18Reg Pandora.Bridge.Plugin
/-- `func(*Conf) (func() (Plugin, error), error)` with `func() *Conf` -/
example : accepts plugT (.func (.cons pconfT .nil) (.cons (formTy 2) (.cons Ty.error .nil))) (some (Ty.funcOf0 pconfT)) = true := by
  decide
/-- two arguments / a config that is neither a struct nor a pointer to one / a product that does not implement the
plugin interface / `func() Conf` for a `*Conf` constructor -/
example : accepts plugT (.func (.cons confT (.cons confT .nil)) (.cons implT .nil)) none = false ∧
    accepts plugT (.func (.cons (.ptr pconfT []) .nil) (.cons implT .nil)) none = false ∧
    accepts plugT (.func .nil (.cons pconfT .nil)) none = false ∧
    accepts plugT (.func (.cons pconfT .nil) (.cons implT .nil)) (some (Ty.funcOf0 confT)) = false := by decide
end

/-! the engine: 3 instances = 4 gun factory calls -/
section
open Pandora.Model.C18Engine
/-- `func(*Conf) (*comp, error)` registered as gun, no faults: 4 guns on 4 distinct configs, each 5/9/7, all read their
own serial at the end, the warm-up gun is bound to no instance; a shared rps schedule is built once -/
example : engineRun exFresh 3 false =
    some { res := "ok", guns := 4, cells := 4, dflts := 4, ctors := 4, facts := 0, seen := [(5, 9, 7)], own := 4,
           binds := [0, 1, 1, 1], sched := 1 } := by decide
/-- the first instance's gun constructor fails: `Run` returns that error after 2 factory calls -/
example : (engineRun (exErr .facErr) 3 true).map (fun e => (e.res, e.guns, e.ctors, e.sched)) =
    some ("err.ctor1", 1, 2, 1) := by decide
/-- a factory constructor registered as gun: configured once, its products share that configuration (`cells = 1`) -/
example : (engineRun exOnce 2 true).map (fun e => (e.res, e.guns, e.cells, e.own)) = some ("ok", 3, 1, 1) ∧
    (engineRun exOnce 2 true).map (fun e => (e.ctors, e.facts, e.sched)) = some (1, 3, 2) := by decide
end

/-! ### validation: non-vacuity -/
section
/-- the rule `C ≥ 10` of the config type; `exFresh` has C = 7 by default and the user sets only B: invalid -/
def exRule : Rule := ⟨3, 10⟩
example : ruleHolds exRule exFresh = false ∧ (run (validating exRule exFresh)).map (fun o => o.steps.map (·.res)) =
    some [.made, .panic (.fill 0), .panic (.fill 1), .panic (.fill 2)] := by decide
/-- nothing but `type: x` (no settings at all), zero configuration (no default-config function): refused -/
example : (run (validating ⟨3, 1⟩ { exFresh with sh := { exFresh.sh with dflt := .absent },
                                                  w := { exFresh.w with user := [] }, form := .component })).map
      (fun o => o.steps.map (·.res)) = some [.err (.fill 0), .err (.fill 1), .err (.fill 2)] := by decide
/-- the user's settings repair the invalid default (C := 12): accepted, every product sees C = 12 -/
example : ruleHolds exRule { exFresh with w := { exFresh.w with user := [(3, 12)] } } = true ∧
    (run (validating exRule { exFresh with w := { exFresh.w with user := [(3, 12)] } })).map
      (fun o => (products o.steps).map fun p => p.seen.get 3) = some [12, 12, 12] := by decide
/-- a factory constructor with an invalid configuration: `NewFactory` itself ends with the config error -/
example : (run (validating exRule exOnce)).map (fun o => o.steps.map (·.res)) = some [.err (.fill 0)] := by decide
/-- a constructor without config has nothing to validate -/
example : ruleHolds ⟨3, 99⟩ { exFresh with sh := { exFresh.sh with cfg := .none, dflt := .absent } } = true := by decide
end

/-! ### nested plugins: non-vacuity -/
section
open Pandora.Model.C18Nest
/-- the nested registration: `func(*Conf) (*comp, error)` whose constructor fails at its 2nd invocation -/
def exInner : Input := { exFresh with w := { exWorld noFault (fun i => i == 1) noFault with user := [(1, 4)] } }
/-- three products requested: the 2nd outer fillConf fails because its nested creation failed, the others get their own
nested component, built from the NESTED registration's defaults 5/6/7 overlaid by ITS settings (A := 4) -/
example : (nestRun exFresh exInner).map (fun m => (m.outer.steps.map (·.res) |>.map fun r => match r with
      | .ok p => some p.serial | .made => some 100 | _ => none,
    (products m.inner.steps).map fun p => (p.serial, p.seen.get 1, p.seen.get 2, p.seen.get 3))) =
    some ([some 100, some 0, none, some 1], [(0, 4, 6, 7), (2, 4, 6, 7)]) := by decide
example : (nestRun exFresh exInner).map (fun m => (fillCount m.outer.steps, m.inner.steps.length)) = some (3, 3) ∧
    innerFails exInner (bound exFresh) 1 = true ∧ innerFails exInner (bound exFresh) 2 = false := by decide
end

/-! ### structured options: non-vacuity -/
section OverEx
open Pandora.Model.C18Over

/-- defaults: B = 52, map {k0:1, k2:5}, list [1,2,3], array [7,8,9], pointer {3,4} -/
def exOD : OCfg := ⟨15, 52, 21, some [(0, 1), (2, 5)], some [1, 2, 3], 7, 8, 9, some ⟨3, 4⟩⟩
/-- settings: B as an explicit null, one map key added and one changed, a shorter list with a null element, the second
array element, one field of the nested struct -/
def exOU : OSet := ⟨.absent, .null, .val 24, .val [(1, 9), (2, 6)], .val [none, some 40], .val [none, some 80], .val (some 5, none)⟩

example : (allFields.map fun f => sem (decode false exOD exOU) f) =
    [15, 52, 24, /- k0..k3 -/ 1, 9, 6, 0, /- array -/ 7, 80, 9, /- pointer -/ 1, 5, 4, /- list -/ 2, 1, 40, 0, 0] := by decide
example : (allFields.map fun f => sem (decode true exOD exOU) f) =
    [15, 0, 24, 0, 9, 6, 0, 0, 80, 0, 1, 5, 0, 2, 0, 40, 0, 0] := by decide
example : flatSet allFields exOU = [(3, 24), (22, 9), (24, 6), (9, 80), (11, 1), (12, 5), (14, 2), (23, 40), (25, 0), (27, 0)] := by decide
example : scalarOnly { OSet.none with a := .val 3 } := by simp [scalarOnly, OSet.none]
end OverEx

/-! ### error source and requested forms: non-vacuity -/

open Pandora.Model.C18Ty Pandora.Model.C18Reg Pandora.Model.C18Hook in
/-- `C18_factory_hook`: a `func() (Plugin, error)` field with `{type: x, a: 5}` when the plugin interface has plugins -/
example : requestedOk (formTy 2) = true ∧
    hook true (Pandora.Gen.Plugin.isFactoryType (formTy 2) && (fun t => t == plugT) (requestedPlugin (formTy 2))) .strMap false
      [⟨['t', 'y', 'p', 'e'], true, "x"⟩, ⟨['a'], false, "5"⟩] = .create "x" [⟨['a'], false, "5"⟩] := by decide

/-- non-vacuity: a constructor without error results whose fillConf never fails — every step succeeds; with an
error result and a fault plan the second call's error is a planned one -/
example : (run { exFresh with sh := { exFresh.sh with ctorErr := false } }).map (fun o => o.steps.map fun s => match s.res with
      | .made => 0 | .ok _ => 1 | _ => 2) = some [0, 1, 1, 1] := by decide
example : planned (exErr .facErr).sh (exErr .facErr).w (.ctor 1) = true ∧
    planned (exErr .facErr).sh (exErr .facErr).w (.ctor 0) = false ∧
    planned { (exErr .facErr).sh with ctorErr := false } (exErr .facErr).w (.ctor 1) = false := by decide
open Pandora.Model.C18Ty Pandora.Model.C18Reg in
/-- requested types: `func() (Plugin, error)` is one; `func() (Plugin, *E)` with `*E` implementing `error` is not, nor is
`func() *Impl` or `func(Conf) Plugin` -/
example : requestedOk (formTy 2) = true ∧
    requestedOk (.func .nil (.cons plugT (.cons (.ptr (.base .struct 7 []) [0]) .nil))) = false ∧
    requestedOk (.func .nil (.cons implT .nil)) = false ∧
    requestedOk (.func (.cons confT .nil) (.cons plugT .nil)) = false := by decide

end Pandora.Props.C18
