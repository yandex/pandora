/-
C06 — Result completeness: every reported sample is written once, well-formed, flushed.

(i)   phout line layout: `Model.Phout.encode` mirrors `appendPhout`/`appendTimestamp`; the statement list,
      the constants and the field-index order are REGENERATED from /repo (`Pandora.Gen.Phout`) and bridged.
(ii)  reporters × bounded queue × aggregator Run loop (`Model.AggQueue`), all interleavings.
(iii) process shutdown (`Model.CliShutdown`), all event orders; which variant of the signal branch the
      code is, which signals are notified and which cancel comes from the regenerated `Pandora.Gen.Cli`.
(iv)  the pool's await loop (`Model.C06Pool`); (v) `Engine.Run` over any number of pools and the context tree of
      `runAsync` (`Model.C06Engine`); (vi) a sink that starts to reject writes (`Model.C06SinkFail`);
(vii) the error the encoder aggregator ends with when several faults coincide (`Model.C06ErrJoin`; `errutil.Join`
      and the deferred joins of `Run` regenerated); (viii) samples lent to the aggregator and recycled by their
      owner (`Model.C06Borrow`); (ix) `startInstances` returns the number of goroutines it started
      (`Model.C06Start`), `instancePool.Run`'s three ways out and the `Engine.wait` counter (`Model.C06PoolRun`), the
      helpers every sample and byte goes through, option tables and plugin registration (regenerated).
(x)   several phout aggregators sharing the standard output (`Model.C06Shared`); (xi) who cancels the healthy
      pools when one pool fails (`Model.C06FailCancel`); (xii) the buffered writer's non-atomic Flush and the single
      goroutine that uses it (`Model.C06BufRace`); (xiii) `bufio.Writer.Write` and the repaired `handle` at byte level:
      only whole lines reach the destination (`Model.C06WholeLines`).
The tie of the models to the running code is the correspondence harness (harness/cmd/c06).
-/
import Pandora.Bridge.C06Phout
import Pandora.Bridge.C06Cli
import Pandora.Bridge.C06AggQ
import Pandora.Proofs.C06Queue
import Pandora.Proofs.C06Return
import Pandora.Proofs.C06Pool
import Pandora.Proofs.C06Engine
import Pandora.Proofs.C06SinkFail
import Pandora.Bridge.C06ErrJoin
import Pandora.Proofs.C06ErrJoin
import Pandora.Proofs.C06Borrow
import Pandora.Proofs.C06Start
import Pandora.Proofs.C06PoolRun
import Pandora.Proofs.C06DropCount
import Pandora.Proofs.C06ResChan
import Pandora.Bridge.C06R6
import Pandora.Proofs.C06WholeLines

namespace Pandora.Props.C06
open Pandora.Model.Phout Pandora.Proofs.C06

/-! ## (i) the phout line -/

/-- what a reader gets back: the id is only in the line when ids are enabled -/
def asWritten (s : Sample) (withId : Bool) : Sample := if withId then s else { s with id := 0 }

/-- a sample the phout format can represent: timestamp at least one second after the epoch, a tag
without the separator and terminator bytes (phout has no escaping), a `uint64` id -/
structure InFormat (s : Sample) : Prop where
  ts : 1000 ≤ s.ms
  tagTab : TAB ∉ s.tag
  tagLf : LF ∉ s.tag
  id : s.id < 18446744073709551616

/-- **well-formed line** — for every in-format sample (ALL integer values: negative, zero, beyond int64):
the line is `decimal(ms/1000) "." pad3(ms%1000) TAB tag["#" id] (TAB int)×10 LF`, it has no LF before
its end, splitting on TAB gives exactly 12 columns, and decoding gives the sample back. -/
theorem C06_phout_wellformed (s : Sample) (withId : Bool) (h : InFormat s) :
    ∃ body, encode s withId = some (body ++ [LF]) ∧
      body = intBytes (s.ms / 1000) ++ DOT :: pad3 (s.ms % 1000).toNat
              ++ TAB :: s.tag ++ idPart s withId ++ fieldsPart s ∧
      LF ∉ body ∧
      (splitOn TAB body).length = 12 ∧
      decode (body ++ [LF]) withId = some (asWritten s withId) := by
  have hms := h.ts
  have h0 : 0 ≤ s.ms := Int.le_trans (by decide) hms
  have e1 : intBytes (s.ms / 1000) = natDigits (s.ms.toNat / 1000) := by
    rw [intBytes_of_nonneg (Int.ediv_nonneg h0 (by decide)), (ms_split h0).1]
  have e2 : (s.ms % 1000).toNat = s.ms.toNat % 1000 := (ms_split h0).2
  have hk : s.ms.toNat % 1000 < 1000 := Nat.mod_lt _ (by decide)
  refine ⟨_, ?_, rfl, ?_, ?_, ?_⟩
  · unfold encode
    rw [encodeBody_ge1000 s withId hms, e1, e2]
    rfl
  · rw [e1, e2]
    exact body_lffree s withId h.tagLf _ (notin_tsText (by decide) (by decide) _ _ hk)
  · rw [e1, e2, splitOn_body _ s withId (notin_tsText (by decide) (by decide) _ _ hk) h.tagTab]
    simp [tokens, Sample.fields]
  · unfold decode
    simp only [List.getLast?_append, List.getLast?_singleton, Option.some_or, if_true, List.dropLast_concat]
    rw [e1, e2, decodeBody_ok s withId hms h.tagTab h.id]
    rfl

/-- non-vacuity: a sample with negative, zero and > int64 values, a multi-byte tag and an id ≥ 2^63 is in format -/
example : InFormat { ms := 1484660999002, tag := [0xd1, 0x82, 0x7c, 0x61], id := 18446744073709551615,
                     intervalReal := -5, connect := 0, send := 9223372036854775807, latency := -9223372036854775808,
                     receive := 1, intervalEvent := 100000000000000000000, sizeOut := 7, sizeIn := 8, netCode := 110,
                     protoCode := 200 } :=
  ⟨by decide, by decide, by decide, by decide⟩

/-- **field order** — the ten integers appear in the documented phout order, which is the array-index
order of the regenerated constants of sample.go read through `keyMeaning`, and every regenerated setter
writes the column its name stands for. -/
theorem C06_phout_field_order (s : Sample) :
    fieldsPart s = TAB :: intBytes s.intervalReal ++ TAB :: intBytes s.connect ++ TAB :: intBytes s.send
        ++ TAB :: intBytes s.latency ++ TAB :: intBytes s.receive ++ TAB :: intBytes s.intervalEvent
        ++ TAB :: intBytes s.sizeOut ++ TAB :: intBytes s.sizeIn ++ TAB :: intBytes s.netCode
        ++ TAB :: intBytes s.protoCode ∧
    documentedOrder = ["interval_real", "connect", "send", "latency", "receive", "interval_event",
                       "size_out", "size_in", "net_code", "proto_code"] ∧
    Gen.Phout.fieldKeys.map (fun kv => Bridge.Phout.lookupS kv.1 keyMeaning) = documentedOrder.map some ∧
    Gen.Phout.fieldKeys.map (·.2) = List.range 10 := by
  refine ⟨by simp [fieldsPart, Sample.fields], rfl, ?_, Bridge.Phout.fieldKeys_indices⟩
  have := Bridge.Phout.field_order
  rw [this.1, this.2]

/-- **tie to the source** — the regenerated statement list of `appendPhout`, run on the model's reading of
each statement, is `encodeBody`; the regenerated constants of `appendTimestamp` and `handle` are the model's. -/
theorem C06_phout_regenerated (s : Sample) (withId : Bool) :
    runStmts s withId Gen.Phout.appendPhoutStmts = encodeBody s withId ∧
    Gen.Phout.tsDivisor = tsDivisor ∧ Gen.Phout.tsBase = 10 ∧ Gen.Phout.tsDotFromEnd = dotFromEnd ∧
    UInt8.ofNat Gen.Phout.tsDotByte = DOT ∧ Gen.Phout.tsShiftLoop = true ∧
    UInt8.ofNat Gen.Phout.lineTerminator = LF ∧ Gen.Phout.fieldsNum = 10 ∧ Gen.Phout.fieldsArrayLen = 10 := by
  have h := Bridge.Phout.timestamp_consts
  have h2 := Bridge.Phout.fieldsNum_eq
  exact ⟨Bridge.Phout.appendPhout_eq s withId, h.1, h.2.1, h.2.2.1, h.2.2.2.1, h.2.2.2.2,
    Bridge.Phout.lineTerminator_eq, h2.1, h2.2⟩

/-- the byte-shift loop of `appendTimestamp` is "insert a dot three from the end" (and a panic below three bytes) -/
theorem C06_phout_dot_loop (d : Bytes) :
    insertDot d = if d.length < 3 then none
                  else some (d.take (d.length - 3) ++ DOT :: d.drop (d.length - 3)) := insertDot_eq d

/-- **below one second** (cannot happen with `time.Now()`, stated for completeness): 0 … 99 ms after the
epoch the shift loop indexes `dst[-1]` (panic); 100 … 999 ms the seconds part is missing. -/
theorem C06_phout_before_1s (s : Sample) (withId : Bool) :
    (0 ≤ s.ms → s.ms < 100 → encode s withId = none) ∧
    (100 ≤ s.ms → s.ms < 1000 → ∃ rest, encode s withId = some (DOT :: rest)) := by
  constructor
  · intro h0 h1
    simp [encode, encodeBody, appendTimestamp_small h0 h1]
  · intro h0 h1
    simp [encode, encodeBody, appendTimestamp_subsecond h0 h1]

/-- the format hypothesis on the tag is needed: phout has no escaping. EVERY sample (timestamp ≥ 1 s) whose tag
contains one TAB (reachable: `uri`-style ammo takes the tag verbatim from the file) gives a line of 13 columns
instead of 12. The harness reports such inputs as `skip:out-of-format-tag`. -/
theorem C06_phout_tab_in_tag (s : Sample) (withId : Bool) (a b : Bytes) (hms : 1000 ≤ s.ms)
    (htag : s.tag = a ++ TAB :: b) (ha : TAB ∉ a) (hb : TAB ∉ b) :
    ∃ body, encode s withId = some (body ++ [LF]) ∧ (splitOn TAB body).length = 13 := by
  refine ⟨natDigits (s.ms.toNat / 1000) ++ DOT :: pad3 (s.ms.toNat % 1000) ++ TAB :: s.tag ++ idPart s withId
      ++ fieldsPart s, ?_, ?_⟩
  · unfold encode
    rw [encodeBody_ge1000 s withId hms]
    rfl
  · have hk : s.ms.toNat % 1000 < 1000 := by omega
    have hts : TAB ∉ _ := notin_tsText (by decide) (by decide) (s.ms.toNat / 1000) (s.ms.toNat % 1000) hk
    have e : natDigits (s.ms.toNat / 1000) ++ DOT :: pad3 (s.ms.toNat % 1000) ++ TAB :: s.tag ++ idPart s withId ++ fieldsPart s
        = (natDigits (s.ms.toNat / 1000) ++ DOT :: pad3 (s.ms.toNat % 1000)) ++
          ((a :: (b ++ idPart s withId) :: s.fields.map intBytes).flatMap (fun t => TAB :: t)) := by
      rw [htag, fieldsPart_eq]; simp
    rw [e, splitOn_tokens _ _ hts]
    · simp [Sample.fields]
    · intro t ht
      simp only [List.mem_cons] at ht
      rcases ht with rfl | rfl | ht
      · exact ha
      · simp only [List.mem_append, not_or]; exact ⟨hb, notin_idPart s withId (by decide) tab_notin_intBytes⟩
      · obtain ⟨v, _, rfl⟩ := List.mem_map.mp ht
        exact tab_notin_intBytes v

/-- non-vacuity -/
example : ∃ s : Sample, 1000 ≤ s.ms ∧ s.tag = [97] ++ TAB :: [98] ∧ TAB ∉ ([97] : Bytes) ∧ TAB ∉ ([98] : Bytes) :=
  ⟨{ ms := 1700000000123, tag := [97, 9, 98], id := 1, intervalReal := 1, connect := 2, send := 3, latency := 4,
     receive := 5, intervalEvent := 6, sizeOut := 7, sizeIn := 8, netCode := 9, protoCode := 10 },
   by decide, by decide, by decide, by decide⟩

/-- **result file** — the lines of any number of in-format samples, concatenated, split on LF into exactly
those lines (nothing after the last LF) and every one decodes to its sample, in order. -/
theorem C06_phout_file (ss : List Sample) (withId : Bool) (h : ∀ s ∈ ss, InFormat s) :
    ∃ bodies : List Bytes, ss.map (fun s => encode s withId) = bodies.map (fun b => some (b ++ [LF])) ∧
      fileLines (bodies.flatMap (fun b => b ++ [LF])) = some bodies ∧
      bodies.map (fun b => decode (b ++ [LF]) withId) = ss.map (fun s => some (asWritten s withId)) := by
  -- carried along the induction: no body contains LF, so the file splits back into the bodies
  suffices h' : ∃ bodies : List Bytes, ss.map (fun s => encode s withId) = bodies.map (fun b => some (b ++ [LF])) ∧
      (∀ b ∈ bodies, LF ∉ b) ∧
      bodies.map (fun b => decode (b ++ [LF]) withId) = ss.map (fun s => some (asWritten s withId)) by
    obtain ⟨bodies, h1, h2, h3⟩ := h'
    exact ⟨bodies, h1, fileLines_of_lines bodies h2, h3⟩
  induction ss with
  | nil => exact ⟨[], rfl, by simp, rfl⟩
  | cons s rest ih =>
    obtain ⟨bodies, hb1, hb2, hb3⟩ := ih (fun x hx => h x (by simp [hx]))
    obtain ⟨body, he, _, hlf, _, hd⟩ := C06_phout_wellformed s withId (h s (by simp))
    exact ⟨body :: bodies, by simp [he, hb1], by simpa [hlf] using hb2, by simp [hd, hb3]⟩

/-! ## (ii) reporters, queue, aggregator -/

section Queue
open Pandora.Model.AggQueue Pandora.Proofs.C06Queue

/-- **queue completeness** — for EVERY schedule (interleaving of any number of reporter goroutines, the
aggregator's select choices, flush ticks, buffer spills, the cancel), every queue size, every reporter
program: if no Report call completes after the cancel, then when `Run` has returned
* what is in the sink plus what was dropped is a permutation of the completed reports; the sink holds the
  enqueued samples in the order the Report calls completed (so each exactly once, per-reporter order kept);
* nothing is left in the queue or in the writer's buffer, the sink is closed;
* phout: nothing is dropped, the sink is exactly the reports, `Run` returned nil, and every reporter whose
  calls all returned finds all its samples, in its order;
* encoder aggregators: `Run`'s error counts exactly the dropped samples. -/
theorem C06_queue_complete {β : Type} (cfg : Cfg) (progs : Nat → List β) (sched : List Ev)
    (hsched : NoReportAfterCancel sched) :
    let st := run cfg (init progs) sched
    st.phase = .returned →
      (st.out ++ st.dropped).Perm st.reports ∧
      st.out.Sublist st.reports ∧
      (∀ r, (ofReporter r st.out).Sublist (ofReporter r st.reports)) ∧
      st.q = [] ∧ st.buf = [] ∧ st.closed = true ∧
      st.droppedCount = st.dropped.length ∧
      (cfg.kind = .phout →
         st.dropped = [] ∧ st.out = st.reports ∧ st.err = none ∧
         ∀ r, st.pending r = [] → ofReporter r st.out = progs r) ∧
      (cfg.kind = .encoder →
         st.err = droppedErr st.dropped.length ∧
         ∀ r, st.pending r = [] → (ofReporter r (st.out ++ st.dropped)).Perm (progs r)) := by
  intro st hret
  have inv : Inv cfg progs st := inv_run sched (inv_init cfg progs)
  have hlate : st.late = false := not_late cfg sched (init progs) rfl rfl hsched
  obtain ⟨hbuf, hclosed, _, hq⟩ := inv.ret hret
  obtain ⟨hq, herr⟩ := hq hlate
  have hout : st.out = accepted st.log := by
    have := inv.flow; rw [hbuf, hq] at this; simpa using this
  have hperm : (st.out ++ st.dropped).Perm st.reports := by
    rw [hout, inv.drops]; exact accepted_rejected_perm st.log
  have hsub : st.out.Sublist st.reports := by rw [hout]; exact accepted_sublist st.log
  have hfilter : ∀ r, (ofReporter r st.out).Sublist (ofReporter r st.reports) := by
    intro r; unfold ofReporter; exact (hsub.filter _).map _
  refine ⟨hperm, hsub, hfilter, hq, hbuf, hclosed, inv.count, ?_, ?_⟩
  · intro hk
    have hd := inv.nodrop hk
    have hrej : rejected st.log = [] := by rw [← inv.drops]; exact hd
    have houtall : st.out = st.reports := by rw [hout]; exact accepted_of_rejected_nil hrej
    refine ⟨hd, houtall, ?_, ?_⟩
    · rw [herr]; simp [retErr, hk]
    · intro r hp
      have := inv.progs r
      rw [hp, List.append_nil] at this
      rw [houtall]; exact this
  · intro hk
    refine ⟨?_, ?_⟩
    · rw [herr, inv.count]; simp [retErr, hk]
    · intro r hp
      have := inv.progs r
      rw [hp, List.append_nil] at this
      rw [← this]
      unfold ofReporter
      exact (hperm.filter _).map _

/-- each sample is in the sink or in the drop count exactly as often as it was reported -/
theorem C06_queue_exactly_once {β : Type} [DecidableEq β] (cfg : Cfg) (progs : Nat → List β)
    (sched : List Ev) (hsched : NoReportAfterCancel sched) (x : Item β) :
    let st := run cfg (init progs) sched
    st.phase = .returned → st.out.count x + st.dropped.count x = st.reports.count x := by
  intro st hret
  have := (C06_queue_complete cfg progs sched hsched hret).1
  rw [← List.count_append]
  exact this.count_eq x

/-- non-vacuity of the hypotheses and reachability of `returned`: two reporters, queue of one, a schedule
with a blocked phout send, a flush tick, the cancel after the last report, and the drain -/
example :
    let sched : List Ev := [.report 0, .report 1, .recv false, .report 1, .tick, .recv true, .report 0,
                            .recv false, .report 1, .cancel, .seeCancel, .drain, .drain]
    NoReportAfterCancel sched ∧
    (run ⟨.phout, 1⟩ (init fun r => if r < 2 then [10 * r, 10 * r + 1] else []) sched).phase = .returned ∧
    (run ⟨.phout, 1⟩ (init fun r => if r < 2 then [10 * r, 10 * r + 1] else []) sched).out
      = [(0, 0), (1, 10), (0, 1), (1, 11)] := by
  refine ⟨?_, by decide, by decide⟩
  simp [NoReportAfterCancel, isReportEv]

/-- the encoder aggregator drops on a full queue and reports the count -/
example :
    let sched : List Ev := [.report 0, .report 0, .report 0, .cancel, .seeCancel, .drain, .drain]
    (run ⟨.encoder, 1⟩ (init fun r => if r = 0 then [1, 2, 3] else []) sched).phase = .returned ∧
    (run ⟨.encoder, 1⟩ (init fun r => if r = 0 then [1, 2, 3] else []) sched).err = some 2 ∧
    (run ⟨.encoder, 1⟩ (init fun r => if r = 0 then [1, 2, 3] else []) sched).out = [(0, 1)] := by
  decide

/-- the hypothesis is needed: a Report that completes after `Run` returned is in nobody's count -/
theorem C06_queue_late_report_lost :
    let sched : List Ev := [.cancel, .seeCancel, .drain, .report 0]
    let st := run ⟨.encoder, 4⟩ (init fun r => if r = 0 then [7] else []) sched
    st.phase = .returned ∧ st.reports = [(0, 7)] ∧ st.out = [] ∧ st.dropped = [] := by
  decide

end Queue

/-! ## (ii') the same for EVERY schedule: no assumption on where the cancel is -/

section Queue2
open Pandora.Model.AggQueue Pandora.Proofs.C06Queue

/-- what `Run` returns: phout nil; encoder aggregators `DroppedErr()` of the drop counter -/
def runErr (cfg : Cfg) (n : Nat) : Option Nat :=
  match cfg.kind with
  | .phout => none
  | .encoder => droppedErr n

/-- **the moment Run returns, for EVERY schedule** (no assumption on the position of the cancel, on late
Report calls, on anything): let `pre` be any schedule after which `Run` is in its drain loop with an empty
queue, so that its next step is `default: return`; `post` is whatever happens afterwards. Then
* at the return: sink ++ counted drops is a permutation of ALL Report calls completed so far, the sink holds
  the enqueued ones in completion order, queue and writer buffer are empty, the sink is closed, the error
  counts exactly the drops (phout: none, and the sink is exactly the reports);
* afterwards: sink, error and closed flag never change again; later Report calls only extend the report log. -/
theorem C06_queue_any_schedule {β : Type} (cfg : Cfg) (progs : Nat → List β) (pre post : List Ev) :
    let s0 := run cfg (init progs) pre
    let s1 := step cfg s0 .drain
    let s2 := run cfg s1 post
    s0.phase = .draining → s0.q = [] →
      (s1.phase = .returned ∧ s1.reports = s0.reports ∧
       (s1.out ++ s1.dropped).Perm s1.reports ∧ s1.out.Sublist s1.reports ∧
       s1.q = [] ∧ s1.buf = [] ∧ s1.closed = true ∧ s1.err = runErr cfg s1.dropped.length ∧
       (cfg.kind = .phout → s1.dropped = [] ∧ s1.out = s1.reports)) ∧
      (s2.phase = .returned ∧ s2.out = s1.out ∧ s2.err = s1.err ∧ s2.closed = true ∧ s2.buf = [] ∧
       s1.reports <+: s2.reports) := by
  intro s0 s1 s2 hph hq
  have inv : Inv cfg progs s0 := inv_run pre (inv_init cfg progs)
  have hA := at_return inv hph hq
  rw [show step cfg s0 .drain = s1 from rfl] at hA
  obtain ⟨hout, hlog, hbuf, hq1, hcl, herr, hdrop, _⟩ := hA
  have hret : s1.phase = .returned := by
    show (step cfg s0 .drain).phase = .returned
    simp only [step, hph, hq]
  have hrep : s1.reports = s0.reports := by simp only [St.reports]; rw [hlog]
  have hperm : (s1.out ++ s1.dropped).Perm s1.reports := by
    rw [hout, hdrop, hrep]
    exact accepted_rejected_perm s0.log
  have hsub : s1.out.Sublist s1.reports := by
    rw [hout, hrep]; exact accepted_sublist s0.log
  refine ⟨⟨hret, hrep, hperm, hsub, hq1, hbuf, hcl, ?_, ?_⟩, ?_⟩
  · rw [herr, hdrop, ← inv.drops]
    rfl
  · intro hk
    have hd : s1.dropped = [] := by
      rw [hdrop, ← inv.drops]; exact inv.nodrop hk
    refine ⟨hd, ?_⟩
    rw [hout, hrep]
    apply accepted_of_rejected_nil
    rw [← hdrop]; exact hd
  · obtain ⟨i1, i2, i3, i4, i5⟩ := stable_run cfg post hret hbuf
    refine ⟨i1, i2, i3, i4.trans hcl, i5, ?_⟩
    simp only [St.reports]
    exact (log_run cfg post s1).map _

/-- non-vacuity of the hypotheses of `C06_queue_any_schedule`: a report, the cancel, one more report that still
gets in, the drain loop empties the queue — the next `drain` step is the return; afterwards a late report -/
example :
    let progs : Nat → List Nat := fun r => if r = 0 then [1, 2, 3] else []
    let s0 := run ⟨.encoder, 1⟩ (init progs) [.report 0, .cancel, .seeCancel, .drain, .report 0, .drain]
    s0.phase = .draining ∧ s0.q = [] ∧ (step ⟨.encoder, 1⟩ s0 .drain).out = [(0, 1), (0, 2)] := by decide

/-- every schedule after which `Run` has returned is of the form the previous theorem is about -/
theorem C06_queue_return_split {β : Type} (cfg : Cfg) (progs : Nat → List β) (sched : List Ev)
    (h : (run cfg (init progs) sched).phase = .returned) :
    ∃ pre post, sched = pre ++ .drain :: post ∧
      (run cfg (init progs) pre).phase = .draining ∧ (run cfg (init progs) pre).q = [] :=
  return_split cfg sched (init progs) (by simp [init]) h

/-- **reported before the cancel ⇒ written or counted**, for EVERY schedule: split any schedule at its first
`cancel` (end of run, SIGINT/SIGTERM, failure of another task — whatever cancels the context). If `Run` has
returned at the end, then the Report calls completed before the cancel are a prefix of the calls that the
final sink and error account for: `sink ++ counted` is a permutation of a prefix `R` of the report log which
contains all of them. Report calls after the cancel may or may not be in `R` (they are iff they completed
before `Run` returned). -/
theorem C06_queue_reported_before_cancel {β : Type} (cfg : Cfg) (progs : Nat → List β) (a b : List Ev)
    (ha : ∀ e ∈ a, e ≠ .cancel) :
    let sa := run cfg (init progs) a
    let st := run cfg (init progs) (a ++ .cancel :: b)
    st.phase = .returned →
      ∃ (R counted : List (Item β)), sa.reports <+: R ∧ R <+: st.reports ∧
        (st.out ++ counted).Perm R ∧ st.out.Sublist R ∧ st.err = runErr cfg counted.length ∧
        st.closed = true ∧ st.buf = [] ∧ (cfg.kind = .phout → counted = [] ∧ st.out = R) := by
  intro sa st hret
  obtain ⟨pre, post, hs, hph, hq⟩ := C06_queue_return_split cfg progs _ hret
  obtain ⟨⟨_, hrep, hperm, hsub, _, _, _, herr, hph2⟩, ⟨_, o2, o3, o4, o5, o6⟩⟩ :=
    C06_queue_any_schedule cfg progs pre post hph hq
  -- `a` is a prefix of `pre`: before the cancel nothing is cancelled, and draining needs the cancel
  have hpre : a <+: pre := by
    -- compare the two decompositions of the schedule
    have hcanc : (run cfg (init progs) pre).cancelled = true :=
      (inv_run pre (inv_init cfg progs)).draining hph
    rcases List.append_eq_append_iff.mp hs with ⟨c, hc1, hc2⟩ | ⟨c, hc1, hc2⟩
    · -- pre = a ++ c
      exact ⟨c, hc1.symm⟩
    · -- a = pre ++ c, with c ++ cancel :: b = drain :: post; then pre has no cancel: contradiction
      exfalso
      have : (run cfg (init progs) pre).cancelled = false := by
        rw [cancelled_of_nocancel cfg pre _ (fun e he => ha e (by rw [hc1]; simp [he]))]; rfl
      rw [hcanc] at this; cases this
  obtain ⟨c, hc⟩ := hpre
  have hst : st = run cfg (step cfg (run cfg (init progs) pre) .drain) post := by
    show run cfg (init progs) (a ++ .cancel :: b) = _
    rw [hs, run_append]; rfl
  refine ⟨(step cfg (run cfg (init progs) pre) .drain).reports, (step cfg (run cfg (init progs) pre) .drain).dropped,
    ?_, ?_, ?_, ?_, ?_, ?_, ?_, ?_⟩
  · rw [hrep, ← hc, run_append]
    simp only [St.reports]
    exact (log_run cfg c _).map _
  · rw [hst]; exact o6
  · rw [hst, o2]; exact hperm
  · rw [hst, o2]; exact hsub
  · rw [hst, o3]; exact herr
  · rw [hst]; exact o4
  · rw [hst]; exact o5
  · intro hk
    rw [hst, o2]; exact hph2 hk

/-- non-vacuity: a Report that completes after the cancel but before `Run` returned is written, one that
completes after the return is not — and both schedules satisfy the hypotheses of the theorem above -/
example :
    let progs : Nat → List Nat := fun r => if r = 0 then [1, 2, 3] else []
    let st := run ⟨.phout, 4⟩ (init progs) ([.report 0] ++ .cancel :: [.report 0, .seeCancel, .drain, .drain, .drain, .report 0])
    st.phase = .returned ∧ st.out = [(0, 1), (0, 2)] ∧ st.reports = [(0, 1), (0, 2), (0, 3)] ∧ st.q = [(0, 3)] := by
  decide

end Queue2

section Queue3
open Pandora.Model.AggQueue

/-- the literal strongest reading — EVERY completed Report call, also one made after the cancel while the
pool is still winding down, is written or counted — as a statement … -/
def C06_queue_every_report_statement : Prop :=
  ∀ (cfg : Cfg) (progs : Nat → List Nat) (sched : List Ev),
    let st := run cfg (init progs) sched
    st.phase = .returned → (st.out ++ st.dropped).Perm st.reports

/-- … is false for a cancelled run: a Report that completes after `Run` has returned (an instance whose shoot
was in flight when the context was cancelled) lands in a queue nobody reads. What holds instead, for every
schedule, is `C06_queue_any_schedule` / `C06_queue_reported_before_cancel` (everything reported before the
cancel, indeed before `Run` returned), and for a run that ends by itself `C06_end_of_run_complete` (the pool
issues the cancel only after the last Report). -/
theorem C06_queue_every_report_counterexample : ¬ C06_queue_every_report_statement := by
  intro h
  have := h ⟨.encoder, 4⟩ (fun r => if r = 0 then [7] else []) [.cancel, .seeCancel, .drain, .report 0] (by decide)
  have hl := this.length_eq
  revert hl
  decide

/-- the part that holds without any hypothesis (`_partial` of the statement above): at the moment `Run`
returns, for every schedule -/
theorem C06_queue_every_report_partial (cfg : Cfg) (progs : Nat → List Nat) (pre : List Ev) :
    let s0 := run cfg (init progs) pre
    let s1 := step cfg s0 .drain
    s0.phase = .draining → s0.q = [] → s1.phase = .returned ∧ (s1.out ++ s1.dropped).Perm s1.reports := by
  intro s0 s1 h1 h2
  have := (C06_queue_any_schedule cfg progs pre [] h1 h2).1
  exact ⟨this.1, this.2.2.1⟩

end Queue3

/-! ## the result file of a whole run -/

section ResultFile
open Pandora.Model.AggQueue Pandora.Proofs.C06Queue

/-- the bytes the sink holds when its content is the samples `out`, one encoded line each; `none` if the
encoder would panic on one of them -/
def sinkBytes (withId : Bool) : List (Item Sample) → Option Bytes
  | [] => some []
  | x :: rest => do
      let l ← encode x.2 withId
      let r ← sinkBytes withId rest
      pure (l ++ r)

/-- **phout result file of a whole run** — any number of reporter goroutines with in-format samples, any
queue size, ANY schedule: once `Run` has returned, the destination holds well-formed lines only, one per
sample of the sink list (which by `C06_queue_any_schedule` is: every Report completed before the return,
each once, in completion order): splitting the file at LF gives exactly that many lines, nothing after the
last LF, and line `i` decodes to sample `i`. -/
theorem C06_phout_result_file (cap : Nat) (progs : Nat → List Sample) (withId : Bool) (sched : List Ev)
    (hfmt : ∀ r, ∀ s ∈ progs r, InFormat s) :
    let st := run ⟨.phout, cap⟩ (init progs) sched
    ∃ file lines, sinkBytes withId st.out = some file ∧ fileLines file = some lines ∧
      lines.length = st.out.length ∧
      lines.map (fun l => decode (l ++ [LF]) withId) = st.out.map (fun x => some (asWritten x.2 withId)) := by
  intro st
  have inv : Inv ⟨.phout, cap⟩ progs st := inv_run sched (inv_init _ progs)
  -- every sample in the sink is one of its reporter's program
  have hmem : ∀ x ∈ st.out, x.2 ∈ progs x.1 := by
    intro x hx
    have h1 : x ∈ accepted st.log := by rw [← inv.flow]; simp [hx]
    have h2 : x ∈ st.reports := (accepted_sublist st.log).subset h1
    have h3 : x.2 ∈ ofReporter x.1 st.reports := by
      unfold ofReporter
      exact List.mem_map.mpr ⟨x, List.mem_filter.mpr ⟨h2, by simp⟩, rfl⟩
    rw [← inv.progs x.1]; simp [h3]
  obtain ⟨bodies, hb1, hb2, hb3⟩ := C06_phout_file (st.out.map (·.2)) withId (by
    intro s hs
    obtain ⟨x, hx, rfl⟩ := List.mem_map.mp hs
    exact hfmt x.1 x.2 (hmem x hx))
  have hlen : bodies.length = st.out.length := by
    have := congrArg List.length hb1; simpa using this.symm
  refine ⟨bodies.flatMap (fun b => b ++ [LF]), bodies, ?_, hb2, hlen, ?_⟩
  · -- sinkBytes follows the list of encoded lines
    have key : ∀ (out : List (Item Sample)) (bs : List Bytes),
        (out.map (·.2)).map (fun s => encode s withId) = bs.map (fun b => some (b ++ [LF])) →
        sinkBytes withId out = some (bs.flatMap (fun b => b ++ [LF])) := by
      intro out
      induction out with
      | nil => intro bs h; cases bs <;> simp_all [sinkBytes]
      | cons x rest ih =>
        intro bs h
        cases bs with
        | nil => simp at h
        | cons b bs' =>
          simp only [List.map_cons, List.cons.injEq] at h
          simp only [sinkBytes, h.1, ih bs' h.2]
          rfl
    exact key st.out bodies hb1
  · rw [hb3]; simp

/-- **line-oriented result file, any encoder** (jsonlines: `enc` = the JSON text of a sample; jsoniter escapes
control characters inside strings and writes no raw LF, which is observed on the real encoder, not proved):
if no encoded value contains LF, the file made of `enc x ++ LF` for the sink list splits into exactly one
line per written sample, in order, nothing after the last LF; so with `C06_queue_any_schedule`
lines + counted drops = Report calls completed before the return. -/
theorem C06_lines_result_file {β : Type} (enc : β → Bytes) (henc : ∀ x, LF ∉ enc x) (cfg : Cfg)
    (progs : Nat → List β) (pre : List Ev) :
    let s0 := run cfg (init progs) pre
    let s1 := step cfg s0 .drain
    s0.phase = .draining → s0.q = [] →
      fileLines (s1.out.flatMap (fun x => enc x.2 ++ [LF])) = some (s1.out.map (fun x => enc x.2)) ∧
      (s1.out.map (fun x => enc x.2)).length + s1.dropped.length = s1.reports.length ∧
      s1.err = runErr cfg s1.dropped.length := by
  intro s0 s1 hph hq
  obtain ⟨⟨_, _, hperm, _, _, _, _, herr, _⟩, _⟩ := C06_queue_any_schedule cfg progs pre [] hph hq
  refine ⟨?_, ?_, herr⟩
  · have := fileLines_of_lines (s1.out.map (fun x => enc x.2)) (by
      intro b hb; obtain ⟨x, _, rfl⟩ := List.mem_map.mp hb; exact henc x.2)
    rw [← this, List.flatMap_map]
  · have := hperm.length_eq
    simpa using this

end ResultFile

/-! ## (iv) the pool: the end-of-run cancel comes after the last Report; `Engine.Wait` after the aggregator -/

section Pool
open Pandora.Model.C06Pool Pandora.Proofs.C06Pool
open Pandora.Model.AggQueue (Ev NoReportAfterCancel)

/-- **the end-of-run cancel comes after the last Report** — for every trace of the pool's goroutines
(instance start, instances reporting and finishing, provider, aggregator, the four cases of `awaitRun`) in
which the pool's parent context is NOT cancelled from outside: what the aggregator sees (`emitted`:
completed Report calls and the cancel issued by `checkAllInstancesAreFinished`) has no Report after the
cancel; when the cancel is issued no instance is running and instance start is over. Hence every aggregator
schedule whose report/cancel events are these satisfies the hypothesis of `C06_queue_complete`.
The number of results awaited is the regenerated `resultsToWait`. -/
theorem C06_pool_cancel_after_reports (trace : List PEv) (hne : ∀ e ∈ trace, e ≠ PEv.extCancel) :
    let st := run (init Gen.AggQ.engineResultsToWait) trace
    NoReportAfterCancel st.emitted ∧
    (st.cancelled = true → st.running = 0 ∧ st.starting = false ∧ st.runResOpen = false) ∧
    (∀ sched : List Ev, sched.filter isRC = st.emitted → NoReportAfterCancel sched) := by
  rw [Bridge.AggQ.results_to_wait]
  intro st
  have p : PInv st := pinv_run trace pinv_init
  have e : EInv st := einv_run trace pinv_init einv_init hne
  have hn : NoReportAfterCancel st.emitted := by
    cases hc : st.cancelled with
    | false => exact nrac_of_nocancel _ (e.before hc)
    | true => exact (e.after hc).2
  refine ⟨hn, ?_, ?_⟩
  · intro hc
    have h1 := (e.after hc).1
    have h2 := p.closed h1
    exact ⟨h2.1, h2.2.1, h1⟩
  · intro sched hs
    rw [nrac_filter, hs]; exact hn

/-- **`Engine.Wait()` returns after the aggregator** — for EVERY trace (external cancels included): the pool's
`onWaitDone` (what `Engine.Wait()` waits for, and what closes `awaitErr`, the only way `pool.Run` and with it
`Engine.Run` return nil) happens only after `awaitRun` received the aggregator's result, i.e. after
`Aggregator.Run` returned (drained, flushed, closed), after all instances finished and the queue's cancel was
issued; and no instance ever sends its result on the closed `runRes` channel (no panic). -/
theorem C06_pool_wait_after_aggregator (trace : List PEv) :
    let st := run (init Gen.AggQ.engineResultsToWait) trace
    (st.waitDone = true → st.aggDone = true ∧ st.aggOpen = false ∧ st.runResOpen = false ∧ st.running = 0 ∧
       st.cancelled = true) ∧
    st.sendOnClosed = false := by
  rw [Bridge.AggQ.results_to_wait]
  intro st
  have p : PInv st := pinv_run trace pinv_init
  refine ⟨fun hw => ?_, p.noSend⟩
  obtain ⟨a, b, c, d, _⟩ := wd_all p hw
  exact ⟨a, b, c, d, cinv_run trace (by simp [init]) c⟩

/-- **the cancel is not forgotten** — for EVERY trace: once the start result was taken, no instance is running and
every instance result was taken, `runRes` is closed and the end-of-run cancel has been issued: the aggregator is
never left waiting for a cancel nobody will send (both `case`s that can complete the condition — the start result and
an instance result — call `checkAllInstancesAreFinished`; "There is a race between run and start results"). -/
theorem C06_pool_no_stuck (trace : List PEv) :
    let st := run (init Gen.AggQ.engineResultsToWait) trace
    st.startResOpen = false → st.running = 0 → st.awaitedInstances = st.finishedCount →
      st.runResOpen = false ∧ st.cancelled = true := by
  rw [Bridge.AggQ.results_to_wait]
  intro st hs hr ha
  have p : PInv st := pinv_run trace pinv_init
  have k : Pandora.Proofs.C06PoolLive.KInv st := by
    exact Pandora.Proofs.C06PoolLive.kinv_run trace pinv_init (Pandora.Proofs.C06PoolLive.kinv_init 4)
  have hclosed : st.runResOpen = false := by
    rcases k hs with h | h
    · exact h
    · have := p.cnt; omega
  refine ⟨hclosed, ?_⟩
  exact cinv_run trace (by simp [init]) hclosed

/-- non-vacuity, the interleaving the comment in engine.go is about: the only instance runs out of ammo and its
result is taken BEFORE the start result; the start-result case must issue the cancel -/
example :
    let st := run (init 4) [.launch, .finish, .awaitInst, .startDone, .awaitStart]
    st.startResOpen = false ∧ st.running = 0 ∧ st.awaitedInstances = st.finishedCount ∧ st.cancelled = true := by
  decide

/-- **a run that ends by itself is complete** — composition of the pool and the queue models: any pool trace
without external cancel, any aggregator schedule that agrees with it on reports and cancel, any queue
size and reporter programs: when `Run` has returned, sink ++ counted drops is a permutation of all Report
calls, nothing is left queued or buffered, the sink is closed, the error counts the drops. -/
theorem C06_end_of_run_complete {β : Type} (cfg : Pandora.Model.AggQueue.Cfg) (progs : Nat → List β)
    (trace : List PEv) (hne : ∀ e ∈ trace, e ≠ PEv.extCancel) (sched : List Ev)
    (hcons : sched.filter isRC = (run (init Gen.AggQ.engineResultsToWait) trace).emitted) :
    let st := Pandora.Model.AggQueue.run cfg (Pandora.Model.AggQueue.init progs) sched
    st.phase = .returned →
      (st.out ++ st.dropped).Perm st.reports ∧ st.q = [] ∧ st.buf = [] ∧ st.closed = true ∧
      st.err = runErr cfg st.dropped.length := by
  intro st hret
  have hs := (C06_pool_cancel_after_reports trace hne).2.2 sched hcons
  obtain ⟨h1, _, _, h4, h5, h6, _, h8, h9⟩ := C06_queue_complete cfg progs sched hs hret
  refine ⟨h1, h4, h5, h6, ?_⟩
  unfold runErr
  cases hk : cfg.kind with
  | phout => exact (h8 hk).2.2.1
  | encoder => exact (h9 hk).1

/-- non-vacuity: two instances report and finish, the await loop sees both results and the start result, issues
the cancel; the aggregator returns, everything is awaited, `onWaitDone` -/
example :
    let st := run (init 4) [.launch, .launch, .startDone, .report 0, .finish, .awaitInst, .report 1, .finish,
      .awaitStart, .awaitInst, .aggReturn, .awaitAgg, .provReturn, .awaitProv, .waitDone]
    st.emitted = [Ev.report 0, Ev.report 1, Ev.cancel] ∧ st.waitDone = true ∧ st.toWait = 0 := by decide

/-- the guard matters: with `awaitedInstances >= startedInstances` alone (`startedInstances` is −1 until the
start result was taken) the cancel would be issued while instances are still being started -/
example :
    let st := run (init 4) [.launch, .finish, .awaitInst]
    st.cancelled = false ∧ st.startedInstances = -1 ∧ st.awaitedInstances = 1 := by decide

end Pool

/-! ## (v) from the await loop to `Engine.Run`'s return value; who runs under which context -/

section Engine
open Pandora.Model.C06Engine Pandora.Proofs.C06Engine Pandora.Proofs.C06Pool

/-- **`Engine.Run` returns nil only after every aggregator returned** — any number `n` of pools, every
interleaving of the pools' goroutines (each pool is the free-running await-loop system, external cancels
included), of the `pool.Run` selects, of the result sends/suppressions and of `Engine.Run`'s loop: if
`Engine.Run` returned nil then EVERY pool's `Run` returned nil, which it does only on the closed `awaitErr`,
i.e. after `awaitRun` was over: the pool's aggregator `Run` had returned (drained, flushed, closed) and its result was
taken, no instance is running, nothing was sent on a closed channel. This is the enabling condition of
`engineReturned true` in the shutdown model and what `kind=engine` of the harness observes.
The loop awaits `len(Pools)` results (`Bridge.AggQ.engineRunLoopBound_eq`), the await loop four
(`Gen.AggQ.engineResultsToWait`). -/
theorem C06_engine_nil_after_aggregators (n : Nat) (trace : List EEv) :
    let st := run (init n n Gen.AggQ.engineResultsToWait) trace
    st.ret = some true →
      ∀ j, j < n → (st.pools j).ret = some true ∧ (st.pools j).p.waitDone = true ∧
        (st.pools j).p.aggDone = true ∧ (st.pools j).p.aggOpen = false ∧ (st.pools j).p.runResOpen = false ∧
        (st.pools j).p.running = 0 ∧ (st.pools j).p.sendOnClosed = false := by
  rw [Bridge.AggQ.results_to_wait]
  intro st hret j hj
  have inv : EngInv st := enginv_run trace (enginv_init n n)
  have hn : st.n = n ∧ st.awaitN = n := n_run trace _
  have hle := inv.retOk hret
  have hcnt := inv.cnt
  have hle2 := countGot_le st.n st.got
  have hfull : countGot st.n st.got = st.n := by omega
  have hg := countGot_full st.n st.got hfull j (by omega)
  obtain ⟨_, _, hr⟩ := inv.gotOk j hg
  have hw := inv.retNil j hr
  obtain ⟨a, b, c, d, _⟩ := wd_all (inv.pinv j) hw
  exact ⟨hr, hw, a, b, c, d, (inv.pinv j).noSend⟩

/-- **a failed or cancelled run, after `Engine.Wait`** — whatever `Engine.Run` returned (nil, the error of
the first pool that failed, the context's error) and whatever the pools did: `Engine.Wait()` returns when every
pool has called `onWaitDone` (`wait.Add(1)` per pool, `Done` only there), and a pool whose `onWaitDone` has
happened has an aggregator that returned and was awaited, no running instance, a closed `runRes`, no send on a closed
channel. So the caller that cancels and waits — what cli.go does when the engine fails by itself or a signal
arrives — finds every result flushed and closed, the healthy pools' too. -/
theorem C06_engine_wait_after_aggregators (n : Nat) (trace : List EEv) :
    let st := run (init n n Gen.AggQ.engineResultsToWait) trace
    (∀ j, j < n → (st.pools j).p.waitDone = true) →
      ∀ j, j < n → (st.pools j).p.aggDone = true ∧ (st.pools j).p.aggOpen = false ∧
        (st.pools j).p.runResOpen = false ∧ (st.pools j).p.running = 0 ∧ (st.pools j).p.sendOnClosed = false := by
  rw [Bridge.AggQ.results_to_wait]
  intro st hw j hj
  have inv : EngInv st := enginv_run trace (enginv_init n n)
  obtain ⟨a, b, c, d, _⟩ := wd_all (inv.pinv j) (hw j hj)
  exact ⟨a, b, c, d, (inv.pinv j).noSend⟩

/-- non-vacuity: two pools; pool 0 fails (its `Run` returns an error while its tasks are still being awaited), the
engine returns that error; then both pools finish their tasks: `Wait` can return, both aggregators have returned -/
example :
    let pool : Nat → List EEv := fun j =>
      ([.launch, .startDone, .report 0, .finish, .awaitStart, .awaitInst, .aggReturn, .awaitAgg, .provReturn,
        .awaitProv, .waitDone] : List Pandora.Model.C06Pool.PEv).map (EEv.pool j)
    let st := run (init 2 2 Gen.AggQ.engineResultsToWait) ([.poolRetErr 0, .poolSend 0, .engRecv] ++ pool 0 ++ pool 1)
    st.ret = some false ∧ (st.pools 0).p.waitDone = true ∧ (st.pools 1).p.waitDone = true ∧
      (st.pools 1).p.aggDone = true := by decide

/-- the same for one pool, whatever the engine does: `pool.Run` returns nil only after its aggregator returned -/
theorem C06_engine_pool_nil_after_aggregator (n awaitN : Nat) (trace : List EEv) (j : Nat) :
    let st := run (init n awaitN Gen.AggQ.engineResultsToWait) trace
    (st.pools j).ret = some true → (st.pools j).p.aggDone = true ∧ (st.pools j).p.running = 0 := by
  rw [Bridge.AggQ.results_to_wait]
  intro st hr
  have inv : EngInv st := enginv_run trace (enginv_init n awaitN)
  obtain ⟨a, _, _, d, _⟩ := wd_all (inv.pinv j) (inv.retNil j hr)
  exact ⟨a, d⟩

/-- non-vacuity: two pools, each with one instance that reports and finishes; both pools wind down, both results
are received, `Engine.Run` returns nil -/
example :
    let pool : Nat → List EEv := fun j =>
      ([.launch, .startDone, .report 0, .finish, .awaitStart, .awaitInst, .aggReturn, .awaitAgg, .provReturn,
        .awaitProv, .waitDone] : List Pandora.Model.C06Pool.PEv).map (EEv.pool j) ++ [.poolRetClosed j, .poolSend j, .engRecv]
    (run (init 2 2 4) (pool 1 ++ pool 0 ++ [.engRetNil])).ret = some true := by decide

/-- the loop bound matters: a loop that awaits one result less returns nil while an aggregator is still running -/
theorem C06_engine_bound_counterexample :
    let st := run (init 1 0 4) [.engRetNil]
    st.ret = some true ∧ (st.pools 0).p.aggDone = false := by decide

/-- **who is cancelled by what** — read off the regenerated derivation table of `runAsync`: the aggregator (and
the provider) run under `runCtx`; `runCancel`, which the await loop calls once all instances have finished,
cancels it; `instanceStartCancel` (out of ammo while instances are still shooting, the shared schedule's finish)
cancels the instance-start context only — never the aggregator; a cancel from above (Engine.Run's context:
SIGINT/SIGTERM, another pool's failure) reaches the aggregator, nothing the pool does cancels the parent. -/
theorem C06_engine_contexts :
    Gen.AggQ.engineAggregatorRunCtx = [Gen.AggQ.engineHandleRunCtx] ∧
    (cancelledBy Gen.AggQ.engineCtxDerive Gen.AggQ.engineHandleRunCancel).contains Gen.AggQ.engineHandleRunCtx = true ∧
    (cancelledBy Gen.AggQ.engineCtxDerive Gen.AggQ.engineHandleInstanceStartCancel).contains Gen.AggQ.engineHandleRunCtx = false ∧
    (doneWith Gen.AggQ.engineCtxDerive Gen.AggQ.enginePoolCtxParam).contains Gen.AggQ.engineHandleRunCtx = true ∧
    (doneWith Gen.AggQ.engineCtxDerive Gen.AggQ.engineHandleRunCtx).contains Gen.AggQ.enginePoolCtxParam = false ∧
    Gen.AggQ.engineInstanceGoStmts = 0 := by
  have h := Bridge.AggQ.ctx_tree
  exact ⟨h.1, h.2.2.2.2.1, h.2.2.2.2.2.2.2.1, h.2.2.2.2.2.2.2.2.1, h.2.2.2.2.2.2.2.2.2, Bridge.AggQ.instance_run_synchronous.1⟩

/-- the functions of core/engine and cli between the await loop and the process exit are the ones the models of
(iii)–(v) were written from; so are phout's `handle` (sample released only after the write) and the sample pool
(`Acquire` overwrites the whole pooled sample) -/
theorem C06_source_shape_engine :
    Gen.AggQ.engineRun = Bridge.AggQ.engineRunExpected ∧
    Gen.AggQ.enginePoolRun = Bridge.AggQ.enginePoolRunExpected ∧
    Gen.AggQ.engineRunAsync = Bridge.AggQ.engineRunAsyncExpected ∧
    Gen.AggQ.engineStartInstances = Bridge.AggQ.engineStartInstancesExpected ∧
    Gen.AggQ.engineOnErrAwaited = Bridge.AggQ.engineOnErrAwaitedExpected ∧
    Gen.AggQ.engineRunNewInstance = Bridge.AggQ.engineRunNewInstanceExpected ∧
    Gen.AggQ.engineInstanceRun = Bridge.AggQ.engineInstanceRunExpected ∧
    Gen.AggQ.cliReadConfigAndRunEngine = Bridge.AggQ.cliReadConfigAndRunEngineExpected ∧
    Gen.AggQ.engineRunLoopBound = Bridge.AggQ.engineRunLoopBoundExpected ∧
    Gen.AggQ.phoutHandle = Bridge.AggQ.phoutHandleExpected ∧
    Gen.AggQ.sampleAcquire = Bridge.AggQ.sampleAcquireExpected ∧
    Gen.AggQ.sampleRelease = Bridge.AggQ.sampleReleaseExpected ∧
    Gen.AggQ.sampleDiscarded = Bridge.AggQ.sampleDiscardedExpected :=
  ⟨Bridge.AggQ.engineRun_eq, Bridge.AggQ.enginePoolRun_eq, Bridge.AggQ.engineRunAsync_eq,
   Bridge.AggQ.engineStartInstances_eq, Bridge.AggQ.engineOnErrAwaited_eq, Bridge.AggQ.engineRunNewInstance_eq,
   Bridge.AggQ.engineInstanceRun_eq, Bridge.AggQ.cliReadConfigAndRunEngine_eq, Bridge.AggQ.engineRunLoopBound_eq,
   Bridge.AggQ.phoutHandle_eq, Bridge.AggQ.sampleAcquire_eq, Bridge.AggQ.sampleRelease_eq, Bridge.AggQ.sampleDiscarded_eq⟩

end Engine

/-! ## (vi) a sink that starts to reject writes -/

section SinkFail
open Pandora.Model.C06SinkFail Pandora.Proofs.C06SinkFail

/-- **closed exactly once, whatever the sink does** — both aggregators, every schedule, the sink may start to
reject writes at any moment: the sink is closed exactly when `Run` has returned, once, and nothing is written
after the close (the deferred flush comes before the deferred close on every return path, the error paths
included). This is what the harness checks with `fail=N` / `kind=sinkfail`. -/
theorem C06_sinkfail_closed_once (kind : Kind) (trace : List Ev) :
    let st := run kind {} trace
    st.closes ≤ 1 ∧ (st.phase = .returned ↔ st.closes = 1) ∧ st.writeAfterClose = false := by
  intro st
  have inv : Inv kind st := inv_run kind trace (inv_init kind)
  by_cases hp : st.phase = .returned
  · have := (inv.done hp).1
    exact ⟨by omega, ⟨fun _ => this, fun _ => hp⟩, inv.wac⟩
  · have := (inv.live hp).2.2.2.1
    exact ⟨by omega, ⟨fun h => absurd h hp, fun h => by omega⟩, inv.wac⟩

/-- "a rejected write makes `Run` return an error" as a statement … -/
def C06_sinkfail_reported_statement : Prop :=
  ∀ (kind : Kind) (trace : List Ev), let st := run kind {} trace
    st.phase = .returned → st.failed = true → st.err = true

/-- … is false for both aggregators: the sink breaks after the last sample was handled; the final flush is
rejected; phout discards that error (`_ = a.writer.Flush()`), the JSON encoder discards the error of its bufio
layer (`_ = e.buf.Flush()`); `Run` returns nil and the lines are gone. (The property is silent about failing
sinks; listed in notes/C06.md as observed, not claimed.) -/
theorem C06_sinkfail_reported_counterexample : ¬ C06_sinkfail_reported_statement := by
  intro h
  have := h .phout [.report, .recv false, .sinkBreaks, .cancel, .seeCancel, .drain false] (by decide) (by decide)
  revert this
  decide

/-- the jsonlines witness of the same -/
example :
    let st := run .jsonlines {} [.report, .recv false, .sinkBreaks, .cancel, .seeCancel, .drain false]
    st.phase = .returned ∧ st.failed = true ∧ st.err = false ∧ st.written = 0 ∧ st.failedInLastFlush = true := by
  decide

/-- what holds instead (`_partial`), every schedule: `Run` returns an error exactly when an operation that hands
the writer's error to it (phout: `handle`, i.e. the next sample; jsonlines: the stream's flush, which every tick
and the return path perform) completed after the rejected write; hence for jsonlines the ONLY rejected write that is
not reported is the very last flush of the bufio layer; for phout it is one after which no sample was handled. -/
theorem C06_sinkfail_reported_partial (kind : Kind) (trace : List Ev) :
    let st := run kind {} trace
    st.phase = .returned →
      st.err = st.checkedAfterFail ∧
      (kind = .jsonlines → st.failed = true → st.err = false → st.failedInLastFlush = true) ∧
      (st.failedInLastFlush = true → st.failed = true ∧ st.err = false) := by
  intro st hp
  have inv : Inv kind st := inv_run kind trace (inv_init kind)
  exact ⟨(inv.done hp).2, fun hk => inv.json hk hp, inv.last⟩

/-- non-vacuity: a failure in a ticker flush IS reported by jsonlines (the next stream flush meets the sticky
error) and by phout as soon as one more sample is handled -/
example :
    (run .jsonlines {} [.report, .recv false, .sinkBreaks, .tick false, .cancel, .seeCancel, .drain false]).err = true ∧
    (run .phout {} [.report, .recv false, .sinkBreaks, .tick false, .report, .recv false]).err = true ∧
    (run .phout {} [.report, .recv false, .sinkBreaks, .tick false, .cancel, .seeCancel, .drain false]).err = false := by
  decide

end SinkFail

/-! ## the models are the code: regenerated control skeletons -/

/-- **tie to the source** — the control skeletons of the functions the three transition systems mirror, re-read
from /repo on every run (gen/area_aggq.go), are the ones the models were written from: Reporter
(non-blocking send, one `Inc` per drop, `DroppedErr` nil iff zero, the error text), the encoder aggregator's
`Run` (defer order: encoder close/flush runs before sink close + `DroppedErr`; select; drain loop), the JSON
encoder (value then LF; flush of both layers), phout's `Run`/`Report`, the pool's await loop and
`checkAllInstancesAreFinished` with `resultsToWait = 4`, `awaitPandoraTermination`; and the file sink opens
with `O_WRONLY|O_CREATE|O_TRUNC`, never `O_APPEND`. The expected skeletons are the `…Expected` strings of
`Pandora.Bridge.AggQ`. -/
theorem C06_source_shape :
    Gen.AggQ.reporterReport = Bridge.AggQ.reporterReportExpected ∧
    Gen.AggQ.reporterDropSample = Bridge.AggQ.reporterDropSampleExpected ∧
    Gen.AggQ.reporterDroppedErr = Bridge.AggQ.reporterDroppedErrExpected ∧
    Gen.AggQ.droppedErrorText = Bridge.AggQ.droppedErrorTextExpected ∧
    Gen.AggQ.newReporter = Bridge.AggQ.newReporterExpected ∧
    Gen.AggQ.encoderRun = Bridge.AggQ.encoderRunExpected ∧
    Gen.AggQ.encoderHandleSample = Bridge.AggQ.encoderHandleSampleExpected ∧
    Gen.AggQ.jsonEncode = Bridge.AggQ.jsonEncodeExpected ∧
    Gen.AggQ.jsonFlush = Bridge.AggQ.jsonFlushExpected ∧
    Gen.AggQ.newJSONLinesAggregator = Bridge.AggQ.newJSONLinesAggregatorExpected ∧
    Gen.AggQ.newJSONEncoder = Bridge.AggQ.newJSONEncoderExpected ∧
    Gen.AggQ.fileOpenSink = Bridge.AggQ.fileOpenSinkExpected ∧
    Gen.AggQ.phoutRun = Bridge.AggQ.phoutRunExpected ∧
    Gen.AggQ.phoutReport = Bridge.AggQ.phoutReportExpected ∧
    Gen.AggQ.newPhout = Bridge.AggQ.newPhoutExpected ∧
    Gen.AggQ.engineCheckAllFinished = Bridge.AggQ.engineCheckAllFinishedExpected ∧
    Gen.AggQ.engineIsStartFinished = Bridge.AggQ.engineIsStartFinishedExpected ∧
    Gen.AggQ.engineAwaitRun = Bridge.AggQ.engineAwaitRunExpected ∧
    Gen.AggQ.engineAwaitRunAsync = Bridge.AggQ.engineAwaitRunAsyncExpected ∧
    Gen.AggQ.engineWait = Bridge.AggQ.engineWaitExpected ∧
    Gen.AggQ.cliAwaitTermination = Bridge.AggQ.cliAwaitTerminationExpected ∧
    Gen.AggQ.cliRunEngine = Bridge.AggQ.cliRunEngineExpected ∧
    Gen.AggQ.engineResultsToWait = 4 ∧
    Gen.AggQ.fileOpenFlags &&& Gen.AggQ.osTRUNC = Gen.AggQ.osTRUNC ∧
    Gen.AggQ.fileOpenFlags &&& Gen.AggQ.osAPPEND = 0 :=
  ⟨Bridge.AggQ.reporterReport_eq, Bridge.AggQ.reporterDropSample_eq, Bridge.AggQ.reporterDroppedErr_eq, Bridge.AggQ.droppedErrorText_eq, Bridge.AggQ.newReporter_eq, Bridge.AggQ.encoderRun_eq, Bridge.AggQ.encoderHandleSample_eq, Bridge.AggQ.jsonEncode_eq, Bridge.AggQ.jsonFlush_eq, Bridge.AggQ.newJSONLinesAggregator_eq, Bridge.AggQ.newJSONEncoder_eq, Bridge.AggQ.fileOpenSink_eq, Bridge.AggQ.phoutRun_eq, Bridge.AggQ.phoutReport_eq, Bridge.AggQ.newPhout_eq, Bridge.AggQ.engineCheckAllFinished_eq, Bridge.AggQ.engineIsStartFinished_eq, Bridge.AggQ.engineAwaitRun_eq, Bridge.AggQ.engineAwaitRunAsync_eq, Bridge.AggQ.engineWait_eq, Bridge.AggQ.cliAwaitTermination_eq, Bridge.AggQ.cliRunEngine_eq,
   Bridge.AggQ.results_to_wait, Bridge.AggQ.file_flags.1, Bridge.AggQ.file_flags.2.2.1⟩

/-! ## (iii) process shutdown -/

section Cli
open Pandora.Model.CliShutdown Pandora.Proofs.C06Cli

/-- **shutdown** — on every path (every order of SIGINT/SIGTERM deliveries, engine return, task completion,
timer and the main goroutine's select choices) an exit of the process is preceded by the completion of all
engine tasks (aggregators flushed and closed), or by the shutdown timeout, or it is the forced exit on a
second signal; in particular no signal kills the process by its default action. The configuration (does the
signal branch wait, which signals are passed to `signal.Notify`, which cases cancel) is the one regenerated
from cli/cli.go (`Bridge.Cli.codeCfg`). -/
theorem C06_shutdown (trace : List Ev) (x : Exit)
    (h : (run Bridge.Cli.codeCfg {} trace).exit = some x) :
    x.flushed = true ∨
    (x.reason = .timeout ∧ (run Bridge.Cli.codeCfg {} trace).timerFired = true) ∨
    (x.reason = .secondSignal ∧ 2 ≤ (run Bridge.Cli.codeCfg {} trace).delivered) :=
  (inv_run Bridge.Cli.cli_good trace inv_init).exitOk x h

/-- one signal, no timeout: the result is complete -/
theorem C06_shutdown_single_signal (trace : List Ev) (x : Exit)
    (h : (run Bridge.Cli.codeCfg {} trace).exit = some x)
    (h1 : (run Bridge.Cli.codeCfg {} trace).delivered ≤ 1)
    (h2 : x.reason ≠ .timeout) : x.flushed = true := by
  rcases C06_shutdown trace x h with hf | ⟨ht, _⟩ | ⟨_, hd⟩
  · exact hf
  · exact absurd ht h2
  · omega

/-- **a signal cancels the run** — on every path: once the main goroutine has taken a signal (or the engine's
error) the run context is cancelled, and it is cancelled at every exit other than the normal finish; so the
engine is never left running into the interrupt timeout because nobody told it to stop. -/
theorem C06_shutdown_cancels (trace : List Ev) :
    let st := run Bridge.Cli.codeCfg {} trace
    ((st.pc = .sigWait ∨ st.pc = .sigWaitTasks ∨ st.pc = .errWait) → st.cancelled = true) ∧
    (∀ x, st.exit = some x → x.reason ≠ .finished → st.cancelled = true) :=
  ⟨(inv_run Bridge.Cli.cli_good trace inv_init).canc, (inv_run Bridge.Cli.cli_good trace inv_init).exitCanc⟩

/-- non-vacuity: SIGTERM, engine returns, tasks finish, exit — flushed, cancelled -/
example :
    (run Bridge.Cli.codeCfg {} [.signal .term, .takeSignal, .engineReturned false, .takeErrs, .tasksDone,
        .takeWaitDone]).exit = some ⟨.interrupted, true⟩ ∧
    (run Bridge.Cli.codeCfg {} [.signal .term, .takeSignal]).cancelled = true := by decide

/-- the code as found (exit as soon as `errs` is ready) does not have the property -/
theorem C06_shutdown_unrepaired_counterexample :
    ¬ (∀ (trace : List Ev) (x : Exit), (run { Cfg.repaired with waitOnErrs := false } {} trace).exit = some x →
        x.flushed = true ∨ x.reason = .timeout ∨ x.reason = .secondSignal) := by
  intro h
  have := h [.signal .term, .takeSignal, .engineReturned false, .takeErrs] ⟨.interrupted, false⟩ (by decide)
  simp at this

/-- `signal.Notify` without SIGTERM (e.g. `signal.Notify(sigs, os.Interrupt)`) does not have the property either:
SIGTERM then keeps its default action and ends the process at once, whatever is buffered is lost -/
theorem C06_shutdown_unnotified_counterexample :
    ¬ (∀ (trace : List Ev) (x : Exit),
        (run { Cfg.repaired with notified := fun s => s == .int } {} trace).exit = some x →
        x.flushed = true ∨ x.reason = .timeout ∨ x.reason = .secondSignal) := by
  intro h
  have := h [.signal .term] ⟨.killed, false⟩ (by decide)
  simp at this

/-- the engine fails by itself — one pool's provider, gun or aggregator failed, `Engine.Run` returned the
error and only CANCELLED the other pools — and the process would exit without `pandora.Wait()`: what the other
pools' aggregators still hold is lost. The code waits (`Gen.Cli.errsFirstBranchWaits`, part of `codeCfg`). -/
theorem C06_shutdown_failfirst_nowait_counterexample :
    ¬ (∀ (trace : List Ev) (x : Exit),
        (run { Cfg.repaired with waitOnFail := false } {} trace).exit = some x →
        x.flushed = true ∨ x.reason = .timeout ∨ x.reason = .secondSignal) := by
  intro h
  have := h [.engineReturned false, .takeErrs] ⟨.engineFailed, false⟩ (by decide)
  simp at this

/-- non-vacuity of `C06_shutdown` on that path: the engine fails, the main goroutine takes the error, cancels, waits
for the tasks, exits — flushed -/
example :
    (run Bridge.Cli.codeCfg {} [.engineReturned false, .takeErrs, .tasksDone, .takeWaitDone]).exit =
      some ⟨.engineFailed, true⟩ ∧
    (run Bridge.Cli.codeCfg {} [.engineReturned false, .takeErrs]).cancelled = true ∧
    (run Bridge.Cli.codeCfg {} [.engineReturned false, .takeErrs, .takeWaitDone]).exit = none := by decide

end Cli

/-! ## (vii) the error of the encoder aggregator when faults coincide -/

section ErrJoin
open Pandora.Model.C06ErrJoin Pandora.Proofs.C06ErrJoin

/-- `errutil.Join` and the deferred joins of `dataSinkAggregator.Run`, as regenerated from the source, are the
table and the order the model computes with -/
theorem C06_errjoin_regenerated :
    Bridge.ErrJoin.decodeTable Gen.AggQ.errutilJoinCases = some codeJoin ∧
    Bridge.ErrJoin.execOrder Gen.AggQ.encoderDeferJoins = some codeOrder :=
  ⟨Bridge.ErrJoin.join_table, Bridge.ErrJoin.defer_order⟩

/-- **the drop count is never masked** — whatever else goes wrong in the same run of a bounded-queue encoder
aggregator (the loop ended with an encode/flush error, the encoder's final Close/Flush failed, the sink's Close
failed; any combination) and however many samples were dropped: the error `Run` ends with contains the
`N samples were dropped` error with exactly the number of drops iff there were drops, it is nil iff nothing
failed and nothing was dropped, and every fault that happened is a member (none is swallowed by another). -/
theorem C06_encoder_drop_count_never_masked (f : Faults) :
    droppedOf (finalErr codeJoin codeOrder f) = (if f.dropped = 0 then none else some f.dropped) ∧
    (finalErr codeJoin codeOrder f = [] ↔
      (f.loop = false ∧ f.encFinal = false ∧ f.sinkClose = false ∧ f.dropped = 0)) ∧
    (Src.loop ∈ finalErr codeJoin codeOrder f ↔ f.loop = true) ∧
    (Src.encFinal ∈ finalErr codeJoin codeOrder f ↔ f.encFinal = true) ∧
    (Src.sinkClose ∈ finalErr codeJoin codeOrder f ↔ f.sinkClose = true) := by
  refine ⟨droppedOf_finalErr_code f _ (by decide), ?_, by simp [mem_finalErr_code], by simp [mem_finalErr_code],
    by simp [mem_finalErr_code]⟩
  rw [finalErr_code]
  simp [codeOrder, Faults.errOf, droppedErr]

/-- the same for ANY order in which the deferred functions might join (as long as the drop count is joined at
all): with the code's `Join` nothing depends on the order -/
theorem C06_encoder_drop_count_any_order (f : Faults) (order : List Joined) (hm : Joined.dropped ∈ order) :
    droppedOf (finalErr codeJoin order f) = (if f.dropped = 0 then none else some f.dropped) :=
  droppedOf_finalErr_code f order hm

/-- non-vacuity: everything fails at once and 7 samples were dropped -/
example : finalErr codeJoin codeOrder ⟨true, true, true, 7⟩ = [.loop, .encFinal, .sinkClose, .dropped 7] ∧
    droppedOf (finalErr codeJoin codeOrder ⟨true, true, true, 7⟩) = some 7 := by decide

/-- a `Join` that lets the first error win does not have the property: a failing `sink.Close()` hides the drops -/
theorem C06_encoder_join_firstwins_counterexample :
    ¬ (∀ f : Faults, droppedOf (finalErr firstWinsJoin codeOrder f) = (if f.dropped = 0 then none else some f.dropped)) := by
  intro h
  have := h ⟨false, false, true, 3⟩
  revert this; decide

end ErrJoin

/-! ## (viii) samples lent to the aggregator (`core.BorrowedSample`) -/

section Borrow
open Pandora.Model.C06Borrow Pandora.Proofs.C06Borrow

/-- **a recycled sample object is written with the values it was reported with** — the reporter owns any number
of sample objects, overwrites a free one for every report and gets it back through `Return()` (from `handleSample`
AFTER `Encode`, or from `dropSample` when the queue is full); whatever the interleaving of reports (accepted or
dropped), handling and re-use: every line written holds exactly the values of the report it stands for. The order
`Encode` … `ReturnSampleIfBorrowed` is pinned by `Bridge.AggQ.encoderHandleSample_eq`, the drop path by
`reporterDropSample_eq`; tied on the real aggregator by the harness's `borrow=` cases. -/
theorem C06_borrowed_written_as_reported (trace : List Ev) :
    ∀ p, p ∈ (run false {} trace).out → p.1 = p.2 :=
  (inv_run trace inv_init).o

/-- non-vacuity: two objects in flight, a dropped report, object 0 re-used after it came back -/
example :
    (run false {} [.report 0 7 true, .report 1 8 true, .report 2 5 false, .handle, .report 0 9 true, .handle,
        .handle]).out = [(7, 7), (8, 8), (9, 9)] := by decide

/-- handing the object back BEFORE it is encoded does not have the property: the owner re-uses it and the line
of the first report carries the values of the second -/
theorem C06_borrowed_early_return_counterexample :
    ¬ (∀ trace : List Ev, ∀ p, p ∈ (run true {} trace).out → p.1 = p.2) := by
  intro h
  have := h [.report 0 1 true, .earlyReturn, .report 0 2 true, .lateEncode] (2, 1) (by decide)
  simp at this

end Borrow

/-! ## (ix) instance start, `Engine.wait`, helpers, options -/

section Start
open Pandora.Model.C06Start Pandora.Proofs.C06Start

/-- **`startInstances` returns the number of instance goroutines it started** — whatever `waiter.Wait` and
`newInstance` return and whenever: `started` is the number of `go` statements executed, at most one ahead of it in
between (after the first `started++`, before the first `go`) and EQUAL to it on every return path — the first wait
fails, the first instance cannot be built, the start context ends after any number of instances. Each of those
goroutines sends exactly one result on `runRes` (`Bridge.AggQ.engineStartInstances_eq`, `engineRunNewInstance_eq`).
So what the pool's transition system (`Model.C06Pool`) sees of it is `.launch` per goroutine and `.startDone` at the
return, and the number the await loop stores at `.awaitStart` as `startedInstances` is that count: the reading
behind `C06_pool_cancel_after_reports` (`awaitedInstances ≥ startedInstances` ⇒ no instance is running). -/
theorem C06_start_count_exact (trace : List SEv) :
    let st := run {} {} trace
    let pst := Pandora.Model.C06Pool.run (Pandora.Model.C06Pool.init Gen.AggQ.engineResultsToWait) (poolTrace {} {} trace)
    st.launched ≤ st.started ∧ st.started ≤ st.launched + 1 ∧
    (st.pc = .returned → st.started = st.launched) ∧
    pst.launched = st.launched ∧ pst.running = st.launched ∧ (pst.startSent = true ↔ st.pc = .returned) ∧
    (st.pc = .returned →
      (Pandora.Model.C06Pool.step pst .awaitStart).startedInstances = (st.started : Int)) := by
  intro st pst
  have hs : SInv st := sinv_run trace sinv_init
  have hr : Rel _ st pst := rel_run {} trace (rel_init _)
  obtain ⟨h1, _⟩ := hs
  obtain ⟨r1, r2, _, r4, htw, hopen⟩ := hr
  have hret : st.pc = .returned → st.started = st.launched := by
    intro hp; rw [hp] at h1; simpa using h1
  refine ⟨?_, ?_, hret, r1, r2, r4, ?_⟩
  · split at h1 <;> omega
  · split at h1 <;> omega
  · intro hp
    have hsent : pst.startSent = true := r4.2 hp
    have htw : pst.toWait = 4 := htw.trans Bridge.AggQ.results_to_wait
    have key : (Pandora.Model.C06Pool.step pst .awaitStart).startedInstances = (pst.launched : Int) := by
      simp only [Pandora.Model.C06Pool.step, htw, hopen, hsent, Pandora.Model.C06Pool.PSt.check]
      rw [if_pos (by decide)]; split <;> rfl
    rw [key, r1, hret hp]

/-- non-vacuity: two instances are started, then the start context ends; and the first instance cannot be built -/
example :
    let st := run {} {} [.wait true, .newInstance true, .go, .wait true, .go, .wait false]
    st.pc = .returned ∧ st.started = 2 ∧ st.launched = 2 ∧ st.err = false := by decide

example :
    let st := run {} {} [.wait true, .newInstance false, .go, .wait true]
    st.pc = .returned ∧ st.started = 0 ∧ st.launched = 0 ∧ st.err = true := by decide

/-- counting the first instance BEFORE the check of `newInstance`'s error does not have the property: when the
first instance cannot be built `startInstances` returns 1 with no goroutine started — the await loop then waits
for a run result that never comes and never gets to its cancel -/
theorem C06_start_count_before_check_counterexample :
    ¬ (∀ trace : List SEv, let st := run { countBeforeCheck := true } {} trace
        st.pc = .returned → st.started = st.launched) := by
  intro h
  have := h [.wait true, .newInstance false] (by decide)
  revert this; decide

end Start

section PoolRun
open Pandora.Model.C06PoolRun Pandora.Proofs.C06PoolRun Pandora.Proofs.C06Pool Pandora.Proofs.C06Engine

/-- **`onWaitDone` is called exactly once per pool, on every way out of `instancePool.Run`** — any number of
pools, every interleaving of warm-up / `runAsync` failures, of the started pools' tasks (each the free-running
system of `Model.C06Pool`, outside cancels included) and of `Run` leaving through `<-ctx.Done()`: a pool has at
most one `Done`; it has one exactly when it failed before anything was started, or when its await goroutine is
over. -/
theorem C06_poolrun_done_once (trace : List Ev) (j : Nat) :
    let st := run Cfg.code (init Gen.AggQ.engineResultsToWait) trace
    (st.pools j).dones ≤ 1 ∧
    ((st.pools j).dones = 1 ↔
      (st.pools j).path = .failedEarly ∨ ((st.pools j).path = .started ∧ (st.pools j).p.waitDone = true)) := by
  rw [Bridge.AggQ.results_to_wait]
  intro st
  have inv : RInv (st.pools j) := rinv_run trace (fun _ => rinv_init) j
  refine ⟨rinv_dones_le inv, ?_⟩
  cases hp : (st.pools j).path with
  | fresh => simp [inv.fresh hp]
  | failedEarly => simp [inv.early hp]
  | started =>
    rw [inv.started hp]
    cases (st.pools j).p.waitDone <;> simp

/-- **when `Engine.Wait()` can return** (n pools, `wait.Add(1)` each): the counter never goes negative (no
"negative WaitGroup counter" panic), and when it is back at zero every pool either failed before anything was
started — its tasks never took a step: no instance, no Report, its aggregator's `Run` was never called — or its
aggregator has returned and was awaited, its `runRes` is closed, no instance is running and nothing was sent on a
closed channel. This is `C06_engine_wait_after_aggregators` with the early ways out of `Run` included. -/
theorem C06_engine_wait_exact (n : Nat) (trace : List Ev) :
    let st := run Cfg.code (init Gen.AggQ.engineResultsToWait) trace
    ¬ negativeCounter st n ∧
    (waitReturns st n → ∀ j, j < n →
      ((st.pools j).path = .failedEarly ∧ (st.pools j).p = Pandora.Model.C06Pool.init Gen.AggQ.engineResultsToWait) ∨
      ((st.pools j).path = .started ∧ (st.pools j).p.aggDone = true ∧ (st.pools j).p.aggOpen = false ∧
        (st.pools j).p.runResOpen = false ∧ (st.pools j).p.running = 0 ∧ (st.pools j).p.sendOnClosed = false)) := by
  rw [Bridge.AggQ.results_to_wait]
  intro st
  have inv : ∀ k, RInv (st.pools k) := rinv_run trace (fun _ => rinv_init)
  refine ⟨?_, ?_⟩
  · have := totalDones_le st inv n
    unfold negativeCounter; omega
  · intro hw j hj
    have hd := totalDones_full st inv n hw j hj
    have ij := inv j
    cases hp : (st.pools j).path with
    | fresh => have := ij.fresh hp; omega
    | failedEarly =>
      left
      refine ⟨rfl, ?_⟩
      exact ij.untouched (by rw [hp]; decide)
    | started =>
      right
      have h1 := ij.started hp
      have hwd : (st.pools j).p.waitDone = true := by
        cases h : (st.pools j).p.waitDone with
        | true => rfl
        | false => rw [h] at h1; simp at h1; omega
      obtain ⟨a, b, c, d, _⟩ := wd_all ij.pinv hwd
      exact ⟨rfl, a, b, c, d, ij.pinv.noSend⟩

set_option maxRecDepth 8000 in
/-- non-vacuity: three pools — pool 0's warm-up fails, pool 1 runs to its end, pool 2 is cancelled from outside
while an instance is running and winds down: `Wait` can return, both started aggregators have returned -/
example :
    let tasks : Nat → List Ev := fun j =>
      ([.launch, .startDone, .report 0, .extCancel, .finish, .awaitStart, .awaitInst, .aggReturn, .awaitAgg, .provReturn,
        .awaitProv, .waitDone] : List Pandora.Model.C06Pool.PEv).map (Ev.pool j)
    let st := run Cfg.code (init 4) ([.warmFail 0, .asyncOk 1, .asyncOk 2, .ctxReturn 2] ++ tasks 2 ++ tasks 1)
    waitReturns st 3 ∧ (st.pools 0).path = .failedEarly ∧ (st.pools 1).p.aggDone = true ∧ (st.pools 2).p.aggDone = true := by
  decide

/-- a `Run` that calls `onWaitDone` also when it leaves through `<-ctx.Done()` does not have the property: with one
pool `Wait` can return while the aggregator is still running (what is queued is lost when the process exits), and
when the await goroutine is over as well the counter goes negative -/
theorem C06_poolrun_done_on_ctx_counterexample :
    let cfg : Cfg := { Cfg.code with doneOnCtxDone := true }
    let st := run cfg (init 4) [.asyncOk 0, .ctxReturn 0]
    (waitReturns st 1 ∧ (st.pools 0).p.aggDone = false) ∧
    negativeCounter (run cfg st (([.startDone, .awaitStart, .aggReturn, .awaitAgg, .provReturn, .awaitProv, .waitDone] :
      List Pandora.Model.C06Pool.PEv).map (Ev.pool 0))) 1 := by decide

/-- a `Run` that forgets `onWaitDone` when `runAsync` fails: whatever happens afterwards `Engine.Wait` never
returns (the caller is left with its own timeout) -/
theorem C06_poolrun_forgotten_done_counterexample (n j : Nat) (hj : j < n) (trace : List Ev) :
    let cfg : Cfg := { Cfg.code with doneOnAsyncFail := false }
    ¬ waitReturns (run cfg (step cfg (init 4) (.asyncFail j)) trace) n ∨
    ∃ k, 1 < ((run cfg (step cfg (init 4) (.asyncFail j)) trace).pools k).dones := by
  intro cfg
  by_cases hle : ∀ k, ((run cfg (step cfg (init 4) (.asyncFail j)) trace).pools k).dones ≤ 1
  · left
    have h0 : ((step cfg (init 4) (.asyncFail j)).pools j).path = .failedEarly ∧
        ((step cfg (init 4) (.asyncFail j)).pools j).dones = 0 := by
      simp [step, init, Proofs.C06PoolRun.setPool_same, cfg, done1]
    have := forgotten_run cfg trace j h0
    have := totalDones_lt _ n j hj this hle
    unfold waitReturns; omega
  · right
    obtain ⟨k, hk⟩ := Classical.not_forall.mp hle
    exact ⟨k, Nat.lt_of_not_le hk⟩

end PoolRun

section DropCount
open Pandora.Model.C06DropCount Pandora.Proofs.C06DropCount

/-- **the drop counter counts every dropped sample, whatever the number of reporters and their interleaving**
(`Reporter.dropSample`, `samplesDropped.Inc()` — one atomic read-modify-write; pinned by
`Bridge.AggQ.reporterDropSample_eq`): after any schedule of atomic steps the counter equals the number of completed
`dropSample` calls, which is the number of steps, and exactly one call — the first — saw `dropped == 1`. This is what
lets the queue model (`C06_queue_any_schedule`: `err = droppedErr |dropped|`) take a dropped Report as ONE event. -/
theorem C06_dropcount_exact (sched : List Nat) :
    let st := run .inc {} sched
    st.c = sched.length ∧ st.done = sched.length ∧ st.first = (if sched.length = 0 then 0 else 1) := by
  intro st
  have h : CInv (0 + sched.length) st := inc_run sched cinv_init
  rwa [Nat.zero_add] at h

/-- non-vacuity: three reporters, five drops -/
example : (run .inc {} [0, 1, 2, 1, 0]).c = 5 ∧ (run .inc {} [0, 1, 2, 1, 0]).first = 1 := by decide

/-- a counter bumped by `Store(Load() + 1)` does not have the property: two reporters, two drops, the error says one -/
theorem C06_dropcount_loadstore_counterexample :
    ¬ (∀ sched : List Nat, (run .loadStore {} sched).c = (run .loadStore {} sched).done) := by
  intro h
  have := h [0, 1, 0, 1]
  revert this; decide

/-- a compare-and-swap that is retried ONCE is right for the race it was written for — two reporters: the loser's
second attempt succeeds — and wrong for three: the third reporter loses twice and its drop is in nobody's count -/
theorem C06_dropcount_cas_retry_once_counterexample :
    ((run .casRetryOnce {} [0, 1, 0, 1, 1, 1]).done = 2 ∧ (run .casRetryOnce {} [0, 1, 0, 1, 1, 1]).c = 2) ∧
    ¬ (∀ sched : List Nat, (run .casRetryOnce {} sched).c = (run .casRetryOnce {} sched).done) := by
  refine ⟨by decide, ?_⟩
  intro h
  have := h [0, 1, 2, 0, 1, 2, 1, 2, 1, 2]
  revert this; decide

end DropCount

section ResChan
open Pandora.Model.C06ResChan Pandora.Proofs.C06ResChan

/-- **no instance result is lost in the pool's `runRes` channel, whatever its capacity and however many instances
finish before the await loop gets to receive** (sends block: `Bridge.AggQ.engineStartInstances_eq` pins the plain
`runRes <- …`): for every capacity and every interleaving of sends and receives, received + buffered + waiting =
sent, nothing is dropped, and while a result is outstanding the await loop's receive case is enabled. This is the
reading behind the pool model's `awaitedInstances < finishedCount`; tied behaviourally by the harness's `slowlog=`
cases (100–200 instances finished while the await loop is held up). -/
theorem C06_reschan_no_result_lost (cap : Nat) (trace : List Ev) :
    let st := run true { cap := cap } trace
    st.received + st.buffered + st.blocked = st.sent ∧ st.lost = 0 ∧ st.buffered ≤ cap ∧
    (st.received < st.sent → canRecv st = true) := by
  intro st
  have inv : CInv st := cinv_run true trace (cinv_init cap)
  obtain ⟨hcap, hl⟩ : st.cap = cap ∧ st.lost = 0 := fixed_run trace { cap := cap }
  obtain ⟨h1, h2, _⟩ := inv
  refine ⟨by omega, hl, by omega, ?_⟩
  intro hlt
  simp only [canRecv, Bool.or_eq_true, decide_eq_true_eq]
  omega

/-- non-vacuity: capacity 2, four instances finish before the loop receives anything — two wait, all four arrive -/
example :
    let st := run true { cap := 2 } [.send, .send, .send, .send, .recv, .recv, .recv, .recv]
    st.received = 4 ∧ st.lost = 0 ∧ (run true { cap := 2 } [.send, .send, .send, .send]).blocked = 2 := by decide

/-- a send that gives up when the buffer is full (`select { case runRes <- res: default: }`) does not have the
property, for ANY capacity: `cap + 1` instances finishing before the await loop receives lose a result — the loop
then waits for ever for `awaitedInstances ≥ startedInstances` and never issues the aggregator's cancel -/
theorem C06_reschan_nonblocking_counterexample (cap : Nat) :
    (run false { cap := cap } (List.replicate (cap + 1) .send)).lost = 1 := by
  rw [sends_lost _ _ (Nat.zero_le _)]
  simp

end ResChan

section HelperShape
open Pandora.Gen.AggQ

/-- **the helpers every sample and every byte goes through, the pool's start-up path, options and registration
are the ones the models and the harness were written from** (regenerated from /repo on every run): phout's wrapper
makes one synchronous `Report` of the wrapped aggregator; the callback writer between the JSON encoder and the sink
passes bytes and result through; a borrowed sample is returned once; `IsCtxError`; `buildNewInstanceSchedule` and
its on-finish callback, which gets `instanceStartCtx` / `instanceStartCancel` (cancels the instance START only:
`C06_engine_contexts`); `warmUpGun`, `newInstance`, `newPool`; a fresh `Reporter` per encoder aggregator; the option
names and `validate` tags of both aggregators and the file sink; what `core/import` registers as `phout`,
`jsonlines`, `json`, `file`; the writers' buffer size is positive whatever `buffer-size` says. -/
theorem C06_source_shape_round4 :
    wrapReport = Bridge.AggQ.wrapReportExpected ∧ wrapAggregator = Bridge.AggQ.wrapAggregatorExpected ∧
    callbackWriter = Bridge.AggQ.callbackWriterExpected ∧ returnIfBorrowed = Bridge.AggQ.returnIfBorrowedExpected ∧
    bufferSizeOrDefault = Bridge.AggQ.bufferSizeOrDefaultExpected ∧ isCtxError = Bridge.AggQ.isCtxErrorExpected ∧
    engineBuildSchedule = Bridge.AggQ.engineBuildScheduleExpected ∧
    engineScheduleFinish = Bridge.AggQ.engineScheduleFinishExpected ∧
    engineBuildScheduleArgs = [engineHandleInstanceStartCtx, engineHandleInstanceStartCancel] ∧
    engineWarmUpGun = Bridge.AggQ.engineWarmUpGunExpected ∧ engineNewInstance = Bridge.AggQ.engineNewInstanceExpected ∧
    engineNewAwaitRunHandle = Bridge.AggQ.engineNewAwaitRunHandleExpected ∧
    engineNewPool = Bridge.AggQ.engineNewPoolExpected ∧
    newEncoderAggregator = Bridge.AggQ.newEncoderAggregatorExpected ∧
    Bridge.AggQ.optionOf phoutConfigFields "ID" = some ("id", "") ∧
    Bridge.AggQ.optionOf phoutConfigFields "SampleQueueSize" = some ("sample-queue-size", "min=0") ∧
    Bridge.AggQ.optionOf jsonlinesConfigFields "EncoderAggregatorConfig.ReporterConfig.SampleQueueSize" =
      some ("sample-queue-size", "min=1") ∧
    (Bridge.AggQ.registered "Aggregator" "phout").map (·.2) = some "netsample.DefaultPhoutConfig" ∧
    (Bridge.AggQ.registered "Aggregator" "jsonlines").map (·.1) = some "aggregator.NewJSONLinesAggregator" ∧
    (∀ n, 0 < Bridge.AggQ.bufSize n) :=
  ⟨Bridge.AggQ.wrapReport_eq, Bridge.AggQ.wrapAggregator_eq, Bridge.AggQ.callbackWriter_eq,
   Bridge.AggQ.returnIfBorrowed_eq, Bridge.AggQ.bufferSizeOrDefault_eq, Bridge.AggQ.isCtxError_eq,
   Bridge.AggQ.engineBuildSchedule_eq, Bridge.AggQ.engineScheduleFinish_eq, Bridge.AggQ.schedule_finish_args,
   Bridge.AggQ.engineWarmUpGun_eq, Bridge.AggQ.engineNewInstance_eq, Bridge.AggQ.engineNewAwaitRunHandle_eq,
   Bridge.AggQ.engineNewPool_eq, Bridge.AggQ.newEncoderAggregator_eq, Bridge.AggQ.options.2.1, Bridge.AggQ.options.1,
   Bridge.AggQ.options.2.2.2.2.1, by rw [Bridge.AggQ.registrations.1]; rfl, by rw [Bridge.AggQ.registrations.2.1]; rfl,
   fun n => (Bridge.AggQ.bufSize_ok n).1⟩

/-- the wrapper around a pool's SHARED rps schedule (`coreutil.NewCallbackOnFinishSchedule`, a helper the engine
depends on): tokens are the wrapped schedule's, the on-finish callback — which stops the instance start
(`C06_source_shape_round4`: it gets `instanceStartCtx` / `instanceStartCancel`) — is called through one `sync.Once`,
only when the schedule has no token left; tied behaviourally by the harness's `shared=` engine cases -/
theorem C06_source_shape_shared_schedule :
    newCallbackSchedule = Bridge.AggQ.newCallbackScheduleExpected ∧
    callbackScheduleNext = Bridge.AggQ.callbackScheduleNextExpected ∧
    callbackScheduleLeft = Bridge.AggQ.callbackScheduleLeftExpected :=
  ⟨Bridge.AggQ.newCallbackSchedule_eq, Bridge.AggQ.callbackScheduleNext_eq, Bridge.AggQ.callbackScheduleLeft_eq⟩

/-- the representation the line theorems assume (regenerated: `Sample.fields` is `[10]int` / `[10]int64`): the ten
values are 64-bit machine integers, so "ALL integer values" of `C06_phout_wellformed` covers everything a setter can
be given; a narrower element type (int32) wraps durations of 36 min and more and byte counts from 2 GiB on — the
harness's boundary field values (`math.MaxInt64`, 2^31 …) show that as `fail:value` -/
theorem C06_sample_fields_64bit :
    (sampleFieldsElem = "int" ∨ sampleFieldsElem = "int64") ∧ sampleFieldsLen = 10 := Bridge.AggQ.sample_fields_wide

/-- **both result destinations start empty**: phout's file (`NewPhout`, through `Fs.Create` or `Fs.OpenFile` —
regenerated flags) and the file sink's (`OpenSink`) are opened for writing, created, TRUNCATED, never appended to:
"every reported sample appears exactly once" is about the file, and a file that kept lines of an earlier run would
hold lines nobody reported (tied behaviourally by `sink=file`, `conf=`, `kind=proc`: 3000 stale lines at the
destination) -/
theorem C06_destinations_truncated :
    (phoutOpenFlags &&& osTRUNC = osTRUNC ∧ phoutOpenFlags &&& osCREATE = osCREATE ∧ phoutOpenFlags &&& osAPPEND = 0) ∧
    (fileOpenFlags &&& osTRUNC = osTRUNC ∧ fileOpenFlags &&& osCREATE = osCREATE ∧ fileOpenFlags &&& osAPPEND = 0) :=
  ⟨⟨Bridge.AggQ.phout_flags.1, Bridge.AggQ.phout_flags.2.1, Bridge.AggQ.phout_flags.2.2.1⟩, by decide⟩

end HelperShape

/-! ## (x)–(xiii) the shared standard output, whole lines, who cancels the healthy pools, one goroutine per writer -/

section Shared
open Pandora.Model.C06Shared Pandora.Proofs.C06R6

/-- **several pools report to the standard output** (`result: {type: phout}` without destination) — for EVERY
interleaving of the aggregators' handling, periodic flushes and returns, any number of aggregators, in the configuration
the regenerated facts describe (`Bridge.C06R6.sharedCfg`: the closer of a destination-less aggregator calls nothing, the
deferred function always flushes): the shared output is never closed by an aggregator, no write is ever refused, every
line an aggregator handled is on the output or still in ITS buffer, in order — and once its `Run` has returned, every
line it handled is on the output, in the order it was handled, whatever the other aggregators do before or after. -/
theorem C06_shared_stdout_complete (trace : List Ev) :
    let st := run Bridge.C06R6.sharedCfg init trace
    st.isOpen = true ∧ st.lost = [] ∧
    (∀ j, ofAgg j st.handled = ofAgg j st.out ++ st.buf j) ∧
    (∀ j, st.done j = true → ofAgg j st.out = ofAgg j st.handled) := by
  intro st
  have h : Inv st := by
    show Inv (run Bridge.C06R6.sharedCfg init trace)
    rw [Bridge.C06R6.shared_is_code]
    exact inv_run trace inv_init
  exact ⟨h.isOpen, h.lost, h.acct, fun j hd => by rw [h.acct j, h.doneEmpty j hd, List.append_nil]⟩

/-- non-vacuity: two aggregators, the first ends while the second is still being reported to -/
example :
    let st := run Bridge.C06R6.sharedCfg init
      [.handle 0 1, .handle 1 7, .flush 1, .handle 0 2, .finish 0, .handle 1 8, .finish 1]
    st.done 0 = true ∧ st.done 1 = true ∧ st.out = [(1, 7), (0, 1), (0, 2), (1, 8)] ∧ st.isOpen = true := by
  decide

/-- the code as found before 61cfda1 (the aggregator that ends first closes `os.Stdout`): the other aggregator's lines
are refused — "write /dev/stdout: file already closed" (harness: `kind=stdout pools=2`, `kind=proc … res=stdout2`) -/
theorem C06_shared_stdout_closing_counterexample :
    let st := run { closesShared := true, finalFlush := true } init [.handle 0 1, .handle 1 7, .finish 0, .finish 1]
    st.out = [(0, 1)] ∧ st.lost = [(1, 7)] ∧ st.isOpen = false := by decide

/-- a "do not close stdout" guard that leaves the deferred function before the final flush: everything handled since
the last periodic flush is lost, for a single aggregator already (harness: `kind=stdout pools=1`) -/
theorem C06_shared_stdout_noflush_counterexample :
    let st := run { closesShared := false, finalFlush := false } init [.handle 0 1, .finish 0]
    st.out = [] ∧ st.lost = [(0, 1)] ∧ st.done 0 = true := by decide

end Shared

section WholeLines
open Pandora.Model.C06WholeLines Pandora.Proofs.C06WholeLines

/-- **only whole lines are handed to the destination** (the repaired `handle`, 89739df; `bufio.Writer.Write` at the level
of bytes) — for EVERY buffer size and EVERY sequence of encoded lines (each non-empty: it ends with its LF; a line may
be longer than the buffer): when everything was handled and the final flush is done, the list of `Write` calls the
destination saw is a grouping of the lines — each write is the concatenation of consecutive whole lines, all lines are
there once, in order, nothing is left in the buffer. -/
theorem C06_phout_writes_whole_lines (N : Nat) (lines : List Bytes) (hne : ∀ l ∈ lines, l ≠ []) :
    let w := (runLines true N {} lines).flush
    w.buf = [] ∧ ∃ groups : List (List Bytes), w.writes = groups.map List.flatten ∧ groups.flatten = lines := by
  intro w
  have g : Good ([] ++ lines) (runLines true N {} lines) := good_run N lines [] {} ⟨[], [], rfl, rfl, rfl⟩
  obtain ⟨groups, pending, hw, hb, hh⟩ := good_flush g
  have hbuf := flush_buf (runLines true N {} lines)
  refine ⟨hbuf, groups, hw, ?_⟩
  have hp : pending = [] := by
    cases pending with
    | nil => rfl
    | cons l rest =>
      have hl : l ∈ lines := by
        rw [List.nil_append] at hh
        rw [← hh]; simp
      have h0 : (l :: rest).flatten = [] := hb.symm.trans hbuf
      have : l = [] := by
        simp at h0
        exact h0.1
      exact absurd this (hne l hl)
  rw [hp, List.append_nil, List.nil_append] at hh
  exact hh

/-- non-vacuity: a buffer of 8 bytes, lines of 3, 6 and 11 bytes (the last one longer than the buffer) -/
example :
    (runLines true 8 {} [[97, 98, 10], [99, 100, 101, 102, 103, 10], [49, 50, 51, 52, 53, 54, 55, 56, 57, 48, 10]]).flush.writes =
      [[97, 98, 10], [99, 100, 101, 102, 103, 10], [49, 50, 51, 52, 53, 54, 55, 56, 57, 48, 10]] := by decide

/-- **the writes of any number of aggregators, interleaved in any way, make a well-formed file**: if every write
(chunk) is a concatenation of whole LF-terminated, LF-free lines — `C06_phout_writes_whole_lines` — then the
concatenation of the chunks in the order they reached the shared output splits on LF into exactly all those lines. -/
theorem C06_shared_whole_lines (chunks : List (List Bytes)) (h : ∀ c ∈ chunks, ∀ l ∈ c, LF ∉ l) :
    fileLines (chunks.flatMap fun c => c.flatMap (fun l => l ++ [LF])) = some chunks.flatten := by
  have key : (chunks.flatMap fun c => c.flatMap (fun l => l ++ [LF])) = chunks.flatten.flatMap (fun l => l ++ [LF]) := by
    rw [← List.flatMap_id, List.flatMap_assoc]; rfl
  rw [key]
  exact fileLines_of_lines chunks.flatten (by
    intro b hb
    obtain ⟨c, hc, hbc⟩ := List.mem_flatten.mp hb
    exact h c hc b hbc)

/-- the `handle` as found before 89739df: with a buffer of 4 bytes the lines "ab⏎", "cd⏎" reach the destination as
"ab⏎c" and "d⏎"; another aggregator's "x⏎" written in between makes the file "ab", "cx", "d": two lines nobody
reported (harness: `kind=stdout pools=3 … buf=4096`, 105 such lines of 4950) -/
theorem C06_phout_torn_line_counterexample :
    (runLines false 4 {} [[97, 98, 10], [99, 100, 10]]).flush.writes = [[97, 98, 10, 99], [100, 10]] ∧
    fileLines ([97, 98, 10, 99] ++ [120, 10] ++ [100, 10]) = some [[97, 98], [99, 120], [100]] := by decide

end WholeLines

section FailCancel
open Pandora.Model.C06FailCancel Pandora.Proofs.C06R6

/-- **one pool fails while others are still shooting** — for every number of pools, every event order, in the
configuration the regenerated facts describe (`Bridge.C06R6.failCfg`): from the moment the main goroutine has taken the
engine's error (and starts to wait, bounded by the 3 s timer) the context of the healthy pools IS cancelled; once it is
cancelled every pool that has not ended can end (its aggregator drains, flushes, closes), and when all have ended the
process leaves through `pandora.Wait()` with everything flushed — the timer is never the only way out. -/
theorem C06_failcancel_healthy_pools_cancelled (n : Nat) (se : Nat → Bool) (trace : List Ev) :
    let st := run Bridge.C06R6.failCfg (init n se) trace
    (st.errsTaken = true → st.cancelled = true) ∧
    (st.cancelled = true → st.exit = none → ∀ j, j < st.n →
      (step Bridge.C06R6.failCfg st (.poolEnds j)).ended j = true) ∧
    (st.errsTaken = true → st.exit = none → st.allEnded = true →
      (step Bridge.C06R6.failCfg st .waitReturns).exit = some true) := by
  intro st
  have h : FInv Bridge.C06R6.failCfg st := finv_run trace (finv_init _ n se)
  refine ⟨?_, ?_, ?_⟩
  · intro he
    rcases Bridge.C06R6.fail_cancel_source with h1 | h1
    · exact h.byEngine (h.returned he) h1
    · exact h.byCli he h1
  · intro hc hx j hj
    simp [step, hc, hx, hj, setAt]
  · intro he hx ha
    simp [step, he, hx, ha]

/-- each of the three cancels alone is enough once `runEngine` has returned (they are redundant: removing one of them
is harmless, removing all of them is `C06_failcancel_nobody_counterexample`) -/
theorem C06_failcancel_any_source (cfg : Cfg) (hsrc : cfg.anySource = true) (n : Nat) (se : Nat → Bool)
    (trace : List Ev) :
    let st := run cfg (init n se) trace
    st.runEngineDone = true → st.cancelled = true := by
  intro st hd
  have h : FInv cfg st := finv_run trace (finv_init _ n se)
  have he := h.taken hd
  simp only [Cfg.anySource, Bool.or_eq_true] at hsrc
  rcases hsrc with (h1 | h1) | h1
  · exact h.byEngine (h.returned he) h1
  · exact h.byCli he h1
  · exact h.byRunEngine hd h1

/-- non-vacuity: pool 0 fails, pool 1 is healthy and would shoot for hours: it is cancelled, ends, the exit is flushed -/
example :
    let st := run Bridge.C06R6.failCfg (init 2 (fun _ => false))
      [.poolFails 0, .engineReturns, .takeErrs, .runEngineReturns, .poolEnds 0, .poolEnds 1, .waitReturns]
    st.errsTaken = true ∧ st.cancelled = true ∧ st.ended 1 = true ∧ st.exit = some true := by decide

/-- **nobody cancels** (none of the three cancels is there — `Engine.Run` "the caller owns ctx", cli.go "Engine.Run
cancels what it started"): a healthy pool whose schedule goes on never ends, and EVERY exit of the process is without its
final flush (the 3 s timer) — whatever the event order. -/
theorem C06_failcancel_nobody_counterexample (trace : List Ev) (hne : ∀ e ∈ trace, e ≠ .poolFails 1) :
    let st := run noCancel (init 2 (fun _ => false)) trace
    st.ended 1 = false ∧ ∀ x, st.exit = some x → x = false := by
  intro st
  have h : NInv st := ninv_run trace ⟨rfl, rfl, rfl, rfl, rfl, by intro x hx; simp [init] at hx⟩ hne
  exact ⟨h.ne, h.ex⟩

/-- … and such an exit is reached -/
example :
    (run noCancel (init 2 (fun _ => false)) [.poolFails 0, .engineReturns, .takeErrs, .poolEnds 0, .poolEnds 1,
      .waitReturns, .timerFires]).exit = some false := by decide

end FailCancel

section BufRace
open Pandora.Model.C06BufRace Pandora.Proofs.C06R6

/-- **one goroutine per buffered writer** — when every `Flush` completes before the next `Write` starts (phout's `Run`:
regenerated, no `go` statement in `Run`/`handle`, no other function touches the writer), for every sequence of writes
and flushes: the writer never gets its sticky error, no line is refused, destination ++ buffer is exactly what was
written, in order. -/
theorem C06_writer_single_goroutine_exact (trace : List Ev) (hs : Sequential trace) :
    let st := run {} trace
    st.err = false ∧ st.refused = [] ∧ st.out ++ st.buf = st.written := by
  intro st
  obtain ⟨_, he, hw, hr⟩ := seq_ok trace {} hs rfl rfl rfl
  exact ⟨he, hr, hw⟩

example : Sequential [.write 1, .flushBegin, .flushEnd, .write 2, .write 3, .flushBegin, .flushEnd] ∧
    (run {} [.write 1, .flushBegin, .flushEnd, .write 2, .write 3, .flushBegin, .flushEnd]).out = [1, 2, 3] := by
  constructor
  · simp [Sequential]
  · decide

/-- a flusher goroutine of its own ("no timer per handled sample"): a `Write` between the two halves of a `Flush`
makes `Flush` see `n < b.n` — sticky `io.ErrShortWrite`, every later line is refused, `Run` ends with "short write"
(harness: `kind=queue agg=phout … dur= wslow=`; the race build reports the data race) -/
theorem C06_writer_concurrent_flush_counterexample :
    let st := run {} [.write 1, .flushBegin, .write 2, .flushEnd, .write 3]
    st.err = true ∧ st.refused = [3] ∧ st.out = [1] ∧ st.buf = [2] := by decide

end BufRace

open Pandora.Gen.AggQ in
/-- the code is what the models of (x)–(xiii) were written from (regenerated facts, gen/area_aggq_r6.go) -/
theorem C06_source_shape_round6 :
    Bridge.C06R6.sharedCfg = Proofs.C06R6.codeCfg ∧
    (phoutDeferFlushes = true ∧ phoutDeferCloses = true) ∧
    (phoutRunGoStmts = 0 ∧ phoutWriterUsers = ["Run", "handle"]) ∧
    (Bridge.C06R6.failCfg.engineCancels = true ∨ Bridge.C06R6.failCfg.cliCancels = true) ∧
    phoutHandle = Bridge.AggQ.phoutHandleExpected :=
  ⟨Bridge.C06R6.shared_is_code, Bridge.C06R6.phout_defer_closes, Bridge.C06R6.writer_single_goroutine,
   Bridge.C06R6.fail_cancel_source, Bridge.AggQ.phoutHandle_eq⟩

end Pandora.Props.C06
