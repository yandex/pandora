/-
C12 — Instance startup profile: how many instances start, when, and with which ids.

The theorems are about the transition system `Pandora.Model.C12` (`startInstances` around the startup `Waiter` of C04, the
cancel sources of the start context, run cancel, creation failure, instances finishing), for ALL startup token sequences
`all : List Int`, ALL configurations `c : Cfg` (both variants of the Waiter, shared and per-instance RPS schedule) and ALL
finite interleavings of events `evs : List Event` — events that are not enabled in a state are no-ops, so every list is an
interleaving; a `Wait` call that sleeps is two events (`wait`, then `timerFire` or `wakeCancelled`) with anything in
between, so a cancellation may arrive before, during and after every call.

Tie to the source (checked on every run):
* `C12_refines_source`, `C12_wiring_is_source`, `C12_instance_loop_is_source`, `C12_wait_is_source`: the sequential
  program the transition system refines, the cancel wiring, the loop of `instance.Run` and `Waiter.Wait` are the
  definitions REGENERATED from /repo (`Pandora.Gen.Startup`, `Pandora.Gen.Waiter`);
* `C12_instance_step_shape`, `C12_composite_example` are about the REGENERATED `schedule.NewInstanceStep` / `NewOnce` /
  `NewConst` (`Pandora.Gen.Schedule`);
* the real-time correspondence run (harness/cmd/c12) replays what the real engine did through `Model.C12.run`.

The POOL layer (`Model/C12Pool`): the abstract events "`Run` of an instance returns for reason r", "an out-of-ammo result
is awaited", "the shared RPS schedule reports its end" are refined to what the code does — single passes of the loop of
`instance.Run` (which run the finish callback themselves and send a result), the await loop receiving run results and the
start result, `checkAllInstancesAreFinished`.  `C12_pool_refines` / `C12_pool_inherits`: every theorem above holds for that
layer; `C12_exit_reason_is_source`: the returns of the REGENERATED `instance.Run` are the exit reasons, each an enabled
abstract exit; `C12_pool_cancels_run_only_when_all_finished` + `C12_pool_await_is_source`: the pool itself cancels the run
context only when no instance runs and no result is in flight, with the regenerated counters.
-/
import Pandora.Proofs.C12
import Pandora.Proofs.C12Pool
import Pandora.Proofs.C12Engine
import Pandora.Proofs.C12Fine
import Pandora.Proofs.C12Shape
import Pandora.Bridge.C12Startup
import Pandora.Bridge.Waiter
import Pandora.Bridge.C12Left
import Pandora.Bridge.C12Wait
import Pandora.Proofs.C12Wait
import Pandora.Props.C02
import Pandora.Props.C04
import Pandora.Bridge.C12Close

namespace Pandora.Props.C12
open Pandora.Model.C04 Pandora.Model.C12 Pandora.Proofs.C04 Pandora.Proofs.C12 Pandora.Go.C12

/-! ### clause 2 — ids -/

/-- Ids: in every reachable state the instances the loop has tried to create so far carry the ids 0, 1, …, k−1 in
creation order (distinct, consecutive from 0), k is the `started` counter the loop reports, and it never exceeds the
number of tokens of the profile.  (A creation that fails in its goroutine has consumed its id; see `C12_ids_started`.) -/
theorem C12_ids (c : Cfg) (all : List Int) (evs : List Event) :
    let s := run c (St.init all) evs
    s.created.map (·.id) = List.range s.created.length ∧ s.started = s.created.length ∧
      (s.created.map (·.id)).Nodup ∧ s.started ≤ all.length := by
  have h := run_inv c all (St.init all) evs (Inv.init c all)
  refine ⟨h.ids, h.started, ?_, ?_⟩
  · rw [h.ids]
    exact List.nodup_range
  · rcases h.cons with hc | ⟨_, hc⟩ <;> have := h.bound <;> omega

/-- …and as long as no creation has failed, every one of them is a started instance: the ids of the STARTED instances
are exactly 0, …, k−1, and the running instances are among them. -/
theorem C12_ids_started (c : Cfg) (all : List Int) (evs : List Event) :
    let s := run c (St.init all) evs
    (s.sawCreateFailed = false → ∀ cr ∈ s.created, cr.ok = true) ∧
      (∀ id ∈ s.running, ∃ cr ∈ s.created, cr.id = id ∧ cr.ok = true) := by
  have h := run_inv c all (St.init all) evs (Inv.init c all)
  exact ⟨h.failed, h.running⟩

/-! ### clause 1 — never ahead of the profile -/

/-- Never ahead of the profile: under the clock hypotheses of C04 for the `Wait` calls of the startup waiter, the
instance with id j is created at an instant ≥ the release time of token j (`all[j]`, = schedule start + t_j). -/
theorem C12_not_ahead (c : Cfg) (all : List Int) (evs : List Event)
    (hclk : EventsClockOK (St.init all).waiter evs) :
    ∀ cr ∈ (run c (St.init all) evs).created, ∃ t, all[cr.id]? = some t ∧ t ≤ cr.instant :=
  run_notAhead c all (St.init all) evs (Inv.init c all) (by intro cr hc; simp [St.init] at hc)
    (ClockInv.init all evs hclk)

/-- …so at EVERY instant `T` at most as many instances exist as the profile has released tokens by `T`. -/
theorem C12_count_not_ahead (c : Cfg) (all : List Int) (evs : List Event)
    (hclk : EventsClockOK (St.init all).waiter evs) (T : Int) :
    (((run c (St.init all) evs).created.filter (fun cr => decide (cr.instant ≤ T))).length ≤
      (all.filter (fun t => decide (t ≤ T))).length) :=
  count_le_of_notAhead all _ (C12_ids c all evs).1 (C12_not_ahead c all evs hclk) T

/-! ### clause 3 — an instance, once started, is never stopped by the startup profile -/

/-- The number of running instances is never reduced by the startup profile: an instance leaves the running set only
by an event that is its OWN `Run` returning, and `Run` returns only because
* its RPS profile is exhausted (`scheduleEnd`: with a shared profile only after that profile has reported its end),
* the provider has no more ammo (`ammoEnd`),
* `gun.Shoot` panicked (`error`), or
* with a context error — and then the RUN context is done (`cancelled`).
No step of the start loop (whatever its `Wait` answers, whenever it is woken) and no cancellation of the START context
(out of ammo, shared RPS profile finished) removes an instance. -/
theorem C12_never_reduced (c : Cfg) (s : St) (ev : Event) (id : Nat)
    (hin : id ∈ s.running) (hout : id ∉ (step c s ev).running) :
    ∃ r, ev = .instanceExit id r ∧ exitEnabled c s r = true ∧
      (r = .cancelled → s.runCtxDone = true) ∧
      (r = .scheduleEnd → c.perInstance = true ∨ s.sharedRpsDone = true) := by
  cases ev with
  | wait env createOk delay => exact absurd ((wait_step ..).kept.running id hin) hout
  | timerFire => exact absurd ((fire_step ..).kept.running id hin) hout
  | wakeCancelled => exact absurd ((wake_step ..).kept.running id hin) hout
  | outOfAmmoResult =>
    exfalso; apply hout
    show id ∈ (if !s.ammoOut then s else _).running
    split <;> exact hin
  | rpsFinished =>
    exfalso; apply hout
    show id ∈ (if c.perInstance || !anyInstance s then s else _).running
    split <;> exact hin
  | runCancel => exact absurd hin hout
  | instanceExit i r =>
    have hstep : (step c s (.instanceExit i r)).running = (stepExit c s i r).running := rfl
    rw [hstep] at hout
    unfold stepExit at hout
    by_cases hg : (!s.running.contains i || !exitEnabled c s r) = true
    · rw [if_pos hg] at hout; exact absurd hin hout
    · rw [if_neg hg] at hout
      simp only [Bool.or_eq_true, Bool.not_eq_true', not_or, Bool.not_eq_false] at hg
      have hi : i = id := by
        by_cases hi : i = id
        · exact hi
        · exact absurd ((List.mem_erase_of_ne (Ne.symm hi)).mpr hin) hout
      subst hi
      refine ⟨r, rfl, hg.2, ?_, ?_⟩
      · intro hr; subst hr; simpa [exitEnabled] using hg.2
      · intro hr; subst hr; simpa [exitEnabled] using hg.2

/-- …and in every reachable state the run context is done only if the RUN was cancelled (caller or pool failure) — never
by ammo exhaustion or by the end of the RPS profile, which cancel the start context only; the shared RPS profile counts
as finished only after its callback has run, which needs a shared profile and an instance that drew from it. -/
theorem C12_run_ctx_only_by_run_cancel (c : Cfg) (all : List Int) (evs : List Event) :
    let s := run c (St.init all) evs
    (s.runCtxDone = true ↔ s.sawRunCancelled = true) ∧
      (s.sharedRpsDone = true → c.perInstance = false ∧ anyInstance s = true) := by
  have h := run_inv c all (St.init all) evs (Inv.init c all)
  exact ⟨h.runCtx, h.rpsShared⟩

/-! ### clause 4 — all tokens result in instances unless one of the four causes cut instance start short -/

/-- All tokens of the profile result in instances unless instance start was cut short: when `startInstances` has
returned with fewer instances than the profile has tokens, then ammo ran out, or the shared RPS profile finished, or an
instance could not be created, or the run was cancelled — and the cause is real: "out of ammo" only after the provider
refused an instance, "RPS profile finished" only for a shared profile. -/
theorem C12_all_tokens_unless (c : Cfg) (all : List Int) (evs : List Event) (s : St)
    (hs : s = run c (St.init all) evs) :
    (s.phase = .done → s.started < all.length →
      s.sawOutOfAmmo = true ∨ s.sawRpsFinished = true ∨ s.sawCreateFailed = true ∨ s.sawRunCancelled = true) ∧
    (s.sawOutOfAmmo = true → s.ammoOut = true) ∧
    (s.sawRpsFinished = true → c.perInstance = false) := by
  have h := run_inv c all (St.init all) evs (Inv.init c all)
  rw [← hs] at h
  refine ⟨?_, h.ammo, fun hr => (h.rpsShared (h.rps.mp hr)).1⟩
  intro hd hlt
  rcases h.done hd with ⟨hnil, hcons⟩ | hc
  · have : all.drop s.consumed = [] := by rw [← h.toks]; exact hnil
    rw [List.drop_eq_nil_iff] at this
    omega
  · exact hc

/-- Conversely nothing but those causes ends the loop early: while no cause has occurred, a `startInstances` that has
returned has started exactly as many instances as the profile has tokens. -/
theorem C12_all_tokens (c : Cfg) (all : List Int) (evs : List Event) :
    let s := run c (St.init all) evs
    s.phase = .done → s.sawOutOfAmmo = false → s.sawRpsFinished = false → s.sawCreateFailed = false →
      s.sawRunCancelled = false → s.started = all.length ∧ ∀ cr ∈ s.created, cr.ok = true := by
  intro s hd h1 h2 h3 h4
  have hle := (C12_ids c all evs).2.2.2
  have hu := (C12_all_tokens_unless c all evs s rfl).1 hd
  have h := run_inv c all (St.init all) evs (Inv.init c all)
  refine ⟨?_, h.failed h3⟩
  by_cases hlt : s.started < all.length
  · rcases hu hlt with a | a | a | a
    · rw [h1] at a; cases a
    · rw [h2] at a; cases a
    · rw [h3] at a; cases a
    · rw [h4] at a; cases a
  · have : s.started ≤ all.length := hle
    omega

/-! ### the model is the source -/

/-- The start loop of the transition system IS the regenerated `startInstances`: in every reachable state, what the loop
has done (`newInstance` / `go …Run` actions with their contexts and ids, in order), its `started` counter, its `err`
result and whether it has returned are what `Gen.Startup.startInstances` computes from the result of the synchronous
`newInstance` and the answers of the `Wait` calls completed so far. -/
theorem C12_refines_source (c : Cfg) (all : List Int) (evs : List Event) :
    let s := run c (St.init all) evs
    Gen.Startup.startInstances s.firstOk (s.waitLog.map K) =
      ⟨s.acts, (s.started : Int), s.ret, s.phase == .done⟩ := by
  have h := run_inv c all (St.init all) evs (Inv.init c all)
  intro s
  rw [Bridge.C12Startup.startInstances_eq]
  exact h.seq

/-- The cancel wiring of the model is the regenerated one: the start context is a child of the run context and
`startInstances` is given (start, run); an out-of-ammo result cancels the START context and nothing else, any other result cancels no context (it is ignored or reported); the finish callback exists
for a shared RPS schedule only, fires when `Next()` has no token or `Left()` is 0, and cancels the START context only;
the pool cancels the run context itself only when all instances have finished; `runNewInstance` / `newInstance` hand
context and id on unchanged (the id is what the gun's `Bind` sees as `GunDeps.InstanceID`). -/
theorem C12_wiring_is_source :
    Gen.Startup.startCtxParent = Ctx.run ∧ Gen.Startup.startInstancesCtxArgs = [Ctx.start, Ctx.run] ∧
    Gen.Startup.waiterSchedule = "p.StartupSchedule" ∧
    (∀ ce, Gen.Startup.onInstanceResult true false ce = [PoolAct.cancel Ctx.start]) ∧
    (∀ sf ce, ∀ a ∈ Gen.Startup.onInstanceResult true sf ce, a = PoolAct.cancel Ctx.start) ∧
    (∀ sf ce, ∀ a ∈ Gen.Startup.onInstanceResult false sf ce, a = PoolAct.reportErr) ∧
    (∀ pi, Gen.Startup.callbackInstalled pi = !pi) ∧
    (∀ cd, Gen.Startup.onSharedRpsFinish cd = if cd Ctx.start then [] else [PoolAct.cancel Ctx.start]) ∧
    (∀ ok, Gen.Startup.callbackOnNext ok = !ok) ∧ (∀ l, Gen.Startup.callbackOnLeft l = (l == 0)) ∧
    Gen.Startup.runCancelCallers = ["checkAllInstancesAreFinished"] ∧
    (∀ cx id, Gen.Startup.runNewInstance cx id = (cx, id, cx)) ∧
    (∀ cx id, Gen.Startup.newInstance cx id = (cx, id, id)) := by
  exact ⟨rfl, rfl, rfl, fun ce => (Bridge.C12Startup.onInstanceResult_spec false ce).1,
    fun sf ce => (Bridge.C12Startup.onInstanceResult_spec sf ce).2.1,
    fun sf ce => (Bridge.C12Startup.onInstanceResult_spec sf ce).2.2.1,
    Bridge.C12Startup.callbackInstalled_eq, Bridge.C12Startup.onSharedRpsFinish_eq,
    fun _ => rfl, fun _ => rfl, rfl, fun _ _ => rfl, fun _ _ => rfl⟩

/-- The exits of the regenerated `instance.Run` are the four `ExitReason`s: it returns the error of its loop body only as
"out of ammo" after the provider refused it; it returns `ctx.Err()` only after a loop head at which its context (the
run context, by `C12_refines_source` / `C12_wiring_is_source`) was done or its schedule had no token left; and while the
context is not done, tokens are left and there is ammo, it keeps looping.  (`gun.Shoot` panicking is recovered into an
error result.) -/
theorem C12_instance_loop_is_source (its : List RunIter) :
    (∀ e, Gen.Startup.instanceRun its = .body e → e = .outOfAmmo ∧ ∃ it ∈ its, it.ammoOk = false) ∧
    (Gen.Startup.instanceRun its = .ctxErr → ∃ it ∈ its, it.ctxDone = true ∨ it.left = 0) ∧
    ((∀ it ∈ its, it.ctxDone = false ∧ it.left ≠ 0 ∧ it.ammoOk = true) → Gen.Startup.instanceRun its = .running) ∧
    Gen.Startup.recoversShootPanic = true := by
  rw [Bridge.C12Startup.instanceRun_eq]
  exact ⟨instRun_body its, instRun_ctxErr its, instRun_running its, rfl⟩

/-- The `Wait` of the start loop (`Cfg.v = .fresh`, the current code) is the regenerated `(*Waiter).Wait`. -/
theorem C12_wait_is_source (w : Waiter) (e : Env) :
    Gen.Waiter.Wait w e = ((waitV .fresh w e).w, (waitV .fresh w e).ok) :=
  Bridge.Waiter.Wait_eq w e

/-! ### the pool layer: passes of `instance.Run`, the await loop, `checkAllInstancesAreFinished` -/

/-- The pool layer refines the abstract transition system: whatever the instances' passes, the await loop and the start
loop do, in any interleaving, its effect on the abstract state is a run of abstract events. -/
theorem C12_pool_refines (c : Cfg) (all : List Int) (pevs : List PEvent) :
    ∃ evs, (poolRun c (PSt.init all) pevs).base = run c (St.init all) evs :=
  poolRun_refines c all (PSt.init all) pevs (PInv.init c all)

/-- …hence every statement proved for all interleavings of the abstract events (`C12_ids`, `C12_ids_started`,
`C12_all_tokens_unless`, `C12_all_tokens`, `C12_run_ctx_only_by_run_cancel`, `C12_refines_source`, …) holds in every
reachable state of the pool layer. -/
theorem C12_pool_inherits (c : Cfg) (all : List Int) (P : St → Prop) (h : ∀ evs, P (run c (St.init all) evs))
    (pevs : List PEvent) : P (poolRun c (PSt.init all) pevs).base := by
  obtain ⟨evs, he⟩ := C12_pool_refines c all pevs
  rw [he]
  exact h evs

/-- The link between the returns of `instance.Run` and the exit reasons: (1) one pass of the
pool layer is one pass of the REGENERATED `instance.Run`, whose result is read as: error of the body = "out of ammo",
`ctx.Err()` non-nil = "cancelled", `ctx.Err()` nil = "RPS profile exhausted"; (2) the regenerated loop is the iteration
of single passes; (3) in every reachable state, a pass of a running instance that sees what the state allows (its
context is the RUN context, possibly read stale at the loop head) and ends the instance does so with a reason that is
an ENABLED exit of the abstract system after the finish callback this very pass may have run — "cancelled" only with
the run context done, "RPS profile exhausted" only for a per-instance profile or once the shared one has reported its
end, "out of ammo" only when the provider refused this pass; a pass never produces `error` (that is a `Shoot` panic). -/
theorem C12_exit_reason_is_source :
    (∀ it e, iterOutcome it e = exitReasonOf (Gen.Startup.instanceRun [it]) e) ∧
    (∀ it rest, Gen.Startup.instanceRun (it :: rest) =
      if Gen.Startup.instanceRun [it] = .running then Gen.Startup.instanceRun rest else Gen.Startup.instanceRun [it]) ∧
    (∀ (c : Cfg) (all : List Int) (pevs : List PEvent) (id : Nat) (it : RunIter) (e ne : Bool) (r : ExitReason),
      id ∈ (poolRun c (PSt.init all) pevs).base.running →
      iterMatches (poolRun c (PSt.init all) pevs).base it e ne = true → iterOutcome it e = some r →
        exitEnabled c (afterCallback c (poolRun c (PSt.init all) pevs).base it ne) r = true ∧
        (r = .ammoEnd → it.ammoOk = false) ∧
        (r = .cancelled → (poolRun c (PSt.init all) pevs).base.runCtxDone = true) ∧ r ≠ .error) := by
  refine ⟨fun it e => ?_, fun it rest => ?_, ?_⟩
  · unfold iterOutcome
    rw [Bridge.C12Startup.instanceRun_eq]
  · simp only [Bridge.C12Startup.instanceRun_eq]
    exact instRun_cons it rest
  · intro c all pevs id it e ne r hid hm hr
    exact iter_exit_enabled c all _ (poolRun_inv c all _ pevs (PInv.init c all)).inv id hid it e ne hm r hr

/-- The pool cancels the run context BY ITSELF (`checkAllInstancesAreFinished`) only when no instance is running and no
result is in flight, instance start having finished — so that cancellation never reduces the number of running
instances; and in every reachable state: goroutines launched by `startInstances` (= its `started`) = results awaited +
results in flight + instances running. -/
theorem C12_pool_cancels_run_only_when_all_finished (c : Cfg) (all : List Int) (pevs : List PEvent) :
    let p := poolRun c (PSt.init all) pevs
    (p.poolCancelled = true → p.base.running = [] ∧ p.pending = [] ∧ p.base.phase = .done) ∧
      p.aw.awaited + (p.pending.length : Int) + (p.base.running.length : Int) = (p.base.started : Int) := by
  have h := poolRun_inv c all _ pevs (PInv.init c all)
  refine ⟨fun hc => ?_, h.count⟩
  obtain ⟨hr, hp, hsf⟩ := h.cancelled hc
  exact ⟨hr, hp, (h.startFin hsf).1⟩

/-- The counters and decisions of the await loop used by the pool layer are the regenerated ones: the "all finished"
condition, the run context as the only context cancelled then, the updates of the counters by the two cases, the check
being repeated by both of them, what is done with the start error and with a run result (up to the redundant
`isStartFinished` guard). -/
theorem C12_pool_await_is_source :
    (∀ a, Gen.Startup.allFinished a = allFinished a) ∧ Gen.Startup.onAllFinished = [PoolAct.cancel Ctx.run] ∧
    (∀ a n, Gen.Startup.onStartResAwait a n = onStartResAwait a n) ∧
    (∀ a, Gen.Startup.onRunResAwait a = onRunResAwait a) ∧
    Gen.Startup.startResChecksAll = true ∧ Gen.Startup.runResChecksAll = true ∧
    (∀ ce, Gen.Startup.onStartResult ce = onStartResult ce) ∧
    (∀ a sf ce, Gen.Startup.onInstanceResult a sf ce = onRunResult a sf ce ∨
      (a = true ∧ sf = true ∧ Gen.Startup.onInstanceResult a sf ce = [PoolAct.cancel Ctx.start])) :=
  ⟨Bridge.C12Startup.allFinished_eq, Bridge.C12Startup.onAllFinished_eq, Bridge.C12Startup.onStartResAwait_eq,
    Bridge.C12Startup.onRunResAwait_eq, Bridge.C12Startup.checksAll_eq.1, Bridge.C12Startup.checksAll_eq.2,
    Bridge.C12Startup.onStartResult_eq, Bridge.C12Startup.onInstanceResult_model⟩

/-- Several pools in one engine: the REGENERATED await loop of `Engine.Run` returns — which cancels the context of every
pool — without error only after ALL `nPools` pools have returned without error (the first `nPools` things it received
are error-free pool results); otherwise only because a pool failed or because the engine's context (the caller's) is
done.  So no pool's run is cancelled by the engine merely because another pool ran out of ammo, finished its profiles or
finished altogether (each pool has its own start loop, ids, contexts: the theorems above are per pool). -/
theorem C12_engine_returns_only_when_all_pools_done (nPools : Int) (h0 : 0 ≤ nPools) (evs : List EngEv) (k : Int)
    (r : EngRet) (h : Gen.Startup.engineRun nPools 0 evs = { awaited := k, ret := some r }) :
    (r = .ok → k = nPools ∧ ∃ pre, pre.length = nPools.toNat ∧ pre <+: evs ∧ ∀ e ∈ pre, e = EngEv.result true) ∧
    (r = .failed → EngEv.result false ∈ evs) ∧ (r = .cancelled → EngEv.ctxDone ∈ evs) := by
  rw [Bridge.C12Startup.engineRun_eq] at h
  have := engSeq_spec nPools evs 0 k r h0 h
  simpa using this

/-! ### the statement layer: a pass of `instance.Run` is three separately interleaved statements -/

/-- The granularity assumption of the pool layer ("one pass of `instance.Run` is one event") is sound: when the loop head,
`Acquire` and `Wait` of every instance are SEPARATE events, interleaved in any way with each other, with the start loop,
the await loop and cancellations, the pool state reached is one the pool layer reaches with atomic passes (each statement
being the atomic pass that saw what this statement saw — the pool layer allows the stale readings) — hence it is a run of
the abstract system too, and every theorem above holds at statement granularity. -/
theorem C12_statement_interleaving_adds_nothing (c : Cfg) (all : List Int) (fevs : List FEvent) :
    (∃ pevs, pevs.length ≤ fevs.length ∧ (fineRun c (FSt.init all) fevs).p = poolRun c (PSt.init all) pevs) ∧
      ∃ evs, (fineRun c (FSt.init all) fevs).p.base = run c (St.init all) evs := by
  obtain ⟨pevs, hl, hp⟩ := fineRun_refines c (FSt.init all) fevs
  refine ⟨⟨pevs, hl, hp⟩, ?_⟩
  rw [hp]
  exact C12_pool_refines c all pevs

/-- …and nothing is lost: the three statements of a pass of a running instance at its loop head, executed back to back with
the readings of a pool-layer pass the state allows, do exactly what that atomic pass does (so the two layers reach the same
pool states); the statements are those of the REGENERATED `instance.Run`: each ends the instance as the regenerated loop
does on what it saw. -/
theorem C12_pass_is_three_statements (c : Cfg) (f : FSt) (id : Nat) (it : RunIter) (e ne : Bool)
    (hid : f.p.base.running.contains id = true) (hpc : f.pc id = .head)
    (hm : iterMatches f.p.base it e ne = true) :
    (fineRun c f (passEvents id it e ne)).p = poolStep c f.p (.iter id it e ne) ∧
      (∀ cd left e', iterOutcome (headPass cd left) e' = exitReasonOf (Gen.Startup.instanceRun [headPass cd left]) e') ∧
      iterOutcome acquirePass false = exitReasonOf (Gen.Startup.instanceRun [acquirePass]) false ∧
      iterOutcome waitPass false = exitReasonOf (Gen.Startup.instanceRun [waitPass]) false :=
  ⟨pass_back_to_back c f id it e ne hid hpc hm, fun _ _ _ => C12_exit_reason_is_source.1 _ _,
    C12_exit_reason_is_source.1 _ _, C12_exit_reason_is_source.1 _ _⟩

/-! ### the engine layer: n pools and the await loop of `Engine.Run` as ONE transition system -/

/-- Inside an engine of `n` pools, for ALL interleavings of the events of all pools, of the caller's cancel, of pools
returning and of the engine's await loop: every pool stays a reachable state of the single-pool layer — so every per-pool
theorem above (ids from 0 per pool, not ahead of ITS profile, never reduced, all tokens unless …) holds for every pool of
an engine (`C12_pool_inherits`) —, and the state of the engine's await loop is what the REGENERATED loop of `Engine.Run`
computes from what it has received. -/
theorem C12_engine_pools_are_pools (c : Nat → Cfg) (toks : Nat → List Int) (n : Nat) (evs : List EEvent) :
    let e := erun c (ESt.init n toks) evs
    (∀ j, ∃ pevs, (e.pool j).p = poolRun (c j) (PSt.init (toks j)) pevs) ∧
      e.eng = Gen.Startup.engineRun (n : Int) 0 e.recvd := by
  have h := erun_inv c toks _ evs (EInv.init c toks n)
  refine ⟨h.reach, ?_⟩
  rw [Bridge.C12Startup.engineRun_eq, h.src, erun_n]
  rfl

/-- …and the run of a pool is cancelled ONLY for a cause: in every reachable state of the engine, if the run context of pool
`j` is done then the caller has cancelled, or some pool has FAILED (reported an error: an instance could not be created, a
gun panicked), or EVERY pool — `j` included — had returned without error, which a pool does only after all its instances
have finished and all their results were awaited.  So a pool that runs out of ammo, whose RPS profile ends, or that finishes
altogether never stops an instance of another pool (the engine-level form of "the number of running instances is never
reduced …"). -/
theorem C12_engine_cancels_pool_only_for_cause (c : Nat → Cfg) (toks : Nat → List Int) (n : Nat) (evs : List EEvent)
    (j : Nat) (hj : j < n) :
    let e := erun c (ESt.init n toks) evs
    (e.pool j).p.base.runCtxDone = true →
      e.callerCancelled = true ∨ (∃ k, k < n ∧ (e.pool k).failed = true) ∨
        (∀ k, k < n → (e.pool k).ret = some true ∧ (e.pool k).p.poolCancelled = true ∧
          (e.pool k).p.base.running = [] ∧ (e.pool k).p.pending = []) := by
  intro e hrun
  have h := erun_inv c toks _ evs (EInv.init c toks n)
  have hn : e.n = n := erun_n c _ evs
  have pinv : ∀ k, PInv (c k) (toks k) (e.pool k).p := by
    intro k
    obtain ⟨pevs, hp⟩ := h.reach k
    rw [hp]
    exact poolRun_inv (c k) (toks k) _ pevs (PInv.init (c k) (toks k))
  have hs : (e.pool j).p.base.sawRunCancelled = true := (pinv j).inv.runCtx.mp hrun
  rcases cancel_cause c toks e h j (by omega) hs with hc | ⟨k, hk, hf⟩ | hall
  · exact Or.inl hc
  · exact Or.inr (Or.inl ⟨k, by omega, hf⟩)
  · refine Or.inr (Or.inr fun k hk => ?_)
    obtain ⟨hr, hpc⟩ := hall k (by omega)
    obtain ⟨h1, h2, _⟩ := (pinv k).cancelled hpc
    exact ⟨hr, hpc, h1, h2⟩

/-- How a pool FAILS and how its `Run` returns is the source (regenerated): besides a run result that is a real error and a start
result with a creation error (`C12_pool_await_is_source`), only a result of `Provider.Run` / `Aggregator.Run` that is a real
error is reported — a provider or aggregator that merely returns stops nothing (`recvOther` of the pool layer) —; a reported
error is sent to the pool's `Run` unless the pool context is already done; `Run` returns nil only when the await loop has
closed its channel (everything awaited: the `poolReturn … true` rule of the engine layer needs `poolCancelled`), the reported
error when one was sent, `ctx.Err()` when its context is done; returning cancels the pool context, which is the parent of the
run context (hence "a reported error is the abstract run cancel"), and `Engine.Run` returning cancels every pool. -/
theorem C12_pool_failure_is_source :
    (∀ ce, Gen.Startup.onProviderResult ce = onOtherResult ce ∧ Gen.Startup.onAggregatorResult ce = onOtherResult ce) ∧
    (∀ ce, ce Ctx.run = true → onOtherResult ce = []) ∧
    Gen.Startup.poolRunSelect .ctxDone = .ctxErr ∧
    (∀ ok, Gen.Startup.poolRunSelect (.awaitErr ok) = if ok then .reported else .nil) ∧
    Gen.Startup.poolRunCancelsOnReturn = true ∧ Gen.Startup.runCtxIsChildOfPoolCtx = true ∧
    Gen.Startup.engineReturnCancelsPools = true ∧
    (∀ x, x ∈ Gen.Startup.onErrAwaitedCases ↔ (x = ErrCase.send ∨ x = ErrCase.poolCtxDone)) ∧
    (∀ (c : Cfg) (p : PSt), (poolStep c p (.recvOther true)).base = p.base) := by
  refine ⟨Bridge.C12Startup.onOtherResult_eq, ?_, Bridge.C12Startup.poolRunSelect_eq.1,
    Bridge.C12Startup.poolRunSelect_eq.2, Bridge.C12Startup.returnCancels_eq.1, Bridge.C12Startup.returnCancels_eq.2.1,
    Bridge.C12Startup.returnCancels_eq.2.2, Bridge.C12Startup.onErrAwaitedCases_eq, fun _ _ => rfl⟩
  intro ce h
  simp [onOtherResult, h]

/-! ### the profiles -/

/-- `instance_step`: the REGENERATED `NewInstanceStep(from, to, step, d)`, started at 0, emits `from` tokens at 0 and then
`step` tokens at m·d for m = 1, 2, … as long as `from + m·step ≤ to` (so never more than `to` in total when from ≤ to),
and finishes at (number of steps)·d. -/
theorem C12_instance_step_shape (f t s d : ℤ) :
    Proofs.C12Shape.toks (Gen.Schedule.NewInstanceStep f t s d) 0 =
      (List.replicate f.toNat 0 ++
        (List.range (stepCount f t s)).flatMap (fun (m : ℕ) => List.replicate s.toNat (((m : ℤ) + 1) * d)),
       (stepCount f t s : ℤ) * d) ∧
    (1 ≤ s → f ≤ t → 0 ≤ f → f + (stepCount f t s : ℤ) * s ≤ t ∧ t < f + ((stepCount f t s : ℤ) + 1) * s) := by
  refine ⟨Proofs.C12Shape.instanceStep_toks f t s d, ?_⟩
  intro hs hft hf
  unfold stepCount
  split
  · rename_i h
    have h0 : 0 ≤ (t - (f + s)) / s := Int.ediv_nonneg (by omega) (by omega)
    have hm := Int.emod_add_mul_ediv (t - (f + s)) s
    have hr := Int.emod_nonneg (t - (f + s)) (by omega : s ≠ 0)
    have hr2 := Int.emod_lt_of_pos (t - (f + s)) (by omega : 0 < s)
    have hc : ((((t - (f + s)) / s).toNat + 1 : ℕ) : ℤ) = (t - (f + s)) / s + 1 := by
      push_cast; rw [Int.toNat_of_nonneg h0]
    rw [hc]
    constructor <;> nlinarith
  · constructor <;> (push_cast; omega)

/-- composite of the documentation (docs/eng/startup.md): `once a`, then `const 0 ops` for d, then `once b` — `a` tokens
at the start, `b` tokens exactly d later, nothing in between (regenerated `NewOnce` / `NewConst`). -/
theorem C12_composite_example (a b d : ℤ) :
    Proofs.C12Shape.toks (.composite [Gen.Schedule.NewOnce a, Gen.Schedule.NewConst 0 d, Gen.Schedule.NewOnce b]) 0 =
      (List.replicate a.toNat 0 ++ List.replicate b.toNat d, d) := by
  simp [Proofs.C12Shape.toks, Proofs.C12Shape.toksList, Proofs.C12Shape.toks_once, Proofs.C12Shape.toks_const0]

/-- `const` where float64 is exact (a whole number `k` of instances per second dividing 10⁹, a whole number `S` of seconds):
the REGENERATED `NewConst` emits k·S tokens, token i at i·(10⁹/k), and finishes after S seconds. -/
theorem C12_const_shape (k q S s0 : ℤ) (hk : 0 < k) (hq : k * q = 1000000000) :
    Proofs.C12Shape.toks (Gen.Schedule.NewConst (k : ℝ) (S * 1000000000)) s0 =
      ((List.range (k * S).toNat).map (fun (i : ℕ) => s0 + (i : ℤ) * q), s0 + S * 1000000000) :=
  Proofs.C12Shape.toks_const_exact k q S s0 hk hq

/-- `const` with a FRACTIONAL rate of m/1000 instances per second (m > 0) for `ms` milliseconds (float64 read as exact reals;
the Spec uses this only where float64 IS exact: rate and seconds are eighths and 10⁹/rate is whole): the REGENERATED
`NewConst` emits ⌊m·ms/10⁶⌋ tokens — a started fraction of an instance is NOT rounded up —, token i at ⌊i·10¹²/m⌋ ns, and
finishes after the duration. -/
theorem C12_const_fractional_shape (m ms s0 : ℤ) (hm : 0 < m) (hms : 0 ≤ ms) :
    Proofs.C12Shape.toks (Gen.Schedule.NewConst ((m : ℝ) / 1000) (ms * 1000000)) s0 =
      ((List.range ((m * ms) / 1000000).toNat).map (fun (i : ℕ) => s0 + ((i : ℤ) * 1000000000000) / m),
        s0 + ms * 1000000) :=
  Proofs.C12Shape.toks_const_frac m ms s0 hm hms

/-- The token times the executable Spec computes for a startup profile — the ones every correspondence case compares
with what the REAL schedule hands out (`fail:step-shape`) — are those of the composite of the regenerated
`NewOnce` / `NewConst` / `NewInstanceStep`, for every composite — flat or NESTED — of once / const / instance_step parts for which the
Spec computes them at all. -/
theorem C12_profile_tokens (ps : List Spec.C12.Part) (s0 : ℤ) (l : List ℤ)
    (h : Spec.C12.partsToks ps s0 = some l) :
    l = (Proofs.C12Shape.toksList (Proofs.C12Shape.schedsOf ps) s0).1 :=
  Proofs.C12Shape.partsToks_eq ps s0 l h

/-- Nested composites: a composite used as a part of a composite contributes exactly the tokens of its own parts, in
place, and the part after it starts at ITS finish time — the profile is that of the flat sequence, whatever the
bracketing (denotation of `Sched.composite`; compared with the real `compositeSchedule` on every correspondence case,
which include randomly bracketed profiles). -/
theorem C12_nested_composite_flat (a b : List Pandora.Sched) (s0 : ℤ) :
    Proofs.C12Shape.toksList (.composite a :: b) s0 = Proofs.C12Shape.toksList (a ++ b) s0 :=
  Proofs.C12Shape.toks_nested a b s0

/-! ### non-vacuity -/

/-- hypotheses of `C12_profile_tokens` / `C12_const_shape`: a composite the Spec computes -/
example : Spec.C12.partsToks [.once 2, .const 0 500, .step 1 3 1 1000, .const 2 1000] 0 =
    some [0, 0, 500000000, 1500000000, 2500000000, 2500000000, 3000000000] := by decide
example : (0 : ℤ) < 4 ∧ (4 : ℤ) * 250000000 = 1000000000 := by decide
/-- …fractional rates: 2.5/s for 1 s is 2 instances (at 0 and 0.4 s), then 0.625/s for 3.25 s is 2 instances (1.6 s apart) -/
example : Spec.C12.partsToks [.constm 2500 1000, .constm 625 3250] 0 =
    some [0, 400000000, 1000000000, 2600000000] := by decide
example : (0 : ℤ) < 2500 ∧ (0 : ℤ) ≤ 1000 := by decide
/-- …and a nested one: the same tokens as the flat sequence once:1, pause 500 ms, once:1, pause 500 ms, once:2 -/
example : Spec.C12.partsToks [.comp [.once 1, .const 0 500], .comp [.once 1, .comp [.const 0 500, .once 2]]] 0 =
    some [0, 500000000, 1000000000, 1000000000] := by decide


/-- startup tokens at 0, 1 s, 2 s; the loop starts two instances (the second after sleeping on its timer), ammo runs out
while the third `Wait` is asleep, and that call is woken by the cancelled start context -/
def demoToks : List Int := [0, 1000000000, 2000000000]
def demoEvents : List Event :=
  [ .wait { tok := some 0, pick := 10, now := 20, arm := 20, ret := 30 } true 5,
    .wait { tok := some 1000000000, pick := 100, now := 110, arm := 120, ret := 1000000400 } true 7,
    .timerFire,
    .wait { tok := some 2000000000, pick := 1000000500, now := 1000000600, arm := 1000000600, ret := 2000000700 } true 0,
    .instanceExit 0 .ammoEnd,
    .outOfAmmoResult,
    .wakeCancelled ]

example : EventsClockOK (St.init demoToks).waiter demoEvents := by decide
example : (run {} (St.init demoToks) demoEvents).created =
    [⟨0, 35, true⟩, ⟨1, 1000000407, true⟩] := by decide
example : (run {} (St.init demoToks) demoEvents).phase = .done ∧
    (run {} (St.init demoToks) demoEvents).started = 2 ∧
    (run {} (St.init demoToks) demoEvents).sawOutOfAmmo = true ∧
    (run {} (St.init demoToks) demoEvents).running = [1] ∧
    (run {} (St.init demoToks) demoEvents).consumed = 3 ∧
    (run {} (St.init demoToks) demoEvents).waitLog = [true, true, false] := by decide
/-- the same history against the regenerated source -/
example : Gen.Startup.startInstances true ([true, true, false].map K) =
    ⟨[.newInstance .run 0, .goRunFirst .run 0, .goRunNew .run 1], 2, .ofCtx .start, true⟩ := by decide
/-- the timer may still win the final `select` after the start context is cancelled (both ready) -/
example : (run {} (St.init demoToks) (demoEvents.dropLast ++ [.timerFire])).started = 3 := by decide
/-- without any cause every token gets its instance -/
example : (run {} (St.init [0, 5]) [ .wait { tok := some 0, now := 1, arm := 1, ret := 1 } true 0,
    .wait { tok := some 5, now := 2, arm := 2, ret := 6 } true 0, .timerFire,
    .wait { tok := none, now := 7, arm := 7, ret := 7 } true 0 ]).started = 2 := by decide
/-- an instance leaves the running set (hypotheses of `C12_never_reduced`) -/
example : (0 : Nat) ∈ (run {} (St.init demoToks) (demoEvents.take 4)).running ∧
    (0 : Nat) ∉ (step {} (run {} (St.init demoToks) (demoEvents.take 4)) (.instanceExit 0 .ammoEnd)).running := by decide
/-- an exit with a context error is refused while the run context is alive, even after the start context is cancelled -/
example : (step {} (run {} (St.init demoToks) demoEvents) (.instanceExit 1 .cancelled)).running = [1] ∧
    (step {} (step {} (run {} (St.init demoToks) demoEvents) .runCancel) (.instanceExit 1 .cancelled)).running = [] := by
  decide
/-- the synchronous creation fails: nothing started, one token drawn, the loop is over -/
example : (run {} (St.init demoToks) [ .wait { tok := some 0, now := 20, arm := 20, ret := 30 } false 0 ]).phase = .done ∧
    (run {} (St.init demoToks) [ .wait { tok := some 0, now := 20, arm := 20, ret := 30 } false 0 ]).sawCreateFailed = true := by
  decide
/-- the shared RPS profile ends: start cancelled; with per-instance schedules the same event is not enabled -/
example : (run {} (St.init demoToks) (demoEvents.take 1 ++ [.rpsFinished])).startCtxDone = true ∧
    (run { perInstance := true } (St.init demoToks) (demoEvents.take 1 ++ [.rpsFinished])).startCtxDone = false := by decide
/-- hypotheses of `C12_all_tokens`: a finished loop without any cause -/
example : (run {} (St.init [0]) [ .wait { tok := some 0, now := 1, arm := 1, ret := 1 } true 0,
    .wait { tok := none, now := 7, arm := 7, ret := 7 } true 0 ]).phase = .done := by decide
/-- hypotheses of `C12_instance_loop_is_source`: out of ammo in the third pass; schedule drained; still running -/
example : Gen.Startup.instanceRun [{}, {}, { ammoOk := false }] = .body .outOfAmmo := by decide
example : Gen.Startup.instanceRun [{}, { left := 0 }] = .ctxErr := by decide
example : Gen.Startup.instanceRun [{}, { waitOk := false }] = .running := by decide
/-- the pool layer on the demo profile: instance 0 starts, a pass of its loop is refused ammo (exit "out of ammo", the
result is in flight), the await loop receives it and cancels instance start, the start loop returns, its result is
received — and only then the pool cancels the run, nothing running, nothing in flight -/
def demoPool : List PEvent :=
  [ .loop (.wait { tok := some 0, pick := 10, now := 20, arm := 20, ret := 30 } true 5),
    .iter 0 {} false false,
    .iter 0 { ammoOk := false } false false,
    .recvRun 0,
    .loop (.wait { ctxDone := true, tok := some 1000000000 } true 0),
    .recvStart ]
example : (poolRun {} (PSt.init demoToks) (demoPool.take 3)).pending = [(0, .exit .ammoEnd)] ∧
    (poolRun {} (PSt.init demoToks) (demoPool.take 3)).base.running = [] ∧
    (poolRun {} (PSt.init demoToks) (demoPool.take 4)).base.startCtxDone = true ∧
    (poolRun {} (PSt.init demoToks) (demoPool.take 5)).poolCancelled = false ∧
    (poolRun {} (PSt.init demoToks) demoPool).poolCancelled = true ∧
    (poolRun {} (PSt.init demoToks) demoPool).aw = { startFinished := true, started := 1, awaited := 1 } := by decide
/-- hypotheses of `C12_exit_reason_is_source` (3): a running instance, a pass that sees `Left() == 0` on the SHARED
schedule with the run alive: it runs the finish callback itself and leaves with "RPS profile exhausted" -/
example : (0 : Nat) ∈ (poolRun {} (PSt.init demoToks) (demoPool.take 2)).base.running ∧
    iterMatches (poolRun {} (PSt.init demoToks) (demoPool.take 2)).base { left := 0 } false false = true ∧
    iterOutcome { left := 0 } false = some .scheduleEnd ∧
    (poolRun {} (PSt.init demoToks) (demoPool.take 2 ++ [.iter 0 { left := 0 } false false])).base.sharedRpsDone = true ∧
    (poolRun {} (PSt.init demoToks) (demoPool.take 2 ++ [.iter 0 { left := 0 } false false])).base.startCtxDone = true := by
  decide
/-- a pass that claims a done context while the run is alive is not an event of the layer (the instance is given the RUN
context): nothing happens -/
example : (poolRun {} (PSt.init demoToks) (demoPool.take 2 ++ [.iter 0 { ctxDone := true } true false])).base.running = [0] := by
  decide
/-- a later instance whose `newInstance` fails in its goroutine sends an error result: the pool fails (run cancelled) -/
example : (poolRun {} (PSt.init [0, 0]) [ .loop (.wait { tok := some 0, now := 1, arm := 1, ret := 1 } true 0),
    .loop (.wait { tok := some 0, now := 2, arm := 2, ret := 2 } false 0) ]).pending = [(1, .createErr)] ∧
    (poolRun {} (PSt.init [0, 0]) [ .loop (.wait { tok := some 0, now := 1, arm := 1, ret := 1 } true 0),
    .loop (.wait { tok := some 0, now := 2, arm := 2, ret := 2 } false 0), .recvRun 0 ]).base.runCtxDone = true := by decide
/-- hypotheses of `C12_engine_returns_only_when_all_pools_done`: two pools; the first finishes, the engine goes on waiting;
both finished: it returns; a failing pool: it returns at once -/
example : Gen.Startup.engineRun 2 0 [.result true] = { awaited := 1, ret := none } ∧
    Gen.Startup.engineRun 2 0 [.result true, .result true] = { awaited := 2, ret := some .ok } ∧
    Gen.Startup.engineRun 2 0 [.result true, .result false] = { awaited := 1, ret := some .failed } ∧
    Gen.Startup.engineRun 2 0 [.ctxDone] = { awaited := 0, ret := some .cancelled } := by decide
/-- the statement layer: instance 0 passes its loop head and gets ammo, THEN the caller cancels the run; its `Wait` sees the
done context, the next loop head ends the instance as "cancelled" — an interleaving inside a pass -/
def demoFine : List FEvent :=
  [ .pool (.loop (.wait { tok := some 0, pick := 10, now := 20, arm := 20, ret := 30 } true 5)),
    .head 0 false 7 false, .acquire 0 true, .pool (.loop .runCancel), .waitNext 0 true false, .head 0 true 7 true ]
example : (fineRun {} (FSt.init demoToks) (demoFine.take 5)).p.base.running = [0] ∧
    (fineRun {} (FSt.init demoToks) (demoFine.take 5)).pc 0 = .head ∧
    (fineRun {} (FSt.init demoToks) demoFine).p.base.running = [] ∧
    (fineRun {} (FSt.init demoToks) demoFine).p.pending = [(0, .exit .cancelled)] := by decide
/-- hypotheses of `C12_pass_is_three_statements`: a running instance at its loop head, a pass that finds the shared schedule
drained inside `Wait` -/
example : (fineRun {} (FSt.init demoToks) (demoFine.take 1)).p.base.running.contains 0 = true ∧
    (fineRun {} (FSt.init demoToks) (demoFine.take 1)).pc 0 = .head ∧
    iterMatches (fineRun {} (FSt.init demoToks) (demoFine.take 1)).p.base { waitOk := false } false true = true := by decide

/-- the engine layer, two pools with the demo profile: pool 0 runs out of ammo, finishes altogether, returns and is awaited
by the engine — pool 1, whose first instance is running, is not touched; when pool 1 has finished too the engine returns
(and only then the run contexts are cancelled) -/
def demoEngine : List EEvent :=
  demoPool.map (.pool 0) ++ [.poolReturn 0 true, .engineRecv 0] ++ (demoPool.take 2).map (.pool 1)
example : ((erun (fun _ => {}) (ESt.init 2 (fun _ => demoToks)) demoEngine).pool 0).ret = some true ∧
    (erun (fun _ => {}) (ESt.init 2 (fun _ => demoToks)) demoEngine).eng = { awaited := 1, ret := none } ∧
    ((erun (fun _ => {}) (ESt.init 2 (fun _ => demoToks)) demoEngine).pool 1).p.base.running = [0] ∧
    ((erun (fun _ => {}) (ESt.init 2 (fun _ => demoToks)) demoEngine).pool 1).p.base.runCtxDone = false := by decide
example : (erun (fun _ => {}) (ESt.init 2 (fun _ => demoToks))
      (demoEngine ++ (demoPool.drop 2).map (.pool 1) ++ [.poolReturn 1 true, .engineRecv 1])).eng =
        { awaited := 2, ret := some .ok } ∧
    ((erun (fun _ => {}) (ESt.init 2 (fun _ => demoToks))
      (demoEngine ++ (demoPool.drop 2).map (.pool 1) ++ [.poolReturn 1 true, .engineRecv 1])).pool 1).p.base.runCtxDone = true := by
  decide
/-- …a pool that FAILS (its second instance cannot be created; the error result is received) returns an error: the engine
returns "failed" and the run of the other pool is cancelled — hypotheses of `C12_engine_cancels_pool_only_for_cause` with
the second cause -/
def demoEngineFail : List EEvent :=
  [ .pool 1 (.loop (.wait { tok := some 0, pick := 10, now := 20, arm := 20, ret := 30 } true 5)),
    .pool 0 (.loop (.wait { tok := some 0, now := 1, arm := 1, ret := 1 } true 0)),
    .pool 0 (.loop (.wait { tok := some 0, now := 2, arm := 2, ret := 2 } false 0)),
    .pool 0 (.recvRun 0), .poolReturn 0 false, .engineRecv 0 ]
example : ((erun (fun _ => {}) (ESt.init 2 (fun j => if j = 0 then [0, 0] else demoToks)) demoEngineFail).pool 0).failed = true ∧
    (erun (fun _ => {}) (ESt.init 2 (fun j => if j = 0 then [0, 0] else demoToks)) demoEngineFail).eng =
      { awaited := 0, ret := some .failed } ∧
    ((erun (fun _ => {}) (ESt.init 2 (fun j => if j = 0 then [0, 0] else demoToks)) demoEngineFail).pool 1).p.base.runCtxDone = true ∧
    ((erun (fun _ => {}) (ESt.init 2 (fun j => if j = 0 then [0, 0] else demoToks)) (demoEngineFail.take 4)).pool 1).p.base.runCtxDone = false := by
  decide

/-- the provider returns without error while an instance runs: nothing changes; the aggregator FAILS: the run is cancelled -/
example : (poolRun {} (PSt.init demoToks) (demoPool.take 2 ++ [.recvOther true])).base.running = [0] ∧
    (poolRun {} (PSt.init demoToks) (demoPool.take 2 ++ [.recvOther true])).base.runCtxDone = false ∧
    (poolRun {} (PSt.init demoToks) (demoPool.take 2 ++ [.recvOther false])).base.runCtxDone = true := by decide

/-- hypotheses of `C12_pool_await_is_source`: the regenerated condition on concrete counters -/
example : Gen.Startup.allFinished { startFinished := true, started := 3, awaited := 3 } = true ∧
    Gen.Startup.allFinished { startFinished := true, started := 3, awaited := 2 } = false ∧
    Gen.Startup.allFinished { startFinished := false, started := -1, awaited := 0 } = false := by decide

/-- instance_step 10 → 100 step 10 of docs/eng/startup.md: 10 at once, 9 more steps -/
example : stepCount 10 100 10 = 9 := by decide
example : (instanceStepToks 2 5 3 500).length = 5 ∧ instanceStepToks 2 5 3 500 = [0, 0, 500, 500, 500] := by decide

/-! ### "the RPS profile is exhausted" is real for composite profiles (`Left()` of core/schedule/composite.go)

The loop of `instance.Run` and the finish callback of the shared RPS schedule learn "exhausted" from `Left() == 0`.  For a
composite profile that answer is computed from `leftAfter`, which `NewComposite` precomputes with a loop; both are
REGENERATED (`Pandora.Gen.C12Left`).  `cs` = what the parts answered to `Left()` when the composite was built (negative =
unknown length, an `unlimited` part); the composite stands at part `i` (it has shifted `i` times), which now answers `cur`. -/

section Left
open Pandora.Go.C12Left Pandora.Model.C12Left Pandora.Proofs.C12Left Pandora.Bridge.C12Left

/-- `leftAfter` as the regenerated loop of `NewComposite` computes it -/
def genLeftAfter (cs : List Int) : List Int := (genLoop cs).1

/-- The regenerated loop of `NewComposite` computes, for EVERY list of parts and every position, the meaning of the parts
behind that position: unknown (−1) as soon as one of them has unknown length, else the exact sum of their tokens. -/
theorem C12_composite_left_after_is_source (cs : List Int) (i : Nat) (h : i < cs.length) :
    Gen.C12Left.NewComposite_loopOrder = "lastToFirst" ∧
    (genLeftAfter cs)[i]? = some (seqLeft (cs.drop (i + 1))) ∧
    (seqLeft (cs.drop (i + 1)) < 0 ↔ ∃ c ∈ cs.drop (i + 1), c < 0) ∧
    ((∀ c ∈ cs.drop (i + 1), 0 ≤ c) → seqLeft (cs.drop (i + 1)) = (cs.drop (i + 1)).foldr (· + ·) 0) := by
  refine ⟨loopOrder_eq, ?_, seqLeft_neg_iff _, seqLeft_known _⟩
  simp only [genLeftAfter, genLoop_eq]
  exact leftAfterOf_get cs i h

/-- "The RPS profile is exhausted" is REAL: the regenerated `(*compositeSchedule).Left`, standing at part `i` of a composite
built by the regenerated `NewComposite`, answers 0 only if the current part has exactly nothing left AND every part behind
it has a known length of exactly no token — never while a part of unknown length (or any token) is still to come,
whatever the parts in front of it were (no token, one token, many), started or not. -/
theorem C12_rps_end_is_real (cs : List Int) (i : Nat) (h : i < cs.length) (cur : Int) (started : Bool)
    (h0 : Gen.C12Left.compositeSchedule_Left_decide ((cs.length : Int) - i) ((genLeftAfter cs)[i]?.getD 0) cur started = .ret 0) :
    cur = 0 ∧ ∀ c ∈ cs.drop (i + 1), c = 0 := by
  rw [leftDecide_eq, (C12_composite_left_after_is_source cs i h).2.1] at h0
  obtain ⟨hc, hrest⟩ := leftDecide_zero h0
  refine ⟨hc, ?_⟩
  rcases hrest with hn | hla
  · -- the last part: nothing behind it
    have : cs.drop (i + 1) = [] := by
      apply List.drop_eq_nil_of_le; omega
    simp [this]
  · exact seqLeft_eq_zero _ (by simpa using hla)

/-- End to end with the REGENERATED users of `Left()`: the finish callback of the shared RPS schedule fires on a `Left()` call
(`callbackOnLeft`, which cancels instance start) and the loop of `instance.Run` ends for "profile exhausted" (`IsFinished` with
its context alive) on a composite profile only when that profile is really exhausted in the sense of `C12_rps_end_is_real`. -/
theorem C12_start_cut_by_rps_end_is_real (cs : List Int) (i : Nat) (h : i < cs.length) (cur v : Int) (started : Bool)
    (hd : Gen.C12Left.compositeSchedule_Left_decide ((cs.length : Int) - i) ((genLeftAfter cs)[i]?.getD 0) cur started = .ret v)
    (hcb : Gen.Startup.callbackOnLeft v = true ∨ Gen.Startup.IsFinished false v = true) :
    cur = 0 ∧ ∀ c ∈ cs.drop (i + 1), c = 0 := by
  have hv : v = 0 := by
    rcases hcb with hcb | hcb <;> simpa [Gen.Startup.callbackOnLeft, Gen.Startup.IsFinished] using hcb
  subst hv
  exact C12_rps_end_is_real cs i h cur started hd

/-- …and when every part behind is known and the current one still has tokens the answer is the exact number of tokens
still to come (so instance start is not cut and no instance stops while a token is left). -/
theorem C12_rps_left_exact (cs : List Int) (i : Nat) (h : i + 1 < cs.length) (cur : Int) (started : Bool)
    (hk : ∀ c ∈ cs.drop (i + 1), 0 ≤ c) (hcur : 0 < cur) :
    Gen.C12Left.compositeSchedule_Left_decide ((cs.length : Int) - i) ((genLeftAfter cs)[i]?.getD 0) cur started =
      .ret (cur + (cs.drop (i + 1)).foldr (· + ·) 0) := by
  have hs := C12_composite_left_after_is_source cs i (by omega)
  rw [leftDecide_eq, hs.2.1]
  have hsum := hs.2.2.2 hk
  have hge : 0 ≤ seqLeft (cs.drop (i + 1)) := by
    rcases seqLeft_range (cs.drop (i + 1)) with h1 | h1
    · have := (seqLeft_neg_iff (cs.drop (i + 1))).mp (by omega)
      obtain ⟨c, hc, hc'⟩ := this
      have := hk c hc; omega
    · exact h1
  simp only [Option.getD_some]
  rw [leftDecide_known (by omega) hcur hge, hsum]

/-- The same FOLLOWED THROUGH THE SHIFTS (`return s.Left()` after the writer section; regenerated decision and regenerated
`startNext`): for a composite built over parts that answered `cs`, whose remaining parts answer `curs` when they are asked
(the current one now, a part behind once a shift has started it), any recursion depth: `Left()` answers 0 only if every
part it passed and the part it stopped at answered 0 AND every part behind that one has a known length of no token.  So
"exhausted" is never said while a part that still has a token, or whose time is not over, lies ahead. -/
theorem C12_rps_end_is_real_through_shifts (cs curs : List Int) (hlen : curs.length = cs.length) (started : Bool) (fuel : Nat)
    (h0 : genFullLeft started fuel curs (genLeftAfter cs) = some 0) :
    ∃ k, k < curs.length ∧ (∀ j, j ≤ k → curs[j]? = some 0) ∧ ∀ c ∈ cs.drop (k + 1), c = 0 := by
  rw [genFullLeft_eq] at h0
  simp only [genLeftAfter, genLoop_eq] at h0
  exact fullLeft_zero started fuel curs cs hlen h0

/-- pause, one probe shot, unlimited part (the seeded profile), all three asked after their time: drained, drained, over —
two shifts, then 0 (hypotheses of the theorem above); while the unlimited part's time is not over: unknown; while the probe
shot has not been taken: unknown -/
example : genFullLeft true 3 [0, 0, 0] (genLeftAfter [0, 1, -1]) = some 0 ∧
    genFullLeft true 3 [0, 0, -1] (genLeftAfter [0, 1, -1]) = some (-1) ∧
    genFullLeft true 3 [0, 1, -1] (genLeftAfter [0, 1, -1]) = some (-1) := by decide

/-- The PARTS answer truthfully (regenerated `Left()` of `doAtSchedule` — `once`, `const` — and of `unlimitedSchedule`): a part
of n tokens of which i were asked for answers max 0 (n − i) — 0 exactly when every token was taken, n when fresh —, an
unlimited part answers "unknown" (negative) until it was started AND its time is over, and only then 0.  These are the
`cs` (fresh parts) and `cur` (the current part) of `C12_rps_end_is_real`. -/
theorem C12_parts_answer_truthfully (n i : Int) (hi : 0 ≤ i) (started nowBeforeFinish : Bool) :
    (Gen.C12Left.doAtSchedule_Left n i = 0 ↔ n ≤ i) ∧ 0 ≤ Gen.C12Left.doAtSchedule_Left n i ∧
    (0 ≤ n → Gen.C12Left.doAtSchedule_Left n 0 = n) ∧
    (Gen.C12Left.unlimitedSchedule_Left started nowBeforeFinish = 0 ↔ (started = true ∧ nowBeforeFinish = false)) ∧
    (Gen.C12Left.unlimitedSchedule_Left started nowBeforeFinish ≠ 0 → Gen.C12Left.unlimitedSchedule_Left started nowBeforeFinish < 0) ∧
    Gen.C12Left.unlimitedSchedule_Left false nowBeforeFinish < 0 := by
  rw [doAtLeft_eq, doAtLeft_eq, unlimitedLeft_eq, unlimitedLeft_eq]
  refine ⟨by omega, by omega, by intro h; omega, ?_, ?_, by simp⟩
  · cases started <;> cases nowBeforeFinish <;> simp
  · cases started <;> cases nowBeforeFinish <;> simp

/-- a pause, ONE probe shot, then an unlimited part: `leftAfter` is
[unknown, unknown, 0]; before the first token the answer is "unknown", after it the composite shifts on — never 0
(hypotheses of `C12_rps_end_is_real` are met by the drained last part only) -/
example : genLeftAfter [0, 1, -1] = [-1, -1, 0] ∧
    Gen.C12Left.compositeSchedule_Left_decide 3 ((genLeftAfter [0, 1, -1])[0]?.getD 0) 0 false = .ret (-1) ∧
    Gen.C12Left.compositeSchedule_Left_decide 3 ((genLeftAfter [0, 1, -1])[0]?.getD 0) 0 true = .shift ∧
    Gen.C12Left.compositeSchedule_Left_decide 2 ((genLeftAfter [0, 1, -1])[1]?.getD 0) 1 true = .ret (-1) ∧
    Gen.C12Left.compositeSchedule_Left_decide 1 ((genLeftAfter [0, 1, -1])[2]?.getD 0) 0 true = .ret 0 := by decide
/-- all parts known: `const 5` then a pause then `once 3` — 8, then 3 (hypotheses of `C12_rps_left_exact`); two parts
behind an exhausted one, both empty: 0 (hypotheses of `C12_rps_end_is_real` with `i = 0`) -/
example : genLeftAfter [5, 0, 3] = [3, 3, 0] ∧
    Gen.C12Left.compositeSchedule_Left_decide 3 ((genLeftAfter [5, 0, 3])[0]?.getD 0) 5 true = .ret 8 ∧
    Gen.C12Left.compositeSchedule_Left_decide 3 ((genLeftAfter [2, 0, 0])[0]?.getD 0) 0 true = .ret 0 ∧
    freshLeft [0, 1, -1] = some (-1) ∧ freshLeft [5, 0, 3] = some 8 := by decide

end Left

/-! ### when the await loop of a pool ends (`toWait`) -/

section Wait
open Pandora.Model.C12Wait Pandora.Proofs.C12Wait Pandora.Bridge.C12Wait

/-- The await loop of a pool (`awaitRun`, with the REGENERATED bookkeeping: initial `toWait`, loop condition, what every case
and `checkAllInstancesAreFinished` do to it) has ended — only then is `awaitErr` closed and can `pool.Run` return without
error, which lets `Engine.Run` return and cancel everything — exactly when the provider's result, the aggregator's result
and the result of `startInstances` have been received AND "all instance runs awaited" went through; for all orders and
repetitions of these four events.  The counter never goes below 0 (the loop cannot miss its end). -/
theorem C12_pool_returns_ok_only_after_everything_awaited (evs : List WEv) :
    let s := wrun genTab (WSt.init genTab) evs
    (Gen.Startup.awaitLoopGoesOn s.toWait = false ↔
      (s.prov = true ∧ s.aggr = true ∧ s.start = true ∧ s.runs = true)) ∧ 0 ≤ s.toWait ∧
    (s.runs = true → s.start = true) := by
  intro s
  have hinv : WInv s := by
    simp only [s, genTab_eq]
    exact winv_run _ evs winv_init
  rw [goesOn_eq]
  exact ⟨(ended_iff s hinv).1, (ended_iff s hinv).2, hinv.2⟩

/-- the usual order — start result, all runs awaited (which cancels the run), then provider and aggregator answer the
cancelled run — ends the loop; without the aggregator's answer it goes on; "all finished" before the start result is not
possible (hypotheses of the theorem above on concrete runs) -/
example : Gen.Startup.awaitLoopGoesOn (wrun genTab (WSt.init genTab) [.start, .allFinished, .provider, .aggregator]).toWait = false ∧
    Gen.Startup.awaitLoopGoesOn (wrun genTab (WSt.init genTab) [.start, .allFinished, .provider, .provider]).toWait = true ∧
    (wrun genTab (WSt.init genTab) [.allFinished, .provider]).runs = false := by decide

end Wait

/-! ## compositions with the neighbouring properties' models (C04: the Waiter of an instance; C02: the shared RPS profile
under concurrent callers).  Nothing of those models is copied or assumed: their definitions and theorems are imported, their
regenerated sources (`Gen.Waiter`, `Gen.C02Src`, `Gen.C02Cb` …) are regenerated by C12's own check too (props/C12.json). -/

section Compositions

/-- the history of a hiccup of the target, `discard_overflow` on: the first shot hangs 2.5 s, so the second token (due at 0) is 2.5 s
overdue when it is drawn — it is discarded; the third token (due at 3 s) is drawn at 2.6 s, waited for on the timer and FIRED -/
def hiccup : List Pandora.Model.C04.Iter :=
  [{ env := { tok := some 0, pick := 0, now := 0, arm := 0, ret := 0 } },
   { env := { tok := some 0, pick := 2500000000, now := 2500000000, arm := 2500000000, ret := 2500000000 } },
   { env := { tok := some 3000000000, pick := 2600000000, now := 2600000000, arm := 2600000000, ret := 3000000000 } }]

open Pandora.Model.C04 in
/-- **(composition with C04) A started instance KEEPS FIRING, whatever happened to it before.**  The loop of `instance.Run` is C04's
`runLoop` (= the REGENERATED pass `Gen.Waiter.iteration`, last conjunct), started in ANY state `w` of its Waiter — a stale cached
clock reading, a lateness recorded for a token long ago (a hiccup of the target), anything — with `discard_overflow` on or off, over
ANY history of passes `h` (tokens, clock readings, who wins the final `select`) that meets C04's clock hypotheses: every token the
instance has drawn and waited for (`drawn`) that was less than `MaxOverdueDuration` late when `Wait` returned IS FIRED (`Shoot` is
called for it) and is never reported as discarded.  So between its start and its end (RPS profile / ammo exhausted, run cancelled:
`C12_never_reduced`, `C12_exit_reason_is_source`) an instance does not silently stop firing: the only tokens it does not fire are
those `discard_overflow` drops for being 2 s or more overdue.  (A `Wait` that forgets to reset the recorded lateness on the timer
path — seeded change C12-r5-3 — breaks `Bridge.Waiter.Wait_eq`, on which this rests.) -/
theorem C12_keeps_firing_tokens_waited_in_time (d : Bool) (w : Pandora.Model.C04.Waiter) (h : List Pandora.Model.C04.Iter)
    (hc : Pandora.Proofs.C04.ClockOK w h) (it : Pandora.Model.C04.Iter) (hit : it ∈ drawn .fresh w h) (next : Int)
    (htok : it.env.tok = some next) (hlate : it.env.ret - next < maxOverdue) :
    Ev.shoot it ∈ (runLoop .fresh d w h).1 ∧
    (∀ s, Ev.discard it s ∉ (runLoop .fresh d w h).1) ∧
    (∀ w' it', Gen.Waiter.iteration d w' it' = iteration .fresh d w' it') := by
  have hnd : ∀ s, Ev.discard it s ∉ (runLoop .fresh d w h).1 := by
    intro s hs
    cases d with
    | false =>
      rw [Pandora.Props.C04.C04_off] at hs
      simp at hs
    | true =>
      obtain ⟨n', h1, h2⟩ := Pandora.Props.C04.C04_not_discarded_if_fresh .fresh w h hc it s hs
      rw [htok] at h1; cases h1; omega
  refine ⟨?_, hnd, fun w' it' => Pandora.Bridge.Waiter.iteration_eq d w' it'⟩
  have hm := Pandora.Props.C04.C04_every_drawn_token_acted .fresh d w h
  rw [← hm] at hit
  obtain ⟨ev, hev, hiter⟩ := List.mem_map.mp hit
  cases ev with
  | shoot it' => simp [Ev.iter] at hiter; subst hiter; exact hev
  | discard it' s => simp [Ev.iter] at hiter; subst hiter; exact absurd hev (hnd s)

/-- non-vacuity: the hiccup history meets the clock hypotheses, all three tokens are drawn and waited for, the second (2.5 s late)
is discarded, the third (in time) is fired although the Waiter still remembers … nothing: the lateness is reset on the timer path -/
example : Pandora.Proofs.C04.ClockOK { lastNow := -5 } hiccup ∧
    (∀ it ∈ hiccup, it ∈ Pandora.Model.C04.drawn .fresh { lastNow := -5 } hiccup) ∧
    (Pandora.Model.C04.runLoop .fresh true { lastNow := -5 } hiccup).1.map Pandora.Model.C04.Ev.isShoot = [true, false, true] ∧
    (Pandora.Model.C04.runLoop .fresh true { lastNow := -5, overdue := 2500000000 } (hiccup.drop 2)).1.map Pandora.Model.C04.Ev.isShoot = [true] := by
  decide

open Pandora.Model.C02.CbW Pandora.Proofs.C02Cb Pandora.Model.C02.Par Pandora.Model.C02 in
/-- **(composition with C02) Instance start is cut short by "the shared RPS profile finished" only when that profile IS finished.**
Any number of instances (`progs`: the `Next` / `Left` calls each of them makes), ANY interleaving of their steps through the
callback wrapper `coreutil.callbackOnFinishSchedule` (`sched`, clock not going back) around a shared profile that is linearizable
to the flat succession of its parts (`Abs.running segs0` — what C02 proves of every composite, `C02_conc_linearizable`, about the
REGENERATED `compositeSchedule.Next`: last conjunct): when the finish callback is entered (`cbBegin`) — and the callback is
installed on the SHARED schedule only, runs on a `Next` without token / a `Left()` of 0, and all it does is cancel the START
context (regenerated, first four conjuncts) — then (a) the caller that runs it has just got a finishing answer, (b) it was not
entered before, and (c) from then on NO caller of the profile ever gets a token again: every token of the RPS profile had been
handed out.  So the cause "shared RPS profile finished" of `C12_all_tokens_unless` is real in the sense of the property: tokens
of the startup profile are left without instances only when there is nothing left to fire.  (Seeded change C12-r5-1 — `Next`
returning `!ok` at a token-less part in the "somebody shifted before us" branch — breaks `C02_next_is_source`.) -/
theorem C12_start_cut_by_shared_rps_end_is_final {σ : Type} (ops : Ops σ)
    (segs0 : List Pandora.Spec.C02.Seg) (progs : List (List Op)) (sched : List (Nat × Int)) (clk0 : Int)
    (hclk : Pandora.Proofs.C02Par.ClockOK clk0 sched) (newer older : WLog) (e : Nat × Int × WEv)
    (hl : (wrun absInner (winit (Pandora.Spec.C02.Abs.running segs0) progs) sched).log = newer ++ e :: older)
    (he : e.2.2 = .cbBegin) :
    (∀ pi, Gen.Startup.callbackInstalled pi = !pi) ∧
    (∀ cd, Gen.Startup.onSharedRpsFinish cd = if cd Ctx.start then [] else [PoolAct.cancel Ctx.start]) ∧
    (∀ ok, Gen.Startup.callbackOnNext ok = !ok) ∧ (∀ l, Gen.Startup.callbackOnLeft l = (l == 0)) ∧
    (∃ r, lastGot e.1 older = some r ∧ finishing r = true) ∧
    (∀ y ∈ older, y.2.2 ≠ .cbBegin) ∧
    (∀ y ∈ newer, ∀ tx, y.2.2 ≠ .got (.tok tx true)) ∧
    (∀ (s : Sh σ) (tx : Int) (seen : Nat) (now : Int),
      Pandora.Gen.C02Src.compositeSchedule_Next_writer ops s tx seen now = nextWriter ops s tx seen now) := by
  obtain ⟨h1, h2⟩ := Pandora.Props.C02.C02_cb_only_when_finished absInner _ progs sched newer older e hl he
  exact ⟨Bridge.C12Startup.callbackInstalled_eq, Bridge.C12Startup.onSharedRpsFinish_eq,
    Bridge.C12Startup.callbackOnNext_eq, Bridge.C12Startup.callbackOnLeft_eq, h1, h2,
    Pandora.Props.C02.C02_cb_sound segs0 progs sched clk0 hclk newer older e hl he,
    (Pandora.Props.C02.C02_next_is_source ops).2.2⟩

/-- non-vacuity: two instances on a shared profile of one token; both learn that it is exhausted, the second one enters the
callback (the 4th event of the log), after which nobody gets a token -/
example : ((Pandora.Model.C02.CbW.wrun Pandora.Proofs.C02Cb.absInner
      (Pandora.Model.C02.CbW.winit (.running [.fin [5] 5]) [[.next, .next], [.next]])
      [(0, 9), (0, 9), (1, 9), (1, 9), (0, 9), (0, 9), (0, 9), (1, 9), (0, 9)]).log.reverse.map (·.2.2)) =
    [.got (.tok 5 true), .ret (.tok 5 true), .got (.tok 5 false), .cbBegin, .got (.tok 5 false), .blocked, .blocked,
     .cbEnd, .ret (.tok 5 false), .ret (.tok 5 false)] ∧
    Pandora.Proofs.C02Par.ClockOK 0 [(0, 9), (0, 9), (1, 9), (1, 9), (0, 9), (0, 9), (0, 9), (1, 9), (0, 9)] := by
  refine ⟨by decide, by simp [Pandora.Proofs.C02Par.ClockOK]⟩

/-- **(tie) An instance is closed and counted on every path, by the source.**  What the pool layer takes for granted when
it turns the end of `instance.Run` — by return, by error, by a recovered panic (`recoversShootPanic`) — into exactly one result,
one closed gun and one `InstanceFinish`: in EVERY function body of core/engine that calls `Run` on an instance, `Close()` of that
instance is deferred before the call; `InstanceStart` is counted unconditionally and `InstanceFinish` inside a deferred function
that is registered before the start is counted, and nowhere else; `newInstance` closes a gun whose `Bind` failed.  Regenerated
(`gen -area c12close`), so an edit of that cleanup code re-opens this obligation even when no generated input has a panicking gun. -/
theorem C12_instance_cleanup_is_source :
    (Gen.C12Close.runCallers ≠ [] ∧ ∀ r ∈ Gen.C12Close.runCallers, r.2 = true) ∧
    Gen.C12Close.startCountedUnconditionally = true ∧ Gen.C12Close.finishCountedInDefer = true ∧
    Gen.C12Close.finishDeferBeforeStartCount = true ∧ Gen.C12Close.finishCountedElsewhere = 0 ∧
    Gen.C12Close.closesGunWhenBindFails = true ∧ Gen.Startup.recoversShootPanic = true :=
  ⟨Bridge.C12Close.runCallers_defer_close, Bridge.C12Close.counting_and_bind_cleanup.1, Bridge.C12Close.counting_and_bind_cleanup.2.1,
   Bridge.C12Close.counting_and_bind_cleanup.2.2.1, Bridge.C12Close.counting_and_bind_cleanup.2.2.2.1,
   Bridge.C12Close.counting_and_bind_cleanup.2.2.2.2, rfl⟩

/-- what the regenerated `instance.Run` of C12's area (`Gen.Startup.instanceRun`) returns for the outcome C04's area reads off the
same pass: the loop ended at its head ⇒ `ctx.Err()`; ammo refused ⇒ the body's error; skip / shoot / discard ⇒ still looping -/
def runRetOf : Pandora.Model.C04.Outcome → RunRet
  | .loopEnd => .ctxErr
  | .outOfAmmo => .body .outOfAmmo
  | _ => .running

/-- **(composition with C04) The two regenerated readings of the loop of `instance.Run` agree, pass by pass.**  C12's
area `startup` reads the loop as "when does `Run` RETURN, and what" (`instanceRun`, the exits of the pool layer:
`C12_exit_reason_is_source`); C04's area `waiter` reads it as "what is DONE in a pass" (`iteration`: skip / shoot / discard, with
the Waiter's state).  For every waiter state, every pass, `discard_overflow` on or off: fed with the same answers (`IsFinished` of
the loop head, `Acquire`, the result of the regenerated `Wait`), `instanceRun` returns exactly when `iteration` ends the loop, with
the matching result, and otherwise the instance is still running — so a pool-layer pass that does not end the instance is one of
C04's skip / shoot / discard passes, of which `C12_keeps_firing_tokens_waited_in_time` says which; and both areas read the same
`IsFinished`. -/
theorem C12_two_readings_of_instance_loop_agree (d : Bool) (w : Pandora.Model.C04.Waiter) (it : Pandora.Model.C04.Iter)
    (ctxDone : Bool) (left : Int) (hfin : it.finished = Gen.Startup.IsFinished ctxDone left) :
    Gen.Startup.instanceRun [{ ctxDone := ctxDone, left := left, ammoOk := it.ammoOk, waitOk := (Gen.Waiter.Wait w it.env).2 }] =
      runRetOf (Gen.Waiter.iteration d w it).2 ∧
    Gen.Startup.IsFinished ctxDone left = Gen.Waiter.IsFinished ctxDone left := by
  refine ⟨?_, ?_⟩
  · unfold Gen.Startup.instanceRun Gen.Waiter.iteration Gen.Startup.runBody
    rw [← hfin]
    by_cases hf : it.finished = true
    · simp [hf, runRetOf]
    · by_cases ha : it.ammoOk = true
      · by_cases hk : (Gen.Waiter.Wait w it.env).2 = true
        · simp only [hf, ha, hk]
          by_cases hs : ((!d) || (!(Gen.Waiter.IsSlowDown (Gen.Waiter.Wait w it.env).1 it.ctxDoneSlow))) = true
          · simp [hs, runRetOf, Gen.Startup.instanceRun]
          · simp [hs, runRetOf, Gen.Startup.instanceRun]
        · simp [hf, ha, hk, runRetOf, Gen.Startup.instanceRun]
      · simp [hf, ha, runRetOf]
  · unfold Gen.Startup.IsFinished Gen.Waiter.IsFinished
    cases ctxDone
    · by_cases h : left = 0 <;> simp [h]
    · simp

/-- non-vacuity: the second pass of the hiccup history (a discarded token: the instance keeps running), and a pass that finds the
profile exhausted (`Left() == 0`) -/
example : (hiccup[1]!).finished = Gen.Startup.IsFinished false 3 ∧
    ({ finished := true } : Pandora.Model.C04.Iter).finished = Gen.Startup.IsFinished false 0 ∧
    (Gen.Waiter.iteration true { lastNow := 0 } (hiccup[1]!)).2 = .discard Pandora.Model.C04.discardedShootSample := by decide

end Compositions



end Pandora.Props.C12
