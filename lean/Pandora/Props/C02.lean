/-
C02 — Schedule token contract.

What the statement means is fixed once, by the FLAT SPEC (`Spec/C02Flat.lean`): a schedule tree is the flat
succession of its leaf parts (`flat`), each part starting exactly at the finish time of the part before it
(`inst`); `Next` hands out the first token still available (`segNext`), `Left` is the exact count or -1
(`segLeft`).  A and B are the property; C–H tie the model to the source and widen what A and B cover.

A. REFINEMENT — the code (model `Model/C02Sched.lean`, `Model/C02Par.lean`) behaves like the flat spec:
   * `C02_tree_refines`, `C02_seq_refines`: every tree of once/const/line/unlimited parts, any nesting depth,
     0/1/n-child composites, one caller, any sequence of Start/Next/Left with non-decreasing clock readings;
   * `C02_conc_linearizable`: a composite whose children are ANY objects that refine the flat spec (leaves or
     composites of any depth, finite or unlimited) is linearizable to the flat spec of all parts, for every number
     of callers, all their programs of Next/Left calls, every interleaving of the atomic actions and every
     non-decreasing clock; `C02_tree_conc(_started)` instantiate it for every composite node of every tree.
     Nesting follows by structural induction because `C02_tree_refines` makes every subtree such a child.
B. CONTRACT — the clauses of the property, for every run of the atomic flat spec (`Reach`), hence for every
   concurrent run of the code: `C02_exactly_once(_finite)`, `C02_times_monotone`, `C02_per_caller_monotone`,
   `C02_chain`, `C02_finish_stable`, `C02_left_*`, `C02_no_panic`, `C02_autostart`, `C02_double_start`,
   `C02_onFinish_*`, `C02_cb_*` (the wrapper under concurrent callers), `C02_instance_step`.
C. the model against the regenerated source (`C02_*_is_source`, `C02_lock_discipline`, `C02_conf_wrappers_forward`).
D. parts of 2^31 … 2^62 tokens, machine integers, a leaf access by access.   E. described parts, factories.
F. the one-caller model is the regenerated sections run by one caller.   G. accepted configurations (C01) as trees.
H. a starting unlimited leaf against a concurrent `Left`.
-/
import Pandora.Proofs.C02Reach
import Pandora.Bridge.C02Locks
import Pandora.Bridge.C02DoAt
import Pandora.Proofs.C02Cb
import Pandora.Bridge.C02Cb
import Pandora.Bridge.C02Src
import Pandora.Bridge.C02IStep
import Pandora.Proofs.C02Huge
import Pandora.Proofs.C02LeafPar
import Pandora.Proofs.C02Width
import Pandora.Bridge.C02Leaf
import Pandora.Proofs.C02Big
import Pandora.Bridge.C02Const
import Pandora.Proofs.C02Accepted
import Pandora.Proofs.C02Solo
import Pandora.Proofs.C02Pub

namespace Pandora.Props.C02
open Pandora.Model.C02 Pandora.Model.C02.Par Pandora.Spec.C02
open Pandora.Proofs.C02Flat Pandora.Proofs.C02Sem Pandora.Proofs.C02Par Pandora.Proofs.C02Reach

/-- callers with their programs, nothing done yet -/
def initSt {σ : Type} (sh : Sh σ) (progs : List (List Op)) : St σ :=
  ⟨sh, progs.map (fun p => { todo := p }), []⟩

/-! ## A. Refinement -/

/-- **Every schedule tree is the flat succession of its leaf parts.**  Whatever `NewComposite` & co. build for a
tree of once/const/line (`fin`), unlimited and composite nodes — any depth, empty composites, single-child
composites, zero-token parts, unlimited parts anywhere — exists (no panic while building, whatever the clock) and
refines the unstarted flat spec `flat t`. -/
theorem C02_tree_refines (now0 : Int) (t : Tree) (d : Nat) (hd : t.depth ≤ d) :
    ∃ s, build now0 d t = .ok s ∧ (lvlSem d).U s (flat t) :=
  build_ok now0 d t hd

/-- **One caller**: any sequence of `Start`/`Next`/`Left` calls on any tree returns exactly what the flat spec
returns — tokens, finish time, `Left` values and the double-start panic — as long as the clock does not go back. -/
theorem C02_seq_refines (now0 : Int) (t : Tree) (d : Nat) (hd : t.depth ≤ d) (s : Lvl d) (hb : build now0 d t = .ok s)
    (calls : List (SOp × Int)) (clk0 : Int) (hclk : ClockSeq clk0 calls) :
    seqRun (lvlOps d) s calls = absRun (.unstarted (flat t)) calls :=
  seq_refines (lvlSem d) calls s (.unstarted (flat t)) clk0 (build_U now0 d t s hd hb) hclk

/-- **Composition, any interleaving.**  Let the children of a composite be ANY schedule objects that refine the
flat spec (`sem : Sem ops`) — leaves or composites of any depth taken as linearizable objects — and let the shared
state stand for the abstract schedule `A0` (`ShRel`: unstarted, or started earlier).  Then for every number of
callers, all their programs, every schedule of atomic actions and every non-decreasing sequence of clock readings
the log of the run is a run of the ATOMIC flat spec (`Reach`): each returned `Next`/`Left` value is what the flat
spec returns at the clock reading of the returning action (which lies inside the call), in that order; the shared
state again stands for the abstract state reached, so the composite can itself be used as such a child; and as long as
the schedule is not started but its `started` flag is set, some caller is inside `Next` (just past `started.Store`):
so the implicit start that `Reach` allows an internal action to perform (a `Left` that shifts a token-less head)
only ever happens on behalf of a `Next` in progress — `Left` alone never starts a schedule (fix 77f2646). -/
theorem C02_conc_linearizable {σ : Type} (ops : Ops σ) (sem : Sem ops) (sh : Sh σ) (A0 : Abs) (clk0 : Int)
    (h0 : ShRel sem sh A0 clk0) (hfresh : ∀ parts, A0 = .unstarted parts → sh.started = false)
    (progs : List (List Op)) (sched : List (Nat × Int)) (hclk : ClockOK clk0 sched) :
    ∃ A, Reach A0 (run ops (initSt sh progs) sched).log A ∧
      ShRel sem (run ops (initSt sh progs) sched).sh A (lastClk clk0 sched) ∧
      (∀ parts, A = .unstarted parts → (run ops (initSt sh progs) sched).sh.started = true →
        ∃ (i : Nat) (th : Thread), (run ops (initSt sh progs) sched).thr[i]? = some th ∧ th.pc = Pc.nextB) := by
  have hinv : Inv sem A0 (initSt sh progs) clk0 := by
    refine ⟨A0, rfl, h0, fun th hth => ?_, fun parts hA hs => ?_⟩
    · simp only [initSt, List.mem_map] at hth
      obtain ⟨p, _, rfl⟩ := hth
      trivial
    · have := hfresh parts hA
      simp only [initSt] at hs
      rw [this] at hs; cases hs
  obtain ⟨A, h1, h2, _, h4⟩ := run_inv sem (ops := ops) sched _ clk0 hclk hinv
  exact ⟨A, h1, h2, h4⟩

/-- **Every composite node of every tree, not started (the engine never calls `Start`: the first `Next` starts the
schedule), any number of concurrent callers.**  The children are the subtrees, of any depth. -/
theorem C02_tree_conc (now0 : Int) (t : Tree) (d : Nat) (hd : t.depth ≤ d + 1) (c : Comp (Lvl d))
    (hb : build now0 (d + 1) t = .ok (.inr c)) (progs : List (List Op)) (sched : List (Nat × Int)) (clk0 : Int)
    (hclk : ClockOK clk0 sched) :
    ∃ A, Reach (.unstarted (flat t)) (run (lvlOps d) (initSt ⟨c.cs, c.la, c.started⟩ progs) sched).log A :=
  let ⟨h0, hs⟩ := built_shRel now0 t d hd c hb clk0
  let ⟨A, h, _⟩ := C02_conc_linearizable (lvlOps d) (lvlSem d) _ _ clk0 h0 (fun _ _ => hs) progs sched hclk
  ⟨A, h⟩

/-- the same after `Start(t0)` -/
theorem C02_tree_conc_started (now0 : Int) (t : Tree) (d : Nat) (hd : t.depth ≤ d + 1) (c c1 : Comp (Lvl d))
    (hb : build now0 (d + 1) t = .ok (.inr c)) (t0 : Int) (hs : compStart (lvlOps d) c t0 = .ok c1)
    (progs : List (List Op)) (sched : List (Nat × Int)) (clk0 : Int) (hclk : ClockOK clk0 sched) :
    ∃ A, Reach (.running (inst (flat t) t0)) (run (lvlOps d) (initSt ⟨c1.cs, c1.la, c1.started⟩ progs) sched).log A := by
  obtain ⟨s', hs', hR⟩ := (compSem (lvlSem d)).start_U
    (show compU (lvlSem d) c (flat t) from build_U now0 (d + 1) t (.inr c) hd hb) t0
  rw [show (compOps (lvlOps d)).start c t0 = compStart (lvlOps d) c t0 from rfl, hs] at hs'
  cases hs'
  obtain ⟨A, h, _⟩ := C02_conc_linearizable (lvlOps d) (lvlSem d) _ _ clk0 (compR_toSh (lvlSem d) (hR clk0))
    (fun _ h => by cases h) progs sched hclk
  exact ⟨A, h⟩

/-! ## B. The contract, for every run of the atomic flat spec -/

/-- **A schedule that is not started** (no `Start` call: the engine's case) stays as it is while only `Left` calls
return; the first `Next` — or an internal action on behalf of a `Next` in progress — starts it at ONE clock reading
`t`, and from there on the log is a run of the running schedule `inst parts t`. -/
theorem C02_autostart (parts : List Part) (log : Log) (A : Abs) (h : Reach (.unstarted parts) log A) :
    (A = .unstarted parts ∧ ∀ e ∈ log, noTok e) ∨
    ∃ t l2 l1, log = l2 ++ l1 ∧ Reach (.running (inst parts t)) l2 A ∧ (∀ e ∈ l1, noTok e) :=
  reach_unstarted log A h

/-- **Exactly once.**  At every moment of every run: the tokens of the finite parts handed out so far (`drawn`, in
hand-out order), followed by those still held, are exactly the tokens of the flat succession of the parts — nothing
twice, nothing skipped, nothing lost when a part is shifted out; `drawn` is a subsequence of the ok results in
return order, every other ok result being a clock token of a live unlimited part. -/
theorem C02_exactly_once (segs0 : List Seg) (log : Log) (A : Abs) (h : Reach (.running segs0) log A) :
    ∃ segs, A = .running segs ∧ ∃ drawn, drawn ++ finToks segs = finToks segs0 ∧ drawn.Sublist (okToks log) := by
  obtain ⟨segs, hA, drawn, h1, h2, _⟩ := exactly_once log A h
  exact ⟨segs, hA, drawn, h1, h2⟩

/-- … and when no part is unlimited, the ok results in return order ARE the tokens, in order, each once. -/
theorem C02_exactly_once_finite (segs0 : List Seg) (hfin : 0 ≤ pendSegs segs0) (log : Log) (A : Abs)
    (h : Reach (.running segs0) log A) :
    ∃ segs, A = .running segs ∧ okToks log ++ finToks segs = finToks segs0 := by
  obtain ⟨segs, hA, drawn, h1, _, h3⟩ := exactly_once log A h
  obtain ⟨_, rfl⟩ := h3 hfin
  exact ⟨segs, hA, h1⟩

/-- one ok result: it pops the first remaining finite token, or it is the clock reading (never before the part's
start) of the live unlimited part all of whose predecessors are exhausted -/
theorem C02_next_step (segs : List Seg) (now : Int) :
    ((segNext segs now).2.2 = true ∧ finToks segs = (segNext segs now).2.1 :: finToks (segNext segs now).1) ∨
    (finToks (segNext segs now).1 = finToks segs ∧ ((segNext segs now).2.2 = true → UnlTok segs now (segNext segs now).2.1)) :=
  segNextAux_finToks segs 0 now

/-- **Times never decrease** — all times returned by `Next` (tokens and finish times), taken in return order, over
ALL callers, are non-decreasing, provided the parts are well formed (`Chain`: offsets sorted inside [0, dur],
dur ≥ 0 — what once/const/line/unlimited produce, `C02_chain_wf`) and the clock does not go back. -/
theorem C02_times_monotone (segs0 : List Seg) (hne : segs0 ≠ []) (b : Int) (hc : Chain b segs0) (log : Log) (A : Abs)
    (hi : Int) (h : Reach (.running segs0) log A) (hm : LogMono hi log) : (times log).Pairwise (· ≤ ·) := by
  obtain ⟨_, _, _, hp, _⟩ := times_mono hc (Or.inr hne) log A hi h hm
  exact hp

/-- the times returned to ONE caller never decrease -/
theorem C02_per_caller_monotone (segs0 : List Seg) (hne : segs0 ≠ []) (b : Int) (hc : Chain b segs0) (log : Log)
    (A : Abs) (hi : Int) (h : Reach (.running segs0) log A) (hm : LogMono hi log) (i : Nat) :
    (times (log.filter (fun e => e.1 == i))).Pairwise (· ≤ ·) := by
  have hp := C02_times_monotone segs0 hne b hc log A hi h hm
  refine hp.sublist ?_
  unfold times
  exact (List.filter_sublist.reverse).filterMap _

/-- parts as once/const/line/unlimited produce them give a well-formed chain at every start time -/
theorem C02_chain_wf (parts : List Part) (t : Int) (hw : ∀ x ∈ parts, x.wf = true) : Chain t (inst parts t) :=
  chain_inst parts t hw

/-- the log of a run has non-decreasing clock readings when the schedule of actions has -/
theorem C02_log_clock {σ : Type} (ops : Ops σ) : ∀ (sched : List (Nat × Int)) (st : St σ) (clk : Int),
    ClockOK clk sched → LogMono clk st.log → LogMono (lastClk clk sched) (run ops st sched).log
  | [], _, _, _, h => h
  | e :: rest, st, clk, hc, h => by
      have hstep : LogMono e.2 (step ops st e).log := by
        have hw : LogMono e.2 st.log := logMono_mono h hc.1
        unfold step
        cases st.thr[e.1]? with
        | none => exact hw
        | some th =>
          simp only
          cases th.todo with
          | nil => exact hw
          | cons op more =>
            simp only [applyOut]
            have hw' : ∀ out, LogMono e.2 ((e.1, e.2, out) :: st.log) := fun out => ⟨Int.le_refl _, hw⟩
            cases (runSection ops st.sh th.pc op e.2).2 <;> exact hw' _
      exact C02_log_clock ops rest (step ops st e) e.2 hc.2 hstep

/-- **Each nested part starts exactly at the finish time of the part before it**: the parts of a composite are the
parts of its children one after the other, and a succession `a ++ b` started at `t` is `a` started at `t` followed by
`b` started at the finish time of `a`. -/
theorem C02_chain (a b : List Part) (t : Int) :
    inst (a ++ b) t = inst a t ++ inst b (endOf a t) ∧ finOf (inst a t) t = endOf a t :=
  ⟨inst_append a b t, finOf_inst a t⟩

theorem C02_flat_comp (c1 c2 : Tree) (cs : List Tree) :
    flat (.comp (c1 :: c2 :: cs)) = flat c1 ++ flat c2 ++ flatList cs := by
  -- `flat` of a composite asks whether its parts are empty: `simp` picks the branch from `hne`
  have hne : flat c1 ++ (flat c2 ++ flatList cs) ≠ [] := by
    have := flat_ne c1
    simp [this]
  simp only [flat, flatList]
  rw [List.append_assoc]

/-- **After exhaustion every call keeps returning the same finish time**: every `!ok` result of every caller, at
any time, is the finish time of the last part. -/
theorem C02_finish_stable (segs0 : List Seg) (hne : segs0 ≠ []) (log : Log) (A : Abs) (h : Reach (.running segs0) log A) :
    ∀ e ∈ log, ∀ tx, e.2.2 = .ret (.tok tx false) → tx = finOf segs0 0 := by
  obtain ⟨_, _, _, hall⟩ := finish_stable hne log A h
  exact hall

theorem C02_no_panic (A0 : Abs) (log : Log) (A : Abs) (h : Reach A0 log A) :
    ∀ e ∈ log, ∀ m, e.2.2 ≠ .ret (.panic m) :=
  no_panic log A h

/-- a `!ok` result means that nothing is left: every part is exhausted or finished at that clock reading -/
theorem C02_finished_is_dead (segs : List Seg) (now : Int) (h : (segNext segs now).2.2 = false) : Dead segs now :=
  (segNextAux_notok segs 0 now h).1

/-- … and from then on (clock not going back) every `Next` returns `!ok` and the same time -/
theorem C02_dead_stays (segs : List Seg) (clk now : Int) (hd : Dead segs clk) (hle : clk ≤ now) :
    segNext segs now = (segs, finOf segs 0, false) :=
  segNextAux_dead segs 0 clk now hd hle

/-- **Left is exact whenever it is non-negative**: zero only if no token remains (the next `Next`, at any later
clock reading, is `!ok`); positive ⇒ the next `Next` is ok and `Left` drops by exactly one; and it does not move
while nobody draws. -/
theorem C02_left_exact (segs : List Seg) (now now' : Int) (hk : 0 ≤ segLeft segs now) (hle : now ≤ now') :
    segLeft segs now' = segLeft segs now ∧
    (segNext segs now').2.2 = decide (0 < segLeft segs now) ∧
    segLeft (segNext segs now').1 now' = segLeft segs now - (if 0 < segLeft segs now then 1 else 0) := by
  have hs := segLeft_known_stable segs now now' hk hle
  have := segLeft_step segs 0 now' (by rw [hs]; exact hk)
  rw [hs] at this
  exact ⟨hs, this.1, this.2⟩

theorem C02_left_zero (segs : List Seg) (now : Int) : segLeft segs now = 0 ↔ Dead segs now :=
  segLeft_zero_iff segs now

/-- a known `Left` is the number of finite tokens not yet handed out, all unlimited parts before them being finished -/
theorem C02_left_count (segs : List Seg) (now : Int) (hk : 0 ≤ segLeft segs now) :
    ∃ pre post, segs = pre ++ post ∧ Dead pre now ∧ 0 ≤ pendSegs post ∧ segLeft segs now = ((finToks post).length : Int) :=
  segLeft_exact segs now hk

/-- **Left is negative only while the total is genuinely unknown**: it is then exactly -1 and there is a
time-bounded unlimited part that has not finished yet: not reached yet, or current with the clock before its finish -/
theorem C02_left_negative (segs : List Seg) (now : Int) (h : segLeft segs now < 0) :
    segLeft segs now = -1 ∧ ∃ pre s f post, segs = pre ++ Seg.unl s f :: post ∧ (Dead pre now → now < f) :=
  ⟨by have := segLeft_ge segs now; omega, segLeft_neg segs now h⟩

/-- before the start: the exact total, or -1 iff some part is unlimited -/
theorem C02_left_unstarted (parts : List Part) : 0 ≤ partsLeft parts ∨
    (partsLeft parts = -1 ∧ ∃ pre d post, parts = pre ++ Part.unl d :: post) := by
  induction parts with
  | nil => exact Or.inl (by simp [partsLeft])
  | cons p r ih =>
    cases p with
    | unl d => exact Or.inr ⟨rfl, [], d, r, rfl⟩
    | fin offs dur =>
      rcases ih with h | ⟨h, pre, d, post, rfl⟩
      · left; simp only [partsLeft]; split <;> omega
      · right; exact ⟨by simp [partsLeft, h], .fin offs dur :: pre, d, post, rfl⟩

/-- **StartSync: a second `Start`, or a `Start` after the first `Next`, panics "schedule is already started"** —
for every tree. -/
theorem C02_double_start (now0 : Int) (t : Tree) (d : Nat) (hd : t.depth ≤ d) (s : Lvl d) (hb : build now0 d t = .ok s)
    (t0 t1 now : Int) :
    (∃ s1, (lvlOps d).start s t0 = .ok s1 ∧ (lvlOps d).start s1 t1 = .error alreadyStarted) ∧
    (∃ s1 tx ok, (lvlOps d).next s now = .ok (s1, tx, ok) ∧ (lvlOps d).start s1 t1 = .error alreadyStarted) := by
  have hU := build_U now0 d t s hd hb
  constructor
  · obtain ⟨s1, hs, hR⟩ := (lvlSem d).start_U hU t0
    exact ⟨s1, hs, (lvlSem d).start_R (hR 0) t1⟩
  · obtain ⟨s1, hs1, hn1⟩ := (lvlSem d).next_U hU now
    obtain ⟨s1', hs1', hR1⟩ := (lvlSem d).start_U hU now
    rw [hs1] at hs1'; cases hs1'
    obtain ⟨s2, hn, hR2⟩ := (lvlSem d).next_R (hR1 now) now (Int.le_refl _)
    exact ⟨s2, _, _, by rw [hn1]; exact hn, (lvlSem d).start_R hR2 t1⟩

/-! ### callbackOnFinishSchedule -/

def obsOf : Out → Option Obs
  | .ret (.tok tx ok) => some (.tok tx ok)
  | .ret (.cnt n) => some (.cnt n)
  | _ => none

/-- the callback state after a log (newest first): `onFinishOnce.Do(onFinish)` after each finishing result -/
def cbOfLog : Log → Cb
  | [] => {}
  | e :: older => match obsOf e.2.2 with
    | some o => (cbOfLog older).after o
    | none => cbOfLog older

def isFinishEv (e : Nat × Int × Out) : Prop := ∃ o, obsOf e.2.2 = some o ∧ finishObs o = true

/-- **onFinish runs at most once, and exactly once as soon as some `Next` returned `!ok` or some `Left` returned 0** -/
theorem C02_onFinish_once : ∀ (log : Log),
    (cbOfLog log).calls ≤ 1 ∧ ((cbOfLog log).fired = true ↔ (cbOfLog log).calls = 1) ∧
    ((cbOfLog log).calls = 1 ↔ ∃ e ∈ log, isFinishEv e)
  | [] => ⟨Nat.zero_le _, by decide, fun h => absurd h (by decide), fun ⟨_, h, _⟩ => nomatch h⟩
  | e :: older => by
      obtain ⟨h1, h2, h3⟩ := C02_onFinish_once older
      have hex : (∃ x ∈ e :: older, isFinishEv x) ↔ isFinishEv e ∨ (cbOfLog older).calls = 1 := by
        rw [h3]; simp only [List.mem_cons, exists_eq_or_imp]
      rw [hex, show cbOfLog (e :: older) =
        match obsOf e.2.2 with | some o => (cbOfLog older).after o | none => cbOfLog older from rfl]
      cases ho : obsOf e.2.2 with
      | none =>
        have : ¬ isFinishEv e := fun ⟨o, h, _⟩ => by rw [ho] at h; cases h
        exact ⟨h1, h2, by simp only [this, false_or]⟩
      | some o =>
        have hfe : isFinishEv e ↔ finishObs o = true :=
          ⟨fun ⟨o', h, hf⟩ => by rw [ho] at h; cases h; exact hf, fun hf => ⟨o, ho, hf⟩⟩
        rw [hfe]
        -- the Once: a finishing result fires it unless it has fired, and only then is the callback called
        generalize cbOfLog older = c at h1 h2 ⊢
        obtain ⟨fired, calls⟩ := c
        simp only [Cb.after] at h1 h2 ⊢
        cases fired <;> cases finishObs o <;>
          simp only [Bool.and_true, Bool.and_false, Bool.not_true, Bool.not_false, if_true, if_false, Bool.false_eq_true,
            false_iff, true_iff, false_or, true_or, iff_true, and_true] at h2 ⊢ <;> omega

/-- **onFinish never fires while a token is still to come**: after a `Next` that returned `!ok` or a `Left` that
returned 0, no caller ever gets a token again (clock not going back). -/
theorem C02_onFinish_sound (segs0 : List Seg) (newer older : Log) (e : Nat × Int × Out) (A : Abs) (hi : Int)
    (h : Reach (.running segs0) (newer ++ e :: older) A) (hm : LogMono hi (newer ++ e :: older)) (hf : isFinishEv e) :
    ∀ x ∈ newer, okTok x = none := by
  obtain ⟨A2, h2, hnew⟩ := reach_split newer (e :: older) A h
  obtain ⟨A1, h1, hs⟩ := h2
  obtain ⟨segs1, rfl, _⟩ := reach_induct (fun _ _ => True) trivial (fun _ _ _ _ _ _ => trivial) older A1 h1
  obtain ⟨segs2, rfl, hrs⟩ := absStep_running hs
  -- the state after the finishing result is dead at its clock reading
  have hdead : Dead segs2 e.2.1 := by
    obtain ⟨i, now, out⟩ := e
    obtain ⟨o, ho, hfo⟩ := hf
    match out, ho, hrs with
    | .ret (.cnt n), ho, hrs =>
      cases ho
      rw [hrs.2]
      exact (segLeft_zero_iff _ now).mp (by rw [hrs.1]; simpa [finishObs] using hfo)
    | .ret (.tok tx false), _, hrs =>
      obtain ⟨hd, hsame, _⟩ := segNextAux_notok segs1 0 now (congrArg (·.2.2) hrs)
      rw [← show (segNextAux 0 segs1 now).1 = segs2 from congrArg Prod.fst hrs, hsame]
      exact hd
    | .ret (.tok tx true), ho, _ => cases ho; cases hfo
    | .ret (.panic _), ho, _ => cases ho
    | .goto _, ho, _ => cases ho
  -- clock readings of the newer part are at least that of `e`
  have hclk : ∀ (l : Log) (hi : Int), LogMono hi (l ++ e :: older) → ∀ x ∈ l, e.2.1 ≤ x.2.1 := by
    intro l
    induction l with
    | nil => intro _ _ x hx; cases hx
    | cons y ys ih =>
      intro hi hm x hx
      rcases List.mem_cons.mp hx with rfl | hx
      · exact logMono_le _ _ hm.2 e (by simp)
      · exact ih _ hm.2 x hx
  exact dead_reach hdead newer A hnew (hclk newer hi hm)

/-! ### callbackOnFinishSchedule under CONCURRENT callers (`Model/C02Cb.lean`)

`sync.Once` is a lock with a done flag; entering and leaving `onFinish` are separate actions (the callback is the
user's code and may take arbitrarily long); NOTHING is assumed about the wrapped schedule (`Inner ι`: any state, any
results, calls that take any number of actions).  For every number of callers, all their programs and every
schedule of atomic actions: -/

section Callback
open Pandora.Model.C02.CbW Pandora.Proofs.C02Cb

/-- **onFinish runs at most once** — the number of times it was entered is the number of `cbBegin` events, at most
one, and one exactly when the Once is not fresh any more. -/
theorem C02_cb_once {ι : Type} (I : Inner ι) (x : ι) (progs : List (List Op)) (sched : List (Nat × Int)) :
    (wrun I (winit x progs) sched).calls ≤ 1 ∧
    begins (wrun I (winit x progs) sched).log = (wrun I (winit x progs) sched).calls ∧
    ((wrun I (winit x progs) sched).calls = 1 ↔ (wrun I (winit x progs) sched).once ≠ .fresh) := by
  have h := wrun_inv I sched _ (winit_inv x progs)
  refine ⟨?_, h.nbeg, ?_⟩
  · rw [h.calls]; split <;> omega
  · rw [h.calls]
    constructor
    · intro h1 h2; rw [h2] at h1; simp at h1
    · intro h1; simp [h1]

/-- **Nobody is told that the schedule is finished before onFinish has COMPLETED**: whenever a call of the wrapper
returns a finishing result (`Next` with `!ok`, `Left` with 0) — to the caller that ran the callback or to any other
caller, however their calls overlap — the callback has been entered exactly once and has already returned. -/
theorem C02_cb_completed_before_known {ι : Type} (I : Inner ι) (x : ι) (progs : List (List Op)) (sched : List (Nat × Int))
    (newer older : WLog) (e : Nat × Int × WEv) (hl : (wrun I (winit x progs) sched).log = newer ++ e :: older)
    (r : Ret) (he : e.2.2 = .ret r) (hf : finishing r = true) :
    (∃ c ∈ older, c.2.2 = .cbEnd) ∧ (wrun I (winit x progs) sched).calls = 1 := by
  have h := wrun_inv I sched _ (winit_inv x progs)
  have hlog := h.log
  rw [hl] at hlog
  have hev := logOK_suffix newer hlog
  unfold EvOK at hev
  rw [he] at hev
  obtain ⟨c, hc, hce⟩ := hev.2 hf
  refine ⟨⟨c, hc, hce⟩, ?_⟩
  obtain ⟨o1, o2, rfl⟩ := List.append_of_mem hc
  have hlog2 : LogOK ((newer ++ e :: o1) ++ c :: o2) := by simpa using hlog
  have hev2 := logOK_suffix (newer ++ e :: o1) hlog2
  unfold EvOK at hev2
  rw [hce] at hev2
  obtain ⟨b, hb, hbe⟩ := hev2
  have hpos : 0 < begins (wrun I (winit x progs) sched).log := by
    unfold begins
    rw [List.countP_pos_iff]
    exact ⟨b, by rw [hl]; simp [hb], by simp [isBegin, hbe]⟩
  have h1 := (C02_cb_once I x progs sched).1
  have h2 := h.nbeg
  omega

/-- **onFinish is entered only by a caller whose wrapped call returned a finishing result**, and nobody entered it before. -/
theorem C02_cb_only_when_finished {ι : Type} (I : Inner ι) (x : ι) (progs : List (List Op)) (sched : List (Nat × Int))
    (newer older : WLog) (e : Nat × Int × WEv) (hl : (wrun I (winit x progs) sched).log = newer ++ e :: older)
    (he : e.2.2 = .cbBegin) :
    (∃ r, lastGot e.1 older = some r ∧ finishing r = true) ∧ ∀ y ∈ older, y.2.2 ≠ .cbBegin := by
  have hlog := (wrun_inv I sched _ (winit_inv x progs)).log
  rw [hl] at hlog
  have hev := logOK_suffix newer hlog
  unfold EvOK at hev
  rw [he] at hev
  exact hev

/-- **The wrapper is transparent**: every call of it returns what the wrapped call it made returned. -/
theorem C02_cb_transparent {ι : Type} (I : Inner ι) (x : ι) (progs : List (List Op)) (sched : List (Nat × Int))
    (newer older : WLog) (e : Nat × Int × WEv) (hl : (wrun I (winit x progs) sched).log = newer ++ e :: older)
    (r : Ret) (he : e.2.2 = .ret r) : lastGot e.1 older = some r := by
  have hlog := (wrun_inv I sched _ (winit_inv x progs)).log
  rw [hl] at hlog
  have hev := logOK_suffix newer hlog
  unfold EvOK at hev
  rw [he] at hev
  exact hev.1

/-- **No deadlock**: as long as some caller has calls to make, some caller can make an action that is not "blocked in
`Do`" — a blocked caller waits for the one inside `onFinish`, who is never blocked by the wrapper. -/
theorem C02_cb_no_deadlock {ι : Type} (I : Inner ι) (x : ι) (progs : List (List Op)) (sched : List (Nat × Int))
    (hsome : ∃ (i : Nat) (th : WThread), (wrun I (winit x progs) sched).thr[i]? = some th ∧ th.todo ≠ []) :
    ∃ (i : Nat) (th : WThread), (wrun I (winit x progs) sched).thr[i]? = some th ∧ th.todo ≠ [] ∧
      ¬ (∃ r, th.pc = .wait r ∧ (wrun I (winit x progs) sched).once ≠ .done) := by
  have h := wrun_inv I sched _ (winit_inv x progs)
  obtain ⟨i, th, hth, htodo⟩ := hsome
  by_cases hb : ∃ r, th.pc = .wait r ∧ (wrun I (winit x progs) sched).once ≠ .done
  · obtain ⟨r, hpc, hnd⟩ := hb
    have hT := (h.thr i th hth).2
    rw [hpc] at hT
    obtain ⟨_, _, hnf⟩ := hT
    cases ho : (wrun I (winit x progs) sched).once with
    | fresh => exact absurd ho hnf
    | done => exact absurd ho hnd
    | running j =>
      obtain ⟨th2, r2, hth2, hpc2⟩ := h.owner j ho
      refine ⟨j, th2, hth2, (h.thr j th2 hth2).1 (by rw [hpc2]; intro hx; cases hx), ?_⟩
      rintro ⟨r3, hpc3, _⟩
      rw [hpc2] at hpc3; cases hpc3
  · exact ⟨i, th, hth, htodo, hb⟩

/-- **Over the flat spec**: when the wrapped schedule is (linearizable to) the atomic flat spec, the results of the
wrapped calls, in the order in which those calls returned, are a run of the flat spec — so everything in part B holds
for what the callers of the WRAPPER get (`C02_cb_transparent`). -/
theorem C02_cb_flat (A0 : Abs) (progs : List (List Op)) (sched : List (Nat × Int)) (clk0 : Int) (hclk : ClockOK clk0 sched) :
    Reach A0 (gotLog (wrun absInner (winit A0 progs) sched).log) (wrun absInner (winit A0 progs) sched).inner ∧
    LogMono (lastClk clk0 sched) (gotLog (wrun absInner (winit A0 progs) sched).log) :=
  abs_run sched (winit A0 progs) A0 clk0 hclk rfl trivial

/-- **onFinish never runs while a token is still to come**: once `onFinish` has been entered, no wrapped call of any
caller returns a token any more (clock not going back). -/
theorem C02_cb_sound (segs0 : List Seg) (progs : List (List Op)) (sched : List (Nat × Int)) (clk0 : Int)
    (hclk : ClockOK clk0 sched) (newer older : WLog) (e : Nat × Int × WEv)
    (hl : (wrun absInner (winit (Abs.running segs0) progs) sched).log = newer ++ e :: older) (he : e.2.2 = .cbBegin) :
    ∀ y ∈ newer, ∀ tx, y.2.2 ≠ .got (.tok tx true) := by
  obtain ⟨⟨r, hlast, hfin⟩, _⟩ := C02_cb_only_when_finished absInner _ progs sched newer older e hl he
  obtain ⟨o1, now', o2, rfl⟩ := lastGot_mem hlast
  obtain ⟨hreach, hmono⟩ := C02_cb_flat (.running segs0) progs sched clk0 hclk
  rw [hl] at hreach hmono
  have hsplit : gotLog (newer ++ e :: (o1 ++ (e.1, now', WEv.got r) :: o2)) =
      (gotLog newer ++ gotLog (e :: o1)) ++ (e.1, now', Out.ret r) :: gotLog o2 := by
    have h1 : newer ++ e :: (o1 ++ (e.1, now', WEv.got r) :: o2) = (newer ++ e :: o1) ++ ((e.1, now', WEv.got r) :: o2) := by simp
    rw [h1, gotLog_append, gotLog_append]
    rfl
  rw [hsplit] at hreach hmono
  have hfe : isFinishEv (e.1, now', Out.ret r) :=
    match r, hfin with
    | .tok tx false, _ => ⟨.tok tx false, rfl, rfl⟩
    | .cnt n, hfin => ⟨.cnt n, rfl, by simpa [finishing, finishObs] using hfin⟩
  have hs := C02_onFinish_sound segs0 _ _ _ _ _ hreach hmono hfe
  intro y hy tx hyt
  have hmem : (y.1, y.2.1, Out.ret (.tok tx true)) ∈ gotLog newer ++ gotLog (e :: o1) := by
    apply List.mem_append_left
    unfold gotLog
    rw [List.mem_filterMap]
    exact ⟨y, hy, by simp [gotEv, hyt]⟩
  have := hs _ hmem
  simp [okTok] at this

end Callback

/-! ### instance_step -/

/-- **instance_step**: `NewInstanceStep(from, to, step, d)` is the flat succession once(from), then k times
(a token-less part of duration d, once(step)); so started at `t` it hands out `from` tokens at `t` and `step` tokens
at `t + j·d` for j = 1..k, each exactly once, and finishes at `t + k·d` — and, being a tree, everything above
applies to it. -/
theorem C02_instance_step (frm upto step : Nat) (dur : Int) :
    ∃ k, flat (instanceStepTree frm upto step dur) =
      Part.fin (List.replicate frm 0) 0 :: (List.replicate k [Part.fin [] dur, Part.fin (List.replicate step 0) 0]).flatten := by
  obtain ⟨k, hk⟩ := flatList_isLoop upto step dur (upto + 1) (frm + step)
  exact ⟨k, by simp [instanceStepTree, flat, flatList, hk]⟩

/-- tokens of `k` rounds of (wait `dur`, then `step` tokens at once) after time `t` -/
def stepToks (step : Nat) (dur : Int) : Nat → Int → List Int
  | 0, _ => []
  | k + 1, t => List.replicate step (t + dur) ++ stepToks step dur k (t + dur)

theorem C02_instance_step_tokens (step : Nat) (dur : Int) : ∀ (k : Nat) (t : Int),
    finToks (inst ((List.replicate k [Part.fin [] dur, Part.fin (List.replicate step 0) 0]).flatten) t) =
      stepToks step dur k t ∧
    endOf ((List.replicate k [Part.fin [] dur, Part.fin (List.replicate step 0) 0]).flatten) t = t + k * dur
  | 0, t => by simp [inst, finToks, endOf, stepToks]
  | k + 1, t => by
      obtain ⟨ih1, ih2⟩ := C02_instance_step_tokens step dur k (t + dur)
      constructor
      · simp only [List.replicate_succ, List.flatten_cons, List.cons_append, List.nil_append, inst, finToks,
          List.map_nil, Int.add_zero, stepToks]
        rw [ih1]
        simp
      · simp only [List.replicate_succ, List.flatten_cons, List.cons_append, List.nil_append, endOf, Part.dur, Int.add_zero]
        rw [ih2]
        have : ((k + 1 : Nat) : Int) * dur = (k : Int) * dur + dur := by
          rw [Int.natCast_add, Int.add_mul]; simp
        rw [this]; omega


/-! ## C. The model against the source, re-read on every check -/

/-- **Lock discipline of composite.go as it is now** (`Gen/C02Locks.lean` is regenerated from the source): every
child call and every read of `scheds` / `leftAfter` is made under the read or the write lock, every write and
`startNext` under the write lock, and with no lock held a caller only touches the atomic flag, passes one of the
two scheduling points before `Lock`, retries, or panics after `Unlock` — the sections of `Model/C02Par.lean`. -/
theorem C02_lock_discipline : ∀ r ∈ Pandora.Gen.C02Locks.rows, Pandora.Bridge.C02Locks.rowOK r = true := by
  rw [Pandora.Bridge.C02Locks.rows_eq]
  exact Pandora.Bridge.C02Locks.expected_ok

/-- **The finite leaf of the model is the leaf of the source** (`Gen/Schedule.lean` re-translates do_at.go and
start_sync.go on every check): read through `toLeaf`, the regenerated `doAtSchedule` starts as the unstarted model
leaf with offsets `doAt 0 … doAt (n-1)`, and its `Start`, `Next` (auto-start by the clock reading, overshooting
index) and `Left` (clamped at 0) do exactly what `Leaf.start/next/left` do, the double-start panic included. -/
theorem C02_leaf_is_source (duration n : Int) (doAt : Int → Int) (hn : 0 ≤ n) :
    let s0 := Pandora.Gen.Schedule.NewDoAtSchedule duration n doAt
    Pandora.Bridge.C02DoAt.WF s0 ∧
    leafU (Pandora.Bridge.C02DoAt.toLeaf s0) [Part.fin ((List.range n.toNat).map (fun (k : Nat) => doAt (Int.ofNat k))) duration] ∧
    (∀ s, Pandora.Bridge.C02DoAt.WF s → ∀ now t,
      (∃ s' tx ok, Pandora.Gen.Schedule.doAtSchedule_Next now s = .ok ((tx, ok), s') ∧
        Leaf.next (Pandora.Bridge.C02DoAt.toLeaf s) now = .ok (Pandora.Bridge.C02DoAt.toLeaf s', tx, ok) ∧
        Pandora.Bridge.C02DoAt.WF s') ∧
      (∃ l, Pandora.Gen.Schedule.doAtSchedule_Left s = .ok (l, s) ∧
        Leaf.left (Pandora.Bridge.C02DoAt.toLeaf s) now = .ok (Pandora.Bridge.C02DoAt.toLeaf s, l)) ∧
      ((∃ s', Pandora.Gen.Schedule.doAtSchedule_Start s t = .ok ((), s') ∧
          Leaf.start (Pandora.Bridge.C02DoAt.toLeaf s) t = .ok (Pandora.Bridge.C02DoAt.toLeaf s') ∧
          Pandora.Bridge.C02DoAt.WF s') ∨
        (Pandora.Gen.Schedule.doAtSchedule_Start s t = .error "schedule is already started" ∧
          Leaf.start (Pandora.Bridge.C02DoAt.toLeaf s) t = .error alreadyStarted))) := by
  refine ⟨Pandora.Bridge.C02DoAt.wf_new duration n doAt hn, ?_, fun s hs now t =>
    ⟨Pandora.Bridge.C02DoAt.next_bridge s hs now, Pandora.Bridge.C02DoAt.left_bridge s hs now,
     Pandora.Bridge.C02DoAt.start_bridge s hs t⟩⟩
  rw [Pandora.Bridge.C02DoAt.new_leaf]
  simp [leafU]

/-- **The wrapper of the model is the wrapper of the source** (`Gen/C02Cb.lean` is regenerated from
core/coreutil/schedule.go): `Next` / `Left` call the wrapped method of the same name and return its results, and the
only other thing they do is `Do(onFinish)` on a `sync.Once`, exactly when the result is a finishing one. -/
theorem C02_cb_is_source (op : Op) (r : Ret) (h : Pandora.Bridge.C02Cb.shaped op r) :
    Pandora.Bridge.C02Cb.innerOf Pandora.Gen.C02Cb.cbRows (Pandora.Bridge.C02Cb.opName op) = [Pandora.Bridge.C02Cb.opName op] ∧
    Pandora.Bridge.C02Cb.actsOf Pandora.Gen.C02Cb.cbRows (Pandora.Bridge.C02Cb.opName op) r =
      if Pandora.Model.C02.CbW.finishing r then [.guardedCall "sync.Once" "onFinish"] else [] :=
  Pandora.Bridge.C02Cb.source_is_model op r h

/-- **The unlimited leaf of the model is the `unlimitedSchedule` of the source** (`Gen/C02Src.lean` re-translates
unlilmited.go and start_sync.go on every check): read through `toLeaf`, `NewUnlimited` is the unstarted model leaf,
and `Start` (double-start panic), `Next` (auto-start at the clock reading, never a time before the part's start, the
finish time once the clock has reached it) and `Left` (-1 until started and finished, then 0) of the source do
exactly what `Leaf.start/next/left` do. -/
theorem C02_unlimited_is_source (duration now0 : Int) :
    Pandora.Bridge.C02Src.WF (Pandora.Gen.C02Src.NewUnlimited duration now0) ∧
    Pandora.Bridge.C02Src.toLeaf (Pandora.Gen.C02Src.NewUnlimited duration now0) = Leaf.unl duration none ∧
    (∀ s, Pandora.Bridge.C02Src.WF s → ∀ now t,
      (∃ s' tx ok, Pandora.Gen.C02Src.unlimitedSchedule_Next now s = .ok ((tx, ok), s') ∧
        Leaf.next (Pandora.Bridge.C02Src.toLeaf s) now = .ok (Pandora.Bridge.C02Src.toLeaf s', tx, ok) ∧
        Pandora.Bridge.C02Src.WF s') ∧
      (∃ l, Pandora.Gen.C02Src.unlimitedSchedule_Left now s = .ok (l, s) ∧
        Leaf.left (Pandora.Bridge.C02Src.toLeaf s) now = .ok (Pandora.Bridge.C02Src.toLeaf s, l)) ∧
      ((∃ s', Pandora.Gen.C02Src.unlimitedSchedule_Start s t = .ok ((), s') ∧
          Leaf.start (Pandora.Bridge.C02Src.toLeaf s) t = .ok (Pandora.Bridge.C02Src.toLeaf s') ∧
          Pandora.Bridge.C02Src.WF s') ∨
        (Pandora.Gen.C02Src.unlimitedSchedule_Start s t = .error "schedule is already started" ∧
          Leaf.start (Pandora.Bridge.C02Src.toLeaf s) t = .error alreadyStarted))) :=
  ⟨Pandora.Bridge.C02Src.wf_new duration now0, Pandora.Bridge.C02Src.new_leaf duration now0, fun s hs now t =>
    ⟨Pandora.Bridge.C02Src.next_bridge s hs now, Pandora.Bridge.C02Src.left_bridge s hs now,
     Pandora.Bridge.C02Src.start_bridge s hs t⟩⟩

/-- **`NewComposite` of the model is the source's**: no children → `NewOnce(0)`, one child → the child itself, and
otherwise the loop that fills `leftAfter` — last child first, `left[i]` = the accumulator before child i, the unknown
latch — is the regenerated loop body. -/
theorem C02_newComposite_is_source {σ : Type} (ops : Ops σ) (now : Int) (c : σ) (rest : List σ) :
    Pandora.Gen.C02Src.NewComposite_shortcuts = [(0, "NewOnce(0)"), (1, "scheds[0]")] ∧
    newComposite ops now [] = .ok (.inl ops.once0) ∧ newComposite ops now [c] = .ok (.inl c) ∧
    Pandora.Gen.C02Src.NewComposite_loopOrder = "lastToFirst" ∧
    mkLeftAfter ops now (c :: rest) = (do
      let (rest', laRest, acc, unknown) ← mkLeftAfter ops now rest
      let (c', l) ← ops.left c now
      let r := Pandora.Gen.C02Src.NewComposite_loopBody acc unknown l
      pure (c' :: rest', r.1 :: laRest, r.2.1, r.2.2)) :=
  ⟨Pandora.Bridge.C02Src.shortcuts_are_source, rfl, rfl, Pandora.Bridge.C02Src.mkLeftAfter_is_source ops now c rest⟩

/-- **`Left` of the model decides what `compositeSchedule.Left` of the source decides** after its reader section —
return the child's count, `leftAfter[0]`, -1, the sum, or shift and retry — in the concurrent model (`leftReader`)
and in the one-caller model (`compLeftAux`). -/
theorem C02_left_is_source {σ : Type} (ops : Ops σ) :
    (∀ (s : Sh σ) (now : Int) (c : σ) (rest : List σ), s.cs = c :: rest → ∀ (c' : σ) (left : Int),
      ops.left c now = .ok (c', left) →
      leftReader ops s now = ({ s with cs := c' :: rest }, Pandora.Bridge.C02Src.outOf (rest.length + 1)
        (Pandora.Gen.C02Src.compositeSchedule_Left_decide ((rest.length : Int) + 1) (s.la.headD 0) left s.started))) ∧
    (∀ (started : Bool) (c : σ) (rest : List σ) (la : List Int) (now : Int),
      compLeftAux ops started c rest la now = (do
        let (c', left) ← ops.left c now
        match Pandora.Gen.C02Src.compositeSchedule_Left_decide ((rest.length : Int) + 1) (la.headD 0) left started with
        | .ret n => pure (⟨c' :: rest, la, started⟩, n)
        | .shift => Pandora.Bridge.C02Src.seqShift ops started c' rest la now)) :=
  ⟨fun s now c rest hcs c' left hl => Pandora.Bridge.C02Src.leftReader_is_source ops s now c rest hcs c' left hl,
   fun started c rest la now => Pandora.Bridge.C02Src.compLeftAux_is_source ops started c rest la now⟩

/-- **`Next` of the concurrent model is `compositeSchedule.Next` of the source, section by section** (`Gen/C02Src.lean`
re-translates the method on every check, control flow and data flow as they are: Go variables are Lean variables of the
same scope): before `RLock` it only sets the started flag; from `RLock` to the return or to the point before `Lock` it
is `nextReader` (the child call, the token or — for the last part — the finish time returned as they are, otherwise
the finish time and `len(s.scheds)` carried over); from `Lock` on it is `nextWriter` (who shifted is re-checked; a token
of the new head, or the retry; `startNext` with the finish time carried over; the retry on a token-less part). -/
theorem C02_next_is_source {σ : Type} (ops : Ops σ) :
    Pandora.Gen.C02Src.compositeSchedule_Next_prologue = ["s.started.Store(true)"] ∧
    (∀ (s : Sh σ) (now : Int), Pandora.Gen.C02Src.compositeSchedule_Next_reader ops s now = nextReader ops s now) ∧
    (∀ (s : Sh σ) (tx : Int) (seen : Nat) (now : Int),
      Pandora.Gen.C02Src.compositeSchedule_Next_writer ops s tx seen now = nextWriter ops s tx seen now) :=
  ⟨Pandora.Bridge.C02Src.next_prologue_is_source, Pandora.Bridge.C02Src.nextReader_is_source ops,
   Pandora.Bridge.C02Src.nextWriter_is_source ops⟩

/-- **The writer section of `Left`, `startNext` and `Start` of the model are those of the source**: from `Lock` on,
`compositeSchedule.Left` is `leftWriter` (re-check of who shifted, the panic if the head still had a token, `startNext`
with the head's finish time, the retry); `startNext` drops the heads of `scheds` and `leftAfter` and then starts the new
head with the time it was given; `Start` sets the started flag and starts the head under the write lock. With
`C02_next_is_source`, `C02_left_is_source` and `C02_newComposite_is_source` every statement of composite.go is regenerated. -/
theorem C02_left_writer_is_source {σ : Type} (ops : Ops σ) :
    (∀ (s : Sh σ) (seen : Nat) (now : Int),
      Pandora.Gen.C02Src.compositeSchedule_Left_writer ops s seen now = leftWriter ops s seen now) ∧
    (∀ (s : Sh σ) (t : Int), s.la ≠ [] → Pandora.Gen.C02Src.compositeSchedule_startNext ops s t = startNext ops s t) ∧
    Pandora.Gen.C02Src.compositeSchedule_Start = ["defer s.rwMu.Unlock()", "s.rwMu.Lock()", "s.scheds[0].Start(t)", "s.started.Store(true)"] :=
  ⟨Pandora.Bridge.C02Src.leftWriter_is_source ops, Pandora.Bridge.C02Src.startNext_is_source ops, Pandora.Bridge.C02Src.start_is_source⟩

/-- **`instance_step` of the model is `NewInstanceStep` of the source** (`Gen/Schedule.lean` re-translates
instance_step.go on every check): with a `doAt` leaf read as its enumerated offsets and a composite as its children,
the source builds exactly `instanceStepTree from to step stepDuration` — `once(from)`, then for every
i = from+step, from+2·step, … ≤ to a token-less part of `stepDuration` followed by `once(step)`. -/
theorem C02_instance_step_is_source (frm upto step : Nat) (hs : 1 ≤ step) (dur : Int) :
    Pandora.Bridge.C02IStep.toTree (Pandora.Gen.Schedule.NewInstanceStep (frm : Int) (upto : Int) (step : Int) dur) =
      instanceStepTree frm upto step dur :=
  Pandora.Bridge.C02IStep.instanceStep_bridge frm upto step hs dur

/-- **`step` of the source is a composite of const parts** (`Gen/Schedule.lean` re-translates step.go on every check):
one const part when from = to, otherwise `NewComposite` of the const parts with the rates from, from+step, … ≤ to (the
float loop of the source), each lasting `duration` — a tree of the kind `C02_tree_refines` is about. -/
theorem C02_step_is_source (rFrom rTo : ℝ) (step duration : ℤ) :
    Pandora.Bridge.C02IStep.toTree (Pandora.Gen.Schedule.NewStep rFrom rTo step duration) =
      if rFrom = rTo then Pandora.Bridge.C02IStep.toTree (Pandora.Gen.Schedule.NewConst rFrom duration)
      else Tree.comp ((Pandora.Go.loopLE rFrom rTo ((step : ℤ) : ℝ)).map
        (fun i => Pandora.Bridge.C02IStep.toTree (Pandora.Gen.Schedule.NewConst i duration))) :=
  Pandora.Bridge.C02IStep.step_bridge rFrom rTo step duration

/-- **The config wrappers are pass-throughs**: `NewCompositeConf(conf)` = `NewComposite(conf.Nested...)`,
`NewInstanceStepConf(conf)` = `NewInstanceStep(conf.From, conf.To, conf.Step, conf.StepDuration)`, `NewUnlimitedConf(conf)` =
`NewUnlimited(conf.Duration)` — every field handed over unchanged and in order (re-extracted on every check, each argument
traced through local aliases; once/const/line/step: C01's `New…Conf` definitions).  A wrapper that drops token-less parts,
truncates a duration or swaps two fields changes this table. -/
theorem C02_conf_wrappers_forward : Pandora.Gen.C02Src.confForwards =
    [("NewCompositeConf", "NewComposite(Nested...)"),
     ("NewInstanceStepConf", "NewInstanceStep(From, To, Step, StepDuration)"),
     ("NewUnlimitedConf", "NewUnlimited(Duration)")] := Pandora.Bridge.C02Src.conf_forwards

/-! ## D. Huge token counts, machine integers, the inside of a leaf -/

open Pandora.Proofs.C02Huge Pandora.Proofs.C02LeafPar Pandora.Proofs.C02Width Pandora.Model.C02.LeafPar in
/-- **Trees with parts of ANY size** (2^31, 2^32, 2^62 tokens in one part: a million operations per second for an hour,
`once(1<<32)`).  A run tree (`Model/C02Huge.lean`: the offsets of a leaf run-length encoded, the composite the same
generic `NewComposite` / `Next` / `Left`) is built without panic and returns, for every sequence of Start/Next/Left
calls with a non-decreasing clock, exactly what the flat spec returns for the EXPANDED tree — the tree with all
offsets written out, which `C02_tree_refines`, `C02_seq_refines` and all contract theorems talk about. -/
theorem C02_huge_refines (now0 : Int) (t : HTree) (d : Nat) (hd : t.depth ≤ d) :
    ∃ s, hbuild now0 d t = .ok s ∧ ∀ (calls : List (SOp × Int)) (clk0 : Int), ClockSeq clk0 calls →
      seqRun (hlvlOps d) s calls = absRun (.unstarted (flat t.expand)) calls := by
  obtain ⟨s, hs, hU⟩ := Pandora.Proofs.C02Huge.hbuild_ok now0 d t hd
  exact ⟨s, hs, fun calls clk0 hclk => seq_refines (Pandora.Proofs.C02Huge.hlvlSem d) calls s _ clk0 hU hclk⟩

/-- `instance_step` with steps of any size: the run tree the driver uses stands for `instanceStepTree` -/
theorem C02_huge_instance_step (frm upto step : Nat) (dur : Int) :
    (hinstanceStepTree frm upto step dur).expand = instanceStepTree frm upto step dur :=
  Pandora.Proofs.C02Huge.hinstanceStepTree_expand frm upto step dur

/-- **The counts do not overflow** (`Gen/C02Src.lean` re-translates the loop of `NewComposite` and the decision of
`compositeSchedule.Left` a second time, in MACHINE integers: every +, -, * wraps at the width of its Go type, every
conversion at the width of its target, the suffix sums are stored in elements of the width the source declares).
The elements are 64 bits wide; while the running sum stays below 2^63 the machine loop body and the machine decision
are the ones over the integers (which the model uses); and every `leftAfter` entry of every composite is the count of a
suffix of the parts (`sufsP`), between -1 and the number of finite tokens, so a schedule with fewer than 2^63 tokens
never leaves that range. -/
theorem C02_no_overflow :
    (Pandora.Gen.C02Src.NewComposite_leftElemBits = 64 ∧ Pandora.Gen.C02Src.compositeSchedule_leftAfter_elemBits = 64) ∧
    (∀ (acc : Int) (unknown : Bool) (l : Int), -1 ≤ acc → -9223372036854775808 ≤ l → acc + l < 9223372036854775808 →
      acc < 9223372036854775808 →
      Pandora.Gen.C02Src.NewComposite_loopBodyW acc unknown l = Pandora.Gen.C02Src.NewComposite_loopBody acc unknown l) ∧
    (∀ (n la left : Int) (started : Bool), -1 ≤ la → -1 ≤ left → left + la < 9223372036854775808 → la < 9223372036854775808 →
      left < 9223372036854775808 →
      Pandora.Gen.C02Src.compositeSchedule_Left_decideW n la left started =
        Pandora.Gen.C02Src.compositeSchedule_Left_decide n la left started) ∧
    (∀ (pss : List (List Part)), (Pandora.Proofs.C02Width.finTotal pss.flatten : Int) < 9223372036854775808 →
      ∀ x ∈ sufsP pss, (-1 ≤ x ∧ x ≤ (Pandora.Proofs.C02Width.finTotal pss.flatten : Int)) ∧ Pandora.Go.wrapInt 64 x = x) :=
  ⟨Pandora.Bridge.C02Src.elemBits_are_source,
   fun acc unknown l h1 h2 h3 h4 => Pandora.Bridge.C02Src.loopBodyW_eq acc unknown l h1 h2 h3 h4,
   fun n la left started h1 h2 h3 h4 h5 => Pandora.Bridge.C02Src.leftDecideW_eq n la left started h1 h2 h3 h4 h5,
   fun pss h x hx =>
    have hb := Pandora.Proofs.C02Width.sufsP_bounds pss x hx
    ⟨hb, Pandora.Bridge.C02Src.wrap64_id x (by omega) (by omega)⟩⟩

/-- **Inside a leaf, any interleaving.**  A leaf — ANY object that refines the flat spec: the `doAt` leaf, the
unlimited leaf, the run leaf — whose `Next` is the once (`startOnce.Do`: start at the clock reading if not started)
followed by ONE atomic operation and whose `Left` is one atomic operation is linearizable to the atomic flat spec: for
every number of callers, all their programs, every interleaving of the actions (enter the call / the once / the
operation) and every non-decreasing clock the log is a run of the atomic spec (`Reach`), from the unstarted object or
from one started earlier.  So all contract theorems of part B hold for a bare leaf under concurrent callers, and a
leaf may be used by `C02_conc_linearizable` as an atomic child (locality). -/
theorem C02_leaf_conc_linearizable {σ : Type} (ops : Ops σ) (sem : Sem ops) (s : σ) (A0 : Abs) (clk0 : Int)
    (h0 : (∃ parts, A0 = .unstarted parts ∧ sem.U s parts) ∨ (∃ segs, A0 = .running segs ∧ sem.R s segs clk0))
    (progs : List (List Op)) (sched : List (Nat × Int)) (hclk : ClockOK clk0 sched) :
    ∃ A, Reach A0 (Pandora.Model.C02.LeafPar.lrun ops (Pandora.Model.C02.LeafPar.linit s progs) sched).log A := by
  have hinv : Pandora.Proofs.C02LeafPar.LInv sem A0 (Pandora.Model.C02.LeafPar.linit s progs) clk0 := by
    refine ⟨A0, rfl, ?_⟩
    rcases h0 with ⟨parts, hA, hU⟩ | ⟨segs, hA, hR⟩
    · refine Or.inr ⟨parts, hA, hU, ?_⟩
      intro th hth
      simp only [Pandora.Model.C02.LeafPar.linit, List.mem_map] at hth
      obtain ⟨p, _, rfl⟩ := hth
      simp
    · exact Or.inl ⟨segs, hA, hR⟩
  obtain ⟨A, h, _⟩ := Pandora.Proofs.C02LeafPar.lrun_inv sem sched _ clk0 hclk hinv
  exact ⟨A, h⟩

/-- the `doAt` leaf (once / const / line), not started: the engine's case -/
theorem C02_doAt_conc (offs : List Int) (dur : Int) (progs : List (List Op)) (sched : List (Nat × Int)) (clk0 : Int)
    (hclk : ClockOK clk0 sched) :
    ∃ A, Reach (.unstarted [Part.fin offs dur])
      (Pandora.Model.C02.LeafPar.lrun leafOps (Pandora.Model.C02.LeafPar.linit (Leaf.fin offs dur 0 none) progs) sched).log A :=
  C02_leaf_conc_linearizable leafOps leafSem _ _ clk0 (Or.inl ⟨_, rfl, by simp [leafSem, leafU]⟩) progs sched hclk

/-- **The leaves of the model touch their shared state as the leaves of the source do** (`Gen/C02Leaf.lean` is
re-extracted from do_at.go / unlilmited.go on every check): per method the statements with accesses to atomics, the
once, methods of the receiver and plain fields are those of `Model/C02LeafPar.lean` — `Next`: the once, then one
statement (`i.Inc`: ONE fetch-and-increment / `finish.Load`); `Left`: one statement — and plain fields are written inside
the once only. -/
theorem C02_leaf_accesses_are_source :
    Pandora.Bridge.C02Leaf.flatAccesses Pandora.Gen.C02Leaf.leafAccesses =
      [("doAtSchedule", "Left", Pandora.Model.C02.LeafPar.doAtLeftAccesses.flatten),
       ("doAtSchedule", "Next", Pandora.Model.C02.LeafPar.doAtNextAccesses.flatten),
       ("unlimitedSchedule", "Left", Pandora.Model.C02.LeafPar.unlLeftAccesses.flatten),
       ("unlimitedSchedule", "Next", Pandora.Model.C02.LeafPar.unlNextAccesses.flatten)] ∧
    (Pandora.Bridge.C02Leaf.flatAccesses Pandora.Gen.C02Leaf.leafAccesses).filter (fun r => r.1 == "doAtSchedule") =
      [("doAtSchedule", "Left", ["i.Load"]), ("doAtSchedule", "Next", ["startOnce.Do", "i.Inc"])] ∧
    (∀ r ∈ Pandora.Gen.C02Leaf.leafPlainWrites, r.2.2.2 = true) :=
  ⟨Pandora.Bridge.C02Leaf.accesses_eq, Pandora.Bridge.C02Leaf.index_is_fetch_and_increment,
   Pandora.Bridge.C02Leaf.plain_writes_in_once⟩

/-! ## E. Parts of realistic size that are described instead of written out; schedule factories -/

/-- **Trees whose parts are DESCRIBED** (`Model/C02Big.lean`: a finite part is a token count `n` and a function `off`
from the token index to its offset — for a const part `constCount` / `constOff`, the float64 operations of `NewConst` /
`constDoAt` carried out exactly; the composite is the same generic `NewComposite` / `Next` / `Left`): built without
panic, and for every sequence of Start/Next/Left calls with a non-decreasing clock they return exactly what the flat
spec returns for the EXPANDED tree (offsets `off 0, …, off (n-1)` written out), the tree `C02_tree_refines`,
`C02_seq_refines` and all contract theorems talk about.  The driver drains const parts of 10^4 … 3·10^5 tokens of the
real code against this model (`mode=seq big=1`). -/
theorem C02_big_refines (now0 : Int) (t : BTree) (d : Nat) (hd : t.depth ≤ d) :
    ∃ s, bbuild now0 d t = .ok s ∧ ∀ (calls : List (SOp × Int)) (clk0 : Int), ClockSeq clk0 calls →
      seqRun (blvlOps d) s calls = absRun (.unstarted (flat t.expand)) calls := by
  obtain ⟨s, hs, hU⟩ := Pandora.Proofs.C02Big.bbuild_ok now0 d t hd
  exact ⟨s, hs, fun calls clk0 hclk => seq_refines (Pandora.Proofs.C02Big.blvlSem d) calls s _ clk0 hU hclk⟩

/-- **The schedules a factory produces are schedules of their own** (any objects, any number of them): in a run of
calls `(j, op, clock)` spread in any order over the produced objects `ss` (no panic, i.e. no double `Start`), what
object `j` answered is what it answers to its own calls when it is used alone. -/
theorem C02_factory_objects {σ : Type} (ops : Ops σ) (ss : List σ) (calls : List (Nat × SOp × Int)) (j : Nat) (s : σ)
    (hs : ss[j]? = some s) (hne : noErr (facRun ops ss calls) = true) :
    projObs j (facRun ops ss calls) = seqRun ops s (projCalls j calls) :=
  Pandora.Proofs.C02Big.facRun_proj ops calls ss j s hs hne

/-- **A schedule factory** (`rps` of an instance pool is a `func() (core.Schedule, error)`; with `rps-per-instance`
every instance calls it): the factory builds the configured tree anew at every call, so k calls give k independent
objects (`List.replicate k s` — states are values, nothing is shared), and EACH of them, whatever is done with the
others in between and in whatever order, returns exactly what the flat spec of the configured tree returns for the
calls made to it: all its tokens, its own `Left`, its own part start times. -/
theorem C02_factory_independent (now0 : Int) (t : Tree) (d : Nat) (hd : t.depth ≤ d) (k : Nat)
    (calls : List (Nat × SOp × Int)) :
    ∃ s, build now0 d t = .ok s ∧
      (noErr (facRun (lvlOps d) (List.replicate k s) calls) = true → ∀ j, j < k → ∀ clk0,
        ClockSeq clk0 (projCalls j calls) →
        projObs j (facRun (lvlOps d) (List.replicate k s) calls) = absRun (.unstarted (flat t)) (projCalls j calls)) := by
  obtain ⟨s, hs, hU⟩ := build_ok now0 d t hd
  refine ⟨s, hs, fun hne j hj clk0 hclk => ?_⟩
  rw [Pandora.Proofs.C02Big.facRun_proj (lvlOps d) calls (List.replicate k s) j s (by simp [hj]) hne]
  exact seq_refines (lvlSem d) _ s (.unstarted (flat t)) clk0 (build_U now0 d t s hd hs) hclk

/-- **The arithmetic of a const part is the source's** (`Gen/Schedule.lean` re-translates const.go on every check, in
the float64 reading: the result of every float operation goes through a rounding function `fl`).  For any `fl` that
rounds the way `Model/C02Big.lean` computes (`FlIs`: integer → float64, product, quotient), `NewConst` of the source is
the doAt leaf with `constCount ops duration` tokens and `constDoAt(ops)(i)` of the source is `constOff ops i`: the
period `1e9 / ops` rounded once as a float64, multiplied by `float64(i)`, rounded, truncated once.  (That `FlIs`
describes the hardware is measured, not proved: the driver compares every token of every drained const part.) -/
theorem C02_const_is_source (fl : ℝ → ℝ) (h : Pandora.Bridge.C02Const.FlIs fl) (ops : F64) (hops : ops.m ≠ 0) (dur : Nat) :
    Pandora.Gen.Schedule.NewConst_fl fl (Pandora.Bridge.C02Const.val ops) (dur : ℤ) =
      Pandora.Sched.doAt (dur : ℤ) (constCount ops (dur : ℤ))
        (Pandora.Gen.Schedule.constDoAt_fl fl (Pandora.Bridge.C02Const.val ops)) ∧
    ∀ i : Nat, Pandora.Gen.Schedule.constDoAt_fl fl (Pandora.Bridge.C02Const.val ops) (i : ℤ) = constOff ops (i : ℤ) :=
  ⟨Pandora.Bridge.C02Const.constCount_is_source fl h ops dur,
   fun i => Pandora.Bridge.C02Const.constOff_is_source fl h ops hops i⟩

/-! ## non-vacuity, A–E -/

-- two schedules from one factory for [once(1), once(1)], used alternately: each hands out both of its tokens
example : (match newComposite leafOps 0 [Leaf.fin [0] 0 0 none, Leaf.fin [0] 0 0 none] with
    | .ok (.inr c) => facRun (compOps leafOps) [c, c]
        [(0, .next, 5), (1, .next, 6), (1, .left, 6), (0, .next, 7), (1, .next, 8), (0, .next, 9), (0, .left, 9)]
    | _ => []) =
    [(0, .tok 5 true), (1, .tok 6 true), (1, .cnt 1), (0, .tok 5 true), (1, .tok 6 true), (0, .tok 5 false), (0, .cnt 0)] := by
  decide

-- a described const part: 70000 ops/s for 1 s has 70000 tokens, the last one at 999985714 ns (< 10^9)
example : constCount (F64.ofNat 70000) 1000000000 = 70000 ∧ constOff (F64.ofNat 70000) 69999 = 999985714 ∧
    constOff (F64.ofNat 70000) 7 = 100000 := by decide

-- a run tree with 2 + 2^32 tokens: composite(once(2), const(0, 1 s), once(1<<32)); Left is exact all the way
example : (match newComposite hleafOps 0 [HLeaf.fin [⟨0, 0, 2⟩] 0 0 none, HLeaf.fin [] 1000000000 0 none,
      HLeaf.fin [⟨0, 0, 4294967296⟩] 0 0 none] with
    | .ok (.inr c) => seqRun (compOps hleafOps) c [(.start 0, 0), (.left, 0), (.next, 0), (.next, 0), (.left, 0), (.next, 0), (.left, 0)]
    | _ => []) =
    [.started, .cnt 4294967298, .tok 0 true, .tok 0 true, .cnt 4294967296, .tok 1000000000 true, .cnt 4294967295] := by decide

-- two callers race inside a once(1) leaf: both pass the once, one gets the token, `Left` is 0 afterwards
example : ((Pandora.Model.C02.LeafPar.lrun leafOps (Pandora.Model.C02.LeafPar.linit (Leaf.fin [0] 0 0 none) [[.next, .left], [.next]])
    [(0, 5), (1, 5), (0, 5), (1, 5), (1, 6), (0, 6), (0, 7), (0, 7)]).log.map (·.2.2)).reverse =
    [.goto .idle, .goto .idle, .goto .nextB, .goto .nextB, .ret (.tok 5 true), .ret (.tok 5 false), .goto .idle, .ret (.cnt 0)] := by decide

-- the machine-integer loop body with a 64-bit element: 2^32 is stored as it is
example : Pandora.Gen.C02Src.NewComposite_loopBodyW 4294967296 false 2 = (4294967296, 4294967298, false) := by decide


-- the flat spec on [once(1) with duration 5; unlimited(10); once(2)] started at 0, clock 7, 7, 20, 20, 20, 20
example : absRun (.unstarted [.fin [0] 5, .unl 10, .fin [0, 0] 0])
    [(.left, 0), (.start 0, 0), (.next, 7), (.left, 7), (.next, 7), (.next, 20), (.left, 20), (.next, 20), (.next, 20), (.left, 21)] =
    [.cnt (-1), .started, .tok 0 true, .cnt (-1), .tok 7 true, .tok 15 true, .cnt 1, .tok 15 true, .tok 15 false, .cnt 0] := by
  decide

-- an unlimited part started in advance hands out its start time, not the (earlier) clock reading
example : (segNext [.fin [] 100, .unl 100 110] 7).2 = (100, true) := by decide

-- the hypotheses of `C02_conc_linearizable` / `C02_tree_conc` are satisfiable: every composite with two or more
-- children is built as a composite node, e.g. composite[once(1), composite[once(0), once(2)], unlimited(3)]
example : ∃ c, build 0 2 (.comp [.fin [0] 0, .comp [.fin [] 0, .fin [0, 0] 0], .unl 3]) = .ok (.inr c) :=
  build_inr 0 _ _ _ 1 (by decide)
example : ShRel leafSem ⟨[Leaf.fin [0] 0 0 none, Leaf.unl 3 none], sufsP [[.unl 3]], false⟩
    (.unstarted [.fin [0] 0, .unl 3]) 0 :=
  ⟨_, _, [.fin [0] 0], [[.unl 3]], rfl, rfl, by simp [leafSem, leafU], ⟨by simp [leafSem, leafU], trivial⟩, rfl⟩

-- a clock that does not go back, and a well-formed chain
example : ClockOK 0 [(0, 1), (1, 1), (0, 5)] := by simp [ClockOK]
example : Chain 3 (inst [.fin [0, 1, 2] 2, .unl 4, .fin [] 0] 3) :=
  C02_chain_wf _ 3 (by decide)

-- Left: known and positive / zero / negative
example : segLeft [.fin [] 5, .unl 5 9, .fin [10, 10] 10] 9 = 2 ∧ segLeft [.fin [] 5, .unl 5 9, .fin [10, 10] 10] 8 = -1 ∧
    segLeft [.fin [] 5, .unl 5 9] 9 = 0 := by decide

-- the wrapper under overlap: callers 0 and 1 both learn that once(1) is exhausted; 1 runs onFinish, 0 reaches `Do`
-- meanwhile and is blocked until the callback has returned; onFinish ran once
example : ((Pandora.Model.C02.CbW.wrun Pandora.Proofs.C02Cb.absInner
      (Pandora.Model.C02.CbW.winit (.running [.fin [5] 5]) [[.next, .next], [.next]])
      [(0, 9), (0, 9), (1, 9), (1, 9), (0, 9), (0, 9), (0, 9), (1, 9), (0, 9)]).log.reverse.map (·.2.2)) =
    [.got (.tok 5 true), .ret (.tok 5 true), .got (.tok 5 false), .cbBegin, .got (.tok 5 false), .blocked, .blocked,
     .cbEnd, .ret (.tok 5 false), .ret (.tok 5 false)] := by decide


/-! ## F. The one-caller model is the regenerated sections run by one caller -/

section solo
open Pandora.Proofs.C02R6

/-- **The one-caller model of `Next` / `Left` (`compNext`, `compLeft` — what `C02_tree_refines`, `C02_seq_refines`,
`C02_double_start`, `C02_huge_refines`, `C02_big_refines`, `C02_factory_*` are about) is the concurrent model run by one
caller**, and every action of the concurrent model is a section regenerated from composite.go: a caller that performs
its atomic actions back to back (`soloCall`: follow `runSection` until the call returns) gets exactly the result and the
state of `compNext` / `compLeft` (a panic is a panic), for every composite over any children, any `leftAfter`, started
or not; and `runSection` dispatches to the prologue `started.Store(true)`, the regenerated reader / writer sections of
`Next`, the regenerated writer section of `Left` and `leftReader` (whose decision is the regenerated
`compositeSchedule_Left_decide`, `C02_left_is_source`).  So no hand-written reading of composite.go is left that is
tied by correspondence only. -/
theorem C02_seq_is_sections {σ : Type} (ops : Ops σ) :
    (∀ (s : Sh σ) (c : σ) (rest : List σ), s.cs = c :: rest → ∀ now : Int,
      soloCall ops .next (2 * rest.length + 2) s .idle now = nextRes (compNext ops ⟨s.cs, s.la, s.started⟩ now) ∧
      soloCall ops .left (2 * rest.length + 1) s .idle now = leftRes (compLeft ops ⟨s.cs, s.la, s.started⟩ now)) ∧
    (∀ (sh : Sh σ) (pc : Pc) (op : Op) (t : Int), runSection ops sh pc op t =
      match pc, op with
      | .idle, .next => ({ sh with started := true }, .goto .nextB)
      | .idle, .left => leftReader ops sh t
      | .nextB, _ => Pandora.Gen.C02Src.compositeSchedule_Next_reader ops sh t
      | .nextW tx seen, _ => Pandora.Gen.C02Src.compositeSchedule_Next_writer ops sh tx seen t
      | .leftW seen, _ => Pandora.Gen.C02Src.compositeSchedule_Left_writer ops sh seen t) := by
  refine ⟨fun s c rest hcs now => ⟨solo_next ops s c rest hcs now, solo_left ops s c rest hcs now⟩, ?_⟩
  intro sh pc op t
  cases pc with
  | idle => cases op <;> rfl
  | nextB => simp only [runSection]; exact (Pandora.Bridge.C02Src.nextReader_is_source ops sh t).symm
  | nextW tx seen => simp only [runSection]; exact (Pandora.Bridge.C02Src.nextWriter_is_source ops sh tx seen t).symm
  | leftW seen => simp only [runSection]; exact (Pandora.Bridge.C02Src.leftWriter_is_source ops sh seen t).symm

-- non-vacuity: composite[exhausted part of duration 5 started at 0; once(1)], one caller, clock 9: the solo run goes
-- through started.Store, the reader section, the writer section (shift, start at 5) and returns the token at 5;
-- then `Left` = 0
example : (soloCall leafOps .next 4 ⟨[Leaf.fin [] 5 0 (some 0), Leaf.fin [0] 0 0 none], [1, 0], false⟩ .idle 9).2 = .tok 5 true ∧
    (soloCall leafOps .left 3 ⟨[Leaf.fin [0] 0 1 (some 5)], [0], true⟩ .idle 9).2 = .cnt 0 := by decide

end solo

/-! ## G. Composition with C01: accepted configurations → leaves → composites → concurrent callers -/

section compose
open Pandora.Gen.Schedule Pandora.Bridge.C02IStep Pandora.Proofs.C02R6

/-- **Every schedule built from ACCEPTED configurations is a tree of well-formed parts.**  `Accepted`: once / const /
line / step with the `validate` tags C01's area regenerates from the config structs, and composites of such, any
nesting; `toTree` reads what the regenerated constructors build as a C02 tree.  Discharges the hypothesis `Part.wf`
of `C02_chain_wf` / `C02_times_monotone` from C01's theorems (`C01_const`, `C01_line`, `C01_step`) instead of assuming it. -/
theorem C02_accepted_parts_wf (s : Sched) (h : Accepted s) : ∀ p ∈ flat (toTree s), p.wf = true :=
  accepted_wf s h

/-- **Times never decrease, for every accepted schedule**: all times returned by `Next`, in return order over all
callers (hence per caller), in every concurrent run with a clock that does not go back — no hypothesis on the parts. -/
theorem C02_accepted_times_monotone (s : Sched) (h : Accepted s) (t0 : Int) (log : Log) (A : Abs) (hi : Int)
    (hr : Reach (.running (inst (flat (toTree s)) t0)) log A) (hm : LogMono hi log) :
    (times log).Pairwise (· ≤ ·) ∧ ∀ i : Nat, (times (log.filter (fun e => e.1 == i))).Pairwise (· ≤ ·) := by
  have hp := accepted_times_mono s h t0 log A hi hr hm
  refine ⟨hp, fun i => hp.sublist ?_⟩
  unfold times
  exact (List.filter_sublist.reverse).filterMap _

/-- **End to end: rate profile → leaf → concurrent callers.**  For every accepted const configuration and every
accepted line configuration, the started schedule hands out — to however many callers, in whatever interleaving — as
its k-th ok result in return order exactly `start + ⌊x_k · 10⁹⌋`, where `x_k` is the earliest instant at which the
integral of the configured rate reaches k (C01's `EarliestAt`); no more ok results than ⌊∫ rate⌋; each inside
[start, start + duration]. -/
theorem C02_profile_tokens :
    (∀ (ops : ℝ) (D : ℤ), ConstConfig_valid ops D → ∀ (t0 : Int) (log : Log) (A : Abs),
      Reach (.running (inst (flat (toTree (NewConstConf ops D))) t0)) log A →
      ((okToks log).length : ℤ) ≤ max ⌊Props.C01.constCum ops (Bridge.Schedule.secs D)⌋ 0 ∧
      ∀ (k : ℕ) (hk : k < (okToks log).length), ∃ x : ℝ, Props.C01.EarliestAt (Props.C01.constCum ops) D (k : ℝ) x ∧
        (okToks log)[k] = t0 + ⌊x * 1000000000⌋ ∧ t0 ≤ (okToks log)[k] ∧ (okToks log)[k] ≤ t0 + D) ∧
    (∀ (f t : ℝ) (D : ℤ), LineConfig_valid f t D → ∀ (t0 : Int) (log : Log) (A : Abs),
      Reach (.running (inst (flat (toTree (NewLineConf f t D))) t0)) log A →
      ((okToks log).length : ℤ) ≤ max ⌊Props.C01.lineCum f t D (Bridge.Schedule.secs D)⌋ 0 ∧
      ∀ (k : ℕ) (hk : k < (okToks log).length), ∃ x : ℝ, Props.C01.EarliestAt (Props.C01.lineCum f t D) D (k : ℝ) x ∧
        (okToks log)[k] = t0 + ⌊x * 1000000000⌋ ∧ t0 ≤ (okToks log)[k] ∧ (okToks log)[k] ≤ t0 + D) :=
  ⟨fun ops D h t0 log A hr => profile_tokens _ _ D (Props.C01.C01_const ops D h) t0 log A hr,
   fun f t D h t0 log A hr => profile_tokens _ _ D (Props.C01.C01_line f t D h).1 t0 log A hr⟩

-- non-vacuity: a nested accepted schedule …
example : Accepted (Sched.composite [NewOnceConf 3, NewConstConf 7.5 1000000,
    Sched.composite [NewLineConf 0 10 1500000000, NewStepConf 1 10 3 1500000000]]) := by
  refine .comp _ ?_
  intro s hs
  simp only [List.mem_cons, List.mem_nil_iff, or_false] at hs
  rcases hs with rfl | rfl | rfl
  · exact .once 3 (by unfold OnceConfig_valid; norm_num)
  · exact .const _ _ (by unfold ConstConfig_valid; schedule_timeval_unfold; norm_num)
  · refine .comp _ ?_
    intro s hs
    simp only [List.mem_cons, List.mem_nil_iff, or_false] at hs
    rcases hs with rfl | rfl
    · exact .line _ _ _ (by unfold LineConfig_valid; schedule_timeval_unfold; norm_num)
    · exact .step _ _ _ _ (by unfold StepConfig_valid; schedule_timeval_unfold; norm_num)

-- … and a run of an accepted schedule with results of two callers: once(3) started at 7, callers 0 and 1 draw
-- a token each, then caller 1 asks Left
example : Accepted (NewOnceConf 3) ∧ ∃ A, Reach (.running (inst (flat (toTree (NewOnceConf 3))) 7))
    [(1, 9, .ret (.cnt 1)), (1, 8, .ret (.tok 7 true)), (0, 8, .ret (.tok 7 true))] A ∧
    LogMono 9 [(1, 9, .ret (.cnt 1)), (1, 8, .ret (.tok 7 true)), (0, 8, .ret (.tok 7 true))] := by
  refine ⟨.once 3 (by unfold OnceConfig_valid; norm_num), ?_⟩
  have ht : toTree (NewOnceConf 3) = Tree.fin [0, 0, 0] 0 := by
    have := once_tree 3
    simpa [NewOnceConf, List.replicate] using this
  rw [ht]
  refine ⟨.running [.fin [7] 7], ⟨.running [.fin [7] 7], ⟨.running [.fin [7, 7] 7], ⟨_, rfl, ?_⟩, ?_⟩, ?_⟩, ?_⟩
  · show absNext _ 8 = _; decide
  · show absNext _ 8 = _; decide
  · exact ⟨by decide, rfl⟩
  · simp [LogMono]

end compose

/-! ## H. A starting unlimited leaf and a concurrent `Left`: order of the stores and of the loads -/

section publish
open Pandora.Model.C02.Pub Pandora.Proofs.C02R6 Pandora.Bridge.C02Leaf

/-- "a `Left` that runs while another caller starts the leaf — the starting caller performing the stores `w` one by one,
`Left` the loads `r` one by one, in any interleaving — answers what an ATOMIC `Left` answers either before the start
(flag down, finish = the construction time `f0`) or after it (flag up, finish = `v`)" -/
def C02_publish_statement (w : List WAcc) (r : List RAcc) : Prop :=
  ∀ (f0 v : Int) (sched : List Bool) (s : Bool) (f now : Int),
    (urun v (uinit f0 w r) sched).seenStarted = some s → (urun v (uinit f0 w r) sched).seenFinish = some f →
    (s = true → f = v) ∧ (leftOfView s f now = leftOfView false f0 now ∨ leftOfView s f now = leftOfView true v now)

/-- **With the orders of the SOURCE** (`Gen/C02Leaf.lean leafOrder`, re-extracted on every check: first `Next` and
`Start` store the finish time before they raise the started flag, `Left` loads the flag before the finish time) **a
`Left` concurrent with the start of an unlimited leaf is atomic**: it never reports 0 ("finished") from a raised flag and
the stale construction-time finish.  This is what lets `C02_leaf_conc_linearizable` treat the once body and `Left` as
single actions for the unlimited leaf (fix 4d9aa06). -/
theorem C02_unlimited_left_atomic :
    C02_publish_statement (wOrder (orderOf "unlimitedSchedule" "Next")) (rOrder (orderOf "unlimitedSchedule" "Left")) ∧
    C02_publish_statement (wOrder (orderOf "unlimitedSchedule" "Start")) (rOrder (orderOf "unlimitedSchedule" "Left")) := by
  obtain ⟨h1, h2, h3⟩ := unlimited_publish_order
  rw [h1, h2, h3]
  have h : C02_publish_statement [.storeFinish, .storeStarted] [.loadStarted, .loadFinish] :=
    fun f0 v sched s f now hs hf => ⟨publish_safe f0 v sched s f hs hf, left_atomic f0 v sched s f now hs hf⟩
  exact ⟨h, h⟩

/-- the order the code had before fix 4d9aa06 (flag first) is NOT safe: `Left` can see the raised flag with the
construction-time finish and report 0 while the part has 100 ns to go -/
theorem C02_publish_flag_first_counterexample :
    ¬ C02_publish_statement [.storeStarted, .storeFinish] [.loadStarted, .loadFinish] := by
  intro h
  have := (h 0 100 [true, false, false, true] true 0 50 (by decide) (by decide)).1 rfl
  exact absurd this (by decide)

/-- … nor is loading the finish time before the flag -/
theorem C02_publish_finish_read_first_counterexample :
    ¬ C02_publish_statement [.storeFinish, .storeStarted] [.loadFinish, .loadStarted] := by
  intro h
  have := (h 0 100 [false, true, true, false] true 0 50 (by decide) (by decide)).1 rfl
  exact absurd this (by decide)

-- non-vacuity: a `Left` that falls between the two stores sees the flag down (answers -1); one that comes after both
-- sees (up, 100)
example : (urun 100 (uinit 0 [.storeFinish, .storeStarted] [.loadStarted, .loadFinish]) [true, false, true, false]).seenStarted = some false ∧
    (urun 100 (uinit 0 [.storeFinish, .storeStarted] [.loadStarted, .loadFinish]) [true, false, true, false]).seenFinish = some 100 ∧
    (urun 100 (uinit 0 [.storeFinish, .storeStarted] [.loadStarted, .loadFinish]) [true, true, false, false]).seenStarted = some true ∧
    (urun 100 (uinit 0 [.storeFinish, .storeStarted] [.loadStarted, .loadFinish]) [true, true, false, false]).seenFinish = some 100 := by decide

end publish
end Pandora.Props.C02
