/-
C03 — Engine shot accounting.

Model: `Pandora.Model.C03` — one instance pool of the engine as a labelled transition system over a shared or
per-instance finite schedule and a bounded/unbounded provider: instances are started at arbitrary moments of the run
(event `start`), each runs the loop of core/engine/instance.go `instance.Run` (IsFinished check via `Left()`, Acquire,
Wait/`Next()`, fire-or-discard decision, `Request.Add`, `Shoot`, `Response.Add`, deferred Release); ammo items carry
identities.  A trace `evs : List Ev` is ANY interleaving of ANY number of instances (events that are not enabled make
`run` return `none`); the theorems hold for every accepted trace, with no bound on instances, tokens, ammo or length.

The schedule's `Next()` / `Left()` are atomic events of that system; `Pandora.Model.C03Fine` splits each into its one
atomic access to the shared counter and its return, with arbitrary preemption in between, and `C03_fine_refines` shows
that nothing new becomes reachable — `C03_fine_*` restate the clauses for that finer system.

Tie: (1) the correspondence harness replays the event log of the REAL engine through `step` (every observed event
must be enabled, item identities included) and evaluates `Spec.C03.verdict` on the real counters; (2) the body of one
loop iteration, `IsFinished`, `Wait`, the schedule sharing of `buildNewInstanceSchedule` and `AmmoQueue` are
regenerated from the current source and `Pandora.Bridge.InstLoop` proves them to be paths/facts of this model.
-/
import Pandora.Proofs.C03Reach
import Pandora.Proofs.C03Fine
import Pandora.Spec.C03
import Pandora.Bridge.InstLoop
import Pandora.Bridge.C03DoAt
import Pandora.Proofs.C03Await
import Pandora.Bridge.C03Await
import Pandora.Proofs.C03Start
import Pandora.Bridge.C03Start
import Pandora.Proofs.C03Comp
import Pandora.Bridge.C03Comp
import Pandora.Proofs.C03Pool
import Pandora.Bridge.C03Pool
import Pandora.Proofs.C03Leaf
import Pandora.Bridge.C03Wiring
import Pandora.Proofs.C03Iter

namespace Pandora.Props.C03
open Pandora.Model.C03 Pandora.Proofs.C03

/-- **fired + discarded = min(tokens, ammo)** when the pool ends normally (every started instance has left its loop)
and at least one instance was started; tokens = the shared profile, or one full profile per STARTED instance.
For every number of instances started at any moments, both profile modes, every ammo bound and every interleaving. -/
theorem C03_total (c : Cfg) (evs : List Ev) (s : St) (hrun : run c (init c) evs = some s) (ht : s.terminal = true)
    (hN : 0 < s.started) : s.fired + s.discarded = minOpt (s.totalTokens c) c.ammo := by
  have hA := reach_invA hrun
  have cW := count_of_terminal ht .wait (by decide) (by decide)
  have cD := count_of_terminal ht .decide (by decide) (by decide)
  have cF := count_of_terminal ht .firing (by decide) (by decide)
  -- at the end no instance is between two events: the counting invariants speak of the counters alone
  have hacq : s.acquired = s.fired + s.discarded + s.unfired := by have := hA.classified; omega
  -- in both modes: no more shots than tokens, and either the tokens are used up or the ammo is, with nothing unfired
  have key : s.fired + s.discarded ≤ s.totalTokens c ∧
      (s.fired + s.discarded = s.totalTokens c ∨ (s.ammoLeft = some 0 ∧ s.unfired = 0)) := by
    cases hc : c.perInstance with
    | false =>
      have hS := reach_invS hc hrun
      have htok := hS.tok
      simp only [St.totalTokens, hc, Bool.false_eq_true, if_false]
      refine ⟨by omega, ?_⟩
      by_cases hsh : s.shared = 0
      · exact .inl (by omega)
      · refine .inr ⟨(hS.done 0 (started_done hA ht 0 hN)).resolve_left hsh, ?_⟩
        exact Nat.eq_zero_of_not_pos fun h => hsh (hS.unfPos h).1
    | true =>
      have hP := reach_invP hc hrun
      have htok := hP.tok
      simp only [St.totalTokens, hc, if_true]
      refine ⟨by omega, ?_⟩
      by_cases hz : s.ammoLeft = some 0
      · exact .inr ⟨hz, hP.unf0⟩
      · -- ammo is left, so every started instance has drained its own profile
        have hsum : s.own.sum = 0 := by
          apply sum_zero_of_all
          intro i hi
          rw [hP.ownLen] at hi
          rcases Nat.lt_or_ge i s.started with hlt | hge
          · exact (hP.done i (started_done hA ht i hlt)).resolve_right hz
          · exact hP.ownIdle i (hA.idleHi i hge hi)
        exact .inl (by omega)
  obtain ⟨hle, hex⟩ := key
  have hammo := hA.ammo
  cases ha : c.ammo with
  | none =>
    rw [ha] at hammo
    rcases hex with h | ⟨h, _⟩
    · exact h
    · rw [hammo] at h; cases h
  | some a0 =>
    rw [ha] at hammo
    obtain ⟨a, h1, h2⟩ := hammo
    simp only [minOpt]
    rcases hex with h | ⟨h, _⟩
    · omega
    · rw [h1] at h
      have : a = 0 := Option.some.inj h
      omega

/-- the clause read without "at least one instance was started" -/
def C03_total_zero_instances_statement : Prop :=
  ∀ (c : Cfg) (evs : List Ev) (s : St), run c (init c) evs = some s → s.terminal = true →
    s.fired + s.discarded = minOpt (s.totalTokens c) c.ammo

/-- … is false for a shared profile when the startup schedule starts nothing: nothing is fired although tokens and
ammo exist (a degenerate configuration; the engine behaves the same way, see corpus/C03.txt `inst=0`) -/
theorem C03_total_zero_instances_counterexample : ¬ C03_total_zero_instances_statement := by
  intro h
  have := h ⟨false, 1, some 1, false, 0⟩ [] _ rfl (by decide)
  revert this
  decide

/-- every acquired item is released: acquisitions and releases pair up when the pool ends, and every acquired item is
accounted for as fired, discarded or unfired -/
theorem C03_release (c : Cfg) (evs : List Ev) (s : St)
    (hrun : run c (init c) evs = some s) (ht : s.terminal = true) :
    s.acquired = s.released ∧ s.acquired = s.fired + s.discarded + s.unfired := by
  have hA := reach_invA hrun
  have cW := count_of_terminal ht .wait (by decide) (by decide)
  have cD := count_of_terminal ht .decide (by decide) (by decide)
  have cF := count_of_terminal ht .firing (by decide) (by decide)
  have cS := count_of_terminal ht .shot (by decide) (by decide)
  have cR := count_of_terminal ht .release (by decide) (by decide)
  have h1 := hA.held
  have h2 := hA.classified
  constructor <;> omega

/-- **released exactly once**: when the pool ends, each single item `k` that was acquired has been passed to
`Release` exactly one time -/
theorem C03_release_exactly_once (c : Cfg) (evs : List Ev) (s : St)
    (hrun : run c (init c) evs = some s) (ht : s.terminal = true) (k : Nat) (hk : k < s.acquired) :
    s.rels[k]? = some 1 :=
  all_released (reach_invI hrun) ht k hk

/-- no item is ever released twice or more, at any moment of any run -/
theorem C03_release_at_most_once (c : Cfg) (evs : List Ev) (s : St) (hrun : run c (init c) evs = some s)
    (k v : Nat) (hk : s.rels[k]? = some v) : v ≤ 1 := by
  rcases (reach_invI hrun).relsOk k v hk with ⟨h, _⟩ | h <;> omega

/-- **not used after release**: whenever `gun.Shoot` is called (event `shoot i k` enabled after any run), the item
passed is the one instance `i` acquired in this iteration and it has not been released; likewise `Release` is only
ever called on an item that is held.  (`step` does not check this: `badUse` would record it.) -/
theorem C03_no_use_after_release (c : Cfg) (pre : List Ev) (s s' : St) (i k : Nat)
    (hrun : run c (init c) pre = some s) (hstep : step c s (.shoot i k) = some s' ∨ step c s (.rel i k) = some s') :
    s.cur[i]? = some (some k) ∧ s.heldItem k = true ∧ s'.badUse = false := by
  have hI := reach_invI hrun
  have hcur : s.cur[i]? = some (some k) := by
    rcases hstep with h | h
    all_goals
      obtain ⟨_, _, _, m⟩ := step_along h
      have he := m.edge
      cases he
      exact m.guard
  have hheld : s.heldItem k = true := by simp [St.heldItem, cur_held hI hcur]
  refine ⟨hcur, hheld, ?_⟩
  rcases hstep with h | h <;> exact (step_invI hI h).good

/-- the flag that records a Shoot or Release of a not-held item is never set -/
theorem C03_never_bad_use (c : Cfg) (evs : List Ev) (s : St) (hrun : run c (init c) evs = some s) :
    s.badUse = false := (reach_invI hrun).good

/-- in every reachable state: held items = acquired − released = instances between Acquire and Release -/
theorem C03_held_count (c : Cfg) (evs : List Ev) (s : St) (hrun : run c (init c) evs = some s) :
    s.acquired = s.released + s.pcs.count .wait + s.pcs.count .decide + s.pcs.count .firing + s.pcs.count .shot
      + s.pcs.count .release :=
  (reach_invA hrun).held

/-- shared finite profile: at most (started instances − 1) ≤ (instances − 1) acquired items go unfired -/
theorem C03_unfired_shared (c : Cfg) (evs : List Ev) (s : St) (hc : c.perInstance = false)
    (hrun : run c (init c) evs = some s) (ht : s.terminal = true) :
    s.acquired - (s.fired + s.discarded) ≤ s.started - 1 ∧ s.started - 1 ≤ c.instances - 1 := by
  have hS := reach_invS hc hrun
  have hA := reach_invA hrun
  have hrel := (C03_release c evs s hrun ht).2
  refine ⟨?_, by have := hA.startedLe; omega⟩
  rcases Nat.eq_zero_or_pos s.unfired with h0 | hpos
  · omega
  · obtain ⟨hsh, htok⟩ := hS.unfPos hpos
    obtain ⟨j, _, hj, hjpc⟩ := hS.last hsh htok
    have hjlt : j < s.started := by
      rcases Nat.lt_or_ge j s.started with h | h
      · exact h
      · have hjl : j < c.instances := by have := lt_of_get hj; rw [hS.unfLen] at this; exact this
        have := hA.idleHi j h hjl
        rw [this] at hjpc
        simp [drawn_some] at hjpc
    have hbeyond : ∀ i : Nat, s.started ≤ i → s.unf[i]? ≠ some true := by
      intro i hi hf
      have hil : i < c.instances := by have := lt_of_get hf; rw [hS.unfLen] at this; exact this
      have hp := (hS.unfPc i hf).2
      rw [hA.idleHi i hi hil] at hp
      simp [Parked] at hp
    have := count_true_lt_beyond s.unf s.started j hjlt hj hbeyond
    have h1 := hS.unfCnt
    omega

/-- the unfired clause without truncating subtractions: every acquired item is fired, discarded or unfired, and with a shared
profile fewer items go unfired than instances were started (so none when one instance was started) -/
theorem C03_unfired_shared_exact (c : Cfg) (evs : List Ev) (s : St) (hc : c.perInstance = false)
    (hrun : run c (init c) evs = some s) (ht : s.terminal = true) :
    s.acquired = s.fired + s.discarded + s.unfired ∧ (0 < s.started → s.unfired + 1 ≤ s.started) ∧
    s.started ≤ c.instances := by
  have h1 := (C03_release c evs s hrun ht).2
  have h2 := (C03_unfired_shared c evs s hc hrun ht).1
  have h3 := (reach_invA hrun).startedLe
  refine ⟨h1, ?_, h3⟩
  intro hpos
  omega

/-- one full profile per instance: no acquired item ever goes unfired -/
theorem C03_unfired_per_instance (c : Cfg) (evs : List Ev) (s : St) (hc : c.perInstance = true)
    (hrun : run c (init c) evs = some s) (ht : s.terminal = true) :
    s.acquired = s.fired + s.discarded := by
  have := (reach_invP hc hrun).unf0
  have := (C03_release c evs s hrun ht).2
  omega

/-- the engine's request and response counters equal the number of fired requests when the pool ends … -/
theorem C03_metrics (c : Cfg) (evs : List Ev) (s : St) (hrun : run c (init c) evs = some s) (ht : s.terminal = true) :
    s.request = s.fired ∧ s.response = s.fired := by
  have h := (reach_invA hrun).metrics
  have cF := count_of_terminal ht .firing (by decide) (by decide)
  have cS := count_of_terminal ht .shot (by decide) (by decide)
  omega

/-- … and during the run they differ from it exactly by the shots in progress: Request runs ahead by the instances
between `Request.Add` and `Shoot`, Response lags by those between `Shoot` and `Response.Add` -/
theorem C03_metrics_running (c : Cfg) (evs : List Ev) (s : St) (hrun : run c (init c) evs = some s) :
    s.request = s.fired + s.pcs.count .firing ∧ s.response + s.pcs.count .shot = s.fired :=
  (reach_invA hrun).metrics

/-- an engine with several pools: its Request / Response counters are shared by the pools and only ever incremented
(atomically) by them, so their values are the sums over the pools — and equal the shots fired by all pools together
once every pool has ended -/
theorem C03_metrics_engine (pools : List (Cfg × List Ev × St))
    (h : ∀ p ∈ pools, run p.1 (init p.1) p.2.1 = some p.2.2 ∧ p.2.2.terminal = true) :
    (pools.map fun p => p.2.2.request).sum = (pools.map fun p => p.2.2.fired).sum ∧
    (pools.map fun p => p.2.2.response).sum = (pools.map fun p => p.2.2.fired).sum := by
  induction pools with
  | nil => simp
  | cons p ps ih =>
    have hp := h p (List.mem_cons_self ..)
    have := C03_metrics p.1 p.2.1 p.2.2 hp.1 hp.2
    have ih' := ih (fun q hq => h q (List.mem_cons_of_mem _ hq))
    simp only [List.map_cons, List.sum_cons]
    omega

/-- with discard_overflow off nothing is ever discarded -/
theorem C03_discard_off (c : Cfg) (evs : List Ev) (s : St) (hoff : c.discardOn = false)
    (hrun : run c (init c) evs = some s) : s.discarded = 0 := (reach_invA hrun).discOff hoff

/-- the number of started instances never exceeds what the startup schedule allows -/
theorem C03_started_le (c : Cfg) (evs : List Ev) (s : St) (hrun : run c (init c) evs = some s) :
    s.started ≤ c.instances := (reach_invA hrun).startedLe

/-- the loop iteration REGENERATED from the current source of `instance.Run` is, for every answer of the environment,
a path of the model that ends where the model says, with the item released once (see `Pandora.Bridge.InstLoop`) -/
theorem C03_source_iteration_is_model_path :
    Pandora.Model.C03Loop.bodyAccepted Pandora.Gen.InstLoop.iterBody = true := Pandora.Bridge.InstLoop.iterBody_accepted

/-- the regenerated `IsFinished` leaves the loop exactly when `Left() = 0` — the model's `chk` event -/
theorem C03_source_isFinished (left : Nat) : Pandora.Gen.InstLoop.isFinished false (left : Int) = true ↔ left = 0 :=
  Pandora.Bridge.InstLoop.isFinished_iff left

/-! ### the pool at the granularity of the schedule's atomic operations (`Pandora.Model.C03Fine`) -/

section Fine
open Pandora.Model.C03Fine Pandora.Proofs.C03Fine

/-- **refinement**: however the instances are preempted between the atomic access of a `Next()` / `Left()` on the
profile and the return of that call, the pool ends up in a state the coarse system (atomic `Next` / `Left`) reaches too,
by a run that is not longer -/
theorem C03_fine_refines (c : Cfg) (fevs : List FEv) (s : FSt) (h : frun c (finit c) fevs = some s) :
    ∃ evs : List Ev, run c (init c) evs = some s.base ∧ evs.length ≤ fevs.length :=
  fine_refines fevs (finit c) s h

/-- … and the coarse system is the fine one without preemption inside schedule calls: nothing is lost either -/
theorem C03_coarse_is_fine (c : Cfg) (evs : List Ev) (b : St) (h : run c (init c) evs = some b) :
    frun c (finit c) (evs.flatMap refine) = some { base := b, pend := List.replicate c.instances .idle } :=
  coarse_is_fine evs (finit c) b rfl (init_invA c) h

/-- fired + discarded = min(tokens, ammo) at the granularity of the atomic operations -/
theorem C03_fine_total (c : Cfg) (fevs : List FEv) (s : FSt) (h : frun c (finit c) fevs = some s)
    (ht : s.base.terminal = true) (hN : 0 < s.base.started) :
    s.base.fired + s.base.discarded = minOpt (s.base.totalTokens c) c.ammo :=
  let ⟨evs, hr⟩ := fine_reaches h
  C03_total c evs s.base hr ht hN

/-- every acquired item released exactly once, never used while not held, at the granularity of the atomic operations -/
theorem C03_fine_release (c : Cfg) (fevs : List FEv) (s : FSt) (h : frun c (finit c) fevs = some s)
    (ht : s.base.terminal = true) :
    s.base.acquired = s.base.released ∧ (∀ k, k < s.base.acquired → s.base.rels[k]? = some 1) ∧ s.base.badUse = false :=
  let ⟨evs, hr⟩ := fine_reaches h
  ⟨(C03_release c evs s.base hr ht).1, fun k hk => C03_release_exactly_once c evs s.base hr ht k hk,
   C03_never_bad_use c evs s.base hr⟩

/-- the unfired bounds at the granularity of the atomic operations: ≤ started − 1 ≤ instances − 1 for a shared profile,
0 for per-instance profiles -/
theorem C03_fine_unfired (c : Cfg) (fevs : List FEv) (s : FSt) (h : frun c (finit c) fevs = some s)
    (ht : s.base.terminal = true) :
    (c.perInstance = false → s.base.acquired - (s.base.fired + s.base.discarded) ≤ s.base.started - 1 ∧
        s.base.started - 1 ≤ c.instances - 1) ∧
    (c.perInstance = true → s.base.acquired = s.base.fired + s.base.discarded) :=
  let ⟨evs, hr⟩ := fine_reaches h
  ⟨fun hc => C03_unfired_shared c evs s.base hc hr ht, fun hc => C03_unfired_per_instance c evs s.base hc hr ht⟩

/-- Request = Response = fired at the granularity of the atomic operations -/
theorem C03_fine_metrics (c : Cfg) (fevs : List FEv) (s : FSt) (h : frun c (finit c) fevs = some s)
    (ht : s.base.terminal = true) : s.base.request = s.base.fired ∧ s.base.response = s.base.fired :=
  let ⟨evs, hr⟩ := fine_reaches h
  C03_metrics c evs s.base hr ht

end Fine

/-- the leaf profile's `Next()` / `Left()` REGENERATED from the current source each perform exactly one operation on
the schedule's shared state, an atomic one (`i.Inc`, `i.Load`): the premise of `Model.C03Fine` -/
theorem C03_source_schedule_accesses :
    Pandora.Gen.InstLoop.schedNextAccesses = ["i.Inc"] ∧ Pandora.Gen.InstLoop.schedLeftAccesses = ["i.Load"] :=
  Pandora.Bridge.InstLoop.sched_accesses

/-- the regenerated `Left()` of a leaf profile returns the tokens left (never a negative number) and changes nothing —
the model's `chk i left` -/
theorem C03_source_leaf_left (s : Pandora.Gen.Schedule.DoAtSt) :
    Pandora.Gen.Schedule.doAtSchedule_Left s = .ok ((Pandora.Bridge.C03DoAt.tokensLeft s : Int), s) :=
  Pandora.Bridge.C03DoAt.left_eq s

/-- the regenerated `Next()` of a leaf profile succeeds iff a token is left, moves the counter by exactly one in both
cases and leaves one token fewer (none at 0) — the model's `tokOk` / `tokEnd` -/
theorem C03_source_leaf_next (s : Pandora.Gen.Schedule.DoAtSt) (hf : Pandora.Bridge.C03DoAt.Flags s) (now : Int) :
    ∃ tx s', Pandora.Gen.Schedule.doAtSchedule_Next now s = .ok ((tx, decide (0 < Pandora.Bridge.C03DoAt.tokensLeft s)), s') ∧
      s'.i = s.i + 1 ∧ s'.n = s.n ∧ Pandora.Bridge.C03DoAt.Flags s' ∧
      Pandora.Bridge.C03DoAt.tokensLeft s' = Pandora.Bridge.C03DoAt.tokensLeft s - 1 :=
  Pandora.Bridge.C03DoAt.next_draws s hf now

/-- a new regenerated leaf of `n` tokens hands out exactly `n`: call number `k+1` of `Next` succeeds iff `k < n` -/
theorem C03_source_leaf_drain (duration n : Int) (doAt : Int → Int) (now : Int) (k : Nat) :
    ∃ s tx s', Pandora.Bridge.C03DoAt.afterNexts now k (Pandora.Gen.Schedule.NewDoAtSchedule duration n doAt) = some s ∧
      Pandora.Gen.Schedule.doAtSchedule_Next now s = .ok ((tx, decide (k < n.toNat)), s') :=
  Pandora.Bridge.C03DoAt.drain duration n doAt now k

/-! ### the pool's own bookkeeping: when is a pool over (`awaitRun`, `Pandora.Model.C03Await`) -/

section Await
open Pandora.Model.C03Await Pandora.Proofs.C03Await

/-- **a pool ends only when every started instance has returned**: after ANY sequence of results (provider,
aggregator, start, run results of instances, in any order, any number, with or without errors) — the run context of the
instances has been cancelled by the bookkeeping at most once, and only with the start result in and at least as many
run results awaited as instances were started; the loop is over exactly when all four kinds of results are in, and then
`awaited ≥ started` -/
theorem C03_await_no_early_end (rs : List Res) (s : ASt) (h : arun ainit rs = some s) :
    s.runCancels ≤ 1 ∧
    (s.runCancels = 1 → s.startOpen = false ∧ s.started ≤ (s.awaited : Int)) ∧
    (s.over = true ↔ (s.provOpen = false ∧ s.aggrOpen = false ∧ s.startOpen = false ∧ s.runOpen = false)) ∧
    (s.over = true → s.started ≤ (s.awaited : Int)) := by
  have hi := reach_inv h
  have hc := hi.cancels
  refine ⟨by split at hc <;> omega, ?_, over_iff hi, ?_⟩
  · intro h1
    have hro : s.runOpen = false := by
      cases hr : s.runOpen with
      | false => rfl
      | true => rw [hr] at hc; simp at hc; omega
    exact hi.closed.mp hro
  · intro ho
    exact (hi.closed.mp ((over_iff hi).mp ho).2.2.2).2

/-- **… and it does end then**: for every number `n` of started instances and every ORDER of a complete set of results
(one of the provider, one of the aggregator, the start result announcing `n`, one run result per instance) no result is
refused (no "send on closed channel"), the loop ends, exactly `n` instances have been awaited -/
theorem C03_await_ends (n : Nat) (rs : List Res) (h : Complete n rs) :
    ∃ s, arun ainit rs = some s ∧ s.over = true ∧ s.awaited = n ∧ s.started = (n : Int) :=
  complete_from_init h

/-- the start of further instances is cancelled by the bookkeeping only for out-of-ammo results (never the run context:
`C03_await_no_early_end`) -/
theorem C03_await_start_cancel (rs : List Res) (s : ASt) (h : arun ainit rs = some s) :
    s.startCancels ≤ rs.countP (fun r => r.chan == .run && r.outOfAmmo) := by
  have := startCancels_le rs ainit s h
  simpa [ainit] using this

/-- the `case` bodies of `awaitRun`, the body and test of `checkAllInstancesAreFinished` and the initial counters
REGENERATED from the current source do what `astep` does, for every state and every result -/
theorem C03_source_await (s : ASt) (r : Res) :
    stepBy Pandora.Gen.InstLoop.awaitCase Pandora.Gen.InstLoop.awaitCheckCond Pandora.Gen.InstLoop.awaitCheckBody s r =
      (astep s r).map (fun s' => (s', false)) ∧
    Pandora.Gen.InstLoop.awaitInitToWait = (ainit.toWait : Int) ∧ Pandora.Gen.InstLoop.awaitInitStarted = ainit.started ∧
    Pandora.Gen.InstLoop.awaitLoop = "for $.toWait > 0 { select }" ∧
    Pandora.Gen.InstLoop.awaitStartFinished = "$.startRes == nil" :=
  ⟨Pandora.Bridge.C03Await.await_step_eq s r, Pandora.Bridge.C03Await.await_init_eq.1, Pandora.Bridge.C03Await.await_init_eq.2,
   Pandora.Bridge.C03Await.await_loop_eq, Pandora.Bridge.C03Await.await_startFinished_eq⟩

end Await

/-! ### who is started: `startInstances`, and "pool over" = every started instance has left `Run` -/

section Start
open Pandora.Model.C03Start Pandora.Proofs.C03Start Pandora.Model.C03Await Pandora.Proofs.C03Await

/-- **one run result per started instance**: for EVERY sequence of answers of the startup schedule / start context
(`waiter.Wait(startCtx)`: true any number of times, then false or exhausted) and both outcomes of the creation of the
first instance, `startInstances` returns, the goroutines it has launched — each sends exactly one run result, after `Run`
of its instance has returned — are exactly one per id `0 … started-1`, `started` is the number of leading `true` answers
(0 if the first instance could not be created), and its error is the start context's unless that creation failed -/
theorem C03_start_one_result_per_started (answers : List Bool) (firstOk : Bool) :
    let o := starter answers firstOk
    o.bad = false ∧ o.returned = true ∧ o.launched = List.range o.started ∧
    o.started = (if firstOk then allowed answers else 0) ∧
    o.err = (if 0 < allowed answers ∧ firstOk = false then SErr.newInstance else SErr.ctx) :=
  starter_spec answers firstOk

/-- **"the pool is over" means "every started instance has left `Run`"**: let the instances be started by
`startInstances` (any answers of the startup schedule), let the bookkeeping receive ANY sequence of results in any order
in which the start result carries what `startInstances` returned and the run results are sent by the goroutines it
launched (each at most once, so at most one per launched goroutine).  If the loop of `awaitRun` is over then the number of
run results awaited EQUALS the number of goroutines launched: every launched instance has sent its result, i.e. its `Run`
has returned (`C03_source_start`: the value sent is computed by `Run`) — the state the accounting theorems call
`terminal`; and the run context was cancelled exactly once, not before that -/
theorem C03_pool_over_all_returned (answers : List Bool) (firstOk : Bool) (rs : List Res) (s : ASt)
    (h : arun ainit rs = some s)
    (hstart : ∀ r ∈ rs, r.chan = .start → r.started = (starter answers firstOk).started)
    (hruns : cnt .run rs ≤ (starter answers firstOk).launched.length)
    (hover : s.over = true) :
    s.awaited = (starter answers firstOk).launched.length ∧ s.awaited = (starter answers firstOk).started ∧
    cnt .run rs = (starter answers firstOk).started ∧ s.runCancels = 1 := by
  have hspec := starter_spec answers firstOk
  simp only at hspec
  obtain ⟨_, _, hl, _, _⟩ := hspec
  have hlen : (starter answers firstOk).launched.length = (starter answers firstOk).started := by
    rw [hl, List.length_range]
  have hi := reach_inv h
  have hclosed := (over_iff hi).mp hover
  have haw : s.awaited = cnt .run rs := by
    have := awaited_count rs ainit s h
    simpa [ainit] using this
  have hst : s.started = ((starter answers firstOk).started : Int) :=
    started_from_start_result _ rs ainit s h hstart (fun hh => by simp [ainit] at hh) hclosed.2.2.1
  have hge : s.started ≤ (s.awaited : Int) := (hi.closed.mp hclosed.2.2.2).2
  have hc := hi.cancels
  rw [hclosed.2.2.2] at hc
  refine ⟨by omega, by omega, by omega, by simpa using hc⟩

/-- `startInstances`, `runNewInstance`, what `runAsync` launches and the factory the plugin registry builds,
REGENERATED from the current source: executing the regenerated statements of `startInstances` is the model's `starter` for
every sequence of answers; an instance's run result is what its `Run` returned; the pool launches the provider, the
aggregator and the starter, each sending exactly one result on its own channel, the start context is a child of
the run context; a factory built for a registered constructor decodes the config and calls the constructor at every call;
the finish-callback wrapper around the shared profile passes `Left()` / `Next()` on unchanged; `Engine.Run` returns nil only
after the loop that awaits one result per pool -/
theorem C03_source_start (answers : List Bool) (firstOk : Bool) :
    execStart Pandora.Gen.InstLoop.startPre Pandora.Gen.InstLoop.startLoop Pandora.Gen.InstLoop.startPost answers firstOk =
      starter answers firstOk ∧
    Pandora.Gen.InstLoop.runNewInstanceRunsThenCloses = true ∧
    Pandora.Gen.InstLoop.runAsyncGoroutines =
      ["chan:aggregatorErr <- Aggregator.Run(ctx:run)",
       "chan:providerErr <- Provider.Run(ctx:run)",
       "chan:startRes <- startResult{startInstances(ctx:instanceStart, ctx:run, chan:runRes)}"] ∧
    Pandora.Gen.InstLoop.runAsyncContexts = ["instanceStart = WithCancel(ctx:run)", "run = WithCancel(ctx:pool)"] ∧
    Pandora.Gen.InstLoop.factoryPerCall = ["getMaybeConf", "newPlugin.Call"] ∧
    (∀ left : Int, 0 ≤ left → Pandora.Gen.InstLoop.callbackLeft left = (left, decide (left = 0))) ∧
    (∀ ok : Bool, Pandora.Gen.InstLoop.callbackNext ok = (ok, !ok)) ∧
    (Pandora.Gen.InstLoop.engineRunLoop = "for $i := 0; $i < len($.config.Pools); $i++" ∧
     Pandora.Gen.InstLoop.engineRunReturnsInLoop.all (fun r => r != "return nil") = true ∧
     Pandora.Gen.InstLoop.engineRunAfterLoop = "return nil") :=
  ⟨Pandora.Bridge.C03Start.start_exec_eq answers firstOk, Pandora.Bridge.C03Start.run_result_after_run,
   Pandora.Bridge.C03Start.runAsync_eq.1, Pandora.Bridge.C03Start.runAsync_eq.2, Pandora.Bridge.C03Start.factory_per_call,
   Pandora.Bridge.C03Start.callback_left, Pandora.Bridge.C03Start.callback_next, Pandora.Bridge.C03Start.engineRun_eq⟩

end Start

/-! ### "the pool ends normally": `(*instancePool).Run` returns nil (`Pandora.Model.C03Pool`) -/

section Pool
open Pandora.Model.C03Start Pandora.Proofs.C03Start Pandora.Model.C03Await Pandora.Proofs.C03Await
open Pandora.Model.C03Pool Pandora.Proofs.C03Pool

/-- **when does a pool end normally**: for every answer of the environment (warm-up fails or not, `runAsync` fails or not, the
caller's context is done first or not) and every sequence of results the bookkeeping receives, `(*instancePool).Run` returns
nil EXACTLY when nothing failed before the start, the caller did not cancel, the loop of `awaitRun` is over and it never
called `onErrAwaited` (no provider / aggregator / start / instance error that is not the cancellation of its context) — the
first thing that happens on the channel `awaitErr` is its `close`, which the await goroutine performs only after
`awaitRun()` has returned.  Whenever `Run` returns its own context is cancelled on the way out -/
theorem C03_pool_run_nil (e : PEnv) (rs : List Res) :
    ((outcome e rs).ret = some .nil ↔
      e.warmErr = false ∧ e.asyncErr = false ∧ e.ctxFirst = false ∧
      ∃ s, arun ainit rs = some s ∧ s.errs = 0 ∧ s.over = true) ∧
    (outcome e rs).bad = false ∧ (outcome e rs).cancelDeferred = true ∧
    (outcome e rs).waitDoneByRun = (if (outcome e rs).awaiting then 0 else 1) :=
  ⟨outcome_nil_iff e rs, outcome_cancel e rs⟩

/-- **a pool that ends normally has seen every started instance leave `Run`**: instances started by `startInstances` (any
answers of the startup schedule), results in any order (the start result carries what `startInstances` returned, at most
one run result per launched goroutine).  If `(*instancePool).Run` returns nil then the run results awaited equal the
goroutines launched = the instances started — every started instance's `Run` has returned, the `terminal` state of the
accounting theorems (`C03_total`, `C03_release`, `C03_unfired_*`, `C03_metrics`) —, no error was reported and the run context
was cancelled exactly once -/
theorem C03_pool_nil_all_returned (e : PEnv) (answers : List Bool) (firstOk : Bool) (rs : List Res)
    (hstart : ∀ r ∈ rs, r.chan = .start → r.started = (starter answers firstOk).started)
    (hruns : cnt .run rs ≤ (starter answers firstOk).launched.length)
    (hnil : (outcome e rs).ret = some .nil) :
    ∃ s, arun ainit rs = some s ∧ s.errs = 0 ∧
      s.awaited = (starter answers firstOk).launched.length ∧ s.awaited = (starter answers firstOk).started ∧
      cnt .run rs = (starter answers firstOk).started ∧ s.runCancels = 1 := by
  obtain ⟨_, _, _, s, hs, he, ho⟩ := (outcome_nil_iff e rs).mp hnil
  have h := C03_pool_over_all_returned answers firstOk rs s hs hstart hruns ho
  exact ⟨s, hs, he, h.1, h.2.1, h.2.2.1, h.2.2.2⟩

/-- `(*instancePool).Run`, the goroutine of `awaitRunAsync`, the channel between them and the registry's "get the config"
function REGENERATED from the current source: executing the regenerated statements of `Run` (with the regenerated decisions
of its select cases) against what the regenerated goroutine does on `awaitErr` is the model's `outcome`, for every
environment and every sequence of results; `onErrAwaited` sends the error on `awaitErr` and gives up only when the pool's
context is done (a receive sees buffered values before the `close`, so the buffer size does not matter); the plugin registry decodes a fresh config at every call of the factory -/
theorem C03_source_pool (e : PEnv) (rs : List Res) :
    exec Pandora.Gen.InstLoop.poolRunOnAwait Pandora.Gen.InstLoop.poolRunCtxCase e
      (goroutine rs Pandora.Gen.InstLoop.poolAwaitGoBody Pandora.Gen.InstLoop.poolAwaitGoDeferred)
      Pandora.Gen.InstLoop.poolRun {} = outcome e rs ∧
    Pandora.Gen.InstLoop.poolOnErrSelect = ["recv $.poolCtx.Done()", "send $.awaitErr"] ∧
    Pandora.Gen.InstLoop.registryGetConf = [["return v0.defaultConfig.Get(v1)"]] :=
  ⟨Pandora.Bridge.C03Pool.run_eq e rs, Pandora.Bridge.C03Pool.on_err_select,
   Pandora.Bridge.C03Pool.registry_get_conf⟩

end Pool

/-! ### the pool over a COMPOSITE profile, at the granularity of the composite's lock sections (`Pandora.Model.C03Comp`) -/

section Comp
open Pandora.Model.C03Fine Pandora.Model.C03Comp Pandora.Proofs.C03Comp

/-- **refinement**: a profile written as a list of parts (`compositeSchedule`; zero-token parts anywhere) whose `Next()` is a
succession of critical sections — reader section, the point before `Lock` at which no lock is held, writer section,
retries — interleaved in ANY way among any number of instances (and with everything else the instances do): the pool ends
up in a state the pool over an atomic token counter reaches too, by a run that is not longer; at every moment that
counter IS the number of tokens left in the parts (shared profile, and each instance's own with rps-per-instance) -/
theorem C03_comp_refines (c : Cfg) (parts : List Nat) (hp : tot parts = c.tokens) (evs : List CEv) (s : CSt)
    (h : crun c parts (cinitWith c parts) evs = some s) :
    (∃ fevs : List FEv, frun c (finit c) fevs = some s.f ∧ fevs.length ≤ evs.length) ∧
    s.f.base.shared = tot s.sp ∧ s.f.base.own = s.op.map tot :=
  let ⟨hr, hI⟩ := comp_refines hp evs _ s (cinit_inv c parts hp) h
  ⟨hr, hI.shared, hI.own⟩

/-- **no premature "finished", no token lost**: a section of `Next()` — the reader section, or the writer section of a
caller that found the part drained and may meanwhile have been overtaken by others that started the next part(s) — either
does not conclude (it goes on to the writer section / starts again, and the pool's counters do not move) or hands the loop
`ok = true` exactly when some part still has a token (and then takes exactly one, `C03_comp_refines`), `ok = false` exactly
when every part is drained -/
theorem C03_comp_section_answer (c : Cfg) (parts : List Nat) (hp : tot parts = c.tokens) (evs : List CEv) (s s' : CSt)
    (h : crun c parts (cinitWith c parts) evs = some s) (i : Nat) (e : CEv) (he : e = .rsec i ∨ e = .wsec i)
    (hs : cstep c parts s e = some s') :
    s'.f = s.f ∨ s'.f.pend[i]? = some (.drew (decide (0 < tot (s.prof c i)))) :=
  section_answer hp (comp_inv hp h) he hs

/-- the writer section of a caller between its sections never panics (no `scheds[0]` / `scheds[1:]` of an empty slice, however
many parts the others have dropped meanwhile) and is never followed by another writer section without a reader section -/
theorem C03_comp_writer_never_panics (c : Cfg) (parts : List Nat) (hp : tot parts = c.tokens) (evs : List CEv) (s : CSt)
    (h : crun c parts (cinitWith c parts) evs = some s) (i seen : Nat) (hw : s.w[i]? = some (some seen)) :
    ∃ p o, wsec (s.prof c i) seen = (p, o) ∧ (o = .ret true ∨ o = .ret false ∨ o = .retry) :=
  wsec_total ((comp_inv hp h).wait i seen hw)

/-- fired + discarded = min(tokens, ammo) over composite profiles, every interleaving of the lock sections -/
theorem C03_comp_total (c : Cfg) (parts : List Nat) (hp : tot parts = c.tokens) (evs : List CEv) (s : CSt)
    (h : crun c parts (cinitWith c parts) evs = some s) (ht : s.f.base.terminal = true) (hN : 0 < s.f.base.started) :
    s.f.base.fired + s.f.base.discarded = minOpt (s.f.base.totalTokens c) c.ammo :=
  let ⟨fevs, hr⟩ := comp_reaches hp h
  C03_fine_total c fevs s.f hr ht hN

/-- every acquired item released exactly once and never used while not held; the unfired bounds; Request = Response = fired —
over composite profiles, every interleaving of the lock sections -/
theorem C03_comp_release_unfired_metrics (c : Cfg) (parts : List Nat) (hp : tot parts = c.tokens) (evs : List CEv) (s : CSt)
    (h : crun c parts (cinitWith c parts) evs = some s) (ht : s.f.base.terminal = true) :
    (s.f.base.acquired = s.f.base.released ∧ (∀ k, k < s.f.base.acquired → s.f.base.rels[k]? = some 1) ∧ s.f.base.badUse = false) ∧
    (c.perInstance = false → s.f.base.acquired - (s.f.base.fired + s.f.base.discarded) ≤ s.f.base.started - 1 ∧
        s.f.base.started - 1 ≤ c.instances - 1) ∧
    (c.perInstance = true → s.f.base.acquired = s.f.base.fired + s.f.base.discarded) ∧
    s.f.base.request = s.f.base.fired ∧ s.f.base.response = s.f.base.fired :=
  let ⟨fevs, hr⟩ := comp_reaches hp h
  ⟨C03_fine_release c fevs s.f hr ht, (C03_fine_unfired c fevs s.f hr ht).1, (C03_fine_unfired c fevs s.f hr ht).2,
   C03_fine_metrics c fevs s.f hr ht⟩

/-- the composite REGENERATED from the current core/schedule/composite.go is the one of `Model.C03Comp`: the reader and
the writer section of `Next` (for every list of parts and every `seen`, panics included), `Left()` = one reader section
that returns the tokens of the current part plus those of the parts after it, `startNext` drops the heads of `scheds` and
`leftAfter` together, `NewComposite` fills `leftAfter[k]` with the tokens of the parts after `k` -/
theorem C03_source_composite :
    (∀ s, Pandora.Gen.InstLoop.compNextReader s = rsec s) ∧
    (∀ s seen, Pandora.Gen.InstLoop.compNextWriter s seen = wsec s seen) ∧
    Pandora.Gen.InstLoop.compNextPrologue = ["$.started.Store(true)"] ∧
    Pandora.Gen.InstLoop.compLeftReads = ["left", "leftAfter", "schedsLeft"] ∧
    (∀ (a : Nat) (r : List Nat) (st : Bool),
      Pandora.Gen.InstLoop.compLeftDecide ((a :: r).length : Nat) (tot r : Nat) (a : Nat) st = .ret ((compLeft (a :: r) : Nat) : Int)) ∧
    Pandora.Gen.InstLoop.compStartNext = ["$.leftAfter = $.leftAfter[1:]", "$.scheds = $.scheds[1:]", "$.scheds[0].Start($t)"] ∧
    Pandora.Gen.InstLoop.compBuildLoop = "for $i := len($parts) - 1; $i >= 0; $i--" ∧
    (∀ parts, buildWith Pandora.Gen.InstLoop.compBuildStep parts = ((mkLeftAfter parts).map Int.ofNat, false, Int.ofNat (tot parts))) :=
  ⟨Pandora.Bridge.C03Comp.reader_eq, Pandora.Bridge.C03Comp.writer_eq, Pandora.Bridge.C03Comp.prologue_eq,
   Pandora.Bridge.C03Comp.left_reads_eq, Pandora.Bridge.C03Comp.left_is_tot, Pandora.Bridge.C03Comp.startNext_eq,
   Pandora.Bridge.C03Comp.build_loop_eq, Pandora.Bridge.C03Comp.build_finite⟩

end Comp

/-! ### non-vacuity: each hypothesis is met by a concrete non-trivial run -/

-- shared once(1), 2 ammo, two instances started one after the other; the second acquires an item that goes unfired;
-- the first discards.  terminal, started = 2 > 0, unfired = 1 = started − 1
example : ∃ s, run ⟨false, 1, some 2, true, 3⟩ (init ⟨false, 1, some 2, true, 3⟩)
    [.start 0, .chk 0 1, .start 1, .chk 1 1, .acq 0, .acq 1, .tokOk 0, .tokEnd 1, .discard 0, .rel 1 1, .rel 0 0,
     .chk 0 0, .chk 1 0] = some s ∧
    s.terminal = true ∧ s.started = 2 ∧ s.fired + s.discarded = 1 ∧ s.unfired = 1 ∧ s.rels = [1, 1] := by
  refine ⟨_, rfl, by decide, by decide, by decide, by decide, by decide⟩

-- per-instance once(1) × 2 started instances, 3 ammo: both fire with the counters moving one at a time;
-- the second instance is started after the first has finished
example : ∃ s, run ⟨true, 1, some 3, false, 2⟩ (init ⟨true, 1, some 3, false, 2⟩)
    [.start 0, .chk 0 1, .acq 0, .tokOk 0, .reqAdd 0, .shoot 0 0, .respAdd 0, .rel 0 0, .chk 0 0,
     .start 1, .chk 1 1, .acq 1, .tokOk 1, .reqAdd 1, .shoot 1 1, .respAdd 1, .rel 1 1, .chk 1 0] = some s ∧
    s.terminal = true ∧ s.started = 2 ∧ s.fired = 2 ∧ s.request = 2 ∧ s.response = 2 ∧ s.acquired = 2 := by
  refine ⟨_, rfl, by decide, by decide, by decide, by decide, by decide, by decide⟩

-- out of ammo: 1 item, 5 shared tokens
example : ∃ s, run ⟨false, 5, some 1, false, 1⟩ (init ⟨false, 5, some 1, false, 1⟩)
    [.start 0, .chk 0 5, .acq 0, .tokOk 0, .reqAdd 0, .shoot 0 0, .respAdd 0, .rel 0 0, .chk 0 4, .empty 0] = some s ∧
    s.terminal = true ∧ s.fired = 1 ∧ minOpt (s.totalTokens ⟨false, 5, some 1, false, 1⟩) (some 1) = 1 := by
  refine ⟨_, rfl, by decide, by decide, by decide⟩

-- `C03_no_use_after_release`: a Shoot and a Release that are enabled after a run
example : ∃ s s', run ⟨false, 1, none, false, 1⟩ (init ⟨false, 1, none, false, 1⟩)
    [.start 0, .chk 0 1, .acq 0, .tokOk 0, .reqAdd 0] = some s ∧ step ⟨false, 1, none, false, 1⟩ s (.shoot 0 0) = some s' :=
  ⟨_, _, rfl, rfl⟩

-- `C03_no_use_after_release`, second disjunct: a Release that is enabled after a run
example : ∃ s s', run ⟨false, 1, none, true, 1⟩ (init ⟨false, 1, none, true, 1⟩)
    [.start 0, .chk 0 1, .acq 0, .tokOk 0, .discard 0] = some s ∧ step ⟨false, 1, none, true, 1⟩ s (.rel 0 0) = some s' :=
  ⟨_, _, rfl, rfl⟩

-- `C03_metrics_engine`: an engine with two pools (one fires once, one discards once): 1 request, 1 response, 1 fired
example : ∃ s1 s2,
    run ⟨false, 1, none, false, 1⟩ (init ⟨false, 1, none, false, 1⟩)
      [.start 0, .chk 0 1, .acq 0, .tokOk 0, .reqAdd 0, .shoot 0 0, .respAdd 0, .rel 0 0, .chk 0 0] = some s1 ∧
    run ⟨true, 1, some 1, true, 1⟩ (init ⟨true, 1, some 1, true, 1⟩)
      [.start 0, .chk 0 1, .acq 0, .tokOk 0, .discard 0, .rel 0 0, .chk 0 0] = some s2 ∧
    s1.terminal = true ∧ s2.terminal = true ∧ s1.request + s2.request = 1 ∧ s1.fired + s2.fired = 1 := by
  refine ⟨_, _, rfl, rfl, by decide, by decide, by decide, by decide⟩

-- the transition system itself does not forbid a Shoot of a released item: from a (non-reachable) state where the
-- local variable still names a released item the event is enabled and `badUse` is set — so `C03_never_bad_use` is
-- a statement about reachable states, not about the shape of `step`
example : (step ⟨false, 1, none, false, 1⟩
    { pcs := [.firing], started := 1, shared := 0, own := [0], ammoLeft := none, unf := [false],
      cur := [some 0], rels := [1], acquired := 1, released := 1 } (.shoot 0 0)).map (·.badUse) = some true := by decide

-- `C03_fine_*`: two instances on a shared once(1); instance 1 increments the counter and is told "finished" while
-- instance 0 is still between ITS increment (which drew the token) and the return of its `Next()`; instance 1 even
-- re-checks `Left()` in that window.  Terminal, one fired, one unfired = started − 1
example : ∃ s, Pandora.Model.C03Fine.frun ⟨false, 1, none, false, 2⟩ (Pandora.Model.C03Fine.finit ⟨false, 1, none, false, 2⟩)
    [.other (.start 0), .load 0, .other (.start 1), .load 1, .leftRet 1 1, .leftRet 0 1, .other (.acq 0), .other (.acq 1),
     .inc 0, .inc 1, .nextRet 1 false, .other (.rel 1 1), .load 1, .nextRet 0 true, .leftRet 1 0, .other (.reqAdd 0),
     .other (.shoot 0 0), .other (.respAdd 0), .other (.rel 0 0), .load 0, .leftRet 0 0] = some s ∧
    s.terminal = true ∧ s.base.started = 2 ∧ s.base.fired = 1 ∧ s.base.unfired = 1 := by
  refine ⟨_, rfl, by decide, by decide, by decide, by decide⟩

-- an instance inside a schedule call does nothing else: `acq` is not enabled between `load` and `leftRet`
example : Pandora.Model.C03Fine.frun ⟨false, 1, none, false, 1⟩ (Pandora.Model.C03Fine.finit ⟨false, 1, none, false, 1⟩)
    [.other (.start 0), .load 0, .other (.acq 0)] = none := by decide

-- `C03_source_leaf_next`: a new regenerated leaf has consistent flags
example : Pandora.Bridge.C03DoAt.Flags (Pandora.Gen.Schedule.NewDoAtSchedule 0 3 (fun _ => 0)) :=
  (Pandora.Bridge.C03DoAt.new_tokens 0 3 (fun _ => 0)).2

-- `C03_await_ends`: two instances; the first runs out of ammo BEFORE the start result (the start is cancelled), the
-- provider ends early, the start result comes after both run results: complete, over, 2 awaited, 1 start cancel
example : Pandora.Proofs.C03Await.Complete 2
    [{ chan := .run, outOfAmmo := true }, { chan := .provider }, { chan := .run }, { chan := .start, started := 2 },
     { chan := .aggregator }] := by
  refine ⟨by decide, by decide, by decide, ?_, by decide⟩
  intro r hr hc
  simp only [List.mem_cons, List.not_mem_nil, or_false] at hr
  rcases hr with h | h | h | h | h <;> subst h <;> first | rfl | cases hc

example : (Pandora.Model.C03Await.arun Pandora.Model.C03Await.ainit
    [{ chan := .run, outOfAmmo := true }, { chan := .provider }, { chan := .run }, { chan := .start, started := 2 },
     { chan := .aggregator }]).map (fun s => (s.over, s.awaited, s.startCancels, s.runCancels)) = some (true, 2, 1, 1) := by decide

-- a run result after the run results were closed is refused (an instance more than the start result announced)
example : Pandora.Model.C03Await.arun Pandora.Model.C03Await.ainit
    [{ chan := .start, started := 1 }, { chan := .run }, { chan := .run }] = none := by decide

-- the statement language can tell a wrong body: `runCancel()` where the source has `instanceStartCancel()`
-- (out of ammo cancelling the whole run) is not `astep`
example : Pandora.Model.C03Await.stepBy
    (fun c => if c = .run then [.incAwaited, .ifOutOfAmmo, .ifStartOpen, .runCancel, .endIf, .elseIfBad .run, .onErr, .endIf, .checkAll]
              else Pandora.Gen.InstLoop.awaitCase c)
    Pandora.Gen.InstLoop.awaitCheckCond Pandora.Gen.InstLoop.awaitCheckBody Pandora.Model.C03Await.ainit
    { chan := .run, outOfAmmo := true } ≠
    (Pandora.Model.C03Await.astep Pandora.Model.C03Await.ainit { chan := .run, outOfAmmo := true }).map (fun s' => (s', false)) := by
  decide

-- `C03_start_one_result_per_started`: the startup schedule gives three tokens, then the start is over: 3 started,
-- goroutines for ids 0, 1, 2, the start context's error
example : (Pandora.Model.C03Start.starter [true, true, true, false] true).started = 3 ∧
    (Pandora.Model.C03Start.starter [true, true, true, false] true).launched = [0, 1, 2] ∧
    (Pandora.Model.C03Start.starter [true, true, true, false] true).err = .ctx := by decide

-- … the first instance cannot be created: nothing started, nothing launched, that error
example : (Pandora.Model.C03Start.starter [true, true] false).started = 0 ∧
    (Pandora.Model.C03Start.starter [true, true] false).launched = [] ∧
    (Pandora.Model.C03Start.starter [true, true] false).err = .newInstance := by decide

-- `C03_pool_over_all_returned`: its hypotheses are met by 2 started instances whose results arrive around the start result
example : ∃ s, Pandora.Model.C03Await.arun Pandora.Model.C03Await.ainit
      [{ chan := .run }, { chan := .start, started := 2 }, { chan := .provider }, { chan := .run }, { chan := .aggregator }] = some s ∧
    s.over = true ∧ (Pandora.Model.C03Start.starter [true, true] true).started = 2 ∧
    Pandora.Proofs.C03Await.cnt .run
      [{ chan := .run }, { chan := .start, started := 2 }, { chan := .provider }, { chan := .run }, { chan := .aggregator }] ≤
      (Pandora.Model.C03Start.starter [true, true] true).launched.length := by
  refine ⟨_, rfl, by decide, by decide, by decide⟩

-- the statement language can tell a wrong starter: a loop that launches a goroutine without counting it reports
-- fewer instances than it has launched (the pool would be "over" while an instance still runs)
example : (Pandora.Model.C03Start.execStart Pandora.Model.C03Start.startPre [.bindId, .goRunNew] Pandora.Model.C03Start.startPost
    [true, true, false] true).started = 1 ∧
    (Pandora.Model.C03Start.execStart Pandora.Model.C03Start.startPre [.bindId, .goRunNew] Pandora.Model.C03Start.startPost
    [true, true, false] true).launched = [0, 1] := by decide

-- a mutated iteration body (Wait before Acquire) is NOT accepted: the bridge obligation is falsifiable
example : Pandora.Model.C03Loop.bodyAccepted
    [.waitOrReturn, .acquireOrReturn "ammo", .deferRelease "ammo", .ifFire, .metricAdd "Request" 1, .shoot "ammo",
     .metricAdd "Response" 1, .orElse, .reportDiscard, .endIf, .returnNil] = false := by decide

-- `C03_comp_*`: two instances on a shared profile [no tokens, a pause, 1 token] (`rps: [{const 0}, {const 0}, {once 1}]`).
-- Both find the first part drained (reader sections, `len = 3` seen); instance 0 drops it under the write lock, finds the
-- pause empty and starts again; instance 1 then gets the write lock, sees that somebody has started the next part, finds
-- it empty and — parts remain — STARTS AGAIN instead of reporting "finished"; instance 0 drops the pause and takes the
-- token; instance 1 is told "finished" only now, by a reader section over the last, drained part.  Terminal, 1 fired.
example : ∃ s, Pandora.Model.C03Comp.crun ⟨false, 1, none, false, 2⟩ [0, 0, 1]
      (Pandora.Model.C03Comp.cinitWith ⟨false, 1, none, false, 2⟩ [0, 0, 1])
    [.other (.start 0), .lsec 0, .leftRet 0 1, .other (.acq 0), .other (.start 1), .lsec 1, .leftRet 1 1, .other (.acq 1),
     .rsec 0, .rsec 1, .wsec 0, .wsec 1, .rsec 0, .wsec 0, .nextRet 0 true, .rsec 1, .nextRet 1 false,
     .other (.reqAdd 0), .other (.shoot 0 0), .other (.respAdd 0), .other (.rel 0 0), .other (.rel 1 1),
     .lsec 0, .leftRet 0 0, .lsec 1, .leftRet 1 0] = some s ∧
    s.terminal = true ∧ s.f.base.started = 2 ∧ s.f.base.fired = 1 ∧ s.f.base.unfired = 1 ∧ s.sp = [0] := by
  refine ⟨_, rfl, by decide, by decide, by decide, by decide, by decide⟩

-- falsifiability: the writer section WITHOUT the retry (`wsecNoRetry`: "somebody has started the next part" returns that
-- part's answer as it is) says "finished" in exactly that situation — two parts left, 1 token in them — where `wsec` starts
-- again; so `C03_comp_section_answer` is a statement about this retry, not a triviality
example : Pandora.Model.C03Comp.wsecNoRetry [0, 1] 3 = ([0, 1], .ret false) ∧ Pandora.Model.C03Comp.tot [0, 1] = 1 ∧
    Pandora.Model.C03Comp.wsec [0, 1] 3 = ([0, 1], .retry) := by decide

-- … and the model rejects a log in which an instance is told "finished" while a part still has a token
example : Pandora.Model.C03Comp.crun ⟨false, 1, none, false, 2⟩ [0, 0, 1]
      (Pandora.Model.C03Comp.cinitWith ⟨false, 1, none, false, 2⟩ [0, 0, 1])
    [.other (.start 0), .lsec 0, .leftRet 0 1, .other (.acq 0), .other (.start 1), .lsec 1, .leftRet 1 1, .other (.acq 1),
     .rsec 0, .rsec 1, .wsec 0, .wsec 1, .nextRet 1 false] = none := by decide

-- `C03_comp_writer_never_panics`: a caller between its sections
example : ∃ s, Pandora.Model.C03Comp.crun ⟨false, 1, none, false, 1⟩ [0, 1]
      (Pandora.Model.C03Comp.cinitWith ⟨false, 1, none, false, 1⟩ [0, 1])
    [.other (.start 0), .lsec 0, .leftRet 0 1, .other (.acq 0), .rsec 0] = some s ∧ s.w[0]? = some (some 2) :=
  ⟨_, rfl, by decide⟩

-- `C03_source_composite`: `NewComposite` over the parts [2, 0, 3]
example : Pandora.Model.C03Comp.mkLeftAfter [2, 0, 3] = [3, 3, 0] ∧ Pandora.Model.C03Comp.tot [2, 0, 3] = 5 := by decide

-- `C03_pool_run_nil` / `C03_pool_nil_all_returned`: two instances, results around the start result, nothing fails: nil
example : (Pandora.Model.C03Pool.outcome {}
    [{ chan := .run }, { chan := .start, started := 2 }, { chan := .provider }, { chan := .run }, { chan := .aggregator }]).ret
    = some .nil := by decide

-- … the aggregator fails (not the cancellation of the run context): `Run` returns that error, not nil, although the loop
-- of `awaitRun` gets over too
example : (Pandora.Model.C03Pool.outcome {}
    [{ chan := .run }, { chan := .start, started := 1 }, { chan := .provider }, { chan := .aggregator, badRun := true }]).ret
    = some .awaitErr := by decide

-- … a run result is missing (an instance never returns): `Run` does not return
example : (Pandora.Model.C03Pool.outcome {}
    [{ chan := .start, started := 2 }, { chan := .provider }, { chan := .run }, { chan := .aggregator }]).ret = none := by decide

-- falsifiability: a goroutine that closes `awaitErr` BEFORE `awaitRun()` lets `Run` return nil with nothing awaited
example : (Pandora.Model.C03Pool.exec Pandora.Model.C03Pool.onAwait .ctxErr {}
    (Pandora.Model.C03Pool.goroutine [] [.closeAwaitErr, .awaitRun] [.waitDone]) Pandora.Model.C03Pool.poolRun {}).ret
    = some .nil := by decide


/-! ### composition with the REGENERATED schedule leaf of area `schedule` (`Pandora.Proofs.C03Leaf`) -/

section Leaf
open Pandora.Proofs.C03Leaf Pandora.Gen.Schedule Pandora.Bridge.C03DoAt

/-- **the pool over the regenerated leaf IS the pool over a token counter**: let every `Left()` / `Next()` answer be COMPUTED
by the functions regenerated from core/schedule/do_at.go on the leaf object the instance draws from (the shared one, or the
one the factory made at its start; profile `NewDoAtSchedule duration n doAt` = `once`, `const`, `line`, a step of `step`).
Every run of that product, for every interleaving and every reading of the clock, is a run of `Model.C03` with
`tokens = n` (clamped at 0), and at every moment the model's counters are the tokens left in the leaf objects -/
theorem C03_leaf_composed (c : Cfg) (p : Leaf) (hn : c.tokens = p.n.toNat) (es : List (Int × Ev)) (l : LSt)
    (h : lrun c p (linit c p) es = some l) :
    run c (init c) (es.map (·.2)) = some l.pool ∧ l.pool.shared = tokensLeft l.sh ∧
    l.pool.own = l.own.map tokensLeft :=
  let ⟨hr, ha⟩ := lrun_is_run hn h
  ⟨hr, ha.shared, ha.own⟩

/-- … and the product is no artificial restriction: an instance standing at `Wait` can always go on, with exactly the event
the regenerated `Next()` of its leaf dictates (`tokOk` iff it answers ok, and it answers ok iff the model has a token
left); an instance standing at `IsFinished` goes on with the value the regenerated `Left()` returns, which is the model's -/
theorem C03_leaf_never_blocks (c : Cfg) (p : Leaf) (hn : c.tokens = p.n.toNat) (es : List (Int × Ev)) (l : LSt)
    (h : lrun c p (linit c p) es = some l) (i : Nat) (now : Int) :
    (l.pool.pcs[i]? = some .wait →
      ∃ d tx ok d' l', l.prof c i = some d ∧ doAtSchedule_Next now d = .ok ((tx, ok), d') ∧
        ok = decide (0 < l.pool.left c i) ∧ lstep c p l now (if ok then .tokOk i else .tokEnd i) = some l') ∧
    (l.pool.pcs[i]? = some .check →
      ∃ d l', l.prof c i = some d ∧ doAtSchedule_Left d = .ok ((l.pool.left c i : Int), d) ∧
        lstep c p l now (.chk i (l.pool.left c i)) = some l') :=
  ⟨fun hw => next_never_blocks hn h i hw now, fun hw => left_never_blocks hn h i hw now⟩

/-- **fired + discarded = min(tokens of the regenerated profile, ammo)** — the main clause stated over the schedule code
itself: the tokens are the `n` of the regenerated leaf, one leaf shared or one fresh leaf per started instance -/
theorem C03_leaf_total (c : Cfg) (p : Leaf) (hn : c.tokens = p.n.toNat) (es : List (Int × Ev)) (l : LSt)
    (h : lrun c p (linit c p) es = some l) (ht : l.pool.terminal = true) (hN : 0 < l.pool.started) :
    l.pool.fired + l.pool.discarded =
      minOpt (if c.perInstance then l.pool.started * p.n.toNat else p.n.toNat) c.ammo := by
  have := C03_total c _ l.pool (lrun_is_run hn h).1 ht hN
  simpa [St.totalTokens, hn] using this

/-- the other clauses over the regenerated leaf: released exactly once, never used while not held, the unfired bounds,
Request = Response = fired; and when the pool has ended no leaf has a token left unless the ammo ran out -/
theorem C03_leaf_release_unfired_metrics (c : Cfg) (p : Leaf) (hn : c.tokens = p.n.toNat) (es : List (Int × Ev)) (l : LSt)
    (h : lrun c p (linit c p) es = some l) (ht : l.pool.terminal = true) :
    (l.pool.acquired = l.pool.released ∧ (∀ k, k < l.pool.acquired → l.pool.rels[k]? = some 1) ∧ l.pool.badUse = false) ∧
    (c.perInstance = false → l.pool.acquired - (l.pool.fired + l.pool.discarded) ≤ l.pool.started - 1) ∧
    (c.perInstance = true → l.pool.acquired = l.pool.fired + l.pool.discarded) ∧
    l.pool.request = l.pool.fired ∧ l.pool.response = l.pool.fired :=
  let hr := (lrun_is_run hn h).1
  ⟨⟨(C03_release c _ l.pool hr ht).1, fun k hk => C03_release_exactly_once c _ l.pool hr ht k hk, C03_never_bad_use c _ l.pool hr⟩,
   fun hc => (C03_unfired_shared c _ l.pool hc hr ht).1, fun hc => C03_unfired_per_instance c _ l.pool hc hr ht,
   C03_metrics c _ l.pool hr ht⟩

end Leaf

-- `C03_leaf_*`: two instances on ONE regenerated `once(1)` leaf (duration 0, n = 1), unbounded ammo; the clock reads 7, 8, 9 …;
-- instance 1 is told "finished" by the leaf's second `Next()`: terminal, started = 2, 1 fired, 1 unfired, the leaf's counter at 2
example : ∃ l, Pandora.Proofs.C03Leaf.lrun ⟨false, 1, none, false, 2⟩ ⟨0, 1, fun _ => 0⟩
      (Pandora.Proofs.C03Leaf.linit ⟨false, 1, none, false, 2⟩ ⟨0, 1, fun _ => 0⟩)
    [(7, .start 0), (7, .chk 0 1), (7, .start 1), (7, .chk 1 1), (8, .acq 0), (8, .acq 1), (9, .tokOk 0), (9, .tokEnd 1),
     (9, .reqAdd 0), (9, .shoot 0 0), (9, .respAdd 0), (9, .rel 1 1), (9, .rel 0 0), (9, .chk 0 0), (9, .chk 1 0)] = some l ∧
    l.pool.terminal = true ∧ l.pool.started = 2 ∧ l.pool.fired = 1 ∧ l.pool.unfired = 1 ∧ l.sh.i = 2 := by
  refine ⟨_, rfl, by decide, by decide, by decide, by decide, by decide⟩

-- … the product refuses an answer the leaf does not give: a second token from `once(1)`
example : Pandora.Proofs.C03Leaf.lrun ⟨false, 1, none, false, 2⟩ ⟨0, 1, fun _ => 0⟩
      (Pandora.Proofs.C03Leaf.linit ⟨false, 1, none, false, 2⟩ ⟨0, 1, fun _ => 0⟩)
    [(7, .start 0), (7, .chk 0 1), (7, .start 1), (7, .chk 1 1), (8, .acq 0), (8, .acq 1), (9, .tokOk 0), (9, .tokOk 1)] = none := by
  decide

-- … rps-per-instance: each started instance gets a fresh leaf of its own (2 started × once(1) = 2 fired)
example : ∃ l, Pandora.Proofs.C03Leaf.lrun ⟨true, 1, none, false, 2⟩ ⟨0, 1, fun _ => 0⟩
      (Pandora.Proofs.C03Leaf.linit ⟨true, 1, none, false, 2⟩ ⟨0, 1, fun _ => 0⟩)
    [(1, .start 0), (1, .chk 0 1), (1, .acq 0), (2, .tokOk 0), (2, .reqAdd 0), (2, .shoot 0 0), (2, .respAdd 0), (2, .rel 0 0),
     (3, .chk 0 0), (3, .start 1), (3, .chk 1 1), (3, .acq 1), (4, .tokOk 1), (4, .reqAdd 1), (4, .shoot 1 1), (4, .respAdd 1),
     (4, .rel 1 1), (5, .chk 1 0)] = some l ∧
    l.pool.terminal = true ∧ l.pool.fired = 2 ∧ (l.own.map (·.i)) = [1, 1] := by
  refine ⟨_, rfl, by decide, by decide, by decide⟩

/-! ### the glue around the loop, REGENERATED (`Pandora.Model.C03Wiring`, `Pandora.Bridge.C03Wiring`) -/

/-- what the accounting model takes for granted about the code around the loop, re-read from the current source on every run:
the instances of a pool are handed the POOL's provider, aggregator, metrics and `discard_overflow` flag and the schedule factory
`buildNewInstanceSchedule` chose (`startInstances`; whatever the order of the fields or the number of steps the literal is built
in); `newPool` keeps the metrics and the configuration it is given and `Engine.Run` gives every pool the engine's metrics (one
Request / Response pair for all pools: `C03_metrics_engine`); the end of the ammo is reported by returning the package-level
error value itself and recognised by comparing with it; `Counter.Add` is ONE atomic addition of the delta it is given and `Get`
one atomic load (`reqAdd` / `respAdd` are atomic steps of the model); the sample reported for a discarded request carries the
tag `DiscardedShootTag`; the built-in `dummy` provider hands out the untyped nil as a VALID item -/
theorem C03_source_wiring :
    Pandora.Model.C03Wiring.restrict Pandora.Gen.InstLoop.depsWiring Pandora.Model.C03Wiring.deps = Pandora.Model.C03Wiring.deps ∧
    Pandora.Model.C03Wiring.restrict Pandora.Gen.InstLoop.poolWiring Pandora.Model.C03Wiring.pool = Pandora.Model.C03Wiring.pool ∧
    Pandora.Gen.InstLoop.engineNewPoolCalls = Pandora.Model.C03Wiring.engineNewPool ∧
    (Pandora.Gen.InstLoop.outOfAmmoReturns = ["return outOfAmmoErr"] ∧
     Pandora.Gen.InstLoop.outOfAmmoTests = ["<run result>.Err == outOfAmmoErr"]) ∧
    (Pandora.Gen.InstLoop.counterAddAccesses = ["i.Add"] ∧ Pandora.Gen.InstLoop.counterAddPassesDelta = true ∧
     Pandora.Gen.InstLoop.counterGetAccesses = ["i.Load"]) ∧
    Pandora.Gen.InstLoop.discardedSampleTag.1 = Pandora.Gen.InstLoop.discardedSampleTag.2 ∧
    Pandora.Gen.InstLoop.dummyAcquireReturns = ["nil, true"] :=
  ⟨Pandora.Bridge.C03Wiring.deps_eq, Pandora.Bridge.C03Wiring.pool_eq, Pandora.Bridge.C03Wiring.engine_newPool_eq,
   Pandora.Bridge.C03Wiring.out_of_ammo_sentinel, Pandora.Bridge.C03Wiring.counter_atomic,
   Pandora.Bridge.C03Wiring.discarded_tag.1, Pandora.Bridge.C03Wiring.dummy_acquire⟩

-- falsifiability of `C03_source_iteration_is_model_path` in the VALUE of an item: a body that also leaves
-- the iteration when the item is nil (`if !ok || ammo == nil { return outOfAmmoErr }`) is accepted for every non-nil item
-- but NOT for a nil one — the item was handed out (`ok = true`), is neither fired nor released, the instance leaves `Run`
example : Pandora.Model.C03Loop.bodyAccepted
    [.acquireOrReturnIf "ammo" ["nil"] false, .deferRelease "ammo", .waitOrReturn, .ifFire, .metricAdd "Request" 1, .shoot "ammo",
     .metricAdd "Response" 1, .orElse, .reportDiscard, .endIf, .returnNil] = false ∧
    Pandora.Model.C03Loop.allOracles.all (fun o => Pandora.Model.C03Loop.pathAccepted
      [.acquireOrReturnIf "ammo" ["nil"] false, .deferRelease "ammo", .waitOrReturn, .ifFire, .metricAdd "Request" 1, .shoot "ammo",
       .metricAdd "Response" 1, .orElse, .reportDiscard, .endIf, .returnNil] false o) = true := by decide

-- … while the same statement without a value test (`if !ok || false`-like: no tests) is the plain acquire
example : Pandora.Model.C03Loop.bodyAccepted
    [.acquireOrReturnIf "ammo" [] false, .deferRelease "ammo", .waitOrReturn, .ifFire, .metricAdd "Request" 1, .shoot "ammo",
     .metricAdd "Response" 1, .orElse, .reportDiscard, .endIf, .returnNil] = true := by decide

-- falsifiability of `C03_source_wiring`: instances wired to a constant `discardOverflow` do not pass
example : Pandora.Model.C03Wiring.restrict
    [("aggregator", "$.Aggregator"), ("discardOverflow", "false"), ("metrics", "$.metrics"), ("newSchedule", "param#2"),
     ("provider", "$.Provider")] Pandora.Model.C03Wiring.deps ≠ Pandora.Model.C03Wiring.deps := by decide


/-- **the loop iteration regenerated from the source is a path of the model from EVERY reachable state** (not only from the
canonical one-instance state `C03_source_iteration_is_model_path` checks): whatever the other instances are doing, for every
instance `i` that stands at `Acquire` and the answers the state dictates — an item iff the provider is not exhausted, a token iff
`i`'s profile has one, fire or discard freely unless discard_overflow is off — the operations the regenerated body performs, in
source order with the deferred `Release` last, are enabled one after the other for instance `i` and the item just acquired
(number `s.acquired`), and lead back to the `IsFinished` check (out of the loop when the ammo is finished); the iteration
function returns nil resp. the out-of-ammo error accordingly -/
theorem C03_iteration_from_any_state (c : Cfg) (pre : List Ev) (s : St) (hrun : run c (init c) pre = some s) (i : Nat)
    (hpc : s.pcs[i]? = some .acquire) (o : Pandora.Model.C03Loop.Oracle)
    (hacq : o.acqOk = decide (s.ammoLeft ≠ some 0)) (hwait : o.waitOk = decide (0 < s.left c i))
    (hfire : o.fire = false → c.discardOn = true) :
    ∃ evs s', (Pandora.Model.C03Loop.exec Pandora.Gen.InstLoop.iterBody o .run none []).1.mapM
        (Pandora.Proofs.C03Iter.toEvAt i s.acquired) = some evs ∧
      run c s evs = some s' ∧
      s'.pcs[i]? = some (if o.acqOk then .check else .done) ∧
      (Pandora.Model.C03Loop.exec Pandora.Gen.InstLoop.iterBody o .run none []).2 = (if o.acqOk then .retNil else .retErr) ∧
      (o.acqOk = true → evs.getLast? = some (.rel i s.acquired)) :=
  Pandora.Proofs.C03Iter.iteration_from_any_state c pre s hrun i hpc o hacq hwait hfire

-- `C03_iteration_from_any_state`: its hypotheses are met in the middle of a run of three instances — instance 1 holds an item and
-- a token, instance 2 has finished, instance 0 stands at `Acquire` with one item and one shared token left (3 items, 3 tokens at the start)
example : ∃ s, run ⟨false, 3, some 3, true, 3⟩ (init ⟨false, 3, some 3, true, 3⟩)
    [.start 0, .start 1, .start 2, .chk 1 3, .acq 1, .tokOk 1, .chk 2 2, .acq 2, .tokOk 2, .discard 2, .rel 2 1, .chk 0 1] = some s ∧
    s.pcs[0]? = some .acquire ∧ s.ammoLeft ≠ some 0 ∧ 0 < s.left ⟨false, 3, some 3, true, 3⟩ 0 := by
  refine ⟨_, rfl, by decide, by decide, by decide⟩

section LeafCallback
open Pandora.Proofs.C03Leaf Pandora.Gen.Schedule Pandora.Bridge.C03DoAt

/-- **the start of further instances is cut by the shared profile only when it is drained** — three regenerated pieces composed:
the shared profile object is the regenerated leaf (`Gen.Schedule`), wrapped by the regenerated finish-callback wrapper
(`Gen.InstLoop.callbackLeft` / `callbackNext`, core/coreutil/schedule.go; its callback is `instanceStartCancel`,
`buildNewInstanceSchedule`), used by the pool model.  In every reachable state of the product, for every reading of the clock:
what the wrapper hands to `IsFinished` / `Wait` is the leaf's own answer, unchanged, and it fires the callback exactly when the
model's shared counter is 0 — never while a token is left, always when an instance is told "finished" -/
theorem C03_leaf_callback_only_when_drained (c : Cfg) (p : Leaf) (hn : c.tokens = p.n.toNat) (es : List (Int × Ev)) (l : LSt)
    (h : lrun c p (linit c p) es = some l) (now : Int) :
    (∃ v, doAtSchedule_Left l.sh = .ok (v, l.sh) ∧ v = (l.pool.shared : Int) ∧
      Pandora.Gen.InstLoop.callbackLeft v = (v, decide (l.pool.shared = 0))) ∧
    (∃ tx ok d', doAtSchedule_Next now l.sh = .ok ((tx, ok), d') ∧ ok = decide (0 < l.pool.shared) ∧
      Pandora.Gen.InstLoop.callbackNext ok = (ok, decide (l.pool.shared = 0))) := by
  obtain ⟨_, ha⟩ := lrun_is_run hn h
  constructor
  · refine ⟨(tokensLeft l.sh : Int), left_eq l.sh, by rw [ha.shared], ?_⟩
    rw [Pandora.Bridge.C03Start.callback_left _ (by omega), ha.shared]
    congr 1
    simp
  · obtain ⟨tx, d', hnx, _⟩ := next_draws l.sh ha.shFlags now
    refine ⟨tx, _, d', hnx, by rw [ha.shared], ?_⟩
    rw [Pandora.Bridge.C03Start.callback_next, ha.shared]
    congr 1
    by_cases hz : tokensLeft l.sh = 0 <;> simp [hz]
    omega

end LeafCallback
end Pandora.Props.C03
