/-
C05 — run outcome and termination at every finish, failure and cancel point.

Model: `Pandora.Model.C05` (`instancePool.Run` + `runAwaitHandle.awaitRun` + the goroutines they start, as a
transition system whose every environment decision, Go `select` resolution and component return is a `Choice`;
`instance.Run`'s loop; the `Engine.Run` loop). `run cfg cs` is the state after the choice list `cs`; all theorems
quantify over EVERY choice list: every fault plan, every interleaving, every select order, any number of instances.

`Cfg` selects the code variant: `Cfg.repaired` is the tree with fixes/C05-*.diff, `Cfg.current` the tree as found.
The theorems hold for the repaired flags; each `…_counterexample` refutes the statement for the variant that
lacks the corresponding repair.
-/
import Pandora.Proofs.C05Eng
import Pandora.Proofs.C05Fin
import Pandora.Proofs.C05Sys
import Pandora.Bridge.C05Engine
import Pandora.Proofs.C05Inst
import Pandora.Bridge.C05Wait
import Pandora.Proofs.C05Prov
import Pandora.Bridge.C05Prov
import Pandora.Gen.ProvLoops

namespace Pandora.Props.C05
open Pandora.Model.C05 Pandora.Proofs.C05

/-! ### outcome -/

/-- A component error is never swallowed: if `Pool.Run` returned, the caller had not cancelled before that, and
some component (provider, aggregator, gun factory, `Bind`, schedule factory, warm-up, a shot panic) had returned an
error before that, then the result is a failure whose cause is one of the component errors returned so far. -/
def C05_no_swallow_statement (cfg : Cfg) : Prop :=
  ∀ cs : List Choice, let s := run cfg cs
    ∀ r, s.result = some r → s.extAtReturn = false → s.errsAtReturn ≠ [] →
      ∃ w e, r = .fail w (.err e) ∧ e ∈ s.errsAtReturn

theorem C05_no_swallow (cfg : Cfg) (hfix : cfg.fixSelect = true) : C05_no_swallow_statement cfg := by
  intro cs s r hr hext herr
  have hx := run_invX cfg hfix cs
  have hb := run_invB cfg cs
  have hm : s.main = .returned r := main_of_result hr
  have hf := hx.atRet r hm hext herr
  cases r with
  | ok => simp [IsFail] at hf
  | ctx => simp [IsFail] at hf
  | fail w c =>
    obtain ⟨e, hc, he⟩ := hb.failVal w c hm
    exact ⟨w, e, by rw [hc], he⟩

/-- the tree as found: the provider fails after the last instance result was awaited (`runCancel()` has made
`runCtx.Done()` ready), `onErrAwaited` takes the suppress branch, and `Pool.Run` returns nil -/
def swallowWitness : List Choice :=
  [.warm (.ok true), .sched none, .startFirst (.ok true), .startEnd, .instRet 0 .ooa, .awaitRun, .awaitStart,
   .aggRet .ok, .awaitAgg, .provRet (.err 1), .awaitProv, .errSuppress, .mainClosed]

theorem C05_no_swallow_counterexample : ¬ C05_no_swallow_statement { Cfg.repaired with fixSelect := false } := by
  intro h
  have := h swallowWitness .ok (by decide) (by decide) (by decide)
  obtain ⟨w, e, h1, _⟩ := this
  cases h1

/-- success only if clean: `Pool.Run` returns nil (without a caller's cancel) only if no component had failed -/
theorem C05_success_only_if_clean (cfg : Cfg) (hfix : cfg.fixSelect = true) (cs : List Choice) :
    (run cfg cs).result = some .ok → (run cfg cs).extAtReturn = false → (run cfg cs).errsAtReturn = [] := by
  intro hr hext
  by_cases herr : (run cfg cs).errsAtReturn = []
  · exact herr
  · obtain ⟨w, e, h1, _⟩ := C05_no_swallow cfg hfix cs .ok hr hext herr
    cases h1

/-- at ANY moment (not only at the return): a component error that happened without a caller's cancel has either
made `Pool.Run` fail already, or `Pool.Run` is still running and the error is still on its way through
`onErrAwaited` (sitting in a result channel or blocked in the select) -/
theorem C05_error_pending_or_failed (cfg : Cfg) (hfix : cfg.fixSelect = true) (cs : List Choice) :
    let s := run cfg cs
    s.extC = false → s.compErrs ≠ [] → mainFailed s.main = true ∨ (mainRunning s.main = true ∧ PendingErr s) := by
  intro s hext herr
  rcases (run_invX cfg hfix cs).acc with h | h | h | h
  · rw [hext] at h; cases h
  · exact absurd h herr
  · exact Or.inl h
  · exact Or.inr h

/-- the cause of a failure is real, in every variant: a failure result carries an error some component returned -/
theorem C05_failure_cause (cfg : Cfg) (cs : List Choice) (w : Wrap) (c : Ret) :
    (run cfg cs).result = some (.fail w c) → ∃ e, c = .err e ∧ e ∈ (run cfg cs).compErrs := by
  intro hr
  have hb := run_invB cfg cs
  have hm : (run cfg cs).main = .returned (.fail w c) := main_of_result hr
  obtain ⟨e, hc, he⟩ := hb.failVal w c hm
  exact ⟨e, hc, hb.atRet e he⟩

/-- a shot panic is an instance error, not a crash: `instance.Run` (total by construction) returns `shoot panic: e`
when the first iteration that does not complete a shot is a panicking `Shoot` -/
theorem C05_panic_is_error (ctxDone : Bool) (pre post : List Iter) (e : ErrId) (hpre : ∀ x ∈ pre, x = .shot) :
    instRun ctxDone (pre ++ .shotPanic e :: post) = .err e := by
  induction pre with
  | nil => rfl
  | cons x pre ih =>
    have hx : x = .shot := hpre x List.mem_cons_self
    subst hx
    simp only [List.cons_append, instRun]
    exact ih (fun y hy => hpre y (List.mem_cons_of_mem _ hy))

/-! ### cancellation -/

/-- the cancellation error is returned only if the caller cancelled (every variant) -/
theorem C05_ctx_only_if_cancelled (cfg : Cfg) (cs : List Choice) :
    (run cfg cs).result = some .ctx → (run cfg cs).extAtReturn = true ∧ (run cfg cs).extC = true := by
  intro hr
  have hb := run_invB cfg cs
  have hm : (run cfg cs).main = .returned .ctx := main_of_result hr
  exact ⟨hb.retCtx hm, hb.retExt (hb.retCtx hm)⟩

/-- prompt: once the caller has cancelled a pool whose `Run` sits in its final select, the cancel case of that select
is ready, and taking it returns the cancellation error -/
theorem C05_cancel_prompt (cfg : Cfg) (cs : List Choice) :
    let s := run cfg cs
    s.extC = true → s.main = .selecting → (step cfg s .mainCancel).result = some .ctx := by
  intro s hext hm
  have hp : s.poolC = true := (run_invK cfg cs).ext hext
  simp [step, hm, hp, mainReturn, cancelAll, State.result]

/-- … and from ANY point of the run the goroutine of `Pool.Run` needs at most its own three steps (warm-up call,
`runAsync`, the select) to return after the caller's cancel: it never waits for a component -/
theorem C05_cancel_returns (cfg : Cfg) (cs : List Choice) (o1 : WarmOut) (o2 : Option ErrId) :
    (run cfg cs).extC = true → ∃ r, (run cfg (cs ++ [.warm o1, .sched o2, .mainCancel])).result = some r := by
  intro hext
  have hp : (run cfg cs).poolC = true := (run_invK cfg cs).ext hext
  have hrun : run cfg (cs ++ [.warm o1, .sched o2, .mainCancel]) =
      step cfg (step cfg (step cfg (run cfg cs) (.warm o1)) (.sched o2)) .mainCancel := by
    simp [run, List.foldl_append]
  rw [hrun]
  generalize run cfg cs = s at hp
  cases hm : s.main with
  | init =>
    cases o1 <;> cases o2 <;> simp [step, hm, hp, mainReturn, cancelAll, State.result]
  | warmed =>
    cases o2 <;> simp [step, hm, hp, mainReturn, cancelAll, State.result]
  | selecting => simp [step, hm, hp, mainReturn, cancelAll, State.result]
  | returned r => simp [step, hm, State.result]

/-! ### termination: background tasks stop, `Engine.Wait` returns, guns are closed -/

/-- `onWaitDone` is never called twice, and the engine never panics on its own channels (close of a nil channel,
send on the closed `runRes`, "Unexpected run result") — every variant -/
theorem C05_wait_done_at_most_once (cfg : Cfg) (cs : List Choice) :
    (run cfg cs).waitDone ≤ 1 ∧ (run cfg cs).panicked = false :=
  ⟨(run_invA cfg cs).1.wd2, (run_invA cfg cs).1.nopanic⟩

/-- Once the run context is cancelled (all instances were awaited, or `Pool.Run` returned, or the caller cancelled)
the pool's outstanding work is bounded: of ANY continuation at most `mu s` steps change the state. -/
theorem C05_background_terminates (cfg : Cfg) (cs ds : List Choice) :
    (run cfg cs).runC = true → effSteps cfg (run cfg cs) ds ≤ mu (run cfg cs) := by
  intro hr
  have := effSteps_le cfg ds (run cfg cs) (run_invA cfg cs) (run_invK cfg cs) hr
  omega

/-- `Pool.Run` returning cancels the run context (deferred `cancel()`), so the bound applies after every return -/
theorem C05_return_cancels (cfg : Cfg) (cs : List Choice) (r : PRes) :
    (run cfg cs).result = some r → (run cfg cs).runC = true := by
  intro hr
  have ha := (run_invA cfg cs).1
  have hm : (run cfg cs).main = .returned r := main_of_result hr
  exact ha.ctx1 (ha.retCancel r hm)

/-- When nothing that is bound to happen (`Must`: engine steps, returning calls, returns of goroutines whose context
is cancelled) can change the state any more, the pool is finished (`Done`): `Pool.Run` has returned, `onWaitDone` has
been called exactly once (so `Engine.Wait` returns), no instance / provider / aggregator / start goroutine is left,
all results were consumed, and every gun is accounted for. With `C05_background_terminates` every fair execution
reaches such a state. -/
def C05_wait_returns_statement (cfg : Cfg) : Prop :=
  ∀ cs : List Choice, (run cfg cs).runC = true → Quiescent cfg (run cfg cs) → Done cfg (run cfg cs)

theorem C05_wait_returns (cfg : Cfg) (hfix : cfg.fixWaitDone = true) : C05_wait_returns_statement cfg := by
  intro cs hr hq
  exact progress cfg hfix _ (run_invA cfg cs) (run_invG cfg cs) hr hq

/-- the tree as found: the shared schedule factory fails in `runAsync`; `Pool.Run` returns without `onWaitDone` and
nothing is left that could call it: `Engine.Wait` blocks forever -/
def waitWitness : List Choice := [.warm (.ok true), .sched (some 6)]

theorem C05_wait_returns_counterexample : ¬ C05_wait_returns_statement { Cfg.repaired with fixWaitDone := false } := by
  intro h
  have hd := h waitWitness (by decide) (by
    intro c hm
    cases c <;> first | exact False.elim hm | rfl | (simp [step, run, waitWitness, init, mainReturn, cancelAll]))
  have := hd.waitDone
  revert this
  decide

/-- guns: in a finished pool every created gun that is an `io.Closer` has been closed exactly once, and no other
gun has been "closed" -/
def C05_guns_closed_statement (cfg : Cfg) : Prop :=
  ∀ cs : List Choice, (run cfg cs).runC = true → Quiescent cfg (run cfg cs) →
    ∀ g ∈ (run cfg cs).guns, g.closes = if g.closable then 1 else 0

theorem C05_guns_closed (cfg : Cfg) (hw : cfg.fixWaitDone = true) (hc : cfg.fixClose = true) :
    C05_guns_closed_statement cfg := by
  intro cs hr hq g hg
  have hd := (C05_wait_returns cfg hw cs hr hq).guns g hg
  obtain ⟨h1, h2, h3⟩ := hd
  cases hcl : g.closable with
  | true => simp [h3 hc hcl]
  | false => simp [h2 hcl]

/-- the tree as found: a clean run; the warm-up gun is never closed -/
def gunWitness : List Choice :=
  [.warm (.ok true), .sched none, .startEnd, .awaitStart, .provRet .ok, .awaitProv, .aggRet .ok, .awaitAgg, .mainClosed]

theorem C05_guns_closed_counterexample : ¬ C05_guns_closed_statement { Cfg.repaired with fixClose := false } := by
  intro h
  have := h gunWitness (by decide) (by
    intro c hm
    cases c <;> first | exact False.elim hm | rfl | (simp [step, run, gunWitness, init, mainReturn, cancelAll, handleRes, afterErr, checkAll, finish, Ret.isCtxError]))
    ⟨true, 0⟩ (by decide)
  revert this
  decide

/-- at any moment and in every variant: no gun is closed twice, a gun that is no `io.Closer` is never closed, and a
gun still owned by a running instance is not closed -/
theorem C05_guns_never_closed_twice (cfg : Cfg) (cs : List Choice) :
    ∀ g ∈ (run cfg cs).guns, g.closes ≤ 1 ∧ (g.closable = false → g.closes = 0) := by
  intro g hg
  have hi := run_invG cfg cs
  simp only [State.guns, List.mem_append, Option.mem_toList, List.mem_filterMap] at hg
  rcases hg with (hg | hg) | ⟨i, hi1, hi2⟩
  · exact ⟨(hi.warm1 g hg).1, (hi.warm1 g hg).2.1⟩
  · exact ⟨(hi.ret1 g hg).1, (hi.ret1 g hg).2.1⟩
  · have := hi.live0 i hi1 g hi2
    omega

/-- `Engine.Wait` does not return EARLY: `onWaitDone` is called only when nothing the pool has started is still at
work - no instance goroutine, no unread run result, the provider and the aggregator have returned and their results
were read (or they were never started), the start goroutine has ended - in every variant, with no assumption. -/
theorem C05_wait_not_early (cfg : Cfg) (cs : List Choice) :
    (run cfg cs).waitDone = 1 →
      (run cfg cs).live = [] ∧ (run cfg cs).buf = [] ∧
      ((run cfg cs).prov = .idle ∨ (run cfg cs).prov = .taken) ∧ ((run cfg cs).agg = .idle ∨ (run cfg cs).agg = .taken) ∧
      ((run cfg cs).startPc = .idle ∨ ((run cfg cs).startPc = .done ∧ (run cfg cs).startTaken = true)) := by
  intro hwd
  obtain ⟨hW, _, _⟩ := run_invA cfg cs
  generalize run cfg cs = s at *
  have hnb : ¬ AwBusy s := fun hb => by have := hW.wd0 hb; omega
  cases haw : s.aw with
  | off =>
    obtain ⟨h1, h2, h3, h4, h5, _⟩ := hW.pre haw
    exact ⟨h4, h5, Or.inl h1, Or.inl h2, Or.inl h3⟩
  | loop => exact absurd (Or.inl haw) hnb
  | onErr w r c => exact absurd (Or.inr ⟨w, r, c, haw⟩) hnb
  | finished =>
    obtain ⟨h1, h2, h3, _, h5, h6⟩ := hW.all_taken haw
    exact ⟨h5, h6, Or.inr h1, Or.inr h2, Or.inr ⟨hW.startDone.2 (hW.taken h3).1, h3⟩⟩

-- non-vacuity: a failed run whose tasks have all been awaited in the background
example :
    (run Cfg.repaired [.warm (.ok true), .sched none, .provRet (.err 1), .awaitProv, .errDeliver,
      .aggRet .ctx, .awaitAgg, .startEnd, .awaitStart]).waitDone = 1 ∧
    (run Cfg.repaired [.warm (.ok true), .sched none, .provRet (.err 1), .awaitProv, .errDeliver,
      .aggRet .ctx, .awaitAgg]).waitDone = 0 := by decide

/-- A nil result of `Pool.Run` means the pool is completely finished — with NO fairness or contract assumption:
all four results were awaited (so every started instance has returned and its result was consumed, the provider and the
aggregator have returned, the start goroutine has ended), `onWaitDone` was called exactly once, and every gun created
(warm-up gun included) is accounted for: closed exactly once if it is an `io.Closer` (with `fixClose`). This is the
"successful run awaits all started tasks" the comment of `Engine.Wait` relies on. -/
theorem C05_success_is_done (cfg : Cfg) (cs : List Choice) :
    (run cfg cs).result = some .ok → Done cfg (run cfg cs) := by
  intro hr
  have hm : (run cfg cs).main = .returned .ok := main_of_result hr
  exact done_of_finished (run_invA cfg cs).1 (run_invG cfg cs) ⟨_, hm⟩ ((run_invB cfg cs).retOk hm)

/-- A run ALWAYS terminates — also when nobody cancels it: under the finite-input contract `MustFin` (`Must`, and the
startup schedule ends, and every `instance.Run` returns because ammo and schedules are finite) a state in which no
step that is bound to happen can change anything is a finished pool. Unlike `C05_wait_returns` this does not assume
the run context cancelled: that the engine cancels it itself once the last instance result is awaited is part of the
proof (`runC_of_quiescentFin`). -/
def C05_run_terminates_statement (cfg : Cfg) : Prop :=
  ∀ cs : List Choice, QuiescentFin cfg (run cfg cs) → Done cfg (run cfg cs)

theorem C05_run_terminates (cfg : Cfg) (hfix : cfg.fixWaitDone = true) : C05_run_terminates_statement cfg := by
  intro cs hq
  exact progress cfg hfix _ (run_invA cfg cs) (run_invG cfg cs)
    (runC_of_quiescentFin cfg _ (run_invA cfg cs) (run_invG cfg cs) (run_invK cfg cs) hq)
    fun c hc => hq c (by cases c <;> first | exact hc | trivial)

/-- … and in such a state the run context is cancelled, so `C05_background_terminates` bounds the way there from the
moment the last instance result was awaited -/
theorem C05_run_terminates_cancels (cfg : Cfg) (cs : List Choice) :
    QuiescentFin cfg (run cfg cs) → (run cfg cs).runC = true :=
  runC_of_quiescentFin cfg _ (run_invA cfg cs) (run_invG cfg cs) (run_invK cfg cs)

/-- "if the caller cancels a run that is still in progress it returns the cancellation error": as a statement about
`Pool.Run` alone this is FALSE for the code (every variant): when the cancel arrives while a component error is being
handed over, or while the await goroutine is closing `awaitErr`, the final `select` of `Pool.Run` has two ready cases and
Go picks one at random. -/
def C05_cancel_result_statement (cfg : Cfg) : Prop :=
  ∀ cs : List Choice, ∀ r, (run cfg cs).result = some r → (run cfg cs).extAtReturn = true → r = .ctx

/-- the caller cancels while the provider's error waits in `onErrAwaited`; the select takes the error -/
def cancelFailWitness : List Choice :=
  [.warm (.ok true), .sched none, .provRet (.err 1), .awaitProv, .extCancel, .errDeliver]

/-- the caller cancels at the moment the last result was awaited; the select takes the closed channel -/
def cancelOkWitness : List Choice :=
  [.warm (.ok true), .sched none, .startEnd, .awaitStart, .provRet .ok, .awaitProv, .aggRet .ok, .awaitAgg, .extCancel,
   .mainClosed]

theorem C05_cancel_result_counterexample (cfg : Cfg) : ¬ C05_cancel_result_statement cfg := by
  intro h
  have := h cancelFailWitness (.fail .provider (.err 1)) (by cases cfg; rfl) (by cases cfg; rfl)
  cases this

/-- what does hold after a caller's cancel, for `Pool.Run`: the result is the cancellation error, or a nil result of
a pool that is completely finished (`Done`: it was not "still in progress"), or a failure whose cause is a real
component error. `Engine.Run` turns the last kind into the cancellation error (`C05_engine_cancelled`). -/
theorem C05_cancel_result_partial (cfg : Cfg) (cs : List Choice) (r : PRes) :
    (run cfg cs).result = some r → (run cfg cs).extAtReturn = true →
      r = .ctx ∨ (r = .ok ∧ Done cfg (run cfg cs)) ∨ ∃ w e, r = .fail w (.err e) ∧ e ∈ (run cfg cs).compErrs := by
  intro hr _
  cases r with
  | ctx => exact Or.inl rfl
  | ok => exact Or.inr (Or.inl ⟨rfl, C05_success_is_done cfg cs hr⟩)
  | fail w c =>
    obtain ⟨e, hc, he⟩ := C05_failure_cause cfg cs w c hr
    exact Or.inr (Or.inr ⟨w, e, by rw [hc], he⟩)

/-! ### `Engine.Run` over several pools -/

/-- the engine succeeds only if it consumed a nil result from each of its `n` pools -/
theorem C05_engine_ok (n : Nat) (evs : List EEv) :
    engRun n evs = some .ok → n ≤ evs.length ∧ ∀ e ∈ evs.take n, ∃ id d, e = .pool id .ok d :=
  engRun_ok_take n evs

/-- an engine failure is the failure of one of its pools (first error wins), never invented -/
theorem C05_engine_fail (n : Nat) (evs : List EEv) (id : Nat) (r : PRes) :
    engRun n evs = some (.fail id r) → r ≠ .ok ∧ .pool id r false ∈ evs := by
  intro h
  rcases engRun_some n evs _ h with ⟨h, _⟩ | ⟨h, _⟩ | ⟨_, _, h, h'⟩
  · cases h
  · cases h
  · cases h; exact h'

/-- the engine returns the cancellation error only if it saw its context done -/
theorem C05_engine_ctx (n : Nat) (evs : List EEv) :
    engRun n evs = some .ctx → .ctxDone ∈ evs ∨ ∃ id r, .pool id r true ∈ evs := by
  intro h
  rcases engRun_some n evs _ h with ⟨h, _⟩ | ⟨_, h⟩ | ⟨_, _, h, _⟩
  · cases h
  · exact h.imp_right fun ⟨i, r, _, h⟩ => ⟨i, r, h⟩
  · cases h

/-- after a cancel of the engine's context `Engine.Run` never reports a pool failure: it returns the cancellation
error, or nil when every pool had already delivered a nil result (`EngCancelled`: whenever the non-blocking check after a
pool error looks at the context, it is done) -/
theorem C05_engine_cancelled (n : Nat) (evs : List EEv) (res : ERes) :
    EngCancelled evs → engRun n evs = some res → res = .ctx ∨ res = .ok :=
  fun hc h => by
    rcases engRun_some n evs _ h with ⟨h, _⟩ | ⟨h, _⟩ | ⟨i, r, _, hr, hm⟩
    · exact .inr h
    · exact .inl h
    · cases hc i r false hm hr

/-- the whole engine: `n` pools, pool `i` executing `pools i`, each pool goroutine sending at most one result
(`Nodup`), every result event being the result of its pool. If `Engine.Run` returns nil then EVERY pool returned nil,
every pool is completely finished (`Done`: all instances, provider, aggregator stopped, `onWaitDone` called, guns
closed), and — unless the caller had cancelled that pool — no component of any pool had failed. -/
theorem C05_engine_success_all_pools (cfg : Cfg) (hfix : cfg.fixSelect = true) (n : Nat) (pools : Nat → List Choice)
    (evs : List EEv)
    (hid : ∀ id r d, EEv.pool id r d ∈ evs → id < n ∧ (run cfg (pools id)).result = some r)
    (hnd : (evs.filterMap EEv.poolId).Nodup) (hok : engRun n evs = some .ok) :
    ∀ i, i < n → (run cfg (pools i)).result = some .ok ∧ Done cfg (run cfg (pools i)) ∧
      ((run cfg (pools i)).extAtReturn = false → (run cfg (pools i)).errsAtReturn = []) := by
  intro i hi
  obtain ⟨d, hmem⟩ := engRun_ok_all n evs (fun id r d h => (hid id r d h).1) hnd hok i hi
  have hr := (hid i .ok d hmem).2
  exact ⟨hr, C05_success_is_done cfg _ hr, C05_success_only_if_clean cfg hfix _ hr⟩

/-- `Engine.Wait`: the engine adds one to its `WaitGroup` per pool and hands `Done` to the pool as `onWaitDone`
(`Bridge.C05Engine.engineRun_pool_start`, `newPool_waitDone`). The counter never goes negative (no "negative WaitGroup
counter" panic, every variant), and it is zero — `Engine.Wait` returns — once every pool is `Done`. -/
theorem C05_engine_wait (cfg : Cfg) (pools : List (List Choice)) :
    (wgCounter (pools.map (run cfg))).isSome = true ∧
    ((∀ cs ∈ pools, Done cfg (run cfg cs)) → wgCounter (pools.map (run cfg)) = some 0) := by
  obtain ⟨hle, heq⟩ := waitDoneSum_bounds (pools.map (run cfg)) (by
    intro s hs
    obtain ⟨cs, _, rfl⟩ := List.mem_map.1 hs
    exact (run_invA cfg cs).1.wd2)
  unfold wgCounter
  rw [if_pos hle]
  refine ⟨rfl, fun hd => ?_⟩
  rw [heq (by
    intro s hs
    obtain ⟨cs, hcs, rfl⟩ := List.mem_map.1 hs
    exact (hd cs hcs).waitDone), Nat.sub_self]

/-! ### the source as it is now (regenerated into `Pandora.Gen.C05Engine` on every run)

`Bridge.C05Engine.srcCfg` is the code variant read off the CURRENT source: which context the select of
`onErrAwaited` listens on, whether the `runAsync` failure path of `instancePool.Run` calls `onWaitDone`, whether the
warm-up gun and a gun whose `Bind` failed are closed. The theorems above are instantiated at it, so reverting one of the
repairs (or any change of the regenerated paths that makes a hypothesis false) breaks an obligation here. -/

/-- the current source is the repaired variant of the model -/
theorem C05_source_variant : Bridge.C05Engine.srcCfg = Cfg.repaired := Bridge.C05Engine.srcCfg_repaired

theorem C05_source_no_swallow : C05_no_swallow_statement Bridge.C05Engine.srcCfg :=
  C05_no_swallow _ (by decide)

theorem C05_source_wait_returns : C05_wait_returns_statement Bridge.C05Engine.srcCfg :=
  C05_wait_returns _ (by decide)

theorem C05_source_guns_closed : C05_guns_closed_statement Bridge.C05Engine.srcCfg :=
  C05_guns_closed _ (by decide) (by decide)

theorem C05_source_run_terminates : C05_run_terminates_statement Bridge.C05Engine.srcCfg :=
  C05_run_terminates _ (by decide)

/-- how the CLI reports the outcome (cli/cli.go, regenerated): `runEngine` forwards the result of `Engine.Run`; nil
ends the process normally; any error cancels the run context, waits for the engine's tasks (`Engine.Wait`) and then
exits through `log.Fatal` (status 1) — in that order -/
theorem C05_cli_reports_outcome :
    Gen.C05Engine.cliRunEngine.all (fun p => (p.after (.call "Run")).contains (.send "‹arg2›")) = true ∧
    Gen.C05Engine.cliEngineReturned.map (fun p => (p.head?, p.filter (fun e => match e with | .call _ => true | _ => false))) =
      [(some (.swc "‹rx:arg2@2›=nil"), []),
       (some (.swc "‹rx:arg2@2›=‹rx:arg2@2›"), [.call "‹arg1›", .call "Wait", .call "Fatal"]),
       (some (.swc "‹rx:arg2@2›=<none>"), [])] :=
  ⟨Bridge.C05Engine.cli_forwards, Bridge.C05Engine.cli_outcomes⟩

/-- `errutil.IsCtxError` as regenerated from the source: nil, or the error's cause is the `Err()` of THIS context —
never "some context-kind error" — and under the abstraction `absRet` of Go errors it is the predicate the model uses -/
theorem C05_is_ctx_error_exact (c : Option CtxKind) (e : Option GoErr) :
    Gen.C05Engine.isCtxError c e = isCtxErrorSpec c e ∧
    Gen.C05Engine.isCtxError c e = (absRet c e).isCtxError c.isSome :=
  ⟨Bridge.C05Engine.isCtxError_spec c e, Bridge.C05Engine.isCtxError_abs c e⟩

/-- a component failure whose cause is the component's own deadline is forwarded, also after the engine has cancelled
its run context (whose error is `context.Canceled`) -/
example : Gen.C05Engine.isCtxError (some .canceled) (some (.ctxKind .deadlineExceeded)) = false := by decide
example : absRet (some .canceled) (some (.ctxKind .deadlineExceeded)) = .err 1001 := by decide
example : absRet (some .canceled) (some (.ctxKind .canceled)) = .ctx := by decide

/-- Nobody but the caller, the return of `Pool.Run` and the await loop (after EVERY started instance was awaited)
cancels the run context. So an instance that is still running sees its context cancelled only after the caller's cancel
or after `Pool.Run` has returned something other than success: in a run nobody cancels that ends successfully no
instance is ever stopped by a cancelled context (every variant). -/
theorem C05_instance_cancelled_only_after (cfg : Cfg) (cs : List Choice) (i : Nat) (x : Inst) :
    (run cfg cs).live[i]? = some x → (run cfg cs).runC = true →
      (run cfg cs).extC = true ∨ ∃ r, (run cfg cs).main = .returned r ∧ r ≠ .ok := by
  intro hl hc
  rcases (run_invK cfg cs).run hc with h | ⟨r, hr⟩ | ⟨h1, h2⟩
  · exact Or.inl h
  · refine Or.inr ⟨r, hr, ?_⟩
    intro hok
    subst hok
    have hd := C05_success_is_done cfg cs (by simp [State.result, hr])
    rw [hd.noInst] at hl
    simp at hl
  · rw [((run_invA cfg cs).1.closedRun h1 h2).2.1] at hl
    simp at hl

-- non-vacuity: the caller cancels while an instance shoots: the instance may now return the context's error
example : (run Cfg.repaired [.warm (.ok true), .sched none, .startFirst (.ok true), .extCancel]).live[0]? = some ⟨0, some ⟨true, 0⟩⟩ ∧
    (run Cfg.repaired [.warm (.ok true), .sched none, .startFirst (.ok true), .extCancel]).runC = true := by decide
-- … whereas without a cancel `instRet 0 .ctx` is not enabled (the state does not change)
example : step Cfg.repaired (run Cfg.repaired [.warm (.ok true), .sched none, .startFirst (.ok true)]) (.instRet 0 .ctx) =
    run Cfg.repaired [.warm (.ok true), .sched none, .startFirst (.ok true)] := by decide

/-! ### the goroutines of `Engine.Run` (`Model.C05.Sys`): results in flight, the 1-slot channel, leaving through the
engine context — for ALL interleavings of any number of pools, whatever each `Pool.Run` returns and whenever -/

section Sys
open Pandora.Model.C05.Sys

/-- `Engine.Run` returns nil only if EVERY pool goroutine has delivered a nil result of its `Pool.Run` and has ended:
no pool is still running, none holds an undelivered result, none was suppressed -/
theorem C05_engine_sys_success_all_pools (cfg : EngCfg) (n : Nat) (cs : List EChoice) :
    (erun cfg n cs).result = some ERes.ok → ∀ p ∈ (erun cfg n cs).pools, p = PoolG.taken PRes.ok := by
  intro h
  have hi := Proofs.C05.Sys.run_inv cfg n cs
  have hall := List.countP_eq_length.1
    (by rw [← hi.awaited, hi.resOk h, hi.len] : (erun cfg n cs).pools.countP PoolG.isTaken = _)
  intro p hp
  have ht := hall p hp
  obtain ⟨j, hj⟩ := List.getElem?_of_mem hp
  cases p with
  | taken r => rw [hi.okTaken (Or.inr h) j r hj]
  | _ => cases ht

/-- the cancellation error only after the caller's cancel; a pool failure is the real, non-nil result of that pool's
`Run`, and is reported only when the caller had not cancelled -/
theorem C05_engine_sys_outcome (cfg : EngCfg) (n : Nat) (cs : List EChoice) :
    ((erun cfg n cs).result = some ERes.ctx → (erun cfg n cs).extAtReturn = true ∧ (erun cfg n cs).extC = true) ∧
    (∀ i r, (erun cfg n cs).result = some (ERes.fail i r) →
      (erun cfg n cs).pools[i]? = some (PoolG.taken r) ∧ r ≠ PRes.ok ∧ (erun cfg n cs).extAtReturn = false) := by
  have hi := Proofs.C05.Sys.run_inv cfg n cs
  exact ⟨fun h => ⟨hi.retCtx h, hi.extMono (hi.retCtx h)⟩, hi.retFail⟩

/-- no pool goroutine is left behind: once `Engine.Run` has returned (its deferred `cancel()`), a goroutine whose
`Pool.Run` returns — now or later — can always leave through the engine context, whatever sits in the channel -/
def C05_engine_goroutines_exit_statement (cfg : EngCfg) : Prop :=
  ∀ (n : Nat) (cs : List EChoice) (i : Nat) (r : PRes),
    (erun cfg n cs).result.isSome = true → (erun cfg n cs).pools[i]? = some (PoolG.done r) →
      (estep cfg (erun cfg n cs) (.suppress i)).pools[i]? = some (PoolG.suppressed r)

theorem C05_engine_goroutines_exit (cfg : EngCfg) (h : cfg.sendSelects = true) : C05_engine_goroutines_exit_statement cfg :=
  fun n cs i r hres hp => by
    have hc := (Proofs.C05.Sys.run_inv cfg n cs).ctxSome hres
    simp only [estep, hp, h, hc, and_self, if_true]
    exact List.getElem?_set_self (List.getElem?_eq_some_iff.1 hp).1

/-- three pools, the first fails and is consumed, the second's result fills the channel: the third goroutine -/
def leakWitness : List EChoice :=
  [.poolRet 0 (.fail .provider (.err 1)), .send 0, .recv, .poolRet 1 .ok, .send 1, .poolRet 2 .ok]

/-- a pool goroutine that sends unconditionally: with three pools one of them blocks forever on the full channel -/
theorem C05_engine_goroutines_exit_counterexample : ¬ C05_engine_goroutines_exit_statement ⟨false, true⟩ := by
  intro h
  have := h 3 leakWitness 2 .ok (by decide) (by decide)
  revert this
  decide

-- … and there neither the send nor the context case can fire: the goroutine is stuck
example : estep ⟨false, true⟩ (erun ⟨false, true⟩ 3 leakWitness) (.send 2) = erun ⟨false, true⟩ 3 leakWitness ∧
    estep ⟨false, true⟩ (erun ⟨false, true⟩ 3 leakWitness) (.suppress 2) = erun ⟨false, true⟩ 3 leakWitness := by decide
-- the code: the same execution, the third goroutine leaves
example : (estep EngCfg.code (erun EngCfg.code 3 leakWitness) (.suppress 2)).pools[2]? = some (PoolG.suppressed .ok) := by decide
-- two clean pools
example : (erun EngCfg.code 2 [.poolRet 1 .ok, .send 1, .recv, .poolRet 0 .ok, .send 0, .recv]).result = some ERes.ok := by decide
-- the caller cancels while a failure is in the channel: the cancellation error
example : (erun EngCfg.code 2 [.poolRet 1 (.fail .provider (.err 1)), .send 1, .extCancel, .recv]).result = some ERes.ctx := by decide

/-- "… it returns the cancellation error PROMPTLY": after the caller's cancel the goroutine of `Engine.Run` needs ONE
step of its own - the `ctx.Done()` case of the select of its result loop, which is ready - whatever the pools are
doing: a pool goroutine that is `running` may be anywhere inside `pool.Run`, also inside `warmUpGun`, the gun factory or
the shared schedule factory, i.e. before `Pool.Run` looks at its context for the first time, and nothing here waits for
it (`poolRet` is never needed). -/
def C05_engine_cancel_prompt_statement (cfg : EngCfg) : Prop :=
  ∀ (n : Nat) (cs : List EChoice), (erun cfg n cs).extC = true → (erun cfg n cs).result = none →
    (estep cfg (erun cfg n cs) .mainCtx).result = some ERes.ctx

theorem C05_engine_cancel_prompt (cfg : EngCfg) (h : cfg.mainSelects = true) : C05_engine_cancel_prompt_statement cfg :=
  fun n cs hext hres => by
    have hc : (erun cfg n cs).ctxDone = true := by rw [(Proofs.C05.Sys.run_inv cfg n cs).ctxNone hres]; exact hext
    simp [estep, hres, h, hc, ret]

/-- a result loop that reads with a plain receive (and notices the cancel through the pool results only): one pool
that is still inside its warm-up when the caller cancels -/
theorem C05_engine_cancel_prompt_counterexample : ¬ C05_engine_cancel_prompt_statement ⟨true, false⟩ := by
  intro h
  have := h 1 [.extCancel] (by decide) (by decide)
  revert this
  decide

/-- … and in that variant `Engine.Run` has no step of its own at all while every pool is inside its `Run`: it returns
only when a component call it knows nothing about comes back -/
theorem C05_engine_plain_receive_waits (cfg : EngCfg) (h : cfg.mainSelects = false) (n : Nat) (cs : List EChoice)
    (hall : ∀ p ∈ (erun cfg n cs).pools, p = PoolG.running) (c : EChoice) (hc : c.isMain = true) :
    estep cfg (erun cfg n cs) c = erun cfg n cs := by
  cases c with
  | recv =>
    simp only [estep]
    split
    · next i r _ hch =>
      cases hall _ (List.mem_of_getElem? ((Proofs.C05.Sys.run_inv cfg n cs).chanSome i r hch))
    · rfl
  | mainCtx =>
    simp only [estep]
    split
    · simp [h]
    · rfl
  | _ => cases hc

-- non-vacuity: two pools, the caller cancels while both are inside `pool.Run` (say: one in its warm-up, one shooting)
example : (erun EngCfg.code 2 [.extCancel]).extC = true ∧ (erun EngCfg.code 2 [.extCancel]).result = none ∧
    (estep EngCfg.code (erun EngCfg.code 2 [.extCancel]) .mainCtx).result = some ERes.ctx := by decide
-- the plain-receive variant in the same state: neither step of the main loop is enabled; it goes on when a pool returns
example : estep ⟨true, false⟩ (erun ⟨true, false⟩ 2 [.extCancel]) .mainCtx = erun ⟨true, false⟩ 2 [.extCancel] ∧
    estep ⟨true, false⟩ (erun ⟨true, false⟩ 2 [.extCancel]) .recv = erun ⟨true, false⟩ 2 [.extCancel] ∧
    (erun ⟨true, false⟩ 2 [.extCancel, .poolRet 1 .ctx, .send 1, .recv]).result = some ERes.ctx := by decide

def Choice.isEngine : Choice → Bool
  | .awaitProv | .awaitAgg | .awaitStart | .awaitRun | .errDeliver | .errSuppress | .mainCancel | .mainClosed => true
  | _ => false

/-- `Pool.Run` ALONE is not prompt at every phase: "after the caller's cancel some step of the engine's own (a case of
one of its selects) makes `Pool.Run` return" is false - for every variant of the code - while `Pool.Run` is in
`warmUpGun` or in `runAsync` (gun factory, `WarmUp`, `Close` of the warm-up gun, the shared schedule factory): it
looks at its context for the first time in its final select.  There only the component's return (`warm`, `sched`)
moves it.  That is why the promptness of a run rests on `Engine.Run`'s own select (`C05_engine_cancel_prompt`). -/
def C05_pool_cancel_prompt_statement (cfg : Cfg) : Prop :=
  ∀ cs : List Choice, (run cfg cs).extC = true → (run cfg cs).result = none →
    ∃ c, Choice.isEngine c = true ∧ (step cfg (run cfg cs) c).result.isSome = true

theorem C05_pool_cancel_prompt_counterexample (cfg : Cfg) : ¬ C05_pool_cancel_prompt_statement cfg := by
  intro h
  obtain ⟨c, hc, hr⟩ := h [.extCancel] (by cases cfg; rfl) (by cases cfg; rfl)
  cases c <;> first | (simp [Choice.isEngine] at hc; done) | (revert hr; rcases cfg with ⟨_ | _, _ | _, _ | _⟩ <;> decide)

/-- what holds: once `Pool.Run` is in its final select the cancel case is ready (and before that it needs the
component calls of `warmUpGun` / `runAsync` to return, nothing else: `C05_cancel_returns`) -/
theorem C05_pool_cancel_prompt_partial (cfg : Cfg) (cs : List Choice) :
    (run cfg cs).extC = true → (run cfg cs).main = .selecting →
      ∃ c, Choice.isEngine c = true ∧ (step cfg (run cfg cs) c).result.isSome = true :=
  fun hext hm => ⟨.mainCancel, rfl, by rw [C05_cancel_prompt cfg cs hext hm]; rfl⟩

/-- the source as it is now selects (regenerated paths of `Engine.Run`) -/
theorem C05_source_engine_goroutines_exit : C05_engine_goroutines_exit_statement Bridge.C05Engine.srcEngCfg :=
  C05_engine_goroutines_exit _ (by decide)

/-- … in both places: the result loop of the source is a select with the engine context as its second case -/
theorem C05_source_engine_cancel_prompt : C05_engine_cancel_prompt_statement Bridge.C05Engine.srcEngCfg :=
  C05_engine_cancel_prompt _ (by decide)

end Sys

/-! ### the process: `cli.awaitPandoraTermination` (`Model.C05.Cli`), for every sequence of signals, results, timeouts -/

section Cli
open Pandora.Model.C05.Cli

/-- the process ends with status 0 exactly when the first thing it meets is a nil result of `Engine.Run`: never after
a failure of the run, never after a signal it has acted on -/
theorem C05_cli_exit_zero_iff (evs : List Cli.Ev) : Act.exit 0 ∈ run evs ↔ ∃ rest, evs = .err true :: rest := by
  fun_cases Cli.run evs <;> simp [Proofs.C05.Cli.awaitTasks_no_exit0, Proofs.C05.Cli.afterSignal_no_exit0] <;> assumption

/-- every other exit comes after the run context was cancelled (`gracefulShutdown`) and after `Engine.Wait` has
returned — all started instances, providers, aggregators have stopped — unless a timeout fired (30 s / 3 s), a second
signal arrived, or the signal was neither SIGINT nor SIGTERM -/
theorem C05_cli_exit_after_shutdown_and_wait (evs : List Cli.Ev) (h : Act.exit 1 ∈ run evs) :
    (Act.shutdown ∈ run evs ∨ evs.head? = some (Cli.Ev.sig .other)) ∧
    (Act.waited ∈ run evs ∨ Cli.Ev.timeout ∈ evs ∨ 2 ≤ evs.countP isSig ∨ Cli.Ev.sig .other ∈ evs) := by
  refine ⟨?_, ?_⟩
  · rcases evs with _ | ⟨e1, rest⟩
    · simp [Cli.run] at h
    · rcases e1 with ⟨_ | _ | _⟩ | ⟨_ | _⟩ | _ | _ <;> simp_all [Cli.run]
  revert h
  fun_cases Cli.run evs
  · simp
  · simp
  · next rest =>
    intro h
    rcases Proofs.C05.Cli.awaitTasks_exit rest (by simpa using h) with h | h
    · exact .inl (by simp [h])
    · exact .inr (.inl (by simp [h]))
  · simp
  · next s rest hs =>
    intro h
    rcases Proofs.C05.Cli.afterSignal_exit rest (by simpa using h) with h | h | h
    · exact .inl (by simp [h])
    · exact .inr (.inl (by simp [h]))
    · exact .inr (.inr (.inl (by rw [List.countP_cons_of_pos (by rfl)]; omega)))
  · simp

/-- the model is the reading of the regenerated paths of both cases of the outer select of `awaitPandoraTermination` -/
theorem C05_cli_model_is_source :
    (Gen.C05Engine.cliEngineReturned.filter (fun p => p.head? != some (.swc "‹rx:arg2@2›=<none>"))).all
      (fun p => run (Bridge.C05Engine.cliEvs p) == Bridge.C05Engine.cliActs p) = true ∧
    Gen.C05Engine.cliSignalled.all
      (fun p => (run (Bridge.C05Engine.cliEvs p)).filter (· != .rcv) == Bridge.C05Engine.cliActs p) = true :=
  ⟨Bridge.C05Engine.cli_returned_model, Bridge.C05Engine.cli_signalled_model⟩

-- a failed run: shutdown, wait, exit 1 after the tasks have stopped
example : run [.err false, .waitDone] = [.shutdown, .wait, .waited, .exit 1] := by decide
-- SIGINT while the run is in progress: acknowledged, the run is cancelled, its result and the tasks are awaited
example : run [.sig .int, .err false, .waitDone] = [.rcv, .shutdown, .wait, .waited, .exit 1] := by decide
-- the hypotheses of `C05_cli_exit_after_shutdown_and_wait` are met, with `waited`
example : Act.exit 1 ∈ run [.sig .term, .err false, .waitDone] ∧ Act.waited ∈ run [.sig .term, .err false, .waitDone] := by decide
-- a component that ignores the cancel past the timeout: the only way out without `waited`
example : run [.sig .term, .err false, .timeout] = [.rcv, .shutdown, .wait, .exit 1] := by decide

end Cli

/-! ### non-vacuity: concrete executions that meet the hypotheses -/

/-- repaired tree, the execution of `swallowWitness` up to the provider error: the awaiter is blocked in
`onErrAwaited` and can NOT take the suppress branch; delivering the error makes `Pool.Run` fail with it -/
def deliverWitness : List Choice :=
  [.warm (.ok true), .sched none, .startFirst (.ok true), .startEnd, .instRet 0 .ooa, .awaitRun, .awaitStart,
   .aggRet .ok, .awaitAgg, .provRet (.err 1), .awaitProv]

example : step Cfg.repaired (run Cfg.repaired deliverWitness) .errSuppress = run Cfg.repaired deliverWitness := by decide
example : (run Cfg.repaired (deliverWitness ++ [.errDeliver])).result = some (.fail .provider (.err 1)) ∧
    (run Cfg.repaired (deliverWitness ++ [.errDeliver])).extAtReturn = false ∧
    (run Cfg.repaired (deliverWitness ++ [.errDeliver])).errsAtReturn = [1] := by decide
-- the same choices on the tree as found: success with a failed provider
example : (run { Cfg.repaired with fixSelect := false } swallowWitness).result = some .ok ∧
    (run { Cfg.repaired with fixSelect := false } swallowWitness).errsAtReturn = [1] := by decide
-- clean run: success, `onWaitDone` once, all three guns (warm-up + 2 instances) closed once
def cleanWitness : List Choice :=
  [.warm (.ok true), .sched none, .startFirst (.ok true), .startTick, .startEnd, .instCreate 1 (.ok true),
   .instRet 0 .ooa, .instRet 0 .ok, .awaitRun, .awaitRun, .awaitStart, .aggRet .ok, .awaitAgg, .provRet .ok, .awaitProv,
   .mainClosed]
example : (run Cfg.repaired cleanWitness).result = some .ok ∧ (run Cfg.repaired cleanWitness).waitDone = 1 ∧
    (run Cfg.repaired cleanWitness).guns.map (·.closes) = [1, 1, 1] ∧ (run Cfg.repaired cleanWitness).runC = true := by
  decide
-- … and that final state is quiescent with the run context cancelled: the hypotheses of `C05_wait_returns` /
-- `C05_guns_closed` are met, and `mu` bounds what could still have happened
example : Quiescent Cfg.repaired (run Cfg.repaired cleanWitness) := by
  intro c hm
  cases c <;> first | exact False.elim hm | rfl | (simp [step, run, cleanWitness, init, mainReturn, cancelAll, handleRes, afterErr, checkAll, finish, Ret.isCtxError])
example : mu (run Cfg.repaired cleanWitness) = 1 := by decide
-- mid-run (two instances shooting, nothing returned yet) after the caller's cancel: 32 units of work are left
example : (run Cfg.repaired [.warm (.ok true), .sched none, .startFirst (.ok true), .startTick, .extCancel]).runC = true ∧
    mu (run Cfg.repaired [.warm (.ok true), .sched none, .startFirst (.ok true), .startTick, .extCancel]) = 32 := by decide
-- cancel while running: the select returns the cancellation error
example : (run Cfg.repaired [.warm (.ok true), .sched none, .startFirst (.ok true), .extCancel, .mainCancel]).result
    = some .ctx := by decide
-- schedule factory failure, repaired: `onWaitDone` is called on that path
example : (run Cfg.repaired waitWitness).waitDone = 1 ∧ (run Cfg.repaired waitWitness).runC = true := by decide
-- bind failure, repaired: the gun whose `Bind` failed is closed; tree as found: it is not
example : ((run Cfg.repaired [.warm (.ok true), .sched none, .startFirst (.bindFail 4 true)]).guns.map (·.closes)) = [1, 1] := by
  decide
example : ((run Cfg.current [.warm (.ok true), .sched none, .startFirst (.bindFail 4 true)]).guns.map (·.closes)) = [0, 0] := by
  decide
-- a panic at the third shot
example : instRun false [.shot, .shot, .shotPanic 7, .shot] = .err 7 := by decide
-- engine: two pools, the second fails first
example : engRun 2 [.pool 1 (.fail .provider (.err 1)) false, .pool 0 .ok false] = some (.fail 1 (.fail .provider (.err 1))) := by
  decide
example : engRun 2 [.pool 1 .ok false, .pool 0 .ok false] = some .ok := by decide
-- the hypotheses of `C05_engine_success_all_pools` are met by two clean pools whose results arrive in reverse order
example : ([EEv.pool 1 .ok false, EEv.pool 0 .ok false].filterMap EEv.poolId).Nodup := by decide
example : (run Cfg.repaired cleanWitness).result = some .ok := by decide
-- cancelled engine: a failed pool is reported as the cancellation
example : engRun 2 [.pool 1 (.fail .provider (.err 1)) true, .pool 0 .ok false] = some .ctx ∧
    EngCancelled [.pool 1 (.fail .provider (.err 1)) true, .pool 0 .ok false] := by
  refine ⟨by decide, ?_⟩
  intro id r d hm hr
  simp only [List.mem_cons, EEv.pool.injEq, List.not_mem_nil, or_false] at hm
  rcases hm with ⟨_, _, h⟩ | ⟨_, h, _⟩
  · exact h
  · exact absurd h hr
-- the two races of `C05_cancel_result_counterexample`, in the repaired variant
example : (run Cfg.repaired cancelFailWitness).result = some (.fail .provider (.err 1)) ∧
    (run Cfg.repaired cancelFailWitness).extAtReturn = true := by decide
example : (run Cfg.repaired cancelOkWitness).result = some .ok ∧ (run Cfg.repaired cancelOkWitness).extAtReturn = true := by
  decide
-- a run nobody cancels that is quiescent under the finite-input contract: the clean run above
example : QuiescentFin Cfg.repaired (run Cfg.repaired cleanWitness) := by
  intro c hm
  cases c <;> first | exact False.elim hm | rfl | (simp [step, run, cleanWitness, init, mainReturn, cancelAll, handleRes, afterErr, checkAll, finish, Ret.isCtxError])
-- … whereas mid-run (an instance still shooting, nobody cancelled) `instRet` is bound to happen and changes the state
example : ¬ QuiescentFin Cfg.repaired (run Cfg.repaired [.warm (.ok true), .sched none, .startFirst (.ok true)]) := by
  intro h
  have := h (.instRet 0 .ooa) trivial
  revert this
  decide
-- WaitGroup: two finished pools
example : wgCounter ([cleanWitness, waitWitness].map (run Cfg.repaired)) = some 0 := by decide

/-! ### how one instance ends (`Model.C05.Inst`: the loop of `instance.Run` over `coreutil.Waiter`) — for EVERY list of
passes: every moment of the cancel, every answer of the provider, any number of tokens other instances take from a
shared schedule in between, due / sleeping / overdue tokens, `discard_overflow` on or off, a panic in any shot -/

section Instance
open Pandora.Model.C05.Inst Pandora.Proofs.C05Inst

/-- "succeeds only if … ran out of ammo or schedule", instance level: `instance.Run` returns nil ONLY when its schedule
has no token left and the run context was not done when it was read last. -/
theorem C05_instance_ok_only_if_schedule_finished (discard : Bool) (s s' : St) (ps : List Pass) :
    loop discard s ps = (s', some .ok) → s'.left = 0 ∧ s'.ctx = false :=
  (run_spec discard ps s s').1

/-- … and it returns `outOfAmmoErr` ONLY when `provider.Acquire` said there is no ammo, while the context was live and
the schedule still had tokens. -/
theorem C05_instance_ooa_only_if_provider_dry (discard : Bool) (s s' : St) (ps : List Pass) :
    loop discard s ps = (s', some .ooa) → (∃ p ∈ ps, p.ammoOk = false) ∧ s'.ctx = false ∧ s'.left ≠ 0 :=
  (run_spec discard ps s s').2.1

/-- the context's error comes out only of a cancelled context -/
theorem C05_instance_ctx_only_if_cancelled (discard : Bool) (s s' : St) (ps : List Pass) :
    loop discard s ps = (s', some .ctx) → s'.ctx = true :=
  (run_spec discard ps s s').2.2.1

/-- any other error is the value of a shot's panic (the deferred `recover`) -/
theorem C05_instance_err_only_if_panic (discard : Bool) (s s' : St) (ps : List Pass) (e : ErrId) :
    loop discard s ps = (s', some (.err e)) → ∃ p ∈ ps, p.panics = some e :=
  (run_spec discard ps s s').2.2.2 e

/-- accounting, at every moment and however the loop ends (return, panic, cancel): every acquired ammo has been released;
shots fired and discarded never exceed the tokens taken, which never exceed what the schedule had; at most one ammo
is acquired beyond the tokens taken, and only in the pass that finds the schedule finished or the context done. -/
theorem C05_instance_accounting (discard : Bool) (n : Nat) (ps : List Pass) :
    let s' := (loop discard { left := n } ps).1
    s'.rel = s'.acq ∧ s'.shots + s'.disc ≤ s'.taken ∧ s'.taken + s'.left ≤ n ∧ s'.acq ≤ s'.taken + 1 := by
  have h := run_inv discard n ps { left := n } ⟨rfl, by simp, by simp, Or.inl (by simp)⟩
  refine ⟨h.balanced, h.fired, h.tokens, ?_⟩
  rcases h.ammo with h | h <;> omega

/-- an instance with a schedule of its own that nobody disturbs never acquires an ammo it has no token for
("not consume extra ammo on finish in case of per instance schedule"): acquired = tokens taken ≤ n. -/
theorem C05_instance_no_extra_ammo (discard : Bool) (n : Nat) (ps : List Pass) (hq : ∀ p ∈ ps, p.quiet) :
    (loop discard { left := n } ps).1.acq = (loop discard { left := n } ps).1.taken ∧
    (loop discard { left := n } ps).1.acq ≤ n := by
  have h1 := run_quiet discard ps { left := n } hq ⟨rfl, rfl⟩
  have h2 : (loop discard { left := n } ps).1.taken + (loop discard { left := n } ps).1.left ≤ n :=
    (C05_instance_accounting discard n ps).2.2.1
  exact ⟨h1, by omega⟩

/-- without the hypothesis the claim is false: with a SHARED schedule an instance may acquire an ammo for which the
others take the token between its `Left()` and its `Next()`; it releases that ammo unshot (true of the code: the comment in
instance.go promises "not consume extra ammo" only "in case of per instance schedule"); what holds in general is the bound
`acq ≤ taken + 1` of `C05_instance_accounting` -/
def C05_instance_no_extra_ammo_statement : Prop :=
  ∀ (discard : Bool) (n : Nat) (ps : List Pass),
    (loop discard { left := n } ps).1.acq ≤ (loop discard { left := n } ps).1.taken

theorem C05_instance_no_extra_ammo_counterexample : ¬ C05_instance_no_extra_ammo_statement := by
  intro h
  have := h false 3 [{}, { stolen2 := 2 }]
  revert this
  decide

theorem C05_instance_no_extra_ammo_partial (discard : Bool) (n : Nat) (ps : List Pass) :
    (loop discard { left := n } ps).1.acq ≤ (loop discard { left := n } ps).1.taken + 1 :=
  (C05_instance_accounting discard n ps).2.2.2

/-- termination: a loop over a schedule with `n` tokens returns within `n + 1` passes, whatever happens in them
(every pass that does not return takes a token or leaves nothing to come back for). -/
theorem C05_instance_terminates (discard : Bool) (n : Nat) (ps : List Pass) (h : n < ps.length) :
    (loop discard { left := n } ps).2.isSome = true := by
  apply run_terminates
  have : rank { left := n } ≤ n := by unfold rank; split <;> simp
  omega

/-- the instance theorems speak about the CURRENT source of `core/coreutil`: every regenerated path through
`Waiter.Wait` is one of the five ways of `waitOut` (and returns / takes a token as the model says: the context is
looked at before the schedule is asked), `IsFinished` is "context done, else `Left() == 0`", `IsSlowDown` is never true
under a done context, and the finish callback of the shared schedule fires exactly when the wrapped schedule says it is
finished; in the model a pass that reaches `Wait` takes a token, fires or discards exactly as `waitOut` says. -/
theorem C05_source_waiter_is_model (d : Bool) (s : St) (p : Pass)
    (h1 : Inst.isFinished (s.ctx || p.cancel1) (s.left - p.stolen) = false) (h2 : p.ammoOk = true) :
    (let w := waitOut (s.ctx || p.cancel1 || p.cancel2) (s.left - p.stolen - p.stolen2) p.due p.timerWins
     (pass d s p).1.taken = s.taken + (if w.takes then 1 else 0) ∧
     (pass d s p).1.shots + (pass d s p).1.disc = s.shots + s.disc + (if w.ok then 1 else 0) ∧
     (w.ok = false → (pass d s p).2 = none)) ∧
    [WaitOut.ctxAtEntry, .noToken, .due, .timer, .ctxAsleep].all
      (fun k => Pandora.Gen.C05Wait.wait.any (fun q => Pandora.Bridge.C05Wait.waitKind q == some k)) = true ∧
    Pandora.Gen.C05Wait.wait.all (fun q => match Pandora.Bridge.C05Wait.waitKind q with
      | some k => q.retText == Pandora.Bridge.C05Wait.boolText k.ok && (q.has (.cond "‹res0›") == k.takes)
      | none => false) = true := by
  refine ⟨?_, Pandora.Bridge.C05Wait.wait_is_model.2, Pandora.Bridge.C05Wait.wait_is_model.1⟩
  fun_cases pass d s p
  case case6 | case7 => cases hd : p.due <;> simp_all [waitOut, WaitOut.ok, WaitOut.takes] <;> omega
  all_goals simp_all [waitOut, WaitOut.ok, WaitOut.takes]

-- non-vacuity: a pass that reaches `Wait`
example : Inst.isFinished (({ left := 2 } : St).ctx || ({} : Pass).cancel1) (2 - 0) = false := by decide

-- non-vacuity: three tokens, plenty of ammo: three shots, then nil, nothing left
example : loop false { left := 3 } [{}, {}, {}, {}] =
    ({ left := 0, acq := 3, rel := 3, taken := 3, shots := 3 }, some .ok) := by decide
-- the provider runs dry at the third pass
example : (loop false { left := 3 } [{}, {}, { ammoOk := false }, {}]).2 = some .ooa := by decide
-- a shared schedule: the others take the last two tokens between `Left()` and `Next()`: ammo acquired, released, nil
example : loop false { left := 3 } [{}, { stolen2 := 2 }, {}] =
    ({ left := 0, acq := 2, rel := 2, taken := 1, shots := 1 }, some .ok) := by decide
-- the cancel arrives while the instance sleeps for its second token
example : (loop false { left := 5 } [{}, { due := false, timerWins := false }, {}]).2 = some .ctx := by decide
-- overdue tokens with discard_overflow: discarded instead of shot, the loop still ends by the schedule
example : loop true { left := 2 } [{ overdue := true }, { overdue := true }, {}] =
    ({ left := 0, acq := 2, rel := 2, taken := 2, disc := 2 }, some .ok) := by decide
-- a panic in the second shot: the ammo is released all the same
example : loop false { left := 5 } [{}, { panics := some 7 }, {}] =
    ({ left := 3, acq := 2, rel := 2, taken := 2, shots := 2 }, some (.err 7)) := by decide
-- `quiet` passes exist and the bound of `C05_instance_terminates` is sharp: n passes are not enough
example : ({} : Pass).quiet := by simp [Pass.quiet]
example : (loop false { left := 3 } [{}, {}, {}]).2 = none := by decide

end Instance

/-! ### what the return of `Engine.Run` does to the pools that are still running -/
section Sys2
open Pandora.Model.C05.Sys

/-- `Engine.Run` returning - with success, a pool failure or the cancellation error, after ANY interleaving - leaves the
engine context cancelled (its deferred `cancel()`); that context is the one every `pool.Run` was given and the one the
pool goroutines and the result loop select on (regenerated: `Bridge.C05Engine.engineRun_pool_start`, `engineRun_cancels`) -/
theorem C05_engine_return_cancels_context (ecfg : EngCfg) (n : Nat) (ecs : List EChoice)
    (h : (erun ecfg n ecs).result.isSome = true) : (erun ecfg n ecs).ctxDone = true :=
  (Proofs.C05.Sys.run_inv ecfg n ecs).ctxSome h

/-- COMPOSITION engine → pool: a pool that is still in progress - in ANY state `run cfg cs` - when `Engine.Run` returns
sees that cancel as the cancel of its parent context (`extCancel`): its run context is cancelled at once, of any
continuation at most `mu` steps change its state, and when nothing bound to happen is left the pool is `Done`
(`onWaitDone` called once, so `Engine.Wait` returns; no goroutine left; every gun accounted for) - nobody has to cancel
anything after `Engine.Run` returned -/
theorem C05_engine_return_stops_pools (ecfg : EngCfg) (n : Nat) (ecs : List EChoice) (cfg : Cfg)
    (hfix : cfg.fixWaitDone = true) (cs : List Choice) (hret : (erun ecfg n ecs).result.isSome = true) :
    (erun ecfg n ecs).ctxDone = true ∧
    (run cfg (cs ++ [.extCancel])).runC = true ∧
    (∀ ds, effSteps cfg (run cfg (cs ++ [.extCancel])) ds ≤ mu (run cfg (cs ++ [.extCancel]))) ∧
    (Quiescent cfg (run cfg (cs ++ [.extCancel])) → Done cfg (run cfg (cs ++ [.extCancel]))) := by
  have hr : (run cfg (cs ++ [.extCancel])).runC = true := by
    simp [run, List.foldl_append, step, cancelAll]
  exact ⟨C05_engine_return_cancels_context ecfg n ecs hret, hr,
    fun ds => C05_background_terminates cfg _ ds hr, fun hq => C05_wait_returns cfg hfix _ hr hq⟩

-- non-vacuity: two pools, the first fails, `Engine.Run` returns the failure while the second is still running
example : (erun EngCfg.code 2 [.poolRet 0 (.fail .provider (.err 1)), .send 0, .recv]).result =
    some (.fail 0 (.fail .provider (.err 1))) ∧
    (erun EngCfg.code 2 [.poolRet 0 (.fail .provider (.err 1)), .send 0, .recv]).pools[1]? = some .running := by decide
end Sys2

/-! ### the instance level composed with the pool level -/
section InstPool
open Pandora.Model.C05.Inst

/-- COMPOSITION instance → pool: the instance level says WHEN the loop of `instance.Run`
ends with an error - only through the panic of a shot (every list of passes, any schedule, any cancel) -, the pool
level says what that does to the run: once an instance that runs with its gun (`live[i] = ⟨id, some g⟩`) returns that
error, `Pool.Run` never returns success unless the caller cancelled, whatever happened before and happens afterwards -/
theorem C05_instance_panic_fails_pool (cfg : Cfg) (hfix : cfg.fixSelect = true) (pre post : List Choice)
    (discard : Bool) (st st' : St) (ps : List Pass) (e : ErrId) (i id : Nat) (g : Gun)
    (hloop : loop discard st ps = (st', some (.err e)))
    (hlive : (run cfg pre).live[i]? = some ⟨id, some g⟩) :
    (∃ p ∈ ps, p.panics = some e) ∧
    (let s := run cfg (pre ++ .instRet i (.err e) :: post)
     s.extC = false → s.result ≠ some .ok) := by
  refine ⟨C05_instance_err_only_if_panic discard st st' ps e hloop, not_ok_after_error cfg hfix pre post _ ?_⟩
  simp only [step, hlive]
  rw [if_neg (by simp), ce_sendRes]
  simp only [addErr]
  exact fun hh => absurd (List.append_eq_nil_iff.1 hh).2 (by simp)

-- non-vacuity: the second shot of an instance panics; in the pool that instance is live with its gun
example : loop false { left := 5 } [{}, { panics := some 7 }, {}] =
    ({ left := 3, acq := 2, rel := 2, taken := 2, shots := 2 }, some (.err 7)) := by decide
example : (run Cfg.repaired [.warm (.ok true), .sched none, .startFirst (.ok true)]).live[0]? =
    some ⟨0, some ⟨true, 0⟩⟩ := by decide
example : (run Cfg.repaired ([.warm (.ok true), .sched none, .startFirst (.ok true)] ++ .instRet 0 (.err 7) ::
    [.awaitRun, .errDeliver])).result = some (.fail (.instance 0) (.err 7)) := by decide
end InstPool

/-! ### the ammo provider behind `Choice.provRet` (`Model/C05Prov.lean`), and its composition with the pool -/
section Provider
open Pandora.Model.C05.Prov

/-- `JSONAmmoDecoder.Decode` answers `io.EOF` itself - the only answer `DecodeProvider.Run` takes for the regular end of
the ammo - only when no value starts where it stands and the source has ended: at an ammo boundary, in EVERY situation
of the decoder -/
theorem C05_json_eof_only_at_boundary (d : DecIn) (h : jsonDecode d = .eof) :
    d.noValue = true ∧ d.readErr0 = some true := by
  obtain ⟨nv, r0, pf, r1⟩ := d
  cases nv <;> cases pf <;> rcases r0 with _ | (_ | _) <;> rcases r1 with _ | (_ | _) <;>
    simp_all [jsonDecode, errOfPtr]

/-- an ammo that the end of the source cuts short is `ammo is truncated` (an error), never the end of the ammo -/
theorem C05_json_truncated_is_error (d : DecIn) (h0 : d.noValue = false) (hp : d.parseFails = true)
    (h1 : d.readErr1 = some true) : jsonDecode d = .unexpectedEof ∧ jsonDecode d ≠ .eof ∧ jsonDecode d ≠ .ok := by
  rw [show jsonDecode d = .unexpectedEof by simp [jsonDecode, h0, hp, h1]]; exact ⟨rfl, by decide, by decide⟩

/-- `DecodeProvider.Run` returns nil ONLY at a regular end: source and decoder were there, every answer before was an
ammo, and then the limit was reached, or the decoder said `io.EOF` itself, or the context was done at a send - for
every list of decoder answers, every limit, every moment of the cancel -/
theorem C05_provider_nil_only_at_regular_end (s : Src) (ctxAt : Option Nat) (ds : List DecRes) (o : Out)
    (h : decodeRun s ctxAt ds = some o) (hn : o.res = .nil) :
    s.openOk = true ∧ s.decoderOk = true ∧ (∀ j, j < o.sent → ds[j]? = some .ok) ∧
    ((s.limit ≠ 0 ∧ s.limit ≤ o.sent) ∨ ds[o.sent]? = some .eof ∨ (ctxAt = some o.sent ∧ ds[o.sent]? = some .ok)) := by
  unfold decodeRun at h
  cases ho : s.openOk with
  | false => simp [ho] at h; subst h; cases hn
  | true =>
    cases hd : s.decoderOk with
    | false => simp [ho, hd] at h; subst h; cases hn
    | true =>
      simp only [ho, hd, Bool.not_true, Bool.false_eq_true, if_false, Option.map_eq_some_iff] at h
      obtain ⟨⟨r, n⟩, hl, rfl⟩ := h
      simp only at hn
      subst hn
      obtain ⟨_, h2, h3⟩ := runLoop_nil s.limit ctxAt ds 0 n hl
      exact ⟨rfl, rfl, by simpa using h2, by simpa using h3⟩

/-- … and when it fails in the loop, the error it returns IS the decoder's answer at that ammo (wrapped, never
dropped, never replaced), which was neither an ammo nor `io.EOF` -/
theorem C05_provider_error_is_cause (s : Src) (ctxAt : Option Nat) (ds : List DecRes) (o : Out) (i : Nat) (e : DecRes)
    (h : decodeRun s ctxAt ds = some o) (he : o.res = .decodeFailed i e) :
    ds[i]? = some e ∧ e ≠ .ok ∧ e ≠ .eof ∧ o.sent = i := by
  unfold decodeRun at h
  cases ho : s.openOk with
  | false => simp [ho] at h; subst h; cases he
  | true =>
    cases hd : s.decoderOk with
    | false => simp [ho, hd] at h; subst h; cases he
    | true =>
      simp only [ho, hd, Bool.not_true, Bool.false_eq_true, if_false, Option.map_eq_some_iff] at h
      obtain ⟨⟨r, n⟩, hl, rfl⟩ := h
      simp only at he
      subst he
      obtain ⟨h1, _, h3, h4, h5⟩ := runLoop_err s.limit ctxAt ds 0 n i e hl
      exact ⟨by simpa using h3, h4, h5, h1⟩

/-- a broken source fails the provider: `j` ammo, then an answer that is neither an ammo nor `io.EOF` (a truncated ammo,
a read error, malformed JSON), within the limit and not after a cancel: `Run` returns that error at ammo `j` -/
theorem C05_provider_broken_source_fails (s : Src) (ctxAt : Option Nat) (j : Nat) (e : DecRes) (rest : List DecRes)
    (ho : s.openOk = true) (hd : s.decoderOk = true) (he1 : e ≠ .ok) (he2 : e ≠ .eof)
    (hlim : s.limit = 0 ∨ j < s.limit) (hctx : ∀ c, ctxAt = some c → j ≤ c) :
    decodeRun s ctxAt (List.replicate j .ok ++ e :: rest) = some ⟨.decodeFailed j e, j, true⟩ := by
  unfold decodeRun
  have := runLoop_first_bad s.limit ctxAt e rest he1 he2 j 0 (by omega) (by intro c h; have := hctx c h; omega)
  simp only [Nat.zero_add] at this
  simp [ho, hd, this]

/-- whenever a provider's `Run` returns - failing to open its source included - the ammo queue is closed, and `Acquire`
on a closed queue never blocks: an instance parked in `Acquire` (which knows no context) is always let go.  The order
"deferred close first, then everything that can fail" is regenerated: `Bridge.C05Prov.decodeRun_closes_queue`,
`grpcRun_closes_sink`, `httpRun_closes_sink` (the http provider: regenerated order only, its `Run` is not modelled),
`acquire_is_receive` -/
theorem C05_provider_return_releases_acquirers :
    (∀ s ctxAt ds o, decodeRun s ctxAt ds = some o → o.queueClosed = true) ∧
    (∀ openOk start sent, (grpcRun openOk start sent).queueClosed = true ∧
      (openOk = false → (grpcRun openOk start sent).res = .openFailed)) ∧
    (∀ q, (acquire q true).isSome = true) ∧
    Pandora.Gen.C05Prov.srcDecodeRun.all (Pandora.Bridge.C05Prov.closesFirst "OutQueue") = true ∧
    Pandora.Gen.C05Prov.srcGrpcRun.all (Pandora.Bridge.C05Prov.closesFirst "Sink") = true ∧
    Pandora.Gen.C05Prov.srcHttpRun.all (Pandora.Bridge.C05Prov.closesFirst "Sink") = true := by
  refine ⟨?_, ?_, ?_, Pandora.Bridge.C05Prov.decodeRun_closes_queue.1, Pandora.Bridge.C05Prov.grpcRun_closes_sink.1,
    Pandora.Bridge.C05Prov.httpRun_closes_sink.1⟩
  · intro s ctxAt ds o h
    unfold decodeRun at h
    split at h
    · cases h; rfl
    · split at h
      · cases h; rfl
      · simp only [Option.map_eq_some_iff] at h
        obtain ⟨_, _, rfl⟩ := h; rfl
  · intro openOk start sent
    cases openOk <;> simp [grpcRun]
  · intro q; cases q <;> simp [acquire]

/-- COMPOSITION provider → pool (→ engine): whatever the pool did before (`pre`) and does afterwards (`post`), once its
provider - running at that moment - has returned an error of the provider model, `Pool.Run` never returns success
unless the caller cancelled; with `C05_no_swallow` the failure carries a recorded component error -/
theorem C05_provider_failure_fails_pool (cfg : Cfg) (hfix : cfg.fixSelect = true) (pre post : List Choice)
    (res : RunRes) (herr : res.isErr = true) (hrun : (run cfg pre).prov = .running) :
    let s := run cfg (pre ++ .provRet res.toRet :: post)
    s.extC = false → s.result ≠ some .ok := by
  have hret : res.toRet = .err 1 := by cases res <;> simp_all [RunRes.toRet, RunRes.isErr]
  refine not_ok_after_error cfg hfix pre post _ ?_
  rw [hret]
  simp only [step, hrun, retAllowed, addErr, and_self, if_true]
  exact fun hh => absurd (List.append_eq_nil_iff.1 hh).2 (by simp)

/-- END TO END on the written sources of the harness (`rp:json.<k>.tr|bad|rderr`): `k` complete ammo and then a tail
that is cut short, malformed or unreadable make `DecodeProvider.Run` fail at ammo `k`, for every `k` -/
theorem C05_written_source_fails_provider (k : Nat) (t : Tail) (ht : t ≠ .clean) :
    ∃ e, e ≠ .ok ∧ e ≠ .eof ∧ decodeRun {} none (answers k t) = some ⟨.decodeFailed k e, k, true⟩ := by
  have he : jsonDecode (decInAt k t k) ≠ .ok ∧ jsonDecode (decInAt k t k) ≠ .eof := by
    cases t <;> simp_all [decInAt, jsonDecode, errOfPtr]
  refine ⟨_, he.1, he.2, ?_⟩
  rw [answers_eq]
  exact C05_provider_broken_source_fails {} none k _ [] rfl rfl he.1 he.2 (Or.inl rfl) nofun

/-- … and a complete source ends regularly after exactly `k` ammo -/
theorem C05_written_source_clean_ends (k : Nat) :
    decodeRun {} none (answers k .clean) = some ⟨.nil, k, true⟩ := by
  rw [answers_eq, show jsonDecode (decInAt k .clean k) = .eof by simp [decInAt, jsonDecode, errOfPtr]]
  unfold decodeRun
  have : ∀ j n, runLoop 0 none n (List.replicate j .ok ++ [.eof]) = some (.nil, n + j) := by
    intro j
    induction j with
    | zero => intro n; simp [runLoop]
    | succ j ih => intro n; simp only [List.replicate_succ, List.cons_append, runLoop]; simp [ih (n + 1)]; omega
  simp [this k 0]

-- non-vacuity
example : decodeRun {} none [.ok, .ok, .unexpectedEof] = some ⟨.decodeFailed 2 .unexpectedEof, 2, true⟩ := by decide
example : decodeRun { limit := 2 } none [.ok, .ok, .unexpectedEof] = some ⟨.nil, 2, true⟩ := by decide
example : decodeRun {} (some 1) [.ok, .ok, .unexpectedEof] = some ⟨.nil, 1, true⟩ := by decide
example : decodeRun { openOk := false } none [] = some ⟨.openFailed, 0, true⟩ := by decide
example : decodeRun {} none [.ok, .ok] = none := by decide   -- still in its loop
example : jsonDecode ⟨true, some true, true, some true⟩ = .eof := by decide
example : jsonDecode ⟨false, none, true, some true⟩ = .unexpectedEof := by decide
example : answers 2 .truncated = [.ok, .ok, .unexpectedEof] := by decide
-- the composition applies: a pool whose provider is running, then fails, then everything else happens
example : (run Cfg.repaired [.warm (.ok true), .sched none]).prov = .running := by decide
example : (run Cfg.repaired ([.warm (.ok true), .sched none] ++ .provRet (RunRes.decodeFailed 2 .unexpectedEof).toRet ::
    [.awaitProv, .errDeliver])).result = some (.fail .provider (.err 1)) := by decide

end Provider

/-! ### provider → pool → engine, end to end -/
section EndToEnd
open Pandora.Model.C05.Prov

/-- END TO END provider → pool → engine: `n` pools, pool `i` executing `pools i` (any choice lists), the results
`Engine.Run` consumes being the results of the pools.  If the provider of ONE pool `j` - running at that moment - returns
an error of the provider model and nobody cancels that pool from outside, `Engine.Run` does not return nil, whatever the
other pools do and in whatever order the results become ready -/
theorem C05_provider_failure_fails_engine (cfg : Cfg) (hfix : cfg.fixSelect = true) (n : Nat) (pools : Nat → List Choice)
    (evs : List EEv)
    (hid : ∀ id r d, EEv.pool id r d ∈ evs → id < n ∧ (run cfg (pools id)).result = some r)
    (hnd : (evs.filterMap EEv.poolId).Nodup)
    (j : Nat) (hj : j < n) (pre post : List Choice) (res : RunRes) (herr : res.isErr = true)
    (hpool : pools j = pre ++ .provRet res.toRet :: post) (hrun : (run cfg pre).prov = .running)
    (hext : (run cfg (pools j)).extC = false) :
    engRun n evs ≠ some .ok := by
  intro hok
  have h := (C05_engine_success_all_pools cfg hfix n pools evs hid hnd hok j hj).1
  rw [hpool] at h hext
  exact C05_provider_failure_fails_pool cfg hfix pre post res herr hrun hext h

/-- … in particular for the ammo sources the harness writes (`rp:json.<k>.tr|bad|rderr`): `k` complete ammo and a tail
that is cut short, malformed or unreadable, read by `DecodeProvider.Run` in one pass with no limit: whatever the
provider model returns for that source, fed to pool `j` while its provider runs, keeps `Engine.Run` from succeeding -
for every `k` -/
theorem C05_broken_ammo_source_fails_engine (cfg : Cfg) (hfix : cfg.fixSelect = true) (n : Nat) (pools : Nat → List Choice)
    (evs : List EEv)
    (hid : ∀ id r d, EEv.pool id r d ∈ evs → id < n ∧ (run cfg (pools id)).result = some r)
    (hnd : (evs.filterMap EEv.poolId).Nodup)
    (j : Nat) (hj : j < n) (pre post : List Choice) (k : Nat) (t : Tail) (ht : t ≠ .clean) (o : Out)
    (ho : decodeRun {} none (answers k t) = some o)
    (hpool : pools j = pre ++ .provRet o.res.toRet :: post) (hrun : (run cfg pre).prov = .running)
    (hext : (run cfg (pools j)).extC = false) :
    engRun n evs ≠ some .ok := by
  obtain ⟨e, _, _, he⟩ := C05_written_source_fails_provider k t ht
  rw [he] at ho
  cases ho
  exact C05_provider_failure_fails_engine cfg hfix n pools evs hid hnd j hj pre post _ rfl hpool hrun hext

-- non-vacuity: one pool whose provider reads two ammo and a truncated third; the engine reads that pool's failure
example : (run Cfg.repaired ([.warm (.ok true), .sched none] ++
      .provRet (RunRes.decodeFailed 2 .unexpectedEof).toRet :: [.awaitProv, .errDeliver])).extC = false ∧
    engRun 1 [.pool 0 (.fail .provider (.err 1)) false] = some (.fail 0 (.fail .provider (.err 1))) := by decide
end EndToEnd

/-! ### composition over another property's regenerated definitions (C08, the http provider's scan loop) -/
section HttpProvider

/-- the http provider's `Run` result (classes of C08's model) as the POOL model sees it -/
def C05_httpRet : Pandora.Model.C08.RunRes → Ret
  | .nil => .ok
  | .canceled => .ctx
  | _ => .err 1

/-- COMPOSITION over ANOTHER property's regenerated definitions (C08, area `provloops`: the loop body of the http
provider's `runFullScan`, re-extracted from `components/providers/http/provider/provider.go` on every run): a `Scan` that
fails with anything but the limit sentinels (a malformed, truncated or unreadable ammo) - the context live, the limit not
reached, not the "whole pass without ammo" case - makes the loop RETURN that error (it is not skipped, not turned into
nil); the deferred function of `Run` closes `Sink` on every path (`httpRunCloses`); and that error, returned while the
pool's provider runs, never lets `Pool.Run` succeed unless the caller cancelled.  That `Run` returns what `runFullScan`
returned is not part of the statement. -/
theorem C05_http_scan_failure_fails_pool (cfg : Cfg) (hfix : cfg.fixSelect = true) (pre post : List Choice)
    (limit ammoNum passNum : Nat) (chosen : Bool)
    (hl : ¬(limit ≠ 0 ∧ ammoNum ≥ limit)) (hp : ¬(ammoNum = 0 ∧ passNum > 0))
    (hrun : (run cfg pre).prov = .running) :
    (match Pandora.Gen.ProvLoops.runFullScanStep limit false ammoNum passNum .unexpected chosen with
      | .ret r => r = .errOther
      | _ => False) ∧
    Pandora.Gen.ProvLoops.httpRunCloses = true ∧
    (let s := run cfg (pre ++ .provRet (C05_httpRet .errOther) :: post)
     s.extC = false → s.result ≠ some .ok) := by
  refine ⟨?_, rfl, ?_⟩
  · have hp' : ¬(ammoNum = 0 ∧ 0 < passNum) := hp
    simp [Pandora.Gen.ProvLoops.runFullScanStep, hl, hp']
  · exact C05_provider_failure_fails_pool cfg hfix pre post (.decodeFailed ammoNum .parseErr) rfl hrun

-- non-vacuity: the third ammo of the first pass is malformed
example : ¬((0 : Nat) ≠ 0 ∧ 2 ≥ 0) ∧ ¬((2 : Nat) = 0 ∧ 0 > 0) := by decide
end HttpProvider

end Pandora.Props.C05
