/-
C07 — ammo decoding fidelity: the property theorems.

For EVERY list of entries, EVERY permitted layout, EVERY limit `k` (i.e. any number of passes, complete or not) and
both provider modes (streaming / preload) the decoder models of `Pandora.Model.C07` deliver exactly the entries that
were rendered into the file, in file order, wrapping around at end of file, each with the header lines that precede
it in the file (and nothing from the previous pass).  The models are tied to the real decoders by the differential
harness (harness/cmd/c07, `Pandora.Drv.C07`); the helper lemmas are in `Pandora/Proofs/C07*.lean`.
-/
import Pandora.Proofs.C07Extra
import Pandora.Proofs.C07Heap
import Pandora.Proofs.C07Frame
import Pandora.Proofs.C07Prov
import Pandora.Proofs.C07Enrich
import Pandora.Proofs.C07Json
import Pandora.Proofs.C07Build
import Pandora.Bridge.C07

namespace Pandora.Props.C07
open Pandora.Model.C07 Pandora.Spec.C07 Pandora.Proofs.C07

/-! ### statement-level definitions -/

/-- what a provider delivers under `Limit = k` when one pass over the file yields `pass`:
the pass repeated and cut at `k`; a file without entries is the error `no ammo in file` -/
def cycled {α : Type} (pass : List α) (k : Nat) : List α × Stop :=
  if pass.isEmpty then ([], .err .noammo) else (cycleTake pass k, .eof)

/-- a well-formed ammo file description: entries and layout within what the format permits (no condition on line
lengths: since /repo 66b1841 the uri decoder reads lines of any length, like the other formats) -/
def wellFormed (f : Fmt) (items : List Item) (lay : Layout) : Prop :=
  itemsOK f items = true ∧ layoutOK lay = true

/-- … for a uri decoder whose Scanner has the token limit `lim` (the decoder before that repair: `some maxTok`):
additionally every line of the file fits a token -/
def wellFormedLim (lim : Option Nat) (items : List Item) (lay : Layout) : Prop :=
  itemsOK .uri items = true ∧ layoutOK lay = true ∧ linesFitL lim (render .uri items lay) = true

/-- the delivery of any of the three line formats -/
inductive Delivered where
  | ammo (r : List Ammo × Stop)
  | frames (r : List RawAmmo × Stop)
deriving DecidableEq

/-- the provider model for format `f` on the bytes `file` -/
def decodeAll (f : Fmt) (file : Bytes) (k : Nat) (pre : Bool) : Delivered :=
  match f with
  | .uri => .ammo (uriDeliver file k pre)
  | .uripost => .ammo (uripostDeliver true file k pre)
  | .raw => .frames (rawDeliver file k pre)

/-- what the ENTRIES say must be delivered (no file bytes, no layout involved) -/
def expectedAll (f : Fmt) (items : List Item) (k : Nat) : Delivered :=
  match f with
  | .raw => .frames (cycled (expFrames items) k)
  | _ => .ammo (cycled (expAmmo f [] items) k)

/-- number of request entries (header lines are not entries) -/
def countReqs : List Item → Nat
  | [] => 0
  | .hdr _ _ :: r => countReqs r
  | _ :: r => countReqs r + 1

/-! ### one pass over a rendered file -/

/-- uri, for ANY token limit of the decoder's Scanner (`none`: no limit): one pass over a rendered file all of whose
lines fit a token yields exactly the entries, with their effective headers -/
theorem C07_uri_pass_lim (lim : Option Nat) (items : List Item) (lay : Layout)
    (hi : itemsOK .uri items = true) (hl : layoutOK lay = true) (hf : linesFitL lim (render .uri items lay) = true) :
    uriPassLim lim (render .uri items lay) [] = (expAmmo .uri [] items, .eof) :=
  uriPass_render items lay [] hi hl (fits_of_linesFitL hf)

/-- without a limit every file fits -/
theorem C07_no_limit_fits (file : Bytes) : linesFitL none file = true := by
  simp [linesFitL, tooLong]

/-- uri as it is in /repo (no line limit since 66b1841): one pass of the scanner over the rendered file yields exactly
the entries, with their effective headers — whatever the length of its lines -/
theorem C07_uri_pass (items : List Item) (lay : Layout)
    (hi : itemsOK .uri items = true) (hl : layoutOK lay = true) :
    uriPass (render .uri items lay) [] = (expAmmo .uri [] items, .eof) :=
  C07_uri_pass_lim none items lay hi hl (C07_no_limit_fits _)

/-- uripost: one pass of the (repaired) block reader yields exactly the entries with their bodies -/
theorem C07_uripost_pass (items : List Item) (lay : Layout)
    (hi : itemsOK .uripost items = true) (hl : layoutOK lay = true) :
    uripostPass true (render .uripost items lay) [] = (expAmmo .uripost [] items, .eof) :=
  upPass_render items lay [] hi hl

/-- raw: one pass finds exactly the frames, whatever bytes they contain -/
theorem C07_raw_pass (items : List Item) (lay : Layout)
    (hi : itemsOK .raw items = true) (hl : layoutOK lay = true) :
    rawPass (render .raw items lay) = (expFrames items, .eof) :=
  rawPass_render items lay hi hl

/-! ### round trips: all entry lists, all layouts, all limits (any number of passes), both modes -/

/-- **uri**: the provider delivers the entries of the file, in file order, wrapping around, each with the header
lines that precede it in the file (accumulated from nothing at every pass) -/
theorem C07_uri_roundtrip (items : List Item) (lay : Layout) (k : Nat) (pre : Bool)
    (hi : itemsOK .uri items = true) (hl : layoutOK lay = true) :
    uriDeliver (render .uri items lay) k pre = cycled (expAmmo .uri [] items) k := by
  show deliver (uriPass (render .uri items lay) []) k pre = _
  rw [C07_uri_pass items lay hi hl, deliver_eof]; rfl

/-- the same for a decoder with a token limit, on files whose lines fit it (the decoder before /repo 66b1841) -/
theorem C07_uri_roundtrip_lim (lim : Option Nat) (items : List Item) (lay : Layout) (k : Nat) (pre : Bool)
    (h : wellFormedLim lim items lay) :
    uriDeliverLim lim (render .uri items lay) k pre = cycled (expAmmo .uri [] items) k := by
  unfold uriDeliverLim
  rw [C07_uri_pass_lim lim items lay h.1 h.2.1 h.2.2, deliver_eof]; rfl

/-- **uripost**: the same with bodies of arbitrary bytes (newlines, `[`, NUL, empty, lines that look like entries);
a last entry without trailing newline is kept -/
theorem C07_uripost_roundtrip (items : List Item) (lay : Layout) (k : Nat) (pre : Bool)
    (hi : itemsOK .uripost items = true) (hl : layoutOK lay = true) :
    uripostDeliver true (render .uripost items lay) k pre = cycled (expAmmo .uripost [] items) k := by
  unfold uripostDeliver
  rw [C07_uripost_pass items lay hi hl, deliver_eof]; rfl

/-- **raw**: exactly the frames with their tags, whatever the frames contain -/
theorem C07_raw_frames (items : List Item) (lay : Layout) (k : Nat) (pre : Bool)
    (hi : itemsOK .raw items = true) (hl : layoutOK lay = true) :
    rawDeliver (render .raw items lay) k pre = cycled (expFrames items) k := by
  unfold rawDeliver
  rw [C07_raw_pass items lay hi hl, deliver_eof]; rfl

/-- all three formats at once: the delivery is the function `expectedAll` of the ENTRIES -/
theorem C07_roundtrip (f : Fmt) (items : List Item) (lay : Layout) (k : Nat) (pre : Bool)
    (h : wellFormed f items lay) :
    decodeAll f (render f items lay) k pre = expectedAll f items k := by
  obtain ⟨hi, hl⟩ := h
  cases f with
  | uri => simp only [decodeAll, expectedAll]; rw [C07_uri_roundtrip items lay k pre hi hl]
  | uripost => simp only [decodeAll, expectedAll]; rw [C07_uripost_roundtrip items lay k pre hi hl]
  | raw => simp only [decodeAll, expectedAll]; rw [C07_raw_frames items lay k pre hi hl]

/-- **layout never matters**: two permitted layouts of the same entries (blank lines, surrounding blanks, CRLF,
padding inside header lines, final newline present or not, trailing blanks) are delivered identically -/
theorem C07_layout_invariant (f : Fmt) (items : List Item) (lay lay' : Layout) (k : Nat) (pre pre' : Bool)
    (h : wellFormed f items lay) (h' : wellFormed f items lay') :
    decodeAll f (render f items lay) k pre = decodeAll f (render f items lay') k pre' := by
  rw [C07_roundtrip f items lay k pre h, C07_roundtrip f items lay' k pre' h']

/-- why the repair df9a0d4 was needed: the block reader BEFORE it (`uripostPass false`) discards whatever follows the
last newline of the file — a last entry `0 /b tag` without final newline was dropped (compare `C07_uripost_pass`) -/
theorem C07_unrepaired_uripost_drops_last (line : Bytes) (h : Hdrs) (hl : LF ∉ line) :
    uripostPass false line h = ([], .eof) := by
  cases line with
  | nil => rw [uripostPass]
  | cons b r =>
    have hc := cut_no_sep LF (b :: r) hl
    rw [uripostPass]
    simp [hc]

/-! ### what "the entries, wrapping around" means, spelled out -/

/-- position `i` of the delivery is entry `i mod n` of the pass: file order, wrap-around, nothing dropped,
duplicated or merged; and exactly `k` are delivered -/
theorem C07_wraparound {α : Type} (pass : List α) (hne : pass ≠ []) (k : Nat) :
    (cycled pass k).2 = .eof ∧ (cycled pass k).1.length = k ∧
    ∀ i, i < k → (cycled pass k).1[i]? = pass[i % pass.length]? := by
  have he : pass.isEmpty = false := by cases pass <;> simp_all
  have hc : cycled pass k = (cycleTake pass k, .eof) := by simp [cycled, he]
  rw [hc]
  exact ⟨rfl, cycleTake_length pass hne k, fun i hi => cycleTake_get pass hne k i hi⟩

/-- the delivery one pass later is the same element.  For the round trips, whose pass is `expAmmo f [] items` (headers
accumulated from nothing), this says header lines are forgotten at each new pass: the same ammo with the same effective
header set comes again, not one with the headers accumulated until the end of the file -/
theorem C07_headers_forgotten {α : Type} (pass : List α) (hne : pass ≠ []) (k i : Nat) (hi : i + pass.length < k) :
    (cycled pass k).1[i + pass.length]? = (cycled pass k).1[i]? := by
  obtain ⟨_, _, h⟩ := C07_wraparound pass hne k
  rw [h _ hi, h i (by omega), Nat.add_mod_right]

/-- one pass has exactly one ammo per request entry (header lines produce none) -/
theorem C07_count (f : Fmt) (hf : f ≠ .raw) (items : List Item) (hi : itemsOK f items = true) :
    ∀ h, (expAmmo f h items).length = countReqs items := by
  induction items with
  | nil => intro h; rfl
  | cons it r ih =>
    intro h
    simp only [itemsOK, List.all_cons, Bool.and_eq_true] at hi
    have ihr := ih (by simpa [itemsOK] using hi.2)
    cases it with
    | hdr k v => simp only [expAmmo, countReqs]; exact ihr _
    | req u t b => simp only [expAmmo, countReqs, List.length_cons]; rw [ihr]
    | frame t fr => cases f <;> simp_all [itemOK]

theorem C07_count_raw (items : List Item) (hi : itemsOK .raw items = true) :
    (expFrames items).length = countReqs items := by
  induction items with
  | nil => rfl
  | cons it r ih =>
    simp only [itemsOK, List.all_cons, Bool.and_eq_true] at hi
    have ihr := ih (by simpa [itemsOK] using hi.2)
    cases it with
    | hdr k v => simp [itemOK] at hi
    | req u t b => simp [itemOK] at hi
    | frame t fr => simp only [expFrames, countReqs, List.length_cons]; rw [ihr]

/-! ### the model is the model of the CURRENT source (facts regenerated by /verif/gen on every run) -/

/-- the decoders in /repo obtain their lines the way the pass functions of the model describe: uri through a
`bufio.Scanner` whose buffer may grow to `math.MaxInt` (`newLineScanner`: no line limit, `scanLimit maxIntGo = none`), uripost and raw through
`ReadString('\n')` (no limit); each of them applies `strings.TrimSpace` to the line, stores a clone of the header
accumulator in the ammo and uses the methods GET / POST (lemmas of `Pandora.Bridge.C07` about `Pandora.Gen.AmmoDec`) -/
theorem C07_regenerated_readers :
    Pandora.Gen.AmmoDec.uriReader = .scanner maxIntGo ∧ scanLimit maxIntGo = none ∧ Pandora.Gen.AmmoDec.uripostReader = .readString 10
      ∧ Pandora.Gen.AmmoDec.rawReader = .readString 10
      ∧ Pandora.Gen.AmmoDec.uriMethod = getBytes ∧ Pandora.Gen.AmmoDec.uripostMethod = postBytes
      ∧ Pandora.Gen.AmmoDec.uriHeaderOrigin = .clone ∧ Pandora.Gen.AmmoDec.uripostHeaderOrigin = .clone
      ∧ Pandora.Gen.AmmoDec.jsonURLPrefix = httpPrefix :=
  ⟨Pandora.Bridge.C07.uriReader_eq, by decide, Pandora.Bridge.C07.uripostReader_eq, Pandora.Bridge.C07.rawReader_eq,
   Pandora.Bridge.C07.methods_eq.1, Pandora.Bridge.C07.methods_eq.2,
   Pandora.Bridge.C07.headerOrigin_eq.1, Pandora.Bridge.C07.headerOrigin_eq.2, Pandora.Bridge.C07.json_facts.1⟩

/-- the three string helpers of the line formats, regenerated STATEMENT BY STATEMENT from the current source
(`util.DecodeHeader`, `uripost.DecodeURI`, `raw.DecodeHeader`: named results, early returns, `if init; cond`, index and
slice expressions as partial operations), compute for EVERY input what the model's `decodeHeader`, `decodeURI`,
`rawDecodeHeader` compute, and never reach a run-time panic (`goResult… = some …`).  A helper whose source leaves the
translator's subset is reported untranslated (`…G? = none`) and nothing is claimed about it in that run. -/
theorem C07_regenerated_helpers :
    (∀ g ∈ Pandora.Gen.AmmoDec.decodeHeaderG?, ∀ h : Bytes,
        Pandora.Bridge.C07.goResult2 (g h) = Pandora.Bridge.C07.modelResult (decodeHeader h))
    ∧ (∀ g ∈ Pandora.Gen.AmmoDec.decodeURIG?, ∀ s : Bytes,
        Pandora.Bridge.C07.goResult3 (g s) = Pandora.Bridge.C07.modelResult (decodeURI s))
    ∧ (∀ g ∈ Pandora.Gen.AmmoDec.rawDecodeHeaderG?, ∀ s : Bytes,
        (Pandora.Bridge.C07.goResult2 (g s)).map (fun r => r.toOption) = some (rawDecodeHeader s)) := by
  -- `g ∈ …G?` names the translated function; in a run that did not translate it there is no such `g`
  refine ⟨?_, ?_, ?_⟩
  · intro g hg h
    cases Option.mem_def.mp hg <;> exact Pandora.Bridge.C07.decodeHeaderG_eq rfl h
  · intro g hg s
    cases Option.mem_def.mp hg <;> exact Pandora.Bridge.C07.decodeURIG_eq rfl s
  · intro g hg s
    cases Option.mem_def.mp hg <;> rw [Pandora.Bridge.C07.rawDecodeHeaderG_eq rfl s] <;> cases rawDecodeHeader s <;> rfl

/-! ### ownership of the header set: WHEN the request is built does not matter

The pass functions treat the running `[Header: value]` set as a value.  In the code it is a map that later header lines
keep writing, and `BuildRequest` reads the ammo's map later, on another goroutine: while the decoder already scans
towards the next entry (streaming), after the whole file has been scanned (`preload`), at any time with several
instances.  `Pandora.Model.C07Heap` models the maps as heap cells and lets decoder steps and reads interleave freely. -/

/-- a decoder that stores a clone of the accumulator (what /repo does: `Pandora.Bridge.C07.headerOrigin_eq`): in EVERY
interleaving of decoder steps (header lines, entries, any number of new passes) and `BuildRequest`s (of any delivered
ammo, at any later moment, in any order, any number of times) every `BuildRequest` sees exactly the header set of the
value model, i.e. the header lines that precede the entry in its pass, plus the `headers` option -/
theorem C07_clone_isolates (cfg : Hdrs) (acts : List Act) : readsRight true cfg acts :=
  clone_readsRight cfg acts

/-- the same for the CURRENT source: the origin regenerated from `readLine` / `readBlock` makes the decoder a copying one -/
theorem C07_clone_isolates_regenerated (cfg : Hdrs) (acts : List Act) :
    readsRight (copiesOf Pandora.Gen.AmmoDec.uriHeaderOrigin cfg) cfg acts
      ∧ readsRight (copiesOf Pandora.Gen.AmmoDec.uripostHeaderOrigin cfg) cfg acts := by
  rw [(Pandora.Bridge.C07.copies_eq cfg).1, (Pandora.Bridge.C07.copies_eq cfg).2]
  exact ⟨clone_readsRight cfg acts, clone_readsRight cfg acts⟩

/-- in terms of the ENTRIES: when the decoder's part of the interleaving is `n` passes over a file rendered from
`items`, the `BuildRequest` of delivery number `j`, whenever it runs, sees the header set of entry `j mod len` of the
Spec (`expAmmo`, header lines accumulated from nothing at every pass) merged with the `headers` option -/
theorem C07_clone_isolates_entries (f : Fmt) (cfg : Hdrs) (items : List Item) (n : Nat) (acts : List Act)
    (hd : decEvs acts = passEvs f items n) :
    ∀ jh ∈ (runRef true cfg RefState.init acts).reads,
      ((List.replicate n ((expAmmo f [] items).map (Ammo.withCfg cfg))).flatten[jh.1]?).map (·.hdrs) = some jh.2 := by
  intro jh hjh
  have h := clone_readsRight cfg acts jh hjh
  unfold valueHdrs at h
  rw [hd, valueOut_passEvs] at h
  exact h

/-- "clone only when there is a `headers` option to merge" (origin `mixed`; a seeded change did exactly this):
the full claim for such a decoder … -/
def C07_mixed_isolates_statement : Prop :=
  ∀ (cfg : Hdrs) (acts : List Act), readsRight (copiesOf .mixed cfg) cfg acts

/-- … holds when the option is non-empty (which is why tests that configure a header do not notice) … -/
theorem C07_mixed_isolates_partial (cfg : Hdrs) (hc : cfg ≠ []) (acts : List Act) :
    readsRight (copiesOf .mixed cfg) cfg acts := by
  have : copiesOf .mixed cfg = true := by
    cases cfg with
    | nil => exact absurd rfl hc
    | cons a r => rfl
  rw [this]
  exact clone_readsRight cfg acts

/-- the witness: one entry, then a header line, then the request of the entry is built -/
def aliasWitness : List Act :=
  [.dec (.req { method := getBytes, url := [47, 97], body := [], tag := [], hdrs := [] }),
   .dec (.hdr [88] [49]), .read 0]

/-- … and is false without one: the entry is delivered with a header line written AFTER it -/
theorem C07_mixed_isolates_counterexample : ¬ C07_mixed_isolates_statement := by
  intro h
  have h1 := h [] aliasWitness (0, [([88], [49])]) (by decide)
  revert h1
  decide

/-- a decoder that stores the accumulator itself is wrong already with an empty `headers` option (the only one under which
`stepRef false` is a meaningful system: it has nowhere to merge an option into) -/
theorem C07_alias_counterexample : ¬ ∀ acts : List Act, readsRight false [] acts := by
  intro h
  have h1 := h aliasWitness (0, [([88], [49])]) (by decide)
  revert h1
  decide

/-! ### … and forgotten at each new pass: what the decoder does to the accumulator when the file wraps around -/

/-- a cloning decoder that, at the end of a pass, gives itself a NEW accumulator map or EMPTIES the old one in place
(`clear(d.header)`): in every interleaving of decoder steps, passes and `BuildRequest`s every request sees the header
lines of its own pass only.  (Emptying in place is safe because no delivered ammo holds the accumulator cell.) -/
theorem C07_pass_reset_isolates (reset : PassReset) (hf : reset.forgets = true) (cfg : Hdrs) (acts : List Act) :
    readsRightR reset cfg acts :=
  reset_readsRight reset hf cfg acts

/-- the same for the CURRENT source: the end-of-pass behaviour regenerated from `uriDecoder.Scan` / `uripostDecoder.Scan` -/
theorem C07_pass_reset_regenerated (cfg : Hdrs) (acts : List Act) :
    readsRightR Pandora.Gen.AmmoDec.uriPassReset cfg acts ∧ readsRightR Pandora.Gen.AmmoDec.uripostPassReset cfg acts :=
  ⟨reset_readsRight _ Pandora.Bridge.C07.passReset_forgets.1 cfg acts,
   reset_readsRight _ Pandora.Bridge.C07.passReset_forgets.2 cfg acts⟩

/-- the claim for a decoder that leaves its accumulator alone at the end of a pass … -/
def C07_pass_reset_kept_statement : Prop := ∀ (cfg : Hdrs) (acts : List Act), readsRightR .kept cfg acts

/-- … holds as long as the file is read once (no `newPass` among the decoder's steps: why a single-pass test passes) … -/
theorem C07_pass_reset_kept_partial (cfg : Hdrs) (acts : List Act) (h1 : LineEv.newPass ∉ decEvs acts) :
    readsRightR .kept cfg acts := by
  have hrun : ∀ (acts : List Act) (s : RefState), LineEv.newPass ∉ decEvs acts →
      runRefR .kept cfg s acts = runRef true cfg s acts := by
    intro acts
    induction acts with
    | nil => intro s _; rfl
    | cons a r ih =>
      intro s hn
      cases a with
      | read j => exact ih _ (by simpa [decEvs] using hn)
      | dec e =>
        cases e with
        | newPass => simp [decEvs] at hn
        | hdr k v => exact ih _ (by simpa [decEvs] using hn)
        | req am => exact ih _ (by simpa [decEvs] using hn)
  intro jh hjh
  rw [hrun acts _ h1] at hjh
  exact clone_readsRight cfg acts jh hjh

/-- `[X: 1]`, an entry, end of file, the entry again WITHOUT the header line before it, then the request of the second
delivery is built: what the examples below run the three end-of-pass behaviours on (`C07_pass_reset_needed` uses two
passes over the file `/a`, `[X: 1]` instead) -/
def keptWitness : List Act :=
  [.dec (.hdr [88] [49]), .dec (.req { method := getBytes, url := [47, 97], body := [], tag := [], hdrs := [] }),
   .dec .newPass, .dec (.req { method := getBytes, url := [47, 97], body := [], tag := [], hdrs := [] }), .read 1]

/-- … and is false over two passes: an entry that precedes the header line in the file is delivered WITH it in pass 2 -/
theorem C07_pass_reset_needed : ¬ C07_pass_reset_kept_statement := by
  intro h
  have h1 := h [] [.dec (.req { method := getBytes, url := [47, 97], body := [], tag := [], hdrs := [] }),
    .dec (.hdr [88] [49]), .dec .newPass,
    .dec (.req { method := getBytes, url := [47, 97], body := [], tag := [], hdrs := [] }), .read 1]
    (1, [([88], [49])]) (by decide)
  revert h1
  decide

/-! ### line length: no format has a line limit (uri: since /repo 66b1841; before, the `bufio.Scanner` default of 64 KiB) -/

/-- the uri round trip for a decoder whose Scanner has the DEFAULT buffer (what /repo had before 66b1841), stated
without a hypothesis on line lengths.  It is FALSE (`C07_uri_roundtrip_counterexample`: this is the defect that commit
repaired); `C07_uri_roundtrip_partial` is the part that held.  For the current decoder the unrestricted statement is
the theorem `C07_uri_roundtrip`. -/
def C07_uri_roundtrip_statement : Prop :=
  ∀ (items : List Item) (lay : Layout) (k : Nat) (pre : Bool),
    itemsOK .uri items = true → layoutOK lay = true →
    uriDeliverLim (some maxTok) (render .uri items lay) k pre = cycled (expAmmo .uri [] items) k

/-- the part that held: every line shorter than the Scanner limit -/
theorem C07_uri_roundtrip_partial (items : List Item) (lay : Layout) (k : Nat) (pre : Bool)
    (hi : itemsOK .uri items = true) (hl : layoutOK lay = true) (hf : linesFit (render .uri items lay) = true) :
    uriDeliverLim (some maxTok) (render .uri items lay) k pre = cycled (expAmmo .uri [] items) k :=
  C07_uri_roundtrip_lim (some maxTok) items lay k pre ⟨hi, hl, hf⟩

/-- with a default Scanner a uri file whose first line has 65536 bytes or more is not delivered wrongly, it is REFUSED:
`token too long`, in either mode, before anything is handed out -/
theorem C07_uri_line_limit (line rest : Bytes) (k : Nat) (pre : Bool) (hk : 0 < k)
    (hline : LF ∉ line) (hlong : maxTok ≤ line.length) :
    uriDeliverLim (some maxTok) (line ++ LF :: rest) k pre = ([], .err .toolong) := by
  unfold uriDeliverLim
  rw [uriPass_toolong maxTok (by decide) line (LF :: rest) [] hline hlong (Or.inr ⟨rest, rfl⟩)]
  cases pre
  · simp [deliver]; omega
  · simp [deliver]

/-- the limit was real: the single entry `/aaa…a` with a target of 65536 bytes is a well-formed uri entry, and a decoder
with the default Scanner delivers nothing of it -/
theorem C07_uri_roundtrip_counterexample : ¬ C07_uri_roundtrip_statement := by
  intro hst
  have hi : itemsOK .uri [.req (longTarget 65535) [] []] = true := by
    have := longTarget_ok 65535
    simp only [itemsOK, List.all_cons, List.all_nil, itemOK, this]
    decide
  have h := hst [.req (longTarget 65535) [] []] {} 1 false hi (by decide)
  have hfile : render .uri [.req (longTarget 65535) [] []] {} = longTarget 65535 ++ LF :: [] := by
    simp [render, renderItems, renderBlanks, content, payload]
  rw [hfile, C07_uri_line_limit (longTarget 65535) [] 1 false (by omega) (longTarget_noLF _)
    (by rw [longTarget_length]; decide)] at h
  have h2 := congrArg Prod.snd h
  simp [cycled, expAmmo] at h2

/-- … and is gone: the decoder of /repo delivers a uri entry whose line has ANY length (here a target of `n + 1` bytes
for every `n`, any tag, any layout, any limit, both modes), exactly like uripost and raw -/
theorem C07_uri_any_line_length (n : Nat) (t : Bytes) (lay : Layout) (k : Nat) (pre : Bool)
    (ht : tagOK t = true) (hl : layoutOK lay = true) :
    uriDeliver (render .uri [.req (longTarget n) t []] lay) k pre
      = cycled [{ method := getBytes, url := longTarget n, body := [], tag := t, hdrs := [] }] k := by
  have hi : itemsOK .uri [.req (longTarget n) t []] = true := by
    simp [itemsOK, itemOK, longTarget_ok, ht, sizeOK]
  rw [C07_uri_roundtrip _ lay k pre hi hl]
  simp [expAmmo]

/-- uripost reads its lines with `ReadString`: a request line of ANY length is one line (here a target of `n + 1`
bytes for every `n`, any tag, any body, any layout, any limit, both modes) -/
theorem C07_uripost_any_line_length (n : Nat) (t b : Bytes) (lay : Layout) (k : Nat) (pre : Bool)
    (ht : tagOK t = true) (hb : sizeOK b.length = true) (hl : layoutOK lay = true) :
    uripostDeliver true (render .uripost [.req (longTarget n) t b] lay) k pre
      = cycled [{ method := postBytes, url := longTarget n, body := b, tag := t, hdrs := [] }] k := by
  have hi : itemsOK .uripost [.req (longTarget n) t b] = true := by
    simp [itemsOK, itemOK, longTarget_ok, ht, hb]
  rw [C07_uripost_roundtrip _ lay k pre hi hl]
  simp [expAmmo]

/-- raw: a size line of any length (here a tag of `n + 1` bytes) is one line -/
theorem C07_raw_any_line_length (n : Nat) (fr : Bytes) (lay : Layout) (k : Nat) (pre : Bool)
    (hne : fr ≠ []) (hs : sizeOK fr.length = true) (hl : layoutOK lay = true) :
    rawDeliver (render .raw [.frame (longTarget n) fr] lay) k pre = cycled [{ frame := fr, tag := longTarget n }] k := by
  have ht : tagOK (longTarget n) = true := by
    simp [tagOK, (noLF_iff _).mpr (longTarget_noLF n), longTarget_reverse_edge]
  have hi : itemsOK .raw [.frame (longTarget n) fr] = true := by
    simp [itemsOK, itemOK, ht, hs, hne]
  rw [C07_raw_frames _ lay k pre hi hl]
  simp [expFrames]

/-! ### scope of an in-file header line (statements about the Spec `expAmmo`, i.e. about what the round-trip
theorems say is delivered) -/

/-- `[k: v]` applies to the entries AFTER it: the pass splits at the header line, the entries before it are those of
the file cut there, and every entry after it carries `v` for the canonical key until another header line redefines it -/
theorem C07_header_applies_after (f : Fmt) (pre post : List Item) (k v : Bytes) (h : Hdrs)
    (hn : noRedef (canonKey k) post = true) :
    expAmmo f h (pre ++ .hdr k v :: post) = expAmmo f h pre ++ expAmmo f (hset (accHdrs h pre) k v) post ∧
    ∀ a ∈ expAmmo f (hset (accHdrs h pre) k v) post, hget a.hdrs (canonKey k) = some v := by
  constructor
  · rw [expAmmo_append]; rfl
  · exact expAmmo_keeps f (canonKey k) v post _ (hget_hset_same _ k v) hn

/-- … and NOT to the entries before it: they are delivered exactly as if the file ended before the header line -/
theorem C07_header_not_before (f : Fmt) (pre post : List Item) (k v : Bytes) (h : Hdrs) :
    (expAmmo f h (pre ++ .hdr k v :: post)).take (expAmmo f h pre).length = expAmmo f h pre := by
  rw [expAmmo_append, List.take_left']
  rfl

/-- the limit only cuts: what is delivered under a limit `k` is the first `k` of what is delivered under any larger
limit (so `k` can be read as "the first k acquisitions", also of a provider that runs without a limit) -/
theorem C07_limit_prefix {α : Type} (pass : List α) (k k' : Nat) (hk : k ≤ k') :
    (cycled pass k').1.take k = (cycled pass k).1 := by
  rw [cycled, cycled, cycle_fst, cycle_fst]
  exact cycleTake_prefix pass k k' hk

/-! ### from decoded ammo to the request the gun receives (`BuildRequest`), and the executable Spec -/

/-- on request targets where the model knows `net/url`, every delivered ammo materialises (`Acquire` →
`BuildRequest`) into the request written in the file: method, target, Host, effective headers, body, tag.
`cfg` is the provider's `headers` option (any, also empty): it only fills in keys the file did not define. -/
theorem C07_requests (f : Fmt) (hf : f ≠ .raw) (cfg : Hdrs) (items : List Item) (k : Nat) (hk : targetsKnown items = true) :
    ((cycled (expAmmo f [] items) k).1.map (Ammo.withCfg cfg)).map buildReq
      = (cycleTake (expReqs f cfg [] items) k).map some := by
  rw [cycled, cycle_fst, cycleTake_map, cycleTake_map, expAmmo_buildReq f hf cfg items [] hk, ← cycleTake_map]

/-- headers written in the ammo file have priority over the `headers` option, for every key and every option list -/
theorem C07_file_headers_win (cfg h : Hdrs) (key v : Bytes) (hk : hget h key = some v) :
    hget (mergeCfg h cfg) key = some v :=
  mergeCfg_keeps cfg h key v hk

/-- the executable Spec (`judge`, the same function that is evaluated on the REAL provider's observation)
accepts what the uri model delivers, for all entries, layouts, limits, modes and `headers` options -/
theorem C07_uri_spec (cfg : Hdrs) (items : List Item) (lay : Layout) (k : Nat) (pre : Bool)
    (hi : itemsOK .uri items = true) (hl : layoutOK lay = true)
    (hk : targetsKnown items = true) :
    ∃ e rs, modelObs (withCfgRes cfg (uriDeliver (render .uri items lay) k pre)) = some (e, rs) ∧
      judge (expected ((expReqs .uri cfg [] items).map reqStr) k) (expectedErr ((expReqs .uri cfg [] items).map reqStr)) rs e = "ok" :=
  modelObs_ok .uri (by decide) cfg items k hk _ (C07_uri_roundtrip items lay k pre hi hl)

theorem C07_uripost_spec (cfg : Hdrs) (items : List Item) (lay : Layout) (k : Nat) (pre : Bool)
    (hi : itemsOK .uripost items = true) (hl : layoutOK lay = true) (hk : targetsKnown items = true) :
    ∃ e rs, modelObs (withCfgRes cfg (uripostDeliver true (render .uripost items lay) k pre)) = some (e, rs) ∧
      judge (expected ((expReqs .uripost cfg [] items).map reqStr) k) (expectedErr ((expReqs .uripost cfg [] items).map reqStr)) rs e = "ok" :=
  modelObs_ok .uripost (by decide) cfg items k hk _ (C07_uripost_roundtrip items lay k pre hi hl)

/-- an absolute-form target `http://host[:port]/path?query` in a uri / uripost file: the request goes to `/path?query`
with Host = the URL's authority — a `[Host: …]` line or a Host in the `headers` option does not replace it (they only
supply the Host of origin-form targets), all other header lines apply as usual -/
theorem C07_absolute_target (f : Fmt) (cfg h : Hdrs) (host path t b : Bytes) (r : List Item)
    (hh : hostOK host = true) (hp : uriOK path = true) :
    ∃ q, (expReqs f cfg h (.req (httpPrefix ++ host ++ path) t b :: r)).head? = some q ∧
      q.host = host ∧ q.uri = path ∧ q.tag = t ∧ q.hdrs = sortHdrs ((mergeCfg h cfg).filter (fun kv => kv.1 != hostKey)) := by
  have hne : host.isEmpty = false := by
    cases host with
    | nil => simp [hostOK, cut] at hh
    | cons _ _ => rfl
  have hparts : targetParts (httpPrefix ++ host ++ path) = (host, path) := by
    unfold targetParts
    rw [parseURL_http host path (Or.inr hh) hp]
    rfl
  by_cases hf : f = .uripost
  · refine ⟨mkReq postBytes path host b t (mergeCfg h cfg), ?_, by simp [mkReq, hne]⟩
    simp only [expReqs, hf, if_true, List.head?_cons, hparts]
  · refine ⟨mkReq getBytes path host [] t (mergeCfg h cfg), ?_, by simp [mkReq, hne]⟩
    simp only [expReqs, hf, if_false, List.head?_cons, hparts]

/-! ### http/json: entity → request -/

/-- after `encoding/json`: every entity becomes the request it describes (`http://host` + uri, Host, method
defaulting to GET, headers, body, tag), in order, wrapping around — in stream mode, array mode and preload -/
theorem C07_json_mapping (cfg : Hdrs) (array : Bool) (ents : List Entity) (k : Nat) (pre : Bool)
    (hk : ents.all entityKnown = true) :
    ∃ as, jsonDeliver array ents k pre = cycled as k ∧ as.length = ents.length ∧
      (as.map (Ammo.withCfg cfg)).map buildReq
        = ents.map (fun e => some (entityReq cfg e.host e.method e.uri e.tag e.body e.headers)) := by
  obtain ⟨as, h1, h2, h3⟩ := jsonPass_known cfg ents hk
  refine ⟨as, ?_, h2, h3⟩
  unfold jsonDeliver
  simp only [h1]
  cases array <;> simp [deliver_eof, cycled]

/-- an entity with an invalid method stops the delivery with an error instead of being sent as something else -/
theorem C07_json_badmethod (e : Entity) (r : List Entity) (h : validMethod e.method = false) :
    jsonPass (e :: r) = ([], .err .badmethod) := by
  simp [jsonPass, entityAmmo, h]

/-! ### raw: the REQUESTS written in the frames

`C07_raw_frames` delivers every frame byte for byte.  What a frame SAYS is HTTP text; `frameReq`
(`Pandora.Model.C07Frame`) reads it the way `raw.DecodeRequest` = `net/http.ReadRequest` does (checked against the
library on every generated frame by the harness) and the theorems below show that it reads back exactly what an author
wrote: request line, every header line in order with its value, the body — for ALL methods, targets, header lists,
bodies (arbitrary bytes), CRLF or LF line ends and any blanks after the colon. -/

/-- raw entries written by an author: a tag and a request description each -/
def rawItems (qs : List (Bytes × FrameSrc)) : List Item := qs.map fun tq => .frame tq.1 (renderFrame tq.2)

/-- the LINES of a rendered frame are the lines written: method, target, header lines (canonical key, exact value;
the `Content-Length` of the body last), and the bytes after the blank line are the body -/
theorem C07_raw_frame_text (q : FrameSrc) (h : srcOK q = true) :
    frameLines (renderFrame q) = some (q.method, q.target, canonLines q.lines, q.body.getD []) :=
  frameLines_render q h

/-- … and the REQUEST read from it is the request described: `srcReq` (method, path+query, Host from the authority or
the `Host` line, header lines merged per canonical name in file order, body as written) -/
theorem C07_raw_frame_request (q : FrameSrc) (h : srcOK q = true) (hp : srcPlain q = true) :
    frameReq (renderFrame q) = some (srcReq q) :=
  frameReq_render q h hp

/-- the body of the request is the body written, byte for byte, whatever it contains -/
theorem C07_raw_body_exact (q : FrameSrc) (b : Bytes) (hq : q.body = some b) (h : srcOK q = true) (hp : srcPlain q = true) :
    (frameReq (renderFrame q)).map (·.body) = some b := by
  rw [C07_raw_frame_request q h hp]
  simp [srcReq, hq]

/-- **raw, end to end**: a file of size-prefixed frames written from request descriptions, in any permitted layout,
any limit, both modes: delivery i carries the tag and the REQUEST of entry i mod n -/
theorem C07_raw_requests (qs : List (Bytes × FrameSrc)) (lay : Layout) (k : Nat) (pre : Bool)
    (hi : itemsOK .raw (rawItems qs) = true) (hl : layoutOK lay = true)
    (hq : ∀ tq ∈ qs, srcOK tq.2 = true ∧ srcPlain tq.2 = true) :
    (rawDeliver (render .raw (rawItems qs) lay) k pre).1.map (fun a => (a.tag, frameReq a.frame)) =
      cycleTake (qs.map fun tq => (tq.1, some (srcReq tq.2))) k := by
  rw [C07_raw_frames (rawItems qs) lay k pre hi hl]
  have hexp : expFrames (rawItems qs) = qs.map fun tq => ({ frame := renderFrame tq.2, tag := tq.1 } : RawAmmo) := by
    induction qs with
    | nil => rfl
    | cons a r ih =>
      have := ih (by simpa [rawItems, itemsOK] using (by simpa [rawItems, itemsOK] using hi : _ ∧ _).2)
        (fun tq htq => hq tq (List.mem_cons_of_mem _ htq))
      simpa [rawItems, expFrames] using this
  rw [cycled, cycle_fst, cycleTake_map, hexp, List.map_map]
  congr 1
  apply List.map_congr_left
  intro tq htq
  simp [Function.comp, C07_raw_frame_request tq.2 (hq tq htq).1 (hq tq htq).2]

/-! ### non-vacuity: concrete well-formed files meeting the hypotheses -/

/-- `/a t`, `[X-A: v]`, `/b?q=1 my tag`  (byte strings are written out: `String.toUTF8` does not reduce in the kernel) -/
def exItems : List Item :=
  [.req [47, 97] [116] [], .hdr [88, 45, 65] [118], .req [47, 98, 63, 113, 61, 49] [109, 121, 32, 116, 97, 103] []]

/-- uripost: `[Host: example.com]`, `/a` tagged `my tag` with the body `⏎[A: b]⏎3 /x⏎` (a newline, a header
look-alike and a request look-alike), then `/b` with an empty body -/
def exPost : List Item :=
  [.hdr [72, 111, 115, 116] [101, 120, 97, 109, 112, 108, 101, 46, 99, 111, 109],
   .req [47, 97] [109, 121, 32, 116, 97, 103] [10, 91, 65, 58, 32, 98, 93, 10, 51, 32, 47, 120, 10], .req [47, 98] [] []]

/-- raw: `GET / HTTP/1.1⏎Host: h⏎⏎` tagged `t1`, then the 8 bytes `⏎⏎[x]⏎5⏎` without tag -/
def exRaw : List Item :=
  [.frame [116, 49] [71, 69, 84, 32, 47, 32, 72, 84, 84, 80, 47, 49, 46, 49, 13, 10, 72, 111, 115, 116, 58, 32, 104, 13, 10, 13, 10], .frame [] [10, 10, 91, 120, 93, 10, 53, 10]]

/-- blank lines first, padding and CRLF around the entries, no final newline -/
def exLay : Layout :=
  { lead := [[], [SP, CR]]
    per := [{ pre := [SP], post := [9, CR], blanks := [[], [SP]] }, { i1 := [SP], i2 := [9], i3 := [SP, SP], i4 := [SP], post := [CR] }]
    finalNL := false }

def exLay2 : Layout := { finalNL := true, trail := [SP, 9] }

example : itemsOK .uri exItems = true ∧ layoutOK exLay = true ∧ targetsKnown exItems = true := by decide
example : itemsOK .uripost exPost = true ∧ layoutOK exLay = true ∧ layoutOK exLay2 = true := by decide
example : itemsOK .raw exRaw = true := by decide

/-- the uri example: 3 entries in the file, 2 requests per pass, the header applies to the second only -/
example : expAmmo .uri [] exItems =
    [{ method := getBytes, url := [47, 97], body := [], tag := [116], hdrs := [] },
     { method := getBytes, url := [47, 98, 63, 113, 61, 49], body := [], tag := [109, 121, 32, 116, 97, 103], hdrs := [([88, 45, 65], [118])] }] := by
  decide

/-- the padded CRLF layout without final newline and the plain layout render to different bytes … -/
example : render .uri exItems exLay ≠ render .uri exItems exLay2 := by decide

/-- … both are well-formed, so `C07_layout_invariant` applies to them -/
example : wellFormed .uri exItems exLay ∧ wellFormed .uri exItems exLay2 := by
  refine ⟨⟨by decide, by decide⟩, ⟨by decide, by decide⟩⟩

/-- 2.5 passes over the uripost example (k = 5 with 2 entries per pass): the theorem applies and the result is a
real delivery (5 requests, no error) -/
example : (uripostDeliver true (render .uripost exPost exLay) 5 false).1.length = 5
    ∧ (uripostDeliver true (render .uripost exPost exLay) 5 false).2 = .eof := by
  rw [C07_uripost_roundtrip exPost exLay 5 false (by decide) (by decide)]
  have hne : expAmmo .uripost [] exPost ≠ [] := by decide
  obtain ⟨h1, h2, _⟩ := C07_wraparound _ hne 5
  exact ⟨h2, h1⟩

example : (rawDeliver (render .raw exRaw exLay2) 3 true).1.length = 3 := by
  rw [C07_raw_frames exRaw exLay2 3 true (by decide) (by decide)]
  exact (C07_wraparound _ (by decide) 3).2.1

/-- the hypotheses of `C07_uri_line_limit` are met by a real line: 65536 letters (no newline among them); the short
example file meets `wellFormedLim (some maxTok)` -/
example : wellFormedLim (some maxTok) exItems exLay := ⟨by decide, by decide, by decide⟩
example : LF ∉ longTarget 65535 ∧ maxTok ≤ (longTarget 65535).length :=
  ⟨longTarget_noLF _, by rw [longTarget_length]; decide⟩

/-- `C07_uripost_any_line_length` / `C07_raw_any_line_length` with concrete arguments: a line of more than 100000 bytes -/
example : (uripostDeliver true (render .uripost [.req (longTarget 100000) [116] [98, 10, 98]] exLay2) 3 true).1.length = 3 := by
  rw [C07_uripost_any_line_length 100000 [116] [98, 10, 98] exLay2 3 true (by decide) (by decide) (by decide)]
  exact (C07_wraparound _ (by simp) 3).2.1

example : (rawDeliver (render .raw [.frame (longTarget 70000) [71]] exLay2) 2 false).2 = .eof := by
  rw [C07_raw_any_line_length 70000 [71] exLay2 2 false (by simp) (by decide) (by decide)]
  exact (C07_wraparound _ (by simp) 2).1

/-- `C07_header_applies_after` on the uri example: `[X-A: v]` sits between the two requests and nothing redefines it -/
example : noRedef (canonKey [88, 45, 65]) [Item.req [47, 98, 63, 113, 61, 49] [109, 121, 32, 116, 97, 103] []] = true
    ∧ exItems = [.req [47, 97] [116] []] ++ .hdr [88, 45, 65] [118] :: [.req [47, 98, 63, 113, 61, 49] [109, 121, 32, 116, 97, 103] []] := by
  decide

/-- http/json: a known entity -/
example : ([{ host := [101, 120, 97, 109, 112, 108, 101, 46, 99, 111, 109], method := [80, 79, 83, 84], uri := [47, 97, 63, 98, 61, 99], tag := [109, 121, 32, 116, 97, 103],
              body := [123, 125], headers := [([120, 45, 97], [118])] }] : List Entity).all entityKnown = true := by decide

/-- an interleaving in which every request is built late: streaming with the decoder one entry (and the header lines
before it) ahead, then a new pass, then the reads of a second consumer — the hypotheses of `C07_clone_isolates_entries`
are met by it (two passes over the uri example) and the reads are non-trivial (different header sets) -/
def exActs : List Act :=
  [.dec (.hdr [88, 45, 65] [49]), .dec (.req { method := getBytes, url := [47, 97], body := [], tag := [116], hdrs := [] }),
   .dec (.hdr [120, 45, 97] [50]), .dec (.hdr [72, 111, 115, 116] [104]),
   .dec (.req { method := getBytes, url := [47, 98], body := [], tag := [], hdrs := [] }), .read 0, .dec .newPass,
   .dec (.hdr [88, 45, 65] [49]), .read 1, .read 0,
   .dec (.req { method := getBytes, url := [47, 97], body := [], tag := [116], hdrs := [] }),
   .dec (.hdr [120, 45, 97] [50]), .dec (.hdr [72, 111, 115, 116] [104]),
   .dec (.req { method := getBytes, url := [47, 98], body := [], tag := [], hdrs := [] }), .dec .newPass, .read 3, .read 2]

def exHdrItems : List Item :=
  [.hdr [88, 45, 65] [49], .req [47, 97] [116] [], .hdr [120, 45, 97] [50], .hdr [72, 111, 115, 116] [104], .req [47, 98] [] []]

example : decEvs exActs = passEvs .uri exHdrItems 2 := by decide
example : (runRef true [] RefState.init exActs).reads =
    [(0, [([88, 45, 65], [49])]), (1, [([88, 45, 65], [50]), ([72, 111, 115, 116], [104])]), (0, [([88, 45, 65], [49])]),
     (3, [([88, 45, 65], [50]), ([72, 111, 115, 116], [104])]), (2, [([88, 45, 65], [49])])] := by decide
/-- the same interleaving with a decoder that stores the accumulator itself: delivery 0 is built with the header lines
that FOLLOW it (what the seeded change did in streaming mode) -/
example : (runRef false [] RefState.init exActs).reads.head? =
    some (0, [([88, 45, 65], [50]), ([72, 111, 115, 116], [104])]) := by decide
example : ([([67], [118])] : Hdrs) ≠ [] := by decide
/-- a layout whose padding is Unicode white space (NBSP before the line, U+3000 + CR after it, U+2028 / NEL / U+1680 inside
`[key: value]`, a blank line of U+205F, trailing U+00A0) is a permitted layout: the round trips apply to it -/
def exLayU : Layout :=
  { lead := [[0xE2, 0x81, 0x9F]]
    per := [{ pre := [0xC2, 0xA0], post := [0xE3, 0x80, 0x80, 13], i1 := [0xE2, 0x80, 0xA8], i2 := [0xC2, 0x85],
              i3 := [0xE1, 0x9A, 0x80, 32], i4 := [0xE2, 0x80, 0x8A], blanks := [[9, 0xE2, 0x80, 0xAF]] },
            { pre := [0xE2, 0x80, 0x80, 32], post := [0xC2, 0xA0, 13] }]
    finalNL := true, trail := [0xC2, 0xA0] }
example : layoutOK exLayU = true ∧ wellFormed .uri exItems exLayU := by
  refine ⟨by decide, by decide, by decide⟩
example : render .uri exItems exLayU ≠ render .uri exItems exLay := by decide
/-- `http://h.x:8080/a?b=c` meets the hypotheses of `C07_absolute_target`, and such entries are inside `targetsKnown` -/
example : hostOK [104, 46, 120, 58, 56, 48, 56, 48] = true ∧ uriOK [47, 97, 63, 98, 61, 99] = true
    ∧ targetsKnown [.req (httpPrefix ++ [104, 46, 120, 58, 56, 48, 56, 48] ++ [47, 97, 63, 98, 61, 99]) [116] []] = true := by decide

/-- a request description: `PUT http://h.x:8080/a?b=c HTTP/1.1`, lines `x-a: v`, `Host: ignored`, `X-A: w`
(two spellings of one name), LF line ends, the body `⏎[A: b]⏎` + NUL -/
def exSrc : FrameSrc :=
  { method := [80, 85, 84], target := httpPrefix ++ [104, 46, 120, 58, 56, 48, 56, 48] ++ [47, 97, 63, 98, 61, 99]
    hdrs := [([120, 45, 97], [118]), ([72, 111, 115, 116], [105, 103, 110, 111, 114, 101, 100]), ([88, 45, 65], [119])]
    body := some [10, 91, 65, 58, 32, 98, 93, 10, 0], crlf := false, gap := [SP, 9] }
/-- the same without a body (every function involved then reduces in the kernel) -/
def exSrc0 : FrameSrc := { exSrc with body := none, crlf := true }
example : srcOK exSrc = true ∧ srcPlain exSrc = true ∧ srcOK exSrc0 = true ∧ srcPlain exSrc0 = true := by decide
/-- what it denotes: Host is the authority (the `Host` line is dropped), the two `X-A` lines make one header with both
values in file order -/
example : srcReq exSrc0 = { method := [80, 85, 84], uri := [47, 97, 63, 98, 61, 99], host := [104, 46, 120, 58, 56, 48, 56, 48]
                            hdrs := [([88, 45, 65], [[118], [119]])], body := [] } := by decide
example : itemsOK .raw (rawItems [([116], exSrc0)]) = true := by decide
example : (frameReq (renderFrame exSrc)).map (·.body) = some [10, 91, 65, 58, 32, 98, 93, 10, 0] :=
  C07_raw_body_exact exSrc _ rfl (by decide) (by decide)

/-- the end-of-pass witness meets the hypotheses of `C07_pass_reset_isolates` for both safe resets, and under
`cleared` the second pass's delivery is read with the header set of its own pass -/
example : PassReset.fresh.forgets = true ∧ PassReset.cleared.forgets = true ∧ PassReset.kept.forgets = false := by decide
example : (runRefR .cleared [] RefState.init keptWitness).reads = [(1, [])] := by decide
example : (runRefR .kept [] RefState.init keptWitness).reads = [(1, [([88], [49])])] := by decide
example : LineEv.newPass ∉ decEvs aliasWitness := by decide

/-- a `uris` option: `/a t`, `[X-A: v]`, `/b` -/
def exUris : List Item := [.req [47, 97] [116] [], .hdr [88, 45, 65] [118], .req [47, 98] [] []]

/-! ### the provider side: which decoder reads the file, the `uris` option, the delivery counters -/

/-- **every route of the config reaches the decoder of its format**: the provider type named after a line format forces
that format's decoder whatever the `decoder` option says, `http/json` forces the http/json decoder, and the generic type
`http` uses the decoder the option names; the table is the one `Import` registers in the current source
(`Pandora.Bridge.C07.registrations_eq`, `decoderTypes_eq`; differential: `via=reg`, `via=http`) -/
theorem C07_registered_routes (f : Fmt) (opt : String) :
    decoderOf f.name opt = some f.name ∧ decoderOf "http" f.name = some f.name
      ∧ decoderOf "http/json" opt = some "jsonline" ∧ decoderOf "http" "jsonline" = some "jsonline"
      ∧ (∀ t, Pandora.Gen.AmmoDec.registrationsG? = some t → t = regTable)
      ∧ (∀ v, Pandora.Gen.AmmoDec.validDecodersG? = some v → v = validDecoders) := by
  refine ⟨?_, ?_, rfl, by decide, Pandora.Bridge.C07.registrations_eq, Pandora.Bridge.C07.decoderTypes_eq.2⟩
  · cases f <;> rfl
  · cases f <;> decide

/-- three routes that select nothing (`NewProvider`: "unknown decoder type"): a misspelt provider type, a decoder name with a
trailing blank and an empty decoder name under `http` -/
theorem C07_unregistered_route : decoderOf "urii" "uri" = none ∧ decoderOf "http" "uri " = none ∧ decoderOf "http" "" = none := by
  decide

/-- **the `uris` option**: the strings of the option, one entry each (`uri`, `uri tag`, `[key: value]`), are delivered
exactly like the entries of a file - in order, wrapping around, header entries applying to the entries after them and
forgotten at each pass: `NewProvider` joins the strings with a newline (regenerated separator:
`Pandora.Bridge.C07.urisSep_eq`), which IS the file rendered without layout and without final newline -/
theorem C07_uris_option (items : List Item) (k : Nat) (pre : Bool) (hi : itemsOK .uri items = true) :
    urisFile (items.map urisLine) = render .uri items { finalNL := false }
      ∧ uriDeliver (urisFile (items.map urisLine)) k pre = cycled (expAmmo .uri [] items) k := by
  have h := render_uris items hi
  refine ⟨h.symm, ?_⟩
  rw [← h]
  exact C07_uri_roundtrip items _ k pre hi (by decide)

/-- … and the separator the current source joins them with is that newline -/
theorem C07_uris_separator_regenerated : ∀ s, Pandora.Gen.AmmoDec.urisSepG? = some s → s = [LF] :=
  Pandora.Bridge.C07.urisSep_eq

/-- **delivery counters**: the provider picks entry `counter % length` of the preloaded slice (and the http/json decoder
of its array); with the counter in a machine integer of `bits` value bits this is the entry the Spec expects
(`C07_wraparound`: entry `i mod n` at position `i`) for every delivery before the `2^bits`-th -/
theorem C07_counter_width {α : Type} (pass : List α) (hne : pass ≠ []) (bits k i : Nat) (hi : i < k) (hb : i < 2 ^ bits) :
    (cycled pass k).1[i]? = pass[wrapIdx bits pass.length i]? := by
  rw [wrapIdx_of_lt bits pass.length i hb]
  exact (C07_wraparound pass hne k).2.2 i hi

/-- the statement without the bound on the number of deliveries, for a 16-bit counter -/
def C07_counter_narrow_statement : Prop :=
  ∀ {α : Type} (pass : List α), pass ≠ [] → ∀ k i, i < k → (cycled pass k).1[i]? = pass[wrapIdx 16 pass.length i]?

/-- … is false: over three entries delivery 65536 must be entry 1 (65536 = 3·21845 + 1), a 16-bit counter is back at 0 -/
theorem C07_counter_narrow_counterexample : ¬ C07_counter_narrow_statement := by
  intro h
  have h1 := h [0, 1, 2] (by decide) 65537 65536 (by decide)
  rw [(C07_wraparound [0, 1, 2] (by decide) 65537).2.2 65536 (by decide)] at h1
  revert h1; decide

/-- the counters of the current source have at least 63 value bits (regenerated: the narrowest integer type in the index
of `p.ammos[i]`, `d.ammos[i]` and in the operand compared with `Limit`), so `C07_counter_width` covers every delivery
below 2^63 -/
theorem C07_counter_regenerated :
    (∀ b, Pandora.Gen.AmmoDec.preloadIndexBits? = some b → 63 ≤ b)
      ∧ (∀ b, Pandora.Gen.AmmoDec.fullScanCounterBits? = some b → 63 ≤ b)
      ∧ (∀ b, Pandora.Gen.AmmoDec.arrayIndexBits? = some b → 63 ≤ b) :=
  Pandora.Bridge.C07.counterBits_ok

/-- non-vacuity: the `uris` list `/a t`, `[X-A: v]`, `/b` is a well-formed entry list; joined it is the file
`/a t⏎[X-A: v]⏎/b`; and the hypotheses of `C07_counter_width` hold for delivery 65536 of 65544 with a 63-bit counter -/
example : itemsOK .uri exUris = true ∧ urisFile (exUris.map urisLine)
    = [47, 97, 32, 116, 10, 91, 88, 45, 65, 58, 118, 93, 10, 47, 98] := by decide
example : (65536 : Nat) < 65544 ∧ (65536 : Nat) < 2 ^ 63 ∧ wrapIdx 63 3 65536 = 1 ∧ wrapIdx 16 3 65536 = 0 := by decide

/-! ### raw: the `headers` option on the request a frame denotes (`enrichF`, what the Spec expects for plain frames) -/

/-- the option never touches method, target or body of the frame's request, whatever it lists -/
theorem C07_raw_option_keeps_request (cfg : Hdrs) (r : FReq) :
    (enrichF cfg r).method = r.method ∧ (enrichF cfg r).uri = r.uri ∧ (enrichF cfg r).body = r.body :=
  enrichF_core cfg r

/-- **the frame's own headers win**: a header the frame carries keeps exactly its values (all of them, in the order
written), for every option list -/
theorem C07_raw_frame_headers_win (cfg : Hdrs) (r : FReq) (key : Bytes) (vs : List Bytes)
    (h : r.hdrs.lookup key = some vs) : (enrichF cfg r).hdrs.lookup key = some vs :=
  enrichF_keeps cfg r key vs h

/-- a frame that names its Host (the authority of an absolute target or a `Host` line) keeps it whatever the option says -/
theorem C07_raw_frame_host_wins (cfg : Hdrs) (r : FReq) (h : r.host ≠ []) : (enrichF cfg r).host = r.host :=
  enrichF_host cfg r h

/-- **the option fills in what the frame lacks**: an option entry whose canonical key the frame does not carry (and that is
not `Host`) becomes a header of the request with the option's value; later entries of the option do not change it -/
theorem C07_raw_option_fills (cfg : Hdrs) (r : FReq) (k v : Bytes)
    (hno : r.hdrs.any (fun x => x.1 == canonKey k) = false) (hk : canonKey k ≠ hostKey) :
    (enrichF ((k, v) :: cfg) r).hdrs.lookup (canonKey k) = some [v] := by
  have hk' : (canonKey k == hostKey) = false := by simpa using hk
  have h1 : (enrichStep r (k, v)).hdrs.lookup (canonKey k) = some [v] := by
    unfold enrichStep
    simp only [hno, hk']
    exact lookup_insert_self (canonKey k, [v]) r.hdrs hno
  exact enrichF_keeps cfg _ _ _ h1

/-- … and a `Host` entry of the option becomes the Host of a request whose frame named none (and never a header) -/
theorem C07_raw_option_host (cfg : Hdrs) (r : FReq) (k v : Bytes) (hk : canonKey k = hostKey)
    (hno : r.hdrs.any (fun x => x.1 == hostKey) = false) (hh : r.host = []) (hv : v ≠ []) :
    (enrichF ((k, v) :: cfg) r).host = v := by
  have h1 : enrichStep r (k, v) = { r with host := v } := by
    unfold enrichStep
    simp [hk, hno, hh]
  show (enrichF cfg (enrichStep r (k, v))).host = v
  rw [h1, enrichF_host cfg _ (by simpa using hv)]

/-- non-vacuity: the request of `exSrc0` (header `X-A` with two values, Host from the authority) under the
option `[x-a: cfg]`, `[Host: o.example]`, `[X-New: n]`: `X-A` and the Host stay, `X-New` is added -/
example : (enrichF [([120, 45, 97], [99]), (hostKey, [111]), ([88, 45, 78, 101, 119], [110])] (srcReq exSrc0))
    = { srcReq exSrc0 with hdrs := [([88, 45, 65], [[118], [119]]), ([88, 45, 78, 101, 119], [[110]])] } := by decide


/-! ### http/json: the JSON TEXT of the file (`Pandora.Model.C07Json`) -/

/-- **a JSON string** is read back byte for byte: every byte string written with `"` and `\` escaped and control bytes as
`\u00XX` (newlines, NUL, `[`, quotes inside bodies …), whatever follows the closing quote -/
theorem C07_json_string_roundtrip (s rest : Bytes) : readStr (escStr s ++ 34 :: rest) = some (s, rest) :=
  readStr_esc s rest

/-- **one entity object** written with any JSON white space `g` around every token is read back as that entity - all
hosts, methods, targets, tags, bodies and header lists of arbitrary bytes -/
theorem C07_json_object (g : Bytes) (hg : allJWs g = true) (e : Entity) (rest : Bytes) :
    readObj (e.headers.length + 6) (entBody g e ++ rest) = some (e, rest) :=
  readObj_render g hg e _ (Nat.le_refl _) rest

/-- **an http/json file of one object after the other** - one per line, pretty-printed, packed, blank lines or other
white space `lead` before and `sep` after each object, `g` inside, final newline or none - is read by `jsonDoc` (the fuel
it takes, the length of the file, is enough) as exactly its entities, in file order, in stream mode; hence what the model
delivers from the FILE is what it delivers from the entities (`C07_json_mapping`) -/
theorem C07_json_text_stream (g lead sep : Bytes) (hg : allJWs g = true) (hl : allJWs lead = true) (hs : allJWs sep = true)
    (es : List Entity) (hne : es ≠ []) (hu : utf8Valid (renderStreamJ g lead sep es) = true) (k : Nat) (pre : Bool) :
    jsonDoc (renderStreamJ g lead sep es) = some (false, es)
      ∧ (jsonDoc (renderStreamJ g lead sep es)).map (fun p => jsonDeliver p.1 p.2 k pre) = some (jsonDeliver false es k pre) := by
  have h := jsonDoc_stream g lead sep hg hl hs es hne hu
  exact ⟨h, by rw [h]; rfl⟩

/-- **an http/json file that is ONE array** (white space before `[`, around the elements and the commas, after `]`) is read
as exactly its entities, in array mode -/
theorem C07_json_text_array (g lead0 lead sep trail : Bytes) (hg : allJWs g = true) (hl0 : allJWs lead0 = true)
    (hl : allJWs lead = true) (hs : allJWs sep = true) (ht : allJWs trail = true) (es : List Entity) (hne : es ≠ [])
    (hu : utf8Valid (lead0 ++ 91 :: renderElemsJ g lead sep trail es) = true) (k : Nat) (pre : Bool) :
    jsonDoc (lead0 ++ 91 :: renderElemsJ g lead sep trail es) = some (true, es)
      ∧ (jsonDoc (lead0 ++ 91 :: renderElemsJ g lead sep trail es)).map (fun p => jsonDeliver p.1 p.2 k pre)
          = some (jsonDeliver true es k pre) := by
  have h := jsonDoc_array g lead0 lead sep trail hg hl0 hl hs ht es hne hu
  exact ⟨h, by rw [h]; rfl⟩

/-- layout does not matter for http/json either: two renderings of the same entities (different gaps, separators, stream
or array) are read as the same entities -/
theorem C07_json_layout_invariant (g g' lead lead' sep sep' lead0 trail : Bytes)
    (hg : allJWs g = true) (hg' : allJWs g' = true) (hl : allJWs lead = true) (hl' : allJWs lead' = true)
    (hs : allJWs sep = true) (hs' : allJWs sep' = true) (hl0 : allJWs lead0 = true) (ht : allJWs trail = true)
    (es : List Entity) (hne : es ≠ []) (hu : utf8Valid (renderStreamJ g lead sep es) = true)
    (hu' : utf8Valid (lead0 ++ 91 :: renderElemsJ g' lead' sep' trail es) = true) :
    (jsonDoc (renderStreamJ g lead sep es)).map (·.2) = (jsonDoc (lead0 ++ 91 :: renderElemsJ g' lead' sep' trail es)).map (·.2) := by
  rw [jsonDoc_stream g lead sep hg hl hs es hne hu, jsonDoc_array g' lead0 lead' sep' trail hg' hl0 hl' hs' ht es hne hu']
  rfl

/-- non-vacuity: two entities (a body with `"`, `\`, LF, NUL and a two-byte rune; a header), gap ` ⏎`, one per
line with a blank line between them: the rendering is valid UTF-8 and all gaps are JSON white space -/
def exEnts : List Entity :=
  [{ host := [104], method := [80, 79, 83, 84], uri := [47, 97], tag := [116, 32, 49], body := [34, 92, 10, 0, 195, 169], headers := [([88, 45, 65], [118, 93])] },
   { host := [], method := [71, 69, 84], uri := [47], tag := [], body := [], headers := [] }]
set_option maxRecDepth 20000 in
example : exEnts ≠ [] ∧ allJWs [32, 10] = true ∧ allJWs [] = true ∧ allJWs [10, 10] = true
    ∧ utf8Valid (renderStreamJ [32, 10] [] [10, 10] exEnts) = true
    ∧ utf8Valid ([10] ++ 91 :: renderElemsJ [] [32] [9] [13, 10] exEnts) = true := by decide +kernel


/-! ### `BuildRequest` is a pure function of the decoded entry (reference level, `Pandora.Model.C07Build`) -/

/-- every request built from a decoded entry looks as the entry says, however often the entry has been built from before
and whatever the owners of the earlier requests did to them with operations in `allowed` -/
def C07_build_pure_statement (o : UrlOrigin) (allowed : BMut → Bool) : Prop :=
  ∀ (e : BEntry) (h0 : BHeap) (rounds : List (List BMut)), entryOK o e h0 →
    (∀ ms ∈ rounds, ∀ m ∈ ms, allowed m = true) →
    ∀ ob ∈ bRounds o e h0 rounds, ob = bExpect e h0

/-- **the same decoded entry always yields the same request** (preload, the http/json array, any wrap-around, any number
of consumers one after the other): with the URL parsed anew at every build (`UrlOrigin.fresh`: `http.NewRequest` with the
URL string) nothing the gun (`req.URL.Scheme`, `req.URL.Host`, `req.Host`), the client (the body) or a middleware
(`Header.Set` / `Add` / `Del`, path and query) does to a delivered request reaches the entry; and what it yields is
something (`bExpect` is defined for every well-formed entry) -/
theorem C07_build_pure : C07_build_pure_statement .fresh gunClass ∧
    ∀ (e : BEntry) (h0 : BHeap), entryOK .fresh e h0 → (bExpect e h0).isSome = true := by
  refine ⟨?_, fun e h0 hok => (bObs_build_fresh e h0 h0 hok (Ext.refl h0)).2⟩
  intro e h0 rounds hok hg ob hob
  exact bRounds_fresh e h0 hok rounds h0 (Ext.refl h0) hg ob hob

/-- the heap of the examples: a URL object (only a caching entry has one), the value slice `["v"]`, the entry's header map
`{X-A: ["v"]}` -/
def exBHeap : BHeap := [.url [] [] [47, 97], .slice [[118]], .hmap [([88, 45, 65], 1)]]
def exBEntry : BEntry := { method := getBytes, urlVal := ([], [], [47, 97]), urlRef := 0, hdr := 2, body := [] }

theorem exBEntry_ok (o : UrlOrigin) : entryOK o exBEntry exBHeap :=
  ⟨[([88, 45, 65], 1)], rfl, rfl, fun _ => rfl⟩

/-- non-vacuity of `C07_build_pure`: the entry `GET /a` with `X-A: v`, shot three times by a gun that sets scheme and
resolved host, a middleware that replaces `X-A` and adds a header — all three requests are `GET /a`, `X-A: v` -/
example : bRounds .fresh exBEntry exBHeap
    [[.setScheme [104], .setUrlHost [49, 48], .hdrSet [88, 45, 65] [122], .hdrAdd [88, 45, 65] [121], .hdrSet [66] [49]],
     [.setUrlHost [50], .hdrDel [88, 45, 65]], []]
    = [bExpect exBEntry exBHeap, bExpect exBEntry exBHeap, bExpect exBEntry exBHeap]
    ∧ bExpect exBEntry exBHeap = some { method := getBytes, scheme := [], urlHost := [], path := [47, 97], host := [],
                                        hdrs := [([88, 45, 65], [[118]])], body := [] } := by decide

/-- seeded change C07-r6-1: an entry that caches its parsed `*url.URL` and puts it into every request
(`UrlOrigin.alias`) is NOT pure — the gun's `req.URL.Host = resolved target` is written into the entry's URL, the next
request built from the entry goes to that host -/
theorem C07_build_alias_counterexample : ¬ C07_build_pure_statement .alias gunClass := by
  intro H
  have h := H exBEntry exBHeap [[.setUrlHost [49, 48]], []] (exBEntry_ok _) (by decide)
    (some { method := getBytes, scheme := [], urlHost := [49, 48], path := [47, 97], host := [49, 48], hdrs := [([88, 45, 65], [[118]])], body := [] })
    (by decide)
  revert h; decide

/-- … the first request built from such an entry is still right (why no test that looks at one pass notices) -/
theorem C07_build_alias_partial :
    (bRounds .alias exBEntry exBHeap [[.setUrlHost [49, 48]], []]).head? = some (bExpect exBEntry exBHeap) := by decide

/-- the value slices of the header map ARE shared between the entry and its requests (`req.Header[key] = values`): an
in-place write of a slice element — which no gun, middleware or net/http function performs, hence outside `gunClass` —
would reach the entry even with a fresh URL -/
theorem C07_build_elem_write_counterexample : ¬ C07_build_pure_statement .fresh (fun _ => true) := by
  intro H
  have h := H exBEntry exBHeap [[.elemWrite [88, 45, 65] 0 [122]], []] (exBEntry_ok _) (by decide)
    (some { method := getBytes, scheme := [], urlHost := [], path := [47, 97], host := [], hdrs := [([88, 45, 65], [[122]])], body := [] })
    (by decide)
  revert h; decide

/-- the same for the CURRENT source: the origins regenerated from `BuildRequest` of both ammo types (and everything they
call inside the module) are `fresh`, so every request built from a decoded entry of /repo is the request the entry denotes,
whatever guns and middlewares did to the requests built from it before -/
theorem C07_build_regenerated :
    C07_build_pure_statement Pandora.Gen.AmmoDec.ammoBuildUrlOrigin gunClass
      ∧ C07_build_pure_statement Pandora.Gen.AmmoDec.rawAmmoBuildUrlOrigin gunClass
      ∧ Pandora.Gen.AmmoDec.ammoBuildHdrOrigin = .fresh ∧ Pandora.Gen.AmmoDec.rawAmmoBuildHdrOrigin = .fresh := by
  obtain ⟨h1, h2, h3, h4⟩ := Pandora.Bridge.C07.buildOrigins_fresh
  rw [h1, h3]
  exact ⟨C07_build_pure.1, C07_build_pure.1, h2, h4⟩

/-! ### the last size line of a raw file (/repo dbbf16d) -/

/-- why the repair dbbf16d was needed: the raw decoder BEFORE it discarded whatever followed the last newline of the file,
so a file cut short inside its last size line was accepted silently -/
theorem C07_unrepaired_raw_drops_last (line : Bytes) (hl : LF ∉ line) : rawPassOld line = ([], .eof) := by
  unfold rawPassOld
  cases line with
  | nil => rw [rawPassF]
  | cons b r =>
    have hc := cut_no_sep LF (b :: r) hl
    rw [rawPassF]
    simp [hc]

/-- since the repair the last size line is decoded like every other one: a size line that announces `n > 0` bytes at the
very end of the file (however the size is spelled, whatever the tag and the padding) is the error `failed to read ammo`,
never an accepted pass -/
theorem C07_raw_truncated_is_error (sz t pre post : Bytes) (n : Nat) (hs : SizeTok sz n) (hn : 0 < n) (ht : tagOK t = true)
    (hpre : padOK pre = true) (hpost : padOK post = true) :
    rawPass (pre ++ (sz ++ tagPart t) ++ post) = ([], .err .shortread) := by
  obtain ⟨hLF, hf, hr, x, r, hxr⟩ := frameContent_props sz n t hs ht
  have hline : LF ∉ pre ++ (sz ++ tagPart t) ++ post := by
    simp only [List.mem_append, not_or] at hLF ⊢
    exact ⟨⟨padOK_noLF hpre, hLF.1, hLF.2⟩, padOK_noLF hpost⟩
  have hne : pre ++ (sz ++ tagPart t) ++ post ≠ [] := by rw [hxr]; simp
  rw [rawPass_lastline _ hline hne, trimSpace_pad pre _ post (padOK_allWs hpre) (padOK_allWs hpost) hf hr]
  have hcut := cut_tagPart sz t hs.noSP
  have hd : rawDecodeHeader (sz ++ tagPart t) = some ((n : Int), t) := by
    unfold rawDecodeHeader
    simp only [hcut.1, hcut.2, hs.val]
  rw [hxr] at hd ⊢
  unfold rawBlock
  simp only [hd]
  have h1 : ¬ ((n : Int) < 0) := by omega
  have h2 : n ≠ 0 := by omega
  simp [h1, h2, hn]

/-- non-vacuity: `  5 t` + CR at the end of a file (the corpus witness `5 t`) -/
example : SizeTok (sizeText {} 5) 5 ∧ tagOK [116] = true ∧ padOK [32, 32] = true ∧ padOK [13] = true
    ∧ rawPass ([32, 32] ++ (sizeText {} 5 ++ tagPart [116]) ++ [13]) = ([], .err .shortread)
    ∧ rawPassOld [32, 53, 32, 116, 13] = ([], .eof) :=
  ⟨sizeText_tok {} 5 (by decide), by decide, by decide, by decide,
   C07_raw_truncated_is_error _ _ _ _ 5 (sizeText_tok {} 5 (by decide)) (by decide) (by decide) (by decide) (by decide),
   C07_unrepaired_raw_drops_last _ (by decide)⟩

/-! ### the spelling of the size field -/

/-- the size field of a uripost / raw entry may be written with a `+` and with leading zeros (fixed-width sizes): the
layout records it per entry, all round trips above hold for every such spelling; stated on its own: two files that differ
only in how their sizes are spelled deliver the same -/
theorem C07_size_spelling (f : Fmt) (items : List Item) (lay lay' : Layout)
    (h : wellFormed f items lay) (h' : wellFormed f items lay') (k : Nat) (pre pre' : Bool) :
    decodeAll f (render f items lay) k pre = decodeAll f (render f items lay') k pre' :=
  C07_layout_invariant f items lay lay' k pre pre' h h'

/-- non-vacuity: `010 /a t` + ten bytes and `+3 /b` + three bytes (the witness of seeded change C07-r4-1) and the plain
spelling of the same entries are both well-formed -/
example : wellFormed .uripost [.req [47, 97] [116] [48, 49, 50, 51, 52, 53, 54, 55, 56, 57], .req [47, 98] [] [97, 98, 99]]
      { per := [{ szZeros := 1 }, { szPlus := true }] }
    ∧ wellFormed .uripost [.req [47, 97] [116] [48, 49, 50, 51, 52, 53, 54, 55, 56, 57], .req [47, 98] [] [97, 98, 99]] {} :=
  ⟨⟨by decide, by decide⟩, ⟨by decide, by decide⟩⟩

end Pandora.Props.C07
