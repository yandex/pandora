/-
C11 — instance isolation and data-race freedom of all built-in components.

Model (`Model/C11Sharing.lean`): objects classed `loc i` / `sharedRO` / `sharedSync ℓ`; any number of instance
threads perform arbitrary access sequences consistent with the classification, in an arbitrary interleaving.

* `C11_drf`            — every trace consistent with the classification is data-race free: two conflicting accesses are
                         ordered by happens-before (program order ∪ unlock→lock). Three-way case split on the class.
* `C11_drf_programs`   — the same for the traces PRODUCED by any number of threads running arbitrary programs under
                         every schedule (the scheduler blocks `Lock` on a held mutex; nothing else is assumed).
* `C11_lock_table_guarded` — the lock facts regenerated from the current source (`Gen/Locks.lean`: which fields the
                         instance-facing methods of the sharedSync objects touch, and under which protection) contain
                         no unguarded access. Finite table, `decide`.
* `C11_inventory_sync_covered` — the shared units the inventory of `Spec/C11.lean` allows instances to write are
                         backed by synchronised access sites of that table.
* `C11_inventory_ro_covered` — the scenario components the inventory classes read-only (postprocessors, preprocessors,
                         variable storage) have only frozen read sites in that table.
* `C11_drf_table`      — hence threads that pass through those access sites in any order and interleaving are
                         data-race free (the table is the hypothesis that licenses the classes `sharedSync` / `sharedRO`).
* `C11_unguarded_counterexample`, `C11_prefix_table_counterexample`, `C11_shared_write_counterexample` — the code
                         before the three `fix:` commits (unguarded random sources; in-place metadata rendering) is
                         refuted: rejected table, racy trace, cross-instance read.
* `C11_drf_handover_programs` — the same for programs that also contain `take … bare accesses … give` sections on
                         objects that change hands (samples: pool → instance → aggregator → pool; pooled ammo), each
                         program satisfying the per-thread ownership discipline `progOk` (`Model/C11Own.lean`).
* `C11_owned_exclusive` — while a thread holds the token of such an object nobody else accesses it.
* `C11_report_twice_counterexample`, `C11_unlocked_fastpath_counterexample` — a gun that reports a sample and then
                         tags and reports it again, and a `Next` with a lock-free look-up before the locked insert, are
                         refuted in the model (discipline violated / table rejected, ill-formed and racy trace).
* `C11_gun_exclusive`  — guns of different instances are distinct objects and at no time are two `Shoot` calls in
                         progress on one gun, for every order of instance starts and instance moves.
* `C11_engine_gun_facts` — the call sites of the gun factory, of `Shoot`, of `newInstance` and of `instance.Run` in
                         the current source of `core/engine` (regenerated) are what the engine model's actions stand for.
* `C11_no_cross_instance_effect` — what an instance reads from its own and from read-only shared objects (ammo,
                         scenario definition, templates, metadata, variables) is what it would read running alone.

* `C11_closures_confined` — in the current source (regenerated closure table: every function literal of components/,
                         core/, lib/) no function literal that assigns its captured variables — nor a wrapper holding
                         one — is stored in a field, map, sync.Map, pool, channel or package variable, except the one
                         reviewed pair that stays on the provider goroutine: closure objects with state live and die
                         with one call. `C11_drf_fresh_closures`: threads whose closure cells are their own are data-race
                         free under every schedule.
* `C11_fresh_chain_isolated` — the variable a var/header mapping extracts from a response is a function of that response:
                         independent of every response processed before, by whichever instance.
* `C11_substr_in_bounds` — the regenerated body of the `substr` closure yields bounds `0 ≤ a ≤ b ≤ len`: the slice it
                         returns cannot panic (`Bridge/C11Locks.lean` ties the regenerated body to the model).
* `C11_cached_closure_statement / _counterexample / _partial` — if ONE parsed chain is kept and reused (a cache in the
                         shared postprocessor), isolation fails: `substr(-4)` extracts "" from a 6-character header once
                         a 10-character one was seen; it holds for chains without `substr`; the closure row of such a
                         cache is rejected and two instances calling the cached closure race on its captured bounds.
* `C11_handover_sites_ok`, `C11_drf_handover_sites` — in the current source no function touches a sample or an ammo
                         after handing it on (regenerated hand-over words, one per path), hence any number of goroutines
                         running those functions on one object under every schedule are data-race free.
                         `C11_release_first_counterexample`: an aggregator that releases the sample before formatting it.
* `C11_pkg_vars_guarded` — every package-level variable of the scanned packages is written after `init` only under a
                         lock / once / its own synchronisation, or belongs to the reviewed start-up registries.

* the index arithmetic behind the shared counters (`lib/mp.calcIndex`, `(*NextIterator).Next`,
                         `(*clientpool.Pool).Next`, bodies regenerated, `Bridge/C11Locks.lean`):
                         `C11_next_index_partial` (use k < 2^63 of `rows[next]` yields row k mod length),
                         `C11_next_rows_distinct`, `C11_calc_index_in_bounds`, `C11_pool_index_partial`,
                         `C11_next_index_statement` / `_counterexample`, `C11_pool_index_statement` / `_counterexample`
                         (false at 2^63: negative index).
* the provider's side (`Model/C11Ammo.lean`, regenerated reference-flow and write tables of `Acquire` / `Release` of the
                         http, grpc/json and scenario providers): `C11_ammo_flows_reviewed`, `C11_acquire_writes_own`,
                         `C11_request_map_fresh`, `C11_acquire_keeps_ammo`, `C11_acquire_isolated`, `C11_no_pooled_escape`.

* the whole pool, COMPOSED with C03's regenerated instance loop (`Gen.InstLoop.iterBody`, `Model/C11Pool.lean`):
                         `C11_instloop_discipline` (every path of the loop body of `instance.Run` in the current source:
                         Acquire, then Shoot / Release only while the ammo is held, nothing held at the end),
                         `C11_pool_drf` (any number of instances × any number of iterations × any answers of the
                         environment × any ammo / samples, provider and aggregator goroutines, every schedule: DRF),
                         `C11_pool_gun_exclusive` (gun `i` is touched by thread `i` only), `C11_pool_ammo_exclusive`
                         (between `Acquire` and `Release` nobody else touches the ammo),
                         `C11_pool_early_release_counterexample`.

The classification itself is checked against the real code by the correspondence driver (aliasing graph, write
set of a real `Shoot`, race-detector sweep); see `Drv/C11.lean`.
-/
import Pandora.Proofs.C11Exec
import Pandora.Proofs.C11Closure
import Pandora.Proofs.C11Ammo
import Pandora.Proofs.C11Index
import Pandora.Proofs.C11Pool
import Pandora.Gen.InstLoop
import Pandora.Bridge.C11Locks
import Pandora.Gen.Locks
import Pandora.Spec.C11

namespace Pandora.Props.C11
open Pandora.Model.C11 Pandora.Proofs.C11 Pandora.Go

/-- **C11_drf**: consistent with the classification ⇒ no two conflicting accesses unordered by happens-before. -/
theorem C11_drf (cls : Nat → Class) (tr : List Ev) (h : WF cls noLocks tr) : DRF tr :=
  drf_of_wf cls tr h

/-- **C11_drf_programs**: any number of threads (`progs.length`), arbitrary programs that respect the
classification, every schedule. -/
theorem C11_drf_programs (cls : Nat → Class) (progs : List (List Op))
    (hok : ∀ (t : Nat) (ops : List Op), progs[t]? = some ops → ∀ op ∈ ops, opOk cls t op) (sched : List Nat) :
    DRF (exec (initCfg cls progs) sched) :=
  drf_of_wf cls _ (exec_wf cls progs hok sched)

/-- non-vacuity: two threads incrementing one `sharedSync` object; thread 1 is scheduled while thread 0 holds the
lock (its turn is skipped) and gets it after the release. -/
example :
    exec (initCfg (fun _ => Class.sharedSync 7) [[⟨0, true, 1⟩], [⟨0, true, 2⟩]]) [0, 1, 0, 1, 0, 1, 1, 1]
      = [.acq 0 7, .acc 0 0 true 1, .rel 0 7, .acq 1 7, .acc 1 0 true 2, .rel 1 7] := by decide

example : Conflict (.acc 0 0 true 1) (.acc 1 0 true 2) := by simp [Conflict]

/-- without the lock the same two writes are a data race: the trace is not consistent with any class of object 0
that allows both threads to write it -/
example : ¬ WF (fun _ => Class.sharedSync 7) noLocks [.acc 0 0 true 1, .acc 1 0 true 2] := by
  simp [WF, stepOk, noLocks]

/-- **C11_unguarded_counterexample** (the code before `fix: NextIterator.Rand takes the iterator mutex` and
`fix: RandStringRunes guards its shared random source`): two instances that use one random source without a lock
perform two conflicting writes that happens-before does not order. -/
theorem C11_unguarded_counterexample : ¬ DRF [.acc 0 0 true 0, .acc 1 0 true 0] :=
  not_drf_of_hbFree _ 0 1 _ _ (by decide) rfl rfl (by simp [Conflict]) (by decide)

/-! ### the regenerated lock facts -/

/-- **C11_lock_table_guarded**: in the current source every access site of the inventoried shared objects is inside a
mutex section, atomic, through sync.Map / sync.Pool / a channel, or a read of a field frozen after set-up; and the
sites of one object agree on its class (a frozen object has no write site at all). -/
theorem C11_lock_table_guarded : c11TableOk Pandora.Gen.Locks.table = true := by decide +kernel

/-- the regenerated table mentions the objects the sharing inventory (`Spec/C11.lean`) relies on -/
example : Pandora.Gen.Locks.table.length ≥ 10 := by decide

/-- **C11_drf_table**: any number of instance threads, each passing through access sites of the regenerated table in
any order and any number of times, under every schedule: data-race free. What a site does (`siteEvents`) is read off
the table: the bare access where the source shows no protection, lock‥unlock around it otherwise. -/
theorem C11_drf_table (progs : List (List C11LockRow))
    (hin : ∀ rows ∈ progs, ∀ r ∈ rows, r ∈ Pandora.Gen.Locks.table) (sched : List Nat) :
    DRF (exec { held := noLocks,
                todo := progs.zipIdx.map fun (rows, t) => rows.flatMap (siteEvents Pandora.Gen.Locks.table t) } sched) := by
  have hcfg : ({ held := noLocks,
                 todo := progs.zipIdx.map fun (rows, t) => rows.flatMap (siteEvents Pandora.Gen.Locks.table t) } : Cfg)
      = initCfg (clsT Pandora.Gen.Locks.table) (progs.map fun rows => rows.map rowOp) := by
    simp only [initCfg, Cfg.mk.injEq, true_and]
    apply List.ext_getElem?
    intro i
    simp only [List.getElem?_map, List.getElem?_zipIdx]
    cases hp : progs[i]? with
    | none => simp
    | some rows =>
      have hmem : rows ∈ progs := List.mem_of_getElem? hp
      simp only [Option.map_some, Nat.zero_add, Option.some.injEq, List.flatMap_def, List.map_map]
      congr 1
      exact List.map_congr_left fun r hr => siteEvents_eq _ C11_lock_table_guarded r (hin rows hmem r hr) i
  rw [hcfg]
  apply C11_drf_programs
  intro t ops hget op hop
  simp only [List.getElem?_map] at hget
  cases hp : progs[t]? with
  | none => simp [hp] at hget
  | some rows =>
    simp only [hp, Option.map_some, Option.some.injEq] at hget
    subst hget
    obtain ⟨r, hr, hro⟩ := List.mem_map.mp hop
    subst hro
    exact rowOp_ok _ C11_lock_table_guarded r (hin rows (List.mem_of_getElem? hp) r hr) t

/-- non-vacuity: two instances passing through the first three sites of the regenerated table, interleaved (a turn of a
thread blocked on a lock is skipped) -/
example : (exec { held := noLocks,
                  todo := [Pandora.Gen.Locks.table.take 3, Pandora.Gen.Locks.table.take 3].zipIdx.map
                    fun (rows, t) => rows.flatMap (siteEvents Pandora.Gen.Locks.table t) }
                [0, 1, 0, 0, 1, 1, 1, 0, 1, 0, 0, 1, 0, 1, 1, 0, 0, 1, 1, 0, 1, 1, 0, 0]).length = 18 := by decide

/-- the lock-table objects the sharing inventory (`Spec/C11.lean`) relies on for the units it classes `sync` -/
def inventorySyncObjs : List String :=
  Pandora.Spec.C11.inventory.flatMap fun e => match e.cls with
    | .sync os => os
    | _ => []

/-- **C11_inventory_sync_covered**: every shared unit the inventory allows instances to write (the `[next]` counters,
the `[rand]` source, the client-pool cursor) is backed by access sites in the regenerated table, all of them
synchronised (class `sharedSync` under `clsT`, not merely frozen). -/
theorem C11_inventory_sync_covered :
    inventorySyncObjs.all (fun o =>
      let rows := Pandora.Spec.C11.rowsOf Pandora.Gen.Locks.table o
      !rows.isEmpty && rows.all fun r => c11RowOk Pandora.Gen.Locks.table r && !c11ObjFrozen Pandora.Gen.Locks.table r.oid) = true := by
  decide +kernel

example : inventorySyncObjs.length ≥ 3 := by decide

/-- **C11_inventory_ro_covered**: the fields of the scenario components (postprocessors, preprocessors, the variable
storage) behind the units the inventory classes read-only have access sites in the regenerated table, and every one of
them is a read of a field that no instance-facing method writes (`frozen`): the class `sharedRO` of those units is what
the current source says. -/
theorem C11_inventory_ro_covered :
    Pandora.Spec.C11.roBacked.all (fun (l, o) =>
      (match Pandora.Spec.C11.classOf l with
       | some .ro => true
       | _ => false) &&
      (let rows := Pandora.Spec.C11.rowsOf Pandora.Gen.Locks.table o
       !rows.isEmpty && rows.all fun r => r.frozen && !r.write)) = true := by
  decide +kernel

/-- the lock facts as they were extracted from the code BEFORE the two `fix:` commits on the random sources -/
def tablePreFix : List C11LockRow := [
  ⟨0, "lib/mp.NextIterator.gs", "Next", false, .mutex "mx"⟩,
  ⟨0, "lib/mp.NextIterator.gs", "Next", true, .mutex "mx"⟩,
  ⟨1, "lib/mp.NextIterator.rnd", "Rand", true, .none⟩,
  ⟨2, "lib/str.randSource", "RandStringRunes", true, .none⟩]

/-- **C11_prefix_table_counterexample**: the pre-fix table is rejected, and two instances calling the pre-fix
`NextIterator.Rand` once each produce (under the schedule 0,1) a trace with a data race. -/
theorem C11_prefix_table_counterexample :
    c11TableOk tablePreFix = false ∧
    ¬ DRF (exec { held := noLocks,
                  todo := [[tablePreFix[2]], [tablePreFix[2]]].zipIdx.map
                    fun (rows, t) => rows.flatMap (siteEvents tablePreFix t) } [0, 1]) := by
  refine ⟨by decide, ?_⟩
  have : exec { held := noLocks,
                todo := [[tablePreFix[2]], [tablePreFix[2]]].zipIdx.map
                  fun (rows, t) => rows.flatMap (siteEvents tablePreFix t) } [0, 1]
      = [.acc 0 1 true 0, .acc 1 1 true 0] := by decide
  rw [this]
  exact not_drf_of_hbFree _ 0 1 _ _ (by decide) rfl rfl (by simp [Conflict]) (by decide)

/-! ### objects that change hands: samples (pool → instance → aggregator → pool) and pooled ammo -/

/-- **C11_drf_handover_programs**: any number of threads (instances, the provider goroutine, the aggregator goroutine)
whose programs mix ordinary accesses with `take … bare accesses … give` sections on hand-over objects; each program on
its own respects the ownership discipline `progOk` (bare accesses only between its `take` and its `give` of that
object, nothing given twice); every schedule: data-race free. `C11_drf_programs` is the special case without
hand-over objects. -/
theorem C11_drf_handover_programs (cls : Nat → Class) (progs : List (List OOp))
    (hok : ∀ (t : Nat) (ops : List OOp), progs[t]? = some ops → progOk cls t [] ops) (sched : List Nat) :
    DRF (exec (initCfgO cls progs) sched) :=
  drf_of_wf cls _ (exec_wfO cls sched (initCfgO cls progs) (initCfgO_ok cls progs hok))

/-- the life cycle of one sample (object 0, ownership token 0; object 1 = the instance's own gun state, object 2 = the
shared `[next]` counters under the iterator mutex 7): instance 0 takes it from the pool, fills it in, reports it; the
aggregator (thread 1) receives, reads and releases it; instance 2 takes the same sample from the pool. -/
def sampleCls : Nat → Class := fun o => if o = 0 then .sharedSync 0 else if o = 1 then .loc 0 else .sharedSync 7

def samplePrograms : List (List OOp) := [
  [.take 0, .acc ⟨1, true, 5⟩, .acc ⟨2, true, 1⟩, .own ⟨0, true, 200⟩, .give 0],
  [.take 0, .own ⟨0, false, 0⟩, .give 0],
  [.acc ⟨2, true, 2⟩, .take 0, .own ⟨0, true, 500⟩, .give 0]]

/-- non-vacuity: the three programs respect the discipline, and under this schedule (turns of a thread blocked on a
token or a mutex are skipped) the sample really passes through all three threads -/
example : ∀ (t : Nat) (ops : List OOp), samplePrograms[t]? = some ops → progOk sampleCls t [] ops := by
  intro t ops h
  apply progOk_of_progOkB
  match t, h with
  | 0, h => simp [samplePrograms] at h; subst h; decide
  | 1, h => simp [samplePrograms] at h; subst h; decide
  | 2, h => simp [samplePrograms] at h; subst h; decide
  | n + 3, h => simp [samplePrograms] at h

example : exec (initCfgO sampleCls samplePrograms) [0, 1, 2, 0, 2, 0, 2, 2, 0, 0, 0, 1, 2, 0, 0, 1, 2, 1, 1, 2, 2, 2]
    = [.acq 0 0, .acq 2 7, .acc 0 1 true 5, .acc 2 2 true 2, .rel 2 7, .acq 0 7, .acc 0 2 true 1, .rel 0 7,
       .acc 0 0 true 200, .rel 0 0, .acq 1 0, .acc 1 0 false 0, .rel 1 0, .acq 2 0, .acc 2 0 true 500, .rel 2 0] := by
  decide

/-- **C11_owned_exclusive**: while a thread holds the token of a hand-over object (from the point where it took it
until it gives it on), every access to that object in the trace is its own — the ammo an instance shoots and the
sample it fills in are touched by nobody else, in every interleaving. -/
theorem C11_owned_exclusive (cls : Nat → Class) (l i : Nat) : ∀ (mid : List Ev) (h : Locks),
    h l = some i → WF cls h mid → (∀ e ∈ mid, e ≠ Ev.rel i l) →
    ∀ t o w v, Ev.acc t o w v ∈ mid → cls o = .sharedSync l → t = i := by
  intro mid
  induction mid with
  | nil => intro h _ _ _ t o w v hm; cases hm
  | cons e es ih =>
    intro h hl hwf hno t o w v hm hcls
    obtain ⟨hok, hwf'⟩ := hwf
    rcases List.mem_cons.mp hm with heq | hin
    · subst heq
      simp only [stepOk, hcls] at hok
      rw [hl] at hok
      exact (Option.some.inj hok).symm
    · have hkeep := next_keeps cls h l i e hl hok (hno e List.mem_cons_self)
      exact ih (next h e) hkeep hwf' (fun e' he' => hno e' (List.mem_cons_of_mem _ he')) t o w v hin hcls

/-- non-vacuity: a stretch of the sample trace above during which instance 0 owns the sample (it took it just before):
thread 2 is busy with the shared counters, the only access to the sample is instance 0's -/
example : ∀ t o w v, Ev.acc t o w v ∈ [Ev.acq 2 7, .acc 0 1 true 5, .acc 2 2 true 2, .rel 2 7, .acc 0 0 true 200] →
    sampleCls o = .sharedSync 0 → t = 0 :=
  C11_owned_exclusive sampleCls 0 0 _ (locksAfter noLocks [.acq 0 0]) (by decide)
    (by simp [WF, stepOk, next, Locks.set, locksAfter, noLocks, sampleCls]) (by decide)

/-- **C11_report_twice_counterexample** (a gun that reports a sample and, when a later postprocessor fails, tags and
reports the same sample again): the gun's program violates the discipline; under the schedule 0,0,0,1,0,1 the
aggregator (thread 1) owns the sample when the gun writes it — the trace is ill-formed and the gun's write races
with the aggregator's read. -/
theorem C11_report_twice_counterexample :
    let cls : Nat → Class := fun _ => .sharedSync 0
    let gun : List OOp := [.take 0, .own ⟨0, true, 200⟩, .give 0, .own ⟨0, true, 0⟩, .give 0]
    let aggr : List OOp := [.take 0, .own ⟨0, false, 0⟩, .give 0]
    let tr := exec (initCfgO cls [gun, aggr]) [0, 0, 0, 1, 0, 1]
    ¬ progOk cls 0 [] gun ∧ ¬ WF cls noLocks tr ∧ ¬ DRF tr := by
  intro cls gun aggr tr
  have htr : tr = [.acq 0 0, .acc 0 0 true 200, .rel 0 0, .acq 1 0, .acc 0 0 true 0, .acc 1 0 false 0] := by decide
  refine ⟨?_, ?_, ?_⟩
  · simp [gun, progOk]
  · rw [htr]
    simp [WF, stepOk, next, Locks.set, noLocks, cls]
  · rw [htr]
    exact not_drf_of_hbFree _ 4 5 _ _ (by decide) rfl rfl (by simp [Conflict]) (by decide)

/-- **C11_unlocked_fastpath_counterexample** (`NextIterator.Next` with a lock-free look-up of the counter map before
the locked insert): the lock facts of such a method are rejected, and an instance reading the map bare while another
one inserts under the mutex (schedule 1,1,0,1) races with the insert. -/
theorem C11_unlocked_fastpath_counterexample :
    let tbl : List C11LockRow := [
      ⟨0, "lib/mp.NextIterator.gs", "Next", false, .none⟩,
      ⟨0, "lib/mp.NextIterator.gs", "Next", false, .mutex "mx"⟩,
      ⟨0, "lib/mp.NextIterator.gs", "Next", true, .mutex "mx"⟩]
    c11TableOk tbl = false ∧
    ¬ DRF (exec { held := noLocks,
                  todo := [[tbl[0]], [tbl[2]]].zipIdx.map fun (rows, t) => rows.flatMap (siteEvents tbl t) } [1, 1, 0, 1]) := by
  intro tbl
  refine ⟨by decide, ?_⟩
  have : exec { held := noLocks,
                todo := [[tbl[0]], [tbl[2]]].zipIdx.map fun (rows, t) => rows.flatMap (siteEvents tbl t) } [1, 1, 0, 1]
      = [.acq 1 0, .acc 1 0 true 0, .acc 0 0 false 0, .rel 1 0] := by decide
  rw [this]
  exact not_drf_of_hbFree _ 1 2 _ _ (by decide) rfl rfl (by simp [Conflict]) (by decide)

/-! ### function literals with state; the var/header modifiers -/

/-- **C11_closures_confined**: every function literal of the current source that assigns a captured variable outside a
mutex section of its own (its closure object is mutable state), and every literal that may hold one, is stored nowhere —
no struct field, map or slice element, sync.Map / sync.Pool / atomic.Value, channel or package variable — with the one
reviewed exception `Spec.C11.confinedStores` (the progress callback of the decode provider's reader: created, stored and
called on the provider goroutine). Such a closure is created, called and dropped by one goroutine. -/
theorem C11_closures_confined :
    c11ClosuresOk Pandora.Spec.C11.confinedStores Pandora.Gen.Locks.closures = true := by decide

/-- non-vacuity: the table has closures with state (the `substr` modifier and its wrapper among them) -/
example : (Pandora.Gen.Locks.closures.filter C11Closure.stateful).length ≥ 2 := by decide

/-- **C11_drf_fresh_closures**: the captured variables of a closure that is not stored anywhere are objects of the
goroutine that made it (`own o`): any number of threads, each accessing only cells of its own in any way, under every
schedule, are data-race free. -/
theorem C11_drf_fresh_closures (own : Nat → Nat) (progs : List (List Op))
    (hown : ∀ (t : Nat) (ops : List Op), progs[t]? = some ops → ∀ op ∈ ops, own op.obj = t) (sched : List Nat) :
    DRF (exec (initCfg (fun o => Class.loc (own o)) progs) sched) :=
  C11_drf_programs _ progs (fun t ops h op hop => by simp only [opOk]; exact (hown t ops h op hop).symm) sched

/-- non-vacuity: two instances normalising the bounds of their own `substr` closures (cells 0,1 of instance 0; 2,3 of
instance 1) at the same time -/
example : exec (initCfg (fun o => Class.loc (o / 2)) [[⟨0, false, 0⟩, ⟨0, true, 6⟩, ⟨1, true, 10⟩], [⟨2, false, 0⟩, ⟨2, true, 2⟩, ⟨3, true, 6⟩]])
      [0, 1, 1, 0, 0, 1]
    = [.acc 0 0 false 0, .acc 1 2 false 0, .acc 1 2 true 2, .acc 0 0 true 6, .acc 0 1 true 10, .acc 1 3 true 6] := by decide

/-- **C11_fresh_chain_isolated**: with a freshly parsed chain per response (the code as it is) the value extracted from
a response does not depend on the responses processed before it — by this or by any other instance. -/
theorem C11_fresh_chain_isolated (ms : List Modifier) (pre₁ pre₂ : List (List Char)) (v : List Char) :
    (extractFresh ms (pre₁ ++ [v])).getLast? = (extractFresh ms (pre₂ ++ [v])).getLast? := by
  simp [extractFresh]

/-- non-vacuity: `X-Tok|substr(-4)` after a 10-character header and after nothing -/
example : (extractFresh [.substr (-4) 0] ["Abcdefghij".toList, "Xyzuvw".toList]).getLast? = some (some "zuvw".toList) ∧
    (extractFresh [.substr (-4) 0] ["Xyzuvw".toList]).getLast? = some (some "zuvw".toList) := by decide

/-- **C11_substr_in_bounds**: the bounds computed by the regenerated body of the `substr` closure are a valid slice of a
string of length `l` — `in[start:end]` never panics, whatever the arguments of `substr(…)`. -/
theorem C11_substr_in_bounds (s e l : Int) (hl : 0 ≤ l) :
    0 ≤ (Pandora.Gen.Locks.substrBody s e l).1 ∧
    (Pandora.Gen.Locks.substrBody s e l).1 ≤ (Pandora.Gen.Locks.substrBody s e l).2 ∧
    (Pandora.Gen.Locks.substrBody s e l).2 ≤ l := by
  rw [Pandora.Bridge.C11Locks.substrBody_eq s e l hl]
  exact Pandora.Bridge.C11Locks.substrNorm_in_bounds s e l hl

example : Pandora.Gen.Locks.substrBody (-4) 0 6 = (2, 6) ∧ Pandora.Gen.Locks.substrBody (-20) 40 6 = (0, 6) ∧
    Pandora.Gen.Locks.substrBody 5 2 6 = (2, 5) := by decide

/-- isolation when ONE parsed chain is kept and reused for every response (a cache inside the shared postprocessor) -/
def C11_cached_closure_statement : Prop :=
  ∀ (ms : List Modifier) (pre₁ pre₂ : List (List Char)) (v : List Char),
    (extractCached ms (pre₁ ++ [v])).getLast? = (extractCached ms (pre₂ ++ [v])).getLast?

/-- **C11_cached_closure_counterexample** (seeded change: parsed mapping values cached in a sync.Map of the
postprocessor): the `substr` closure overwrites its captured bounds with the ones normalised for the header it has just
seen. `substr(-4)` becomes `[6:10]` after a 10-character header, and a later 6-character header — of any instance —
yields "" instead of its last four characters; the closure row of such a cache is rejected by the table check; and two
instances calling the cached closure write its captured `start` without any order between them. -/
theorem C11_cached_closure_counterexample :
    ¬ C11_cached_closure_statement ∧
    c11ClosureOk Pandora.Spec.C11.confinedStores
      ⟨"components/providers/scenario/http/postprocessor:substr.func1", ["end", "start"], [],
       ["components/providers/scenario/http/postprocessor.getParsedValue: p.parsed.Store(…&parsedHeaderValue……)"]⟩ = false ∧
    ¬ DRF [.acc 0 0 true 6, .acc 1 0 true 2] := by
  refine ⟨?_, by decide, ?_⟩
  · intro h
    have := h [.substr (-4) 0] [] ["Abcdefghij".toList] "Xyzuvw".toList
    revert this
    decide
  · exact not_drf_of_hbFree _ 0 1 _ _ (by decide) rfl rfl (by simp [Conflict]) (by decide)

/-- **C11_cached_closure_partial**: chains made of `lower`, `upper` and `replace` only keep no state: reusing them
changes nothing (which is why a cache passes every test that does not combine `substr` with headers of different
lengths). -/
theorem C11_cached_closure_partial (ms : List Modifier) (h : ms.all Pandora.Proofs.C11.Modifier.pure = true)
    (vals : List (List Char)) : extractCached ms vals = extractFresh ms vals :=
  extractCached_pure ms h vals

example : extractCached [.upper, .replace "B" "x"] ["Abcb".toList, "bB".toList] = [some "AxCx".toList, some "xx".toList] := by
  decide

/-! ### hand-over sites of the current source -/

/-- **C11_handover_sites_ok**: every function of the current source that hands a sample or an ammo on directly (channel
send, `Put`, `Release`, `Report`, `releaseSample`) does so at most once on every path and does not touch the object
afterwards (regenerated words, judged by the ownership discipline `progOkB`). -/
theorem C11_handover_sites_ok :
    Pandora.Gen.Locks.handoverSites.all (fun p => Pandora.Spec.C11.siteWordOk p.2.2) = true := by decide

example : Pandora.Gen.Locks.handoverSites.length ≥ 10 := by decide

/-- **C11_drf_handover_sites**: any number of goroutines, each running a path of one of those functions on ONE object
(taking it first: `Pool.Get`, channel receive, `Acquire`), under every schedule: data-race free. -/
theorem C11_drf_handover_sites (progs : List (String × String × String))
    (hin : ∀ p ∈ progs, p ∈ Pandora.Gen.Locks.handoverSites) (sched : List Nat) :
    DRF (exec (initCfgO (fun _ => Class.sharedSync 0) (progs.map fun p => Pandora.Spec.C11.siteOps p.2.2)) sched) := by
  apply C11_drf_handover_programs
  intro t ops hget
  simp only [List.getElem?_map] at hget
  cases hp : progs[t]? with
  | none => simp [hp] at hget
  | some p =>
    simp only [hp, Option.map_some, Option.some.injEq] at hget
    subst hget
    apply progOk_of_progOkB
    have hmem := hin p (List.mem_of_getElem? hp)
    have hok := List.all_eq_true.mp C11_handover_sites_ok p hmem
    simp only [Pandora.Spec.C11.siteWordOk] at hok
    rw [progOkB_thread _ t 0 _ _ (siteOps_noAcc p.2.2)]
    exact hok

/-- non-vacuity: the aggregator's `handle` (use, then release) and a gun's `shootStep` (use, then report) competing for
one sample: whoever takes it first finishes with it before the other one starts -/
example : exec (initCfgO (fun _ => Class.sharedSync 0) ([("handle", "s", "UG"), ("shootStep", "sample", "UG")].map
      fun p => Pandora.Spec.C11.siteOps p.2.2)) [1, 0, 1, 0, 1, 0, 0, 0]
    = [.acq 1 0, .acc 1 0 true 0, .rel 1 0, .acq 0 0, .acc 0 0 true 0, .rel 0 0] := by decide

/-- **C11_release_first_counterexample** (an aggregator whose `handle` puts the sample back into the pool before
formatting it; an instance loop that releases the ammo before shooting it): the word `GU` violates the discipline, and
under the schedule 0,0,1,1,0 the next owner writes the object while the function still reads it. -/
theorem C11_release_first_counterexample :
    Pandora.Spec.C11.siteWordOk "GU" = false ∧
    ¬ DRF (exec (initCfgO (fun _ => Class.sharedSync 0) [Pandora.Spec.C11.siteOps "GU", Pandora.Spec.C11.siteOps "UG"]) [0, 0, 1, 1, 0]) := by
  refine ⟨by decide, ?_⟩
  have htr : exec (initCfgO (fun _ => Class.sharedSync 0) [Pandora.Spec.C11.siteOps "GU", Pandora.Spec.C11.siteOps "UG"]) [0, 0, 1, 1, 0]
      = [.acq 0 0, .rel 0 0, .acq 1 0, .acc 1 0 true 0, .acc 0 0 true 0] := by decide
  rw [htr]
  exact not_drf_of_hbFree _ 3 4 _ _ (by decide) rfl rfl (by simp [Conflict]) (by decide)

/-! ### package-level state -/

/-- **C11_pkg_vars_guarded**: every package-level variable of components/, core/ and lib/ in the current source
(regenerated) is never written after `init`, or only inside a mutex / `sync.Once` section or through its own
synchronisation (atomic, sync.Map, sync.Pool, channel) — except the reviewed start-up registries
`Spec.C11.setupOnlyVars`. Package-level state is what the reflection walker of the driver cannot reach. -/
theorem C11_pkg_vars_guarded : Pandora.Gen.Locks.pkgVars.all Pandora.Spec.C11.pkgVarOk = true := by decide +kernel

/-- non-vacuity: the table contains the guarded random source of lib/str and the start-up registries -/
example : (Pandora.Gen.Locks.pkgVars.filter fun v => !v.2.2.isEmpty).length ≥ 3 := by decide

/-- a package-level cache written by an instance-facing function without protection is rejected -/
example : Pandora.Spec.C11.pkgVarOk ("components/providers/scenario/http/postprocessor.exprCache", "map[string]*xpath.Expr",
    [("getValuesFromDOM", ".none")]) = false := by decide

/-- **C11_component_vars_reviewed**: no component package of the current source keeps a package-level variable
other than error values, import `sync.Once`s, `sync.Pool`s and the frozen jsoniter configuration: no templater, cache or
component instance is shared by ALL pools of the process behind the back of the per-pool constructors. -/
theorem C11_component_vars_reviewed : Pandora.Gen.Locks.pkgVars.all Pandora.Spec.C11.componentVarOk = true := by decide +kernel

/-- non-vacuity: the table has component-package variables, and a package-level default templater (seeded change C11-r6-3:
its cache is keyed by scenario / request name, so two pools with equal names render each other's templates) is rejected -/
example : (Pandora.Gen.Locks.pkgVars.filter fun v => Pandora.Spec.C11.inComponents v.1).length ≥ 5 ∧
    Pandora.Spec.C11.componentVarOk ("components/providers/scenario/http.defaultTemplater", "templater.Templater", []) = false := by
  refine ⟨?_, by decide +kernel⟩
  -- the table is sorted: its first five rows are component variables already
  have h : ((Pandora.Gen.Locks.pkgVars.take 5).filter fun v => Pandora.Spec.C11.inComponents v.1).length = 5 := by
    decide +kernel
  exact h ▸ ((List.take_sublist 5 _).filter _).length_le

/-- **C11_setup_calls_reviewed**: the methods the lock-facts extractor takes as set-up only (`clientpool.Pool.Add`,
`SourceStorage.AddSource`, `InitIterator`, `Validate`, `InitMiddleware`: their unguarded writes do not count against the
object's class) are called, in the current source, only by the reviewed set-up functions — the warm-up constructors of the
shared client pool, the decode functions of the scenario definition, the provider's `Run` before its first delivery. -/
theorem C11_setup_calls_reviewed : Pandora.Gen.Locks.setupCallers.all Pandora.Spec.C11.setupCallerOk = true := by decide +kernel

/-- non-vacuity: the table has call sites; a client pool that is filled at `Bind` (every instance adds a client while the
others call `Next`) is rejected -/
example : Pandora.Gen.Locks.setupCallers.length ≥ 5 ∧
    Pandora.Spec.C11.setupCallerOk ("core/clientpool.Pool.Add", "components/guns/http.BaseGun.Bind") = false := by decide +kernel

/-! ### the provider's side: requests built from a decoded ammo that is delivered again -/

/-- the regenerated reference flows of `(*Provider).Acquire` of the http provider, of `Acquire` / `Release` of the grpc/json
and the scenario providers, and of everything they call: no map of a caller is kept, every stored or
returned slice / pointer of a caller is a reviewed one -/
theorem C11_ammo_flows_reviewed : Pandora.Gen.Locks.ammoFlows.all Pandora.Spec.C11.flowOk = true := by decide +kernel

example : Pandora.Gen.Locks.ammoFlows.length ≥ 3 ∧ Pandora.Gen.Locks.ammoFlowFuncs.length ≥ 5 := by decide

/-- what `Acquire` and everything it calls write through their receivers and parameters: only the request being built
(a parameter that every call chain binds to something the caller made itself) and the atomic id counter — nothing of the
provider, of a middleware or of a decoded ammo, the objects every instance's `Acquire` uses -/
theorem C11_acquire_writes_own : Pandora.Gen.Locks.ammoWrites.all Pandora.Spec.C11.writeOk = true := by decide

/-- the tables cover the grpc/json and the scenario providers' `Acquire` / `Release`; a `SetID` on the
scenario definition the channel delivers (instead of on the clone just made) is a write through a shared receiver -/
example : Pandora.Gen.Locks.ammoFlowFuncs.contains "components/providers/scenario.Provider.Acquire" = true ∧
    Pandora.Gen.Locks.ammoFlowFuncs.contains "components/providers/grpc.Provider.Acquire" = true ∧
    Pandora.Gen.Locks.ammoWrites.contains ("components/guns/http_scenario.Scenario.SetID", "own-recv", "recv.ID", "assign") = true ∧
    Pandora.Spec.C11.writeOk ("components/guns/http_scenario.Scenario.SetID", "recv", "recv.ID", "assign") = false := by decide +kernel

example : Pandora.Gen.Locks.ammoWrites.length ≥ 3 ∧
    Pandora.Spec.C11.writeOk ("components/providers/http/middleware/headerdate.Middleware.UpdateRequest", "recv", "recv.last", "assign") = false ∧
    Pandora.Spec.C11.flowOk ("components/providers/http/decoders/ammo.Ammo.BuildRequest", "ptr", "return", "0", "recv.built") = false := by decide +kernel

/-- … hence the model of the current source builds every request's header map as a new object -/
theorem C11_request_map_fresh : buildOfFlows Pandora.Gen.Locks.ammoFlows = .fresh := by decide

/-- Whatever the decoded ammo (`st`: their header maps, and any other map object of the pool, e.g. the requests other
instances hold), whatever the middlewares, however many deliveries in whatever order of file positions — any number of
passes, any instance asking —: no object that existed before a delivery is changed by it or by any later one. The
decoded ammo is never altered, and a request an instance holds is never altered by the `Acquire` of another. -/
theorem C11_acquire_keeps_ammo (mws : List (String × String)) (st : Store) (srcs : List Nat)
    (h : ∀ s ∈ srcs, s < st.length) (i : Nat) (hi : i < st.length) :
    (acquires (buildOfFlows Pandora.Gen.Locks.ammoFlows) mws st srcs).1[i]? = st[i]? := by
  rw [C11_request_map_fresh, acquires_fresh mws srcs st h]
  exact List.getElem?_append_left hi

/-- … and every delivered request has a header object of its own (the ids are pairwise distinct and new), whose content
— after ALL deliveries — is what the request carries when it is the only one ever built from its decoded ammo: a
function of that ammo and the middlewares, not of the deliveries before or after it. Stated without totalised look-ups, which
would hold for the wrong reason if an id or an object were missing: delivery `j` HAS a header object `id`, its decoded ammo
HAS a header `hd`, and the store HAS an object `id` holding exactly `delivered mws hd`. -/
theorem C11_acquire_isolated (mws : List (String × String)) (st : Store) (srcs : List Nat)
    (h : ∀ s ∈ srcs, s < st.length) :
    let r := acquires (buildOfFlows Pandora.Gen.Locks.ammoFlows) mws st srcs
    r.2.Nodup ∧ (∀ id ∈ r.2, st.length ≤ id) ∧
    ∀ j (hj : j < srcs.length), ∃ (id : Nat) (hd : Hdr), r.2[j]? = some id ∧ st[srcs[j]]? = some hd ∧
      r.1[id]? = some (delivered mws hd) := by
  rw [C11_request_map_fresh, acquires_fresh mws srcs st h]
  refine ⟨List.nodup_range', ?_, ?_⟩
  · intro id hid
    have := List.mem_range'_1.mp hid
    omega
  · intro j hj
    have hs : srcs[j] < st.length := h _ (List.getElem_mem hj)
    refine ⟨st.length + j, st[srcs[j]], by simp [hj], by simp, ?_⟩
    rw [List.getElem?_append_right (by omega)]
    simp [hj, List.getD_eq_getElem?_getD, hs]

/-- non-vacuity: two decoded ammo (one with a Host header), a Date middleware, five deliveries over two and a half
passes: five new objects, each with one Date value; the decoded ammo as before -/
example : acquires .fresh [("Date", "d")] [[("Host", ["h"]), ("X-A", ["a"])], [("X-B", ["b"])]] [0, 1, 0, 1, 0] =
    ([[("Host", ["h"]), ("X-A", ["a"])], [("X-B", ["b"])],
      [("X-A", ["a"]), ("Date", ["d"])], [("X-B", ["b"]), ("Date", ["d"])], [("X-A", ["a"]), ("Date", ["d"])],
      [("X-B", ["b"]), ("Date", ["d"])], [("X-A", ["a"]), ("Date", ["d"])]], [2, 3, 4, 5, 6]) := by decide

/-- the same isolation claim for a `BuildRequest` that takes the decoded header map as it is when it has entries and
no `Host` (the seeded fast path of `EnrichRequestWithHeaders`) -/
def C11_acquire_alias_statement : Prop :=
  ∀ (mws : List (String × String)) (st : Store) (srcs : List Nat), (∀ s ∈ srcs, s < st.length) →
    ∀ i, i < st.length → (acquires .alias mws st srcs).1[i]? = st[i]?

/-- … is false: one decoded ammo without Host, a Date middleware, two deliveries — both requests ARE the decoded ammo's
map (same object), the second `Acquire` adds a second Date value to the request the first instance holds, and the decoded
ammo is altered for every later pass; the regenerated row of that change is rejected -/
theorem C11_acquire_alias_counterexample :
    ¬ C11_acquire_alias_statement ∧
    acquires .alias [("Date", "d")] [[("X-A", ["a"])]] [0, 0] = ([[("X-A", ["a"]), ("Date", ["d", "d"])]], [0, 0]) ∧
    (acquire .alias [("Date", "d")] [[("X-A", ["a"])]] 0).1 = [[("X-A", ["a"]), ("Date", ["d"])]] ∧
    Pandora.Spec.C11.flowOk ("components/providers/http/util.EnrichRequestWithHeaders", "map", "store", "param0.Header", "param1") = false ∧
    buildOfFlows [("components/providers/http/util.EnrichRequestWithHeaders", "map", "store", "param0.Header", "param1")] = .alias := by
  refine ⟨?_, by decide, by decide, by decide, by decide⟩
  intro hst
  have := hst [("Date", "d")] [[("X-A", ["a"])]] [0, 0] (by decide) 0 (by decide)
  revert this
  decide

/-- … but it does hold for the aliasing build when every decoded header carries a Host entry or is empty (the fast path
is never taken: why pools whose ammo name a Host never showed the seeded change) -/
theorem C11_acquire_alias_partial (mws : List (String × String)) (st : Store) (src : Nat)
    (hh : aliasCond (st.getD src []) = false) :
    acquire .alias mws st src = acquire .fresh mws st src := by
  unfold acquire build
  simp only [hh]
  rfl

/-! ### results handed out by shared components -/

/-- no function of the current source hands out memory of an object it puts back into a sync.Pool -/
theorem C11_no_pooled_escape : Pandora.Gen.Locks.pooledEscapes = [] := by decide

/-- a function that renders into a pooled buffer, hands the buffer's bytes to its caller and puts the buffer back (the
seeded text templater): its program violates the ownership discipline (it gives what it no longer holds), and with the
instance that received the bytes reading them while the next `Get` writes them the trace is not data-race free -/
theorem C11_pooled_result_counterexample :
    progOkB (fun _ => Class.sharedSync 0) 0 [] Pandora.Spec.C11.escapeOps = false ∧
    Pandora.Spec.C11.judgeEscapes [("components/providers/scenario/http/templater.Apply", "strBuilder", "parts.Body = strBuilder.Bytes()")] ≠ "ok" ∧
    ¬ DRF [.acq 0 0, .acc 0 0 true 1, .rel 0 0, .acc 1 0 false 0, .acq 2 0, .acc 2 0 true 2, .rel 2 0] := by
  exact ⟨by decide, by decide, not_drf_of_hbFree _ 3 5 _ _ (by decide) rfl rfl (by simp [Conflict]) (by decide)⟩

/-! ### guns -/

/-- **C11_gun_exclusive**: for every sequence of instance starts and instance moves, the guns of the instances are
pairwise distinct objects and no gun has two `Shoot` calls in progress. -/
theorem C11_gun_exclusive (acts : List Act) :
    ((engRun engInit acts).insts.map (·.gun)).Nodup ∧ ∀ g, active g (engRun engInit acts).insts ≤ 1 := by
  have h := engRun_ok acts engInit ⟨by simp [engInit], by simp [engInit]⟩
  exact ⟨h.1, fun g => active_le_one g _ h.1⟩

/-- **C11_engine_gun_facts**: what the engine model's actions stand for, read off the current source of `core/engine`
(regenerated): the gun factory is called at exactly two places, neither inside a loop — once per `newInstance`
(`Act.start`) and once for the warm-up gun (`Act.warmup`); the factory result reaches an instance at exactly two
wiring points (the `newGun` dependency and the `gun` field of the new instance); and `Shoot` is called at exactly one
place, on the instance's own `gun` field (`Act.move i`); every function that creates an instance runs it at exactly one
place, outside any loop (one goroutine per instance: `Act.move i` is sequential per `i`). A gun cache, a second `Shoot`
site, a factory call in a loop or a second `Run` of an instance changes these facts. -/
theorem C11_engine_gun_facts :
    Pandora.Gen.Locks.gunFactoryCalls.length = 2 ∧
    (Pandora.Gen.Locks.gunFactoryCalls.all fun c => !c.2.2) = true ∧
    (Pandora.Gen.Locks.gunFactoryCalls.map (·.1)).Nodup ∧
    Pandora.Gen.Locks.gunWiring.length = 2 ∧
    Pandora.Gen.Locks.shootCalls.length = 1 ∧
    Pandora.Gen.Locks.instanceRuns = Pandora.Gen.Locks.instanceCreations ∧
    (Pandora.Gen.Locks.instanceRuns.map (·.1)).Nodup ∧
    (Pandora.Gen.Locks.instanceRuns.all fun c => !c.2) = true := by decide

/-- non-vacuity: a warm-up gun and three instances, two of them inside `Shoot` at the same time — on different guns -/
example : (engRun engInit [.warmup, .start, .start, .move 0, .start, .move 2]).insts
    = [⟨1, true⟩, ⟨2, false⟩, ⟨3, true⟩] := by decide

/-! ### isolation -/

/-- **C11_no_cross_instance_effect**: in every trace consistent with the classification, the values instance `i`
reads from its own objects and from read-only shared objects are exactly those it reads when all other instances'
events are removed. -/
theorem C11_no_cross_instance_effect (cls : Nat → Class) (tr : List Ev) (h : WF cls noLocks tr) (i : Nat) (m : Mem) :
    view cls i m tr = view cls i m (tr.filter fun e => e.thread == i) :=
  view_filter cls i tr noLocks m m h (fun _ _ => rfl)

/-- non-vacuity: instance 1 writes its own object 5 and the shared counter 9; instance 0 reads the read-only
definition 3 and its own object 4 — and sees the initial / its own values -/
example :
    let cls : Nat → Class := fun o => if o = 3 then .sharedRO else if o = 4 then .loc 0 else if o = 5 then .loc 1 else .sharedSync 9
    view cls 0 (fun _ => 42) [.acc 0 4 true 7, .acc 1 5 true 8, .acq 1 9, .acc 1 9 true 1, .rel 1 9, .acc 0 3 false 0, .acc 0 4 false 0]
      = [(3, 42), (4, 7)] := by decide

/-- **C11_shared_write_counterexample** (the code before `fix: gRPC scenario gun renders call metadata into a copy`):
when an instance writes an object of the shared definition (the step's metadata map, object 5), the trace is not
consistent with the class `sharedRO`, the two accesses race, and instance 1 reads instance 0's rendered value
instead of the definition's. -/
theorem C11_shared_write_counterexample :
    let cls : Nat → Class := fun _ => .sharedRO
    let tr : List Ev := [.acc 0 5 true 7, .acc 1 5 false 0]
    ¬ WF cls noLocks tr ∧ ¬ DRF tr ∧
    view cls 1 (fun _ => 42) tr ≠ view cls 1 (fun _ => 42) (tr.filter fun e => e.thread == 1) := by
  exact ⟨by simp [WF, stepOk], not_drf_of_hbFree _ 0 1 _ _ (by decide) rfl rfl (by simp [Conflict]) (by decide), by decide⟩

/-! ### the index arithmetic behind the shared counters

`rows[next]` of a variable source and the cursor of the shared client pool turn a counter that ALL instances increment
into a slice index; a bad index is a runtime fault in every instance that comes by. The bodies of `lib/mp.calcIndex`,
`(*NextIterator).Next` and `(*clientpool.Pool).Next` are regenerated from the source; the theorems are stated on the
regenerated bodies (via `Bridge/C11Locks.lean`). -/

/-- **C11_next_index_partial**: for every number of uses below 2^63 and every positive number of rows, use number `k`
(0, 1, 2, … in the order in which the instances pass the iterator's mutex) of `rows[next]` yields row `k mod length`: always
inside the slice, and the rows are handed out in turn whatever `strconv.Atoi` made of the string "next". -/
theorem C11_next_index_partial (k : Nat) (len a rv : Int) (e : Bool)
    (hk : (k : Int) < 9223372036854775808) (hl : 0 < len) :
    Pandora.Gen.Locks.calcIndexBody "next" a e len (Pandora.Gen.Locks.iterNextBody (k != 0) k) rv = some ((k : Int) % len) ∧
    0 ≤ (k : Int) % len ∧ (k : Int) % len < len := by
  refine ⟨?_, Int.emod_nonneg _ (by omega), Int.emod_lt_of_pos _ hl⟩
  rw [Pandora.Bridge.C11Locks.calcIndexBody_eq, Pandora.Bridge.C11Locks.iterNextBody_eq]
  have hkind : idxKindOf "next" a e = .next := by simp [idxKindOf]
  rw [hkind]
  have hv : iterNext (k != 0) k = (k : Int) := by
    by_cases h0 : k = 0
    · subst h0; simp [iterNext]
    · have : (k != 0) = true := by simp [h0]
      rw [this]
      simp only [iterNext, if_true]
      exact ctrAsInt_small _ (by omega) hk
  rw [hv]
  simp only [calcIndexM]
  rw [if_neg (by omega)]
  congr 1
  split
  · exact Int.tmod_eq_emod_of_nonneg (by omega)
  · exact (Int.emod_eq_of_lt (by omega) (by omega)).symm

/-- non-vacuity: three rows, uses 0‥4 → rows 0 1 2 0 1; and the use number 2^31 (where a 32-bit counter turns negative) -/
example : (List.range 5).map (fun (k : Nat) => Pandora.Gen.Locks.calcIndexBody "next" 0 true 3 (Pandora.Gen.Locks.iterNextBody (k != 0) (k : Int)) 0)
    = [some 0, some 1, some 2, some 0, some 1] := by decide

example : Pandora.Gen.Locks.calcIndexBody "next" 0 true 7 (Pandora.Gen.Locks.iterNextBody true 2147483648) 0 = some 2 := by decide

/-- the same claim for every value a 64-bit counter can take -/
def C11_next_index_statement : Prop :=
  ∀ (k : Nat) (len : Int), (k : Int) < 18446744073709551616 → 0 < len →
    ∃ i, Pandora.Gen.Locks.calcIndexBody "next" 0 true len (Pandora.Gen.Locks.iterNextBody (k != 0) k) 0 = some i ∧ 0 ≤ i ∧ i < len

/-- **C11_next_index_counterexample**: … is false. After 2^63 uses of one segment `int(add)` is negative, `calcIndex`
reduces only an index that is `≥ length`, and `rows[-9223372036854775808]` panics in whichever instance comes by. (2^63 uses
are out of reach — 290 000 years at a million uses per second —, so this is recorded, not reported; with a 32-bit counter
the same happens after 2^31 uses: six hours at 100 000 per second.) -/
theorem C11_next_index_counterexample : ¬ C11_next_index_statement ∧
    Pandora.Gen.Locks.calcIndexBody "next" 0 true 3 (Pandora.Gen.Locks.iterNextBody true 9223372036854775808) 0 = some (-9223372036854775808) := by
  have h : Pandora.Gen.Locks.calcIndexBody "next" 0 true 3 (Pandora.Gen.Locks.iterNextBody true 9223372036854775808) 0 = some (-9223372036854775808) := by
    decide
  refine ⟨?_, h⟩
  intro hst
  obtain ⟨i, hi, h0, _⟩ := hst 9223372036854775808 3 (by decide) (by decide)
  have h' : Pandora.Gen.Locks.calcIndexBody "next" 0 true 3 (Pandora.Gen.Locks.iterNextBody ((9223372036854775808 : Nat) != 0) ((9223372036854775808 : Nat) : Int)) 0 = some (-9223372036854775808) := by
    decide
  rw [h'] at hi
  have := Option.some.inj hi
  omega

/-- **C11_next_rows_distinct**: two uses of `rows[next]` that are fewer than `length` uses apart get different rows: with at
least as many rows as there are uses in flight no two instances work on the same row (isolation of the data the
instances take from a shared source). -/
theorem C11_next_rows_distinct (k₁ k₂ : Nat) (len : Int) (h12 : k₁ < k₂) (hd : (k₂ : Int) < k₁ + len)
    (hk : (k₂ : Int) < 9223372036854775808) :
    Pandora.Gen.Locks.calcIndexBody "next" 0 true len (Pandora.Gen.Locks.iterNextBody (k₁ != 0) k₁) 0 ≠
    Pandora.Gen.Locks.calcIndexBody "next" 0 true len (Pandora.Gen.Locks.iterNextBody (k₂ != 0) k₂) 0 := by
  have hl : 0 < len := by omega
  rw [(C11_next_index_partial k₁ len 0 0 true (by omega) hl).1, (C11_next_index_partial k₂ len 0 0 true hk hl).1]
  intro heq
  have heq' := Option.some.inj heq
  have hz : ((k₂ : Int) - k₁) % len = 0 := Int.emod_eq_emod_iff_emod_sub_eq_zero.mp heq'.symm
  obtain ⟨c, hc⟩ := Int.dvd_of_emod_eq_zero hz
  rcases Int.lt_trichotomy c 0 with hneg | hzero | hpos
  · have : len * c ≤ len * (-1) := Int.mul_le_mul_of_nonneg_left (by omega) (by omega)
    omega
  · subst hzero; omega
  · have : len * 1 ≤ len * c := Int.mul_le_mul_of_nonneg_left (by omega) (by omega)
    omega

example : Pandora.Gen.Locks.calcIndexBody "next" 0 true 4 (Pandora.Gen.Locks.iterNextBody true 5) 0 = some 1 ∧
    Pandora.Gen.Locks.calcIndexBody "next" 0 true 4 (Pandora.Gen.Locks.iterNextBody true 8) 0 = some 0 := by decide

/-- **C11_calc_index_in_bounds**: whatever the index string (a number of either sign, `next`, `rand`, `last`, anything
else), `calcIndex` returns an error or an index inside the slice — given a non-negative value of the `[next]` counter and a
`[rand]` value in `[0, length)` (what `rand.Intn(length)` yields). -/
theorem C11_calc_index_in_bounds (s : String) (a : Int) (e : Bool) (len nv rv i : Int)
    (hnv : 0 ≤ nv) (hrv : 0 ≤ rv ∧ rv < len)
    (h : Pandora.Gen.Locks.calcIndexBody s a e len nv rv = some i) : 0 ≤ i ∧ i < len := by
  rw [Pandora.Bridge.C11Locks.calcIndexBody_eq] at h
  generalize idxKindOf s a e = k at h
  cases k with
  | bad => simp [calcIndexM] at h
  | num j =>
    simp only [calcIndexM] at h
    split at h
    · cases h
    · rename_i hlen
      have hb := tmod_bounds j len (by omega)
      split at h
      · cases h; omega
      · cases h
        split <;> omega
  | last =>
    simp only [calcIndexM] at h
    split at h
    · cases h
    · cases h; omega
  | rand =>
    simp only [calcIndexM] at h
    split at h
    · cases h
    · cases h; exact hrv
  | next =>
    simp only [calcIndexM] at h
    split at h
    · cases h
    · rename_i hlen
      have hb := tmod_bounds nv len (by omega)
      cases h
      split <;> omega

/-- non-vacuity: `rows[-7]`, `rows[12]`, `rows[last]` over five rows; `rows[x]` is an error -/
example : Pandora.Gen.Locks.calcIndexBody "-7" (-7) false 5 0 0 = some 3 ∧ Pandora.Gen.Locks.calcIndexBody "12" 12 false 5 0 0 = some 2 ∧
    Pandora.Gen.Locks.calcIndexBody "last" 0 true 5 0 0 = some 4 ∧ Pandora.Gen.Locks.calcIndexBody "x" 0 true 5 0 0 = none := by decide

/-- **C11_pool_index_partial**: the client an instance is bound to: after `c` increments of the shared cursor (`0 ≤ c < 2^63`)
`Pool.Next` returns the client number `c mod n` — inside the pool, and the clients are handed out in turn. -/
theorem C11_pool_index_partial (n c : Int) (hn : 0 < n) (h0 : 0 ≤ c) (hc : c < 9223372036854775808) :
    Pandora.Gen.Locks.poolNextBody n c = some (c % n) ∧ 0 ≤ c % n ∧ c % n < n := by
  refine ⟨?_, Int.emod_nonneg _ (by omega), Int.emod_lt_of_pos _ hn⟩
  rw [Pandora.Bridge.C11Locks.poolNextBody_eq]
  simp only [poolNext]
  rw [if_neg (by omega), ctrAsInt_small c h0 hc, Int.tmod_eq_emod_of_nonneg h0]

example : (List.range 5).map (fun (c : Nat) => Pandora.Gen.Locks.poolNextBody 3 ((c : Int) + 1)) = [some 1, some 2, some 0, some 1, some 2] := by decide

def C11_pool_index_statement : Prop :=
  ∀ (n c : Int), 0 < n → 0 ≤ c → c < 18446744073709551616 → ∃ i, Pandora.Gen.Locks.poolNextBody n c = some i ∧ 0 ≤ i ∧ i < n

/-- **C11_pool_index_counterexample**: with three clients the 2^63-th `Next` indexes the pool at -2 (`Next` is called once per
instance, at `Bind`: out of reach; recorded, not reported). -/
theorem C11_pool_index_counterexample : ¬ C11_pool_index_statement ∧
    Pandora.Gen.Locks.poolNextBody 3 9223372036854775808 = some (-2) := by
  have h : Pandora.Gen.Locks.poolNextBody 3 9223372036854775808 = some (-2) := by decide
  refine ⟨?_, h⟩
  intro hst
  obtain ⟨i, hi, h0, _⟩ := hst 3 9223372036854775808 (by decide) (by decide) (by decide)
  rw [h] at hi
  have := Option.some.inj hi
  omega

section Pool
open Pandora.Model.C11Pool Pandora.Proofs.C11Pool

/-! ### the whole pool — composition with C03's regenerated instance loop -/

/-- **C11_instloop_discipline**: every path of the iteration body of `(*instance).Run` as it is in the current source
(`Gen.InstLoop.iterBody`, regenerated for C03) keeps the one-bit discipline: `Acquire` only when no ammo is held,
`Shoot` and `Release` only while one is held, no statement C03's reader does not know, nothing held when the iteration
function returns. -/
theorem C11_instloop_discipline : bodyOk Pandora.Gen.InstLoop.iterBody = true := by decide

/-- non-vacuity: the path on which everything succeeds really acquires, shoots and releases -/
example : iterActs Pandora.Gen.InstLoop.iterBody true true true = [.acq, .tokOk, .reqAdd, .shoot, .respAdd, .rel] := by decide

/-- **C11_pool_drf**: a whole pool. Any number of instances (`iters.length`), each running any number of iterations of
the regenerated loop body, each iteration with its own answers of the environment, its own ammo object and any number
of samples; any number of other goroutines (provider, aggregator) running programs that respect the ownership
discipline; every schedule: data-race free. -/
theorem C11_pool_drf (iters : List (List Iter)) (others : List (List OOp))
    (hoth : ∀ (k : Nat) (ops : List OOp), others[k]? = some ops → progOk poolCls (iters.length + k) [] ops)
    (sched : List Nat) :
    DRF (exec (initCfgO poolCls (poolProgs Pandora.Gen.InstLoop.iterBody iters others)) sched) :=
  C11_drf_handover_programs poolCls _ (pool_ok _ C11_instloop_discipline iters others hoth) sched

/-- **C11_pool_gun_exclusive**: in every such run every access to the gun of instance `i` is made by thread `i` — the
instance goroutine is the only caller of its gun, so no gun is ever inside two `Shoot` calls. -/
theorem C11_pool_gun_exclusive (iters : List (List Iter)) (others : List (List OOp))
    (hoth : ∀ (k : Nat) (ops : List OOp), others[k]? = some ops → progOk poolCls (iters.length + k) [] ops)
    (sched : List Nat) (t i : Nat) (w : Bool) (v : Nat)
    (hm : Ev.acc t (oGun i) w v ∈ exec (initCfgO poolCls (poolProgs Pandora.Gen.InstLoop.iterBody iters others)) sched) :
    t = i :=
  wf_loc_owner poolCls _ _
    (exec_wfO poolCls sched _ (initCfgO_ok poolCls _ (pool_ok _ C11_instloop_discipline iters others hoth)))
    t (oGun i) w v i hm (cls_gun i)

/-- **C11_pool_ammo_exclusive**: from the point where instance `i` received ammo `a` (`Acquire`) until it gives it back
(`Release`), every access to that ammo — by the gun's `Shoot`, by a provider goroutine that would reset it, by another
instance — is instance `i`'s own: the ammo seen by one instance is never altered by another. -/
theorem C11_pool_ammo_exclusive (iters : List (List Iter)) (others : List (List OOp))
    (hoth : ∀ (k : Nat) (ops : List OOp), others[k]? = some ops → progOk poolCls (iters.length + k) [] ops)
    (sched : List Nat) (pre mid post : List Ev) (i a : Nat)
    (htr : exec (initCfgO poolCls (poolProgs Pandora.Gen.InstLoop.iterBody iters others)) sched
             = pre ++ Ev.acq i (oAmmo a) :: (mid ++ post))
    (hno : ∀ e ∈ mid, e ≠ Ev.rel i (oAmmo a)) (t : Nat) (w : Bool) (v : Nat)
    (hm : Ev.acc t (oAmmo a) w v ∈ mid) : t = i := by
  have hwf := exec_wfO poolCls sched _ (initCfgO_ok poolCls _ (pool_ok _ C11_instloop_discipline iters others hoth))
  rw [htr] at hwf
  have h1 := ((WF_append poolCls pre _ _).mp hwf).2
  obtain ⟨_, h2⟩ := h1
  have h3 := ((WF_append poolCls mid post _).mp h2).1
  exact C11_owned_exclusive poolCls (oAmmo a) i mid _ (set_same _ _ _) h3 hno t (oAmmo a) w v hm (cls_ammo a)

/-- two instances (the first: a full shot, then an iteration whose `Wait` finds the schedule finished; the second: a
discarded shot with two samples, then out of ammo), a provider goroutine that refills ammo 0 and an aggregator that reads
sample 0 -/
def poolIters : List (List Iter) :=
  [[⟨true, true, true, 0, [0]⟩, ⟨true, false, true, 1, []⟩], [⟨true, true, false, 0, [0, 1]⟩, ⟨false, true, true, 0, []⟩]]

def poolOthers : List (List OOp) :=
  [[.take (oAmmo 0), .own ⟨oAmmo 0, true, 9⟩, .give (oAmmo 0)], [.take (oSample 0), .own ⟨oSample 0, false, 0⟩, .give (oSample 0)]]

/-- non-vacuity of `C11_pool_drf`: the hypotheses hold for that pool, and under a round-robin schedule (turns of a
blocked thread are skipped) all 72 events of the four threads happen -/
example : ∀ (k : Nat) (ops : List OOp), poolOthers[k]? = some ops → progOk poolCls (poolIters.length + k) [] ops := by
  intro k ops h
  apply progOk_of_progOkB
  match k, h with
  | 0, h => simp [poolOthers] at h; subst h; decide
  | 1, h => simp [poolOthers] at h; subst h; decide
  | n + 2, h => simp [poolOthers] at h

example : (exec (initCfgO poolCls (poolProgs Pandora.Gen.InstLoop.iterBody poolIters poolOthers))
    ((List.range 60).flatMap fun _ => [0, 1, 2, 3])).length = 72 := by decide

/-- non-vacuity of `C11_pool_gun_exclusive` / `C11_pool_ammo_exclusive`: in that run instance 0 receives ammo 0 at
position 16 (the provider goroutine refilled it before), shoots it — touching the ammo and its own gun — and gives it back
at position 34, whereupon instance 1 receives it: the stretch in between decomposes the trace as the theorem asks -/
example :
    let tr := exec (initCfgO poolCls (poolProgs Pandora.Gen.InstLoop.iterBody poolIters poolOthers))
      ((List.range 60).flatMap fun _ => [0, 1, 2, 3])
    tr = tr.take 16 ++ Ev.acq 0 (oAmmo 0) :: ((tr.drop 17).take 17 ++ tr.drop 34) ∧
    (∀ e ∈ (tr.drop 17).take 17, e ≠ Ev.rel 0 (oAmmo 0)) ∧
    Ev.acc 0 (oAmmo 0) true 0 ∈ (tr.drop 17).take 17 ∧ Ev.acc 0 (oGun 0) true 0 ∈ tr ∧
    tr[34]? = some (Ev.rel 0 (oAmmo 0)) ∧ tr[35]? = some (Ev.acq 1 (oAmmo 0)) := by decide

/-- the loop body with the `Release` moved before the wait (an instance loop that gives its ammo back before shooting it) -/
def earlyReleaseBody : List Pandora.Model.C03Loop.Instr :=
  [.acquireOrReturn "ammo", .release "ammo", .waitOrReturn, .ifFire, .metricAdd "Request" 1, .shoot "ammo",
   .metricAdd "Response" 1, .orElse, .reportDiscard, .endIf, .returnNil]

/-- **C11_pool_early_release_counterexample**: such a body is rejected, its program violates the ownership discipline,
and with a provider goroutine that takes the released ammo from the pool and decodes the next entry into it the gun
shoots an ammo somebody else is writing: the trace is not data-race free. -/
theorem C11_pool_early_release_counterexample :
    bodyOk earlyReleaseBody = false ∧
    progOkB poolCls 0 [] (instProg earlyReleaseBody 0 [⟨true, true, true, 0, []⟩]) = false ∧
    ¬ DRF (exec (initCfgO poolCls [loopOps earlyReleaseBody 0 [⟨true, true, true, 0, []⟩],
                                   [.take (oAmmo 0), .own ⟨oAmmo 0, true, 9⟩, .give (oAmmo 0)]])
            [0, 0, 0, 0, 0, 1, 1, 0, 0, 0, 0, 0, 0, 0]) := by
  refine ⟨by decide, by decide, ?_⟩
  have htr : exec (initCfgO poolCls [loopOps earlyReleaseBody 0 [⟨true, true, true, 0, []⟩],
                                   [.take (oAmmo 0), .own ⟨oAmmo 0, true, 9⟩, .give (oAmmo 0)]])
            [0, 0, 0, 0, 0, 1, 1, 0, 0, 0, 0, 0, 0, 0]
      = [.acq 0 0, .acc 0 0 false 0, .rel 0 0, .acq 0 5, .rel 0 5, .acq 1 5, .acc 1 5 true 9, .acq 0 0, .acc 0 0 true 0,
         .rel 0 0, .acq 0 1, .acc 0 1 true 0, .rel 0 1, .acc 0 5 true 0] := by decide
  rw [htr]
  exact not_drf_of_hbFree _ 6 13 _ _ (by decide) rfl rfl (by simp [Conflict]) (by decide)

/-- the same facts as the driver judges them for the case `mode=locks` (`Spec.C11.judgeLoop`): the regenerated body passes,
the early release is reported with the path that breaks the discipline (everything succeeds: Acquire, Release, …, Shoot) -/
example : Pandora.Spec.C11.loopBad Pandora.Gen.InstLoop.iterBody = none ∧
    Pandora.Spec.C11.loopBad earlyReleaseBody = some (true, true, true) := by
  constructor <;> decide

end Pool

end Pandora.Props.C11
