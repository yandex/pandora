/-
C08 — limit/passes semantics and clean end-of-ammo on every provider.

Theorems are about `Pandora.Model.C08` (the providers' loops as executable machines, REPAIRED behaviour of
fixes/C08-*.diff and fixes/C14-limit-counts-delivered.diff), for ALL kinds × preload × limit × passes × n ≥ 1
and any cancellation point; no bound on n / limit / passes (induction over the loops, `Proofs/C08*.lean`).
The model's loops carry explicit fuel; that the run ENDS within the fuel `Model.C08.run` supplies is part of
every theorem (`run … = some o`), `C08_no_spin` gives the bound in closed form.
Tie: correspondence harness harness/cmd/c08 (real providers, public constructors) + `Pandora.Drv.C08`.
-/
import Pandora.Proofs.C08Run
import Pandora.Proofs.C08Conc
import Pandora.Proofs.C08Agree
import Pandora.Proofs.C08Bound
import Pandora.Proofs.C08Scan
import Pandora.Proofs.C08Term
import Pandora.Proofs.C08Fault
import Pandora.Proofs.C08Bisim
import Pandora.Proofs.C08Coin
import Pandora.Proofs.C08Pick
import Pandora.Proofs.C08Size
import Pandora.Bridge.ProvLoops
import Pandora.Proofs.C08Comp
import Pandora.Proofs.C08Fair
import Pandora.Drv.C08

namespace Pandora.Props.C08
open Pandora.Model.C08 Pandora.Proofs.C08

/-- the first `m` entries of the file 0,1,…,n-1 read over and over -/
def cyc (n m : Nat) : List Nat := (List.range m).map (· % n)

/-- **General form.**  Whatever stops the run first — limit, passes·n or the cancellation after `c` acquisitions —
at count `T`: the provider of every kind ends within the model's fuel, consumers have acquired exactly the first
`T` entries of the cyclic file, `Run` returns nil (context.Canceled only if the cancellation is what stopped it,
never an error), and the sink is closed, so the next `Acquire` returns `ok=false`. -/
theorem C08_run (inp : Input) (n T : Nat) (hn : 0 < n)
    (hT : target inp.b.limit inp.b.passes n inp.cancelAt = some T) :
    ∃ o, run inp n = some o ∧ o.delivered = cyc n T ∧ o.sinkClosed = true ∧
      (o.run = .nil ∨ (o.run = .canceled ∧ inp.cancelAt = some T)) := by
  refine ⟨⟨cycl n T, kindEnd inp.kind inp.cancelAt T, true⟩, ?_, rfl, rfl,
    kindEnd_cases inp.kind (tgt_of_target _ _ _ _ _ hn hT)⟩
  unfold run
  rw [hT]
  exact runFuel_range inp n T hn hT

/-- **count + clean end** (the property's first sentence): with a limit and/or passes and nobody cancelling,
exactly `min⁺(limit, passes·n)` ammo are delivered, `Run` returns nil and the sink is closed. -/
theorem C08_count (k : Kind) (preload : Bool) (b : Bounds) (n m : Nat) (hn : 0 < n)
    (hm : Spec.C08.expected b.limit b.passes n = some m) :
    ∃ o, run ⟨k, preload, b, none⟩ n = some o ∧ o.delivered = cyc n m ∧ o.run = .nil ∧ o.sinkClosed = true := by
  rw [expected_eq_target _ _ _ hn] at hm
  obtain ⟨o, h1, h2, h3, h4⟩ := C08_run ⟨k, preload, b, none⟩ n m hn hm
  refine ⟨o, h1, h2, ?_, h3⟩
  rcases h4 with h | ⟨_, h⟩
  · exact h
  · simp at h

/-- **unbounded** (limit = passes = 0): every finite prefix is delivered — cancelled after `c` acquisitions the
provider has delivered exactly the first `c` entries of the cyclic file, then ends cleanly. -/
theorem C08_unbounded_prefix (k : Kind) (preload : Bool) (n c : Nat) (hn : 0 < n) :
    ∃ o, run ⟨k, preload, ⟨0, 0⟩, some c⟩ n = some o ∧ o.delivered = cyc n c ∧
      (o.run = .nil ∨ o.run = .canceled) ∧ o.sinkClosed = true := by
  obtain ⟨o, h1, h2, h3, h4⟩ := C08_run ⟨k, preload, ⟨0, 0⟩, some c⟩ n c hn (by simp [target])
  exact ⟨o, h1, h2, h4.imp id (·.1), h3⟩

/-- **cancelled bounded run**: a cancellation after `c` acquisitions of a run bounded by `m` ends after
`min c m` deliveries, cleanly. -/
theorem C08_cancel (k : Kind) (preload : Bool) (b : Bounds) (n m c : Nat) (hn : 0 < n)
    (hm : Spec.C08.expected b.limit b.passes n = some m) :
    ∃ o, run ⟨k, preload, b, some c⟩ n = some o ∧ o.delivered = cyc n (min c m) ∧
      (o.run = .nil ∨ o.run = .canceled) ∧ o.sinkClosed = true := by
  have hT : target b.limit b.passes n (some c) = some (min c m) :=
    target_cancel _ _ _ _ _ (by rw [← expected_eq_target _ _ _ hn]; exact hm)
  obtain ⟨o, h1, h2, h3, h4⟩ := C08_run ⟨k, preload, b, some c⟩ n _ hn hT
  exact ⟨o, h1, h2, h4.imp id (·.1), h3⟩

/-- **no spin**: the run ends within `2·(T + n) + 3` loop iterations (scans, sends, end-of-file wraps), where `T`
is the number of ammo delivered — for every kind, preload setting, bounds and cancellation point. -/
theorem C08_no_spin (inp : Input) (n T : Nat) (hn : 0 < n)
    (hT : target inp.b.limit inp.b.passes n inp.cancelAt = some T) :
    ∃ fuel, fuel ≤ 2 * (T + n) + 3 ∧ ∃ o, runFuel inp (List.range n) (fun _ => true) fuel = some o := by
  refine ⟨fuelFor T n n, ?_, ?_⟩
  · unfold fuelFor
    have h1 := succ_mul' (T / n) (n + 1)
    have h2 : T / n * (n + 1) = T / n * n + T / n := by rw [Nat.mul_add, Nat.mul_one]
    have h3 : T / n * n ≤ T := Nat.div_mul_le_self T n
    have h4 : T / n ≤ T := Nat.div_le_self T n
    omega
  · obtain ⟨o, h1, _⟩ := C08_run inp n T hn hT
    unfold run at h1; rw [hT] at h1
    exact ⟨o, h1⟩

/-- **the run ends successfully**: core/engine awaitRun fails the pool on a provider error unless it is the
run context's own error; the provider's result never is such an error. -/
theorem C08_engine_success (inp : Input) (n T : Nat) (hn : 0 < n)
    (hT : target inp.b.limit inp.b.passes n inp.cancelAt = some T) :
    ∃ o, run inp n = some o ∧ poolFailsOnProvider o.run (cancelled inp.cancelAt o.delivered.length) = false := by
  obtain ⟨o, h1, h2, _, h4⟩ := C08_run inp n T hn hT
  refine ⟨o, h1, ?_⟩
  rcases h4 with h | ⟨h, hc⟩
  · simp [h, poolFailsOnProvider]
  · have : o.delivered.length = T := by rw [h2]; simp [cyc]
    simp [h, poolFailsOnProvider, this, hc, cancelled]

/-- **Spec holds of Model.run** for every cell shape the harness generates (cap > expected count of a bounded
cell; cap ≥ 1): the executable Spec that judges the real providers accepts the model's observation. -/
theorem C08_spec_holds (k : Kind) (preload : Bool) (limit passes n cap : Nat) (hn : 0 < n) (hcap : 0 < cap)
    (hbig : ∀ m, Spec.C08.expected limit passes n = some m → m < cap) :
    Spec.C08.holds { limit, passes, n, cap }
      (Drv.C08.obsOf cap 0 (run ⟨k, preload, ⟨limit, passes⟩, some cap⟩ n)) = true :=
  holds_run k preload limit passes n cap hn hcap

/-! ## every interleaving: provider ∥ channel ∥ consumers ∥ cancel  (`Model.C08Mach`)

`reach inp n cons ls` is the state after the schedule `ls` (ANY list of labels: loop iterations of `Run`, the two
outcomes of its send `select`, receives and end-of-ammo observations of each of the `cons` consumers, a cancel at
any position; labels that are not enabled are skipped).  The channel has the capacity the constructor of the kind
gives it.  No fairness is assumed: consumers may stop acquiring at any time (instances whose schedule is over). -/

/-- **never too many, always in file order** — in every interleaving the ammo acquired so far followed by those in
the channel are the first `sent` entries of the cyclic file, `sent` never exceeds `min⁺(limit, passes·n)`, and the
channel never holds more than its capacity. -/
theorem C08_conc_prefix (inp : Input) (n cons : Nat) (hn : 0 < n) (ls : List Label) :
    (reach inp n cons ls).acquired ++ (reach inp n cons ls).buf = cyc n (reach inp n cons ls).sent ∧
    (∀ m, Spec.C08.expected inp.b.limit inp.b.passes n = some m → (reach inp n cons ls).sent ≤ m) ∧
    (reach inp n cons ls).buf.length ≤ inp.kind.chanCap := by
  have hi := sysInv_reach inp n cons hn ls
  exact ⟨hi.seq, fun m hm => hi.below.le_expected hn hm, hi.bufcap⟩

/-- **clean end** — whenever `Run` has returned, in whatever interleaving: the sink is closed, the result is nil —
or context.Canceled, only if the context was cancelled — and a run that nobody cancelled has sent exactly
`min⁺(limit, passes·n)` ammo (so an unbounded run returns only when it is cancelled). -/
theorem C08_conc_clean_end (inp : Input) (n cons : Nat) (hn : 0 < n) (ls : List Label) (r : RunRes)
    (h : (reach inp n cons ls).result = some r) :
    (reach inp n cons ls).closed = true ∧
    (r = .nil ∨ ((reach inp n cons ls).cancelled = true ∧ r = .canceled)) ∧
    ((reach inp n cons ls).cancelled = false →
      r = .nil ∧ Spec.C08.expected inp.b.limit inp.b.passes n = some (reach inp n cons ls).sent) := by
  have hi := sysInv_reach inp n cons hn ls
  obtain ⟨h1, h2⟩ := hi.result_cases h
  exact ⟨(hi.returned r h).1, h1, fun hnc => ⟨(h2 hnc).1, expected_of_atBound _ _ _ hn (h2 hnc).2⟩⟩

/-- **the sink is closed exactly when `Run` has returned**, and consumers see the end only then -/
theorem C08_conc_closed_iff (inp : Input) (n cons : Nat) (hn : 0 < n) (ls : List Label) :
    ((reach inp n cons ls).closed = true ↔ (reach inp n cons ls).result.isSome = true) ∧
    ((reach inp n cons ls).ended ≠ [] → (reach inp n cons ls).closed = true ∧ (reach inp n cons ls).buf = []) := by
  have hi := sysInv_reach inp n cons hn ls
  exact ⟨hi.closed_iff, hi.ended⟩

/-- **no consumer stays blocked** — once `Run` has returned every consumer that has not yet seen the end of ammo can
complete its Acquire at once: with an ammo that was still in the channel, or with `ok=false`. -/
theorem C08_conc_consumers_released (inp : Input) (n cons : Nat) (hn : 0 < n) (ls : List Label)
    (h : (reach inp n cons ls).result.isSome = true) (c : Nat) (hc : c < cons) (hne : c ∉ (reach inp n cons ls).ended) :
    ((reach inp n cons ls).next inp n inp.kind.chanCap cons (.recv c)).isSome = true ∨
    ((reach inp n cons ls).next inp n inp.kind.chanCap cons (.eoa c)).isSome = true := by
  have hi := sysInv_reach inp n cons hn ls
  have hcl := ((C08_conc_closed_iff inp n cons hn ls).1).mpr h
  cases hb : (reach inp n cons ls).buf with
  | nil => right; simp [Sys.next, hcl, hb, hc, hne]
  | cons i rest => left; simp [Sys.next, hb, hc, hne]

/-- **returns promptly, needs nobody, does not spin** — from any reachable state in which the context is cancelled
or the bound `min⁺(limit, passes·n)` has been sent, `Run` on its own (nobody receives, nothing else happens) has
returned after at most 3 of its own steps: loop iterations or the Done branch of its select. -/
theorem C08_conc_returns (inp : Input) (n cons : Nat) (hn : 0 < n) (ls : List Label)
    (hres : (reach inp n cons ls).result = none)
    (hstop : (reach inp n cons ls).cancelled = true ∨
      Spec.C08.expected inp.b.limit inp.b.passes n = some (reach inp n cons ls).sent) :
    (ownRun inp n inp.kind.chanCap cons 3 (reach inp n cons ls)).result.isSome = true := by
  have hi := sysInv_reach inp n cons hn ls
  exact returns_alone inp n _ cons hn 1 _ hi hres (hstop.imp id (atBound_of_expected _ _ _ hn)) (tauBudget_le_one n _)

/-- **a cancel stops the providers that read ctx.Err() in their loop** (http with and without preload, scenario):
whatever happens after the cancel, at most the one ammo that was already in the send `select` is still sent. -/
theorem C08_conc_cancel_stops (inp : Input) (n cons : Nat) (hn : 0 < n) (ht : inp.kind.ctxTop = true)
    (ls ls' : List Label) :
    (reach inp n cons (ls ++ Label.cancel :: ls')).sent ≤ (reach inp n cons ls).sent + 1 := by
  have hi := sysInv_reach inp n cons hn ls
  have hrun : reach inp n cons (ls ++ Label.cancel :: ls') =
      Sys.run inp n inp.kind.chanCap cons { (reach inp n cons ls) with cancelled := true } ls' := by
    unfold reach; rw [run_append, run_cons]; rfl
  rw [hrun]
  generalize reach inp n cons ls = s at hi ⊢
  have hi' : SysInv inp n inp.kind.chanCap { s with cancelled := true } :=
    sysInv_next inp n _ cons hn s _ .cancel hi rfl
  have h := pot_run_cancelled inp n inp.kind.chanCap cons hn ht ls' _ hi' rfl
  have h1 : pot { s with cancelled := true } ≤ s.sent + 1 := by
    simp only [pot, Sys.sent]; split <;> omega
  have h2 : ∀ t : Sys, t.sent ≤ pot t := fun t => Nat.le_add_right _ _
  exact Nat.le_trans (h2 _) (Nat.le_trans h h1)

/-- **exactly `min⁺(limit, passes·n)`, and everybody sees the end** — no deadlock: a reachable state in which
nothing but a cancel can happen any more (at least one consumer) is one in which `Run` has returned, the channel is
drained, EVERY consumer has seen `ok=false`, and the acquired ammo are the first entries of the cyclic file in order
— exactly `min⁺(limit, passes·n)` of them, with `Run` = nil, if nobody cancelled. -/
theorem C08_conc_complete (inp : Input) (n cons : Nat) (hn : 0 < n) (hc : 0 < cons) (ls : List Label)
    (hstuck : ∀ l, l ≠ Label.cancel → (reach inp n cons ls).next inp n inp.kind.chanCap cons l = none) :
    (∀ c, c < cons → c ∈ (reach inp n cons ls).ended) ∧
    (reach inp n cons ls).acquired = cyc n (reach inp n cons ls).acquired.length ∧
    ((reach inp n cons ls).cancelled = false →
      (reach inp n cons ls).result = some .nil ∧
      Spec.C08.expected inp.b.limit inp.b.passes n = some (reach inp n cons ls).acquired.length) := by
  have hi := sysInv_reach inp n cons hn ls
  obtain ⟨hr, hb, he⟩ := no_deadlock inp n _ cons _ hi hc hstuck
  have hsent : (reach inp n cons ls).sent = (reach inp n cons ls).acquired.length := by
    simp [Sys.sent, Sys.acquired, hb]
  refine ⟨he, ?_, ?_⟩
  · have := hi.seq
    rw [hb, List.append_nil, hsent] at this
    exact this
  · intro hnc
    obtain ⟨r, hr'⟩ := Option.isSome_iff_exists.mp hr
    obtain ⟨_, _, h3⟩ := C08_conc_clean_end inp n cons hn ls r hr'
    obtain ⟨h4, h5⟩ := h3 hnc
    rw [hsent] at h5
    exact ⟨by rw [hr', h4], h5⟩

/-- **one model** — the small-step machine of every provider kind (the one the interleaving theorems are about, whose
step functions are bridged to the regenerated loop bodies), driven by the schedule of the harness' drain mode (one
consumer that is always ready, the context cancelled after `cancelAt` acquisitions, the select taking Done once it is
cancelled), ends exactly like `Model.C08.run` (the fuel-function model the Lean driver predicts the real providers'
observations with): same acquired ammo, same result of `Run`, sink closed. -/
theorem C08_machine_agrees (inp : Input) (n T : Nat) (hn : 0 < n)
    (hT : target inp.b.limit inp.b.passes n inp.cancelAt = some T) :
    runMach inp n = run inp n := by
  rw [runMach_eq inp n T hn hT]
  unfold run
  rw [hT]
  exact (runFuel_range inp n T hn hT).symm

/-! ## termination, the reading loops of `Scan` line by line, LoadAmmo -/

/-- **global termination measure** — a BOUNDED cell (`m = min⁺(limit, passes·n)`) cannot run for ever, whatever the
scheduler does: of ANY schedule at most `6·m + cons + 4` labels (loop iterations, sends, receives, end-of-ammo
observations; `cancel` not counted) find their transition enabled.  No fairness is needed for this. -/
theorem C08_conc_terminates (inp : Input) (n cons m : Nat) (hn : 0 < n)
    (hm : Spec.C08.expected inp.b.limit inp.b.passes n = some m) (ls : List Label) :
    effSteps inp n inp.kind.chanCap cons (Sys.init inp n) ls ≤ 6 * m + cons + 4 := by
  have hb := atBound_of_expected inp.b n m hn hm
  have h := effSteps_le_mu inp n inp.kind.chanCap cons m hn hb ls _ (sysInv_init inp n _ hn)
  have := mu_init_le inp n cons m
  omega

/-- **every fair execution of a bounded cell ends, completely and cleanly** — an infinite schedule that does not idle
for ever while something other than a cancel can happen (minimal progress; weaker than weak fairness) reaches a state
in which every consumer has seen `ok=false` and the acquired ammo are the first entries of the cyclic file in order —
exactly `min⁺(limit, passes·n)` of them with `Run` = nil when nobody cancelled. -/
theorem C08_conc_fair_end (inp : Input) (n cons m : Nat) (hn : 0 < n) (hc : 0 < cons)
    (hm : Spec.C08.expected inp.b.limit inp.b.passes n = some m)
    (σ : Nat → Label) (hp : Progressing inp n inp.kind.chanCap cons σ) :
    ∃ t, let s := stateAt inp n inp.kind.chanCap cons σ t
      (∀ c, c < cons → c ∈ s.ended) ∧ s.acquired = cyc n s.acquired.length ∧
      (s.cancelled = false → s.result = some .nil ∧ s.acquired.length = m) := by
  have hb := atBound_of_expected inp.b n m hn hm
  obtain ⟨t, ht⟩ := progressing_reaches_stuck inp n inp.kind.chanCap cons m hn hb σ hp
  refine ⟨t, ?_⟩
  have he : stateAt inp n inp.kind.chanCap cons σ t = reach inp n cons ((List.range t).map σ) :=
    stateAt_eq_run inp n _ cons σ t
  simp only
  rw [he] at ht ⊢
  obtain ⟨h1, h2, h3⟩ := C08_conc_complete inp n cons hn hc _ ht
  refine ⟨h1, h2, ?_⟩
  intro hnc
  obtain ⟨h4, h5⟩ := h3 hnc
  rw [hm] at h5
  exact ⟨h4, by simpa using h5.symm⟩

/-- **after a cancel the providers that read ctx.Err() are done within a bounded number of steps** (http with and
without preload, scenario — bounded or not): once the context is cancelled, of ANY continuation at most
`buffered + cons + 6` labels find their transition enabled (emptying the channel, the end-of-ammo observations, the
last steps of `Run`). -/
theorem C08_conc_cancel_terminates (inp : Input) (n cons : Nat) (hn : 0 < n) (ht : inp.kind.ctxTop = true)
    (ls ls' : List Label) :
    effSteps inp n inp.kind.chanCap cons (reach inp n cons (ls ++ [Label.cancel])) ls' ≤
      (reach inp n cons ls).buf.length + cons + 6 := by
  have hi' := sysInv_reach inp n cons hn (ls ++ [Label.cancel])
  have hc : (reach inp n cons (ls ++ [Label.cancel])).cancelled = true := by
    unfold reach; rw [run_append, run_cons]; rfl
  have hb : (reach inp n cons (ls ++ [Label.cancel])).buf = (reach inp n cons ls).buf := by
    unfold reach; rw [run_append, run_cons]; rfl
  rw [← hb]
  generalize reach inp n cons (ls ++ [Label.cancel]) = s at hi' hc ⊢
  have h := effSteps_le_muC inp n inp.kind.chanCap cons hn ht ls' s hi' hc
  have htb := tauBudget_le_one n s.ps
  have hw : waiting cons s ≤ cons := by
    have := waitingIn_le (List.range cons) s.ended
    simpa [waiting] using this
  have hmu : muC n cons s ≤ s.buf.length + cons + 6 := by
    simp only [muC]
    by_cases hr : s.result.isSome = true <;> by_cases ho : s.offering.isSome = true <;> simp [hr, ho] <;> omega
  omega

/-- the bound on sends after a cancel, claimed for EVERY provider kind -/
def C08_conc_cancel_stops_statement : Prop :=
  ∀ (inp : Input) (n cons : Nat), 0 < n → ∀ (ls ls' : List Label),
    (reach inp n cons (ls ++ Label.cancel :: ls')).sent ≤ (reach inp n cons ls).sent + 1

/-- … is false without fairness: grpc/json (like the generic JSON provider) notices a cancel only in its `select`;
a scheduler under which the send wins every time lets it send `k` more ammo for every `k`.  (`C08_conc_cancel_stops`
is the part that holds: the providers that read ctx.Err(); `C08_conc_returns`: the Done branch is enabled at every
such select, and Go picks uniformly among the ready cases.) -/
theorem C08_conc_cancel_stops_counterexample : ¬ C08_conc_cancel_stops_statement := by
  intro h
  have h1 := h grpcUnbounded 1 1 (by omega) [] (grpcRounds 2)
  rw [grpc_sends_after_cancel 2] at h1
  simp [reach, Sys.run, Sys.sent, Sys.init] at h1

/-- **the reading loops of `Scan`, line by line** — the decoder of every stream kind (round function REGENERATED from
uri.go / uripost.go / raw.go / jsonline.go, `Bridge.ProvLoops.roundOf_eq`) over ANY file with `n ≥ 1` entry lines and
any number of non-entry lines (headers, blank lines) anywhere is the abstract cyclic source of the provider theorems:
from a state with `q` passes and `r` entries behind it yields entry `r` (entry 0 of the next pass at the end of the
file while passes are left) and ErrPassLimit exactly when `passes` passes are complete. -/
theorem C08_scan_lines (style : Style) (passes : Nat) (f : Lines) (hn : 0 < f.count true) :
    Src (scanFileRes style ⟨0, passes⟩ f) (f.count true) passes (RLines f) ∧ RLines f 0 0 LDec.init :=
  ⟨src_lines style passes f hn, RLines_init f⟩

/-- … so `Provider.Run` of components/providers/http/provider, with and without preload, over the line-level decoder
delivers exactly what `C08_run` says: the first `T` entries of the cyclic file, nil (Canceled only when the cancel is
what stopped it), sink closed. -/
theorem C08_lines_run (style : Style) (f : Lines) (hn : 0 < f.count true) (preload : Bool) (b : Bounds)
    (cancelAt : Option Nat) (T : Nat) (hT : target b.limit b.passes (f.count true) cancelAt = some T) :
    httpRun (fun b d => scanFileRes style b f d) LDec.init (List.range (f.count true)) (fun _ => true) preload b cancelAt
        (fuelFor T (f.count true) (f.count true)) =
      some ⟨cyc (f.count true) T, endRes cancelAt T, true⟩ := by
  have hlen : (List.range (f.count true)).length = f.count true := List.length_range
  have tg := tgt_of_target _ _ _ _ _ hn hT
  have h := httpRun_spec (fun b d => scanFileRes style b f d) LDec.init (RLines f) (List.range (f.count true))
    (fun _ => true) preload b cancelAt T (by rw [hlen]; exact hn) (by rw [filter_const_true, hlen]; exact hn)
    (by rw [hlen]; exact src_lines style 1 f hn) (by rw [hlen]; exact src_lines style b.passes f hn) (RLines_init f)
    (by rw [filter_const_true, hlen]; exact tg)
  rw [filter_const_true, hlen] at h
  rw [h, cycTake_range _ T hn]
  rfl

/-- **LoadAmmo** (loop regenerated from decoder.go, `Bridge.ProvLoops.loadAmmo_eq`) over the line-level decoder: with
a live context it returns every entry once, in order; a cancelled context ends the load of the decoders that read
ctx.Err() (uri, uripost, raw) at once with the context's error, which `Provider.loadAmmo` hands on AS IT IS
(`httpLoadFail`, bridged to the regenerated condition) — so core/engine does not count it as a provider failure;
the json-lines decoder does not look at the context. -/
theorem C08_load_lines (style : Style) (f : Lines) (hn : 0 < f.count true) :
    loadLines style false f (f.count true + 1) LDec.init [] = some (.ok (List.range (f.count true))) ∧
    (∀ fuel d acc, loadLines .eofCheck true f (fuel + 1) d acc = some (.error .canceled)) ∧
    poolFailsOnProvider (httpLoadFail true .canceled) true = false ∧
    (∀ b d c, scanFile .topCheck b c f d = scanFile .topCheck b false f d) := by
  refine ⟨?_, loadLines_cancelled f, by decide, fun b d c => scanFile_top_ctx b f d c⟩
  have := loadLines_ok style f hn (f.count true + 1) 0 LDec.init (RLines_init f) (by omega)
  simpa using this

/-- **what Go's `select` adds after a cancel** — the possibilistic bound on sends after a cancel is false for the
providers without a ctx check at the loop top (`C08_conc_cancel_stops_counterexample`); Go resolves a `select` with
several ready cases by a uniform random choice.  With one coin per select (`coinRun`: `Run` on its own from ANY state of
ANY provider kind in which the context is cancelled, a consumer always ready so that the send case is always ready too
— the worst case; `true` = the send case, `false` = the Done case): among the `2^k` equally likely outcomes of the
first `k` coins at most `2^(k-j)` let `Run` send `j` more ammo — probability at most `2^-j` — and the first `false`
that meets a select in progress ends `Run`. -/
theorem C08_conc_cancel_geometric (inp : Input) (n cons : Nat) (ls : List Label) (fuel k j : Nat) (hj : j ≤ k)
    (hc : (reach inp n cons ls).cancelled = true) :
    ((allCoins k).filter (fun cs => decide ((reach inp n cons ls).sent + j ≤
        (coinRun inp n inp.kind.chanCap fuel cs (reach inp n cons ls)).sent))).length ≤ 2 ^ (k - j) ∧
    (allCoins k).length = 2 ^ k ∧
    (∀ cs, (reach inp n cons ls).result.isSome = false → (reach inp n cons ls).offering.isSome = true →
      (coinRun inp n inp.kind.chanCap (fuel + 1) (false :: cs) (reach inp n cons ls)).result.isSome = true) := by
  refine ⟨?_, allCoins_length k, fun cs hr ho => coinRun_tail inp n _ fuel cs _ hr ho hc⟩
  rw [← heads_count k j hj]
  apply filter_length_mono
  intro cs h
  have h1 := coinRun_sent inp n inp.kind.chanCap fuel cs _ hc
  simp only [decide_eq_true_eq] at h ⊢
  omega

/-- **the concurrent machine runs on the line-level decoder too** — `Model.C08Mach.stepOf` (the iteration every
interleaving theorem is about) runs `runFullScan` on the entry-level decoder `scanStream`; over the line-level decoder
of `Model.C08Scan` (round function regenerated from uri.go / uripost.go / raw.go / jsonline.go) on ANY file with `n ≥ 1`
entry lines and any non-entry lines anywhere, the same iteration from a related state (same passes behind, same entries
of the current pass behind, same number delivered) does the same — same result of `Run`, or the same ammo on offer —
and leads to related states again; the initial states are related.  So every schedule of the machine is step by step a
schedule over the real file layout. -/
theorem C08_lines_step (inp : Input) (f : Lines) (hn : 0 < f.count true) (c : Bool) (ld : LDec) (d : Dec) (k : Nat)
    (hrel : SrcRel (f.count true) inp.b.passes (RLines f) (RStream (f.count true)) (ld, k) (d, k)) :
    ActRel (SrcRel (f.count true) inp.b.passes (RLines f) (RStream (f.count true)))
      (streamStep (scanFileRes (styleOf inp.kind) ⟨0, inp.b.passes⟩ f) (·.passNum) inp.b.limit c ld k)
      (streamStep (scanStream (styleOf inp.kind) ⟨0, inp.b.passes⟩ (f.count true)) Dec.passNumOf inp.b.limit c d k) ∧
    stepOf inp (f.count true) c (.stream d k) =
      liftAct (fun p => .stream p.1 p.2)
        (streamStep (scanStream (styleOf inp.kind) ⟨0, inp.b.passes⟩ (f.count true)) Dec.passNumOf inp.b.limit c d k) ∧
    SrcRel (f.count true) inp.b.passes (RLines f) (RStream (f.count true)) (LDec.init, 0) (Dec.init, 0) := by
  refine ⟨?_, rfl, rfl, 0, 0, Nat.zero_le _, by omega, RLines_init f, RStream_init _⟩
  exact streamStep_bisim _ _ _ _ _ _ hn _ _ (src_lines _ _ f hn) (src_stream _ _ _ hn)
    (fun q r s h => h.2.2.1) (fun q r t h => h.2.1) _ c ld d k hrel

/-! ## faults — an I/O error of the ammo file at any point, a Close that fails, no Close at all

`freach inp n cons ls` is the state after a schedule over the labels of the interleaving theorems PLUS `ioerr`: the
operation on the ammo file that `Run`'s loop is about to make (a read, a seek, the open) fails, at any position of
the schedule, together with any cancel.  `finishOf k r cl` is the deferred cleanup of `Run` (http: REGENERATED path by
path, `Bridge.ProvLoops.httpFinish_eq`) for the three outcomes `cl` of closing the ammo file. -/

/-- **whatever fails, the invariants of the property survive** — in every interleaving with I/O faults: what was
acquired followed by what is in the channel is a prefix of the cyclic file, never more than `min⁺(limit, passes·n)`,
never more in the channel than its capacity; the sink is closed exactly when `Run` has returned, and consumers see the
end only then, with the channel drained. -/
theorem C08_fault_safe (inp : Input) (n cons : Nat) (hn : 0 < n) (ls : List FLabel) :
    (freach inp n cons ls).s.acquired ++ (freach inp n cons ls).s.buf = cyc n (freach inp n cons ls).s.sent ∧
    (∀ m, Spec.C08.expected inp.b.limit inp.b.passes n = some m → (freach inp n cons ls).s.sent ≤ m) ∧
    (freach inp n cons ls).s.buf.length ≤ inp.kind.chanCap ∧
    ((freach inp n cons ls).s.closed = true ↔ (freach inp n cons ls).s.result.isSome = true) ∧
    ((freach inp n cons ls).s.ended ≠ [] → (freach inp n cons ls).s.closed = true ∧ (freach inp n cons ls).s.buf = []) := by
  have hi := fInv_reach inp n cons hn ls
  generalize freach inp n cons ls = f at hi ⊢
  unfold FInv at hi
  by_cases hf : f.faulted = true
  · simp only [hf, if_true] at hi
    exact ⟨hi.seq, fun m hm => hi.below.le_expected hn hm, hi.bufcap, by simp [hi.res, hi.closed], hi.ended⟩
  · simp only [hf] at hi
    exact ⟨hi.seq, fun m hm => hi.below.le_expected hn hm, hi.bufcap, hi.closed_iff, hi.ended⟩

/-- **no consumer stays blocked, whatever made `Run` return** — bound, cancel or I/O error: once it has returned every
consumer that has not yet seen the end of ammo completes its Acquire at once (an ammo still in the channel, or ok=false). -/
theorem C08_fault_released (inp : Input) (n cons : Nat) (hn : 0 < n) (ls : List FLabel)
    (h : (freach inp n cons ls).s.result.isSome = true) (c : Nat) (hc : c < cons) (hne : c ∉ (freach inp n cons ls).s.ended) :
    ((freach inp n cons ls).next inp n inp.kind.chanCap cons (.sys (.recv c))).isSome = true ∨
    ((freach inp n cons ls).next inp n inp.kind.chanCap cons (.sys (.eoa c))).isSome = true := by
  have hcl := ((C08_fault_safe inp n cons hn ls).2.2.2.1).mpr h
  cases hb : (freach inp n cons ls).s.buf with
  | nil => right; simp [FSys.next, Sys.next, hcl, hb, hc, hne]
  | cons i rest => left; simp [FSys.next, Sys.next, hb, hc, hne]

/-- **an I/O error ends `Run` at once** — from any reachable state in which the loop is about to touch the ammo file,
the failing operation makes `Run` return (no retry, no spin) with the sink closed. -/
theorem C08_fault_returns (inp : Input) (n cons : Nat) (ls : List FLabel)
    (hres : (freach inp n cons ls).s.result = none) (hoff : (freach inp n cons ls).s.offering = none)
    (hrd : (freach inp n cons ls).s.ps.readsFile = true) :
    ∃ f', (freach inp n cons ls).next inp n inp.kind.chanCap cons .ioerr = some f' ∧
      f'.s.result = some .errOther ∧ f'.s.closed = true ∧ f'.faulted = true := by
  refine ⟨_, by simp only [FSys.next, hres, hoff, hrd]; simp; rfl, rfl, finishOf_closes _ _ _, rfl⟩

/-- **what `Run` returns** — nil only at the bound, Canceled only after a cancel, an error only after an I/O error
(`faulted` ⇔ the loop ended with one); a run that met neither a cancel nor a fault has sent exactly
`min⁺(limit, passes·n)`: an I/O error is never swallowed into a short, "clean" run. -/
theorem C08_fault_result (inp : Input) (n cons : Nat) (hn : 0 < n) (ls : List FLabel) (r : RunRes)
    (h : (freach inp n cons ls).s.result = some r) :
    (r = .nil ∨ ((freach inp n cons ls).s.cancelled = true ∧ r = .canceled) ∨
      ((freach inp n cons ls).faulted = true ∧ r = .errOther)) ∧
    ((freach inp n cons ls).faulted = true ↔ r = .errOther) ∧
    (r = .nil → (freach inp n cons ls).s.cancelled = false →
      Spec.C08.expected inp.b.limit inp.b.passes n = some (freach inp n cons ls).s.sent) := by
  have hfi := faulted_iff inp n cons hn ls
  have hi := fInv_reach inp n cons hn ls
  rw [h] at hfi
  generalize freach inp n cons ls = f at hi h hfi ⊢
  unfold FInv at hi
  have hfi' : f.faulted = true ↔ r = .errOther := by
    rw [hfi]
    exact ⟨fun e => Option.some.inj e, fun e => by rw [e]⟩
  refine ⟨?_, hfi', fun hnil hnc => ?_⟩
  · by_cases hf : f.faulted = true
    · exact .inr (.inr ⟨hf, hfi'.mp hf⟩)
    · simp only [hf] at hi
      exact (hi.result_cases h).1.imp id Or.inl
  · have hf : ¬ f.faulted = true := by rw [hfi', hnil]; simp
    simp only [hf] at hi
    exact expected_of_atBound _ _ _ hn ((hi.result_cases h).2 hnc).2

/-- **the deferred cleanup** (http family: regenerated path by path from `Provider.Run`; the other families close the
sink by a deferred statement of its own and drop the result of closing the file) — whatever the loop's result and
whatever closing the ammo file gives (no Close function, success, an error): the sink is closed; Close is called
exactly when there is one; the caller gets the loop's own result unless Close failed in the http family, where the
failure is always reported (`none` = an error that names the fault) — so `Run` = nil means: clean loop AND clean close. -/
theorem C08_fault_finish (k : Kind) (r : RunRes) (cl : CloseOut) :
    (finishOf k r cl).closesSink = true ∧
    (finishOf k r cl).callsClose = decide (cl ≠ .absent) ∧
    ((cl ≠ .fails ∨ k.isHttp = false) → finalClass k r cl = if r = .errOther then none else some r) ∧
    (k.isHttp = true → finalClass k r .fails = none) ∧
    (finalClass k r cl = some .nil → r = .nil ∧ (cl ≠ .fails ∨ k.isHttp = false)) :=
  ⟨finishOf_closes k r cl, finishOf_calls k r cl, finalClass_keep k r cl, finalClass_fails k r,
    fun h => ⟨(finalClass_eq_some h).1, (finalClass_eq_some h).2.2⟩⟩

/-- **conservative** — a schedule without a fault is a schedule of the system of the interleaving theorems -/
theorem C08_fault_none (inp : Input) (n cons : Nat) (ls : List Label) :
    (freach inp n cons (ls.map FLabel.sys)).s = reach inp n cons ls ∧
    (freach inp n cons (ls.map FLabel.sys)).faulted = false := by
  unfold freach reach
  rw [frun_sys]
  exact ⟨rfl, rfl⟩

/-- **the Spec's fault clauses hold of the model** — for every reachable state of the system with faults in which
`Run` has returned, with any outcome of Close: the observation a drained cell gives (everything acquired, every
consumer released) satisfies `Spec.C08.faultHolds`' structural clauses: the sink is closed, the count is within the
bound, the result is nil / Canceled / the reported fault, nil without a cancel means the exact bound. -/
theorem C08_fault_spec (inp : Input) (n cons : Nat) (hn : 0 < n) (ls : List FLabel) (r : RunRes) (cl : CloseOut)
    (h : (freach inp n cons ls).s.result = some r) :
    (freach inp n cons ls).s.closed = true ∧
    (∀ m, Spec.C08.expected inp.b.limit inp.b.passes n = some m → (freach inp n cons ls).s.acquired.length ≤ m) ∧
    (finalClass inp.kind r cl = some .nil ∨ finalClass inp.kind r cl = some .canceled ∨ finalClass inp.kind r cl = none) ∧
    (finalClass inp.kind r cl = some .canceled → (freach inp n cons ls).s.cancelled = true) ∧
    (finalClass inp.kind r cl = some .nil → (freach inp n cons ls).s.cancelled = false →
      Spec.C08.expected inp.b.limit inp.b.passes n = some (freach inp n cons ls).s.sent) := by
  obtain ⟨_, s2, _, s4, _⟩ := C08_fault_safe inp n cons hn ls
  obtain ⟨r1, _, r3⟩ := C08_fault_result inp n cons hn ls r h
  refine ⟨s4.mpr (by simp [h]), fun m hm => ?_, ?_, fun hcan => ?_, fun hnil hnc => r3 (finalClass_eq_some hnil).1 hnc⟩
  · have := s2 m hm
    simp only [Sys.sent, Sys.acquired, List.length_map] at this ⊢
    omega
  · -- a result that reaches the caller as it is is the loop's, and not the I/O error
    cases hfc : finalClass inp.kind r cl with
    | none => exact .inr (.inr rfl)
    | some x =>
      obtain ⟨rfl, hne, _⟩ := finalClass_eq_some hfc
      rcases r1 with rfl | ⟨_, rfl⟩ | ⟨_, rfl⟩
      · exact .inl rfl
      · exact .inr (.inl rfl)
      · exact absurd rfl hne
  · obtain ⟨rfl, hne, _⟩ := finalClass_eq_some hcan
    rcases r1 with r1 | ⟨hcc, _⟩ | ⟨_, r1⟩
    · cases r1
    · exact hcc
    · cases r1

/-! non-vacuity: concrete cells, evaluated by the kernel -/
example : (run ⟨.jsonArray, false, ⟨0, 1⟩, none⟩ 1).map (·.delivered) = some [0] := by decide
example : (run ⟨.uri, true, ⟨2, 0⟩, none⟩ 3).map (fun o => (o.delivered, o.run, o.sinkClosed)) = some ([0, 1], .nil, true) := by decide
example : (run ⟨.grpcJson, false, ⟨1, 0⟩, none⟩ 1).map (fun o => (o.delivered, o.run)) = some ([0], .nil) := by decide
example : (run ⟨.httpScenario, false, ⟨2, 0⟩, none⟩ 3).map (fun o => (o.delivered, o.run, o.sinkClosed)) = some ([0, 1], .nil, true) := by decide
example : (run ⟨.genericJson, false, ⟨5, 2⟩, none⟩ 2).map (·.delivered) = some [0, 1, 0, 1] := by decide
example : (run ⟨.raw, false, ⟨0, 0⟩, some 7⟩ 3).map (fun o => (o.delivered, o.run)) = some ([0, 1, 2, 0, 1, 2, 0], .canceled) := by decide
example : Spec.C08.expected 2 1 3 = some 2 ∧ target 2 1 3 none = some 2 := by decide
example : (runMach ⟨.jsonLines, true, ⟨0, 2⟩, some 3⟩ 2).map (fun o => (o.delivered, o.run, o.sinkClosed)) = some ([0, 1, 0], .canceled, true) := by decide
-- interleavings: two consumers of a preloaded uri provider with limit 3 (unbuffered channel) …
example : let s := reach ⟨.uri, true, ⟨3, 0⟩, none⟩ 2 2 [.prod, .prod, .hand 1, .prod, .hand 0, .prod, .hand 1, .prod, .eoa 0, .eoa 1]
    (s.acquired, s.log.map (·.1), s.result, s.closed, s.ended) = ([0, 1, 0], [1, 0, 1], some .nil, true, [1, 0]) := by decide
-- … that state is stuck (hypothesis of C08_conc_complete)
example : ∀ l ∈ [Label.prod, .push, .hand 0, .hand 1, .done, .recv 0, .recv 1, .eoa 0, .eoa 1],
    ((reach ⟨.uri, true, ⟨3, 0⟩, none⟩ 2 2 [.prod, .prod, .hand 1, .prod, .hand 0, .prod, .hand 1, .prod, .eoa 0, .eoa 1]).next
      ⟨.uri, true, ⟨3, 0⟩, none⟩ 2 0 2 l).isNone = true := by decide
-- grpc/json (buffer 128), unbounded, cancelled while its buffer holds two ammo and nobody receives: Done branch, nil, closed
example : let s := reach ⟨.grpcJson, false, ⟨0, 0⟩, none⟩ 2 1 [.prod, .push, .prod, .push, .prod, .prod, .cancel, .done, .recv 0]
    (s.acquired, s.buf, s.result, s.closed, s.cancelled) = ([0], [1], some .nil, true, true) := by decide
-- hypotheses of C08_conc_returns: cancelled in the select / bound reached, not yet returned
example : let s := reach ⟨.httpScenario, false, ⟨0, 0⟩, none⟩ 3 1 [.prod, .push, .prod, .cancel]
    (s.result, s.cancelled, s.offering.isSome) = (none, true, true) := by decide
example : let s := reach ⟨.genericJson, false, ⟨0, 1⟩, none⟩ 2 1 [.prod, .push, .prod, .push]
    (s.result, Spec.C08.expected 0 1 2 == some s.sent) = (none, true) := by decide
-- a file with header / blank lines around and between its two entries, read line by line
example : (scanFile .eofCheck ⟨0, 2⟩ false [false, true, false, false, true, false] ⟨5, 2, 0⟩).1 = .ammo ∧
    (scanFile .eofCheck ⟨0, 2⟩ false [false, true, false, false, true, false] ⟨5, 2, 0⟩).2.1 = some 0 := by decide
example : (scanFile .topCheck ⟨0, 1⟩ false [true, false] ⟨1, 1, 0⟩).1 = .errNoAmmo ∨
    (scanFile .topCheck ⟨0, 1⟩ false [true, false] ⟨1, 1, 0⟩).1 = .unexpected ∨
    (scanFile .topCheck ⟨0, 1⟩ false [true, false] ⟨1, 1, 0⟩).1 = .errPass := by decide
example : (match loadLines .eofCheck false [false, true, true, false] 4 LDec.init [] with
    | some (.ok l) => l == [0, 1] | _ => false) = true := by decide
-- hypotheses of C08_conc_terminates / _fair_end: a bounded cell; a schedule that keeps making progress
example : Spec.C08.expected 3 0 2 = some 3 ∧ (6 * 3 + 2 + 4 = 24) := by decide
example : effSteps ⟨.uri, true, ⟨3, 0⟩, none⟩ 2 0 2 (Sys.init ⟨.uri, true, ⟨3, 0⟩, none⟩ 2)
    [.prod, .prod, .hand 1, .push, .prod, .hand 0, .prod, .hand 1, .prod, .eoa 0, .eoa 1, .eoa 1] = 10 := by decide
-- … and of C08_conc_cancel_terminates: a ctx-checking kind cancelled while its buffer holds ammo
example : (reach ⟨.httpScenario, false, ⟨0, 0⟩, none⟩ 3 1 ([.prod, .push, .prod, .push] ++ [.cancel])).buf.length = 2 ∧
    (reach ⟨.httpScenario, false, ⟨0, 0⟩, none⟩ 3 1 ([.prod, .push, .prod, .push] ++ [.cancel])).cancelled = true ∧
    Kind.ctxTop .httpScenario = true := by decide

-- grpc/json cancelled in its select; the coins true, true, false: two more ammo, then Run has returned (nil)
example : let s := reach ⟨.grpcJson, false, ⟨0, 0⟩, none⟩ 2 1 [.prod, .cancel]
    let e := coinRun ⟨.grpcJson, false, ⟨0, 0⟩, none⟩ 2 128 9 [true, true, false, true] s
    (s.cancelled, s.offering.isSome, s.sent, e.sent, e.result, heads [true, true, false, true]) = (true, true, 0, 2, some .nil, 2) := by decide
-- an I/O error in the middle of the second pass of a raw file read by two consumers, after a cancel …
example : let f := freach ⟨.raw, false, ⟨0, 0⟩, none⟩ 2 2 [.sys .prod, .sys (.hand 1), .sys .prod, .sys (.hand 0), .sys .prod, .sys (.hand 1), .sys .cancel, .ioerr, .sys (.eoa 0)]
    (f.s.acquired, f.s.result, f.s.closed, f.faulted, f.s.ended) = ([0, 1, 0], some .errOther, true, true, [0]) := by decide
-- … hypotheses of C08_fault_returns: the loop of a grpc/json provider between two lines
example : let f := freach ⟨.grpcJson, false, ⟨0, 0⟩, none⟩ 3 1 [.sys .prod, .sys .push]
    (f.s.result, f.s.offering, f.s.ps.readsFile) = (none, none, true) := by decide
-- … the fault label is not enabled while preloaded ammo are replayed (no file operation any more)
example : ((freach ⟨.uri, true, ⟨0, 0⟩, none⟩ 2 1 [.sys .prod]).next ⟨.uri, true, ⟨0, 0⟩, none⟩ 2 0 1 .ioerr).isNone = true := by decide
-- … the deferred cleanup: a cancelled http run whose Close fails reports the fault; grpc/json drops it
example : finalClass .uri .canceled .fails = none ∧ finalClass .grpcJson .nil .fails = some .nil ∧
    finalClass .raw .nil .absent = some .nil ∧ (finishOf .jsonLines .canceled .fails).closesSink = true := by decide

/-! ## chosencases, data sources of the generic JSON provider, machine integers

"entries" of the property are the entries a pass delivers.  With a `chosencases` option (http kinds with and without
preload, grpc/json) these are the entries of the file whose tag is listed: `chosenOf n pick`, wherever they lie in the
file — also behind the first `limit` entries.  `Model.C08.runPick` runs the providers' loops with their filter over the
WHOLE file. -/

/-- **General form with a chosencases option**: every kind that has the option, every file of `n` entries, every list of
chosen entries that names at least one entry of the file, every limit, passes and cancellation point: the provider ends
within the model's fuel, consumers have acquired exactly the first `T` entries of the endlessly repeated list of the
CHOSEN entries in file order, `T` = what stops the run first (limit, passes × number of chosen entries, the cancel),
`Run` returns nil (Canceled only when the cancel is what stopped it), the sink is closed. -/
theorem C08_pick_run (inp : Input) (n : Nat) (pick : List Nat) (T : Nat) (hk : inp.kind.hasFilter = true)
    (hf : 0 < (chosenOf n pick).length)
    (hT : target inp.b.limit inp.b.passes (chosenOf n pick).length inp.cancelAt = some T) :
    ∃ o, runPick inp n pick = some o ∧ o.delivered = cycTake (chosenOf n pick) T ∧ o.sinkClosed = true ∧
      (o.run = .nil ∨ (o.run = .canceled ∧ inp.cancelAt = some T)) :=
  ⟨⟨cycTake (chosenOf n pick) T, kindEnd inp.kind inp.cancelAt T, true⟩, runPick_spec inp n pick T hk hf hT, rfl, rfl,
    kindEnd_cases inp.kind (tgt_of_target _ _ _ _ _ hf hT)⟩

/-- **count with a chosencases option**: nobody cancels ⇒ exactly `min⁺(limit, passes × chosen entries)` ammo, the chosen
entries in file order over and over, `Run` = nil, sink closed — whatever the position of the chosen entries in the file
(e.g. all of them behind the first `limit` entries) and whatever `preload` says. -/
theorem C08_pick_count (k : Kind) (preload : Bool) (b : Bounds) (n : Nat) (pick : List Nat) (m : Nat)
    (hk : k.hasFilter = true) (hf : 0 < (chosenOf n pick).length)
    (hm : Spec.C08.expected b.limit b.passes (chosenOf n pick).length = some m) :
    ∃ o, runPick ⟨k, preload, b, none⟩ n pick = some o ∧ o.delivered = cycTake (chosenOf n pick) m ∧
      o.delivered.length = m ∧ o.run = .nil ∧ o.sinkClosed = true := by
  rw [expected_eq_target _ _ _ hf] at hm
  obtain ⟨o, h1, h2, h3, h4⟩ := C08_pick_run ⟨k, preload, b, none⟩ n pick m hk hf hm
  refine ⟨o, h1, h2, by rw [h2, length_cycTake _ _ hf], ?_, h3⟩
  rcases h4 with h | ⟨_, h⟩
  · exact h
  · simp at h

/-- **preload does not matter** (with or without a chosencases option, any cancellation point): the same ammo, the same
result of `Run` -/
theorem C08_pick_preload (k : Kind) (b : Bounds) (cancelAt : Option Nat) (n : Nat) (pick : List Nat) (T : Nat)
    (hk : k.hasFilter = true) (hf : 0 < (chosenOf n pick).length)
    (hT : target b.limit b.passes (chosenOf n pick).length cancelAt = some T) :
    runPick ⟨k, true, b, cancelAt⟩ n pick = runPick ⟨k, false, b, cancelAt⟩ n pick :=
  (runPick_spec ⟨k, true, b, cancelAt⟩ n pick T hk hf hT).trans (runPick_spec ⟨k, false, b, cancelAt⟩ n pick T hk hf hT).symm

/-- a chosencases option that lists every entry is no filter: `runPick` is `run` -/
theorem C08_pick_all (inp : Input) (n : Nat) (pick : List Nat) (T : Nat) (hk : inp.kind.hasFilter = true) (hn : 0 < n)
    (hall : ∀ i, i < n → pick.contains i = true)
    (hT : target inp.b.limit inp.b.passes n inp.cancelAt = some T) :
    runPick inp n pick = run inp n := by
  have hch : chosenOf n pick = List.range n :=
    List.filter_eq_self.mpr fun i hi => hall i (List.mem_range.mp hi)
  have hT' : target inp.b.limit inp.b.passes (chosenOf n pick).length inp.cancelAt = some T := by
    rw [hch, List.length_range]; exact hT
  rw [runPick_spec inp n pick T hk (by rw [hch, List.length_range]; exact hn) hT', hch, cycTake_range n T hn]
  unfold run
  rw [hT]
  exact (runFuel_range inp n T hn hT).symm

/-- **Spec holds of the model** for the chosencases cells the harness generates (cap > the expected count of a bounded
cell, cap ≥ 1): `n` of the Spec's cell = the number of chosen entries, `fileN` = the entries of the file -/
theorem C08_pick_spec_holds (k : Kind) (preload : Bool) (limit passes n cap : Nat) (pick : List Nat)
    (hk : k.hasFilter = true) (hf : 0 < (chosenOf n pick).length) (hcap : 0 < cap)
    (hbig : ∀ m, Spec.C08.expected limit passes (chosenOf n pick).length = some m → m < cap) :
    Spec.C08.holds { limit, passes, n := (chosenOf n pick).length, cap, fileN := n }
      (Drv.C08.obsOf cap 0 (runPick ⟨k, preload, ⟨limit, passes⟩, some cap⟩ n pick)) = true := by
  have hT := target_cap limit passes (chosenOf n pick).length cap n hf hcap
  rw [runPick_spec ⟨k, preload, ⟨limit, passes⟩, some cap⟩ n pick _ hk hf hT]
  exact holds_obsOf _ _ (length_cycTake _ _ hf) rfl
    ((kindEnd_cases k (tgt_of_target _ _ _ _ _ hf hT)).imp id fun h => ⟨h.1, hcap, Nat.le_of_eq (Option.some.inj h.2)⟩)

/-! ### data sources of the generic JSON provider

`DecodeProvider.Run` reads its data source through `ioutil2.NewMultiPassReader`, which needs a source that can `Seek`.
What `OpenSource` of each source of core/datasource hands out is REGENERATED (`Gen.ProvLoops.srcOpensFile / Inline / Buffer /
Reader`, by classifying with go/types what every `return` of the method hands out; `Bridge.ProvLoops.srcOpens_eq` proves it
equal to `Model.C08.opensOf`), and so is the fallback of `NewMultiPassReader` for a source without Seek (`mprOnce`, bridged to
`Model.C08.effPasses` by `mprOnce_eq`). -/

/-- the property's count clause for the generic JSON provider over a data source of kind `k` -/
def C08_src_statement : Prop :=
  ∀ (k : SrcKind) (b : Bounds) (n m : Nat), 0 < n → Spec.C08.expected b.limit b.passes n = some m →
    ∃ o, runSrc k ⟨.genericJson, false, b, none⟩ n = some o ∧ o.delivered = cyc n m ∧ o.run = .nil ∧ o.sinkClosed = true

/-- **every source that can be rewound** — a file, inline data (`type: inline`), a reader that can Seek with or without a
Close of its own — behaves like the file source all the other theorems are about: `runSrc` IS `run`. -/
theorem C08_src_partial (k : SrcKind) (hk : k ≠ .readCloser ∧ k ≠ .reader ∧ k ≠ .buffer) (b : Bounds) (n m : Nat) (hn : 0 < n)
    (hm : Spec.C08.expected b.limit b.passes n = some m) :
    runSrc k ⟨.genericJson, false, b, none⟩ n = run ⟨.genericJson, false, b, none⟩ n ∧
    ∃ o, runSrc k ⟨.genericJson, false, b, none⟩ n = some o ∧ o.delivered = cyc n m ∧ o.run = .nil ∧ o.sinkClosed = true := by
  have hs := runSrc_seekable k ((seekable_iff k).mpr hk) ⟨.genericJson, false, b, none⟩ rfl n
  refine ⟨hs, ?_⟩
  rw [hs]
  exact C08_count .genericJson false b n m hn hm

/-- a source that cannot be rewound (a ReadCloser without Seek, a plain io.Reader, a bytes.Buffer) is read ONCE: `min⁺(limit, n)` ammo whatever
`passes` says; the run still ends cleanly -/
theorem C08_src_once (k : SrcKind) (hk : k = .readCloser ∨ k = .reader ∨ k = .buffer) (b : Bounds) (n m : Nat) (hn : 0 < n)
    (hm : Spec.C08.expected b.limit 1 n = some m) :
    ∃ o, runSrc k ⟨.genericJson, false, b, none⟩ n = some o ∧ o.delivered = cyc n m ∧ o.run = .nil ∧ o.sinkClosed = true := by
  have hs : k.seekable = false := by rcases hk with rfl | rfl | rfl <;> rfl
  unfold runSrc effPasses
  rw [hs]
  exact C08_count .genericJson false ⟨b.limit, 1⟩ n m hn hm

/-- … so the count clause is FALSE for such a source: one entry, `passes: 2` — two ammo asked for, one delivered -/
theorem C08_src_counterexample : ¬ C08_src_statement := by
  intro h
  obtain ⟨o, h1, h2, _⟩ := h .reader ⟨0, 2⟩ 1 2 (by omega) (by decide)
  have : (runSrc .reader ⟨.genericJson, false, ⟨0, 2⟩, none⟩ 1).map (·.delivered) = some (cyc 1 2) := by
    rw [h1]; simp [h2]
  revert this
  decide

/-! ### scenario weights

The "entries" of a scenario file are what a pass of the scenario provider replays: scenario `i` in file order `weight_i / g`
times in a row (`Model.C08.spread`, `g` = gcd of the weights, weight 0 = 1). -/

/-- **count with scenario weights**: every weight vector of a non-empty scenario file, every limit and passes: exactly
`min⁺(limit, passes × entries of a pass)` ammo, the spread list over and over — the k-th ammo is scenario
`(spread ws)[k mod entries]` —, `Run` = nil, sink closed -/
theorem C08_weights_count (k : Kind) (b : Bounds) (ws : List Nat) (hws : ws ≠ []) (m : Nat)
    (hm : Spec.C08.expected b.limit b.passes (spread ws).length = some m) :
    ∃ o, runWeights ⟨k, false, b, none⟩ ws = some o ∧
      o.delivered = (List.range m).map (fun i => (spread ws).getD (i % (spread ws).length) 0) ∧
      o.delivered.length = m ∧ o.run = .nil ∧ o.sinkClosed = true := by
  have hn : 0 < (spread ws).length := by
    have := (length_spread ws).2
    have : 0 < ws.length := by cases ws with | nil => exact absurd rfl hws | cons a l => simp
    omega
  obtain ⟨o, h1, h2, h3, h4⟩ := C08_count k false b _ m hn hm
  refine ⟨{ o with delivered := o.delivered.map fun j => (spread ws).getD j 0 }, ?_, ?_, ?_, h3, h4⟩
  · simp [runWeights, h1]
  · simp [h2, cyc, List.map_map, Function.comp_def]
  · simp [h2, cyc]

/-- **what a pass is made of**: it has `Σ weight_i / g` entries, at least one per scenario, and scenario `j` occurs exactly
`weight_j / g` times in it (a weight 0 counting as 1) — in particular equal weights give one entry each, whatever the
common value -/
theorem C08_weights_share (ws : List Nat) (j : Nat) (hj : j < ws.length) :
    (spread ws).length = (spreadCounts ws).sum ∧ ws.length ≤ (spread ws).length ∧
    (spread ws).count j = (if ws.getD j 0 = 0 then 1 else ws.getD j 0) / gcdList (normWeights ws) ∧
    0 < (spread ws).count j := by
  have hc : (spread ws).count j = (spreadCounts ws).getD j 0 := by
    have := count_spreadFrom 0 (spreadCounts ws) j
    simpa [spread] using this
  have hlen : (spreadCounts ws).length = ws.length := by simp [spreadCounts, normWeights]
  have hget : (spreadCounts ws).getD j 0 = (if ws.getD j 0 = 0 then 1 else ws.getD j 0) / gcdList (normWeights ws) := by
    simp [spreadCounts, normWeights, List.getD_eq_getElem?_getD, List.getElem?_map, List.getElem?_eq_getElem hj]
  refine ⟨(length_spread ws).1, (length_spread ws).2, by rw [hc, hget], ?_⟩
  rw [hc]
  have hmem : (spreadCounts ws).getD j 0 ∈ spreadCounts ws := by
    rw [List.getD_eq_getElem?_getD, List.getElem?_eq_getElem (by rw [hlen]; exact hj)]
    exact List.getElem_mem _
  exact spreadCounts_pos ws _ hmem

-- non-vacuity: weights 2,4,6 (gcd 2: a pass is 0,1,1,2,2,2), limit 8, one and a half passes
example : spread [2, 4, 6] = [0, 1, 1, 2, 2, 2] ∧ spread [0, 2] = [0, 1, 1] ∧ spread [5] = [0] ∧ spread [2, 2] = [0, 1] := by decide
example : (runWeights ⟨.httpScenario, false, ⟨8, 2⟩, none⟩ [2, 4, 6]).map (fun o => (o.delivered, o.run, o.sinkClosed))
    = some ([0, 1, 1, 2, 2, 2, 0, 1], .nil, true) := by decide

/-! ### machine integers

limit, passes and the counters of the replay loops are Go `uint`s; `Model.C08.replayStepU` is the loop body of
runPreloaded / scenario `Run` over `UInt64` with modular arithmetic. -/

/-- **no wrap**: for EVERY 64-bit limit, passes and length and every counter below 2^64 - 1 the loop body over machine
integers does what the loop body over `Nat` does (`replayStepN`, a hand transcription of the regenerated `runPreloadedStep` /
`scenarioRunStep`, not bridged to them): the `Nat` models are right for all values of the options, "practically unbounded" ones included. -/
theorem C08_replay_no_wrap (passes limit length ammoNum : UInt64) (c : Bool) (hinc : ammoNum.toNat + 1 < 2 ^ 64) :
    actToNat (replayStepU passes limit length c ammoNum)
      = replayStepN passes.toNat limit.toNat length.toNat c ammoNum.toNat :=
  replayStepU_eq passes limit length ammoNum c hinc

/-- **no wrap in the streaming decoders**: one round of the reading loop of uri / uripost / raw `Scan` (`roundEof`) and of
jsonline `Scan` (`roundTop`) — the functions the regenerated rounds are bridged to — and the limit check that opens every
`Scan` and every iteration of runFullScan, written over Go's 64-bit `uint` (`d.ammoNum`, `d.passNum`, `Limit`, `Passes`),
are the `Nat` ones for EVERY value of the options and all counters that have not themselves wrapped.  With
`C08_replay_no_wrap` this covers every loop of the `uint` kinds (`Bridge.ProvLoops.optTypes_eq`: the option types are
regenerated); the `int` kinds (grpc/json, generic JSON) compare counters that only grow by one with options below 2^63. -/
theorem C08_scan_no_wrap (passes limit ammoNum passNum : UInt64) (c : Bool) (rd : Rd)
    (ha : ammoNum.toNat + 1 < 2 ^ 64) (hp : passNum.toNat + 1 < 2 ^ 64) :
    roundEofU passes c rd ammoNum passNum = roundEof passes.toNat c rd ammoNum.toNat passNum.toNat ∧
    roundTopU passes c rd ammoNum passNum = roundTop passes.toNat c rd ammoNum.toNat passNum.toNat ∧
    limitReachedU limit ammoNum = decide (limit.toNat ≠ 0 ∧ limit.toNat ≤ ammoNum.toNat) :=
  ⟨roundEofU_eq passes ammoNum passNum c rd ha hp, roundTopU_eq passes ammoNum passNum c rd ha hp, limitReachedU_eq limit ammoNum⟩

-- non-vacuity: passes = 2^63 at the end of the first pass: the pass is counted, the file is rewound
example : roundEofU 9223372036854775808 false .eof 3 0 = .rewind 3 1 ∧ limitReachedU 9223372036854775808 5 = false := by decide

/-- the same claim for the loop with a precomputed pass bound `passLimit := Passes * length` -/
def C08_replay_product_statement : Prop :=
  ∀ (passes limit length ammoNum : UInt64) (c : Bool), ammoNum.toNat + 1 < 2 ^ 64 →
    actToNat (replayStepProductU passes limit length c ammoNum)
      = replayStepN passes.toNat limit.toNat length.toNat c ammoNum.toNat

/-- … is FALSE: passes = 2^63, two entries, limit 5 — the product wraps to 0 and the first iteration reports the pass
limit with nothing sent, where the division form sends entry 0 -/
theorem C08_replay_product_counterexample : ¬ C08_replay_product_statement := by
  intro h
  have := congrArg (fun a => match a with | Act.offer _ _ => true | _ => false) (h 9223372036854775808 5 2 0 false (by decide))
  revert this
  decide

-- non-vacuity: the chosen entries all lie behind the first `limit` entries of the file, preload on and off
example : (runPick ⟨.uri, true, ⟨3, 1⟩, none⟩ 6 [3, 4, 5]).map (fun o => (o.delivered, o.run, o.sinkClosed)) = some ([3, 4, 5], .nil, true) ∧
    (runPick ⟨.uri, false, ⟨3, 1⟩, none⟩ 6 [3, 4, 5]).map (fun o => (o.delivered, o.run, o.sinkClosed)) = some ([3, 4, 5], .nil, true) := by decide
example : (runPick ⟨.grpcJson, false, ⟨5, 0⟩, none⟩ 4 [1, 3]).map (fun o => (o.delivered, o.run)) = some ([1, 3, 1, 3, 1], .nil) := by decide
example : Kind.hasFilter .jsonArray = true ∧ 0 < (chosenOf 4 [3]).length ∧ Spec.C08.expected 3 0 (chosenOf 4 [3]).length = some 3 := by decide
example : (runSrc .inline ⟨.genericJson, false, ⟨5, 3⟩, none⟩ 2).map (·.delivered) = some [0, 1, 0, 1, 0] ∧
    (runSrc .buffer ⟨.genericJson, false, ⟨5, 3⟩, none⟩ 2).map (·.delivered) = some [0, 1] := by decide
example : SrcKind.seekable .readSeekCloser = true ∧ SrcKind.seekable .reader = false := by decide

/-! ## the size of an entry and the `maxammosize` option -/

/-- **every line that fits is read, in every pass** — grpc/json over a file whose lines have ANY lengths below the token
limit the configuration gives its scanner (`maxammosize`, or bufio.MaxScanTokenSize when it is not set; the limit is
REGENERATED pass by pass, `Bridge.ProvLoops.grpcScanMax_eq`) is the cell without sizes — with and without a chosencases
option, for every limit, passes and cancellation point: all the theorems about `run` / `runPick` hold of it. -/
theorem C08_size_run (inp : Input) (hk : inp.kind = .grpcJson) (sizes : List Nat) (mas : Nat)
    (hfit : ∀ len, len ∈ sizes → len < tokMax mas) :
    runGrpcSz inp sizes mas none = run inp sizes.length ∧
    ∀ pick, runGrpcSz inp sizes mas (some pick) = runPick inp sizes.length pick :=
  ⟨runGrpcSz_eq_run inp hk sizes mas hfit, fun pick => runGrpcSz_eq_runPick inp hk sizes mas pick hfit⟩

/-- **count with sizes**: a non-empty grpc/json file whose lines fit, any limit and passes: exactly `min⁺(limit, passes·n)`
ammo in file order, `Run` = nil, sink closed — however large the lines and the option are -/
theorem C08_size_count (b : Bounds) (sizes : List Nat) (mas m : Nat) (hn : sizes ≠ [])
    (hfit : ∀ len, len ∈ sizes → len < tokMax mas)
    (hm : Spec.C08.expected b.limit b.passes sizes.length = some m) :
    ∃ o, runGrpcSz ⟨.grpcJson, false, b, none⟩ sizes mas none = some o ∧ o.delivered = cyc sizes.length m ∧
      o.run = .nil ∧ o.sinkClosed = true := by
  have hpos : 0 < sizes.length := by cases sizes with | nil => exact absurd rfl hn | cons a l => simp
  rw [(C08_size_run ⟨.grpcJson, false, b, none⟩ rfl sizes mas hfit).1]
  exact C08_count .grpcJson false b sizes.length m hpos hm

/-- **a line that does not fit ends `Run` at once with the scanner's error** (no retry, no spin, before the limit is
looked at), whatever the state of the loop -/
theorem C08_size_unreadable {α : Type} (file : List α) (chosen : α → Bool) (b : Bounds) (cancelAt : Option Nat)
    (rd : Nat → Nat → Bool) (fuel : Nat) (s : GrpcSt) (out : List α)
    (hpos : s.pos < file.length) (hrd : rd s.passNum s.pos = false) :
    grpcLoopSz file chosen b cancelAt rd (fuel + 1) s out = some (out, .errOther) :=
  grpcLoopSz_unreadable file chosen b cancelAt rd fuel s out hpos hrd

/-- **what is readable does not depend on the pass** — for every kind, option value, file and position: the reader of a
later pass reads exactly the lines the reader of the first pass reads; uri reads every line a 64-bit machine can hold,
the readers without a token limit (uripost, raw, http/json, the generic JSON provider) every line -/
theorem C08_size_every_pass (k : Kind) (mas : Nat) (sizes : List Nat) (p i : Nat) :
    readable k mas sizes p i = readable k mas sizes 1 i ∧
    ((∀ len, len ∈ sizes → len < maxInt) → readable .uri mas sizes p i = true) ∧
    (k ≠ .grpcJson ∧ k ≠ .uri → readable k mas sizes p i = true) :=
  ⟨rfl, fun h => readable_uri mas sizes h p i, fun h => readable_unlimited k h mas sizes p i⟩

/-- the line-level reader of `C08_scan_lines` over lines with lengths that all fit is the reader without sizes: the
theorems about `scanFile` / `loadLines` hold of sized files -/
theorem C08_size_lines (f : Lines) (fits : Nat → Bool) (hfit : ∀ i, i < f.length → fits i = true) (pos : Nat) :
    rdAtSz f fits pos = rdAt f pos := rdAtSz_eq f fits hfit pos

/-- the count clause for a provider whose scanner gets the configured buffer in the FIRST pass only (the set-up hoisted
out of the pass loop, a plain `bufio.NewScanner` after the seek) -/
def C08_size_first_only_statement : Prop :=
  ∀ (b : Bounds) (sizes : List Nat) (mas m : Nat), sizes ≠ [] → (∀ len, len ∈ sizes → len < tokMax mas) →
    Spec.C08.expected b.limit b.passes sizes.length = some m →
    ∃ out, grpcLoopSz (List.range sizes.length) (fun _ => true) b none
        (fun p i => match sizes[i]? with | some len => fitsTok (lineMaxFirstOnly mas p) len | none => true)
        (fuelFor m sizes.length sizes.length) GrpcSt.init [] = some (out, .nil) ∧ out = cyc sizes.length m

/-- … is FALSE: one line of 70000 bytes, `maxammosize: 100000`, `passes: 2` — the first pass delivers it, the second
ends with bufio.ErrTooLong -/
theorem C08_size_first_only_counterexample : ¬ C08_size_first_only_statement := by
  intro h
  obtain ⟨out, h1, _⟩ := h ⟨0, 2⟩ [70000] 100000 2 (by simp) (by simp [tokMax]) (by decide)
  have e : grpcLoopSz (List.range [70000].length) (fun _ => true) ⟨0, 2⟩ none
      (fun p i => match [70000][i]? with | some len => fitsTok (lineMaxFirstOnly 100000 p) len | none => true)
      (fuelFor 2 [70000].length [70000].length) GrpcSt.init [] = some ([0], .errOther) := by decide
  rw [e] at h1
  cases h1

-- non-vacuity: two lines of 70000 and 60 bytes, maxammosize 100000, three passes, limit 5
example : (runGrpcSz ⟨.grpcJson, false, ⟨5, 3⟩, none⟩ [70000, 60] 100000 none).map (fun o => (o.delivered, o.run, o.sinkClosed))
    = some ([0, 1, 0, 1, 0], .nil, true) ∧ (∀ len, len ∈ [70000, 60] → len < tokMax 100000) := by decide
-- the same file without the option: the first line is refused, `Run` reports it, nothing delivered; big line second: one ammo
example : (runGrpcSz ⟨.grpcJson, false, ⟨5, 3⟩, none⟩ [70000, 60] 0 none).map (fun o => (o.delivered, o.run, o.sinkClosed))
    = some ([], .errOther, true) ∧
    (runGrpcSz ⟨.grpcJson, false, ⟨1, 0⟩, none⟩ [60, 70000] 0 none).map (fun o => (o.delivered, o.run)) = some ([0], .errOther) := by decide
-- hypotheses of C08_size_unreadable
example : (GrpcSt.init).pos < (List.range 2).length ∧ readable .grpcJson 0 [70000, 60] GrpcSt.init.passNum GrpcSt.init.pos = false := by decide

/-! ## composition with the regenerated `config.SpreadNames`; the Spec on cut cells -/

/-- **composition with the regenerated `config.SpreadNames`** (gen area `c15scen`, owned by C15, imported read-only and
regenerated in C08's runs too): for EVERY weight vector of two or more scenarios the divisor the Go code computes
(`math.GCDM` over the effective weights, regenerated statement by statement, bridged by `Bridge.C15Scen.GCDM_eq`) is the
gcd `Model.C08.spreadCounts` divides by, and the number of copies of a scenario of weight `w` it puts into the ring
(`int(weight / div)` over the effective weight, 0 counting as 1) is the count `Model.C08.spreadCounts` gives it — so
`C08_weights_count` / `C08_weights_share` are about what the code builds.  (One scenario: `spreadSingle` = one copy.) -/
theorem C08_weights_regenerated (ws : List Nat) (h2 : 2 ≤ ws.length) :
    Gen.C15Scen.spreadDiv (ws.map fun (w : Nat) => Gen.C15Scen.spreadEffWeight (w : Int)) = some ((gcdList (normWeights ws) : Nat) : Int) ∧
    (spreadCounts ws).map (fun (c : Nat) => (c : Int)) =
      ws.map (fun (w : Nat) => Gen.C15Scen.spreadCnt (Gen.C15Scen.spreadEffWeight (w : Int)) ((gcdList (normWeights ws) : Nat) : Int)) ∧
    Gen.C15Scen.spreadSingle = (1, 1) := by
  have hmap : (ws.map fun (w : Nat) => Gen.C15Scen.spreadEffWeight (w : Int)) = (normWeights ws).map (fun (w : Nat) => (w : Int)) := by
    simp [normWeights, List.map_map, Function.comp_def, effWeight_cast]
  refine ⟨?_, ?_, rfl⟩
  · unfold Gen.C15Scen.spreadDiv
    rw [hmap, Bridge.C15Scen.GCDM_eq, Proofs.C15.GCDM_nat (normWeights ws) ?_ (by simpa [normWeights] using h2), gcdList_eq_c15]
    intro w hw
    simp only [normWeights, List.mem_map] at hw
    obtain ⟨v, _, rfl⟩ := hw
    split <;> omega
  · simp only [spreadCounts, normWeights, List.map_map, Function.comp_def]
    apply List.map_congr_left
    intro w _
    rw [effWeight_cast]
    rfl

/-- **Spec holds of Model.run, cut cells** — the drain cells the harness cuts at or below the bound (`cap ≤ M`: the
consumer that makes the `cap`-th acquisition cancels): exactly `cap` acquired, `Run` = nil or Canceled, sink closed -/
theorem C08_spec_holds_cut (k : Kind) (preload : Bool) (limit passes n cap m : Nat) (hn : 0 < n) (hcap : 0 < cap)
    (hE : Spec.C08.expected limit passes n = some m) (hle : cap ≤ m) :
    Spec.C08.holds { limit, passes, n, cap }
      (Drv.C08.obsOf cap 0 (run ⟨k, preload, ⟨limit, passes⟩, some cap⟩ n)) = true :=
  holds_run k preload limit passes n cap hn hcap

/-- **Spec holds of Model.run** for EVERY drain cell with a cap (cut or not, bounded or not) -/
theorem C08_spec_holds_all (k : Kind) (preload : Bool) (limit passes n cap : Nat) (hn : 0 < n) (hcap : 0 < cap) :
    Spec.C08.holds { limit, passes, n, cap }
      (Drv.C08.obsOf cap 0 (run ⟨k, preload, ⟨limit, passes⟩, some cap⟩ n)) = true :=
  holds_run k preload limit passes n cap hn hcap

example : Spec.C08.expected 5 2 3 = some 5 ∧ (3 : Nat) ≤ 5 := by decide

/-! ## non-vacuity of the fairness hypothesis -/

/-- **`C08_conc_fair_end` is not vacuous**: a schedule that makes minimal progress exists -/
theorem C08_conc_fair_end_nonvacuous : Progressing fairInp 2 fairInp.kind.chanCap 2 fairSched := by
  have hstuck : Stuck fairInp 2 0 2 (stateAt fairInp 2 0 2 fairSched 10) :=
    stuck_of_done _ _ _ _ _ (by decide) (by decide) (by decide) (by decide)
  intro t hns
  by_cases ht : t < 10
  · have key : ∀ t, t < 10 → ∃ t', t' < 10 ∧ t ≤ t' ∧ fairSched t' ≠ .cancel ∧
        ((stateAt fairInp 2 0 2 fairSched t').next fairInp 2 0 2 (fairSched t')).isSome = true := by decide
    obtain ⟨t', _, h1, h2, h3⟩ := key t ht
    exact ⟨t', h1, h2, h3⟩
  · exfalso
    apply hns
    obtain ⟨j, rfl⟩ : ∃ j, t = 10 + j := ⟨t - 10, by omega⟩
    have : stateAt fairInp 2 fairInp.kind.chanCap 2 fairSched (10 + j) = stateAt fairInp 2 0 2 fairSched 10 := fairSched_const j
    rw [this]
    exact hstuck

end Pandora.Props.C08
