/-
C04 — Timing: no early shots; discard_overflow bounds lateness to the 2 s window.

The theorems are about `Pandora.Model.C04`: the Waiter, the loop of `instance.Run` (`runLoop`, one pass = `iteration`) and any
number of instances drawing from one shared schedule (`pstep`/`prun`).  They hold for ALL token sequences, waiter states, clock
and response-time histories (`List Iter`: one record per pass with the token, the instant it was picked up, the clock reading, the
instant `Wait` returned, the response time) and ALL interleavings of the instances' schedule accesses (`List PStep`, any instance
count), under explicit clock hypotheses (`ClockOK`): readings are non-decreasing; a reading is not later than the instant at which
it is used; a timer does not fire early.

Clause → theorem:
* no request fired before its scheduled time ............ `C04_no_early_wait`, `C04_no_early`, `C04_pool_timing`
* on: ≥ 2 s late when picked up ⇒ not fired, discarded .. `C04_discarded_if_late`, `C04_late_is_discarded`, `C04_discard_sample`
  (cancellation corner: `C04_discarded_if_late_any_ctx_statement` / `…_counterexample`; code as found: `…_counterexample_old`)
* on: < 2 s late ⇒ never discarded ...................... `C04_not_discarded_if_fresh`
* on: run length ≤ profile + 2 s + response ............. `C04_run_bounded`, `C04_run_end_bounded`
* off: nothing discarded, every token fired ............. `C04_off`, `C04_every_drawn_token_acted`, `C04_pool_off_all_fired`
* all instance counts ................................... `C04_pool_conservation`, `C04_pool_each_token_acted_once`,
  `C04_pool_on_all_acted`, `C04_pool_timing`
* the default is "on" ................................... `C04_default_on`
* the model is the current source ....................... `C04_model_is_source`, `C04_loop_is_source`, `C04_pool_schedule_is_source`
* progress: timers fire, Shoot returns, fair scheduling . `C04_sim_meets_hypotheses`, `C04_sim_terminates`, `C04_sim_off_all_fired`,
  `C04_sim_run_bounded`, `C04_pool_progress`
* the cancellation corner is bounded .................... `C04_cancel_one_late_shot`
* `Time.Sub` saturation ................................. `C04_sub_saturation`
* the documentation page promises the source's constants  `C04_doc_is_source`
* "a timer does not fire early" reduced to timers armed on an empty channel: `C04_timer_channel_empty_at_arm`,
  `C04_no_early_fresh_timer`, `C04_timer_is_source` (`C04_no_early_any_ctx_statement` / `…_counterexample`: a Waiter re-used with
  another context); whole-run `Time.Sub` saturation `C04_sub_saturation_run`; run length of a pool `C04_pool_run_bounded`
  (`C04_run_bounded_of_drawn`); the phout line of a discarded token `C04_discard_sample_phout`; `C04_cached_reading_is_an_optimisation`
* a closed world for a POOL (every instance with a clock of its own, any interleaving, late starters): `C04_pool_sim_is_sim`,
  `C04_pool_sim_meets_hypotheses`, `C04_pool_sim_decisions`, `C04_pool_sim_run_bounded`, `C04_pool_sim_off_all_fired`,
  `C04_pool_sim_all_handed_out`

The model is tied to the current source by `Pandora.Bridge.Waiter` (regenerated `Wait`, `IsSlowDown`, `IsFinished`, constants, the
whole pass of the loop of `instance.Run`, the cli default and its wiring) and by the real-time correspondence run (harness/cmd/c04).

"late ⇒ discarded" is a theorem of the REPAIRED `Wait` (`Variant.fresh`, /repo commit 1006bde) only; for the code as it was found
(`Variant.cached`) it is refuted by `C04_discarded_if_late_counterexample_old`.
-/
import Pandora.Proofs.C04
import Pandora.Proofs.C04Pool
import Pandora.Proofs.C04Sim
import Pandora.Proofs.C04Ext
import Pandora.Proofs.C04PoolSim
import Pandora.Bridge.Waiter
import Pandora.Props.C01

namespace Pandora.Props.C04
open Pandora.Go.C04 Pandora.Model.C04 Pandora.Proofs.C04

/-! ### no early shots -/

/-- One `Wait` call, either variant, from any waiter state whose cached reading is not ahead of the clock:
if it returns true at instant `e.ret` then a token was drawn and `e.ret ≥` the token's time. -/
theorem C04_no_early_wait (v : Variant) (w : Waiter) (e : Env) (hok : EnvOK e) (hinv : w.lastNow ≤ e.now)
    (h : (waitV v w e).ok = true) : ∃ next, e.tok = some next ∧ next ≤ e.ret := by
  obtain ⟨next, h1, h2, _⟩ := waitV_ok v w e hok hinv h
  exact ⟨next, h1, h2⟩

/-- Every action of the instance loop (Shoot or Report of a discarded sample), for every history: it happens at an
instant ≥ the scheduled time of its token. -/
theorem C04_no_early (v : Variant) (d : Bool) (w : Waiter) (h : List Iter) (hc : ClockOK w h) :
    ∀ ev ∈ (runLoop v d w h).1, ∃ next, ev.iter.env.tok = some next ∧ next ≤ ev.iter.env.ret :=
  runLoop_no_early v d w h hc

/-! ### the 2 s window -/

/-- A token that is reported as discarded was at least 2 s late at the instant of the report: a request less than
2 s late is never discarded (both variants: the recorded overdue never exceeds the real lateness). -/
theorem C04_not_discarded_if_fresh (v : Variant) (w : Waiter) (h : List Iter) (hc : ClockOK w h) :
    ∀ it s, Ev.discard it s ∈ (runLoop v true w h).1 →
      ∃ next, it.env.tok = some next ∧ maxOverdue ≤ it.env.ret - next := by
  intro jt s hev
  refine runLoop_forall (P := fun w h ev => ClockOK w h → ∀ jt s, ev = Ev.discard jt s →
      ∃ next, jt.env.tok = some next ∧ maxOverdue ≤ jt.env.ret - next)
    (fun w it _ hk hc jt s hev => by
      obtain ⟨rfl, -, hfire⟩ := actOf_eq_discard hev
      obtain ⟨next, h1, _, h3⟩ := waitV_ok v w jt.env hc.head.1 hc.head.2 hk
      -- not fired: `IsSlowDown` saw an overdue of 2 s or more, and the overdue is at most the real lateness
      simp [fires, isSlowDown, slowCond] at hfire
      exact ⟨next, h1, by omega⟩)
    (fun _ _ _ _ ih hc => ih (hc.tail v)) w h _ hev hc jt s rfl

/-- "picked up ≥ 2 s late ⇒ not fired", as a statement about a variant of `Wait`. -/
def C04_discarded_if_late_statement (v : Variant) : Prop :=
  ∀ (w : Waiter) (h : List Iter), ClockOK w h → ReadAfterPick h →
    ∀ it, Ev.shoot it ∈ (runLoop v true w h).1 → it.ctxDoneSlow = false →
      ∀ next, it.env.tok = some next → it.env.pick - next < maxOverdue

/-- REPAIRED `Wait`, discard_overflow on: a token whose scheduled time is two seconds or more in the past when the
instance picks it up is not fired (unless the run is cancelled at that very moment: `IsSlowDown` answers false on a done
context). -/
theorem C04_discarded_if_late : C04_discarded_if_late_statement .fresh := by
  intro w h hc hp jt hev
  refine runLoop_forall (P := fun w h ev => ClockOK w h → ReadAfterPick h → ∀ jt, ev = Ev.shoot jt →
      jt.ctxDoneSlow = false → ∀ next, jt.env.tok = some next → jt.env.pick - next < maxOverdue)
    (fun w it rest hk hc hp jt hev hctx next htok => by
      obtain ⟨rfl, hfire⟩ := actOf_eq_shoot hev
      -- fired: the overdue `IsSlowDown` saw, which is the lateness against this call's reading, is below 2 s
      have hov := wait_overdue w jt.env hc.head.2 next htok hk
      have hpick := hp jt List.mem_cons_self
      simp [fires, isSlowDown, slowCond, hctx] at hfire
      split at hov <;> omega)
    (fun _ _ _ _ ih hc hp => ih (hc.tail .fresh) hp.tail) w h _ hev hc hp jt rfl

/-- The code as found (lateness judged against the cached reading) does NOT have the property: a waiter takes
token T0-1 s at T0 (fired, 1 s late), spends 1 s in the shot, then picks up token T0-1.5 s at T0+1 s — 2.5 s late — and
fires it, because 1.5 s is its lateness against the reading cached at T0. (corpus/C04.txt, first line.) -/
theorem C04_discarded_if_late_counterexample_old : ¬ C04_discarded_if_late_statement .cached := by
  intro hs
  let i1 : Iter := { env := { tok := some 9000000000, pick := 10000000000, now := 10000000000, arm := 10000000000, ret := 10000000000 }, dur := 1000000000 }
  let i2 : Iter := { env := { tok := some 8500000000, pick := 11000000000, now := 11000000000, arm := 11000000000, ret := 11000000000 } }
  have h := hs Waiter.init [i1, i2] (by decide) (by decide) i2 (by decide) rfl 8500000000 rfl
  revert h
  decide

/-- The length of a run (REPAIRED `Wait`, discard_overflow on) with the hypotheses asked only of the passes in which a token was
drawn and waited for; `C04_run_bounded` below asks them of every pass and states what they mean. -/
theorem C04_run_bounded_of_drawn (w : Waiter) (h : List Iter) (start D R ε : Int) (hc : ClockOK w h) (hp : ReadAfterPick h)
    (htoks : ∀ it ∈ drawn .fresh w h, ∀ next, it.env.tok = some next → next ≤ start + D)
    (hresp : ∀ it ∈ drawn .fresh w h, it.dur ≤ R)
    (hlag : ∀ it ∈ drawn .fresh w h, ∀ next, it.env.tok = some next → it.env.ret ≤ max it.env.pick next + ε)
    (hctx : ∀ it ∈ drawn .fresh w h, it.ctxDoneSlow = false) :
    ∀ it, Ev.shoot it ∈ (runLoop .fresh true w h).1 → it.env.ret + it.dur < start + D + maxOverdue + ε + R := by
  intro it hev
  have hmem : it ∈ drawn .fresh w h := runLoop_iter_mem_drawn .fresh true w h _ hev
  obtain ⟨next, htok, _⟩ := C04_no_early .fresh true w h hc _ hev
  simp only [Ev.iter] at htok
  have hlate := C04_discarded_if_late w h hc hp it hev (hctx it hmem) next htok
  have h1 := htoks it hmem next htok
  have h2 := hresp it hmem
  have h3 := hlag it hmem next htok
  have hm : (0 : Int) < maxOverdue := by decide
  omega

/-- Consequence for the length of a run (REPAIRED `Wait`, discard_overflow on): if every token of the profile lies in
`[_, start + D]`, a response takes at most `R`, and `Wait` returns within `ε` of `max(pick-up instant, token time)`, then
every shot that is fired ENDS before `start + D + 2 s + ε + R` — however slow the target is. -/
theorem C04_run_bounded (w : Waiter) (h : List Iter) (start D R ε : Int) (hc : ClockOK w h) (hp : ReadAfterPick h)
    (htoks : ∀ it ∈ h, ∀ next, it.env.tok = some next → next ≤ start + D)
    (hresp : ∀ it ∈ h, it.dur ≤ R)
    (hlag : ∀ it ∈ h, ∀ next, it.env.tok = some next → it.env.ret ≤ max it.env.pick next + ε)
    (hctx : ∀ it ∈ h, it.ctxDoneSlow = false) :
    ∀ it, Ev.shoot it ∈ (runLoop .fresh true w h).1 → it.env.ret + it.dur < start + D + maxOverdue + ε + R := by
  have hsub := drawn_mem .fresh w h
  exact C04_run_bounded_of_drawn w h start D R ε hc hp (fun it hit => htoks it (hsub it hit))
    (fun it hit => hresp it (hsub it hit)) (fun it hit => hlag it (hsub it hit)) (fun it hit => hctx it (hsub it hit))

/-! ### discard_overflow off, conservation, the discarded sample -/

/-- Every token drawn and waited for produces exactly one action, in order (Shoot or Report of a discarded sample). -/
theorem C04_every_drawn_token_acted (v : Variant) (d : Bool) (w : Waiter) (h : List Iter) :
    (runLoop v d w h).1.map Ev.iter = drawn v w h := by
  exact runLoop_iters v d w h

/-- discard_overflow = false: nothing is discarded and every drawn token is fired, in order. -/
theorem C04_off (v : Variant) (w : Waiter) (h : List Iter) :
    (runLoop v false w h).1 = (drawn v w h).map Ev.shoot := by
  rw [← runLoop_events_map v false id Ev.shoot actOf_off, List.map_id]

/-- The discard branch reports the sample built by the REGENERATED `DiscardedShootSample` — net code 777 (the regenerated
`DiscardedShootCodeError`), tag "discarded" (the regenerated `DiscardedShootTag`) — and it is the only action for that
token: by `C04_every_drawn_token_acted` there is no Shoot for it, and the regenerated discard branch of `instance.Run`
consists of that one Report. -/
theorem C04_discard_sample (v : Variant) (d : Bool) (w : Waiter) (h : List Iter) :
    (∀ it s, Ev.discard it s ∈ (runLoop v d w h).1 →
        s = Gen.Waiter.DiscardedShootSample ∧ s.net = Gen.Waiter.DiscardedShootCodeError ∧ s.net = 777 ∧
        s.tags = Gen.Waiter.DiscardedShootTag ∧ s.tags = "discarded") ∧
    Gen.Waiter.discardBranch = ["i.aggregator.Report(netsample.DiscardedShootSample())"] ∧
    "i.gun.Shoot(ammo)" ∈ Gen.Waiter.fireBranch := by
  refine ⟨fun jt s hev => ?_, Bridge.Waiter.discardBranch_eq, Bridge.Waiter.fireBranch_shoots⟩
  refine runLoop_forall (P := fun _ _ ev => ∀ jt s, ev = Ev.discard jt s →
      s = Gen.Waiter.DiscardedShootSample ∧ s.net = Gen.Waiter.DiscardedShootCodeError ∧ s.net = 777 ∧
      s.tags = Gen.Waiter.DiscardedShootTag ∧ s.tags = "discarded")
    (fun _ _ _ _ jt s hev => by
      obtain ⟨-, rfl, -⟩ := actOf_eq_discard hev
      rw [Bridge.Waiter.DiscardedShootSample_eq]
      exact ⟨rfl, rfl, rfl, rfl, rfl⟩)
    (fun _ _ _ _ ih => ih) w h _ hev jt s rfl

/-- The model the theorems speak about is what the current source says: the regenerated `Wait`, `IsSlowDown` and
fire condition coincide with `wait`, `isSlowDown`, `fires`; `MaxOverdueDuration` is the 2 s of the statement; the timer is
armed for exactly `next - now`. -/
theorem C04_model_is_source (w : Waiter) (e : Env) (c d s : Bool) :
    Gen.Waiter.Wait w e = ((waitV .fresh w e).w, (waitV .fresh w e).ok) ∧
    Gen.Waiter.IsSlowDown w c = isSlowDown w c ∧ Gen.Waiter.fires d s = fires d s ∧
    Gen.Waiter.MaxOverdueDuration = 2000000000 ∧ maxOverdue = Gen.Waiter.MaxOverdueDuration ∧
    (∀ waitFor, Gen.Waiter.timerArmedFor waitFor = waitFor) :=
  ⟨Bridge.Waiter.Wait_eq w e, Bridge.Waiter.IsSlowDown_eq w c, Bridge.Waiter.fires_eq d s, rfl, rfl,
    Bridge.Waiter.timerArmedFor_eq⟩

/-- The whole loop of `instance.Run` is what the current source says: the regenerated pass (IsFinished at the head, Acquire,
`Wait`, then `IsSlowDown` of the SAME waiter, then Shoot | Report) equals the model's `iteration`, of which `runLoop` is the
iteration (`runLoop_cons`); the regenerated `IsFinished` is the model's. -/
theorem C04_loop_is_source (d : Bool) (w : Waiter) (it : Iter) (rest : List Iter) (c : Bool) (left : Int) :
    Gen.Waiter.iteration d w it = iteration .fresh d w it ∧
    Gen.Waiter.IsFinished c left = isFinished c left ∧
    runLoop .fresh d w (it :: rest) =
      (match Gen.Waiter.iteration d w it with
      | (_, .loopEnd) => ([], .loopEnd)
      | (_, .outOfAmmo) => ([], .outOfAmmo)
      | (w', .skip) => runLoop .fresh d w' rest
      | (w', .shoot) => (Ev.shoot it :: (runLoop .fresh d w' rest).1, (runLoop .fresh d w' rest).2)
      | (w', .discard s) => (Ev.discard it s :: (runLoop .fresh d w' rest).1, (runLoop .fresh d w' rest).2)) := by
  refine ⟨Bridge.Waiter.iteration_eq d w it, Bridge.Waiter.IsFinished_eq c left, ?_⟩
  rw [Bridge.Waiter.iteration_eq]
  exact runLoop_cons .fresh d w it rest

/-! ### the statement's positive form, the cancellation corner, the default -/

/-- REPAIRED `Wait`, discard_overflow on: a drawn token that is two seconds or more late when it is picked up IS reported as
the discarded sample (and, by `C04_every_drawn_token_acted`, that Report is its only action). -/
theorem C04_late_is_discarded (w : Waiter) (h : List Iter) (hc : ClockOK w h) (hp : ReadAfterPick h) :
    ∀ it ∈ drawn .fresh w h, it.ctxDoneSlow = false → ∀ next, it.env.tok = some next → maxOverdue ≤ it.env.pick - next →
      Ev.discard it discardedShootSample ∈ (runLoop .fresh true w h).1 := by
  intro it hit hctx next htok hlate
  rw [← C04_every_drawn_token_acted .fresh true w h, List.mem_map] at hit
  obtain ⟨ev, hev, rfl⟩ := hit
  cases ev with
  | shoot jt =>
    have := C04_discarded_if_late w h hc hp jt hev hctx next htok
    simp only [Ev.iter] at hlate
    omega
  | discard jt s =>
    have hs := ((C04_discard_sample .fresh true w h).1 jt s hev).1
    rw [Bridge.Waiter.DiscardedShootSample_eq] at hs
    subst hs
    exact hev

/-- "picked up ≥ 2 s late ⇒ not fired" WITHOUT the hypothesis that the run context is alive when `IsSlowDown` is asked. -/
def C04_discarded_if_late_any_ctx_statement : Prop :=
  ∀ (w : Waiter) (h : List Iter), ClockOK w h → ReadAfterPick h →
    ∀ it, Ev.shoot it ∈ (runLoop .fresh true w h).1 →
      ∀ next, it.env.tok = some next → it.env.pick - next < maxOverdue

/-- That stronger statement is false for the code (`IsSlowDown` answers false on a done context): a run that is cancelled
between the entry `select` of `Wait` and `IsSlowDown` fires a token that is 3 s late. The property quantifies over response-time
histories, not over cancellations; `C04_discarded_if_late` (hypothesis `ctxDoneSlow = false`) is the part that holds. -/
theorem C04_discarded_if_late_any_ctx_counterexample : ¬ C04_discarded_if_late_any_ctx_statement := by
  intro hs
  let i1 : Iter := { env := { tok := some 7000000000, pick := 10000000000, now := 10000000000, arm := 10000000000, ret := 10000000000 },
                     ctxDoneSlow := true }
  have h := hs Waiter.init [i1] (by decide) (by decide) i1 (by decide) 7000000000 rfl
  revert h
  decide

/-- The discard_overflow a pool runs with: a pool section that does not mention the option gets `true` (the regenerated
`readConfig` default, put under the regenerated config key of `InstancePoolConfig.DiscardOverflow`, into the list that is decoded
afterwards; the instances' flag is copied from that field and assigned nowhere else; the block is not conditional on the
config's format or source nor on the position of the section), an explicit value is kept. So the
`discardOverflow = true` theorems describe a default run, `C04_off` a run with `discard_overflow: false`. -/
theorem C04_default_on :
    (∀ g, Gen.Waiter.cliPoolDiscardOverflow g = effectiveDiscard g) ∧
    effectiveDiscard none = true ∧ (∀ b, effectiveDiscard (some b) = b) ∧
    Gen.Waiter.cliDefaultLookupKey = Gen.Waiter.poolConfigDiscardKey ∧
    Gen.Waiter.cliDefaultPutKey = Gen.Waiter.poolConfigDiscardKey ∧
    Gen.Waiter.poolConfigDiscardKey = "discard_overflow" ∧
    Gen.Waiter.cliPoolsGetKey = Gen.Waiter.cliPoolsSetKey ∧
    Gen.Waiter.cliDecodesAfterDefault = true ∧
    (Gen.Waiter.instanceDiscardFrom ≠ [] ∧ ∀ x ∈ Gen.Waiter.instanceDiscardFrom, x = "InstancePoolConfig.DiscardOverflow") ∧
    Gen.Waiter.discardFieldAssignments = 0 ∧
    Gen.Waiter.cliDefaultGuard = "type-assertion-only" ∧ Gen.Waiter.cliDefaultInnerGuards = [] ∧
    -- round 4: the config is read before the default block; `Run` reads the very field the wiring sets
    Gen.Waiter.cliReadsConfigBeforeDefault = true ∧
    (Gen.Waiter.runReadsDiscardField ≠ [] ∧
      ∀ x ∈ Gen.Waiter.runReadsDiscardField, x = "instanceSharedDeps.discardOverflow") := by
  obtain ⟨h1, h2, h3, h4, h5, h6, h7, h8⟩ := Bridge.Waiter.cli_default_wiring
  exact ⟨Bridge.Waiter.cliPoolDiscardOverflow_eq, rfl, fun _ => rfl, h1, h2, h3, h4.trans h5.symm, h6, h7, h8,
    Bridge.Waiter.cli_default_unconditional.1, Bridge.Waiter.cli_default_unconditional.2,
    Bridge.Waiter.round4_wiring.1, Bridge.Waiter.round4_wiring.2⟩

/-! ### the end of the run -/

/-- The END of every action of an instance, discards included (REPAIRED `Wait`, discard_overflow on): with the hypotheses of
`C04_run_bounded`, `B = start + D + 2 s + ε + R`, the instance picking up its first acted token before `B` and every further one
within `δ` of the end of the previous action, the `k`-th action is over by `B + (k+1)(δ+ε)`: shots by `B` itself whatever the
response times were, and each discard costs only the loop overhead `δ+ε`, never a response time. -/
theorem C04_run_end_bounded (w : Waiter) (h : List Iter) (start D R ε δ : Int) (hε : 0 ≤ ε) (hδ : 0 ≤ δ) (hR : 0 ≤ R)
    (hc : ClockOK w h) (hp : ReadAfterPick h)
    (htoks : ∀ it ∈ h, ∀ next, it.env.tok = some next → next ≤ start + D)
    (hresp : ∀ it ∈ h, it.dur ≤ R)
    (hlag : ∀ it ∈ h, ∀ next, it.env.tok = some next → it.env.ret ≤ max it.env.pick next + ε)
    (hctx : ∀ it ∈ h, it.ctxDoneSlow = false)
    (hfirst : ∀ ev, (runLoop .fresh true w h).1[0]? = some ev → ev.iter.env.pick ≤ start + D + maxOverdue + ε + R)
    (hseq : ∀ k a b, (runLoop .fresh true w h).1[k]? = some a → (runLoop .fresh true w h).1[k + 1]? = some b →
      b.iter.env.pick ≤ endT a + δ) :
    ∀ k ev, (runLoop .fresh true w h).1[k]? = some ev →
      endT ev ≤ chainBound (start + D + maxOverdue + ε + R) (δ + ε) k := by
  have hmono := chainBound_ge (start + D + maxOverdue + ε + R) (δ + ε) (by omega)
  -- a discard is over within ε of max(pick, token), and its token lies inside the profile
  have hdisc : ∀ it s, Ev.discard it s ∈ (runLoop .fresh true w h).1 →
      it.env.ret ≤ max it.env.pick (start + D) + ε := by
    intro it s hev
    have hmem : it ∈ h := runLoop_iter_mem .fresh true w h _ hev
    obtain ⟨next, htok, _⟩ := C04_no_early .fresh true w h hc _ hev
    have h1 := htoks it hmem next htok
    have h3 := hlag it hmem next htok
    omega
  -- a shot is over by `B` itself, whatever came before
  have hshoot : ∀ it k, Ev.shoot it ∈ (runLoop .fresh true w h).1 →
      endT (Ev.shoot it) ≤ chainBound (start + D + maxOverdue + ε + R) (δ + ε) k := by
    intro it k hev
    have := C04_run_bounded w h start D R ε hc hp htoks hresp hlag hctx it hev
    have := hmono k
    simp only [endT]; omega
  have hm : (0 : Int) ≤ maxOverdue := by decide
  intro k
  induction k with
  | zero =>
    intro ev hk
    have hev : ev ∈ (runLoop .fresh true w h).1 := List.mem_of_getElem? hk
    cases ev with
    | shoot it => exact hshoot it 0 hev
    | discard it s =>
      have h1 := hdisc it s hev
      have h2 : it.env.pick ≤ _ := hfirst _ hk
      simp only [endT, chainBound]; omega
  | succ k ih =>
    intro ev hk
    have hev : ev ∈ (runLoop .fresh true w h).1 := List.mem_of_getElem? hk
    cases ev with
    | shoot it => exact hshoot it (k + 1) hev
    | discard it s =>
      have hlt : k < (runLoop .fresh true w h).1.length := by
        have := (List.getElem?_eq_some_iff.mp hk).1
        omega
      have hprev : (runLoop .fresh true w h).1[k]? = some ((runLoop .fresh true w h).1[k]) := List.getElem?_eq_getElem hlt
      have h0 := ih _ hprev
      have h1 := hdisc it s hev
      have h2 : it.env.pick ≤ _ := hseq k _ _ hprev hk
      have h3 := hmono k
      simp only [endT, chainBound]; omega

/-! ### all instance counts: any number of instances on one shared schedule, every interleaving -/

/-- No token is invented, lost or handed out twice — for every number of instances, every interleaving of their schedule
accesses, cancellation and ammo shortage included: the tokens handed out so far followed by those still in the schedule are the
profile. -/
theorem C04_pool_conservation (toks : List Int) (steps : List PStep) :
    (prun (PState.init toks) steps).out.map Prod.snd ++ (prun (PState.init toks) steps).sched = toks := by
  simpa [PState.init] using prun_conserves (PState.init toks) steps

/-- In a run without cancellation and with ammo available (`Calm` steps), every token handed to an instance is acted on by that
instance exactly once and in order (either variant, discard_overflow on or off): the tokens of instance `i`'s actions are the
tokens the schedule gave to `i`. -/
theorem C04_pool_each_token_acted_once (v : Variant) (d : Bool) (toks : List Int) (steps : List PStep)
    (hs : ∀ s ∈ steps, Calm s) (i : Nat) :
    (poolEvents v d toks steps i).map (fun ev => ev.iter.tok) = ownToks (prun (PState.init toks) steps) i := by
  unfold poolEvents
  rw [← (prun_inv v _ steps (PInv.init v toks) hs).drawnEq i, ← C04_every_drawn_token_acted v d]
  simp [List.map_map]

/-- discard_overflow off, any number of instances, any interleaving, no cancellation: every action of every instance is a Shoot
(nothing is discarded), each instance fires exactly the tokens it was handed, and once any instance has left its loop the
schedule is empty — so ALL tokens of the profile have been handed out and fired. -/
theorem C04_pool_off_all_fired (v : Variant) (toks : List Int) (steps : List PStep) (hs : ∀ s ∈ steps, Calm s) :
    (∀ i, ∀ ev ∈ poolEvents v false toks steps i, ev.isShoot = true) ∧
    (∀ i, (poolEvents v false toks steps i).map (fun ev => ev.iter.tok) = ownToks (prun (PState.init toks) steps) i) ∧
    (∀ i, (prun (PState.init toks) steps).phase i = .exited →
      (prun (PState.init toks) steps).sched = [] ∧ (prun (PState.init toks) steps).out.map Prod.snd = toks) := by
  refine ⟨fun i ev hev => ?_, fun i => C04_pool_each_token_acted_once v false toks steps hs i, fun i he => ?_⟩
  · exact runLoop_off_isShoot _ _ _ ev hev
  · have hnil := (prun_inv v _ steps (PInv.init v toks) hs).drained i he
    refine ⟨hnil, ?_⟩
    have := C04_pool_conservation toks steps
    rw [hnil] at this
    simpa using this

/-- discard_overflow on, any number of instances: likewise every handed-out token gets exactly one action, and once an instance
has left its loop all tokens of the profile have been handed out — each fired or reported as discarded. -/
theorem C04_pool_on_all_acted (v : Variant) (toks : List Int) (steps : List PStep) (hs : ∀ s ∈ steps, Calm s) :
    (∀ i, (poolEvents v true toks steps i).map (fun ev => ev.iter.tok) = ownToks (prun (PState.init toks) steps) i) ∧
    (∀ i, (prun (PState.init toks) steps).phase i = .exited → (prun (PState.init toks) steps).out.map Prod.snd = toks) :=
  ⟨fun i => C04_pool_each_token_acted_once v true toks steps hs i,
   fun i he => ((C04_pool_off_all_fired v toks steps hs).2.2 i he).2⟩

/-- The timing clauses for EVERY instance of a pool (REPAIRED `Wait`, discard_overflow on; any instance count, any
interleaving, cancellation allowed): under the clock hypotheses for that instance's own passes, none of its actions is early, a
discarded token was ≥ 2 s late at the report, and a fired one was < 2 s late when picked up (context alive). -/
theorem C04_pool_timing (toks : List Int) (steps : List PStep) (i : Nat)
    (hc : ClockOK Waiter.init ((prun (PState.init toks) steps).hist i))
    (hp : ReadAfterPick ((prun (PState.init toks) steps).hist i)) :
    (∀ ev ∈ poolEvents .fresh true toks steps i, ∃ next, ev.iter.env.tok = some next ∧ next ≤ ev.iter.env.ret) ∧
    (∀ it s, Ev.discard it s ∈ poolEvents .fresh true toks steps i →
      ∃ next, it.env.tok = some next ∧ maxOverdue ≤ it.env.ret - next) ∧
    (∀ it, Ev.shoot it ∈ poolEvents .fresh true toks steps i → it.ctxDoneSlow = false →
      ∀ next, it.env.tok = some next → it.env.pick - next < maxOverdue) :=
  ⟨C04_no_early .fresh true _ _ hc, C04_not_discarded_if_fresh .fresh _ _ hc, C04_discarded_if_late _ _ hc hp⟩

/-! ### progress: the closed world — time advances, timers fire, `Shoot` returns — and fair scheduling

`simHist v d w t toks ps` (Model) is the history ONE instance produces when it draws the tokens `toks` one after the other starting
at instant `t`, the clock advancing by the non-negative delays `ps` (loop overhead, reading lag, timer lag, response time), with
no cancellation and ammo available. -/

/-- Every history the closed world generates meets the clock hypotheses (`ClockOK`, `ReadAfterPick`) of the theorems above —
for all token lists, delays and response times: the hypotheses are not only satisfiable, they hold in every world in which time
advances and a timer does not fire early. -/
theorem C04_sim_meets_hypotheses (v : Variant) (d : Bool) (w : Waiter) (t : Int) (toks : List Int) (ps : List Delays)
    (hw : w.lastNow ≤ t) : ClockOK w (simHist v d w t toks ps) ∧ ReadAfterPick (simHist v d w t toks ps) :=
  simHist_clockOK v d w t toks ps hw

/-- Progress of the loop: in the closed world (delays described for at least as many passes as there are tokens) the loop of
`instance.Run` ends through `IsFinished` after exactly one action per token, in schedule order — either variant,
discard_overflow on or off. -/
theorem C04_sim_terminates (v : Variant) (d : Bool) (w : Waiter) (t : Int) (toks : List Int) (ps : List Delays)
    (hlen : toks.length ≤ ps.length) :
    (runLoop v d w (simHist v d w t toks ps)).2 = .loopEnd ∧
    (runLoop v d w (simHist v d w t toks ps)).1.map (fun ev => ev.iter.tok) = toks :=
  runLoop_simHist v d w t toks ps hlen

/-- "Every token is eventually fired", with the time made explicit. discard_overflow OFF, closed world: the loop ends, every
token of the schedule is fired (none discarded, in order), and the `k`-th shot is over by
`max(start, last token time) + (the response times and overheads of the first k+1 passes)`: the length of the run depends on
the target's response times, but every request is sent. -/
theorem C04_sim_off_all_fired (v : Variant) (w : Waiter) (t T : Int) (toks : List Int) (ps : List Delays)
    (hlen : toks.length ≤ ps.length) (htoks : ∀ tok ∈ toks, tok ≤ T) :
    (runLoop v false w (simHist v false w t toks ps)).2 = .loopEnd ∧
    (∀ ev ∈ (runLoop v false w (simHist v false w t toks ps)).1, ev.isShoot = true) ∧
    (runLoop v false w (simHist v false w t toks ps)).1.map (fun ev => ev.iter.tok) = toks ∧
    (∀ k ev, (runLoop v false w (simHist v false w t toks ps)).1[k]? = some ev →
      endT ev ≤ max t T + sumCost (ps.take (k + 1))) := by
  obtain ⟨h1, h2⟩ := runLoop_simHist v false w t toks ps hlen
  refine ⟨h1, fun ev hev => ?_, h2, fun k ev hk => ?_⟩
  · exact runLoop_off_isShoot _ _ _ ev hev
  · have := sim_end_by_aux v false (max t T) toks w t 0 ps (fun x hx => Int.le_trans (htoks x hx) (Int.le_max_right t T))
      (Int.le_refl 0) (by have := Int.le_max_left t T; omega) k ev hk
    omega

/-- The length of a WHOLE run of an instance, discard_overflow ON, closed world (REPAIRED `Wait`), with no hypothesis left about
the history: if the tokens lie in `[_, start + D]`, every response takes at most `R`, the loop overhead before a pick-up is at
most `δ` and reading + arming + timer lag at most `ε`, and the instance starts before `B = start + D + 2 s + ε + R`, then the loop
ends, every token is acted on once, and the `k`-th action (Shoot until its response, or discard report) is over by
`B + (k+1)(δ+ε)` — however slow the target is: response times enter only through `R`, once. -/
theorem C04_sim_run_bounded (w : Waiter) (t start D R ε δ : Int) (toks : List Int) (ps : List Delays)
    (hε : 0 ≤ ε) (hδ : 0 ≤ δ) (hR : 0 ≤ R) (hlen : toks.length ≤ ps.length) (hw : w.lastNow ≤ t)
    (htoks : ∀ tok ∈ toks, tok ≤ start + D)
    (hps : ∀ p ∈ ps, (p.dur : Int) ≤ R ∧ (p.dPick : Int) ≤ δ ∧ (p.dNow : Int) + p.dArm + p.dLag ≤ ε)
    (ht : t ≤ start + D + maxOverdue + ε + R) :
    (runLoop .fresh true w (simHist .fresh true w t toks ps)).2 = .loopEnd ∧
    (runLoop .fresh true w (simHist .fresh true w t toks ps)).1.map (fun ev => ev.iter.tok) = toks ∧
    (∀ k ev, (runLoop .fresh true w (simHist .fresh true w t toks ps)).1[k]? = some ev →
      endT ev ≤ chainBound (start + D + maxOverdue + ε + R) (δ + ε) k) := by
  obtain ⟨h1, h2⟩ := runLoop_simHist .fresh true w t toks ps hlen
  exact ⟨h1, h2, sim_on_aux start D R ε δ hε hδ hR toks w t _ ps hw htoks hps (Int.le_refl _) ht⟩

/-- Fair scheduling ⇒ progress of a pool: in a run without cancellation and with ammo available, an instance that has been
scheduled `2·|profile| + 2` times (each step = one schedule access that completes: the timer fired, `Shoot` returned) has left its
loop — whatever the other instances did in between — and then the WHOLE profile has been handed out and every instance has acted
exactly once on each token it drew. So "every token is eventually fired" (off) / "fired or discarded" (on) holds for every
instance count under every fair interleaving. -/
theorem C04_pool_progress (v : Variant) (d : Bool) (toks : List Int) (steps : List PStep) (hs : ∀ s ∈ steps, Calm s) (i : Nat)
    (hfair : 2 * toks.length + 2 ≤ stepsOf steps i) :
    (prun (PState.init toks) steps).phase i = .exited ∧
    (prun (PState.init toks) steps).sched = [] ∧
    (prun (PState.init toks) steps).out.map Prod.snd = toks ∧
    (∀ j, (poolEvents v d toks steps j).map (fun ev => ev.iter.tok) = ownToks (prun (PState.init toks) steps) j) := by
  have hex : (prun (PState.init toks) steps).phase i = .exited := by
    apply phi_eq_zero
    rcases phi_prun (PState.init toks) steps i hs with h | h
    · have := phi_init toks i
      omega
    · exact h
  obtain ⟨h1, h2⟩ := (C04_pool_off_all_fired v toks steps hs).2.2 i hex
  exact ⟨hex, h1, h2, fun j => C04_pool_each_token_acted_once v d toks steps hs j⟩

/-! ### the cancellation corner, bounded -/

/-- What the cancellation corner of `C04_discarded_if_late` can cost. A done context stays done (`CtxMono`: once `IsSlowDown` has
seen it done, `IsFinished` sees it done at the next loop head). Then a token that is fired although it was two seconds or more late
when picked up (a) was fired in a pass in which `IsSlowDown` saw the run context done, and (b) is the LAST action of that instance:
a cancelled run fires at most one such token per instance and ends with it. -/
theorem C04_cancel_one_late_shot (w : Waiter) (h : List Iter) (hc : ClockOK w h) (hp : ReadAfterPick h) (hm : CtxMono h) :
    ∀ it, Ev.shoot it ∈ (runLoop .fresh true w h).1 → ∀ next, it.env.tok = some next → maxOverdue ≤ it.env.pick - next →
      it.ctxDoneSlow = true ∧ (runLoop .fresh true w h).1.getLast? = some (Ev.shoot it) := by
  intro it hev next htok hlate
  have hctx : it.ctxDoneSlow = true := by
    by_cases hx : it.ctxDoneSlow = true
    · exact hx
    · have := C04_discarded_if_late w h hc hp it hev (by simpa using hx) next htok
      omega
  exact ⟨hctx, runLoop_ctxDoneSlow_last .fresh true w h hm _ hev hctx⟩

/-- Which theorems describe which pool: the regenerated `buildNewInstanceSchedule` gives every instance its own schedule iff
`rps-per-instance` is set (then each instance is a single-instance run: `C04_no_early` … `C04_sim_run_bounded` per instance) and
otherwise ONE schedule created once for all instances — the shared schedule of `pstep`/`prun` (`C04_pool_*`); `newInstance` hands
exactly that schedule to the instance, whose `Run` builds its Waiter over it (`C04_loop_is_source`). -/
theorem C04_pool_schedule_is_source (perInstance : Bool) :
    Gen.Waiter.scheduleKind perInstance = scheduleKind perInstance ∧
    scheduleKind false = .shared ∧ scheduleKind true = .own ∧
    (∀ w ∈ Gen.Waiter.sharedScheduleWrappers, w = "coreutil.NewCallbackOnFinishSchedule") ∧
    Gen.Waiter.instanceScheduleFrom = "deps.newSchedule()" ∧
    -- round 4: that wrapper is transparent (regenerated from core/coreutil/schedule.go): the Waiters of a pool see the tokens and the
    -- `Left()` of the profile's schedule itself, which is what `pstep` / `psimStep` read
    Gen.Waiter.cbNextTransparent = true ∧ Gen.Waiter.cbLeftTransparent = true ∧ Gen.Waiter.cbEmbedsSchedule = true :=
  ⟨Bridge.Waiter.scheduleKind_eq perInstance, rfl, rfl, Bridge.Waiter.schedule_wiring.1, Bridge.Waiter.schedule_wiring.2,
    Bridge.Waiter.callback_schedule_transparent⟩

/-! ### the user documentation -/

/-- The anchored documentation docs/eng/best_practices/discard-overflow.md, re-read on every check, promises exactly the constants
the theorems are about: the option is the regenerated config key `discard_overflow`; "enabled by default" is the regenerated
`readConfig` default (`C04_default_on`); "net error 777", "tagged as discarded" and the "2 second" window are the regenerated
`DiscardedShootCodeError`, `DiscardedShootTag` and `MaxOverdueDuration` = `maxOverdue` of `C04_discarded_if_late` /
`C04_not_discarded_if_fresh` / `C04_discard_sample`. -/
theorem C04_doc_is_source :
    Gen.Waiter.docOptionKeys = ["discard_overflow"] ∧ Gen.Waiter.docOptionKeys = [Gen.Waiter.poolConfigDiscardKey] ∧
    Gen.Waiter.docDefault = effectiveDiscard none ∧
    (∀ c ∈ Gen.Waiter.docNetCodes, c = discardNetCode ∧ c = discardedShootSample.net) ∧ Gen.Waiter.docNetCodes ≠ [] ∧
    (∀ t ∈ Gen.Waiter.docTags, t = discardTag ∧ t = discardedShootSample.tags) ∧ Gen.Waiter.docTags ≠ [] ∧
    (∀ n ∈ Gen.Waiter.docWindowSeconds, n * 1000000000 = maxOverdue) ∧ Gen.Waiter.docWindowSeconds ≠ [] := by
  obtain ⟨h1, h2, h3, h4, h5, h6, h7, h8⟩ := Bridge.Waiter.doc_agrees
  refine ⟨?_, h1, ?_, fun c hc => ?_, h3, fun t ht => ?_, h5, fun n hn => ?_, h7⟩
  · rw [h1]; exact Bridge.Waiter.cli_default_wiring.2.2.1 ▸ rfl
  · rw [h2, Bridge.Waiter.cliPoolDiscardOverflow_eq]
  · have := h4 c hc; rw [Bridge.Waiter.DiscardedShootCodeError_eq] at this; exact ⟨this, this⟩
  · have := h6 t ht; rw [Bridge.Waiter.DiscardedShootTag_eq] at this; exact ⟨this, this⟩
  · have := h8 n hn; rw [Bridge.Waiter.MaxOverdueDuration_eq] at this; exact this

/-! ### `Time.Sub` saturation -/

/-- the instants of one `Wait` call lie in a window `[lo, hi]` of at most 2^63-1 ns (292 years) that begins after year 1; the cached
reading is either still the zero `time.Time` or inside the window -/
def InWindow (lo hi : Int) (w : Waiter) (e : Env) : Prop :=
  zeroTime < lo ∧ hi - lo ≤ maxDuration ∧ (w.lastNow = zeroTime ∨ (lo ≤ w.lastNow ∧ w.lastNow ≤ hi)) ∧
    lo ≤ e.now ∧ e.now ≤ hi ∧ ∀ next ∈ e.tok, lo ≤ next ∧ next ≤ hi

instance (lo hi : Int) (w : Waiter) (e : Env) : Decidable (InWindow lo hi w e) := by unfold InWindow; exact inferInstance

/-- `Wait` computed with Go's SATURATING `Time.Sub` is `Wait` computed with exact subtraction — state, result and path, both
variants — for every call whose instants lie in such a window, and the window invariant is kept by the call. So reading `Time.Sub`
as exact subtraction (as the model and the regenerated `Wait` do) loses nothing for runs shorter than 292 years. -/
theorem C04_sub_saturation (v : Variant) (lo hi : Int) (w : Waiter) (e : Env) (h : InWindow lo hi w e) :
    waitVWith satSub v w e = waitV v w e ∧ waitVWith timeSub v w e = waitV v w e ∧
    ((waitV v w e).w.lastNow = zeroTime ∨ (lo ≤ (waitV v w e).w.lastNow ∧ (waitV v w e).w.lastNow ≤ hi)) := by
  obtain ⟨hz, hspan, hl, hn1, hn2, htok⟩ := h
  have hmax : maxDuration = 9223372036854775807 := rfl
  have hmin : minDuration = -9223372036854775808 := rfl
  have hzero : zeroTime = -62135596800000000000 := rfl
  refine ⟨?_, rfl, ?_⟩
  · unfold waitVWith waitV
    by_cases hc : e.ctxDone = true
    · simp [hc]
    · cases ht : e.tok with
      | none => simp [hc]
      | some next =>
        obtain ⟨ht1, ht2⟩ := htok next (by simp [ht])
        -- against the reading of this call the subtraction is exact in both directions
        have e1 : satSub next e.now = timeSub next e.now := satSub_exact _ _ (by omega) (by omega)
        have e2 : satSub e.now next = timeSub e.now next := satSub_exact _ _ (by omega) (by omega)
        simp only [hc, Bool.false_eq_true, ↓reduceIte, e1, e2]
        rcases hl with hl | hl
        · -- `lastNow` is still the zero time: `next.Sub(zero)` saturates, but only its sign is used (positive either way)
          have s1 : ¬ satSub next w.lastNow ≤ 0 := by rw [hl]; exact satSub_pos _ _ (by omega)
          have s2 : ¬ timeSub next w.lastNow ≤ 0 := by rw [hl]; unfold timeSub; omega
          simp [s1, s2]
        · have e3 : satSub next w.lastNow = timeSub next w.lastNow := satSub_exact _ _ (by omega) (by omega)
          simp only [e3]
  · rcases waitV_lastNow v w e with h1 | h1 <;> rw [h1]
    · exact hl
    · exact Or.inr ⟨hn1, hn2⟩

/-! ### non-vacuity: concrete histories meeting the hypotheses, with the conclusions exercised -/

/-- const 10 rps, 1 s responses, one instance: tokens at 0, 0.1, 0.2, 0.3 s picked up at 0, 1, 2, 3 s -/
def demo : List Iter :=
  [ { env := { tok := some 0, pick := 0, now := 0, arm := 0, ret := 0 }, dur := 1000000000 },
    { env := { tok := some 100000000, pick := 1000000000, now := 1000000000, arm := 1000000000, ret := 1000000000 }, dur := 1000000000 },
    { env := { tok := some 200000000, pick := 2000000000, now := 2000000000, arm := 2000000000, ret := 2000000000 }, dur := 1000000000 },
    { env := { tok := some 300000000, pick := 3000000000, now := 3000000000, arm := 3000000000, ret := 3000000000 }, dur := 1000000000 },
    -- a token in the future: timer path, fires 5 µs after its time
    { env := { tok := some 4000000000, pick := 3000001000, now := 3000002000, arm := 3000003000, ret := 4000005000 }, dur := 0 } ]

example : ClockOK Waiter.init demo ∧ ReadAfterPick demo := by decide
/-- repaired: fired, fired, fired (1.8 s late), DISCARDED (2.7 s late), fired (timer) -/
example : ((runLoop .fresh true Waiter.init demo).1.map Ev.isShoot) = [true, true, true, false, true] := by decide
/-- as found: the fourth token is fired 2.7 s late -/
example : ((runLoop .cached true Waiter.init demo).1.map Ev.isShoot) = [true, true, true, true, true] := by decide
/-- discard_overflow off: all fired -/
example : ((runLoop .fresh false Waiter.init demo).1.map Ev.isShoot) = [true, true, true, true, true] := by decide
example : (drawn .fresh Waiter.init demo).length = 5 := by decide
/-- hypotheses of `C04_run_bounded` hold of `demo` with start 0, D = 4 s, R = 1 s, ε = 5 µs -/
example : (∀ it ∈ demo, ∀ next, it.env.tok = some next → next ≤ 0 + 4000000000) ∧ (∀ it ∈ demo, it.dur ≤ 1000000000) ∧
    (∀ it ∈ demo, ∀ next, it.env.tok = some next → it.env.ret ≤ max it.env.pick next + 5000) ∧
    (∀ it ∈ demo, it.ctxDoneSlow = false) := by
  -- `tok = some next → …` is the bounded quantifier `∀ next ∈ tok, …`
  exact ⟨(by decide : ∀ it ∈ demo, ∀ next ∈ it.env.tok, next ≤ 0 + 4000000000), by decide,
    (by decide : ∀ it ∈ demo, ∀ next ∈ it.env.tok, it.env.ret ≤ max it.env.pick next + 5000), by decide⟩

/-- `C04_no_early_wait`: a call that sleeps on the timer (token 1 s ahead of the reading) meets the hypotheses and returns true -/
example : EnvOK { tok := some 5000000000, pick := 3900000000, now := 4000000000, arm := 4000001000, ret := 5000002000 } ∧
    Waiter.init.lastNow ≤ 4000000000 ∧
    (waitV .fresh Waiter.init { tok := some 5000000000, pick := 3900000000, now := 4000000000, arm := 4000001000, ret := 5000002000 }).ok = true := by
  decide
/-- `C04_not_discarded_if_fresh` / `C04_late_is_discarded`: `demo` contains a discard, of a drawn token that is 2.7 s late -/
def demoLate : Iter :=
  { env := { tok := some 300000000, pick := 3000000000, now := 3000000000, arm := 3000000000, ret := 3000000000 }, dur := 1000000000 }
example : demoLate ∈ drawn .fresh Waiter.init demo ∧ demoLate.ctxDoneSlow = false ∧ demoLate.env.tok = some 300000000 ∧
    maxOverdue ≤ demoLate.env.pick - 300000000 ∧
    Ev.discard demoLate discardedShootSample ∈ (runLoop .fresh true Waiter.init demo).1 := by decide
/-- `C04_run_end_bounded`: `demo` with δ = 1 µs meets `hfirst` and `hseq` (each pick-up is at the end of the previous action) -/
example : (∀ ev, (runLoop .fresh true Waiter.init demo).1[0]? = some ev → ev.iter.env.pick ≤ 0 + 4000000000 + maxOverdue + 5000 + 1000000000) ∧
    (∀ k < 5, ∀ a ∈ (runLoop .fresh true Waiter.init demo).1[k]?, ∀ b ∈ (runLoop .fresh true Waiter.init demo).1[k + 1]?,
      b.iter.env.pick ≤ endT a + 1000) := by
  -- `l[0]? = some ev` is `ev ∈ l[0]?`, a bounded quantifier
  exact ⟨fun ev hev => (by decide : ∀ ev ∈ (runLoop .fresh true Waiter.init demo).1[0]?,
    ev.iter.env.pick ≤ 0 + 4000000000 + maxOverdue + 5000 + 1000000000) ev hev, by decide⟩

/-- two instances (0 and 1) share const tokens 0, 0.1, 0.2 s; instance 0 answers in 1 s: a calm interleaving -/
def pdemo : List PStep :=
  [ { inst := 0 }, { inst := 1 },
    { inst := 0, it := { env := { pick := 0, now := 0, arm := 0, ret := 0 }, dur := 1000000000 } },
    { inst := 1, it := { env := { pick := 1000, now := 2000, arm := 3000, ret := 100001000 }, dur := 1000000000 } },
    { inst := 0 },
    { inst := 0, it := { env := { pick := 1000000000, now := 1000000000, arm := 1000000000, ret := 1000000000 } } },
    { inst := 0, it := { env := { pick := 1000000000, now := 1000000000, arm := 1000000000, ret := 1000000000 } } },
    { inst := 1, it := { env := { pick := 1100001000, now := 1100001000, arm := 1100001000, ret := 1100001000 } } },
    { inst := 0 }, { inst := 1 } ]

example : ∀ s ∈ pdemo, Calm s := by decide
/-- instance 0 got tokens 0 and 0.2 s, instance 1 got 0.1 s; both have left their loops and the schedule is empty -/
example : ownToks (prun (PState.init [0, 100000000, 200000000]) pdemo) 0 = [0, 200000000] ∧
    ownToks (prun (PState.init [0, 100000000, 200000000]) pdemo) 1 = [100000000] ∧
    (prun (PState.init [0, 100000000, 200000000]) pdemo).phase 0 = .exited ∧
    (prun (PState.init [0, 100000000, 200000000]) pdemo).phase 1 = .exited ∧
    (poolEvents .fresh false [0, 100000000, 200000000] pdemo 0).length = 2 := by decide
example : ClockOK Waiter.init ((prun (PState.init [0, 100000000, 200000000]) pdemo).hist 0) ∧
    ReadAfterPick ((prun (PState.init [0, 100000000, 200000000]) pdemo).hist 0) := by decide

/-! ### non-vacuity: closed world, saturation, fair pool, cancellation -/

/-- a closed world: const 10 rps for 0.5 s (tokens 0 … 0.4 s), one instance, responses 1 s, 1 s, 3 s, 0, 0; 1 µs loop overhead, 2 µs
reading lag -/
def simToks : List Int := [0, 100000000, 200000000, 300000000, 400000000]
def simDelays : List Delays :=
  [ { dPick := 1000, dNow := 2000, dur := 1000000000 }, { dPick := 1000, dNow := 2000, dur := 1000000000 },
    { dPick := 1000, dNow := 2000, dur := 3000000000 }, { dPick := 1000, dNow := 2000 }, { dPick := 1000, dNow := 2000 } ]

/-- on: fired, fired (0.9 s late), fired (1.8 s late), DISCARDED (4.7 s late), DISCARDED; the loop ends -/
example : (runLoop .fresh true Waiter.init (simHist .fresh true Waiter.init 0 simToks simDelays)).1.map Ev.isShoot =
    [true, true, true, false, false] ∧
    (runLoop .fresh true Waiter.init (simHist .fresh true Waiter.init 0 simToks simDelays)).2 = .loopEnd := by decide
/-- off: all five fired -/
example : (runLoop .fresh false Waiter.init (simHist .fresh false Waiter.init 0 simToks simDelays)).1.map Ev.isShoot =
    [true, true, true, true, true] := by decide
/-- hypotheses of `C04_sim_run_bounded` (start 0, D = 0.4 s, R = 3 s, ε = 2 µs, δ = 1 µs) and of `C04_sim_off_all_fired` -/
example : simToks.length ≤ simDelays.length ∧ Waiter.init.lastNow ≤ 0 ∧ (∀ tok ∈ simToks, tok ≤ 0 + 400000000) ∧
    (∀ p ∈ simDelays, (p.dur : Int) ≤ 3000000000 ∧ (p.dPick : Int) ≤ 1000 ∧ (p.dNow : Int) + p.dArm + p.dLag ≤ 2000) ∧
    (0 : Int) ≤ 0 + 400000000 + maxOverdue + 2000 + 3000000000 := by decide
/-- a timer-path world: the token lies 1 s ahead, the timer fires 5 µs late; the shot is not early -/
example : (runLoop .fresh true Waiter.init (simHist .fresh true Waiter.init 0 [1000000000] [{ dNow := 10, dArm := 20, dLag := 5000 }])).1.map
    (fun ev => ev.iter.env.ret) = [1000005020] := by decide

/-- `C04_sub_saturation`: the first call of a run (cached reading = zero time) in a window of one day starting in 2026 -/
example : InWindow 1790000000000000000 1790086400000000000 Waiter.init
    { tok := some 1790000001000000000, now := 1790000003500000000, arm := 1790000003500000000, ret := 1790000003500000000 } ∧
    satSub 1790000001000000000 Waiter.init.lastNow = maxDuration ∧
    timeSub 1790000001000000000 Waiter.init.lastNow ≠ maxDuration := by decide

/-- `C04_pool_progress`: in `pdemo` (3 tokens) instance 0 moves 6 times... the hypothesis needs 8: a longer fair run -/
def pfair : List PStep := (List.range 16).map (fun k => ({ inst := k % 2 } : PStep))
example : (∀ s ∈ pfair, Calm s) ∧ 2 * [0, 100000000, 200000000].length + 2 ≤ stepsOf pfair 0 ∧
    (prun (PState.init [0, 100000000, 200000000]) pfair).phase 0 = .exited ∧
    (prun (PState.init [0, 100000000, 200000000]) pfair).phase 1 = .exited := by decide

/-- `C04_cancel_one_late_shot`: a run cancelled while the instance is in its second shot; the third token (3 s late) is picked
up, `IsSlowDown` sees the done context, the token is fired, and the loop ends at the next `IsFinished` -/
def cancelDemo : List Iter :=
  [ { env := { tok := some 0, pick := 0, now := 0, arm := 0, ret := 0 }, dur := 1000000000 },
    { env := { tok := some 100000000, pick := 1000000000, now := 1000000000, arm := 1000000000, ret := 1000000000 }, dur := 2100000000 },
    { env := { tok := some 200000000, pick := 3200000000, now := 3200000000, arm := 3200000000, ret := 3200000000 }, ctxDoneSlow := true },
    { finished := true, env := { pick := 3300000000, now := 3300000000, arm := 3300000000, ret := 3300000000 } } ]
example : ClockOK Waiter.init cancelDemo ∧ ReadAfterPick cancelDemo ∧ CtxMono cancelDemo ∧
    (runLoop .fresh true Waiter.init cancelDemo).1.map Ev.isShoot = [true, true, true] := by decide

/-! ### the timer of a Waiter -/

/-- The timer of a Waiter never holds a stale tick when it is armed: for every history in which a done context stays done
(`CtxSticky`: `instance.Run` and `startInstances` pass one context to every call) and every waiter whose timer channel is empty at the
start (a new Waiter has no timer at all), every call of `Wait` that arms the timer (paths `timer`, `timerCancel`) finds the
channel empty — either variant, any tokens, any clock. So the only tick `<-w.timer.C` can receive is the one of the current arming. -/
theorem C04_timer_channel_empty_at_arm (v : Variant) (w : Waiter) (tm : TimerSt) (h : List Iter) (hs : CtxSticky h)
    (hf : tm.stale = false) :
    ∀ p ∈ timerTrace v w tm h, (p.2.path = .timer ∨ p.2.path = .timerCancel) → p.1.stale = false :=
  timerTrace_not_stale v w tm h hs (Or.inl hf)

/-- "No request is fired before its scheduled time" with the timer hypothesis reduced to timers armed on an EMPTY channel
(`ClockOKT`: nothing is assumed about a `<-w.timer.C` whose channel may hold an older tick): the lifecycle of `w.timer` in `Wait`
(lazily created, re-armed by `Reset`, received only in the final `select`) guarantees that such a channel never occurs. -/
theorem C04_no_early_fresh_timer (v : Variant) (d : Bool) (w : Waiter) (tm : TimerSt) (h : List Iter) (hs : CtxSticky h)
    (hf : tm.stale = false) (hc : ClockOKT v w tm h) :
    ∀ ev ∈ (runLoop v d w h).1, ∃ next, ev.iter.env.tok = some next ∧ next ≤ ev.iter.env.ret :=
  C04_no_early v d w h (clockOKT_clockOK v w tm h hs hf hc)

/-- the same WITHOUT the hypothesis that a done context stays done -/
def C04_no_early_any_ctx_statement : Prop :=
  ∀ (v : Variant) (d : Bool) (w : Waiter) (tm : TimerSt) (h : List Iter), tm.stale = false → ClockOKT v w tm h →
    ∀ ev ∈ (runLoop v d w h).1, ∃ next, ev.iter.env.tok = some next ∧ next ≤ ev.iter.env.ret

/-- It is false: a Waiter whose sleep was cancelled and that is then used with ANOTHER, live context re-arms its timer with `Reset`
while the tick of the cancelled sleep may sit in the channel (`go 1.21` timers), and the next sleep ends at once: the token scheduled
at 3 s is released at 2 s. Nothing in /repo does that (`CtxSticky` holds of `instance.Run` and `startInstances`); it is the reason
why the hypothesis is there, and why a timer shared between waiters breaks the property. -/
theorem C04_no_early_any_ctx_counterexample : ¬ C04_no_early_any_ctx_statement := by
  intro hs
  let i1 : Iter := { env := { tok := some 1000000000, pick := 0, now := 0, arm := 0, timerWins := false, ret := 500000000 } }
  let i2 : Iter := { env := { tok := some 3000000000, pick := 2000000000, now := 2000000000, arm := 2000000000, timerWins := true,
                              ret := 2000000000 } }
  have h := hs .fresh true Waiter.init {} [i1, i2] (by decide) (by decide) (Ev.shoot i2) (by decide)
  revert h
  decide

/-- `Wait` with the timer (`waitT`) is `waitV` with the timer state threaded through, and the regenerated `WaitT` — the current
source with its three statements about `w.timer` (lazy `NewTimer`, `Reset`, the receive in the final `select`) — is `waitT`;
`NewWaiter` sets nothing but the schedule (no timer, zero `lastNow`, zero overdue), nothing else in the package touches the timer, and
`instance.Run` passes its own context parameter, never re-bound, to every call of the waiter (so `CtxSticky` / `CtxMono` hold of it). -/
theorem C04_timer_is_source (w : Waiter) (tm : TimerSt) (e : Env) :
    Gen.Waiter.WaitT w tm e = waitT .fresh w tm e ∧
    waitT .fresh w tm e = ((waitV .fresh w e).w, timerAfter tm (waitV .fresh w e), (waitV .fresh w e).ok) ∧
    Gen.Waiter.newWaiterFields = ["sched"] ∧ Gen.Waiter.timerOtherUses = 0 ∧
    (({} : TimerSt).stale = false) ∧
    Gen.Waiter.runWaiterCallArgs = [Gen.Waiter.runCtxParam] ∧ Gen.Waiter.runCtxRebound = 0 :=
  ⟨Bridge.Waiter.WaitT_eq w tm e, waitT_eq .fresh w tm e, Bridge.Waiter.newWaiter_wiring.1, Bridge.Waiter.newWaiter_wiring.2, rfl,
    Bridge.Waiter.run_ctx_wiring.1, Bridge.Waiter.run_ctx_wiring.2⟩

/-! ### `Time.Sub` saturation, the whole run -/

/-- The WHOLE loop of `instance.Run` computed with Go's saturating `Time.Sub` is the loop computed with exact subtraction — actions
and exit, both variants, discard_overflow on or off — for every history whose clock readings and token times lie in a window of at
most 2^63-1 ns (292 years) that begins after year 1 (the waiter's cached reading being the zero time or inside the window). -/
theorem C04_sub_saturation_run (v : Variant) (d : Bool) (lo hi : Int) (w : Waiter) (h : List Iter)
    (hz : zeroTime < lo) (hspan : hi - lo ≤ maxDuration)
    (hw : w.lastNow = zeroTime ∨ (lo ≤ w.lastNow ∧ w.lastNow ≤ hi))
    (hh : ∀ it ∈ h, lo ≤ it.env.now ∧ it.env.now ≤ hi ∧ ∀ next ∈ it.env.tok, lo ≤ next ∧ next ≤ hi) :
    runLoopWith satSub v d w h = runLoop v d w h := by
  induction h generalizing w with
  | nil => simp [runLoopWith, runLoop]
  | cons it rest ih =>
    obtain ⟨h1, h2, h3⟩ := hh it (by simp)
    obtain ⟨e1, _, e3⟩ := C04_sub_saturation v lo hi w it.env ⟨hz, hspan, hw, h1, h2, h3⟩
    have hrest := ih (waitV v w it.env).w e3 (fun x hx => hh x (by simp [hx]))
    unfold runLoopWith runLoop
    simp only [e1, hrest]

/-! ### the length of a run of a POOL -/

/-- The run length for ANY number of instances on one shared schedule (REPAIRED `Wait`, discard_overflow on, no cancellation): if
the tokens of the PROFILE lie in `[_, start + D]` — a hypothesis about the profile, not about what the instances drew: every token an
instance gets is a token of the profile (`C04_pool_conservation`) — then every shot of every instance ends before
`start + D + 2 s + ε + R`, under the clock hypotheses for that instance's own passes, whatever the interleaving and however slow
the target is. -/
theorem C04_pool_run_bounded (toks : List Int) (steps : List PStep) (hs : ∀ s ∈ steps, Calm s) (i : Nat) (start D R ε : Int)
    (htoks : ∀ t ∈ toks, t ≤ start + D)
    (hc : ClockOK Waiter.init ((prun (PState.init toks) steps).hist i))
    (hp : ReadAfterPick ((prun (PState.init toks) steps).hist i))
    (hresp : ∀ it ∈ (prun (PState.init toks) steps).hist i, it.dur ≤ R)
    (hlag : ∀ it ∈ (prun (PState.init toks) steps).hist i, ∀ next, it.env.tok = some next →
      it.env.ret ≤ max it.env.pick next + ε)
    (hctx : ∀ it ∈ (prun (PState.init toks) steps).hist i, it.ctxDoneSlow = false) :
    ∀ it, Ev.shoot it ∈ poolEvents .fresh true toks steps i → it.env.ret + it.dur < start + D + maxOverdue + ε + R := by
  have hsub := drawn_mem .fresh Waiter.init ((prun (PState.init toks) steps).hist i)
  refine C04_run_bounded_of_drawn Waiter.init _ start D R ε hc hp (fun it hit next htok => ?_)
    (fun it hit => hresp it (hsub it hit)) (fun it hit => hlag it (hsub it hit)) (fun it hit => hctx it (hsub it hit))
  apply htoks
  apply ownToks_subset toks steps i
  rw [← (prun_inv .fresh _ steps (PInv.init .fresh toks) hs).drawnEq i, List.mem_map]
  exact ⟨it, hit, by simp [Iter.tok, htok]⟩

/-! ### the closed world of a POOL (`Model/C04PoolSim.lean`)

Any number of instances on one shared schedule, each with its own clock and its own start instant `t0 i` (late starters), the steps
`cs : List (Nat × Delays)` = which instance makes its next pass, with which delays — an arbitrary interleaving.  The clock hypotheses of
the pool theorems above (`C04_pool_timing`, `C04_pool_run_bounded`: `ClockOK` … per instance) are DISCHARGED here: they hold in
every such world. -/

/-- Every instance of a pool lives in the single-instance closed world over the tokens it was handed: its history is `simHist` from a
new Waiter at its start instant, over its own tokens (tokens of the profile, one delay record each). -/
theorem C04_pool_sim_is_sim (d : Bool) (toks : List Int) (t0 : Nat → Int) (cs : List (Nat × Delays)) (i : Nat) :
    psimHist d toks t0 cs i = simHist .fresh d Waiter.init (t0 i) (psimOwn i toks cs) (psimDelays i toks cs) ∧
    (∀ t ∈ psimOwn i toks cs, t ∈ toks) ∧
    (psimOwn i toks cs).length = (psimDelays i toks cs).length := by
  refine ⟨?_, psimOwn_subset i toks cs, psimOwn_length i toks cs⟩
  have := psim_hist d i cs (PSim.init toks t0)
  simpa [psimHist, PSim.init] using this

/-- The clock hypotheses of all the theorems above hold of every instance's history in every closed world of a pool (instances that
start after year 1, i.e. after the zero `time.Time` of a new Waiter's cached reading). -/
theorem C04_pool_sim_meets_hypotheses (d : Bool) (toks : List Int) (t0 : Nat → Int) (cs : List (Nat × Delays)) (i : Nat)
    (h0 : zeroTime ≤ t0 i) :
    ClockOK Waiter.init (psimHist d toks t0 cs i) ∧ ReadAfterPick (psimHist d toks t0 cs i) := by
  rw [(C04_pool_sim_is_sim d toks t0 cs i).1]
  exact C04_sim_meets_hypotheses .fresh d Waiter.init (t0 i) _ _ h0

/-- The decisions of every instance of a pool, discard_overflow on, with NO hypothesis left about clocks: no action before the token's
time; a token picked up two seconds or more late is not fired; a discarded token was at least two seconds late when it was reported;
every token the instance was handed is acted on exactly once, in order. -/
theorem C04_pool_sim_decisions (toks : List Int) (t0 : Nat → Int) (cs : List (Nat × Delays)) (i : Nat) (h0 : zeroTime ≤ t0 i) :
    (∀ ev ∈ (runLoop .fresh true Waiter.init (psimHist true toks t0 cs i)).1,
      ∃ next, ev.iter.env.tok = some next ∧ next ≤ ev.iter.env.ret) ∧
    (∀ it, Ev.shoot it ∈ (runLoop .fresh true Waiter.init (psimHist true toks t0 cs i)).1 →
      ∀ next, it.env.tok = some next → it.env.pick - next < maxOverdue) ∧
    (∀ it s, Ev.discard it s ∈ (runLoop .fresh true Waiter.init (psimHist true toks t0 cs i)).1 →
      ∃ next, it.env.tok = some next ∧ maxOverdue ≤ it.env.ret - next) ∧
    (runLoop .fresh true Waiter.init (psimHist true toks t0 cs i)).1.map (fun ev => ev.iter.tok) = psimOwn i toks cs := by
  obtain ⟨hc, hp⟩ := C04_pool_sim_meets_hypotheses true toks t0 cs i h0
  refine ⟨C04_no_early .fresh true _ _ hc, fun it hev next htok => ?_, C04_not_discarded_if_fresh .fresh _ _ hc, ?_⟩
  · refine C04_discarded_if_late _ _ hc hp it hev ?_ next htok
    -- in the closed world nothing is cancelled: every generated pass has `ctxDoneSlow = false`
    have hmem : it ∈ psimHist true toks t0 cs i := runLoop_iter_mem .fresh true _ _ _ hev
    rw [(C04_pool_sim_is_sim true toks t0 cs i).1] at hmem
    exact (simHist_pass .fresh true _ _ _ _ it hmem).2.2.2
  · rw [(C04_pool_sim_is_sim true toks t0 cs i).1]
    exact (C04_sim_terminates .fresh true Waiter.init (t0 i) _ _ (Nat.le_of_eq (C04_pool_sim_is_sim true toks t0 cs i).2.2)).2

/-- The run length of a POOL in the closed world, discard_overflow on, any instance count, any interleaving, late starters included: if
the tokens of the PROFILE lie in `[_, start + D]`, the responses instance `i` sees take at most `R`, its loop overhead before a pick-up
at most `δ` and reading + arming + timer lag at most `ε`, and it enters its loop before `B = start + D + 2 s + ε + R`, then its loop ends
through `IsFinished`, and its `k`-th action (a Shoot until its response, or a discard report) is over by `B + (k+1)(δ+ε)`. No
hypothesis about clock readings, about the other instances, or about which tokens the instance gets. -/
theorem C04_pool_sim_run_bounded (toks : List Int) (t0 : Nat → Int) (cs : List (Nat × Delays)) (i : Nat) (start D R ε δ : Int)
    (hε : 0 ≤ ε) (hδ : 0 ≤ δ) (hR : 0 ≤ R) (h0 : zeroTime ≤ t0 i)
    (htoks : ∀ tok ∈ toks, tok ≤ start + D)
    (hps : ∀ c ∈ cs, c.1 = i → (c.2.dur : Int) ≤ R ∧ (c.2.dPick : Int) ≤ δ ∧ (c.2.dNow : Int) + c.2.dArm + c.2.dLag ≤ ε)
    (ht : t0 i ≤ start + D + maxOverdue + ε + R) :
    (runLoop .fresh true Waiter.init (psimHist true toks t0 cs i)).2 = .loopEnd ∧
    (∀ k ev, (runLoop .fresh true Waiter.init (psimHist true toks t0 cs i)).1[k]? = some ev →
      endT ev ≤ chainBound (start + D + maxOverdue + ε + R) (δ + ε) k) := by
  obtain ⟨heq, hsub, hlen⟩ := C04_pool_sim_is_sim true toks t0 cs i
  rw [heq]
  have := C04_sim_run_bounded Waiter.init (t0 i) start D R ε δ (psimOwn i toks cs) (psimDelays i toks cs) hε hδ hR
    (Nat.le_of_eq hlen) h0 (fun tok h => htoks tok (hsub tok h))
    (fun p hp => by
      obtain ⟨c, hc, h1, h2⟩ := psimDelays_subset i toks cs p hp
      subst h2
      exact hps c hc h1) ht
  exact ⟨this.1, this.2.2⟩

/-- discard_overflow OFF, pool, closed world: every token an instance is handed is fired (none discarded), in order, and its loop ends. -/
theorem C04_pool_sim_off_all_fired (toks : List Int) (t0 : Nat → Int) (cs : List (Nat × Delays)) (i : Nat) :
    (runLoop .fresh false Waiter.init (psimHist false toks t0 cs i)).2 = .loopEnd ∧
    (∀ ev ∈ (runLoop .fresh false Waiter.init (psimHist false toks t0 cs i)).1, ev.isShoot = true) ∧
    (runLoop .fresh false Waiter.init (psimHist false toks t0 cs i)).1.map (fun ev => ev.iter.tok) = psimOwn i toks cs := by
  obtain ⟨heq, _, hlen⟩ := C04_pool_sim_is_sim false toks t0 cs i
  rw [heq]
  obtain ⟨h1, h2⟩ := C04_sim_terminates .fresh false Waiter.init (t0 i) _ _ (Nat.le_of_eq hlen)
  exact ⟨h1, runLoop_off_isShoot _ _ _, h2⟩

/-- Every step of the world hands out exactly one token (the head of the schedule) until none is left: after `|profile|` steps — made by
whichever instances — the whole profile has been handed out, each token to exactly one instance, and instance `i` got as many tokens as it
made steps on the non-empty schedule. -/
theorem C04_pool_sim_all_handed_out (d : Bool) (toks : List Int) (t0 : Nat → Int) (cs : List (Nat × Delays)) :
    (psim d (PSim.init toks t0) cs).sched = toks.drop cs.length ∧
    (toks.length ≤ cs.length → (psim d (PSim.init toks t0) cs).sched = []) ∧
    (∀ i, (psimOwn i toks cs).length = ((cs.take toks.length).filter (fun c => c.1 = i)).length) := by
  have h := psim_sched d cs (PSim.init toks t0)
  refine ⟨h, fun hl => ?_, fun i => psimOwn_length_eq_steps toks cs i⟩
  rw [h]
  exact List.drop_eq_nil_of_le hl

/-! ### the discarded sample in a phout line -/

/-- What a consumer of the phout file sees of a discarded token: the line has `2 + fieldsNum` = 12 TAB-separated columns; column 1
is the tag `discarded` (followed by `#<id>` when ids are printed), column `2 + keyErrno` = 10 is `777`, and every other numeric
column — the protocol code in the last one included — is `0`: not a response of the target. The indices are the REGENERATED
`keyErrno`, `keyProtoCode`, `fieldsNum` of the `iota` block; `SetUserNet` stores under `keyErrno`, `set` is the plain store and
`appendPhout` prints time stamp, tags, `#id`, then the fields in index order. -/
theorem C04_discard_sample_phout (ts : String) (id : Bool) :
    (phoutColumns ts discardedPhSample id).length = 12 ∧
    (phoutColumns ts discardedPhSample false)[1]? = some "discarded" ∧
    (phoutColumns ts discardedPhSample true)[1]? = some "discarded#0" ∧
    (phoutColumns ts discardedPhSample id)[phoutNetColumn]? = some "777" ∧ phoutNetColumn = 10 ∧
    (∀ k, 2 ≤ k → k < 12 → k ≠ phoutNetColumn → (phoutColumns ts discardedPhSample id)[k]? = some "0") ∧
    discardedPhSample.tags = discardedShootSample.tags ∧ discardedPhSample.fields[phKeyErrno]? = some discardedShootSample.net ∧
    Gen.Waiter.phKeyErrno = phKeyErrno ∧ Gen.Waiter.phKeyProtoCode = phKeyProtoCode ∧ Gen.Waiter.phFieldsNum = phFieldsNum ∧
    Gen.Waiter.phSetUserNetKey = "keyErrno" ∧ Gen.Waiter.phSetBody = "s.fields[k] = v" ∧
    Gen.Waiter.phoutLayout = ["timestamp", "TAB", "tags", "#id", "TAB+field*"] := by
  obtain ⟨g1, g2, g3, g4, g5, g6⟩ := Bridge.Waiter.phout_wiring
  have hcols : ∀ b : Bool, phoutColumns ts discardedPhSample b =
      ts :: (if b then "discarded#0" else "discarded") :: ["0", "0", "0", "0", "0", "0", "0", "0", "777", "0"] := by
    intro b; cases b <;> rfl
  refine ⟨by rw [hcols]; rfl, by rw [hcols]; rfl, by rw [hcols]; rfl, by rw [hcols]; rfl, rfl, ?_, rfl, by decide,
    g1, g2, g3, g4, g5, g6⟩
  intro k h2 h12 hne
  have hk : k = 2 ∨ k = 3 ∨ k = 4 ∨ k = 5 ∨ k = 6 ∨ k = 7 ∨ k = 8 ∨ k = 9 ∨ k = 11 := by
    have : phoutNetColumn = 10 := rfl
    omega
  rw [hcols]
  rcases hk with rfl | rfl | rfl | rfl | rfl | rfl | rfl | rfl | rfl <;> rfl

/-! ### the cached clock reading is only an optimisation -/

/-- REPAIRED `Wait`: the cached reading `lastNow` decides nothing. For two waiters whose cached readings are both not ahead of the
clock, the same call (context alive, a token handed out) returns the same answer, records the same overdue and leaves the same
cached reading — the one taken in this call — behind: every decision of `runLoop .fresh` is a function of the token times and the
clock readings alone, the cache only selects the path. The code as found does not have this property (`waitOld` records
`lastNow - next` on the `cachedNow` path: `C04_discarded_if_late_counterexample_old`). -/
theorem C04_cached_reading_is_an_optimisation (w1 w2 : Waiter) (e : Env) (h1 : w1.lastNow ≤ e.now) (h2 : w2.lastNow ≤ e.now)
    (htok : e.ctxDone = false → e.tok ≠ none) :
    (waitV .fresh w1 e).ok = (waitV .fresh w2 e).ok ∧ (waitV .fresh w1 e).w.overdue = (waitV .fresh w2 e).w.overdue ∧
    (e.ctxDone = false → (waitV .fresh w1 e).w.lastNow = e.now ∧ (waitV .fresh w2 e).w.lastNow = e.now) := by
  cases hc : e.ctxDone with
  | true => simp [waitV, hc]
  | false =>
    cases ht : e.tok with
    | none => exact absurd ht (htok hc)
    | some next =>
      obtain ⟨a1, a2⟩ := wait_fresh_eq w1 e h1 next hc ht
      obtain ⟨b1, b2⟩ := wait_fresh_eq w2 e h2 next hc ht
      rw [a1, a2, b1, b2]
      exact ⟨rfl, rfl, fun _ => ⟨rfl, rfl⟩⟩

/-! ### non-vacuity: timer, saturated run, pool run length, cached reading, closed world of a pool -/

/-- a run that is cancelled while the instance sleeps on its timer: the sleep is left through `ctx.Done()`, the next call of `Wait`
(if the loop got that far) finds the context done -/
def stickyDemo : List Iter :=
  [ { env := { tok := some 0, pick := 0, now := 0, arm := 0, ret := 0 }, dur := 100000000 },
    { env := { tok := some 1000000000, pick := 100001000, now := 100002000, arm := 100003000, ret := 1000004000 }, dur := 0 },
    { env := { tok := some 2000000000, pick := 1000005000, now := 1000006000, arm := 1000007000, timerWins := false, ret := 1500000000 } },
    { env := { ctxDone := true, pick := 1500001000, now := 1500001000, arm := 1500001000, ret := 1500001000 } } ]

example : CtxSticky stickyDemo ∧ ({} : TimerSt).stale = false ∧ ClockOKT .fresh Waiter.init {} stickyDemo ∧
    (timerTrace .fresh Waiter.init {} stickyDemo).map (fun p => (p.1.stale, p.2.path)) =
      [(false, .freshNow), (false, .timer), (false, .timerCancel), (true, .ctxDone)] ∧
    ((runLoop .fresh true Waiter.init stickyDemo).1.map Ev.isShoot) = [true, true] := by decide

/-- `C04_sub_saturation_run`: `demo` shifted into 2026 lies in a window of one day; its first call really saturates -/
def demo2026 : List Iter := demo.map fun it =>
  { it with env := { it.env with tok := it.env.tok.map (· + 1790000000000000000), pick := it.env.pick + 1790000000000000000,
                                 now := it.env.now + 1790000000000000000, arm := it.env.arm + 1790000000000000000,
                                 ret := it.env.ret + 1790000000000000000 } }
example : zeroTime < 1790000000000000000 ∧ (1790086400000000000 : Int) - 1790000000000000000 ≤ maxDuration ∧
    (∀ it ∈ demo2026, (1790000000000000000 : Int) ≤ it.env.now ∧ it.env.now ≤ 1790086400000000000 ∧
      ∀ next ∈ it.env.tok, (1790000000000000000 : Int) ≤ next ∧ next ≤ 1790086400000000000) ∧
    ((runLoopWith satSub .fresh true Waiter.init demo2026).1.map Ev.isShoot) = [true, true, true, false, true] := by decide

/-- `C04_pool_run_bounded`: `pdemo` (tokens ≤ 0 + 0.2 s, responses ≤ 1 s, ε = 1 ms) meets the hypotheses for instance 1 -/
example : (∀ t ∈ [(0 : Int), 100000000, 200000000], t ≤ 0 + 200000000) ∧
    (∀ it ∈ (prun (PState.init [0, 100000000, 200000000]) pdemo).hist 1, it.dur ≤ 1000000000) ∧
    (∀ it ∈ (prun (PState.init [0, 100000000, 200000000]) pdemo).hist 1, ∀ next ∈ it.env.tok,
      it.env.ret ≤ max it.env.pick next + 1000000) ∧
    (∀ it ∈ (prun (PState.init [0, 100000000, 200000000]) pdemo).hist 1, it.ctxDoneSlow = false) ∧
    ClockOK Waiter.init ((prun (PState.init [0, 100000000, 200000000]) pdemo).hist 1) ∧
    ReadAfterPick ((prun (PState.init [0, 100000000, 200000000]) pdemo).hist 1) ∧
    (poolEvents .fresh true [0, 100000000, 200000000] pdemo 1).map Ev.isShoot = [true] := by decide

/-- `C04_cached_reading_is_an_optimisation`: a stale and a fresh cached reading, a token 2.5 s late -/
example : (waitV .fresh { lastNow := 0, overdue := 7 } { tok := some 500000000, now := 3000000000, arm := 3000000000, ret := 3000000000 }).w =
    (waitV .fresh { lastNow := 2999999999, overdue := 0 } { tok := some 500000000, now := 3000000000, arm := 3000000000, ret := 3000000000 }).w := by
  decide

/-- `C04_pool_sim_*`: two instances on one profile of six tokens 100 ms apart; instance 1 starts 0.8 s late; instance 0's first
request takes 3 s, so the token it is handed next (0.4 s) is 2.6 s late and is discarded, while instance 1 (0.1 s responses) fires the
four tokens it gets -/
def psToks : List Int := [0, 100000000, 200000000, 300000000, 400000000, 500000000]
def psT0 : Nat → Int := fun i => if i = 0 then 0 else 800000000
def psSteps : List (Nat × Delays) :=
  [(0, { dPick := 1000, dNow := 10, dArm := 10, dLag := 5000, dur := 3000000000 }),
   (1, { dPick := 1000, dNow := 10, dArm := 10, dLag := 5000, dur := 100000000 }),
   (1, { dPick := 1000, dNow := 10, dArm := 10, dLag := 5000, dur := 100000000 }),
   (1, { dPick := 1000, dNow := 10, dArm := 10, dLag := 5000, dur := 100000000 }),
   (0, { dPick := 1000, dNow := 10, dArm := 10, dLag := 5000, dur := 3000000000 }),
   (1, { dPick := 1000, dNow := 10, dArm := 10, dLag := 5000, dur := 100000000 })]
example : psimOwn 0 psToks psSteps = [0, 400000000] ∧ psimOwn 1 psToks psSteps = [100000000, 200000000, 300000000, 500000000] ∧
    (runLoop .fresh true Waiter.init (psimHist true psToks psT0 psSteps 0)).1.map Ev.isShoot = [true, false] ∧
    (runLoop .fresh true Waiter.init (psimHist true psToks psT0 psSteps 1)).1.map Ev.isShoot = [true, true, true, true] ∧
    (runLoop .fresh false Waiter.init (psimHist false psToks psT0 psSteps 0)).1.map Ev.isShoot = [true, true] ∧
    (psim true (PSim.init psToks psT0) psSteps).sched = [] := by decide
/-- the hypotheses of `C04_pool_sim_run_bounded` for both instances (start 0, D = 0.5 s, R = 3 s, ε = 6 µs, δ = 1 µs) -/
example : zeroTime ≤ psT0 0 ∧ zeroTime ≤ psT0 1 ∧ (∀ tok ∈ psToks, tok ≤ 0 + 500000000) ∧
    (∀ c ∈ psSteps, (c.2.dur : Int) ≤ 3000000000 ∧ (c.2.dPick : Int) ≤ 1000 ∧ (c.2.dNow : Int) + c.2.dArm + c.2.dLag ≤ 6000) ∧
    psT0 1 ≤ 0 + 500000000 + maxOverdue + 6000 + 3000000000 := by decide

/-! ### composition with the load profile (C01's regenerated schedule constructors and start protocol)

The theorems above speak about "the token's time" - whatever instant the schedule handed to the instance. The property speaks
about the request's SCHEDULED time, which the configured load profile defines. C01 proves, over `Gen.Schedule` /
`Gen.SchedConc` (regenerated from core/schedule on every check of C04 as well, areas `schedule` and `schedconc`), what the
schedules hand out; here the two are composed. -/

section profile
open Pandora Pandora.Gen.Schedule Pandora.Bridge.Schedule

/-- **profile → waiter** (any leaf that realises a profile: by `C01_const` / `C01_line` every accepted const and line
configuration, fractional-second durations included): the started schedule answers call `j < n` with `t0 + at_ j`, where
`at_ j` is the ns-truncation of the EARLIEST instant `x` at which the integral `c` of the configured rate reaches `j`; and
whatever the state of the Waiter and whichever variant, a `Wait` that was handed that answer returns true not before
`t0 + ⌊x·10⁹⌋`: no request is fired before the instant the PROFILE schedules it. -/
theorem C04_profile_no_early (s : Sched) (c : ℝ → ℝ) (D : ℤ) (hs : C01.Realises s c D) :
    ∃ (n : ℤ) (at_ : ℤ → ℤ), s = Sched.doAt D n at_ ∧ n = ⌊c (secs D)⌋ ∧
      ∀ (t0 : ℤ) (nows : List ℤ) (j : ℕ), j < nows.length → (j : ℤ) < n →
        ∃ rs, C01.startAndDrain D n at_ t0 nows = Except.ok rs ∧ rs[j]? = some (t0 + at_ j, true) ∧
          ∃ x : ℝ, C01.EarliestAt c D j x ∧ at_ j = ⌊x * 1000000000⌋ ∧
            ∀ (v : Variant) (w : Waiter) (e : Env), EnvOK e → w.lastNow ≤ e.now → e.tok = some (t0 + at_ j) →
              (waitV v w e).ok = true → t0 + ⌊x * 1000000000⌋ ≤ e.ret := by
  obtain ⟨n, at_, rfl, hn, hk⟩ := hs
  refine ⟨n, at_, rfl, hn, ?_⟩
  intro t0 nows j hj hjn
  refine ⟨_, C01.C01_leaf_run D n at_ t0 nows, ?_, ?_⟩
  · have : ¬ n ≤ (j : ℤ) := by omega
    simp [hj, this]
  · obtain ⟨x, hx, hat, _, _⟩ := hk (j : ℤ) (by omega) hjn
    refine ⟨x, by simpa using hx, hat, ?_⟩
    intro v w e hok hinv htok hwait
    obtain ⟨next, h1, h2⟩ := C04_no_early_wait v w e hok hinv hwait
    rw [htok] at h1
    injection h1 with h1
    rw [← hat]; omega

/-- **line profile → waiter**: `C04_profile_no_early` for every accepted line configuration (the constructor regenerated from
core/schedule/line.go, the validity predicate from its struct tags). -/
theorem C04_line_no_early (f t : ℝ) (D : ℤ) (h : LineConfig_valid f t D) :
    ∃ (n : ℤ) (at_ : ℤ → ℤ), NewLineConf f t D = Sched.doAt D n at_ ∧ n = ⌊(f + t) / 2 * secs D⌋ ∧
      ∀ (t0 : ℤ) (nows : List ℤ) (j : ℕ), j < nows.length → (j : ℤ) < n →
        ∃ rs, C01.startAndDrain D n at_ t0 nows = Except.ok rs ∧ rs[j]? = some (t0 + at_ j, true) ∧
          ∃ x : ℝ, C01.EarliestAt (C01.lineCum f t D) D j x ∧ at_ j = ⌊x * 1000000000⌋ ∧
            ∀ (v : Variant) (w : Waiter) (e : Env), EnvOK e → w.lastNow ≤ e.now → e.tok = some (t0 + at_ j) →
              (waitV v w e).ok = true → t0 + ⌊x * 1000000000⌋ ≤ e.ret := by
  obtain ⟨hr, htot⟩ := C01.C01_line f t D h
  obtain ⟨n, at_, h1, h2, h3⟩ := C04_profile_no_early _ _ D hr
  exact ⟨n, at_, h1, by rw [h2, htot], h3⟩

/-- **const profile → waiter** -/
theorem C04_const_no_early (ops : ℝ) (D : ℤ) (h : ConstConfig_valid ops D) :
    ∃ (n : ℤ) (at_ : ℤ → ℤ), NewConstConf ops D = Sched.doAt D n at_ ∧ n = ⌊ops * secs D⌋ ∧
      ∀ (t0 : ℤ) (nows : List ℤ) (j : ℕ), j < nows.length → (j : ℤ) < n →
        ∃ rs, C01.startAndDrain D n at_ t0 nows = Except.ok rs ∧ rs[j]? = some (t0 + at_ j, true) ∧
          ∃ x : ℝ, C01.EarliestAt (C01.constCum ops) D j x ∧ at_ j = ⌊x * 1000000000⌋ ∧
            ∀ (v : Variant) (w : Waiter) (e : Env), EnvOK e → w.lastNow ≤ e.now → e.tok = some (t0 + at_ j) →
              (waitV v w e).ok = true → t0 + ⌊x * 1000000000⌋ ≤ e.ret := by
  obtain ⟨n, at_, h1, h2, h3⟩ := C04_profile_no_early _ _ D (C01.C01_const ops D h)
  exact ⟨n, at_, h1, by rw [h2]; rfl, h3⟩

/-- **lazy start of a shared profile → the waiters of a pool**: a leaf `doAt D n f` that is never `Start()`ed (what
`NewRPSSchedule` gives to a pool) and is asked by any number of instances at the same time, in ANY interleaving of their accesses
to its shared state (`sched` = who moves next and what the clock shows then; the program of `Next` is the REGENERATED
`Gen.SchedConc.nextProg`): there is ONE instant `v`, a clock reading taken during the run, such that every finished call with
an index `idx < n` answered `v + f idx` (no answer is based on an unset start), and every `Wait` - any Waiter state, either
variant - that was handed such an answer returns true not before `v + f idx`. -/
theorem C04_pool_lazy_start_no_early (D n : ℤ) (f : ℤ → ℤ) (sched : List (ℕ × ℤ)) :
    ∃ v, ((Model.C01Conc.run 0 (Model.C01Conc.initLazy Gen.SchedConc.nextProg) sched).log = [] ∨
            v ∈ sched.map Prod.snd) ∧
      ∀ a ∈ (Model.C01Conc.run 0 (Model.C01Conc.initLazy Gen.SchedConc.nextProg) sched).log, a.idx < n →
        0 ≤ a.idx ∧ Model.C01Conc.ansOf D n f a = some (v + f a.idx, true) ∧
        ∀ (vr : Variant) (w : Waiter) (e : Env), EnvOK e → w.lastNow ≤ e.now → e.tok = some (v + f a.idx) →
          (waitV vr w e).ok = true → v + f a.idx ≤ e.ret := by
  obtain ⟨v, hv, _, _, hlog⟩ := C01.C01_lazy_start_concurrent D n f sched
  refine ⟨v, hv, ?_⟩
  intro a ha hidx
  obtain ⟨hidx0, _, _, hans⟩ := hlog a ha
  obtain ⟨r, s', _, h2, h3⟩ := hans 0
  have hn : ¬ n ≤ a.idx := by omega
  refine ⟨hidx0, by rw [h2, h3]; simp [hn], ?_⟩
  intro vr w e hok hinv htok hwait
  obtain ⟨next, h1, h2'⟩ := C04_no_early_wait vr w e hok hinv hwait
  rw [htok] at h1
  injection h1 with h1
  omega

/-- **end to end** (config → constructor → lazy start under contention → waiter): for every accepted line configuration, the
instances of a pool that share its never-started schedule, any interleaving: one start instant `v` read from the clock during
the run; the call that drew index `idx` hands its instance `v + ⌊x·10⁹⌋` with `x` the earliest instant at which the configured
integral reaches `idx`, and that instance's `Wait` returns true not before it. -/
theorem C04_line_pool_no_early (f t : ℝ) (D : ℤ) (h : LineConfig_valid f t D) (sched : List (ℕ × ℤ)) :
    ∃ (n : ℤ) (at_ : ℤ → ℤ) (v : ℤ), NewLineConf f t D = Sched.doAt D n at_ ∧
      ((Model.C01Conc.run 0 (Model.C01Conc.initLazy Gen.SchedConc.nextProg) sched).log = [] ∨ v ∈ sched.map Prod.snd) ∧
      ∀ a ∈ (Model.C01Conc.run 0 (Model.C01Conc.initLazy Gen.SchedConc.nextProg) sched).log, a.idx < n →
        ∃ x : ℝ, C01.EarliestAt (C01.lineCum f t D) D a.idx x ∧
          Model.C01Conc.ansOf D n at_ a = some (v + ⌊x * 1000000000⌋, true) ∧
          ∀ (vr : Variant) (w : Waiter) (e : Env), EnvOK e → w.lastNow ≤ e.now → e.tok = some (v + ⌊x * 1000000000⌋) →
            (waitV vr w e).ok = true → v + ⌊x * 1000000000⌋ ≤ e.ret := by
  obtain ⟨⟨n, at_, hnew, _, hk⟩, _⟩ := C01.C01_line f t D h
  obtain ⟨v, hv, hlog⟩ := C04_pool_lazy_start_no_early D n at_ sched
  refine ⟨n, at_, v, hnew, hv, ?_⟩
  intro a ha hidx
  obtain ⟨h0, hans, hw⟩ := hlog a ha hidx
  obtain ⟨x, hx, hat, _, _⟩ := hk a.idx h0 hidx
  refine ⟨x, hx, by rw [hans, hat], ?_⟩
  intro vr w e hok hinv htok hwait
  rw [← hat] at htok ⊢
  exact hw vr w e hok hinv htok hwait

end profile

open Pandora Pandora.Gen.Schedule Pandora.Bridge.Schedule

/-! non-vacuity of the compositions with the load profile -/

-- line 0 → 40 ops/s over 1.5 s (a duration with a fraction of a second): 30 operations; operation 19 of a schedule started at 0
-- is handed to a fresh Waiter at the very instant it is due: all hypotheses of `C04_line_no_early` hold together
example : ∃ (n : ℤ) (at_ : ℤ → ℤ), NewLineConf 0 40 1500000000 = Sched.doAt 1500000000 n at_ ∧ n = 30 ∧ (19 : ℤ) < n ∧
    ∃ e : Env, EnvOK e ∧ Waiter.init.lastNow ≤ e.now ∧ e.tok = some (0 + at_ 19) ∧ (waitV .fresh Waiter.init e).ok = true := by
  obtain ⟨n, at_, h1, h2, h3⟩ := C04_line_no_early 0 40 1500000000
    ((Bridge.C01.LineConfig_valid_iff 0 40 1500000000).mpr ⟨by norm_num, by norm_num, by norm_num⟩)
  have hn : n = 30 := by
    rw [h2]; unfold secs
    have : ((0 : ℝ) + 40) / 2 * (((1500000000 : ℤ) : ℝ) / 1000000000) = ((30 : ℤ) : ℝ) := by norm_num
    rw [this, Int.floor_intCast]
  obtain ⟨rs, _, _, x, hx, hat, _⟩ := h3 0 (List.replicate 20 0) 19 (by simp) (by omega)
  have h0 : 0 ≤ at_ 19 := by
    have : at_ ((19 : ℕ) : ℤ) = ⌊x * 1000000000⌋ := hat
    simp only [Nat.cast_ofNat] at this
    rw [this]; exact Int.floor_nonneg.mpr (mul_nonneg hx.1 (by norm_num))
  refine ⟨n, at_, h1, hn, by omega, ⟨{ tok := some (0 + at_ 19), now := at_ 19, arm := at_ 19, ret := at_ 19 }, ?_, ?_, rfl, ?_⟩⟩
  · refine ⟨le_refl _, le_refl _, ?_⟩
    intro next hmem _ hlt
    simp at hmem hlt
    omega
  · show zeroTime ≤ at_ 19
    unfold zeroTime; omega
  · exact waitV_ok_of_token .fresh _ _ _ rfl rfl rfl

-- two instances take their first token from a never-started leaf at the same time: instance 0 wins the Once and reads the clock
-- (10), instance 1 waits for it; both calls finish, with indices 0 and 1, both below n = 5
example : (Model.C01Conc.run 0 (Model.C01Conc.initLazy Gen.SchedConc.nextProg)
      [(0, 10), (1, 11), (0, 10), (0, 10), (0, 10), (0, 10), (0, 10), (1, 11), (1, 11), (1, 11), (1, 11), (1, 11)]).log.map (·.idx) = [1, 0] ∨
    (Model.C01Conc.run 0 (Model.C01Conc.initLazy Gen.SchedConc.nextProg)
      [(0, 10), (1, 11), (0, 10), (0, 10), (0, 10), (0, 10), (0, 10), (1, 11), (1, 11), (1, 11), (1, 11), (1, 11)]).log.map (·.idx) = [0, 1] := by
  decide

/-- the tokens a leaf `doAt D n at_` started at `start` hands out, in order -/
def profileToks (start n : ℤ) (at_ : ℤ → ℤ) : List Int := (List.range n.toNat).map fun (j : ℕ) => start + at_ (j : ℤ)

/-- **profile duration → run length** (the clause "the length of a run stays bounded by the profile duration plus response time"
with the duration being the CONFIGURED one): for every leaf that realises a profile of duration `D` (every accepted const / line
configuration: `C01_const`, `C01_line`) started at `start`, any number of instances on that one schedule in the closed world of
`psim` (arbitrary interleaving, late starters, arbitrary response times ≤ R, discard_overflow on): the loop of every instance ends, and
its k-th action is over by `start + D + 2 s + ε + R + (k+1)(δ+ε)`. The hypothesis about the tokens of `C04_pool_sim_run_bounded` is
discharged from the profile. -/
theorem C04_profile_run_bounded (s : Sched) (cum : ℝ → ℝ) (D : ℤ) (hs : C01.Realises s cum D) :
    ∃ (n : ℤ) (at_ : ℤ → ℤ), s = Sched.doAt D n at_ ∧
      ∀ (start : ℤ) (t0 : Nat → Int) (cs : List (Nat × Delays)) (i : Nat) (R ε δ : Int),
        0 ≤ ε → 0 ≤ δ → 0 ≤ R → zeroTime ≤ t0 i →
        (∀ c ∈ cs, c.1 = i → (c.2.dur : Int) ≤ R ∧ (c.2.dPick : Int) ≤ δ ∧ (c.2.dNow : Int) + c.2.dArm + c.2.dLag ≤ ε) →
        t0 i ≤ start + D + maxOverdue + ε + R →
        (∀ tok ∈ profileToks start n at_, start ≤ tok ∧ tok ≤ start + D) ∧
        (runLoop .fresh true Waiter.init (psimHist true (profileToks start n at_) t0 cs i)).2 = .loopEnd ∧
        (∀ k ev, (runLoop .fresh true Waiter.init (psimHist true (profileToks start n at_) t0 cs i)).1[k]? = some ev →
          endT ev ≤ chainBound (start + D + maxOverdue + ε + R) (δ + ε) k) := by
  obtain ⟨n, at_, rfl, _, hk⟩ := hs
  refine ⟨n, at_, rfl, ?_⟩
  intro start t0 cs i R ε δ hε hδ hR h0 hps ht
  have htoks : ∀ tok ∈ profileToks start n at_, start ≤ tok ∧ tok ≤ start + D := by
    intro tok htok
    unfold profileToks at htok
    simp only [List.mem_map, List.mem_range] at htok
    obtain ⟨j, hj, rfl⟩ := htok
    have hj0 : (0 : ℤ) ≤ (j : ℤ) := Int.natCast_nonneg j
    obtain ⟨_, _, _, h1, h2⟩ := hk (j : ℤ) hj0 (by omega)
    exact ⟨by omega, by omega⟩
  obtain ⟨h1, h2⟩ := C04_pool_sim_run_bounded (profileToks start n at_) t0 cs i start D R ε δ hε hδ hR h0
    (fun tok h => (htoks tok h).2) hps ht
  exact ⟨htoks, h1, h2⟩

/-- non-vacuity of `C04_profile_run_bounded`: the line 0 → 40 ops/s over 1.5 s realises its profile (`C01_line`), and the world of
`psSteps` / `psT0` (two instances, one a late starter, 3 s responses) meets the remaining hypotheses with start 0, R = 3 s,
ε = 6 µs, δ = 1 µs -/
example : C01.Realises (NewLineConf 0 40 1500000000) (C01.lineCum 0 40 1500000000) 1500000000 ∧
    zeroTime ≤ psT0 1 ∧
    (∀ c ∈ psSteps, c.1 = 1 → (c.2.dur : Int) ≤ 3000000000 ∧ (c.2.dPick : Int) ≤ 1000 ∧ (c.2.dNow : Int) + c.2.dArm + c.2.dLag ≤ 6000) ∧
    psT0 1 ≤ 0 + 1500000000 + maxOverdue + 6000 + 3000000000 :=
  ⟨(C01.C01_line 0 40 1500000000
      ((Bridge.C01.LineConfig_valid_iff 0 40 1500000000).mpr ⟨by norm_num, by norm_num, by norm_num⟩)).1,
    by decide, by decide, by decide⟩

/-- **once profile → waiter**: every accepted `once(times)` is the leaf whose `times` operations all sit at the start instant; the
started schedule answers call `j < times` with `t0`, and a `Wait` that was handed it returns true not before `t0`. -/
theorem C04_once_no_early (n : ℤ) (h : OnceConfig_valid n) (t0 : ℤ) (nows : List ℤ) (j : ℕ) (hj : j < nows.length)
    (hjn : (j : ℤ) < n) :
    NewOnceConf n = Sched.doAt 0 n (fun _ => 0) ∧
    ∃ rs, C01.startAndDrain 0 n (fun _ => 0) t0 nows = Except.ok rs ∧ rs[j]? = some (t0, true) ∧
      ∀ (v : Variant) (w : Waiter) (e : Env), EnvOK e → w.lastNow ≤ e.now → e.tok = some t0 →
        (waitV v w e).ok = true → t0 ≤ e.ret := by
  obtain ⟨h1, h2⟩ := C01.C01_once n h
  have hn : ¬ n ≤ (j : ℤ) := by omega
  refine ⟨h1, _, h2 t0 nows, by simp [hj, hn], ?_⟩
  intro v w e hok hinv htok hwait
  obtain ⟨next, e1, e2⟩ := C04_no_early_wait v w e hok hinv hwait
  rw [htok] at e1
  injection e1 with e1
  omega

-- non-vacuity: once(5), started at 7, call 3; a fresh Waiter that reads the clock at 7
example : OnceConfig_valid 5 ∧ (3 : ℕ) < [0, 0, 0, 0].length ∧ ((3 : ℕ) : ℤ) < 5 ∧
    EnvOK { tok := some 7, now := 7, arm := 7, ret := 7 } ∧ Waiter.init.lastNow ≤ 7 ∧
    (waitV .fresh Waiter.init { tok := some 7, now := 7, arm := 7, ret := 7 }).ok = true := by
  refine ⟨by unfold OnceConfig_valid; norm_num, by decide, by decide, by decide, by decide, by decide⟩

end Pandora.Props.C04
