/-
Property C16: a scenario means the same whether written in HCL or in YAML.

The HCL front-end reaches `AmmoConfig` through an extra hop: gohcl fills the `…HCL` structs, yaml.v2 marshals them
(keys and `omitempty` from the struct tags), and the text goes through the same `DecodeMap` as a YAML file.  Whether
the hop loses anything is decided by the struct/tag tables, which `/verif/gen -area hclyaml` re-extracts from the
source on every check run (`Pandora/Gen/HclYaml.lean`):

* `C16_tables_compat`      the current tables satisfy the decidable compatibility `compat` (every HCL field is
                            marshalled under the key the documentation gives it in YAML; that key selects exactly one
                            config field of a compatible type, and conversely; a field that the config stores as a
                            pointer is only left out by yaml.v2 when it is nil; plugin blocks carry their `type`;
                            a key unknown to a plugin is only written when the user wrote it) — by `decide`;
* `C16_equiv`              for ANY tables with `compat`, and EVERY description tree `d` (all optional fields present,
                            absent or present-and-zero, any number of sources / requests / calls / processors /
                            scenarios, any strings): decoding what yaml.v2 marshals from the HCL structs = decoding
                            the same description written directly in YAML;
* `C16_equiv_current`      the instance for the current source;
* `C16_documented`         every field of the documented format exists in the HCL structs with the documented name,
                            kind, optionality and YAML key — by `decide`;
* `C16_conversion_total`   under `compat` every field survives the hop: a non-zero value written in a field is found
                            unchanged in the config field that the documented YAML key selects, a block reaches the
                            config field of its key, and yaml.v2 leaves a field out only when it is nil or an
                            `omitempty` zero (which the decoder would store as the same zero anyway).

HCL-only conveniences (`config/hcl.go`: `locals` blocks, the registered collection functions) are evaluated by
`ParseHCLFile` BEFORE the conversion; the model `evalFile` (function table and the data flow of `decodeLocals`
regenerated from the source) is tied by the differential driver, which evaluates the syntax tree of every HCL file it
prints:

* `C16_functions_documented`  the registered functions are exactly the documented ones, each bound to its namesake;
* `C16_locals_flow`           `decodeLocals` / `mergeMaps` / `ParseHCLFile` of the current source have the data flow of
                               the model (a block sees the locals of the blocks before it, its entries are written over
                               them, the body is decoded under the final locals);
* `C16_locals_in_order`, `C16_locals_later_wins`   the blocks are processed left to right; a name defined again takes the
                               later value, every other name keeps its value;
* `C16_locals_inline`, `C16_locals_file`   locals are conveniences: writing the value of every local out as a literal
                               does not change the value of any expression, nor the description a file denotes;
* `C16_hcl_file_agrees`       end to end: whenever the HCL file evaluates to a description `d` (without a `<<` map key),
                               the HCL front-end on the FILE and the YAML front-end on `d` written in YAML agree;
* `C16_ammo_identical`        the ammo both providers build (`decodeAmmo`: scenarios spread by weight, steps resolved
                               by name with multipliers and sleeps) is the same for both front-ends;
                               `C16_any_reader_agrees`: so is any function of the decoded record;
* `C16_functions_distinguished`, `C16_index_refines_element`   any two registered functions are told apart by a witness
                               call that the harness spells in a file on every run (a slip in the function table has a
                               concrete failing input);
* `C16_unevaluated_local_refuses`, `C16_errors_propagated`   a `locals` block that does not evaluate refuses the file even
                               when nothing uses it; in the current source no error between file and `AmmoConfig` is
                               swallowed and no block / attribute is skipped (regenerated `errFlow`, loop facts);
* `C16_readers_nil_blind`     no reader of `AmmoConfig` tells a nil collection from an empty one (regenerated).

In front of the evaluation and behind the decoding:

* `C16_format_by_extension`, `C16_format_current`, `C16_format_twins`   `ReadAmmoConfig` selects the front-end by the file
                               name: for ANY table of cases with the decidable `extSelects`, any base name and any
                               spelling of the extension that the name mapping (`strings.ToLower`, or nothing) turns into
                               `.hcl` / `.yaml`, the file reaches `ParseHCLFile` + `ConvertHCLToAmmo` / `ParseAmmoConfig`;
                               the regenerated switch has `extSelects` for both, and every case tests the same value
                               (`C16_ext_subject`);
* `C16_locals_blocks_all_count` (+ `_statement`, `_counterexample`, `C16_locals_blocks_current`)   an accepted file
                               denotes what ALL its `locals` blocks and its body say — true when `ParseHCLFile` returns
                               the diagnostics of `PartialContent`, FALSE when it ignores them: a `locals` block written
                               with a label is dropped by hcl with an error that nobody reads (finding `dropped-locals`,
                               repaired: `C16_locals_blocks_all_count_current` — the current source returns them);
                               `C16_labelled_locals_refused`, `C16_plain_locals_unaffected`;
* `C16_front_ends_stateless`, `C16_provider_flow`   regenerated: the front-ends only read package-level variables (no
                               cache / pool / hoisted parser: a file is decoded independently of the files before it),
                               and the providers hand the file name to `ReadAmmoConfig` only and build storage and ammo
                               from its result only;
* `C16_durations_exact`, `C16_durations_wrap`   waiting times and sleeps are int64 nanoseconds: exact up to
                               9 223 372 036 854 ms (292 years), wrapping beyond — for both front-ends alike.

What a YAML scalar's characters go through inside yaml.v2 / hcl (quoting, escapes, NFC normalisation of HCL strings)
is library behaviour: tied by the differential harness only (see notes/C16.md).
-/
import Pandora.Model.C16
import Pandora.Model.C16Locals
import Pandora.Model.C16Ammo
import Pandora.Model.C16Frozen
import Pandora.Model.C16Src
import Pandora.Model.C16Read
import Pandora.Spec.C16
import Pandora.Proofs.C16
import Pandora.Proofs.C16Locals
import Pandora.Proofs.C16Src
import Pandora.Model.C16Text
import Pandora.Proofs.C16Text
import Pandora.Bridge.HclYaml

namespace Pandora.Props.C16
open Pandora.Go Pandora.Model.C16 Pandora.Proofs.C16 Pandora.Spec.C16
open Pandora.Bridge.HclYaml (current unread fns)

/-! ### the regenerated tables -/

/-- the struct/tag tables of the current source are compatible -/
theorem C16_tables_compat : compat current unread = true := by decide +kernel

/-- the HCL structs of the current source have every documented field, spelled and optional as documented -/
theorem C16_documented : documented current = true := by decide +kernel

/-! ### equivalence of the two front-ends -/

/-- For all compatible tables and every description: the document yaml.v2 marshals from the HCL structs and the
description written directly in YAML decode to the same `AmmoConfig` record. -/
theorem C16_equiv (T : Tables) (u : List String) (hc : compat T u = true) (d : V) :
    decode T (marshal T d) = decode T (yamlDoc T d) := by
  unfold decode marshal yamlDoc
  exact render_decode_eq T u d compatFuel (.struct T.hclRoot) (.struct T.cfgRoot) hc

/-- the two front-ends of the current source agree on every description -/
theorem C16_equiv_current (d : V) : decode current (marshal current d) = decode current (yamlDoc current d) :=
  C16_equiv current unread C16_tables_compat d

/-- fields that the user did not write are nil in the HCL structs; they do not exist in the user's YAML -/
theorem C16_yaml_complete (T : Tables) (d : V) : yamlDoc T (complete T d) = yamlDoc T d := by
  unfold yamlDoc complete
  exact renderV_Y_complete T d _

/-- the HCL structs as gohcl fills them (every field present, nil where the user wrote nothing), marshalled by yaml.v2
and decoded = the user's YAML decoded -/
theorem C16_equiv_complete (T : Tables) (u : List String) (hc : compat T u = true) (d : V) :
    decode T (marshal T (complete T d)) = decode T (yamlDoc T d) := by
  rw [C16_equiv T u hc, C16_yaml_complete]

/-- the same at every nesting level: any HCL struct against the config struct (or plugin interface) it feeds -/
theorem C16_equiv_nested (T : Tables) (u : List String) (n : Nat) (hty : C16HTy) (cty : C16CTy)
    (h : tyRel (compatS T u n) hty cty = true) (v : V) :
    decodeV T cty (renderV polM T hty v) = decodeV T cty (renderV polY T hty v) :=
  render_decode_eq T u v n hty cty h

/-! ### the two front-ends including the text hop (one known defect, `findings/C16.json` key `merge-key`) -/

/-- full-strength statement: both front-ends return the same outcome for every description -/
def C16_paths_agree_statement : Prop := ∀ d : V, hclPath current d = yamlPath current d

/-- it holds for every description without a string-map key `<<` -/
theorem C16_paths_agree_partial (d : V) (h : hasMergeKey d = false) : hclPath current d = yamlPath current d := by
  unfold hclPath yamlPath
  rw [h]
  simp only [Bool.false_eq_true, if_false]
  rw [C16_equiv_complete current unread C16_tables_compat]

/-- and fails for a request whose `headers` map has the key `<<` (corpus/C16.txt carries this witness: the real HCL
front-end refuses it, the real YAML front-end accepts it) -/
theorem C16_paths_agree_counterexample : ¬ C16_paths_agree_statement := by
  intro h
  have h1 := h (.map [("request", .seq [.map [("name", .str "r"), ("method", .str "GET"), ("uri", .str "/"),
    ("headers", .map [("<<", .str "v")])]]), ("scenario", .seq [.map [("name", .str "s"), ("requests", .seq [.str "r"])]])])
  unfold hclPath yamlPath at h1
  rw [if_pos (by decide)] at h1
  cases h1

/-! ### HCL-only conveniences are fully evaluated before the conversion -/

/-- the functions registered by `buildHclContext` are exactly the documented ones, each bound to the go-cty stdlib
function of its name -/
theorem C16_functions_documented : fns = docFunctions := rfl

/-- the data flow of `decodeLocals`, `mergeMaps`, `decodeLocalBlock` and `ParseHCLFile` in the current source is the
one of the model (`evalLocals`, `evalFile`): later definitions win, blocks see the blocks before them, the body is
decoded under the final locals, which are visible as `local.<name>` -/
theorem C16_locals_flow :
    Pandora.Bridge.HclYaml.laterWins = true ∧ Pandora.Bridge.HclYaml.accHoldsMerged = true ∧
    Pandora.Bridge.HclYaml.ctxIsMerged = true ∧ Gen.HclYaml.localsBlockCtx = "ctx" ∧
    Gen.HclYaml.localBlockEvalUnder = "param" ∧ Gen.HclYaml.parseHclBodyCtx = "locals-ctx" ∧
    Gen.HclYaml.localsRoot = "local" ∧ Gen.HclYaml.localsBlockTypes = ["locals"] ∧
    Gen.HclYaml.localsBlockFilter = ["locals"] :=
  Pandora.Bridge.HclYaml.locals_flow

/-- no failure between the file and `AmmoConfig` is swallowed in the current source: the error / diagnostics value of
every fallible call of `ParseHCLFile`, `decodeLocals`, `decodeLocalBlock`, `ConvertHCLToAmmo`, `DecodeMap`,
`ParseAmmoConfig` is tested by the next statement and returned (regenerated `errFlow`); the loops over the `locals`
blocks and over their attributes skip nothing — what the model's `none` ⇒ refused rests on -/
theorem C16_errors_propagated :
    Gen.HclYaml.errFlow.all Pandora.Bridge.HclYaml.errRowOK = true ∧
    ("decodeLocals", "decodeLocalBlock", "returned") ∈ Gen.HclYaml.errFlow ∧
    ("decodeLocalBlock", "(hcl.Expression).Value", "returned") ∈ Gen.HclYaml.errFlow ∧
    ("ParseHCLFile", "decodeLocals", "returned") ∈ Gen.HclYaml.errFlow ∧
    ("ParseHCLFile", "gohcl.DecodeBody", "returned") ∈ Gen.HclYaml.errFlow ∧
    (Gen.HclYaml.localsLoopBranches.all fun b => b == "continue:blk==nil") = true ∧
    Gen.HclYaml.localBlockBranches = [] ∧ Gen.HclYaml.localBlockStoresAll = true :=
  ⟨Pandora.Bridge.HclYaml.errors_propagated.1, Pandora.Bridge.HclYaml.errors_propagated.2.1,
    Pandora.Bridge.HclYaml.errors_propagated.2.2.1, Pandora.Bridge.HclYaml.errors_propagated.2.2.2.2.1,
    Pandora.Bridge.HclYaml.errors_propagated.2.2.2.2.2.1, Pandora.Bridge.HclYaml.locals_loops_total.1,
    Pandora.Bridge.HclYaml.locals_loops_total.2.1, Pandora.Bridge.HclYaml.locals_loops_total.2.2⟩

/-- the readers of the decoded `AmmoConfig` in the current source never tell a nil collection from an empty one (no
comparison of a slice / map with nil, no `reflect.DeepEqual`): identifying the two in the model and in the comparison
of the two front-ends loses nothing -/
theorem C16_readers_nil_blind : Gen.HclYaml.readerNilTests = [] := Pandora.Bridge.HclYaml.readers_nil_blind

/-- the locals blocks are processed in source order: a block appended at the end is evaluated under, and merged over,
the locals of all blocks before it (any number of blocks, any function table) -/
theorem C16_locals_in_order (F : List (String × String)) (bs : List (List (String × E))) (b : List (String × E)) :
    evalLocals F [] (bs ++ [b]) = (evalLocals F [] bs).bind fun vars => localsStep F vars b :=
  evalLocals_append F bs b []

/-- one block: when its attributes evaluate (under the locals `vars` of the blocks BEFORE it) to `newVars`, then
afterwards a name the block defines has the block's value — the last one, should the list carry the name twice — and
every other name keeps the value it had -/
theorem C16_locals_later_wins (F : List (String × String)) (vars : Env) (b : List (String × E)) (newVars : Env)
    (h : evalM F vars b = some newVars) (k : String) :
    ∃ vars', localsStep F vars b = some vars' ∧
      envGet vars' k = match envGet newVars.reverse k with
        | some v => some v
        | none => envGet vars k := by
  refine ⟨mergeMaps vars newVars, ?_, envGet_mergeMaps newVars vars k⟩
  simp [localsStep, h]

/-- locals are conveniences: an expression evaluated under the locals has the value of the expression in which every
defined local is written out as a literal, evaluated without any locals (undefined locals stay errors) -/
theorem C16_locals_inline (F : List (String × String)) (env : Env) (e : E) :
    evalE F [] (inlineE env e) = evalE F env e :=
  eval_inline F env e

/-- a file with `locals` blocks denotes the same description as the file without them whose body has the locals'
values written out -/
theorem C16_locals_file (F : List (String × String)) (f : HclFile) (env : Env)
    (h : evalLocals F [] f.locals = some env) :
    evalFile F f = evalFile F ⟨[], inlineE env f.body⟩ := by
  simp [evalFile, h, evalLocals, eval_inline]

/-- end to end, from the SYNTAX of the HCL file: whenever `ParseHCLFile` evaluates the file (locals, templates,
function calls) to a description `d` that has no `<<` map key, the HCL front-end on the file and the YAML front-end on
`d` written directly in YAML return the same `AmmoConfig` -/
theorem C16_hcl_file_agrees (f : HclFile) (d : V) (h : hclDescription current fns f = some d)
    (hm : hasMergeKey d = false) :
    hclFilePath current fns f = yamlPath current d := by
  have h1 : hclFilePath current fns f = hclPath current d := by
    unfold hclFilePath
    rw [h]
  rw [h1]
  exact C16_paths_agree_partial d hm

/-- every description in the form the HCL structs hold it (strings where strings are expected …: a fixed point of the
conversion) IS expressible as an HCL file — the one that spells it with literals only — and that file denotes it, for
any function table: the hypothesis of `C16_hcl_file_agrees` is met by all of them -/
theorem C16_literal_file_denotes (T : Tables) (F : List (String × String)) (d : V)
    (h : coerceV T (.struct T.hclRoot) d = some d) :
    hclDescription T F ⟨[], quote d⟩ = some d := by
  unfold hclDescription evalFile
  simp [evalLocals, eval_quote, h]

/-- the description `ParseHCLFile` hands to the conversion is in converted form (converting it again changes nothing):
it is exactly what the YAML twin spells with quoted strings -/
theorem C16_description_converted (T : Tables) (F : List (String × String)) (f : HclFile) (d : V)
    (h : hclDescription T F f = some d) : coerceV T (.struct T.hclRoot) d = some d := by
  unfold hclDescription at h
  cases he : evalFile F f with
  | none => simp [he] at h
  | some v =>
    simp only [he, Option.bind_some] at h
    exact (coerceV_idem T v _ d h).1

/-- conveniences are FULLY evaluated: whatever description a file with `locals`, templates, member accesses and
function calls denotes, the file that spells that description with literals only denotes the same — nothing of the
conveniences is left for the conversion to see -/
theorem C16_description_expressible (T : Tables) (F : List (String × String)) (f : HclFile) (d : V)
    (h : hclDescription T F f = some d) : hclDescription T F ⟨[], quote d⟩ = some d :=
  C16_literal_file_denotes T F d (C16_description_converted T F f d h)

/-- a file whose locals or expressions do not evaluate is refused as a whole (nothing half-evaluated is converted) -/
theorem C16_hcl_file_refused (f : HclFile) (h : evalFile fns f = none) :
    hclFilePath current fns f = .refused := by
  unfold hclFilePath hclDescription
  rw [h]
  rfl

/-- … even when the body never uses the local that fails: if some `locals` block does not evaluate under the locals of
the blocks before it, the file is refused whatever follows it and whatever the body is (any function table, any
tables) -/
theorem C16_unevaluated_local_refuses (T : Tables) (F : List (String × String)) (bs : List (List (String × E)))
    (b : List (String × E)) (rest : List (List (String × E))) (body : E) (env : Env)
    (h1 : evalLocals F [] bs = some env) (h2 : evalM F env b = none) :
    hclFilePath T F ⟨bs ++ b :: rest, body⟩ = .refused := by
  have h : evalFile F ⟨bs ++ b :: rest, body⟩ = none := by
    unfold evalFile
    simp only
    rw [evalLocals_append_list, h1]
    simp [evalLocals, localsStep, h2]
  unfold hclFilePath hclDescription
  rw [h]
  rfl

/-- the function table is told apart entry by entry: for any two different registered functions (other than `index`
against `element`, see `C16_index_refines_element`) one of the witness calls of `fnWitnesses` — each of which the
harness spells in a scenario file on every run — has a different value, or fails, when the first is replaced by the
second -/
theorem C16_functions_distinguished (p q : String × String) (hp : p ∈ docFunctions) (hq : q ∈ docFunctions)
    (hne : p.2 ≠ q.2) (hie : ¬ (p.2 = "IndexFunc" ∧ q.2 = "ElementFunc")) :
    ∃ w ∈ witnessesOf p.2, applyFn p.2 w ≠ applyFn q.2 w := by
  have hall : (docFunctions.all fun p => docFunctions.all fun q =>
      p.2 == q.2 || (p.2 == "IndexFunc" && q.2 == "ElementFunc") ||
      (witnessesOf p.2).any fun w => !beqOV (applyFn p.2 w) (applyFn q.2 w)) = true := by decide +kernel
  rw [List.all_eq_true] at hall
  have h1 := hall p hp
  rw [List.all_eq_true] at h1
  have h2 := h1 q hq
  simp only [Bool.or_eq_true, beq_iff_eq, Bool.and_eq_true, List.any_eq_true, Bool.not_eq_true'] at h2
  rcases h2 with (h2 | h2) | h2
  · exact absurd h2 hne
  · exact absurd h2 hie
  · obtain ⟨w, hw, hb⟩ := h2
    exact ⟨w, hw, ne_of_beqOV_false hb⟩

/-- on tuples `index` is a restriction of `element`: wherever `index(list, i)` is defined, `element(list, i)` is the
same member (`element` additionally wraps around) -/
theorem C16_index_refines_element (args : List V) (v : V) (h : applyFn "IndexFunc" args = some v) :
    applyFn "ElementFunc" args = some v := by
  match args, h with
  | [.seq xs, i], h =>
    simp only [applyFn] at h ⊢
    cases hn : natOf i with
    | none => simp [hn] at h
    | some n =>
      simp only [hn, Option.bind_some] at h ⊢
      obtain ⟨hlt, _⟩ := List.getElem?_eq_some_iff.mp h
      have hne : xs.isEmpty = false := by cases xs <;> simp at hlt ⊢
      rw [hne, Nat.mod_eq_of_lt hlt]
      simpa using h

/-! ### identical ammo -/

/-- the ammo the providers build from the decoded config (scenarios spread by weight, steps resolved by name with
multipliers and sleeps) is the same for the HCL structs marshalled by yaml.v2 and for the description written in YAML —
for all compatible tables and every description -/
theorem C16_ammo_identical (T : Tables) (u : List String) (hc : compat T u = true) (d : V) :
    ammoOf (decode T (marshal T (complete T d))) = ammoOf (decode T (yamlDoc T d)) := by
  rw [C16_equiv_complete T u hc]

/-- not only the ammo model above: WHATEVER a provider computes from the decoded record (any function of it) is the same
for both front-ends — the record itself is the same; together with `C16_readers_nil_blind` (no reader tells nil from
empty, the one thing the record does not carry) the equality of the ammo does not rest on the ammo model -/
theorem C16_any_reader_agrees {α : Type} (reader : Option V → α) (T : Tables) (u : List String)
    (hc : compat T u = true) (d : V) :
    reader (decode T (marshal T (complete T d))) = reader (decode T (yamlDoc T d)) := by
  rw [C16_equiv_complete T u hc]

/-- the instance for the current source -/
theorem C16_ammo_identical_current (d : V) :
    ammoOf (decode current (marshal current (complete current d))) = ammoOf (decode current (yamlDoc current d)) :=
  C16_ammo_identical current unread C16_tables_compat d

/-! ### the front-end is selected by the file name (`ReadAmmoConfig`) -/

/-- For ANY table of switch cases with `extSelects … ext parser`, any mapping `lc` applied to the characters of the name
before the tests, any base name `s` and any spelling `e` of the extension that `lc` turns into `ext`: the file
`s ++ e` runs `parser` — whatever stands in front of the extension (other extensions, dots, upper case, unicode). -/
theorem C16_format_by_extension (lc : Char → Char) (cases : List ExtCase) (ext parser : String)
    (h : extSelects cases ext parser = true) (s e : List Char) (he : e.map lc = ext.toList) :
    frontEnd lc cases (s ++ e) = routeOf parser :=
  frontEndOf_of_extSelects cases ext parser h _ (suffix_of_mapped lc s e ext.toList he)

/-- the regenerated switch: a name ending in (any spelling the mapping accepts of) `.hcl` is parsed by
`ParseHCLFile` + `ConvertHCLToAmmo`, one ending in `.yaml` by `ParseAmmoConfig` -/
theorem C16_format_current (lc : Char → Char) (s e : List Char) :
    (e.map lc = ".hcl".toList → frontEnd lc Gen.HclYaml.extCases (s ++ e) = .hcl) ∧
    (e.map lc = ".yaml".toList → frontEnd lc Gen.HclYaml.extCases (s ++ e) = .yaml) :=
  ⟨fun he => C16_format_by_extension lc _ ".hcl" _ Pandora.Bridge.HclYaml.ext_selects.1 s e he,
   fun he => C16_format_by_extension lc _ ".yaml" _ Pandora.Bridge.HclYaml.ext_selects.2 s e he⟩

/-- the two renderings of one description, stored under one base name with extensions in the same style, each reach
their own front-end — under the name mapping of the current source (`subjectLc`: lower-casing when `extSubject` has
`strings.ToLower`, nothing otherwise) -/
theorem C16_format_twins (s eh ey : List Char)
    (hh : eh.map Pandora.Bridge.HclYaml.subjectLc = ".hcl".toList)
    (hy : ey.map Pandora.Bridge.HclYaml.subjectLc = ".yaml".toList) :
    frontEnd Pandora.Bridge.HclYaml.subjectLc Gen.HclYaml.extCases (s ++ eh) = .hcl ∧
    frontEnd Pandora.Bridge.HclYaml.subjectLc Gen.HclYaml.extCases (s ++ ey) = .yaml :=
  ⟨(C16_format_current _ s eh).1 hh, (C16_format_current _ s ey).2 hy⟩

/-- regenerated: every case of the switch tests the same value, and it is the `fileName` parameter — at most
lower-cased and reduced to its base name -/
theorem C16_ext_subject :
    Gen.HclYaml.extSubject.all Pandora.Bridge.HclYaml.subjectStepOK = true ∧
    Gen.HclYaml.extSubject.getLast? = some "param:fileName" := Pandora.Bridge.HclYaml.ext_subject

/-! ### every `locals` block of an accepted file counts (`PartialContent`) -/

/-- an accepted file denotes what ALL its `locals` blocks (in source order) and its body say -/
def C16_locals_blocks_all_count_statement (strict : Bool) : Prop :=
  ∀ (T : Tables) (F : List (String × String)) (s : HclSrc) (d : V),
    srcDescription T strict F s = some d → hclDescription T F s.allLocals = some d

/-- true when `ParseHCLFile` returns the diagnostics of `PartialContent` -/
theorem C16_locals_blocks_all_count : C16_locals_blocks_all_count_statement true := by
  intro T F s d h
  unfold srcDescription at h
  cases hs : splitLocals true s with
  | none => simp [hs] at h
  | some f =>
    rw [hs] at h
    have := (splitLocals_strict s f hs).2
    rw [this] at h
    exact h

/-- a file with a labelled `locals` block is refused under the strict reading -/
theorem C16_labelled_locals_refused (T : Tables) (F : List (String × String)) (s : HclSrc)
    (h : s.blocks.all LBlock.plain = false) : srcDescription T true F s = none := by
  unfold srcDescription splitLocals
  simp [h]

/-- a well-formed file (no labelled block) is not affected by the reading -/
theorem C16_plain_locals_unaffected (T : Tables) (F : List (String × String)) (strict : Bool) (s : HclSrc)
    (h : s.blocks.all LBlock.plain = true) : srcDescription T strict F s = hclDescription T F s.allLocals := by
  unfold srcDescription
  rw [splitLocals_plain strict s h]
  rfl

/-- the file of the counterexample: `locals { a = "r" }  locals "prod" { a = "q" }  scenario "s" { requests = [local.a] }` -/
def droppedSrc : HclSrc :=
  ⟨[⟨[], [("a", .str "r")]⟩, ⟨["prod"], [("a", .str "q")]⟩],
   .map [("scenario", .seq [.map [("name", .str "s"), ("requests", .seq [.loc "a"])]])]⟩

/-- FALSE when the diagnostics are ignored: the labelled block disappears, the file is accepted with the EARLIER
value of `a` although the file says `q` -/
theorem C16_locals_blocks_all_count_counterexample : ¬ C16_locals_blocks_all_count_statement false := by
  intro h
  have h1 : srcDescription Frozen.tables false docFunctions droppedSrc =
      some (.map [("scenario", .seq [.map [("name", .str "s"), ("requests", .seq [.str "r"])]])]) := by rfl
  exact absurd (h Frozen.tables docFunctions droppedSrc _ h1) (by decide)

/-- the current source (regenerated error flow of `ParseHCLFile`): the statement holds exactly when the diagnostics of
`PartialContent` are returned -/
theorem C16_locals_blocks_current :
    (Pandora.Bridge.HclYaml.schemaDiagsChecked = true →
      C16_locals_blocks_all_count_statement Pandora.Bridge.HclYaml.schemaDiagsChecked) ∧
    (Pandora.Bridge.HclYaml.schemaDiagsChecked = false →
      ¬ C16_locals_blocks_all_count_statement Pandora.Bridge.HclYaml.schemaDiagsChecked) := by
  constructor
  · intro h; rw [h]; exact C16_locals_blocks_all_count
  · intro h; rw [h]; exact C16_locals_blocks_all_count_counterexample

/-- the current source returns the diagnostics of `PartialContent` (regenerated error flow), so for it an accepted file
denotes what ALL its `locals` blocks and its body say, and a file with a labelled block is refused -/
theorem C16_locals_blocks_all_count_current :
    Pandora.Bridge.HclYaml.schemaDiagsChecked = true ∧
    C16_locals_blocks_all_count_statement Pandora.Bridge.HclYaml.schemaDiagsChecked :=
  ⟨Pandora.Bridge.HclYaml.schema_diags_checked,
   C16_locals_blocks_current.1 Pandora.Bridge.HclYaml.schema_diags_checked⟩

/-! ### no state between files; the providers see the file only through `AmmoConfig` (regenerated) -/

theorem C16_front_ends_stateless :
    (Gen.HclYaml.pkgStateUses.all fun u => u.2.2 == "read") = true := Pandora.Bridge.HclYaml.stateless

theorem C16_provider_flow :
    Pandora.Bridge.HclYaml.sameSet (Pandora.Bridge.HclYaml.flowOf "http") Pandora.Bridge.HclYaml.flowExpected = true ∧
    Pandora.Bridge.HclYaml.sameSet (Pandora.Bridge.HclYaml.flowOf "grpc") Pandora.Bridge.HclYaml.flowExpected = true :=
  Pandora.Bridge.HclYaml.provider_flow

/-! ### waiting times and sleeps are int64 nanoseconds -/

/-- up to 9 223 372 036 854 ms (292 years) in either direction `time.Millisecond * time.Duration(ms)` is exact: the
gun waits what the description says -/
theorem C16_durations_exact (ms : Int) (h : -9223372036854 ≤ ms ∧ ms ≤ 9223372036854) :
    msToNs ms = ms * 1000000 ∧ nsToMs (msToNs ms) = ms := by
  have h1 : msToNs ms = ms * 1000000 := by
    unfold msToNs wrap64
    omega
  refine ⟨h1, ?_⟩
  rw [h1]
  unfold nsToMs
  exact Int.mul_tdiv_cancel ms (by decide)

/-- whatever the number: the stored duration is a signed 64-bit value congruent to `ms · 10^6` modulo 2^64 -/
theorem C16_durations_wrap (ms : Int) :
    -9223372036854775808 ≤ msToNs ms ∧ msToNs ms < 9223372036854775808 ∧
    (msToNs ms - ms * 1000000) % 18446744073709551616 = 0 := by
  unfold msToNs wrap64
  omega

/-! ### a file that could not be read completely is refused by either front-end -/

/-- does the front-end test the error of `io.ReadAll` and return it? (regenerated error flow) -/
def readChecked (fn : String) : Bool := Gen.HclYaml.errFlow.contains (fn, "io.ReadAll", "returned")

/-- ANY fault while the file is opened, stat-ed, read (at any offset, also after the last byte) or closed — alone or
coinciding with others — makes `ReadAmmoConfig` refuse the file, whatever the front-end (`parse`) would make of the
bytes that did arrive, PROVIDED the front-end tests the error of `io.ReadAll`. -/
theorem C16_io_fault_refuses {α : Type} (parse : List Char → Option α) (text : List Char) (p : IOPlan)
    (h : p.clean = false) : readAmmoConfig true parse text p = none := by
  obtain ⟨o, st, rd, cl⟩ := p
  cases o <;> cases st <;> cases cl <;> cases rd <;> simp_all [readAmmoConfig, readAll, IOPlan.clean]

/-- … and without a fault `ReadAmmoConfig` is the front-end on the text of the file, tested error or not -/
theorem C16_io_clean_transparent {α : Type} (c : Bool) (parse : List Char → Option α) (text : List Char) (p : IOPlan)
    (h : p.clean = true) : readAmmoConfig c parse text p = parse text := by
  obtain ⟨o, st, rd, cl⟩ := p
  cases o <;> cases st <;> cases cl <;> cases rd <;> simp_all [readAmmoConfig, readAll, IOPlan.clean]

/-- the two renderings of one description under faults of their own (any two plans that are not clean, any two
texts): both refused — no fault makes one front-end accept what the other refuses -/
theorem C16_io_fault_twins {α : Type} (ph py : List Char → Option α) (th ty : List Char) (p q : IOPlan)
    (hp : p.clean = false) (hq : q.clean = false) :
    readAmmoConfig true ph th p = readAmmoConfig true py ty q := by
  rw [C16_io_fault_refuses ph th p hp, C16_io_fault_refuses py ty q hq]

/-- the full statement for a front-end with a given `checked` flag -/
def C16_io_fault_statement (checked : Bool) : Prop :=
  ∀ (parse : List Char → Option Nat) (text : List Char) (p : IOPlan), p.clean = false →
    readAmmoConfig checked parse text p = none

theorem C16_io_fault_checked : C16_io_fault_statement true := fun parse text p h => C16_io_fault_refuses parse text p h

/-- a front-end that does not test the error of `io.ReadAll` accepts the prefix that arrived: the statement fails -/
theorem C16_io_fault_counterexample : ¬ C16_io_fault_statement false := by
  intro h
  have := h (fun t => some t.length) "ab".toList { readAt := some 1 } (by decide)
  simp [readAmmoConfig, readAll] at this

/-- the current source: both front-ends test that error (regenerated), so the statement holds for both -/
theorem C16_io_fault_current :
    C16_io_fault_statement (readChecked "ParseHCLFile") ∧ C16_io_fault_statement (readChecked "ParseAmmoConfig") := by
  have h1 : readChecked "ParseHCLFile" = true := by decide
  have h2 : readChecked "ParseAmmoConfig" = true := by decide
  rw [h1, h2]
  exact ⟨C16_io_fault_checked, C16_io_fault_checked⟩

/-- end to end with the I/O in front: `lexH` / `lexY` are what hcl / yaml.v2 make of the TEXT of a file (trusted
libraries: any functions).  Whenever the text of the HCL file is read as the syntax `f`, `f` denotes `d` (no `<<` key)
and the text of the YAML file is read as `d`, `ReadAmmoConfig` returns the same for both files under ANY two fault
plans of the same kind (both clean, or both with some fault — of whatever sort, wherever) -/
theorem C16_files_agree_under_io (lexH : List Char → Option HclFile) (lexY : List Char → Option V)
    (th ty : List Char) (f : HclFile) (d : V) (hl : lexH th = some f) (hy : lexY ty = some d)
    (hd : hclDescription current fns f = some d) (hm : hasMergeKey d = false)
    (p q : IOPlan) (hpq : p.clean = q.clean) :
    readAmmoConfig true (fun t => (lexH t).map (hclFilePath current fns)) th p =
      readAmmoConfig true (fun t => (lexY t).map (yamlPath current)) ty q := by
  cases hp : p.clean with
  | true =>
    rw [C16_io_clean_transparent _ _ _ p hp, C16_io_clean_transparent _ _ _ q (hpq ▸ hp)]
    simp [hl, hy, C16_hcl_file_agrees f d hd hm]
  | false => exact C16_io_fault_twins _ _ _ _ p q hp (hpq ▸ hp)

/-- non-vacuity: a read fault after 3 bytes coinciding with a Close fault; a fault after the LAST byte; the unchecked
front-end on a text whose prefix parses -/
example : ({ readAt := some 3, closeF := true } : IOPlan).clean = false := by decide
example : readAmmoConfig true (fun t => some t.length) "abc".toList { readAt := some 3 } = none := by decide
example : readAmmoConfig false (fun t => some t.length) "abc".toList { readAt := some 2 } = some 2 := by decide
example : readAmmoConfig true (fun t => some t.length) "abc".toList {} = some 3 := by decide

/-! ### every field survives the conversion -/

/-- Under `compatS`, for a struct `sh` feeding config struct `sc`, and any field `k = x` the user wrote:
1. a non-zero leaf value is found unchanged under the config field that the documented YAML key selects;
2. whatever yaml.v2 writes for the field reaches the config field of its key (blocks: the decoded nested record);
3. yaml.v2 leaves the field out only when it is nil or a zero value. -/
theorem C16_conversion_total (T : Tables) (u : List String) (n : Nat) (sh sc : String)
    (h : compatS T u n sh (.struct sc) = true)
    (fs : List (String × V)) (k : String) (x : V) (f : C16HField)
    (hmem : (k, x) ∈ fs) (hf : findH T sh k = some f) :
    (isLeafTy f.ty = true → zeroLeaf x = false →
      ∃ g, findC T sc f.yaml = some g ∧ fold g.key = fold (docKey f) ∧
        (g.go, x) ∈ decodeFs T sc false (renderFs polM T sh fs)) ∧
    (omitM f x = false →
      ∃ g, findC T sc f.yaml = some g ∧
        ∀ y, decodeV T g.ty (renderV polM T f.ty x) = some y →
          (g.go, y) ∈ decodeFs T sc false (renderFs polM T sh fs)) ∧
    (omitM f x = true → isNull x = true ∨ zeroTy f.ty x = true) := by
  obtain ⟨m, _, hall⟩ := compatS_struct h
  refine ⟨?_, ?_, ?_⟩
  · intro hleaf hnz
    exact leaf_survives (compatS T u m) T sh sc hall fs k x f hmem hf hleaf hnz
  · intro hskip
    obtain ⟨g, hg, _, hy⟩ := block_survives (compatS T u m) T sh sc hall fs k x f hmem hf hskip
    exact ⟨g, hg, hy⟩
  · intro hM
    have hOK := hall f (findH_mem hf)
    unfold fieldOK at hOK
    simp only [Bool.and_eq_true] at hOK
    exact omitM_zero f x (keyOK_facts hOK.1).1 hM

/-- the same for a plugin block (`variable_source`, `postprocessor`, `preprocessor "prepare"`): a non-zero value in a
field that the selected plugin knows is found unchanged in the plugin's config -/
theorem C16_conversion_total_plugin (T : Tables) (u : List String) (n : Nat) (sh i : String)
    (h : compatS T u n sh (.plugin i) = true) (p : C16Plugin) (hp : p ∈ pluginsOf T i)
    (fs : List (String × V)) (k : String) (x : V) (f : C16HField) (g : C16CField)
    (hmem : (k, x) ∈ fs) (hf : findH T sh k = some f) (hleaf : isLeafTy f.ty = true) (hnz : zeroLeaf x = false)
    (hnt : eqFold f.yaml T.nameKey = false) (hC : findC T p.conf f.yaml = some g) :
    (g.go, x) ∈ decodeFs T p.conf true (renderFs polM T sh fs) := by
  obtain ⟨m, _, _, hall⟩ := compatS_plugin h
  exact leaf_survives_plugin (compatS T u m) T sh p.conf (hall p hp) fs k x f g hmem hf hleaf hnz hnt hC

/-! ### non-vacuity -/

/-- a scenario file with one request (optional `tag` left out, optional `body` present and EMPTY, an empty `headers`
map, a preprocessor, two postprocessors one of which is an assertion with a `size` block) and one scenario with
`min_waiting_time` but no `weight` -/
def sample : V :=
  .map [
    ("request", .seq [
      .map [("name", .str "auth_req"), ("method", .str "POST"), ("uri", .str "/auth"), ("headers", .map []),
        ("tag", .null), ("body", .str ""),
        ("preprocessor", .map [("mapping", .map [("user_id", .str "source.users[next].user_id")])]),
        ("postprocessor", .seq [
          .map [("type", .str "var/header"), ("mapping", .map [("N", .str "007")])],
          .map [("type", .str "assert/response"), ("status_code", .int 200), ("body", .null),
            ("size", .map [("val", .int 40), ("op", .null)])]]),
        ("templater", .null)]]),
    ("scenario", .seq [
      .map [("name", .str "s"), ("weight", .null), ("min_waiting_time", .int 10),
        ("requests", .seq [.str "auth_req(2)"])]])]

/-- the frozen copy of the tables (an illustration that does not follow the source) satisfies `compat`: the hypothesis
of `C16_equiv` is met by non-trivial tables -/
example : compat Frozen.tables Frozen.unread = true := by decide +kernel

/-- what yaml.v2 writes for it (frozen tables): `tag`, `templater`, `weight`, the empty `headers` are left out
(`omitempty`), the empty `body` is written (non-nil pointer), `size.op` is written as null (no `omitempty`) -/
example : marshal Frozen.tables sample =
    .map [
      ("requests", .seq [
        .map [("name", .str "auth_req"), ("method", .str "POST"), ("uri", .str "/auth"), ("body", .str ""),
          ("preprocessor", .map [("mapping", .map [("user_id", .str "source.users[next].user_id")])]),
          ("postprocessors", .seq [
            .map [("type", .str "var/header"), ("mapping", .map [("N", .str "007")])],
            .map [("type", .str "assert/response"), ("status_code", .int 200),
              ("size", .map [("val", .int 40), ("op", .null)])]])]]),
      ("scenarios", .seq [
        .map [("name", .str "s"), ("min_waiting_time", .int 10), ("requests", .seq [.str "auth_req(2)"])]])] := rfl

/-- what the user writes in YAML: the empty `headers` map is written, `size.op` is not -/
example : yamlDoc Frozen.tables sample =
    .map [
      ("requests", .seq [
        .map [("name", .str "auth_req"), ("method", .str "POST"), ("uri", .str "/auth"), ("headers", .map []),
          ("body", .str ""),
          ("preprocessor", .map [("mapping", .map [("user_id", .str "source.users[next].user_id")])]),
          ("postprocessors", .seq [
            .map [("type", .str "var/header"), ("mapping", .map [("N", .str "007")])],
            .map [("type", .str "assert/response"), ("status_code", .int 200),
              ("size", .map [("val", .int 40)])]])]]),
      ("scenarios", .seq [
        .map [("name", .str "s"), ("min_waiting_time", .int 10), ("requests", .seq [.str "auth_req(2)"])]])] := rfl

/-- the two documents differ, and both decode to the same record — on the tables of the CURRENT source —: `Body`
present and empty, `MinWaitingTime` kept -/
example : decode current (marshal current sample) =
    some (.map [
      ("Requests", .seq [
        .map [("Name", .str "auth_req"), ("Method", .str "POST"), ("URI", .str "/auth"), ("Body", .str ""),
          ("Preprocessor", .map [("Mapping", .map [("user_id", .str "source.users[next].user_id")])]),
          ("Postprocessors", .seq [
            .map [("type", .str "var/header"), ("Mapping", .map [("N", .str "007")])],
            .map [("type", .str "assert/response"), ("StatusCode", .int 200),
              ("Size", .map [("Val", .int 40)])]])]]),
      ("Scenarios", .seq [
        .map [("Name", .str "s"), ("MinWaitingTime", .int 10), ("Requests", .seq [.str "auth_req(2)"])]])]) := by decide +kernel

/-- gohcl's struct for a description that mentions only what the user wrote: the other fields are nil, and yaml.v2
writes the nil pointers that have no `omitempty` (`size { val = 40 }` → `op: null`) -/
example : marshal Frozen.tables (complete Frozen.tables
      (.map [("request", .seq [.map [("name", .str "r"), ("method", .str "GET"), ("uri", .str "/"), ("headers", .map []),
        ("postprocessor", .seq [.map [("type", .str "assert/response"), ("size", .map [("val", .int 40)])]])]])])) =
    .map [("requests", .seq [.map [("name", .str "r"), ("method", .str "GET"), ("uri", .str "/"),
        ("postprocessors", .seq [.map [("type", .str "assert/response"),
          ("size", .map [("val", .int 40), ("op", .null)])]])]]),
      ("variable_sources", .null), ("calls", .null), ("scenarios", .null)] := rfl

/-- the hypothesis of `C16_conversion_total` is met by the current tables at every level that has fields -/
example : compatS current unread 7 "RequestHCL" (.struct "RequestConfig") = true := by decide +kernel
example : compatS current unread 6 "RequestPostprocessorHCL" (.plugin "components/guns/http_scenario.Postprocessor") = true := by
  decide +kernel
example : compatS current unread 6 "SourceHCL" (.plugin "components/providers/scenario/vs.VariableSource") = true := by
  decide +kernel

/-! ### locals, functions and ammo: concrete instances -/

/-- the idiom of docs/eng/scenario/locals.md: two `locals` blocks (the second one uses `merge` over a local of the
first and defines `next` again), a request whose headers merge a local with a literal object, interpolation -/
def docFile : HclFile :=
  { locals := [
      [("common_headers", .map [("Content-Type", .str "application/json"), ("Useragent", .str "Yandex")]),
       ("next", .str "first"), ("api", .str "/v1")],
      [("auth_headers", .call "merge" [.loc "common_headers", .map [("Authorization", .str "Bearer t")]]),
       ("next", .str "second"), ("seen", .loc "next")],
      [("api", .str "/v2")]],
    body := .map [
      ("request", .seq [.map [("name", .str "list_req"), ("method", .str "GET"),
        ("headers", .call "merge" [.loc "auth_headers", .map [("Useragent", .str "Pandora")]]),
        ("tag", .loc "seen"), ("uri", .tmpl [.loc "api", .str "/list/", .loc "next"])]]),
      ("scenario", .seq [.map [("name", .str "s"), ("weight", .call "element" [.seq [.int 7, .int 2], .int 3]),
        ("requests", .call "concat" [.seq [.str "list_req(2, 10)"], .call "split" [.str ",", .str "sleep(5),list_req"]])]])] }

/-- it evaluates: `next` and `api` take their LAST definitions, `seen` the value `next` had when its block was decoded,
`merge` lets later arguments win, `element` wraps around -/
example : evalFile fns docFile = some (.map [
      ("request", .seq [.map [("name", .str "list_req"), ("method", .str "GET"),
        ("headers", .map [("Content-Type", .str "application/json"), ("Useragent", .str "Pandora"),
          ("Authorization", .str "Bearer t")]),
        ("tag", .str "first"), ("uri", .str "/v2/list/second")]]),
      ("scenario", .seq [.map [("name", .str "s"), ("weight", .int 2),
        ("requests", .seq [.str "list_req(2, 10)", .str "sleep(5)", .str "list_req"])]])]) := by
  rfl

/-- the hypothesis of `C16_locals_later_wins` is met by the second block, and the name it defines again changes -/
example : evalM fns [("next", .str "first")] [("next", .str "second"), ("seen", .loc "next")] =
    some [("next", .str "second"), ("seen", .str "first")] := by rfl

/-- a local that is not defined, a function that is not registered: the file is refused -/
example : evalFile fns ⟨[], .map [("request", .seq [.map [("uri", .loc "nope")]])]⟩ = none := by rfl
example : evalFile fns ⟨[], .map [("request", .seq [.map [("uri", .call "upper" [.str "x"])]])]⟩ = none := by rfl

/-- a block does not see its own attributes -/
example : evalFile fns ⟨[[("a", .str "1"), ("b", .loc "a")]], .map []⟩ = none := by rfl

/-- gohcl converts to the field's type: `port = 8090` and `b = true` in a `variables` map denote the strings "8090" and
"true"; `local.o.port` / `local.t[1]` pick a member of a local -/
example : hclDescription current fns
    ⟨[[("o", .map [("port", .int 8090)]), ("t", .seq [.str "x", .str "localhost"])]],
     .map [("variable_source", .seq [.map [("name", .str "v"), ("type", .str "variables"),
       ("variables", .map [("port", .idx (.loc "o") (.str "port")), ("host", .idx (.loc "t") (.int 1)), ("b", .bool true)])]])]⟩ =
    some (.map [("variable_source", .seq [.map [("name", .str "v"), ("type", .str "variables"),
       ("variables", .map [("port", .str "8090"), ("host", .str "localhost"), ("b", .str "true")])]])]) := by rfl

/-- the hypothesis of `C16_literal_file_denotes` is met by `sample`-like descriptions: the documentation's request -/
example : coerceV current (.struct current.hclRoot)
    (.map [("request", .seq [.map [("name", .str "r"), ("method", .str "GET"), ("uri", .str "/"),
      ("headers", .map [("Useragent", .str "Yandex")]), ("body", .str "")]]),
      ("scenario", .seq [.map [("name", .str "s"), ("weight", .int 2), ("requests", .seq [.str "r(2)"])]])]) =
    some (.map [("request", .seq [.map [("name", .str "r"), ("method", .str "GET"), ("uri", .str "/"),
      ("headers", .map [("Useragent", .str "Yandex")]), ("body", .str "")]]),
      ("scenario", .seq [.map [("name", .str "s"), ("weight", .int 2), ("requests", .seq [.str "r(2)"])]])]) := by rfl

/-- a required argument left out (`request "r" {}` without `method`), an argument the struct does not have, a list
where a string is expected: refused -/
example : hclDescription current fns ⟨[], .map [("request", .seq [.map [("name", .str "r")]])]⟩ = none := by rfl
example : hclDescription current fns ⟨[], .map [("scenario", .seq [.map [("name", .str "s"), ("requests", .seq []),
    ("colour", .str "red")]])]⟩ = none := by rfl
example : hclDescription current fns ⟨[], .map [("scenario", .seq [.map [("name", .str "s"),
    ("requests", .str "r")]])]⟩ = none := by rfl

/-- the hypotheses of `C16_unevaluated_local_refuses` are met: the first block evaluates, the second (which the body
never uses) does not — `element` of an empty list, a missing member, a local of a LATER block -/
example : evalLocals fns [] [[("ok", .str "1")]] = some [("ok", .str "1")] ∧
    evalM fns [("ok", .str "1")] [("bad", .call "element" [.seq [], .int 0])] = none ∧
    evalM fns [("ok", .str "1")] [("bad", .idx (.map [("k", .str "v")]) (.str "nokey"))] = none ∧
    evalM fns [("ok", .str "1")] [("bad", .loc "later")] = none := ⟨rfl, rfl, rfl, rfl⟩

/-- `coalescelist` skips EMPTY lists where `coalesce` only skips null; `element` wraps around where `index` fails -/
example : applyFn "CoalesceListFunc" [.seq [], .seq [.str "a"]] = some (.seq [.str "a"]) ∧
    applyFn "CoalesceFunc" [.seq [], .seq [.str "a"]] = some (.seq []) ∧
    applyFn "ElementFunc" [.seq [.str "a", .str "b", .str "c"], .int 4] = some (.str "b") ∧
    applyFn "IndexFunc" [.seq [.str "a", .str "b", .str "c"], .int 4] = none := ⟨rfl, rfl, rfl, rfl⟩

/-- the ammo of the documentation-style file: one scenario, the step twice with 10 ms sleep, 5 ms more on the second
copy, then once more (durations shown in ms) -/
example : (evalFile fns docFile).map (fun d => (ammoOf (decode current (marshal current (complete current d)))).map
      (·.map fun a => (a.name, nsToMs a.minWait, a.steps.map fun p => (p.1, nsToMs p.2)))) =
    (some (some [("s", 0, [("list_req", 10), ("list_req", 15), ("list_req", 0)])]) :
      Option (Option (List (String × Int × List (String × Int))))) := by rfl

/-- weights 2, 4, 6 → 1 + 2 + 3 ammo; a step reference that names no step, a `sleep` with nothing before it and a
negative weight refuse the file -/
example : (decodeAmmo ["r"] [⟨"a", 2, 0, ["r"]⟩, ⟨"b", 4, 0, ["r"]⟩, ⟨"c", 6, 0, ["r"]⟩]).map (·.map (·.name)) =
    some ["a", "b", "b", "c", "c", "c"] := by decide
example : decodeAmmo ["r"] [⟨"a", 1, 0, ["q"]⟩] = none := by decide
example : decodeAmmo ["r"] [⟨"a", 1, 0, ["sleep(3)", "r"]⟩] = none := by decide
example : decodeAmmo ["r"] [⟨"a", -1, 0, ["r"]⟩] = none := by decide

/-! ### file names, labelled `locals` blocks, durations -/

-- names in every style reach their front-end under the regenerated switch (lower-casing as the source does it)
example : frontEnd asciiLower Gen.HclYaml.extCases "AMMO.HCL".toList = .hcl ∧
    frontEnd asciiLower Gen.HclYaml.extCases "a.yaml.hcl".toList = .hcl ∧
    frontEnd asciiLower Gen.HclYaml.extCases "a.hcl.Yaml".toList = .yaml ∧
    frontEnd asciiLower Gen.HclYaml.extCases ".hcl".toList = .hcl ∧
    frontEnd asciiLower Gen.HclYaml.extCases "ammo.json".toList = .refuse := by decide
-- the hypotheses of `C16_format_twins` are met by mixed-case extensions
example : "..HcL".toList.map asciiLower = "..hcl".toList ∧ ".YAML".toList.map asciiLower = ".yaml".toList := by decide
-- `extSelects` is not vacuous: a switch that tests `.yaml` by a shorter, comparable literal first, or has a prefix
-- test in front, does not have it — and a name exists that such a switch sends the wrong way
example : extSelects [("HasSuffix", "l", "ParseAmmoConfig"), ("HasSuffix", ".hcl", "ParseHCLFile+ConvertHCLToAmmo")]
      ".hcl" "ParseHCLFile+ConvertHCLToAmmo" = false ∧
    frontEndOf [("HasSuffix", "l", "ParseAmmoConfig"), ("HasSuffix", ".hcl", "ParseHCLFile+ConvertHCLToAmmo")]
      "a.hcl".toList = .yaml := by decide
example : extSelects [("HasPrefix", ".yml", "ParseAmmoConfig"), ("HasSuffix", ".hcl", "ParseHCLFile+ConvertHCLToAmmo")]
      ".hcl" "ParseHCLFile+ConvertHCLToAmmo" = false ∧
    frontEndOf [("HasPrefix", ".yml", "ParseAmmoConfig"), ("HasSuffix", ".hcl", "ParseHCLFile+ConvertHCLToAmmo")]
      ".yml.hcl".toList = .yaml := by decide

-- the labelled block of `droppedSrc`: refused under the strict reading, silently dropped otherwise
example : srcDescription Frozen.tables true docFunctions droppedSrc = none := by rfl
example : (splitLocals false droppedSrc).map (·.locals.length) = some 1 ∧ droppedSrc.allLocals.locals.length = 2 := by
  decide
-- a well-formed file: hypothesis of `C16_plain_locals_unaffected`
example : (⟨[⟨[], [("a", .str "r")]⟩], .map []⟩ : HclSrc).blocks.all LBlock.plain = true := by rfl

-- durations: exact inside the range, wrapping outside (Go: `time.Millisecond * time.Duration(9223372036855)` < 0)
example : msToNs 250 = 250000000 ∧ nsToMs (msToNs 250) = 250 ∧ msToNs 9223372036855 = -9223372036854551616 ∧
    nsToMs (msToNs 9223372036855) = -9223372036854 ∧ nsToMs (msToNs (-1)) = -1 := by decide
-- a step with a sleep and two `sleep(…)` entries after it: the sleeps add up on the last copy
example : (decodeAmmo ["r"] [⟨"a", 1, 7, ["r(2, 5)", "sleep(3)", "sleep(4)"]⟩]).map
      (·.map fun a => (nsToMs a.minWait, a.steps.map fun p => nsToMs p.2)) = some [(7, [5, 12])] := by decide

/-! ### `compat` is not vacuous: tables that break it do break the equivalence -/

/-- the current tables with the yaml tag of `ScenarioHCL.MinWaitingTime` removed (yaml.v2 then uses the lower-cased
field name `minwaitingtime`) -/
def broken : Tables :=
  { current with hcl := current.hcl.map fun p =>
      (p.1, p.2.map fun f => if p.1 == "ScenarioHCL" && f.go == "MinWaitingTime" then { f with yaml := "minwaitingtime" } else f) }

example : compat broken unread = false := by decide +kernel

/-- with the broken tables the HCL path hands the decoder a key it does not know (an `ErrorUnused` failure of the real
decoder), the YAML path decodes the field -/
example :
    decode broken (marshal broken (.map [("scenario", .seq [.map [("name", .str "s"), ("min_waiting_time", .int 10)]])])) =
      some (.map [("Scenarios", .seq [.map [("Name", .str "s"), ("!unused", .null)]])]) ∧
    decode broken (yamlDoc broken (.map [("scenario", .seq [.map [("name", .str "s"), ("min_waiting_time", .int 10)]])])) =
      some (.map [("Scenarios", .seq [.map [("Name", .str "s"), ("MinWaitingTime", .int 10)]])]) := by decide +kernel

/-- a pointer field of the config (`RequestConfig.Body *string`) fed from a non-pointer `omitempty` field: an empty
body written by the user is dropped by yaml.v2 -/
def brokenBody : Tables :=
  { current with hcl := current.hcl.map fun p =>
      (p.1, p.2.map fun f => if p.1 == "RequestHCL" && f.go == "Body" then { f with ptr := false } else f) }

example : compat brokenBody unread = false := by decide +kernel

example :
    decode brokenBody (marshal brokenBody (.map [("request", .seq [.map [("name", .str "r"), ("body", .str "")]])])) =
      some (.map [("Requests", .seq [.map [("Name", .str "r")]])]) ∧
    decode brokenBody (yamlDoc brokenBody (.map [("request", .seq [.map [("name", .str "r"), ("body", .str "")]])])) =
      some (.map [("Requests", .seq [.map [("Name", .str "r"), ("Body", .str "")]])]) := ⟨rfl, rfl⟩

/-! ### how a file is SAVED — line terminators are not part of the description -/

/-- regenerated: both front-ends read the WHOLE file (`io.ReadAll` of their own parameter: no `io.LimitReader`, no
wrapper); between `io.ReadAll` and `ParseHCL` the HCL front-end replaces CR LF by LF and does nothing else to the
text; the YAML front-end hands the text to `DecodeMap` as it was read (yaml.v2 — trusted — reads every line break of a
block scalar as LF) -/
theorem C16_text_steps :
    Pandora.Bridge.HclYaml.hclSteps = some [.replaceAll "\r\n" "\n"] ∧ Pandora.Bridge.HclYaml.yamlSteps = some [] :=
  Pandora.Bridge.HclYaml.text_steps

/-- that step is `crlfToLf` (the generic model of `strings.ReplaceAll`, leftmost and non-overlapping, in closed form) -/
theorem C16_hcl_text_normalised (t : List Char) : applySteps [.replaceAll "\r\n" "\n"] t = crlfToLf t := by
  simp only [applySteps, applyStep]
  exact replaceAll_crlf t

/-- a front-end whose text steps are `steps` reads a description saved with ANY subset of its line terminators as CR LF
like the description saved with LF -/
def C16_line_endings_statement (steps : List TextStep) : Prop :=
  ∀ (lex : List Char → Option (List Char)) (t : List Char) (fl : List Bool), '\r' ∉ t →
    frontOnText steps lex (saveMixed fl t) = frontOnText steps lex t

/-- true of the steps of the current `ParseHCLFile` -/
theorem C16_line_endings : C16_line_endings_statement [.replaceAll "\r\n" "\n"] := by
  intro lex t fl h
  unfold frontOnText
  rw [C16_hcl_text_normalised, C16_hcl_text_normalised, crlfToLf_saveMixed fl t h, crlfToLf_id t h]

/-- FALSE of a front-end that hands the text to hcl as it was read (the tree before `fix: scenario HCL front-end reads a
file saved with CRLF line endings …`): hcl keeps the CR inside a heredoc -/
theorem C16_line_endings_counterexample : ¬ C16_line_endings_statement [] := by
  intro h
  have := h some "a\n".toList [true] (by decide)
  simp [frontOnText, applySteps, saveMixed] at this

/-- for the regenerated steps of the current source -/
theorem C16_line_endings_current (steps : List TextStep) (h : Pandora.Bridge.HclYaml.hclSteps = some steps) :
    C16_line_endings_statement steps := by
  rw [C16_text_steps.1] at h
  cases h
  exact C16_line_endings

/-- a file saved with CR LF THROUGHOUT is read back as the text, whatever the text contains (also carriage returns and
CR LF pairs of its own) -/
theorem C16_crlf_file (t : List Char) : applySteps [.replaceAll "\r\n" "\n"] (toCrlf t) = t := by
  rw [C16_hcl_text_normalised, crlfToLf_toCrlf]

/-- with the I/O in front: `ReadAmmoConfig` answers the same for the HCL file saved with LF and saved with any subset
of its line terminators as CR LF, under any fault plans of the same kind (the two files differ in length, so the
offsets of a read fault differ — a fault at any offset refuses either) -/
theorem C16_saved_file_same_answer {α : Type} (lex : List Char → Option α) (t : List Char) (fl : List Bool)
    (h : '\r' ∉ t) (p q : IOPlan) (hpq : p.clean = q.clean) :
    readAmmoConfig true (frontOnText [.replaceAll "\r\n" "\n"] lex) (saveMixed fl t) p =
      readAmmoConfig true (frontOnText [.replaceAll "\r\n" "\n"] lex) t q := by
  cases hp : p.clean with
  | true =>
    rw [C16_io_clean_transparent _ _ _ p hp, C16_io_clean_transparent _ _ _ q (hpq ▸ hp)]
    unfold frontOnText
    rw [C16_hcl_text_normalised, C16_hcl_text_normalised, crlfToLf_saveMixed fl t h, crlfToLf_id t h]
  | false => exact C16_io_fault_twins _ _ _ _ p q hp (hpq ▸ hp)

/-- end to end: the HCL rendering saved with CR LF line terminators (any subset) and the YAML rendering of the
description it denotes get the same answer from `ReadAmmoConfig` (`lexH` / `lexY`: what hcl / yaml.v2 make of the text
they are handed — trusted libraries: any functions) -/
theorem C16_files_agree_saved (lexH : List Char → Option HclFile) (lexY : List Char → Option V)
    (th ty : List Char) (fl : List Bool) (hcr : '\r' ∉ th) (f : HclFile) (d : V)
    (hl : lexH th = some f) (hy : lexY ty = some d)
    (hd : hclDescription current fns f = some d) (hm : hasMergeKey d = false)
    (p q : IOPlan) (hpq : p.clean = q.clean) :
    readAmmoConfig true (frontOnText [.replaceAll "\r\n" "\n"] fun t => (lexH t).map (hclFilePath current fns))
        (saveMixed fl th) p =
      readAmmoConfig true (fun t => (lexY t).map (yamlPath current)) ty q := by
  rw [C16_saved_file_same_answer _ th fl hcr p p rfl]
  have h0 : ∀ x, frontOnText [.replaceAll "\r\n" "\n"] (fun t => (lexH t).map (hclFilePath current fns)) x =
      (fun t => (lexH (crlfToLf t)).map (hclFilePath current fns)) x := by
    intro x
    unfold frontOnText
    rw [C16_hcl_text_normalised]
  rw [funext h0]
  exact C16_files_agree_under_io (fun t => lexH (crlfToLf t)) lexY th ty f d (by rw [crlfToLf_id th hcr]; exact hl) hy hd hm p q hpq

/-- regenerated: `ReadAmmoConfig` treats the errors of Open / Stat / Close as the model `readAmmoConfig` does — each
refuses the file, the Close error through the named result which the deferred closure writes on every path -/
theorem C16_read_flow : Pandora.Bridge.HclYaml.readFlowStrict = true := Pandora.Bridge.HclYaml.read_flow

/-- non-vacuity: a two-line heredoc body saved with CR LF, with the second terminator only, and as it is -/
example : saveMixed [true, true] "<<EOT\nline\nEOT".toList = "<<EOT\r\nline\r\nEOT".toList ∧
    saveMixed [false, true] "a\nb\nc\n".toList = "a\nb\r\nc\n".toList ∧
    crlfToLf "a\nb\r\nc\n".toList = "a\nb\nc\n".toList ∧ '\r' ∉ "a\nb\nc\n".toList := by decide
/-- `strings.ReplaceAll` is leftmost and non-overlapping: CR CR LF loses one CR only; a lone CR stays -/
example : replaceAll "\r\n".toList "\n".toList "a\r\r\nb\rc".toList = "a\r\nb\rc".toList ∧
    replaceAll "aa".toList "b".toList "aaa".toList = "ba".toList := by decide
/-- `stepsOf` refuses what it does not know: a trim, a replacement of an empty string, a chain that does not start at
`io.ReadAll`, a read through `io.LimitReader` (only the function's own parameter — the whole file — is admitted) -/
example : stepsOf [("io.ReadAll", ["param:0"]), ("strings.TrimSpace", [])] = none ∧
    stepsOf [("io.ReadAll", ["param:0"]), ("strings.ReplaceAll", ["", "x"])] = none ∧
    stepsOf [("strings.ReplaceAll", ["\r\n", "\n"])] = none ∧
    stepsOf [("io.ReadAll", ["io.LimitReader(file,MaxHCLFileSize)"]), ("strings.ReplaceAll", ["\r\n", "\n"])] = none ∧
    stepsOf [("io.ReadAll", ["param:0"]), ("bytes.ReplaceAll", ["\r\n", "\n"])] = some [.replaceAll "\r\n" "\n"] := by decide

end Pandora.Props.C16
