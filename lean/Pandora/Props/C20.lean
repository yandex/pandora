/-
C20 — gRPC wire fidelity: method, message and metadata reach the server as written.

Clause → theorem (see notes/C20.md for the table):

* method / message / metadata / timeout of a grpc/json entry ............ `C20_method`, `C20_timeout`
* the same for a gRPC scenario call, after templating ..................... `C20_scenario_step` (part 2), `C20_timeout`
* metadata of a scenario call = the DEFINITION's templates rendered with that shot's variables, for any number of
  instances and EVERY interleaving of their map accesses ................... `C20_metadata`, `C20_definition_untouched`
  (the code before repair a3063a3 does not have it: `C20_metadata_inplace_counterexample`)
* unknown method / ill-typed payload ⇒ one failed sample, no call, other entries undisturbed
    grpc/json ........ `C20_errors_isolated`
    scenario ......... `C20_scenario_step` (part 1), `C20_scenario_shot_ends_at_failure`, `C20_scenario_refines`
* any number of instances, shared client on/off ............................ `C20_instances` (plain gun),
  `C20_scenario_refines` (scenario gun: any guns in any order), `C20_metadata` (concurrent map accesses)
* the model of the code equals the stateless specification for every configuration and schedule
  ........................................................................... `C20_scenario_refines`

* whatever `sync.Pool` hands out (objects with fields and the invalid flag, the pool as an oracle) ...... `C20_pool_oracle`
  a good entry makes exactly one call and one sample ....................... `C20_entry_delivered`
  file → reading loop → pool of instances; scenario provider → guns ........ `C20_json_end_to_end`, `C20_scenario_end_to_end`
  a scenario's request list → steps (counts, pauses, the rejected lists) ... `C20_expand`
  compositions with C10's / C14's regenerated definitions .................. `C20_status_documented`, `C20_chosen_cases`

The timeout selection, the per-call context chain, where method / message / metadata of the call come from, the
template cache key, the stub choice of `Bind`, the JSON / config tags and the example service's method table are
REGENERATED from /repo's source (`Gen/GrpcGun.lean`) and proved equal to the model's in `Bridge/C20.lean`, which this
file imports: a source change there breaks the build of this file.
-/
import Pandora.Model.C20
import Pandora.Model.C20Net
import Pandora.Model.C20Feed
import Pandora.Spec.C20
import Pandora.Proofs.C20Conc
import Pandora.Proofs.C20Scen
import Pandora.Proofs.C20Feed
import Pandora.Proofs.C20R4
import Pandora.Proofs.C20Pool
import Pandora.Proofs.C20Expand
import Pandora.Bridge.C20
import Pandora.Gen.GrpcStatus
import Pandora.Gen.ChosenCases

namespace Pandora.Props.C20
open Pandora.Model.C20 Pandora.Model.C20Conc Pandora.Proofs.C20Conc Pandora.Proofs.C20Scen Pandora.Spec.C20

/-! ### metadata under interleaving -/

/-- statement shape shared by the theorem and the counterexample: in the state reached by `run` under `sched`,
every instance has sent, for a prefix of its shots, exactly the rendering of the step templates with that shot's
variables (and still has the remaining shots to do) -/
def MetadataAsWritten {κ : Type} (run : State κ → List Nat → State κ) : Prop :=
  ∀ (tmpls : List (Tmpl κ)) (shots : List (List (Vars κ))) (sched : List Nat) (i : Nat) (th : Thread κ),
    (run (init tmpls shots) sched).threads[i]? = some th →
      ∃ orig doneShots, shots[i]? = some orig ∧ orig = doneShots ++ th.shots ∧
        th.sent = doneShots.map (expected tmpls)

/-- **C20_metadata** (repaired code): for every interleaving of any number of instances, the metadata sent by a
shot is the step's templates rendered with that shot's variables. -/
theorem C20_metadata {κ : Type} : MetadataAsWritten (κ := κ) runCopy := by
  intro tmpls shots sched i th h
  obtain ⟨_, hth⟩ := runCopy_ok tmpls shots sched (init tmpls shots) (init_ok tmpls shots)
  obtain ⟨orig, ho, _, ⟨d, hd, hs⟩, _⟩ := hth i th h
  exact ⟨orig, d, ho, hd, hs⟩

/-- the shared map is never written by the repaired code -/
theorem C20_definition_untouched {κ : Type} (tmpls : List (Tmpl κ)) (shots : List (List (Vars κ))) (sched : List Nat) :
    (runCopy (init tmpls shots) sched).shared = tmpls :=
  (runCopy_ok tmpls shots sched (init tmpls shots) (init_ok tmpls shots)).1

/-- one key `x-user: u-{U}`, two instances with U = 1 and U = 2 -/
def cexTmpls : List (Tmpl Nat) := [[Piece.lit [100], Piece.var 0]]
def cexShots : List (List (Vars Nat)) := [[[(0, [1])]], [[(0, [2])]]]
/-- instance 0 renders (idle, cell 0, end of map), then instance 1 renders and sends, then instance 0 sends -/
def cexSched : List Nat := [0, 0, 0, 1, 1, 1, 1, 1, 0, 0]

/-- **counterexample for the code before the repair**: both instances send `u-1`: instance 1 parses the already
rendered value as its template. -/
theorem C20_metadata_inplace_counterexample : ¬ MetadataAsWritten (κ := Nat) runInPlace := by
  intro h
  have h1 := h cexTmpls cexShots cexSched 1
  simp only [cexTmpls, cexShots, cexSched] at h1
  obtain ⟨orig, d, ho, hd, hs⟩ := h1 _ rfl
  simp at ho
  subst ho
  revert hs hd
  cases d with
  | nil => simp
  | cons a d' =>
    cases d' with
    | nil =>
      simp [expected, render]
      intro hx hy
      subst hy
      simp [cellText, rendered, render, lookupVar] at hx
    | cons b d'' => simp

/-- non-vacuity of `C20_metadata`: under a schedule that lets both instances finish, both have sent their own value -/
example : ((runCopy (init cexTmpls cexShots) [0,0,0,0,1,1,1,1,1,1,1,0,0,0]).threads.map (·.sent))
    = [[[[100, 1]]], [[[100, 2]]]] := by decide

/-- the same schedule shape on the code before the repair: instance 1 sends instance 0's value -/
example : ((runInPlace (init cexTmpls cexShots) cexSched).threads.map (·.sent))
    = [[[[100, 1]]], [[[100, 1]]]] := by decide

/-! ### grpc/json entries -/

/-- the entry names no method of the table, or its payload does not fit the method's input type -/
def Failing (e : Entry) : Prop :=
  lookupMethod e.call = none ∨ ∃ m fs, lookupMethod e.call = some (m, fs) ∧ decodeFields fs e.payload = none

/-- **C20_errors_isolated**: whatever precedes and follows, a failing entry produces exactly one sample
(code 0 or 400) and no call, and all other entries produce what they produce on their own. -/
theorem C20_errors_isolated (tmo : Nat) (g : GunState) (es1 : List Entry) (e : Entry) (es2 : List Entry)
    (hf : Failing e) :
    (shootAll tmo g (es1 ++ e :: es2)).2
        = (shootAll tmo g es1).2 ++ shootEntry tmo e :: (shootAll tmo { shots := 0 } es2).2
      ∧ (shootEntry tmo e).calls = []
      ∧ ((shootEntry tmo e).samples = [sampleText e.tag 0] ∨ (shootEntry tmo e).samples = [sampleText e.tag 400]) := by
  refine ⟨by simp [shootAll_outcomes], ?_, ?_⟩
  · rcases hf with h | ⟨m, fs, h1, h2⟩
    · simp [shootEntry, h]
    · simp [shootEntry, h1, h2]
  · rcases hf with h | ⟨m, fs, h1, h2⟩
    · left; simp [shootEntry, h]
    · right; simp [shootEntry, h1, h2]

example : Failing { tag := "t", call := "target.TargetService.Nope", md := [], payload := [] } := by
  left; simp [lookupMethod, methodTable, svc]

example : Failing { tag := "t", call := "target.TargetService.Hello", md := [], payload := [("name", PVal.n "5")] } := by
  right
  refine ⟨"Hello", [⟨"name", "name", .str⟩], by simp [lookupMethod, methodTable, svc], ?_⟩
  simp [decodeFields, findField, convert]

/-- **C20_method**: a shot makes at most one call; if it makes one, the entry's `call` is `target.TargetService.M`
for a method `M` of the table, the payload fits `M`'s input type, and the call goes to `M` (its wire image starts
with `M|`, the recorder's short form of `/target.TargetService/M`) with the message the payload decodes to, the
entry's metadata and the configured timeout. -/
theorem C20_method (tmo : Nat) (e : Entry) :
    (shootEntry tmo e).calls.length ≤ 1 ∧
    ∀ call ∈ (shootEntry tmo e).calls,
      ∃ m fs vals, (m, fs) ∈ methodTable ∧ e.call = svc ++ "." ++ m ∧ decodeFields fs e.payload = some vals ∧
        call = callText m (canonMsg fs vals) (mdText e.md) tmo := by
  unfold shootEntry
  cases hl : lookupMethod e.call with
  | none => simp
  | some mf =>
    obtain ⟨m, fs⟩ := mf
    cases hd : decodeFields fs e.payload with
    | none => simp [hd]
    | some vals =>
      simp only [hd, List.length_singleton, Nat.le_refl, List.mem_singleton, true_and]
      intro call hc
      obtain ⟨h1, h2⟩ := lookupMethod_some e.call m fs hl
      exact ⟨m, fs, vals, h1, h2, hd, hc⟩

/-- non-vacuity: a well-formed entry does make a call -/
example : (shootEntry 0 { tag := "t", call := "target.TargetService.Hello", md := [("K", "v")], payload := [("name", PVal.z)] }).calls.length = 1 := by
  simp [shootEntry, lookupMethod, methodTable, svc, decodeFields, findField, convert]

/-- **C20_instances** (plain gun; shared_deps.go): a pool of any number `n` of instances, with a shared client pool of
any size `sc` or without one (`sc = 0`), firing the provider's entries in any assignment of entries to instances
(`sched`, any list of instance indices below `n`): entry `k` produces `shootEntry` of entry `k`, whichever instance
and connection carry it. -/
theorem C20_instances (tmo n sc : Nat) (sched : List Nat) (es : List Entry) (h : ∀ i ∈ sched, i < n) :
    ((runPool tmo (initPool n sc) sched es).2.map fun (i, _, o) => (i, o)) = expectedJsonSched tmo sched es := by
  have hlen : (initPool n sc).length = n := by simp [initPool]
  exact runPool_outcomes tmo (initPool n sc) sched es (by rw [hlen]; exact h)

/-- non-vacuity: three instances sharing two connections -/
example : ∀ i ∈ [2, 0, 1, 2], i < 3 := by decide
example : (initPool 3 2).map (·.stub) = [1, 0, 1] := by decide

/-! ### an entry is what its line says, whatever the pooled ammo object held before -/

/-- **C20_ammo_fresh**: the ammo handed to the gun for a line is the line decoded on its own — tag, call, metadata and
payload of the line, nothing for absent keys — for EVERY previous content of the pooled object it is delivered in
(`sync.Pool` recycling after more than 128 entries); that the code decodes into a fresh object and resets the pooled
one from all four of its fields is regenerated from the source (`Bridge.C20.ammoDecodeInto_eq`, `ammoResetCall_eq`,
`ammoResetBody_eq`). -/
theorem C20_ammo_fresh (pooled : Entry) (l : Line) :
    decodeAmmo pooled l = unmarshalInto zeroEntry l ∧
    (decodeAmmo pooled l).tag = l.tag.getD "" ∧ (decodeAmmo pooled l).call = l.call.getD "" ∧
    (decodeAmmo pooled l).md = l.md.getD [] ∧ (decodeAmmo pooled l).payload = l.payload.getD [] ∧
    Gen.GrpcGun.ammoDecodeInto = "&$fresh (a zero-valued local of type grpc.Ammo)" := by
  refine ⟨rfl, rfl, rfl, ?_, ?_, Bridge.C20.ammoDecodeInto_eq⟩
  · cases h : l.md <;> simp [decodeAmmo, resetAmmo, unmarshalInto, zeroEntry, mergeMap, h]
  · cases h : l.payload <;> simp [decodeAmmo, resetAmmo, unmarshalInto, zeroEntry, mergeMap, h]

/-- the statement the in-place variant would have to meet … -/
def C20_ammo_inplace_statement : Prop :=
  ∀ (pooled : Entry) (l : Line), (decodeAmmoInPlace pooled l).md = l.md.getD [] ∧ (decodeAmmoInPlace pooled l).payload = l.payload.getD []

/-- … and does not: a line without metadata delivered in an object that carried `authorization` before is shot with
that `authorization` -/
theorem C20_ammo_inplace_counterexample : ¬ C20_ammo_inplace_statement := by
  intro h
  have := (h { tag := "a", call := "c", md := [("authorization", "Bearer x")], payload := [] } { tag := some "b", call := some "c" }).1
  simp [decodeAmmoInPlace, resetAmmo, unmarshalInto] at this

/-- non-vacuity: a rich line after a sparse one and the other way round -/
example : (decodeAmmo { tag := "a", call := "c", md := [("k", "v")], payload := [("name", PVal.s "x")] }
    { tag := some "b", call := some "d" }).md = [] := rfl

/-! ### the calls go to the TARGET -/

/-- **C20_target**: for every target, every `reflect_port` (configured or not), every number of instances and every
shared-client pool size (0 = off): the stub of every instance is one of the connections the warm-up / `Bind` made, it
is dialled to the target itself — never to the reflection endpoint — and so no call of any pool trace goes anywhere
else; the reflection endpoint is `replacePort target reflect_port`, which is the target when no port is configured.
Which `make…Connect` each of `prepareMethodList`, `prepareClientPool` and `Bind` uses, and what the two dial, is
regenerated from the source (`Bridge.C20.reflectDial_eq`, `poolDial_eq`, `bindDial_eq`, `connectTarget_eq`,
`reflectionTarget_eq`). -/
theorem C20_target (c : Net) (n sc : Nat) :
    (∀ k, k < n → stubDial sc k ∈ dialPlan sc n ∧ stubAddr c sc k = c.target) ∧
    (∀ tr, strayCalls c sc tr = 0) ∧
    dialAddr c Dial.reflection = replacePort c.target c.reflectPort ∧
    replacePort c.target 0 = c.target ∧
    Gen.GrpcGun.poolDial = "result0($recv.makeConnect())" ∧ Gen.GrpcGun.bindDial = "result0($recv.makeConnect())" ∧
    Gen.GrpcGun.reflectDial = "result0($recv.makeReflectionConnect())" := by
  have haddr : ∀ k, stubAddr c sc k = c.target := by
    intro k
    unfold stubAddr stubDial
    by_cases h : (sc == 0) = true <;> simp [h, dialAddr]
  refine ⟨?_, ?_, rfl, by simp [replacePort], Bridge.C20.poolDial_eq, Bridge.C20.bindDial_eq, Bridge.C20.reflectDial_eq⟩
  · intro k hk
    refine ⟨?_, haddr k⟩
    unfold stubDial dialPlan
    by_cases h : (sc == 0) = true
    · simp [h]; exact hk
    · have hsc : sc ≠ 0 := by simpa using h
      have hpos : 0 < sc := Nat.pos_of_ne_zero hsc
      simp [h, stubOf]
      exact Nat.mod_lt _ hpos
  · intro tr
    unfold strayCalls
    have : (tr.filter fun (x : Nat × Nat × Outcome) => stubAddr c sc x.1 != c.target) = [] := by
      apply List.filter_eq_nil_iff.mpr
      intro x _
      simp [haddr]
    simp [this]

/-- non-vacuity / what `replacePort` does: a configured port replaces the target's, is appended to a bare host and to a
host whose last part is not a number -/
example : replacePort "127.0.0.1:8080" 9090 = "127.0.0.1:9090" ∧ replacePort "localhost" 9090 = "localhost:9090" ∧
    replacePort "[::1]" 9090 = "[::1]:9090" ∧ replacePort "[::1]:80" 9090 = "[::1]:9090" ∧
    replacePort "host:8080" 0 = "host:8080" := by decide
example : dialPlan 2 3 = [Dial.reflection, Dial.pool 0, Dial.pool 1] ∧
    dialPlan 0 2 = [Dial.reflection, Dial.own 0, Dial.own 1] ∧
    dialAddr { target := "t:1", reflectPort := 2 } Dial.reflection = "t:2" ∧ stubAddr { target := "t:1", reflectPort := 2 } 2 1 = "t:1" := by
  decide

/-! ### timeouts -/

/-- **C20_timeout**: every call of a grpc/json entry and every call the specification demands of a scenario step
carries the deadline of the configured timeout, 15 s when none is configured — and that selection is the one
regenerated from the source of `(*Gun).shoot` and `(*Gun).shootStep`, made per call. -/
theorem C20_timeout (tmoMs : Nat) :
    (∀ e call, call ∈ (shootEntry tmoMs e).calls → ∃ m msg md, call = m ++ "|" ++ msgText msg ++ "|" ++ md ++ "|" ++ dlText tmoMs) ∧
    (∀ (c : Cfg) scn cd vars call, c.tmo = tmoMs → call ∈ (specStep c scn cd vars).1.calls →
        ∃ m msg md, call = m ++ "|" ++ msgText msg ++ "|" ++ md ++ "|" ++ dlText tmoMs) ∧
    Gen.GrpcGun.gunTimeoutNs ((tmoMs : Int) * 1000000) = ((effTimeoutMs tmoMs : Nat) : Int) * 1000000 ∧
    Gen.GrpcGun.scenarioTimeoutNs ((tmoMs : Int) * 1000000) = ((effTimeoutMs tmoMs : Nat) : Int) * 1000000 ∧
    Gen.GrpcGun.gunContextChain = "WithTimeout>NewOutgoingContext>InvokeRpc" ∧
    Gen.GrpcGun.scenarioContextChain = "WithTimeout>NewOutgoingContext>InvokeRpc" := by
  refine ⟨?_, ?_, Bridge.C20.gunTimeout_eq tmoMs, Bridge.C20.scenarioTimeout_eq tmoMs,
    Bridge.C20.gunContextChain_eq, Bridge.C20.scenarioContextChain_eq⟩
  · intro e call hc
    obtain ⟨m, fs, vals, _, _, _, rfl⟩ := (C20_method tmoMs e).2 call hc
    exact ⟨m, canonMsg fs vals, mdText e.md, rfl⟩
  · intro c scn cd vars call ht hc
    subst ht
    by_cases hb : callBad cd = true
    · rw [specStep_bad c scn cd vars hb] at hc; simp at hc
    have hb' : callBad cd = false := by simpa using hb
    cases hl : lookupMethod cd.call with
    | none => rw [specStep_unknown c scn cd vars hl] at hc; simp at hc
    | some mf =>
      obtain ⟨m, fs⟩ := mf
      cases hd : decodeFields fs (renderedPayload cd vars) with
      | none => rw [specStep_illtyped c scn cd vars m fs hb' hl hd] at hc; simp at hc
      | some vals =>
        rw [(specStep_call c scn cd vars m fs vals hb' hl hd).1] at hc
        simp only [List.mem_singleton] at hc
        exact ⟨m, canonMsg fs vals, mdText (renderedMd cd vars), hc⟩

example : effTimeoutMs 0 = 15000 ∧ effTimeoutMs 40000 = 40000 ∧ dlText 0 = "dl15" := by decide

/-! ### scenario calls -/

/-- the invariant of the repaired scenario gun's world: every call definition's metadata map still holds the
definition's templates, and every gun's template cache holds templates of the definition -/
abbrev DefinitionsIntact (c : Cfg) (w : World) : Prop := WOk c w

/-- the step is inside the modelled fragment: a step with a `[next]` preprocessor has a user list to draw from (an empty
source is a configuration the provider rejects). Templates may refer to variables that do not exist — the token of an
`auth` step that has not run, failed, or is the step itself; the user of a step without preprocessor — they print
`<no value>` (`<nil>` through `print`), `mkVars`. -/
def Modelled (c : Cfg) (cd : CallDef) : Prop :=
  (cd.pre && c.users.isEmpty) = false

/-- one of the step's templates cannot be parsed or executed, or the step names no method of the table, or its rendered
payload does not fit the method's input type -/
def FailingStep (cd : CallDef) (vars : Vars Char) : Prop :=
  callBad cd = true ∨ lookupMethod cd.call = none ∨
    ∃ m fs, lookupMethod cd.call = some (m, fs) ∧ decodeFields fs (renderedPayload cd vars) = none

/-- the invariant holds initially (call names pairwise distinct, as the provider's registry requires) -/
theorem C20_scenario_init (c : Cfg) (hd : namesDistinct c.calls = true) : DefinitionsIntact c (initWorld c) :=
  initWorld_ok c hd

/-- **C20_scenario_step**: one step of the repaired scenario gun, by any gun, in any scenario, on any world satisfying
the invariant, with `vars` = the variables of THIS step (its own `[next]` user, its shot's auth results, globals):

1. a failing step (unknown method / rendered payload not fitting the input type) yields exactly one sample (code 0 or
   400) and no call, and leaves the invariant — hence every definition — intact;
2. any other step makes exactly one call: to the method `M` named by `call = target.TargetService.M`, with the message
   the RENDERED payload decodes to against `M`'s input fields, the metadata = the definition's templates rendered with
   `vars`, under the configured timeout; and re-establishes the invariant. The shot goes on after it unless the step has
   an `assert/response` postprocessor whose status code the reply does not meet: then (and only then) the shot ends
   after this call. -/
theorem C20_scenario_step (c : Cfg) (gun : Nat) (scn : String) (cd : CallDef) (w : World) (sv : ShotVars)
    (hd : namesDistinct c.calls = true) (hw : DefinitionsIntact c w) (hcd : cd ∈ c.calls) (hm : Modelled c cd) :
    (FailingStep cd (stepVars c cd w.iters sv).1 →
        ∃ (w' : World) (o : Outcome), shootStep .copy c gun scn cd w sv = .failed w' o ∧ o.calls = [] ∧
          (o.samples = [sampleText (scn ++ "." ++ cd.tag) 0] ∨ o.samples = [sampleText (scn ++ "." ++ cd.tag) 400]) ∧
          DefinitionsIntact c w') ∧
    (¬ FailingStep cd (stepVars c cd w.iters sv).1 →
        ∃ (w' : World) (sv' : ShotVars) (o : Outcome) (m : String) (fs : List Field) (vals : List (String × Option String)),
          (shootStep .copy c gun scn cd w sv =
            (if assertFails cd (serverCode m (canonMsg fs vals) (renderedMd cd (stepVars c cd w.iters sv).1))
              then .failed w' o else .ok w' sv' o)) ∧
          (m, fs) ∈ methodTable ∧ cd.call = svc ++ "." ++ m ∧
          decodeFields fs (renderedPayload cd (stepVars c cd w.iters sv).1) = some vals ∧
          o.calls = [callText m (canonMsg fs vals) (mdText (renderedMd cd (stepVars c cd w.iters sv).1)) c.tmo] ∧
          o.samples = [sampleText (scn ++ "." ++ cd.tag)
            (serverCode m (canonMsg fs vals) (renderedMd cd (stepVars c cd w.iters sv).1))] ∧ DefinitionsIntact c w') := by
  obtain ⟨w', hw', _, hstep⟩ := shootStep_copy c gun scn cd w sv hd hw hcd hm
  constructor
  · intro hf
    rcases hf with hb | h | ⟨m, fs, h1, h2⟩
    · rw [specStep_bad c scn cd _ hb] at hstep
      exact ⟨w', _, hstep, rfl, Or.inl rfl, hw'⟩
    · rw [specStep_unknown c scn cd _ h] at hstep
      exact ⟨w', _, hstep, rfl, Or.inl rfl, hw'⟩
    · by_cases hb : callBad cd = true
      · rw [specStep_bad c scn cd _ hb] at hstep
        exact ⟨w', _, hstep, rfl, Or.inl rfl, hw'⟩
      · rw [specStep_illtyped c scn cd _ m fs (by simpa using hb) h1 h2] at hstep
        exact ⟨w', _, hstep, rfl, Or.inr rfl, hw'⟩
  · intro hnf
    have hb : callBad cd = false := by
      cases h : callBad cd with
      | false => rfl
      | true => exact absurd (Or.inl h) hnf
    cases hl : lookupMethod cd.call with
    | none => exact absurd (Or.inr (Or.inl hl)) hnf
    | some mf =>
      obtain ⟨m, fs⟩ := mf
      cases hdec : decodeFields fs (renderedPayload cd (stepVars c cd w.iters sv).1) with
      | none => exact absurd (Or.inr (Or.inr ⟨m, fs, hl, hdec⟩)) hnf
      | some vals =>
        obtain ⟨h1, h2⟩ := specStep_call c scn cd _ m fs vals hb hl hdec
        obtain ⟨hmem, hcall⟩ := lookupMethod_some cd.call m fs hl
        rw [h2] at hstep
        refine ⟨w', svNext cd (specStep c scn cd (stepVars c cd w.iters sv).1).2.2 sv,
          (specStep c scn cd (stepVars c cd w.iters sv).1).1, m, fs, vals, ?_, hmem, hcall, hdec, ?_, ?_, hw'⟩
        · rw [hstep]
          cases assertFails cd (serverCode m (canonMsg fs vals) (renderedMd cd (stepVars c cd w.iters sv).1)) <;> simp
        · rw [h1]
        · rw [h1]

/-- **C20_scenario_shot_ends_at_failure**: a failing step ends ITS shot only: the shot's outcome is what the steps
before it produced plus the failed sample, whatever steps follow. -/
theorem C20_scenario_shot_ends_at_failure (c : Cfg) (gun : Nat) (scn : String) (cd : CallDef) (rest : List CallDef)
    (w : World) (sv : ShotVars) (acc : Outcome)
    (hd : namesDistinct c.calls = true) (hw : DefinitionsIntact c w) (hcd : cd ∈ c.calls) (hm : Modelled c cd)
    (hf : FailingStep cd (stepVars c cd w.iters sv).1) :
    ∃ (w' : World) (o : Outcome), shootSteps .copy c gun scn (cd :: rest) w sv acc =
        .done w' { calls := acc.calls, samples := acc.samples ++ o.samples } ∧
      o.samples.length = 1 ∧ DefinitionsIntact c w' := by
  obtain ⟨w', o, hstep, hcalls, hs, hw'⟩ := (C20_scenario_step c gun scn cd w sv hd hw hcd hm).1 hf
  refine ⟨w', o, ?_, ?_, hw'⟩
  · simp [shootSteps, hstep, hcalls]
  · rcases hs with h | h <;> simp [h]

/-- **C20_scenario_refines**: for every configuration (call names distinct), any guns firing any number of shots in
any order: whenever the stateless specification `expectedSched` (computed from the DEFINITION and the iterator draws
only) defines the expected trace, the model of the repaired code produces exactly that trace. In particular a failing
step or a failing shot changes nothing for the shots after it. -/
theorem C20_scenario_refines (c : Cfg) (hd : namesDistinct c.calls = true) (sched : List Nat) (tr : List (Nat × Outcome))
    (h : expectedSched c sched 0 [] [] = some tr) :
    runSched .copy c sched 0 (initWorld c) [] = .inl (some tr) :=
  runSched_copy c hd sched 0 (initWorld c) [] tr (initWorld_ok c hd) h

/-! non-vacuity of the scenario theorems: a two-step scenario (one good step with templated metadata, one step with an
unknown method), two users -/

def exGood : CallDef :=
  { name := "h", call := "target.TargetService.Hello", md := [("x-user", [Piece.lit ['u', '-'], Piece.var vU])],
    payload := [("name", "s", [Piece.var vU])], pre := true }
def exBad : CallDef :=
  { name := "bad", call := "target.TargetService.Nope", md := [], payload := [], pre := false }
def exCfg : Cfg :=
  { tmo := 0, users := ["1", "2"], g := "g", calls := [exGood, exBad],
    scns := [{ name := "s", weight := 1, reqs := ["h", "bad", "h"] }] }

example : namesDistinct exCfg.calls = true := by decide
example : exGood ∈ exCfg.calls ∧ exBad ∈ exCfg.calls := by simp [exCfg]
example : Modelled exCfg exGood ∧ Modelled exCfg exBad := by
  constructor <;> (unfold Modelled; decide)
example (vars : Vars Char) : FailingStep exBad vars := by
  right; left; simp [exBad, lookupMethod, methodTable, svc]
/-- a step whose metadata holds an action the template engine rejects fails whatever its variables are -/
example (vars : Vars Char) : FailingStep { exGood with md := [("x-e", [Piece.var vBad])] } vars := by
  left; decide
example : ¬ FailingStep exGood [(vU, ['1'])] := by
  intro h
  rcases h with hb | h | ⟨m, fs, h1, h2⟩
  · revert hb; decide
  · simp [exGood, lookupMethod, methodTable, svc] at h
  · simp [exGood, lookupMethod, methodTable, svc] at h1
    obtain ⟨rfl, rfl⟩ := h1
    simp [renderedPayload, exGood, decodeFields, findField, convert, pvalOf, render, lookupVar, vU] at h2
/-- the hypothesis of `C20_scenario_refines` is met: the specification defines the trace of three shots by two guns -/
example : (expectedSched exCfg [0, 1, 0] 0 [] []).isSome = true := by decide


/-! ### the provider's reading loop, undecodable lines, the call registry, statuses, pool size -/

open Pandora.Proofs.C20Feed in
/-- **C20_feed**: for every configuration of the grpc/json provider with a configured number of passes (any limit, any
chosen cases, continueonerror on or off) and every file — lines that decode, lines that do not, lines too long for the
scanner — the ammo the reading loop puts on its sink, in order, is: the lines of `passes` passes one after another, up
to the first line that stops the provider (too long; undecodable without continueonerror), each line contributing ITS
OWN ammo (`itemOf`: the line decoded on its own if its tag is chosen; the empty invalid ammo for an undecodable line;
nothing otherwise), cut at the limit. No line's ammo depends on its neighbours, on the pass, or on what the pooled
object held. The loop itself (condition, body, what follows a pass) is regenerated from the source
(`Bridge.C20.providerLoopCond_eq`, `providerLoopBody_eq`, `providerAfterPass_eq`, `providerPassPrologue_eq`). -/
theorem C20_feed (cfg : ProvCfg) (raws : List Raw) (hp : cfg.passes ≠ 0) :
    (feed cfg raws).1 =
      takeLim cfg.limit ((((List.replicate cfg.passes raws).flatten).takeWhile (rawOk cfg)).filterMap (itemOf cfg)) ∧
    Gen.GrpcGun.providerLoopCond = "$*bufio.Scanner0.Scan() && ($recv.Limit == 0 || $int0 < $recv.Limit)" := by
  refine ⟨?_, Bridge.C20.providerLoopCond_eq⟩
  have h := runPasses_spec cfg raws cfg.passes 0 zeroEntry 0 (fun _ => Nat.zero_add _)
  have hf : feedFuel cfg = cfg.passes := by simp [feedFuel, hp]
  unfold feed
  rw [hf, h]
  simp [takeRem, takeLim, items, passesRaws]

/-- **C20_feed_isolated**: when no line stops the provider (every line decodes or continueonerror is on, none is too
long), the sink receives `passes` times the per-line ammo of the file, cut at the limit: in particular an undecodable
line costs exactly its own (invalid) ammo and changes nothing before or after it, in this pass or a later one. -/
theorem C20_feed_isolated (cfg : ProvCfg) (raws : List Raw) (hp : cfg.passes ≠ 0) (hok : raws.all (rawOk cfg) = true) :
    (feed cfg raws).1 = takeLim cfg.limit (passesItems cfg raws cfg.passes) := by
  rw [(C20_feed cfg raws hp).1]
  have hall : ∀ k, ((List.replicate k raws).flatten).all (rawOk cfg) = true := by
    intro k
    induction k with
    | zero => simp
    | succ k ih => simp [List.replicate_succ, hok, ih]
  rw [Proofs.C20Feed.takeWhile_all _ _ (hall cfg.passes)]
  congr 1
  simp [passesItems, List.filterMap_flatten]

/-- **C20_invalid_line**: the ammo an undecodable line is delivered as makes no call and yields exactly one failed sample
(code 0), whatever the timeout; that the provider resets the pooled object for such a line and that the gun returns
before the method lookup for an ammo marked invalid is regenerated (`Bridge.C20.ammoDecodeOnError_eq`, `gunInvalidAmmo_eq`). -/
theorem C20_invalid_line (tmo : Nat) :
    shootEntry tmo invalidEntry = { calls := [], samples := [sampleText "" 0] } ∧
    Gen.GrpcGun.ammoDecodeOnError = ["$1.Reset(\"\", \"\", nil, nil)", "return $1, errors.WithStack($error0)"] ∧
    Gen.GrpcGun.gunInvalidAmmo = "if $0.IsInvalid() { … return=true }; calls inside=0; before the method lookup=true" := by
  refine ⟨?_, Bridge.C20.ammoDecodeOnError_eq, Bridge.C20.gunInvalidAmmo_eq⟩
  simp [shootEntry, invalidEntry, zeroEntry, lookupMethod, methodTable, svc]

/-- non-vacuity: a file of a good line, an undecodable line and another good line, two passes, limit 5, continueonerror:
five ammo, the undecodable line's among them twice … -/
def exRaws : List Raw :=
  [.line { tag := some "a", call := some "target.TargetService.Hello" }, .bad, .line { tag := some "b", call := some "c" }]
example : ((feed { passes := 2, limit := 5, chosen := [], coe := true } exRaws).1.map (·.tag)) = ["a", "", "b", "a", ""] := by decide
example : exRaws.all (rawOk { passes := 2, limit := 5, chosen := [], coe := true }) = true := by decide
/-- … without continueonerror the provider stops at it (first pass only, one ammo) -/
example : ((feed { passes := 2, limit := 5, chosen := [], coe := false } exRaws).1.map (·.tag)) = ["a"] ∧
    (feed { passes := 2, limit := 5, chosen := [], coe := false } exRaws).2 = Stop.decode := by decide
/-- chosen cases: only tag b, three passes -/
example : ((feed { passes := 3, limit := 0, chosen := ["b"], coe := true } exRaws).1.map (·.tag)) = ["b", "b", "b"] := by decide

/-- **C20_registry**: the scenario provider's registry of calls holds every name once, with the LAST definition of
that name in the file; the scenario theorems (`C20_scenario_init`, `_step`, `_refines`), whose hypothesis is that call
names are distinct, therefore apply to every configuration after `registry`. -/
theorem C20_registry (l : List CallDef) :
    namesDistinct (registry l) = true ∧
    (∀ n, (registry l).find? (·.name == n) = l.reverse.find? (·.name == n)) ∧
    Gen.GrpcGun.scenarioCallRegistry =
      "for $int0, $config.CallConfig0 := range $0.Calls { $map[string]config.CallConfig0[$config.CallConfig0.Name] = $config.CallConfig0 }" :=
  ⟨Proofs.C20Feed.keepFirst_distinct _, fun n => Proofs.C20Feed.keepFirst_find _ n, Bridge.C20.scenarioCallRegistry_eq⟩

/-- the refinement theorem without any hypothesis on names -/
theorem C20_scenario_refines_registry (c : Cfg) (sched : List Nat) (tr : List (Nat × Outcome))
    (h : expectedSched { c with calls := registry c.calls } sched 0 [] [] = some tr) :
    runSched .copy { c with calls := registry c.calls } sched 0 (initWorld { c with calls := registry c.calls }) [] = .inl (some tr) :=
  C20_scenario_refines { c with calls := registry c.calls } (C20_registry c.calls).1 sched tr h

def exGoodR : CallDef := { name := "x", call := "c", md := [], payload := [], pre := false }
example : (registry [{ exGoodR with name := "h", call := "first" }, { exGoodR with name := "g" }, { exGoodR with name := "h", call := "last" }]).map
    (fun cd => (cd.name, cd.call)) = [("h", "last"), ("g", "c")] := by decide

/-- **C20_status**: the code reported for a call the server refused is `ConvertGrpcStatus` of its status — the table
regenerated from the source — and a refused call is still exactly one call and one sample: a grpc/json entry that
reaches the server with an injected fault `f` is reported with `convertStatus f`. -/
theorem C20_status (tmo : Nat) (e : Entry) (f : Nat) (m : String) (fs : List Field) (vals : List (String × Option String))
    (hl : lookupMethod e.call = some (m, fs)) (hd : decodeFields fs e.payload = some vals) (hf : faultOf e.md = some f) :
    shootEntry tmo e = { calls := [callText m (canonMsg fs vals) (mdText e.md) tmo], samples := [sampleText e.tag (convertStatus f)] } ∧
    convertStatus f = ((Gen.GrpcGun.statusTable.find? (·.1 == f)).map (·.2)).getD Gen.GrpcGun.statusDefault := by
  refine ⟨?_, by rw [Bridge.C20.statusTable_eq, Bridge.C20.statusDefault_eq]; rfl⟩
  simp [shootEntry, hl, hd, serverCode, hf]

example : faultOf [("k", "v"), ("X-Fault", "14")] = some 14 ∧ convertStatus 14 = 503 ∧ convertStatus 2 = 500 ∧
    convertStatus 99 = 500 ∧ faultOf [("x-fault", "014")] = none ∧ faultOf [("x-fault", "0")] = none := by decide

/-- **C20_clients**: the shared client pool has no clients when it is not enabled and at least one when it is, whatever
`client-number` says (0 and negative numbers mean 1); `C20_instances` and `C20_target` hold for every pool size. -/
theorem C20_clients (enabled : Bool) (cn : Int) :
    (enabled = false → effClients enabled cn = 0) ∧ (enabled = true → 1 ≤ effClients enabled cn) ∧
    (enabled = true → 1 ≤ cn → (effClients enabled cn : Int) = cn) ∧
    Gen.GrpcGun.poolGuards = ["if !$recv.Conf.SharedClient.Enabled { return nil, nil }",
      "if $recv.Conf.SharedClient.ClientNumber < 1 { $recv.Conf.SharedClient.ClientNumber = 1 }"] := by
  refine ⟨?_, ?_, ?_, Bridge.C20.poolGuards_eq⟩
  · intro h; simp [effClients, h]
  · intro h
    by_cases hc : cn < 1
    · simp [effClients, h, hc]
    · simp only [effClients, h, hc]; simp; omega
  · intro h hc
    have : ¬ cn < 1 := by omega
    simp only [effClients, h, this]; simp; omega

example : effClients true 0 = 1 ∧ effClients true (-3) = 1 ∧ effClients true 4 = 4 ∧ effClients false 4 = 0 := by decide

/-- non-vacuity of the assertion clause of `C20_scenario_step`: a step demanding status 200 whose reply is 403 -/
example : assertFails { exGood with assert := 200 } 403 = true ∧ assertFails { exGood with assert := 200 } 200 = false ∧
    assertFails exGood 403 = false := by decide

/-! ### the scenario provider's passes / limit, unlimited passes of grpc/json, the reflection endpoint for every
way of writing the target, the preprocessor's index forms -/

open Pandora.Proofs.C20R4 in
/-- **C20_scenario_provider**: the generic scenario provider (`components/providers/scenario/provider.go` `Run`) over a
list of `len > 0` ammo, for every `passes`, every `limit` (0 = not configured) and every number `asked` of ammo the
instances ask for: it delivers ammo number `i mod len` of the list for `i = 0, 1, …` — every scenario of the weighted
list in turn, pass after pass — exactly `min asked (passes × len cut at limit)` of them (all `asked` when neither is
configured). -/
theorem C20_scenario_provider (len passes limit asked : Nat) (hl : 0 < len) :
    scenRun len passes limit asked 0 =
      (List.range (match scenAvail len passes limit with | none => asked | some b => min asked b)).map (· % len) := by
  rw [scenRun_spec len passes limit hl asked 0, List.range_eq_range']
  unfold scenLeft
  cases scenAvail len passes limit <;> simp

example : scenRun 3 2 0 10 0 = [0, 1, 2, 0, 1, 2] ∧ scenRun 3 2 4 10 0 = [0, 1, 2, 0] ∧ scenRun 3 0 0 4 0 = [0, 1, 2, 0] ∧
    scenAvail 3 2 4 = some 4 ∧ scenAvail 3 0 0 = none := by decide

open Pandora.Proofs.C20Feed Pandora.Proofs.C20R4 in
/-- **C20_feed_unlimited**: the grpc/json provider with UNLIMITED passes (`passes: 0`, or `passes` not written: the
default) and a limit, for every file: the sink receives the per-line ammo of the file's lines, pass after pass, up to
the first line that stops the provider, cut at the limit (part 1: `limit + 1` passes are always enough); and when no
line stops the provider and the file delivers anything at all, that is exactly `limit` ammo — the first `limit` of the
endless repetition of the file's own ammo, whatever number `k ≥ limit` of passes one unrolls (part 2). -/
theorem C20_feed_unlimited (cfg : ProvCfg) (raws : List Raw) (hp : cfg.passes = 0) (hl : cfg.limit ≠ 0) :
    (feed cfg raws).1 =
      ((((List.replicate (cfg.limit + 1) raws).flatten).takeWhile (rawOk cfg)).filterMap (itemOf cfg)).take cfg.limit ∧
    (raws.all (rawOk cfg) = true → raws.filterMap (itemOf cfg) ≠ [] →
      (feed cfg raws).1.length = cfg.limit ∧
      ∀ k, cfg.limit ≤ k → (feed cfg raws).1 = (passesItems cfg raws k).take cfg.limit) := by
  have hf : feedFuel cfg = cfg.limit + 1 := by simp [feedFuel, hp]
  have h := runPasses_spec cfg raws (cfg.limit + 1) 0 zeroEntry 0 (fun h => absurd hp h)
  have h1 : (feed cfg raws).1 = (items cfg (passesRaws raws (cfg.limit + 1))).take cfg.limit := by
    unfold feed
    rw [hf, h]
    simp [takeRem, hl]
  refine ⟨by rw [h1]; rfl, ?_⟩
  intro hok hne
  rw [h1, items_passesRaws_all cfg raws hok]
  have hk := passesItems_take cfg raws cfg.limit (cfg.limit + 1) (by omega) hne
  refine ⟨?_, ?_⟩
  · rw [List.length_take, passesItems_length]
    have hpos : 0 < (raws.filterMap (itemOf cfg)).length := by
      cases hh : raws.filterMap (itemOf cfg) with
      | nil => exact absurd hh hne
      | cons _ _ => simp
    have : cfg.limit + 1 ≤ (cfg.limit + 1) * (raws.filterMap (itemOf cfg)).length := Nat.le_mul_of_pos_right _ hpos
    omega
  · intro k hkl
    rw [hk, passesItems_take cfg raws cfg.limit k hkl hne]

example : ((feed { passes := 0, limit := 5, chosen := [], coe := true } exRaws).1.map (·.tag)) = ["a", "", "b", "a", ""] ∧
    exRaws.all (rawOk { passes := 0, limit := 5, chosen := [], coe := true }) = true ∧
    exRaws.filterMap (itemOf { passes := 0, limit := 5, chosen := [], coe := true }) ≠ [] := by decide

open Pandora.Proofs.C20R4 in
/-- **C20_weights**: the divisor `SpreadNames` divides the scenario weights by. For EVERY list of two or more weights the
Go code's `GCDM` — `GCD(GCDM(all but the last), GCD(last two))` with Euclid's loop `GCD` — is the greatest common
divisor of ALL of them (what `Model.ammoList` divides by): not of the last two, not of all but one. So every scenario
enters the ammo list `weight / gcd` times, whatever the number of scenarios. Fewer than two weights: `GCDM` returns 0
and `SpreadNames` does not use it (a single scenario enters once). The bodies of `GCD`, `GCDM`, `SpreadNames` are
regenerated: `GCD` as Lean functions (`Bridge.C20.gcdLoop_step_eq`, `gcdLoop_base_eq`: `goGcdLoop` IS the source's loop), `GCDM` and
`SpreadNames` canonically (`gcdmBody_eq`, `spreadNamesBody_eq`, `spreadWeight_eq`, `spreadCount_eq`). -/
theorem C20_weights (ws : List Nat) (h : 2 ≤ ws.length) :
    goGcdm ws = ws.foldl Nat.gcd 0 ∧ (∀ w ∈ ws, goGcdm ws ∣ w) ∧ (∀ d, (∀ w ∈ ws, d ∣ w) → d ∣ goGcdm ws) ∧
    Gen.GrpcGun.gcdmBody = ["$int0 := len($0)", "if $int0 < 2 { return 0 }", "$int640 := GCD($0[$int0-2], $0[$int0-1])",
      "if $int0 == 2 { return $int640 }", "return GCD(GCDM($0[:$int0-1]...), $int640)"] := by
  have hfold : ∀ (l : List Nat) (a : Nat), (l.foldl Nat.gcd a ∣ a ∧ ∀ w ∈ l, l.foldl Nat.gcd a ∣ w) ∧
      ∀ d, d ∣ a → (∀ w ∈ l, d ∣ w) → d ∣ l.foldl Nat.gcd a := by
    intro l
    induction l with
    | nil => intro a; simp
    | cons x r ih =>
      intro a
      obtain ⟨⟨h1, h2⟩, h3⟩ := ih (Nat.gcd a x)
      refine ⟨⟨?_, ?_⟩, ?_⟩
      · exact Nat.dvd_trans h1 (Nat.gcd_dvd_left _ _)
      · intro w hw
        simp only [List.mem_cons] at hw
        rcases hw with rfl | hw
        · exact Nat.dvd_trans h1 (Nat.gcd_dvd_right _ _)
        · exact h2 w hw
      · intro d hda hd
        exact h3 d (Nat.dvd_gcd hda (hd x (by simp))) (fun w hw => hd w (by simp [hw]))
  rw [goGcdm_eq ws h]
  exact ⟨rfl, (hfold ws 0).1.2, fun d hd => (hfold ws 0).2 d (Nat.dvd_zero d) hd, Bridge.C20.gcdmBody_eq⟩

example : goGcdm [6, 9, 4] = 1 ∧ goGcdm [6, 4, 8] = 2 ∧ goGcdm [4, 6] = 2 ∧ goGcdm [5] = 0 ∧ goGcd 12 18 = 6 := by decide

open Pandora.Proofs.C20R4 in
/-- **C20_reflect_port**: where the warm-up looks for the reflection API, for EVERY way of writing the target. With a
configured `reflect_port` `p ≠ 0`: a target `<pre>:<q>` whose last `:`-separated part `q` is a number (whatever `pre` is:
`127.0.0.1`, `localhost`, `dns:///127.0.0.1`, `passthrough:///host`, `[::1]` …) gives `<pre>:<p>` — the same host,
scheme and all, only the port replaced; a target without any `:` and a target whose last part is not a number (`[::1]`,
`dns:///host`) get `:<p>` appended. (`C20_target` says no call ever goes there; `Bridge.C20.replacePortRows_eq` ties the
decision list to the source.) -/
theorem C20_reflect_port (p : Nat) (hp : p ≠ 0) :
    (∀ (pre q : String), (∀ c ∈ q.toList, c ≠ ':') → parsesInt64 q.toList = true →
      (replacePort (pre ++ ":" ++ q) p).toList = pre.toList ++ ':' :: (toString p).toList) ∧
    (∀ (host : String), (∀ c ∈ host.toList, c ≠ ':') → replacePort host p = host ++ ":" ++ toString p) ∧
    (∀ (pre q : String), (∀ c ∈ q.toList, c ≠ ':') → parsesInt64 q.toList = false →
      replacePort (pre ++ ":" ++ q) p = (pre ++ ":" ++ q) ++ ":" ++ toString p) := by
  have hp' : (p == 0) = false := by simpa using hp
  refine ⟨?_, ?_, ?_⟩
  · intro pre q hq hnum
    have hs : (pre ++ ":" ++ q).toList = pre.toList ++ ':' :: q.toList := by simp
    unfold replacePort
    simp only [hp', Bool.false_eq_true, if_false, hs, splitColon_append pre.toList q.toList hq]
    have hne := splitColon_ne_nil [] pre.toList
    have hlen : ((splitColon [] pre.toList ++ [q.toList]).length == 1) = false := by
      cases h : splitColon [] pre.toList with
      | nil => exact absurd h hne
      | cons x r => simp
    simp only [hlen, Bool.false_eq_true, if_false, List.getLastD_concat, hnum, Bool.not_true, List.dropLast_concat]
    rw [String.toList_ofList, joinColon_append _ hne, joinColon_splitColon]
  · intro host hh
    unfold replacePort
    simp [hp', splitColon_noColon host.toList hh]
  · intro pre q hq hnum
    have hs : (pre ++ ":" ++ q).toList = pre.toList ++ ':' :: q.toList := by simp
    unfold replacePort
    simp only [hp', Bool.false_eq_true, if_false, hs, splitColon_append pre.toList q.toList hq]
    simp [hnum]

/-- non-vacuity: the forms the harness writes the target in (`tf=`) -/
example : replacePort "dns:///127.0.0.1:1111" 2222 = "dns:///127.0.0.1:2222" ∧
    replacePort "passthrough:///127.0.0.1:1111" 2222 = "passthrough:///127.0.0.1:2222" ∧
    replacePort "localhost:1111" 2222 = "localhost:2222" ∧ replacePort "[::1]:1111" 2222 = "[::1]:2222" ∧
    replacePort "127.0.0.1" 2222 = "127.0.0.1:2222" ∧ replacePort "[::1]" 2222 = "[::1]:2222" ∧
    parsesInt64 "1111".toList = true ∧ parsesInt64 "1]".toList = false := by decide +kernel

/-- **C20_index**: the preprocessor's index forms other than `[next]` (`lib/mp` `calcIndex`): for every non-empty user
list, `[last]`, a written index (wrapping round the list) and a written negative index (counted from the end, wrapping)
yield an element OF the list — number `len - 1`, `i mod len`, and `0` or `len - (i mod len)` — and move no iterator: only
`[next]` draws. In Go's arithmetic (`%` truncates towards zero): `r := -i % len; if r < 0 { r += len }`. -/
theorem C20_index (c : Cfg) (cd : CallDef) (iters : List (String × Nat)) (hu : c.users ≠ []) (hp : cd.pre = true)
    (hn : cd.idx ≠ .next) :
    (drawUser c cd iters).2 = iters ∧
    fixedIndex c.users.length cd.idx < c.users.length ∧
    (drawUser c cd iters).1 = some (c.users.getD (fixedIndex c.users.length cd.idx) "") ∧
    (∀ i, cd.idx = .neg i →
      (fixedIndex c.users.length cd.idx : Int) =
        (let r := Int.tmod (-(i : Int)) c.users.length; if r < 0 then r + c.users.length else r)) := by
  have hlen : 0 < c.users.length := by
    cases h : c.users with
    | nil => exact absurd h hu
    | cons _ _ => simp
  refine ⟨?_, ?_, ?_, ?_⟩
  · unfold drawUser; cases h : cd.idx <;> simp_all
  · cases h : cd.idx with
    | next => exact absurd h hn
    | last => simp [fixedIndex]; omega
    | fixed i => simp [fixedIndex]; exact Nat.mod_lt _ hlen
    | neg i => simp [fixedIndex]; exact Nat.mod_lt _ hlen
  · unfold drawUser; cases h : cd.idx <;> simp_all
  · intro i hi
    rw [hi]
    simp only [fixedIndex]
    have hm : i % c.users.length < c.users.length := Nat.mod_lt _ hlen
    have ht : Int.tmod (-(i : Int)) (c.users.length : Int) = -((i % c.users.length : Nat) : Int) := by
      rw [Int.neg_tmod]; congr 1
    rw [ht]
    by_cases hz : i % c.users.length = 0
    · simp [hz]
    · have : (c.users.length - i % c.users.length) % c.users.length = c.users.length - i % c.users.length :=
        Nat.mod_eq_of_lt (by omega)
      rw [this]
      have hneg : -((i % c.users.length : Nat) : Int) < 0 := by omega
      simp only [hneg, if_true]
      omega

example : fixedIndex 3 .last = 2 ∧ fixedIndex 3 (.fixed 7) = 1 ∧ fixedIndex 3 (.neg 1) = 2 ∧ fixedIndex 3 (.neg 3) = 0 ∧
    fixedIndex 3 (.neg 7) = 2 := by decide

/-! ### whatever `sync.Pool` hands out; a good entry IS delivered; file → provider → pool of instances -/

open Pandora.Proofs.C20R6 in
/-- **C20_pool_oracle**: the grpc/json provider's reading loop over pooled ammo OBJECTS (four fields + the invalid flag;
`Reset` assigns the whole struct, `Invalidate` sets the flag), where the k-th `p.Pool.Get()` of the run returns `pool k`
— ANY object: a new one, or one released earlier by any instance after any entry, valid or flagged invalid. For every
configuration, every file and every such oracle: the fields of the objects put on the sink, and the way the provider
ends, are those of `feed` (hence of the stateless closed forms `C20_feed`, `C20_feed_isolated`, `C20_feed_unlimited`);
what the gun makes of each delivered object (its early return for a flagged one included) is what `shootEntry` makes of
the line's own fields; and an object delivered with the flag set holds nothing. Nothing an object carried before — fields
or flag — reaches the server or a sample. -/
theorem C20_pool_oracle (cfg : ProvCfg) (raws : List Raw) (pool : Nat → Obj) (tmo : Nat) :
    (feedO cfg pool raws).1.map (·.e) = (feed cfg raws).1 ∧ (feedO cfg pool raws).2 = (feed cfg raws).2 ∧
    (feedO cfg pool raws).1.map (shootObj tmo) = (feed cfg raws).1.map (shootEntry tmo) ∧
    (∀ o ∈ (feedO cfg pool raws).1, o.invalid = true → o.e = zeroEntry) := by
  have h1 : (feedO cfg pool raws).1.map (·.e) = (feed cfg raws).1 := (runPassesO_sim cfg pool raws (feedFuel cfg) 0 0 0 zeroEntry).1
  have h2 : (feedO cfg pool raws).2 = (feed cfg raws).2 := (runPassesO_sim cfg pool raws (feedFuel cfg) 0 0 0 zeroEntry).2
  have hinv : ∀ o ∈ (feedO cfg pool raws).1, o.invalid = true → o.e = zeroEntry := runPassesO_inv cfg pool raws (feedFuel cfg) 0 0 0
  refine ⟨h1, h2, ?_, hinv⟩
  have : (feed cfg raws).1.map (shootEntry tmo) = ((feedO cfg pool raws).1.map (·.e)).map (shootEntry tmo) := by
    rw [← h1]
  rw [this, List.map_map]
  apply List.map_congr_left
  intro o ho
  exact shootObj_eq tmo o (hinv o ho)

/-- non-vacuity: a pool that hands out rich objects, every other one flagged invalid (what the harness prepares with
`dirty=`): a sparse line, an undecodable line and a line without any key are delivered as themselves -/
example : ((feedO { passes := 1, limit := 0, chosen := [], coe := true } dirtyObj
      [.line { tag := some "a", call := some "target.TargetService.Hello" }, .bad, .line {}]).1.map
        fun o => (o.e.tag, o.e.md.length, o.e.payload.length, o.invalid))
    = [("a", 0, 0, false), ("", 0, 0, true), ("", 0, 0, false)] ∧
    (dirtyObj 1).invalid = true ∧ (dirtyObj 0).e.md.length = 2 := by decide

/-- **C20_entry_delivered** (the positive half of `C20_method` / `C20_errors_isolated`): an entry that names a method of
the table and whose payload fits the method's input type makes EXACTLY one call — to that method, with the decoded
message, the entry's metadata, the configured timeout — and exactly one sample carrying the server's answer. -/
theorem C20_entry_delivered (tmo : Nat) (e : Entry) (h : ¬ Failing e) :
    ∃ m fs vals, (m, fs) ∈ methodTable ∧ e.call = svc ++ "." ++ m ∧ decodeFields fs e.payload = some vals ∧
      shootEntry tmo e = { calls := [callText m (canonMsg fs vals) (mdText e.md) tmo],
                           samples := [sampleText e.tag (serverCode m (canonMsg fs vals) e.md)] } := by
  cases hl : lookupMethod e.call with
  | none => exact absurd (Or.inl hl) h
  | some mf =>
    obtain ⟨m, fs⟩ := mf
    cases hd : decodeFields fs e.payload with
    | none => exact absurd (Or.inr ⟨m, fs, hl, hd⟩) h
    | some vals =>
      obtain ⟨h1, h2⟩ := lookupMethod_some e.call m fs hl
      exact ⟨m, fs, vals, h1, h2, hd, by simp [shootEntry, hl, hd]⟩

example : ¬ Failing { tag := "t", call := "target.TargetService.Hello", md := [("K", "v")], payload := [("name", PVal.s "x")] } := by
  intro h
  rcases h with h | ⟨m, fs, h1, h2⟩
  · simp [lookupMethod, methodTable, svc] at h
  · simp [lookupMethod, methodTable, svc] at h1
    obtain ⟨rfl, rfl⟩ := h1
    simp [decodeFields, findField, convert] at h2

/-- **C20_json_end_to_end** (composition file → provider → pool of instances → server): for every provider configuration
with a configured number of passes, every file none of whose lines stops the provider, every `sync.Pool` oracle, every
number of instances, every shared-client pool size and every assignment of the delivered ammo to instances: shot `k` is
fired by instance `sched[k]` and produces what the k-th element of the STATELESS description — `passes` times the file's
per-line ammo, cut at the limit — produces on its own (`shootEntry`: `C20_method`, `C20_entry_delivered`,
`C20_errors_isolated` say what that is). -/
theorem C20_json_end_to_end (cfg : ProvCfg) (raws : List Raw) (pool : Nat → Obj) (tmo n sc : Nat) (sched : List Nat)
    (hp : cfg.passes ≠ 0) (hok : raws.all (rawOk cfg) = true) (h : ∀ i ∈ sched, i < n) :
    ((runPool tmo (initPool n sc) sched ((feedO cfg pool raws).1.map (·.e))).2.map fun (i, _, o) => (i, o))
      = expectedJsonSched tmo sched (takeLim cfg.limit (passesItems cfg raws cfg.passes)) := by
  rw [(C20_pool_oracle cfg raws pool tmo).1, C20_instances tmo n sc sched _ h, C20_feed_isolated cfg raws hp hok]

/-- non-vacuity: the hypotheses hold together for the example file of `C20_feed` (two passes, continueonerror), three
instances, a dirty pool -/
example : ({ passes := 2, limit := 5, chosen := [], coe := true } : ProvCfg).passes ≠ 0 ∧
    exRaws.all (rawOk { passes := 2, limit := 5, chosen := [], coe := true }) = true ∧ (∀ i ∈ [2, 0, 1, 2, 0], i < 3) ∧
    ((feedO { passes := 2, limit := 5, chosen := [], coe := true } dirtyObj exRaws).1.map (·.e.tag)) = ["a", "", "b", "a", ""] := by
  decide

/-! ### compositions with the neighbours' regenerated definitions (read-only imports of C10's and C14's gen areas) -/

/-- **C20_status_documented** (composition with C10's area `grpcstatus` and with the anchored documentation): the code a
refused call is reported with (`convertStatus`, `C20_status`) is, for EVERY status number, what C10's regenerated
`ConvertGrpcStatus` (`Gen.GrpcStatus.grpcToHttp`, a function extracted from `components/guns/grpc/core.go`) returns, and the
model's table is, row by row, the mapping table of `docs/eng/grpc-generator.md` (`Gen.GrpcStatus.docRows`, `docDefault`,
re-read from the document on every run): code, model and documentation say the same. -/
theorem C20_status_documented :
    (∀ f, convertStatus f = Gen.GrpcStatus.grpcToHttp f) ∧
    statusTable = Gen.GrpcStatus.docRows ∧ statusDefault = Gen.GrpcStatus.docDefault := by
  refine ⟨?_, rfl, rfl⟩
  intro f
  by_cases h : f < 17
  · revert f
    decide
  · unfold convertStatus Gen.GrpcStatus.grpcToHttp statusTable statusDefault
    have h0 : ∀ k, k < 17 → (k == f) = false := by intro k hk; simp; omega
    simp [List.find?, h0]
    repeat rw [if_neg (by omega)]

/-- **C20_chosen_cases** (composition with C14's area `chosencases`): the chosen-cases filter of the grpc/json reading
loop (`Model.isChosen`, used by `action`, `itemOf` and so by `C20_feed`, `C20_feed_isolated`, `C20_feed_unlimited`,
`C20_pool_oracle`) IS `confutil.IsChosenCase` as regenerated from `lib/confutil/chosen_cases_filter.go` by symbolic
execution (`Gen.ChosenCases.isChosenCase`), for every tag and every list: an edit of that helper (a prefix match, a
case-insensitive match …) re-opens this obligation here too. -/
theorem C20_chosen_cases (tag : String) (chosen : List String) :
    isChosen tag chosen = Gen.ChosenCases.isChosenCase tag chosen := by
  unfold isChosen Gen.ChosenCases.isChosenCase
  cases chosen with
  | nil => simp
  | cons c rest =>
    simp only [List.isEmpty_cons, Bool.false_or, List.length_cons, Nat.add_one_ne_zero, if_false]
    induction (c :: rest) with
    | nil => simp
    | cons x xs ih =>
      simp only [List.contains_cons, List.findSome?_cons, Gen.ChosenCases.isChosenCaseStep]
      by_cases hx : x = tag
      · subst hx; simp
      · have : (tag == x) = false := by simp; exact fun h => hx h.symm
        simp only [hx, this, if_false, Bool.false_or]
        exact ih

example : isChosen "b" ["a", "b"] = true ∧ isChosen "bb" ["a", "b"] = false ∧ isChosen "x" [] = true ∧
    Gen.ChosenCases.isChosenCase "bb" ["a", "b"] = false := by decide

/-! ### a scenario's request list -/

open Pandora.Proofs.C20R6Expand in
/-- **C20_expand**: how a scenario's `requests` list becomes the steps of a shot (`convertScenarioToAmmo`).
For every list of entries `name`, `name(count)`,
`name(count, sleep)`, `sleep(ms)` and every call registry: WHENEVER the provider accepts the list, the steps are — in
order — every entry that is not a pause, `count` times (`expandSpec`: pauses and the sleep of the three-part form add
time only, a count of 0 or below adds nothing), at most `MaxScenarioRequests` of them, each naming a call of the
registry. The loop and the constant are regenerated (`Bridge.C20.scenarioExpandLoop_eq`, `maxScenarioRequests_eq`). -/
theorem C20_expand (known : String → Bool) (reqs : List Shoot) (out : List (String × Int))
    (h : expandReqs known reqs [] = .ok out) :
    out.map (·.1) = expandSpec reqs ∧ out.length ≤ maxScenarioRequests ∧ (∀ n ∈ expandSpec reqs, known n = true) ∧
    Gen.GrpcGun.maxScenarioRequests = maxScenarioRequests := by
  obtain ⟨h1, h2, h3⟩ := expandReqs_ok known reqs [] out h (by simp)
  exact ⟨by simpa using h1, h2, h3, Bridge.C20.maxScenarioRequests_eq⟩

/-- non-vacuity: an accepted list (count, three-part form, pauses, a count of 0) and the three ways a list is rejected -/
example : (match expandReqs (fun _ => true)
      [{ name := "h", cnt := 2 }, { name := "sleep", cnt := 5 }, { name := "g", cnt := 1, sleep := 7 }, { name := "h", cnt := 0 }] [] with
    | .ok out => out == [("h", 0), ("h", 5), ("g", 7)]
    | .error _ => false) = true := by decide
example : (match expandReqs (fun _ => true) [{ name := "sleep", cnt := 5 }, { name := "h" }] [] with
    | .error .leadingSleep => true | _ => false) = true := by decide
example : (match expandReqs (fun _ => true) [{ name := "h", cnt := 0 }, { name := "sleep", cnt := 5 }] [] with
    | .error .leadingSleep => true | _ => false) = true := by decide
example : (match expandReqs (fun _ => true) [{ name := "h", cnt := 2 }, { name := "g", cnt := 1048575 }] [] with
    | .error .tooMany => true | _ => false) = true := by decide
example : (match expandReqs (fun n => n == "h") [{ name := "h" }, { name := "nope" }] [] with
    | .error (.unknown "nope") => true | _ => false) = true := by decide

/-! ### scenario provider → guns -/

/-- the number of shots the scenario provider serves when `asked` are asked for -/
def servedShots (len passes limit asked : Nat) : Nat :=
  match scenAvail len passes limit with | none => asked | some b => min asked b

/-- **C20_scenario_end_to_end** (composition scenario provider → guns → server): for every configuration, every `passes` /
`limit` of the scenario provider and every order `sched` in which guns ask for ammo: the provider serves exactly
`servedShots` of them (all of them when nothing is configured, else `min asked (passes × len cut at limit)`), the k-th
served ammo is number `k mod len` of the weighted list — which is the ammo `runSched`'s k-th shot fires — and the guns
firing them produce exactly the stateless specification's trace (`C20_scenario_provider` + `C20_scenario_refines`; with
`registry` applied the hypothesis on names is `C20_registry`). -/
theorem C20_scenario_end_to_end (c : Cfg) (hd : namesDistinct c.calls = true) (passes limit : Nat) (sched : List Nat)
    (tr : List (Nat × Outcome)) (hl : 0 < (ammoList c).length)
    (h : expectedSched c (sched.take (servedShots (ammoList c).length passes limit sched.length)) 0 [] [] = some tr) :
    (scenRun (ammoList c).length passes limit sched.length 0).length = servedShots (ammoList c).length passes limit sched.length ∧
    (∀ k, k < servedShots (ammoList c).length passes limit sched.length →
      (scenRun (ammoList c).length passes limit sched.length 0)[k]? = some (k % (ammoList c).length)) ∧
    runSched .copy c (sched.take (servedShots (ammoList c).length passes limit sched.length)) 0 (initWorld c) [] = .inl (some tr) := by
  have hp := C20_scenario_provider (ammoList c).length passes limit sched.length hl
  have hs : scenRun (ammoList c).length passes limit sched.length 0 =
      (List.range (servedShots (ammoList c).length passes limit sched.length)).map (· % (ammoList c).length) := by
    rw [hp]; unfold servedShots; cases scenAvail (ammoList c).length passes limit <;> rfl
  refine ⟨?_, ?_, C20_scenario_refines c hd _ tr h⟩
  · rw [hs]; simp
  · intro k hk
    rw [hs]
    simp [List.getElem?_map, List.getElem?_range hk]

example : 0 < (ammoList exCfg).length ∧ servedShots (ammoList exCfg).length 0 2 3 = 2 ∧
    (expectedSched exCfg ([0, 1, 0].take (servedShots (ammoList exCfg).length 0 2 3)) 0 [] []).isSome = true := by decide

end Pandora.Props.C20
