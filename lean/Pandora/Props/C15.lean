/-
C15 — Scenario execution: order, multiplicity, variable flow, stop on failure; weights; `[next]` round robin.

The theorems are about `Pandora.Model.C15` (the functions mirror decode.go / gun.go / mp/iterator.go / mp/map.go /
math/gcd_lcm.go one to one; the correspondence run compares them with the real provider and the real gun on every
check).  Templating, the target and the postprocessor libraries are an arbitrary `World`; request definitions are an
arbitrary registry `reqs`; the `[next]` theorem quantifies over every number of threads, every (adaptive) program
and every schedule of the small steps lock / read / write / unlock.

Statement-level definitions live next to the lemmas that use them:
  `Spec.C15.specSteps`, `specNames`, `gcdList`, `effWeights`        — the meaning of a request list / of weights
  `Proofs.C15.parseAll`, `domOK`, `proj`                            — parsed items, the accepted descriptions
  `Proofs.C15.okEvents`, `okRun`, `stepTag`                         — events of successful steps
  `Proofs.C15.rvOf`, `expSeen`, `recVal`, `lastRec` (over `StepRec`) — the variable tree step by step
  `Proofs.C15.scenarioOf`, `effW`                                   — decoded scenario, effective weight
-/
import Pandora.Proofs.C15Expand
import Pandora.Proofs.C15Gcd
import Pandora.Proofs.C15Ring
import Pandora.Proofs.C15RingSpec
import Pandora.Proofs.C15Shoot
import Pandora.Proofs.C15Verdict
import Pandora.Proofs.C15Post
import Pandora.Proofs.C15Next
import Pandora.Proofs.C15Lock
import Pandora.Bridge.C15Scen
import Pandora.Proofs.C15Flow
import Pandora.Bridge.C15Flow
import Pandora.Proofs.C15Walk
import Pandora.Bridge.C15Walk
import Pandora.Proofs.C15Tmpl
import Pandora.Proofs.C15Jpath
import Pandora.Bridge.C15Tmpl
import Pandora.Proofs.C15Prep
import Pandora.Proofs.C15Pub

namespace Pandora.Props.C15
open Pandora.Model.C15 Pandora.Spec.C15 Pandora.Proofs.C15

/-! ## order, multiplicity, pauses -/

/-- **order and multiplicity**: whenever the decoder accepts a request list, every item parsed, and the produced
step list IS the meaning of the list (`specSteps`: `name(n, s)` = n consecutive executions of `name`, each followed by
a pause of s ms; `sleep(ms)` adds ms to the pause after the step executed last before it) — names in the listed
order with the stated multiplicities (`specNames`), each step carrying the request registered under its name. -/
theorem C15_order_mult {ρ} (reqs : List Char → Option ρ) (shoots : List (List Char)) (steps : List (Step ρ))
    (h : expand reqs shoots [] = .ok steps) :
    ∃ items, parseAll shoots = some items ∧
      specSteps items = some (steps.map proj) ∧
      steps.map (·.name) = specNames items ∧
      ∀ st ∈ steps, reqs st.name = some st.req := by
  obtain ⟨items, hp⟩ := parse_of_expand reqs shoots [] steps h
  have he : expandItems reqs items [] = .ok steps := by rw [← expand_of_parse reqs shoots items [] hp]; exact h
  refine ⟨items, hp, ?_, ?_, ?_⟩
  · unfold specSteps
    rw [specStepsRev_of_expand reqs items.reverse steps 0 (by simpa using he), bumpP_zero]
  · have := names_of_expand reqs items.reverse steps (by simpa using he)
    simpa using this
  · refine expandItems_inv (fun a => ∀ st ∈ a, reqs st.name = some st.req) (fun acc it acc' hacc he => ?_) items [] steps
      (by simp) he
    rcases expandItem_ok he with ⟨_, l, hl, rfl⟩ | ⟨_, r, hr, _, rfl⟩ <;> intro st hst <;>
      rcases List.mem_append.mp hst with e | e
    · exact hacc st (List.dropLast_subset acc e)
    · cases List.mem_singleton.mp e
      exact hacc l (List.mem_of_getLast? hl)
    · exact hacc st e
    · cases (List.mem_replicate.mp e).2
      exact hr

/-- **the accepted descriptions, exactly**: a list whose items all parse is decoded successfully iff every request
name is defined, every `sleep` item has an executed step before it and no item lets the scenario grow beyond
`config.MaxScenarioRequests` (2^20) steps (otherwise: an error, never a panic, never an allocation without bound —
repair 1eaf10a). -/
theorem C15_order_mult_total {ρ} (reqs : List Char → Option ρ) (shoots : List (List Char)) (items : List Item)
    (hp : parseAll shoots = some items) :
    (∃ steps, expand reqs shoots [] = .ok steps) ↔ domOK reqs items 0 = true := by
  rw [expand_of_parse reqs shoots items [] hp]
  exact expandItems_ok_iff reqs items []

/-- an accepted request list expands to at most `config.MaxScenarioRequests` steps, whatever the repeat counts -/
theorem C15_order_mult_bounded {ρ} (reqs : List Char → Option ρ) (shoots : List (List Char)) (steps : List (Step ρ))
    (h : expand reqs shoots [] = .ok steps) : (steps.length : Int) ≤ maxScenarioRequests := by
  obtain ⟨items, hp⟩ := parse_of_expand reqs shoots [] steps h
  rw [expand_of_parse reqs shoots items [] hp] at h
  refine expandItems_inv (fun a => (a.length : Int) ≤ maxScenarioRequests) (fun acc it acc' hacc he => ?_) items [] steps
    (by simp [maxScenarioRequests]) h
  rcases expandItem_ok he with ⟨_, l, hl, rfl⟩ | ⟨_, r, _, hc, rfl⟩
  · have : 0 < acc.length := List.length_pos_iff.mpr fun e => by subst e; cases hl
    simp only [List.length_append, List.length_dropLast, List.length_singleton]
    omega
  · simp only [List.length_append, List.length_replicate]
    omega

/-- an item that does not parse, an unknown name or a leading `sleep` is an error of the decoder (no panic) -/
theorem C15_order_no_panic {ρ} (reqs : List Char → Option ρ) (shoots : List (List Char)) (acc : List (Step ρ)) (p : String) :
    expand reqs shoots acc ≠ .panic p := by
  induction shoots generalizing acc with
  | nil => simp [expand]
  | cons sh rest ih =>
    simp only [expand]
    split
    · simp
    · rename_i it _
      have : ∀ q, expandItem reqs acc it ≠ .panic q := by
        intro q
        unfold expandItem
        split
        · split <;> simp
        · split
          · simp
          · dsimp only; split <;> simp
      split
      · exact ih _
      · simp
      · rename_i q hq; exact absurd hq (this q)

/-! ## the step loop: stop on failure -/

/-- **stop on failure** (and order of execution): one shot appends to the log
* if it succeeds: for every step of the scenario, in order, its request, its successful sample and its pause;
* if it fails: exactly that for the first `i` steps, then — for step `i` — at most its request and ONE failed
  sample tagged `<scenario>.<step i>|__EMPTY__` with code 0, and nothing after it: no request, sample or pause of
  any later step.
(A Go panic inside the shot is `none` in the model; `h` excludes it.) -/
theorem C15_stop_on_failure {Req Resp : Type} (w : World Req Resp) (source : Val) (sc : Scenario ReqDef)
    (g : GState Req) (b : Bool) (g' : GState Req) (h : shoot w source sc g = some (b, g')) :
    (b = true → ∃ rcs : List (Req × Int), rcs.length = sc.steps.length ∧
        g'.log = g.log ++ okRun (String.ofList sc.name) sc.steps rcs) ∧
    (b = false → ∃ (i : Nat) (hi : i < sc.steps.length) (rcs : List (Req × Int)) (pre : List (Ev Req)),
        rcs.length = i ∧ (pre = [] ∨ ∃ r, pre = [.request r]) ∧
        g'.log = g.log ++ okRun (String.ofList sc.name) (sc.steps.take i) rcs ++ pre ++
          [.sample (failTag (stepTag (String.ofList sc.name) sc.steps[i])) 0 true]) :=
  shootLoop_log w source (String.ofList sc.name) sc.steps [] g b g' h

/-- **what "fails" means**: a step is reported successful exactly when all four of its stages succeed on what the
libraries answer in the state the earlier steps left behind — the preprocessor (`preStage`: e.g. an empty data source or
an unknown path is an error), the templater (`render` on the variable tree `{source, request}` with the step's own
preprocessor variables), the transport (`target` on the history including this request) and every extractor /
assertion in order (`runPosts`); if any of them fails the step is reported failed (`C15_stop_on_failure`: one failed
sample, nothing of any later step). A Go panic inside the step is `none` in the model; `h` excludes it. -/
theorem C15_step_outcome {Req Resp : Type} (w : World Req Resp) (source : Val) (scName : String) (st : Step ReqDef)
    (rv : List (String × Val)) (g : GState Req) (b : Bool) (rv' : List (String × Val)) (g' : GState Req)
    (h : shootStep w source scName st rv g = some (b, rv', g')) :
    (b = true ↔ StepSucceeds w source st rv g) :=
  shootStep_outcome w source scName st rv g b rv' g' h

/-- **stops at the FIRST step that fails**: the loop runs the head step; if that step succeeds (`StepSucceeds`) the
outcome of the shot is the outcome of the remaining steps run in the state (variables, iterator, history, log) the
step produced; if it does not, the shot is over — failed — in the state that step produced, and the remaining steps
are not touched. -/
theorem C15_stop_first_failure {Req Resp : Type} (w : World Req Resp) (source : Val) (scName : String)
    (st : Step ReqDef) (rest : List (Step ReqDef)) (rv : List (String × Val)) (g : GState Req) (b : Bool)
    (g' : GState Req) (h : shootLoop w source scName (st :: rest) rv g = some (b, g')) :
    (StepSucceeds w source st rv g →
      ∃ rv1 g1, shootStep w source scName st rv g = some (true, rv1, g1) ∧
        shootLoop w source scName rest rv1 g1 = some (b, g')) ∧
    (¬ StepSucceeds w source st rv g →
      b = false ∧ ∃ rv1, shootStep w source scName st rv g = some (false, rv1, g')) := by
  rcases shootLoop_step w source scName st rest rv g b g' h with ⟨rfl, rv1, hstep⟩ | ⟨rv1, g1, hstep, h⟩
  · have := shootStep_outcome w source scName st rv g false rv1 g' hstep
    exact ⟨fun hs => absurd (this.mpr hs) nofun, fun _ => ⟨rfl, rv1, hstep⟩⟩
  · have := shootStep_outcome w source scName st rv g true rv1 g1 hstep
    exact ⟨fun _ => ⟨rv1, g1, hstep, h⟩, fun hn => absurd (this.mp rfl) hn⟩

/-- **the judge of the correspondence run holds of the model** (stop on failure / order / multiplicity as `./check`
judges them on what the REAL gun did): seen from outside — the target logs the name of every request it receives (`nm`;
every request rendered from a definition `d` is recognisably a request `d.name`: `Named`), the aggregator logs every
sample — the events a shot adds are accepted by the executable predicate `Spec.C15.shotVerdict` for the step-name list
of the scenario: the i-th sample belongs to the i-th listed step, requests follow the listed order, a failed sample is
the last event, without a failure every step was executed, and there is at most one request without sample. -/
theorem C15_shot_verdict {Req Resp : Type} (w : World Req Resp) (nm : Req → String) (hnm : Named w nm) (source : Val)
    (sc : Scenario ReqDef) (g : GState Req) (b : Bool) (g' : GState Req) (h : shoot w source sc g = some (b, g')) :
    ∃ evs, obsLog nm g'.log = obsLog nm g.log ++ evs ∧
      shotVerdict (String.ofList sc.name) (sc.steps.map (·.req.name)) evs = "ok" := by
  obtain ⟨evs, he, hs⟩ := shootLoop_shape w nm hnm source (String.ofList sc.name) sc.steps [] g b g' h
  exact ⟨evs, he, verdict_of_shape hs⟩

/-- the same with the expected step names computed the way the driver computes them — from the MEANING of the
request list (`specSteps`), not from the decoder's output: for a scenario of an accepted description whose registry
stores every request under its own name, every shot of the decoded scenario is accepted by `shotVerdict`. -/
theorem C15_shot_verdict_listed {Req Resp : Type} (reqs : List Char → Option ReqDef)
    (hreg : ∀ n d, reqs n = some d → d.name = String.ofList n) (sc : ScenarioCfg) (steps : List (Step ReqDef))
    (hx : expand reqs sc.requests [] = .ok steps)
    (w : World Req Resp) (nm : Req → String) (hnm : Named w nm) (source : Val)
    (g : GState Req) (b : Bool) (g' : GState Req)
    (h : shoot w source { name := sc.name, minWaitingTime := sc.minWaitingTime, steps } g = some (b, g')) :
    ∃ items psteps evs, parseAll sc.requests = some items ∧ specSteps items = some psteps ∧
      obsLog nm g'.log = obsLog nm g.log ++ evs ∧
      shotVerdict (String.ofList sc.name) (psteps.map fun p => String.ofList p.1) evs = "ok" := by
  obtain ⟨items, hp, hspec, _, hreq⟩ := C15_order_mult reqs sc.requests steps hx
  obtain ⟨evs, he, hv⟩ := C15_shot_verdict w nm hnm source _ g b g' h
  refine ⟨items, steps.map proj, evs, hp, hspec, he, ?_⟩
  have e : (steps.map proj).map (fun p => String.ofList p.1) = steps.map (·.req.name) := by
    rw [List.map_map]
    apply List.map_congr_left
    intro st hst
    simp only [Function.comp, proj]
    exact (hreg _ _ (hreq st hst)).symm
  rw [e]
  exact hv

/-! ## what "a failed assertion" and "a captured header value" are (pandora's own postprocessors) -/

/-- **a failed assertion**: `assert/response` lets the step go on exactly when every configured body text occurs in the
response body, every configured header text occurs in the value of its header, the status code is the configured
one (0 = not configured) and the body length satisfies the configured size relation (`eq`/`=`: equal, `lt`/`<`: at most
`val`, `gt`/`>`: at least `val`; an unknown operator fails) — measured on the body that was received, also when no body
text is configured (repair e0ff541). In every other case the step fails (`C15_step_outcome`: `runPosts` = `none`). -/
theorem C15_assert_outcome (a : AssertCfg) (r : RespView) :
    assertResponse a r = true ↔
      (∀ p ∈ a.body, isSub p r.body = true) ∧
      (∀ kv ∈ a.headers, isSub kv.2 (r.header kv.1) = true) ∧
      (a.status = 0 ∨ a.status = r.status) ∧
      (∀ s, a.size = some s → sizeHolds s.op s.val r.body.length) := by
  unfold assertResponse
  by_cases hr : readsBody a = true
  · simp only [hr, if_true, Bool.and_eq_true, List.all_eq_true, Bool.or_eq_true, beq_iff_eq]
    constructor
    · rintro ⟨⟨⟨hb, hh⟩, hs⟩, hz⟩
      refine ⟨hb, fun kv hkv => hh kv hkv, hs, ?_⟩
      intro s hsz
      rw [hsz] at hz
      exact (sizeFails_iff _ _ _).mp (by simpa using hz)
    · rintro ⟨hb, hh, hs, hz⟩
      refine ⟨⟨⟨hb, fun kv hkv => hh kv hkv⟩, hs⟩, ?_⟩
      cases hsz : a.size with
      | none => rfl
      | some s => simpa using (sizeFails_iff _ _ _).mpr (hz s hsz)
  · have hb : a.body = [] := by
      unfold readsBody at hr
      cases hbody : a.body with
      | nil => rfl
      | cons x xs => simp [hbody] at hr
    have hz : a.size = none := by
      unfold readsBody at hr
      cases hsz : a.size with
      | none => rfl
      | some s => simp [hsz] at hr
    simp [hr, hb, hz]

/-- the `substr(start, end)` modifier of `var/header` never slices out of range (no panic inside a postprocessor),
whatever the arguments (negative = from the end) and the length of the header value -/
theorem C15_substr_in_range (start stop l : Int) (hl : 0 ≤ l) :
    0 ≤ (substrBounds start stop l).1 ∧ (substrBounds start stop l).1 ≤ (substrBounds start stop l).2 ∧
      (substrBounds start stop l).2 ≤ l :=
  swap_range (clamp_range _ l hl) (clamp_range _ l hl)

/-! ## variable flow -/

/-- **variable flow**: the shot appends one record per step whose preprocessor ran (`R`: name, preprocessor
variables, postprocessor variables once the step succeeded), the records follow the step list, every record but the
last belongs to a step that succeeded, and the variable tree handed to the templater of the k-th of these steps is
`{source: <data sources>, request: M}` with `M` = the records of the steps before it, plus the step's own entry
holding only its preprocessor variables (`expSeen`; `C15_var_visible` spells out `M`). -/
theorem C15_var_flow {Req Resp : Type} (w : World Req Resp) (source : Val) (sc : Scenario ReqDef)
    (g : GState Req) (b : Bool) (g' : GState Req) (h : shoot w source sc g = some (b, g')) :
    ∃ R : List StepRec, g'.recs = g.recs ++ R ∧ g'.seen = g.seen ++ expSeen source [] R ∧
      R.map (·.name) = (sc.steps.take R.length).map (·.req.name) ∧
      (∀ r ∈ R.dropLast, r.post.isSome) ∧
      (b = true → R.length = sc.steps.length ∧ ∀ r ∈ R, r.post.isSome) :=
  shootLoop_ghost w source (String.ofList sc.name) sc.steps [] g b g' [] h rfl

/-- what a template sees when the steps `done` have been executed and step `r` has run its preprocessor:
`.source` is the data sources; `.request.<n>` is, for the step's own name, `{preprocessor: …}` only (values of an
earlier execution of the same request are gone), for any other name the record of the LAST executed step of that name
(`{preprocessor: …, postprocessor: …}`), and absent when no such step has been executed — nothing else is visible. -/
theorem C15_var_visible (source : Val) (done : List StepRec) (r : StepRec) (n : String) :
    ∃ M, tree source (setKey r.name (preOnly r.pre) (rvOf done)) = [("source", source), ("request", .map M)] ∧
      getKey n M = if r.name == n then some (preOnly r.pre) else (lastRec n done).map recVal := by
  refine ⟨_, rfl, ?_⟩
  by_cases h : r.name == n
  · have e : r.name = n := by simpa using h
    subst e
    simp [getKey_setKey_same]
  · have hf : (r.name == n) = false := by simpa using h
    rw [hf, getKey_setKey_other r.name n _ hf, getKey_rvOf]
    rfl

/-! ## weights -/

/-- **GCD**: the subtraction-free loop of `lib/math.GCD` terminates and computes the greatest common divisor -/
theorem C15_gcd (a b : Nat) (ha : 0 < a) (hb : 0 < b) : GCD (a : Int) (b : Int) = some ((Nat.gcd a b : Nat) : Int) :=
  GCD_nat a b ha hb

/-- `GCDM` of at least two positive weights is the gcd of all of them (three and more included) -/
theorem C15_gcdm (ws : List Nat) (hp : ∀ w ∈ ws, 0 < w) (h2 : 2 ≤ ws.length) :
    GCDM (ws.map fun (w : Nat) => (w : Int)) = some ((gcdList ws : Nat) : Int) :=
  GCDM_nat ws hp h2

/-- **weights**: for pairwise different scenario names and non-negative weights, whenever `decodeAmmo` succeeds
* the ring (one pass of the provider) lists the scenarios in the given order, scenario `sc` standing
  `w_sc / gcd(w)` times in a row, each copy being the decoded form of `sc` (its expanded request list);
* so scenario `sc` occurs `w_sc / gcd(w) > 0` times per pass, and for any two scenarios
  `cnt_i · w_j = cnt_j · w_i`;
* the k-th delivered ammo is `ring[k mod |ring|]` (every pass is the same).
`w` = effective weight (`effW`): absent / 0 counts as 1, a single scenario counts once. -/
theorem C15_weights {ρ} (reqs : List Char → Option ρ) (scs : List ScenarioCfg) (ring : List (Scenario ρ))
    (hnd : (scs.map (·.name)).Nodup) (hw : ∀ sc ∈ scs, 0 ≤ sc.weight)
    (h : decodeAmmo reqs scs = .ok ring) :
    let w := effW scs.length
    let g := gcdList (scs.map w)
    ring = scs.flatMap (fun sc => List.replicate (w sc / g) (scenarioOf reqs sc)) ∧
    (∀ sc ∈ scs, expand reqs sc.requests [] = .ok (scenarioOf reqs sc).steps) ∧
    (∀ sc ∈ scs, ring.countP (·.name == sc.name) = w sc / g ∧ 0 < w sc / g) ∧
    (∀ si ∈ scs, ∀ sj ∈ scs,
      ring.countP (·.name == si.name) * w sj = ring.countP (·.name == sj.name) * w si) ∧
    (∀ k, deliver ring k = if ring.length = 0 then none else ring[k % ring.length]?) := by
  intro w g
  obtain ⟨hall, hring, _⟩ := decodeAmmo_ring reqs scs ring hnd hw h
  have hcount : ∀ sc ∈ scs, ring.countP (·.name == sc.name) = w sc / g := by
    intro sc hsc
    rw [hring]
    exact countP_name (scenarioOf reqs) (fun sc => w sc / g) (fun _ => rfl) scs hnd sc hsc
  have hdvd : ∀ sc ∈ scs, g ∣ w sc := fun sc hsc => gcdList_dvd _ _ (List.mem_map.mpr ⟨sc, hsc, rfl⟩)
  refine ⟨hring, ?_, ?_, ?_, ?_⟩
  · intro sc hsc
    obtain ⟨s, hs⟩ := hall sc hsc
    simp [scenarioOf, hs]
  · intro sc hsc
    refine ⟨hcount sc hsc, ?_⟩
    have hpos : 0 < w sc := effW_pos _ sc (hw sc hsc)
    have hgpos : 0 < g := Nat.pos_of_dvd_of_pos (hdvd sc hsc) hpos
    exact Nat.div_pos (Nat.le_of_dvd hpos (hdvd sc hsc)) hgpos
  · intro si hsi sj hsj
    rw [hcount si hsi, hcount sj hsj]
    exact cross_mul g (w si) (w sj) (hdvd si hsi) (hdvd sj hsj)
  · intro k
    unfold deliver
    by_cases h0 : ring.length = 0 <;> simp [h0]

/-- **the judge of the correspondence run holds of the model**: whatever number `n` of ammo is taken from the provider,
the delivered scenario names satisfy the executable predicate `Spec.C15.ringOK` that `./check` applies to the
deliveries of the REAL provider — every complete pass of Σ w_i/gcd(w) deliveries contains scenario i exactly
`w_i/gcd(w)` times, and the counts over every whole number of passes are cross-multiplied proportional to the weights. -/
theorem C15_ring_spec {ρ} (reqs : List Char → Option ρ) (scs : List ScenarioCfg) (ring : List (Scenario ρ))
    (hnd : (scs.map (·.name)).Nodup) (hw : ∀ sc ∈ scs, 0 ≤ sc.weight)
    (h : decodeAmmo reqs scs = .ok ring) (n : Nat) :
    ringOK (scs.map (·.name)) (scs.map (·.weight))
      (((List.range n).filterMap (deliver ring)).map (·.name)) = true := by
  obtain ⟨_, hring, _⟩ := decodeAmmo_ring reqs scs ring hnd hw h
  have e : ((List.range n).filterMap (deliver ring)).map (·.name) =
      cycle (ringNames (fun sc => effW scs.length sc / gcdList (scs.map (effW scs.length))) scs) n := by
    show (cycle ring n).map (·.name) = _
    rw [cycle_map, hring]
    rw [ring_names_eq (scenarioOf reqs) (fun _ => rfl)]
  rw [e]
  exact ringOK_cycle scs hnd hw n

/-- **from the description to the wire** (the first sentence of the property in one statement): for a scenario `sc` of
an accepted description, every copy of it in the ring carries the step list its request list MEANS
(`specSteps`: order, multiplicities, pauses), and a shot of it that does not fail appends to the log exactly one
request, one successful sample and the pause for each of these steps, in this order — nothing else. -/
theorem C15_shot_executes_listed {Req Resp : Type} (reqs : List Char → Option ReqDef) (scs : List ScenarioCfg)
    (ring : List (Scenario ReqDef)) (hnd : (scs.map (·.name)).Nodup) (hw : ∀ sc ∈ scs, 0 ≤ sc.weight)
    (hd : decodeAmmo reqs scs = .ok ring) (sc : ScenarioCfg) (hsc : sc ∈ scs)
    (w : World Req Resp) (source : Val) (g g' : GState Req)
    (h : shoot w source (scenarioOf reqs sc) g = some (true, g')) :
    ∃ items, parseAll sc.requests = some items ∧
      specSteps items = some ((scenarioOf reqs sc).steps.map proj) ∧
      (scenarioOf reqs sc).steps.map (·.name) = specNames items ∧
      ∃ rcs : List (Req × Int), rcs.length = (specNames items).length ∧
        g'.log = g.log ++ okRun (String.ofList sc.name) (scenarioOf reqs sc).steps rcs := by
  obtain ⟨_, hexp, _, _, _⟩ := C15_weights reqs scs ring hnd hw hd
  obtain ⟨items, hp, hspec, hnames, _⟩ := C15_order_mult reqs sc.requests _ (hexp sc hsc)
  obtain ⟨hok, _⟩ := C15_stop_on_failure w source (scenarioOf reqs sc) g true g' h
  obtain ⟨rcs, hlen, hlog⟩ := hok rfl
  refine ⟨items, hp, hspec, hnames, rcs, ?_, hlog⟩
  rw [hlen, ← hnames, List.length_map]

/-- a negative weight is refused with an error before anything else (the hypothesis `0 ≤ weight` of `C15_weights`
is exactly the accepted range; `SpreadNames` never sees a negative weight, so its division and `make` cannot panic) -/
theorem C15_negative_weight_refused {ρ} (reqs : List Char → Option ρ) (scs : List ScenarioCfg)
    (h : ∃ sc ∈ scs, sc.weight < 0) : decodeAmmo reqs scs = .err "negweight" := by
  obtain ⟨sc, hsc, hlt⟩ := h
  have : (scs.any fun sc => decide (sc.weight < 0)) = true := List.any_eq_true.mpr ⟨sc, hsc, by simpa using hlt⟩
  unfold decodeAmmo
  rw [this]
  rfl

/-- the effective weights used above are the ones of the executable Spec (`ringOK`) -/
theorem C15_weights_spec (scs : List ScenarioCfg) :
    effWeights (scs.map (·.weight)) = scs.map (effW scs.length) := effWeights_eq scs

/-! ## `[next]`: round robin over all instances -/

/-- the atomic counter step of the sequential model (what one instance alone does) is the read-then-write of the
small-step system -/
theorem C15_next_atomic (gs : List (CKey × Nat)) (key : CKey) :
    Iter.bump gs key = gsWrite gs key (gsRead gs key) := by
  unfold Iter.bump gsRead gsWrite
  cases h : gs.find? (·.1 == key) with
  | none => rfl
  | some e => obtain ⟨k, c⟩ := e; rfl

/-- **round robin**: for any number of threads running any (adaptive) programs over one shared iterator and for EVERY
schedule of the small steps Lock / map read / insert-or-Add / Unlock-and-return:
* the k-th call on a counter to return (k = 0, 1, 2, … over all threads together) returns k, hence — over a data
  source of `L > 0` rows — selects row `k mod L`;
* each thread received exactly the values the global order attributes to it;
* at every moment at most the mutex holder is between Lock and Unlock. -/
theorem C15_next_round_robin (prog : NProg) (sched : List Nat) (key : CKey) (L : Nat) (_hL : 0 < L) :
    let s := NSys.init.run prog sched
    (∀ k (hk : k < (s.vals key).length), (s.vals key)[k] = k ∧ rowOf L (s.vals key)[k] = k % L) ∧
    (∀ t, s.got t = s.valsOf t) ∧
    (∀ t, s.pcs t ≠ .idle → s.holder = some t) := by
  intro s
  have inv : NInv s := NInv_run prog sched _ NInv_init
  refine ⟨fun k hk => ?_, inv.gotOK, inv.excl⟩
  have e := getElem_of_eq_range (l := s.vals key) (inv.seq key) k hk
  exact ⟨e, by rw [e, rowOf_eq]⟩

/-- the executable judge of the correspondence run (`Spec.C15.roundRobinOK`: as a multiset the rows are
`{k mod L | k < n}`) holds of the rows selected under every schedule -/
theorem C15_next_spec (prog : NProg) (sched : List Nat) (key : CKey) (L : Nat) (hL : 0 < L) :
    roundRobinOK L (((NSys.init.run prog sched).vals key).map (rowOf L)) = true := by
  have inv : NInv (NSys.init.run prog sched) := NInv_run prog sched _ NInv_init
  rw [show (NSys.init.run prog sched).vals key = _ from inv.seq key, funext (rowOf_eq L)]
  exact roundRobinOK_range L _ hL

/-- `calcIndex` of a `[next]` segment over a non-empty source is `rowOf` of the value drawn from the iterator -/
theorem C15_next_row (seg : String) (L id : Nat) (it : Iter) (hL : 0 < L) :
    calcIndex "next" seg L id it = .ok (rowOf L (it.next id seg).1, (it.next id seg).2) := by
  have h1 : ("next" == "last") = false := by decide
  have h2 : ("next" == "rand") = false := by decide
  have h3 : ("next" == "next") = true := by decide
  have hL' : (L == 0) = false := by simpa using Nat.ne_of_gt hL
  unfold calcIndex rowOf
  simp only [h1, h2, h3, hL', Bool.or_true, Bool.not_true, Bool.and_false, Bool.false_eq_true, if_false, if_true]
  split <;> rfl

/-- indexing into an empty data source is an error of the step (repair d4ccb1f), never a panic -/
theorem C15_empty_source_is_error (indexStr seg : String) (id : Nat) (it : Iter) :
    ∃ e, calcIndex indexStr seg 0 id it = .err e := by
  -- the two guards that stand in front of every branch: not an index at all, or nothing to index
  cases h : (atoi indexStr.toList).isNone && !(indexStr == "last" || indexStr == "rand" || indexStr == "next")
  · exact ⟨"empty", by simp only [calcIndex, h]; rfl⟩
  · exact ⟨"bad-index", by simp only [calcIndex, h]; rfl⟩

/-! ## `[next]` at the level of the code of `NextIterator.Next` (regenerated from the source on every run) -/

/-- **round robin, for the code as it is**: `Gen.C15Scen.nextCode` is the instruction list /verif/gen extracts from
`(*NextIterator).Next` (lock, map lookup, `if !ok` {insert a fresh counter, return 0}, atomic add, return; the deferred
`Unlock` before each return). Executed by any number of threads running any (adaptive) programs on one shared
iterator, one instruction at a time under EVERY schedule (a thread whose next instruction is `lock` while the mutex
is taken does not move):
* the k-th value DECIDED for a counter (k = 0, 1, 2, … over all threads together) is k, hence selects row `k mod L`
  of a data source of `L > 0` rows;
* what a thread has received plus the value it is about to return is exactly what this order attributes to it, and
  once it is outside `Next` it has received exactly those values;
* at most one thread is between its `lock` and its `unlock`;
* no Unlock of an unlocked mutex and no `Add` through a nil counter happens. -/
theorem C15_next_code_round_robin (prog : NProg) (sched : List Nat) (key : CKey) (L : Nat) (_hL : 0 < L) :
    let s := LSys.init.run Gen.C15Scen.nextCode prog sched
    (∀ k (hk : k < (s.vals key).length), (s.vals key)[k] = k ∧ rowOf L (s.vals key)[k] = k % L) ∧
    (∀ t, s.got t ++ s.pend t = s.valsOf t) ∧
    (∀ t, s.pcs t = none → s.got t = s.valsOf t) ∧
    (∀ t t' f f', s.pcs t = some f → s.pcs t' = some f' → inCrit f.ops = true → inCrit f'.ops = true → t = t') ∧
    s.fault = false := by
  rw [Bridge.C15Scen.nextCode_eq]
  intro s
  have inv : LInv s := LInv_run prog sched _ LInv_init
  refine ⟨?_, inv.gotOK, ?_, ?_, inv.noFault⟩
  · intro k hk
    have e := getElem_of_eq_range (l := s.vals key) (inv.seq key) k hk
    exact ⟨e, by rw [e, rowOf_eq]⟩
  · intro t ht
    have := inv.gotOK t
    rw [pend_eq, ht] at this
    simpa [optPend, LSys.valsOf] using this
  · intro t t' f f' hf hf' hc hc'
    have h1 := inv.excl t f hf hc
    have h2 := inv.excl t' f' hf' hc'
    rw [h1] at h2
    exact Option.some.inj h2

/-- the executable judge of the correspondence run holds of the rows the code selects under every schedule -/
theorem C15_next_code_spec (prog : NProg) (sched : List Nat) (key : CKey) (L : Nat) (hL : 0 < L) :
    roundRobinOK L (((LSys.init.run Gen.C15Scen.nextCode prog sched).vals key).map (rowOf L)) = true := by
  rw [Bridge.C15Scen.nextCode_eq]
  have inv : LInv (LSys.init.run nextCode prog sched) := LInv_run prog sched _ LInv_init
  rw [show (LSys.init.run nextCode prog sched).vals key = _ from inv.seq key, funext (rowOf_eq L)]
  exact roundRobinOK_range L _ hL

/-- what `calcIndex` does with the value `iter.Next` returns (regenerated) is `rowOf` -/
theorem C15_next_index_source (i L : Nat) : Gen.C15Scen.nextIndex (i : Int) (L : Int) = ((rowOf L i : Nat) : Int) :=
  Bridge.C15Scen.nextIndex_eq i L

/-! ## weights, for the code as it is -/

/-- `lib/math.GCD` as regenerated from the source computes the greatest common divisor -/
theorem C15_gcd_source (a b : Nat) (ha : 0 < a) (hb : 0 < b) :
    Gen.C15Scen.GCD (a : Int) (b : Int) = some ((Nat.gcd a b : Nat) : Int) := by
  rw [Bridge.C15Scen.GCD_eq]; exact GCD_nat a b ha hb

/-- `lib/math.GCDM` as regenerated from the source (recursion over every prefix of the weight slice, indexing
`weights[l-2]`, `weights[l-1]`, `weights[:l-1]` — none of which is out of range) is the gcd of ALL the weights -/
theorem C15_gcdm_source (ws : List Nat) (hp : ∀ w ∈ ws, 0 < w) (h2 : 2 ≤ ws.length) :
    Gen.C15Scen.GCDM (ws.map fun (w : Nat) => (w : Int)) = some ((gcdList ws : Nat) : Int) := by
  rw [Bridge.C15Scen.GCDM_eq]; exact GCDM_nat ws hp h2

/-- `SpreadNames` of the model (about which `C15_weights` speaks) computes with the arithmetic regenerated from
`config.SpreadNames`: the early returns for no / one scenario, absent weight = 1, the divisor `GCDM(weights…)`, the
count `weight / div` per scenario and the running total -/
theorem C15_spread_source (scs : List ScenarioCfg) :
    spreadNames scs =
      match scs with
      | [] => .ok ([], Gen.C15Scen.spreadEmpty)
      | [s] => .ok ([(s.name, Gen.C15Scen.spreadSingle.1)], Gen.C15Scen.spreadSingle.2)
      | _ =>
        let ws := scs.map fun s => Gen.C15Scen.spreadEffWeight s.weight
        match Gen.C15Scen.spreadDiv ws with
        | none => .panic "gcd-fuel"
        | some div =>
          if div == 0 then .panic "div0" else
          let cnts := ws.map fun w => Gen.C15Scen.spreadCnt w div
          .ok ((scs.map (·.name)).zip cnts, cnts.foldl Gen.C15Scen.spreadTotalStep 0) :=
  Bridge.C15Scen.spreadNames_eq scs

/-- the failed sample of `C15_stop_on_failure`, with the constants regenerated from `gun.go` (`EmptyTag`, the `.` of
`tag := ammo.Name + "." + req.Name`, `reportErr`: `SetProtoCode(0)`, `AddTag(EmptyTag)`, `SetErr`, `Report`) and from
`netsample.Sample.AddTag` (the `|`) -/
theorem C15_failed_sample_source {Req : Type} (scName : String) (st : Step ReqDef) :
    (Ev.sample (failTag (stepTag scName st)) 0 true : Ev Req) =
      .sample (scName ++ Gen.C15Scen.stepTagSep ++ st.req.name ++ Gen.C15Scen.tagSep ++ Gen.C15Scen.emptyTag)
        Gen.C15Scen.failCode Gen.C15Scen.failTagged :=
  Bridge.C15Scen.failed_sample_eq scName st.req.name

/-- the weights `decodeAmmo` refuses (regenerated condition) are the negative ones of `C15_negative_weight_refused` -/
theorem C15_refused_source (w : Int) : Gen.C15Scen.weightRefused w ↔ w < 0 := Iff.rfl

/-! ## the step loop, the decoder and pandora's own postprocessors — for the code as it is (area `c15flow`) -/

/-- **`shootStep` / `shoot` as regenerated**: `Gen.C15Flow.stepCode` is the instruction list /verif/gen extracts from
`shootStep` (initVars, preprocessor + check + store, template + check, prepareRequest + check, send + check, read body +
check, the postprocessor loop [call, check, merge, rewind, check], store, set code, report, pause) and
`Gen.C15Flow.onStepErr` the error branch of the loop of `shoot` (reportErr, return). Interpreted literally — a
fallible statement only ASSIGNS `err`, only a check looks at it — on any `World`, they compute exactly the model's
`shoot`, about which the stop-on-failure / variable-flow theorems above speak. -/
theorem C15_shoot_code_source {Req Resp : Type} (w : World Req Resp) (source : Val) (sc : Scenario ReqDef) (g : GState Req) :
    runShootCode w source (String.ofList sc.name) Gen.C15Flow.stepCode Gen.C15Flow.onStepErr sc.steps [] g true =
      shoot w source sc g := by
  rw [Bridge.C15Flow.stepCode_eq, Bridge.C15Flow.onStepErr_eq]
  exact runShootCode_eq w source (String.ofList sc.name) sc.steps [] g

/-- hence the regenerated code, interpreted, passes the executable judge of the correspondence run on every `World` -/
theorem C15_shoot_code_verdict {Req Resp : Type} (w : World Req Resp) (nm : Req → String) (hnm : Named w nm) (source : Val)
    (sc : Scenario ReqDef) (g : GState Req) (b : Bool) (g' : GState Req)
    (h : runShootCode w source (String.ofList sc.name) Gen.C15Flow.stepCode Gen.C15Flow.onStepErr sc.steps [] g true =
      some (b, g')) :
    ∃ evs, obsLog nm g'.log = obsLog nm g.log ++ evs ∧
      shotVerdict (String.ofList sc.name) (sc.steps.map (·.req.name)) evs = "ok" := by
  rw [C15_shoot_code_source] at h
  exact C15_shot_verdict w nm hnm source sc g b g' h

/-- `requestVars` is created once per shot, before the loop (regenerated), and the mapping loop of
`Preprocessor.Process` resolves an entry, returns on its error, stores it — in this order -/
theorem C15_vars_per_shot_source : Gen.C15Flow.requestVarsPerShot = true ∧
    Gen.C15Flow.preLoopCode = ["resolve", "chk", "store"] :=
  ⟨Bridge.C15Flow.requestVarsPerShot_eq, Bridge.C15Flow.preLoopCode_eq⟩

/-- **`ParseShootName` and the loop body of `convertScenarioToAmmo` as regenerated** (defaults `cnt = 1`, `sleep = 0`, the
guards `len(args) > k && args[k] != ""`, the argument positions, the order of the results; the `sleep` branch with its
refusal of an empty step list and `Requests[len-1].Sleep +=`, the lookup, `if sleep > 0 { r.Sleep += … }`, the copy loop
`for i := 0; i < cnt; i++`; durations in ms) are the model's `parseShootName` and `expandItem`: the decoder the
order / multiplicity theorems speak about is the loop over the regenerated body. -/
theorem C15_expand_source {ρ} (reqs : List Char → Option ρ) (sh : List Char) (rest : List (List Char)) (acc : List (Step ρ)) :
    (Gen.C15Flow.convShoot atoi reqs sh acc =
      match parseShootName sh with
      | .error _ => .err "parse"
      | .ok it => expandItem reqs acc it) ∧
    expand reqs (sh :: rest) acc =
      match Gen.C15Flow.convShoot atoi reqs sh acc with
      | .ok acc' => expand reqs rest acc'
      | .err e => .err e
      | .panic p => .panic p :=
  ⟨Bridge.C15Flow.convShoot_eq reqs sh acc, Bridge.C15Flow.expand_gen reqs sh rest acc⟩

/-- `decodeAmmo` appends a scenario to the ring as often as `SpreadNames` counted it (regenerated copy loop) -/
theorem C15_ring_copies_source (ns : Int) : (Gen.C15Flow.ringCopies ns).toNat = ns.toNat :=
  Bridge.C15Flow.ringCopies_eq ns

/-- **indexing as regenerated from `calcIndex`**: over a non-empty list a numeric index — any integer — selects an
existing row (the regenerated arithmetic stays in `[0, L)`), and that row is what the model's `calcIndex` returns;
`[last]` is row `L - 1`; an empty list is refused (the regenerated guard) -/
theorem C15_index_source (i : Int) (L : Nat) (hL : 0 < L) :
    (0 ≤ Gen.C15Flow.idxNumeric i L ∧ Gen.C15Flow.idxNumeric i L < L) ∧
    (∀ (indexStr seg : String) (id : Nat) (it : Iter), atoi indexStr.toList = some i → indexStr ≠ "last" →
      indexStr ≠ "rand" → indexStr ≠ "next" →
      calcIndex indexStr seg L id it = .ok ((Gen.C15Flow.idxNumeric i L).toNat, it)) ∧
    Gen.C15Flow.idxLast (L : Int) = ((L - 1 : Nat) : Int) ∧
    (Gen.C15Flow.idxEmptyRefused ((0 : Nat) : Int) ∧ ¬ Gen.C15Flow.idxEmptyRefused (L : Int)) := by
  refine ⟨Bridge.C15Flow.idxNumeric_range i L hL, ?_, Bridge.C15Flow.idxLast_eq L hL, ?_, ?_⟩
  · intro indexStr seg id it hi h1 h2 h3
    exact Bridge.C15Flow.calcIndex_numeric indexStr seg L id it i hL hi h1 h2 h3
  · exact (Bridge.C15Flow.idxEmptyRefused_iff 0).mpr rfl
  · intro c
    have := (Bridge.C15Flow.idxEmptyRefused_iff L).mp c
    omega

/-- **assert/response as regenerated**: the size table, the status condition, the set of checks and WHEN the body is read
(`len(a.Body) > 0 || a.Size != nil`: the repaired condition) are the ones of the model of `C15_assert_outcome` -/
theorem C15_assert_source (a : AssertCfg) (op : String) (val len want got : Int) :
    Gen.C15Flow.assertSizeFails op val len = sizeFails op val len ∧
    (Gen.C15Flow.assertReadsBody (a.body.length : Int) (a.size.isSome = true) ↔ readsBody a = true) ∧
    (¬ Gen.C15Flow.assertStatusFails want got ↔ (want = 0 ∨ want = got)) ∧
    Gen.C15Flow.assertChecks = ["body", "headers", "status", "size"] :=
  ⟨Bridge.C15Flow.assertSizeFails_eq op val len, Bridge.C15Flow.assertReadsBody_iff a,
   Bridge.C15Flow.assertStatusFails_iff want got, Bridge.C15Flow.assertChecks_eq⟩

/-- the index arithmetic of the `substr` modifier as regenerated from `var_header.go` is the model's, hence in range -/
theorem C15_substr_source (start stop l : Int) (hl : 0 ≤ l) :
    Gen.C15Flow.substrBounds start stop l = substrBounds start stop l ∧
    0 ≤ (Gen.C15Flow.substrBounds start stop l).1 ∧
    (Gen.C15Flow.substrBounds start stop l).1 ≤ (Gen.C15Flow.substrBounds start stop l).2 ∧
    (Gen.C15Flow.substrBounds start stop l).2 ≤ l := by
  rw [Bridge.C15Flow.substrBounds_eq]
  exact ⟨rfl, C15_substr_in_range start stop l hl⟩

/-! ## the path walk of `GetMapValue`, `calcIndex`'s dispatch, template functions, the provider's feed -/

/-- **the segment loop of `mp.GetMapValue` as regenerated from the source** (trim, key builder `'.' + segment`, the
bracket test, index text = lower-cased trimmed text between the first `[` and the final `]`, field name = text before
the first `[`, lookup, `extractFromSlice` keyed by the WHOLE path so far, descent / last-segment rule), run statement by
statement with Go's variables explicit, computes exactly the model's `walk` — for every path, variable tree and
iterator state; the path is split at `.` after one leading `.` was dropped. -/
theorem C15_walk_code_source (id : Nat) (segs : List String) (cur : List (String × Val)) (key : String) (it : Iter) :
    walkBy Gen.C15Walk.walkCode id segs cur key it = some (walk id segs cur key it) ∧
    Gen.C15Walk.walkSplit = (".", ".") :=
  ⟨Bridge.C15Walk.walk_gen id segs cur key it, Bridge.C15Walk.walkSplit_eq⟩

/-- the two slice expressions of the indexed branch (`segment[open+1 : len-1]`, `segment[:open]`) are in range whenever
the branch is taken (the segment contains `[` and ends in `]`): the path walk cannot panic with "slice bounds out of range" -/
theorem C15_walk_slices_in_range (seg : List Char) (h : (seg.contains '[' && seg.getLast? == some ']') = true) :
    (goSlice seg (indexOfC '[' seg + 1) ((seg.length : Int) - 1)).isSome = true ∧
    (goSlice seg 0 (indexOfC '[' seg)).isSome = true := by
  simp only [Bool.and_eq_true, beq_iff_eq] at h
  obtain ⟨hc, hl⟩ := h
  have := takeWhile_lt '[' ']' (by decide) seg hc hl
  unfold goSlice indexOfC
  simp only [hc, if_true]
  constructor
  · rw [if_pos]; rfl
    omega
  · rw [if_pos]; rfl
    omega

/-- **`calcIndex` as regenerated**: the guards and keyword branches in source order (Atoi; refuse a non-number that is
no keyword; refuse an empty list; numeric branch; `last`; `rand`; `next`) compute exactly the model's `calcIndex` — in
particular the empty-list guard precedes every branch that would compute `length − 1` or a remainder. -/
theorem C15_calc_code_source (indexStr seg : String) (len id : Nat) (it : Iter) :
    runCOps indexStr seg len id Gen.C15Walk.calcCode none it = some (outInt (calcIndex indexStr seg len id it)) :=
  Bridge.C15Walk.calcIndex_gen indexStr seg len id it

/-- every list type `extractFromSlice` accepts has its case in the type switch (each returning row `index`) -/
theorem C15_extract_total_source : Gen.C15Walk.extractCases = Gen.C15Walk.extractValid := Bridge.C15Walk.extract_total

/-- **one entry of a preprocessor mapping, as regenerated** (`Preprocessor.Process`, `templater.ParseFunc` / `parseStr` /
`GetFuncs`, `ExecTemplateFuncWithVariables`): a value whose text before the first `(` is exactly one of the regenerated
function names is a call of that function with its (trimmed) arguments looked up in the variable tree — a found value is
passed, anything else stays the literal text; every other value is a path resolved by `GetMapValue` -/
theorem C15_pre_entry_source (fn : String → List Val → Option String) (vars : List (String × Val)) (v : String) (id : Nat) (it : Iter) :
    resolveEntryBy Gen.C15Walk.entryCode fn vars v id it = resolveEntry fn vars v id it ∧
    (∀ t, parseStrBy Gen.C15Walk.strFnFacts t = parseStrF t) ∧
    Gen.C15Walk.funcNames = funcNames ∧ Gen.C15Walk.parseFuncExact = true ∧
    (funcNames.contains (String.ofList (parseStrF v.toList).1) = false →
      resolveEntry fn vars v id it = getMapValue vars v id it) ∧
    (funcNames.contains (String.ofList (parseStrF v.toList).1) = true →
      resolveEntry fn vars v id it =
        match fn (String.ofList (parseStrF v.toList).1)
            (resolveArgs vars id ((parseStrF v.toList).2.map String.ofList) it).1 with
        | some s => .ok (.str s, (resolveArgs vars id ((parseStrF v.toList).2.map String.ofList) it).2)
        | none => .err "template-func") := by
  refine ⟨Bridge.C15Walk.resolveEntry_gen fn vars v id it, Bridge.C15Walk.parseStr_gen, Bridge.C15Walk.funcNames_eq,
    Bridge.C15Walk.parseFuncExact_eq, fun h => ?_, fun h => ?_⟩
  · unfold resolveEntry resolveEntryBy
    simp only [h, Bool.and_false, Bool.false_eq_true, if_false]
  · unfold resolveEntry resolveEntryBy
    simp only [h, entryCode, Bool.and_self, if_true]
    rfl

/-- **the provider's feed with `passes` / `limit`** (`scenario.Provider.Run`; 0 = unlimited): a consumer taking at most
`n` ammo receives exactly the deliveries 0 … m−1 of the endless feed (`ring[k mod |ring|]`), where
`m = min n (passes·|ring|) limit` (a zero option dropped) — whole passes, never more than `limit`; hence the deliveries
satisfy the weight judge `ringOK` like every prefix of the endless feed. -/
theorem C15_feed {ρ} (reqs : List Char → Option ρ) (scs : List ScenarioCfg) (ring : List (Scenario ρ))
    (hnd : (scs.map (·.name)).Nodup) (hw : ∀ sc ∈ scs, 0 ≤ sc.weight)
    (h : decodeAmmo reqs scs = .ok ring) (hne : ring.length ≠ 0) (passes limit n : Nat) :
    feed ring passes limit n = (List.range (feedCount ring.length passes limit n)).filterMap (deliver ring) ∧
    (feed ring passes limit n).length = feedCount ring.length passes limit n ∧
    feedCount ring.length passes limit n ≤ n ∧
    (passes ≠ 0 → feedCount ring.length passes limit n ≤ passes * ring.length) ∧
    (limit ≠ 0 → feedCount ring.length passes limit n ≤ limit) ∧
    ringOK (scs.map (·.name)) (scs.map (·.weight)) ((feed ring passes limit n).map (·.name)) = true := by
  have he := feed_eq ring hne passes limit n
  obtain ⟨hn, hp, hl⟩ := feedCount_le ring.length passes limit n
  refine ⟨he, ?_, hn, hp, hl, ?_⟩
  · rw [he, cycle_length ring (Nat.pos_of_ne_zero hne)]
  · rw [he]; exact C15_ring_spec reqs scs ring hnd hw h _

/-- **the loop of `Provider.Run` as regenerated**: one iteration of the model's feed is the regenerated index / pass
arithmetic and stop conditions, and the statements stand in an order in which the index and the pass number are computed
from the counter before it is incremented, both stop conditions are tested before the increment, and the ammo is picked
before it is sent -/
theorem C15_feed_source {α} (ring : List α) (p l fuel k : Nat) :
    feedLoop ring p l (fuel + 1) k =
      (if Gen.C15Walk.feedPassStop p (Gen.C15Walk.feedPassNum k ring.length) then []
       else if Gen.C15Walk.feedLimitStop l k then []
       else match ring[(Gen.C15Walk.feedIndex k ring.length).toNat]? with
         | some a => a :: feedLoop ring p l fuel (k + 1)
         | none => []) ∧
    Gen.C15Walk.feedFacts.all (·.2) = true :=
  ⟨Bridge.C15Walk.feedLoop_gen ring p l fuel k, Bridge.C15Walk.feedFacts_ok⟩

/-! ## the template cache between the gun and the template library -/

/-- **the templaters' cache is invisible** ("renders URI, headers and body from …" — the request of a step is a function
of its definition and the variables in scope ONLY): `Apply` and `getTemplate` of `TextTemplater` and of `HTMLTemplater`
as regenerated from the source — per part: fetch the template under `templateKey{scenario, step, part[, header name]}`
(cached, else parsed and remembered; nothing is remembered on a parse error), check, execute into the builder, check,
assign, reset; URL, then every header in whatever order the map is visited, then the body when present — run statement
by statement with the builder's buffer and the cache explicit, over an ARBITRARY template library (`parse`, `exec`
which may write partial output before failing) and for EVERY sequence of calls on one templater (any scenarios, steps,
variables, any number of shots and instances one after the other) whose parts are the texts of the request definitions
`defs scenario step`, yield for every call exactly the parts rendered on their own, each from its own text and the
variables of that call: no call sees a template, or a piece of output, of another slot or of an earlier call. -/
theorem C15_template_cache_transparent {τ V : Type} (parse : String → Option τ) (exec : τ → V → String × Bool)
    (defs : String → String → TParts) (calls : List (String × String × TParts × V))
    (hf : ∀ x ∈ calls, Fits defs x.1 x.2.1 x.2.2.1) :
    runApplies Gen.C15Tmpl.applyCodeText Gen.C15Tmpl.getCodeText parse exec id [] calls =
      calls.map (fun x => applyPure parse exec x.2.2.1 x.2.2.2) ∧
    runApplies Gen.C15Tmpl.applyCodeHTML Gen.C15Tmpl.getCodeHTML parse exec id [] calls =
      calls.map (fun x => applyPure parse exec x.2.2.1 x.2.2.2) := by
  refine ⟨Bridge.C15Tmpl.applies_gen parse exec defs calls hf, ?_⟩
  rw [Bridge.C15Tmpl.applyCodeHTML_eq, Bridge.C15Tmpl.getCodeHTML_eq, ← Bridge.C15Tmpl.applyCodeText_eq, ← Bridge.C15Tmpl.getCodeText_eq]
  exact Bridge.C15Tmpl.applies_gen parse exec defs calls hf

/-- **cache keys as regenerated separate the slots**: `templateKey` has the four string fields the call sites fill, the
three `part` constants are pairwise different, every site stores scenario and step, the header site the header name —
so two slots (scenario, step, part, header name) have the same key only if they are the same slot; and the parts handed
to `Apply` are copies of the ammo's (`GetHeaders`, `GetBody` as regenerated from ammo.go). -/
theorem C15_template_key_source (s s' : TSite) (scn stp hk scn' stp' hk' : String)
    (hs : s ∈ [Gen.C15Tmpl.applyCodeText.url.site, Gen.C15Tmpl.applyCodeText.header.site, Gen.C15Tmpl.applyCodeText.body.site])
    (hs' : s' ∈ [Gen.C15Tmpl.applyCodeText.url.site, Gen.C15Tmpl.applyCodeText.header.site, Gen.C15Tmpl.applyCodeText.body.site])
    (h : s.keyOf scn stp hk = s'.keyOf scn' stp' hk') :
    (s = s' ∧ scn = scn' ∧ stp = stp' ∧ (s.keyed = true → hk = hk')) ∧
    Gen.C15Tmpl.keyFields = ["scenario", "step", "part", "key"] ∧ Gen.C15Tmpl.partsFresh.all (·.2) = true := by
  refine ⟨?_, Bridge.C15Tmpl.keyFields_eq, Bridge.C15Tmpl.partsFresh_ok⟩
  have hall := Bridge.C15Tmpl.sites_distinct
  simp only [List.all_cons, List.all_nil, Bool.and_true, Bool.and_eq_true] at hall
  obtain ⟨d1, d2, d3, ⟨a1, a2, a3⟩, _⟩ := hall
  have hb : ∀ t ∈ [Gen.C15Tmpl.applyCodeText.url.site, Gen.C15Tmpl.applyCodeText.header.site, Gen.C15Tmpl.applyCodeText.body.site],
      (t.scen && t.step) = true := by
    intro t ht
    simp only [List.mem_cons, List.not_mem_nil, or_false] at ht
    rcases ht with rfl | rfl | rfl
    · simpa using a1
    · simpa using a2
    · simpa using a3
  obtain ⟨p, e1, e2, e3⟩ := Bridge.C15Tmpl.keyOf_inj s s' scn stp hk scn' stp' hk' (hb s hs) (hb s' hs') h
  have hss : s = s' := by
    simp only [List.mem_cons, List.not_mem_nil, or_false] at hs hs'
    rcases hs with rfl | rfl | rfl <;> rcases hs' with rfl | rfl | rfl <;>
      first | rfl | exact absurd p d1 | exact absurd p d2 | exact absurd p d3
            | exact absurd p.symm d1 | exact absurd p.symm d2 | exact absurd p.symm d3
  subst hss
  exact ⟨rfl, e1, e2, fun k => e3 k k⟩

/-- the full-strength claim for a cache that compares keys by the JOINED text `scenario_step_part_key`
(`templateKey.String()`, what the cache was keyed by before repair 2826876) -/
def C15_template_joined_key_statement : Prop :=
  ∀ (parse : String → Option String) (exec : String → String → String × Bool)
    (defs : String → String → TParts) (calls : List (String × String × TParts × String)),
    (∀ x ∈ calls, Fits defs x.1 x.2.1 x.2.2.1) →
    runApplies Gen.C15Tmpl.applyCodeText Gen.C15Tmpl.getCodeText parse exec TKey.joined [] calls =
      calls.map (fun x => applyPure parse exec x.2.2.1 x.2.2.2)

/-- **`var/jsonpath` as regenerated from the source** (its own loop around `encoding/json` and `jsonpath`, both abstract:
any `decode`, any `get`): the extractor yields nothing for an empty mapping; otherwise it succeeds exactly when the body
decodes and EVERY path of the mapping resolves — one unresolved path fails the step whatever the other entries did, in
whatever order the map is visited — and then it yields exactly the resolved entries. -/
theorem C15_jsonpath_source {β J V : Type} (decode : β → Option J) (get : String → J → Option V)
    (mapping : List (String × String)) (body : β) :
    runJsonpath decode get Gen.C15Tmpl.jsonpathCode mapping body = varJsonpath decode get mapping body ∧
    ((varJsonpath decode get mapping body).isSome = true ↔
      (mapping = [] ∨ ∃ d, decode body = some d ∧ ∀ kp ∈ mapping, (get kp.2 d).isSome = true)) ∧
    (∀ d, decode body = some d → mapping ≠ [] → (∀ kp ∈ mapping, (get kp.2 d).isSome = true) →
      varJsonpath decode get mapping body = some (jResolved get d mapping) ∧
      (jResolved get d mapping).map (·.1) = mapping.map (·.1)) := by
  refine ⟨Bridge.C15Tmpl.jsonpath_gen decode get mapping body, varJsonpath_ok_iff decode get mapping body, ?_⟩
  intro d hd hne hall
  have hres : ∀ m : List (String × String), (∀ kp ∈ m, (get kp.2 d).isSome = true) →
      jAnyFail get d m = false ∧ (jResolved get d m).map (·.1) = m.map (·.1) := by
    intro m
    induction m with
    | nil => intro _; exact ⟨rfl, rfl⟩
    | cons a t ih =>
      obtain ⟨k, p⟩ := a
      intro h
      have hp := h (k, p) (List.mem_cons_self ..)
      obtain ⟨i1, i2⟩ := ih (fun kp hk => h kp (List.mem_cons_of_mem _ hk))
      simp only at hp
      cases hg : get p d with
      | none => rw [hg] at hp; cases hp
      | some v => simp [jAnyFail, jResolved, hg, i1, i2]
  obtain ⟨h1, h2⟩ := hres mapping hall
  refine ⟨?_, h2⟩
  unfold varJsonpath
  cases mapping with
  | nil => exact absurd rfl hne
  | cons a t => simp only [List.isEmpty_cons, Bool.false_eq_true, ↓reduceIte, hd]; rw [resolveAll_eq, h1]; rfl

/-! ## size limits, one report per step, `prepareRequest`, min_waiting_time, concurrent first use of a template -/

/-- **the ring is bounded** (repair 4cfc662): an accepted description spreads into at most `config.MaxSpreadSize` (2^24)
ammo, whatever the weights — larger ones are the error `toolarge`, never a `make` that panics or exhausts the memory -/
theorem C15_spread_bounded {ρ} (reqs : List Char → Option ρ) (scs : List ScenarioCfg) (ring : List (Scenario ρ))
    (hnd : (scs.map (·.name)).Nodup) (hw : ∀ sc ∈ scs, 0 ≤ sc.weight)
    (h : decodeAmmo reqs scs = .ok ring) : (ring.length : Int) ≤ maxSpreadSize :=
  decodeAmmo_len reqs scs ring hnd hw h

/-- the refusal after `SpreadNames` is `config.CheckSpread` as regenerated from the source (total or some count negative
or above `MaxSpreadSize`), applied by `decodeAmmo` before it allocates -/
theorem C15_spread_refused_source (names : List (List Char × Int)) (total : Int) :
    (spreadRefused names total = true ↔
      (Gen.C15Scen.spreadTotalRefused total ∨ ∃ nc ∈ names, Gen.C15Scen.spreadCntRefused nc.2)) ∧
    Gen.C15Scen.spreadChecked = true :=
  ⟨Bridge.C15Scen.spreadRefused_iff names total, rfl⟩

/-- **every executed step is reported exactly once** (seed C15-r6-1: a step the target answered was reported a second
time, as failed, when the pause after it was interrupted): a shot appends exactly one sample per executed step — as many
samples as steps and none of them failed when the shot succeeds; `i + 1` samples of which exactly the last is failed when
step `i` fails. -/
theorem C15_sample_once {Req Resp : Type} (w : World Req Resp) (source : Val) (sc : Scenario ReqDef)
    (g : GState Req) (b : Bool) (g' : GState Req) (h : shoot w source sc g = some (b, g')) :
    ∃ evs, g'.log = g.log ++ evs ∧
      (b = true → evs.countP isSample = sc.steps.length ∧ evs.countP isFailedSample = 0) ∧
      (b = false → ∃ i, i < sc.steps.length ∧ evs.countP isSample = i + 1 ∧ evs.countP isFailedSample = 1 ∧
        ∃ tag, evs.getLast? = some (.sample tag 0 true)) := by
  obtain ⟨hok, hfail⟩ := C15_stop_on_failure w source sc g b g' h
  cases b with
  | true =>
    obtain ⟨rcs, hlen, hlog⟩ := hok rfl
    refine ⟨_, by rw [hlog], fun _ => okRun_samples _ sc.steps rcs hlen, fun hb => by cases hb⟩
  | false =>
    obtain ⟨i, hi, rcs, pre, hlen, hpre, hlog⟩ := hfail rfl
    have hl : rcs.length = (sc.steps.take i).length := by rw [hlen, List.length_take]; omega
    have hcnt := okRun_samples (String.ofList sc.name) (sc.steps.take i) rcs hl
    have hti : (sc.steps.take i).length = i := by rw [List.length_take]; omega
    refine ⟨okRun (String.ofList sc.name) (sc.steps.take i) rcs ++ pre ++
      [.sample (failTag (stepTag (String.ofList sc.name) sc.steps[i])) 0 true], ?_, ?_, ?_⟩
    · rw [hlog]; simp [List.append_assoc]
    · intro hb; cases hb
    · intro _
      refine ⟨i, hi, ?_, ?_, failTag (stepTag (String.ofList sc.name) sc.steps[i]), by simp⟩
      · rcases hpre with rfl | ⟨r, rfl⟩ <;>
          simp [List.countP_append, hcnt.1, hti, isSample, List.countP_cons]
      · rcases hpre with rfl | ⟨r, rfl⟩ <;>
          simp [List.countP_append, hcnt.2, isFailedSample, List.countP_cons]

/-- **from the description through the provider to the wire** (composition decoder → `Provider.Run` → gun): for an
accepted description, whatever the options `passes` / `limit` and the number `n` of ammo an instance takes, the ammo it is
handed are the first `feedCount` deliveries of the ring (in proportion to the weights: `ringOK`), and shooting them one
after the other appends, for each of them in order, a block of events the judge `shotVerdict` accepts for THAT
scenario's step list — nothing else reaches the target or the aggregator. -/
theorem C15_pool_shots {Req Resp : Type} (reqs : List Char → Option ReqDef) (scs : List ScenarioCfg)
    (ring : List (Scenario ReqDef)) (hnd : (scs.map (·.name)).Nodup) (hw : ∀ sc ∈ scs, 0 ≤ sc.weight)
    (hd : decodeAmmo reqs scs = .ok ring) (hne : ring.length ≠ 0) (passes limit n : Nat)
    (w : World Req Resp) (nm : Req → String) (hnm : Named w nm) (source : Val) (g g' : GState Req)
    (h : shootAll w source (feed ring passes limit n) g = some g') :
    ringOK (scs.map (·.name)) (scs.map (·.weight)) ((feed ring passes limit n).map (·.name)) = true ∧
    (feed ring passes limit n).length = feedCount ring.length passes limit n ∧
    ∃ evss : List (List OEv), obsLog nm g'.log = obsLog nm g.log ++ evss.flatten ∧
      evss.length = (feed ring passes limit n).length ∧
      ∀ p ∈ (feed ring passes limit n).zip evss,
        shotVerdict (String.ofList p.1.name) (p.1.steps.map (·.req.name)) p.2 = "ok" := by
  obtain ⟨_, hlen, _, _, _, hok⟩ := C15_feed reqs scs ring hnd hw hd hne passes limit n
  exact ⟨hok, hlen, shootAll_verdict w nm hnm source _ g g' h⟩

/-- **`prepareRequest` as regenerated** (statement list with Go's `err` explicit, over arbitrary `http.NewRequest`,
header canonicalisation and `net.SplitHostPort`) computes the direct reading `prepareRequest` of the model -/
theorem C15_prepare_source (lib : PrepLib) (cfg : PrepCfg) (p : ReqParts) :
    runPrepOps lib cfg p Gen.C15Flow.prepCode {} = some (prepareRequest lib cfg p) := by
  rw [Bridge.C15Flow.prepCode_eq]; exact runPrep_eq lib cfg p

/-- **which host the target sees** (repair 789fa67): when the request can be built, the Host on the wire is the value of
the LAST visited header whose name is `Host` in any case (simple case folding: also `hoſt`), else the host of the
rendered URL, and — when that is empty — the configured target without its port; the connection always goes to the
resolved target, the scheme follows the `ssl` option, and a header named Host is not sent as an ordinary header. -/
theorem C15_prepare_host (lib : PrepLib) (cfg : PrepCfg) (p : ReqParts) (uh : String)
    (hn : lib.newReq p.method p.url = some uh) :
    ∃ q, prepareRequest lib cfg p = some q ∧
      q.host = (let h := (((p.headers.filter fun kv => equalFoldTo "Host" kv.1).getLast?).map (·.2)).getD uh
                if h == "" then hostWithoutPort lib cfg.target else h) ∧
      q.urlHost = cfg.targetResolved ∧ q.scheme = (if cfg.ssl then "https" else "http") ∧
      ((∀ kv ∈ p.headers, equalFoldTo "Host" kv.1 = false) →
        q.header = p.headers.foldl (fun m kv => setKey (lib.canon kv.1) kv.2 m) []) := by
  unfold prepareRequest
  rw [hn]
  refine ⟨_, rfl, ?_, rfl, rfl, ?_⟩
  · simp only [prepHeaders_host]
  · intro hno
    simp only [prepHeaders_header_of_noHost lib p.headers _ hno]

/-- **min_waiting_time** as regenerated from the tail of `shoot`: a shot in which no step failed lasts at least
`min_waiting_time` (the pause added is exactly the remainder, and none when the steps took longer) -/
theorem C15_min_waiting_time (m spent : Int) :
    spent + (Gen.C15Flow.mwtPause m spent).getD 0 = max m spent ∧
    (∀ p, Gen.C15Flow.mwtPause m spent = some p → 0 < p) := by
  rw [Bridge.C15Flow.mwtPause_eq]
  exact ⟨mwtPause_total m spent, fun p => mwtPause_pos m spent p⟩

/-- **concurrent first use of a template slot** (seed C15-r6-2): `getTemplate` of both templaters AS REGENERATED (load; on a
miss parse, check, store; return), executed one statement at a time by any number of instances under EVERY schedule,
never returns a template object that is not parsed — every call that has returned got a parsed object, and every object
the cache ever holds is parsed. -/
theorem C15_template_first_use (sched : List Nat) (t : Nat) :
    ofGetCode Gen.C15Tmpl.getCodeHTML = realGet ∧ ofGetCode Gen.C15Tmpl.getCodeText = realGet ∧
    (((PSys.init realGet).run sched).ths t).exposed = false ∧
    (∀ i, ((PSys.init realGet).run sched).cache = some i → ((PSys.init realGet).run sched).heap.getD i false = true) := by
  have hinv := run_inv (PSys.init realGet) sched init_inv
  refine ⟨by rw [Bridge.C15Tmpl.getCodeHTML_eq]; exact ofGetCode_getCode,
          by rw [Bridge.C15Tmpl.getCodeText_eq]; exact ofGetCode_getCode, (hinv.ths t).1, ?_⟩
  intro i hi
  exact hinv.parsed i (hinv.cache i hi)

section Examples

/-- the request registry of the bundled payload -/
def exReqs : List Char → Option Unit := fun n =>
  if n == "auth_req".toList || n == "list_req".toList || n == "order_req".toList then some () else none

/-- the bundled payload `auth -> list -> order x3` with pauses -/
def exShoots : List (List Char) :=
  ["auth_req(1,100)".toList, "list_req".toList, "sleep(100)".toList, "order_req(3,100)".toList]

-- C15_order_mult: the decoder accepts it; the step list is auth, list (+100 ms from sleep), order ×3
example : (expand exReqs exShoots []).bind (fun s => .ok (s.map proj)) =
    .ok [("auth_req".toList, 100), ("list_req".toList, 100), ("order_req".toList, 100),
         ("order_req".toList, 100), ("order_req".toList, 100)] := by decide +kernel

-- C15_order_mult_total: both sides of the iff occur — a leading sleep / an unknown name is refused with an error
example : (parseAll exShoots).map (domOK exReqs · 0) = some true := by decide
example : expand exReqs ["sleep(3)".toList, "auth_req".toList] [] = .err "sleepfirst" ∧
    (parseAll ["sleep(3)".toList, "auth_req".toList]).map (domOK exReqs · 0) = some false := by decide
example : expand exReqs ["auth_req(0)".toList, "sleep".toList] [] = .err "sleepfirst" ∧
    expand exReqs ["nosuch(2)".toList] [] = .err "notfound" ∧ expand exReqs ["auth_req(x)".toList] [] = .err "parse" := by decide

-- repair 1eaf10a: a repeat count that lets the scenario grow beyond 2^20 steps is refused (`decide` on the refusal only:
-- nothing is expanded), also when the total is reached by several items; 2^20 itself is the domain's edge
example : expand exReqs ["auth_req(1048577)".toList] [] = .err "toomany" ∧
    expand exReqs ["auth_req(3)".toList, "list_req(1048574)".toList] [] = .err "toomany" ∧
    (parseAll ["auth_req(3)".toList, "list_req(1048574)".toList]).map (domOK exReqs · 0) = some false ∧
    (parseAll ["auth_req(3)".toList, "list_req(1048573)".toList]).map (domOK exReqs · 0) = some true := by decide +kernel

-- C15_template_first_use is not blind: the publish-first order of seed C15-r6-2 under the schedule "instance 0 publishes
-- the empty object, instance 1 loads and returns it" exposes an unparsed template; the real order under the same
-- schedule (and a longer one in which both finish) does not
example : (((PSys.init publishFirst).run [0, 1, 1, 1]).ths 1).exposed = true ∧
    (((PSys.init realGet).run [0, 1, 1, 1, 0, 0, 1, 1, 0, 0, 0, 1, 1, 1, 0]).ths 1).exposed = false ∧
    (((PSys.init realGet).run [0, 1, 1, 1, 0, 0, 1, 1, 0, 0, 0, 1, 1, 1, 0]).ths 1).returned = some (some 0) := by decide

/-- a toy library for `prepareRequest`: the URL `//u/a` carries a host, `X-A` is canonicalised to `x-a` -/
def exPrepLib : PrepLib :=
  { newReq := fun m u => if m == "BAD" then none else if u == "//u/a" then some "url.host" else some "",
    canon := fun k => if k == "X-A" then "x-a" else k,
    splitHost := fun t => if t == "127.0.0.1:8080" then some "127.0.0.1" else none }

-- C15_prepare_host: a Host header in any case (also with the long s) wins, is not sent as a header, the default is the
-- target without port; an error of NewRequest is returned
example : (prepareRequest exPrepLib ⟨false, "127.0.0.1:8080", "10.0.0.1:80"⟩
      ⟨"/a", "GET", none, [("X-A", "1"), ("hoſt", "example.org"), ("x-a", "2")]⟩).map (fun q => (q.host, q.urlHost, q.scheme, q.header)) =
      some ("example.org", "10.0.0.1:80", "http", [("x-a", "2")]) ∧
    (prepareRequest exPrepLib ⟨true, "127.0.0.1:8080", "10.0.0.1:80"⟩ ⟨"/a", "GET", some "b", []⟩).map (fun q => (q.host, q.scheme, q.hasBody)) =
      some ("127.0.0.1", "https", true) ∧
    (prepareRequest exPrepLib ⟨true, "nohostport", "x"⟩ ⟨"//u/a", "GET", none, [("Host", "")]⟩).map (·.host) = some "nohostport" ∧
    prepareRequest exPrepLib ⟨true, "t", "x"⟩ ⟨"/a", "BAD", none, []⟩ = none := by decide

/-- text of a leaf of a variable tree -/
def strAt : Val → List String → Option String
  | .str s, [] => some s
  | .map m, k :: rest =>
    match getKey k m with
    | some v => strAt v rest
    | none => none
  | _, _ => none

/-- a world: requests render as `<name>:<token captured by step a>`; the `failAt`-th request gets a transport error;
postprocessor 0 captures `tok` -/
def exWorld (failAt : Nat) : World String Nat where
  render := fun d t => some (d.name ++ ":" ++ ((strAt (.map t) ["request", "a", "postprocessor", "tok"]).getD "-"))
  target := fun hist => if hist.length == failAt then none else some 200
  post := fun id _ => if id == 0 then some [("tok", .str "T")] else some []
  code := fun r => r

def exSc : Scenario ReqDef :=
  { name := "s".toList, minWaitingTime := 0,
    steps := [{ name := "a".toList, req := { name := "a", pre := none, iter := 0, posts := [0] }, sleep := 3 },
              { name := "b".toList, req := { name := "b", pre := none, iter := 0, posts := [] }, sleep := 0 },
              { name := "b".toList, req := { name := "b", pre := none, iter := 0, posts := [] }, sleep := 0 }] }

def exG : GState String := { iter := Iter.empty, hist := [], log := [] }

-- C15_stop_on_failure, b = true: all three steps in order, the pause after a, and (C15_var_flow) step b sees a's token
example : (shoot (exWorld 9) (.map []) exSc exG).map (fun r => (r.1, r.2.log)) =
    some (true, [.request "a:-", .sample "s.a" 200 false, .pause 3, .request "b:T", .sample "s.b" 200 false,
                 .request "b:T", .sample "s.b" 200 false]) := by decide

-- C15_stop_on_failure, b = false: the 2nd request fails — one failed sample for step 1 and nothing of step 2
example : (shoot (exWorld 2) (.map []) exSc exG).map (fun r => (r.1, r.2.log)) =
    some (false, [.request "a:-", .sample "s.a" 200 false, .pause 3, .request "b:T",
                  .sample "s.b|__EMPTY__" 0 true]) := by decide


-- C15_shot_verdict: a world whose requests are pairs (name of the definition, rendered text) is `Named` by the first
-- component; the judge accepts the outside view of its shots (one that fails at the 2nd request, one that does not) and is
-- NOT blind: it rejects a log that goes on after the failed step, one that skips a step without a failure, and one whose
-- samples are out of the listed order
def exWorldP (failAt : Nat) : World (String × String) Nat where
  render := fun d t => some (d.name, (strAt (.map t) ["request", "a", "postprocessor", "tok"]).getD "-")
  target := fun hist => if hist.length == failAt then none else some 200
  post := fun id _ => if id == 0 then some [("tok", .str "T")] else some []
  code := fun r => r
example (k : Nat) : Named (exWorldP k) Prod.fst := by
  intro d t r h
  cases h
  rfl
example : (shoot (exWorldP 2) (.map []) exSc { iter := Iter.empty, hist := [], log := [] }).map
      (fun r => (obsLog Prod.fst r.2.log, shotVerdict "s" ["a", "b", "b"] (obsLog Prod.fst r.2.log))) =
    some ([.req "a", .sample "s.a" false, .req "b", .sample "s.b|__EMPTY__" true], "ok") ∧
  (shoot (exWorldP 9) (.map []) exSc { iter := Iter.empty, hist := [], log := [] }).map
      (fun r => shotVerdict "s" ["a", "b", "b"] (obsLog Prod.fst r.2.log)) = some "ok" := by decide
example : shotVerdict "s" ["a", "b", "b"]
      [.req "a", .sample "s.a" false, .req "b", .sample "s.b|__EMPTY__" true, .req "b", .sample "s.b" false] =
    "fail:stop:events after the failed step" ∧
  shotVerdict "s" ["a", "b", "b"] [.req "a", .sample "s.a" false, .req "b", .sample "s.b" false] =
    "fail:mult:no failure but not every step was executed" ∧
  shotVerdict "s" ["a", "b", "b"] [.req "b", .sample "s.b" false] =
    "fail:order:sample tags do not follow the listed order" := by decide

-- C15_assert_outcome: a 20-byte response against `size lt 7` alone (fails: the body IS measured), against a combined
-- block that holds, and the header capture `x-tok|lower|substr(1,-1)|replace(0,zz)` of `H0x0`
def exResp : RespView :=
  { status := 200, body := "{\"tok\":\"T0x0\",\"n\":0}".toList,
    header := fun n => if n.map lowerC == "x-tok".toList then "H0x0".toList else [] }
example : assertResponse { headers := [], body := [], status := 0, size := some { val := 7, op := "lt" } } exResp = false ∧
    assertResponse { headers := [("X-Tok".toList, "0x".toList)], body := ["tok".toList], status := 200,
                     size := some { val := 20, op := "=" } } exResp = true ∧
    assertResponse { headers := [], body := ["ZZ".toList], status := 0, size := none } exResp = false := by decide
example : (varHeader [("h", "x-tok|lower|substr(1,-1)|replace(0,zz)".toList), ("m", "X-None|upper".toList)] exResp).toOption.map
      (fun vs => vs.map fun kv => (kv.1, match kv.2 with | .str s => s | _ => "?")) = some [("h", "zzx")] ∧
    (varHeader [("h", "x-tok|nosuch".toList)] exResp).toOption.isNone = true ∧ substrBounds (-1) 0 4 = (3, 4) ∧
    substrBounds 7 (-9) 4 = (0, 4) := by decide +kernel

-- C15_shoot_code_source: the interpreter is NOT blind. A world whose first extractor (id 0) fails and whose second
-- (id 1) passes; `b2` has both. With the code of the repository the step is reported failed; with the check moved behind
-- the loop (only the LAST extractor's error survives) it is reported successful; a loop that does not return on an error
-- goes on to the next step; a send whose error is not checked leaves the model (a nil response is used)
def exWorld2 : World String Nat where
  render := fun d _ => some d.name
  target := fun _ => some 200
  post := fun id _ => if id == 0 then none else some []
  code := fun r => r
def exSc2 : Scenario ReqDef :=
  { name := "s".toList, minWaitingTime := 0,
    steps := [{ name := "b2".toList, req := { name := "b2", pre := none, iter := 0, posts := [0, 1] }, sleep := 0 },
              { name := "c".toList, req := { name := "c", pre := none, iter := 0, posts := [] }, sleep := 0 }] }
def lateCheck : List SOp :=
  [.initVars, .pre, .chk, .storePre, .template, .chk, .prepare, .chk, .send, .chk, .readBody, .chk,
   .posts [.call, .merge, .rewind], .chk, .storePost, .setCode, .report, .pause]
example : ((runShootCode exWorld2 (.map []) "s" Gen.C15Flow.stepCode Gen.C15Flow.onStepErr exSc2.steps [] exG true).map
      fun r => (r.1, r.2.log)) = some (false, [.request "b2", .sample "s.b2|__EMPTY__" 0 true]) ∧
    ((runShootCode exWorld2 (.map []) "s" lateCheck onStepErr exSc2.steps [] exG true).map fun r => (r.1, r.2.log)) =
      some (true, [.request "b2", .sample "s.b2" 200 false, .request "c", .sample "s.c" 200 false]) ∧
    ((runShootCode exWorld2 (.map []) "s" stepCode [.reportErr] exSc2.steps [] exG true).map fun r => (r.1, r.2.log)) =
      some (false, [.request "b2", .sample "s.b2|__EMPTY__" 0 true, .request "c", .sample "s.c" 200 false]) ∧
    ((runShootCode (exWorld 1) (.map []) "s" (stepCode.eraseIdx 9) onStepErr exSc.steps [] exG true).isNone = true) := by
  decide

-- C15_expand_source / C15_index_source / C15_assert_source / C15_substr_source on concrete values
example : Gen.C15Flow.parseShoot atoi "a( 2 , 3 )".toList = .ok ("a".toList, 2, 3) ∧
    Gen.C15Flow.parseShoot atoi "a(,5)".toList = .ok ("a".toList, 1, 5) ∧
    Gen.C15Flow.parseShoot atoi "a(x)".toList = .err "parse" ∧
    (Gen.C15Flow.convShoot atoi exReqs "sleep(7)".toList [{ name := "a".toList, req := (), sleep := 1 }]).bind
      (fun s => .ok (s.map proj)) = .ok [("a".toList, 8)] ∧
    Gen.C15Flow.convShoot atoi exReqs "sleep(7)".toList [] = .err "sleepfirst" ∧
    Gen.C15Flow.idxNumeric (-1) 5 = 4 ∧ Gen.C15Flow.idxNumeric 12 5 = 2 ∧ Gen.C15Flow.idxNumeric 3 5 = 3 ∧
    Gen.C15Flow.assertSizeFails "lt" 7 20 = some true ∧ Gen.C15Flow.assertSizeFails ">" 7 20 = some false ∧
    Gen.C15Flow.assertSizeFails "ge" 7 20 = none ∧ Gen.C15Flow.substrBounds 1 (-1) 4 = (1, 3) := by decide +kernel

-- C15_step_outcome / C15_stop_first_failure: in `exWorld 2` the first step succeeds and the second does not
example : StepSucceeds (exWorld 2) (.map []) exSc.steps[0] [] exG :=
  ⟨[], Iter.empty, "a:-", 200, [("tok", .str "T")], rfl, by decide, by decide, rfl⟩

-- C15_var_flow / C15_var_visible: the trees handed to the templater, read at `.request.a.postprocessor.tok`
example : (shoot (exWorld 9) (.map []) exSc exG).map
      (fun r => r.2.seen.map fun t => strAt (.map t) ["request", "a", "postprocessor", "tok"]) =
    some [none, some "T", some "T"] := by decide

-- C15_gcd / C15_gcdm: two and three weights
example : GCD 6 4 = some 2 ∧ GCDM [6, 4, 2] = some 2 ∧ GCDM [6, 10, 15] = some 1 ∧ GCDM [4, 6, 8, 10] = some 2 := by decide

def exScs : List ScenarioCfg :=
  [{ name := "s1".toList, weight := 6, minWaitingTime := 0, requests := ["auth_req(2)".toList] },
   { name := "s2".toList, weight := 4, minWaitingTime := 0, requests := ["list_req".toList, "sleep(5)".toList] },
   { name := "s3".toList, weight := 0, minWaitingTime := 7, requests := ["order_req".toList] }]

-- C15_weights: hypotheses hold (distinct names, weights ≥ 0, decodeAmmo succeeds); weights 6 : 4 : (absent → 1)
example : (exScs.map (·.name)).Nodup ∧ (∀ sc ∈ exScs, 0 ≤ sc.weight) := by decide
example : (decodeAmmo exReqs exScs).bind (fun ring => .ok (ring.map (String.ofList ·.name))) =
    .ok ["s1", "s1", "s1", "s1", "s1", "s1", "s2", "s2", "s2", "s2", "s3"] := by decide
example : decodeAmmo exReqs ({ name := "neg".toList, weight := -1, minWaitingTime := 0, requests := [] } :: exScs) =
    .err "negweight" := by decide
example : (decodeAmmo exReqs (exScs.take 2)).bind (fun ring => .ok (ring.map (String.ofList ·.name))) =
    .ok ["s1", "s1", "s1", "s2", "s2"] := by decide


-- C15_ring_spec: the judge accepts 25 deliveries of the 6 : 4 : absent ring, and rejects a 6 : 3 : 2 ring
example : ringOK (exScs.map (·.name)) (exScs.map (·.weight))
    ((List.range 25).filterMap fun k => (["s1", "s1", "s1", "s1", "s1", "s1", "s2", "s2", "s2", "s2", "s3"].map String.toList)[k % 11]?) = true ∧
  ringOK (exScs.map (·.name)) (exScs.map (·.weight))
    ((List.range 25).filterMap fun k => (["s1", "s1", "s1", "s1", "s1", "s1", "s2", "s2", "s2", "s3", "s3"].map String.toList)[k % 11]?) = false := by
  decide

/-- two threads, each drawing twice from the same counter -/
def exKey : CKey := (0, ".source.users")
def exProg : NProg := fun _ got => if got.length < 2 then some exKey else none

-- C15_next_round_robin: an interleaving with blocked Lock attempts; thread 1 gets two consecutive values
example : let s := NSys.init.run exProg [0, 1, 0, 0, 1, 0, 1, 0, 1, 1, 0, 1, 1, 1, 0, 1, 1, 0, 0, 1, 0, 0]
    (s.vals exKey, s.got 0, s.got 1, (s.vals exKey).map (rowOf 3)) = ([0, 1, 2, 3], [0, 3], [1, 2], [0, 1, 2, 0]) := by
  decide


-- C15_next_code_round_robin: the same two threads at instruction level; thread 1 is blocked in `lock` twice
def exSched : List Nat := [0, 0, 1, 1, 0, 1, 0, 0, 0, 1, 1, 1, 1, 1, 1, 1, 1, 1, 1, 1, 1, 1, 1, 0, 0, 0, 0, 0, 0, 0]
example : let s := LSys.init.run Gen.C15Scen.nextCode exProg exSched
    (s.vals exKey, s.got 0, s.got 1, s.fault) = ([0, 1, 2, 3], [0, 3], [1, 2], false) := by
  decide

/-- two threads, one draw each -/
def exProg1 : NProg := fun _ got => if got.length < 1 then some exKey else none

/-- a `Next` whose lookup and insert are two critical sections (the counter itself being atomic) -/
def splitCode : NextCode :=
  { pre := [.lock, .mapGet, .unlock], miss := [.lock, .putFresh, .unlock, .ret0], hit := [.add 1, .retAdd] }

-- the semantics is not blind: under the schedule "both lookups before the first insert" the split code hands out
-- row 0 twice (and the second insert replaces the counter the first one created), while `nextCode` cannot
example : let s := LSys.init.run splitCode exProg1 [0, 0, 0, 0, 1, 1, 1, 1, 0, 0, 0, 0, 1, 1, 1, 1]
    (s.vals exKey, s.got 0, s.got 1) = ([0, 0], [0], [0]) := by decide
example : let s := LSys.init.run nextCode exProg1 [0, 0, 0, 0, 1, 1, 1, 1, 0, 0, 0, 0, 1, 1, 1, 1, 1, 1]
    (s.vals exKey, s.got 0, s.got 1) = ([0, 1], [0], [1]) := by decide

-- C15_next_index_source / C15_gcd_source / C15_gcdm_source / C15_spread_source on concrete values
example : Gen.C15Scen.nextIndex 7 3 = 1 ∧ Gen.C15Scen.GCD 6 4 = some 2 ∧ Gen.C15Scen.GCDM [4, 6, 3] = some 1 ∧
    Gen.C15Scen.GCDM [6, 10, 15] = some 1 ∧ Gen.C15Scen.GCDM [4, 6, 8, 10] = some 2 := by decide

-- C15_next_row / C15_empty_source_is_error
example : (calcIndex "next" ".source.users" 3 0 { Iter.empty with gs := [((0, ".source.users"), 6)] }).bind
    (fun r => .ok r.1) = .ok 1 := by decide
example : (calcIndex "last" ".source.users" 0 0 Iter.empty).bind (fun r => .ok r.1) = .err "empty" := by decide


/-! ### path walk, `calcIndex` dispatch, template functions, feed -/

/-- two data sources whose lists have the same field name -/
def exVars : List (String × Val) :=
  [("source", .map [("buyers", .map [("rows", .list [.str "b0", .str "b1", .str "b2"])]),
                    ("sellers", .map [("rows", .list [.str "s0", .str "s1", .str "s2"])])])]

/-- the first values of two lookups in a row -/
def twoLookups (code : WalkCode) (p1 p2 : List String) : Option (Val × Val) :=
  match walkBy code 0 p1 exVars "" Iter.empty with
  | some (.ok (v1, it)) =>
    match walkBy code 0 p2 exVars "" it with
    | some (.ok (v2, _)) => some (v1, v2)
    | _ => none
  | _ => none

def strOf : Option (Val × Val) → Option (String × String)
  | some (.str a, .str b) => some (a, b)
  | _ => none

/-- the loop body with the counter keyed by the bare field name (seeded change C15-r3-2) -/
def bareKeyCode : WalkCode := { walkCode with indexed := [.openIdx '[', .indexStr true true 1 1, .cutName, .lookup, .extract .segment, .descend] }

def valStr : Val → String
  | .str s => s
  | _ => "?"

-- the regenerated code gives each list its own counter, the bare-key code makes them share one
unseal lowerS in
example : strOf (twoLookups Gen.C15Walk.walkCode ["source", "buyers", "rows[next]"] ["source", "sellers", "rows[next]"]) = some ("b0", "s0") ∧
    strOf (twoLookups bareKeyCode ["source", "buyers", "rows[next]"] ["source", "sellers", "rows[next]"]) = some ("b0", "s1") := by decide

/-- the loop body without `strings.ToLower` -/
def noLowerCode : WalkCode := { walkCode with indexed := [.openIdx '[', .indexStr false true 1 1, .cutName, .lookup, .extract .builder, .descend] }

unseal lowerS in
example : (walkBy Gen.C15Walk.walkCode 0 ["source", " buyers ", "rows[ LAST ]"] exVars "" Iter.empty).map (fun o => o.bind fun r => .ok (valStr r.1)) = some (.ok "b2") ∧
    (walkBy noLowerCode 0 ["source", " buyers ", "rows[ LAST ]"] exVars "" Iter.empty).map (fun o => o.bind fun r => .ok (valStr r.1)) = some (.err "bad-index") := by decide

/-- `calcIndex` with the `[last]` branch moved in front of the empty-list guard -/
def lastFirstCode : List COp :=
  [.atoi, .refuseBad ["next", "rand", "last"], .last "last", .refuseEmpty, .numeric ["next", "rand", "last"], .rand "rand", .next]

-- on an empty list the regenerated code refuses, the reordered code returns −1 (the caller then indexes out of range)
example : (runCOps "last" ".source.users" 0 0 Gen.C15Walk.calcCode none Iter.empty).map (fun o => o.bind fun r => .ok r.1) = some (.err "empty") ∧
    (runCOps "last" ".source.users" 0 0 lastFirstCode none Iter.empty).map (fun o => o.bind fun r => .ok r.1) = some (.ok (-1)) ∧
    (runCOps "-4" ".source.users" 3 0 Gen.C15Walk.calcCode none Iter.empty).map (fun o => o.bind fun r => .ok r.1) = some (.ok 2) ∧
    (runCOps "first" ".source.users" 3 0 Gen.C15Walk.calcCode none Iter.empty).map (fun o => o.bind fun r => .ok r.1) = some (.err "bad-index") := by decide

-- `parseStr`: the name is not trimmed, the arguments are; a missing `)` is tolerated; only one `)` is removed
example : parseStrF "randString( 3 ,z )".toList = ("randString".toList, ["3".toList, "z".toList]) ∧
    parseStrF "randString(2,z".toList = ("randString".toList, ["2".toList, "z".toList]) ∧
    parseStrF "uuid()".toList = ("uuid".toList, []) ∧
    parseStrF " randString(2)".toList = (" randString".toList, ["2".toList]) ∧
    parseStrF "source.users[next].id".toList = ("source.users[next].id".toList, []) := by decide +kernel

/-- a function library for the examples: `randString(n, c)` over one letter -/
def exFn : String → List Val → Option String := fun name args =>
  match name, args with
  | "randString", [.str n, .str c] => (atoi n.toList).map fun k => String.ofList (List.replicate k.toNat (c.toList.headD (Char.ofNat 120)))
  | _, _ => none

def exTree : List (String × Val) :=
  [("source", .map [("users", .list [.map [("id", .str "u0")], .map [("id", .str "u1")]])]),
   ("request", .map [("a", .map [("postprocessor", .map [("h", .str "3")])])])]

def entryStr (o : Outcome (Val × Iter)) : Outcome String := o.bind fun r => .ok (match r.1 with | .str s => s | _ => "?")

-- a function whose count is a captured value, a literal count, an unknown name (looked up as a path), a plain path
unseal lowerS in
example : entryStr (resolveEntryBy Gen.C15Walk.entryCode exFn exTree "randString(request.a.postprocessor.h, z)" 0 Iter.empty) = .ok "zzz" ∧
    entryStr (resolveEntry exFn exTree "randString(2, q)" 0 Iter.empty) = .ok "qq" ∧
    entryStr (resolveEntry exFn exTree "nosuch(1)" 0 Iter.empty) = .err "segment-not-found" ∧
    entryStr (resolveEntry exFn exTree "source.users[next].id" 0 Iter.empty) = .ok "u0" := by decide +kernel

-- with `nil` instead of the literal text for an argument that is no variable (mutant) the same call fails
unseal lowerS in
example : entryStr (resolveEntryBy { entryCode with argErr := .nilValue } exFn exTree "randString(2, q)" 0 Iter.empty) = .err "template-func" := by decide

-- the feed: three ammo per pass; two passes; a limit of four; both; unlimited
example : feed ["a", "b", "c"] 2 0 10 = ["a", "b", "c", "a", "b", "c"] ∧ feed ["a", "b", "c"] 0 4 10 = ["a", "b", "c", "a"] ∧
    feed ["a", "b", "c"] 2 4 10 = ["a", "b", "c", "a"] ∧ feed ["a", "b", "c"] 0 0 5 = ["a", "b", "c", "a", "b"] ∧
    feedCount 3 2 0 10 = 6 ∧ feedCount 3 0 4 10 = 4 ∧ feedCount 3 2 4 10 = 4 ∧ feedCount 3 0 0 5 = 5 ∧
    ringPeriod [6, 4, 2] = 6 ∧ ringPeriod [0] = 1 := by decide

-- C15_feed: hypotheses hold (the ring of `exScs.take 2` has 5 entries); one pass with a limit of 7 gives 5, two passes 7
example : (decodeAmmo exReqs (exScs.take 2)).bind (fun ring => .ok ((feed ring 1 7 20).map (String.ofList ·.name), ring.length)) =
      .ok (["s1", "s1", "s1", "s2", "s2"], 5) ∧
    (decodeAmmo exReqs (exScs.take 2)).bind (fun ring => .ok ((feed ring 2 7 20).map (String.ofList ·.name))) =
      .ok ["s1", "s1", "s1", "s2", "s2", "s1", "s1"] := by decide


-- C15_template_cache_transparent: the hypotheses hold of three calls (the third one is served from the cache, a header is named `url`)
example : runApplies Gen.C15Tmpl.applyCodeText Gen.C15Tmpl.getCodeText tExParse tExExec id [] tExCalls =
    [some { url := "/x!", headers := [("h", "1!"), ("url", "2!")], body := some "B!" },
     some { url := "/y?", headers := [], body := none },
     some { url := "/x#", headers := [("h", "1#"), ("url", "2#")], body := some "B#" }] := by decide

-- … and the interpretation is not blind: without `reset` (a builder that keeps what an earlier part wrote) the second
-- header carries the first one's text; with the error check of `Execute` dropped a failed template is sent half rendered
example : (runApply { applyCode with header := { applyCode.header with ops := [.get, .chk, .exec, .chk, .assign] } } getCode
      tExParse tExExec id [] "a_b" "c" (tExDefs "a_b" "c") "!").1 =
    some { url := "/x!", headers := [("h", "1!"), ("url", "1!2!")], body := some "1!2!B!" } := by decide
example : (runApply { applyCode with url := { applyCode.url with ops := [.get, .chk, .exec, .assign, .reset] } } getCode
      tExParse tExExec id [] "s" "t" { url := "boom", headers := [], body := none } "!").1 =
    some { url := "par", headers := [], body := none } ∧
    (runApply applyCode getCode tExParse tExExec id [] "s" "t" { url := "boom", headers := [], body := none } "!").1 = none := by decide


-- C15_jsonpath_source: both sides occur (bodies are key lists, a path resolves when it is one of the keys); and the
-- interpretation is not blind: with the `continue` branch dropped an unresolved path is skipped and the step succeeds
example : varJsonpath (fun (b : List String) => if b.isEmpty then none else some b) (fun p d => if d.contains p then some p else none)
      [("tok", "a"), ("n", "b")] ["a", "b", "c"] = some [("tok", "a"), ("n", "b")] ∧
    varJsonpath (fun (b : List String) => if b.isEmpty then none else some b) (fun p d => if d.contains p then some p else none)
      [("tok", "a"), ("n", "zz")] ["a", "b", "c"] = none ∧
    runJsonpath (fun (b : List String) => if b.isEmpty then none else some b) (fun p d => if d.contains p then some p else none)
      { jsonpathCode with loop := [.get, .store] } [("tok", "a"), ("n", "zz")] ["a", "b", "c"] = some [("tok", "a")] := by decide

end Examples

/-- **a cache keyed by the joined text is NOT invisible**: scenario `a_b` / step `c` and scenario `a` / step `b_c` share
the key text `a_b_c_url_`, the second is rendered from the first one's template -/
theorem C15_template_joined_key_counterexample : ¬ C15_template_joined_key_statement := by
  intro h
  have := h tExParse tExExec tExDefs tExCalls tExCalls_fit
  revert this
  decide


end Pandora.Props.C15
