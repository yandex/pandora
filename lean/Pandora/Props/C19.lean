/-
C19 — No response from the target can abort or crash the run.

Theorems over `Pandora.Model.C19` (the behaviour of /repo HEAD, which contains the repairs adbe8d7 substr clamps and
4085816 xpath non-node-set) and the decision trees of `Pandora.Model.C10`.  Quantified over ALL header values,
modifier arguments, statuses, bodies (every predicate the peer controls is a free function), error chains, TLS
negotiation results, step lists, ammo sequences and numbers of instances.  `Pandora.Bridge.C19` (imported here, so
it is rebuilt on every check) ties the index arithmetic of `substr`, the size-operator table, the status
comparisons, `checkHTTP2` / `panicOnHTTP1Client.Do`, the `recover()` of `instance.Run` and the inventory of all
run-time panic sites of the anchored files to the CURRENT source.
-/
import Pandora.Proofs.C19
import Pandora.Proofs.C19Vars
import Pandora.Bridge.C19
import Pandora.Proofs.C19Run
import Pandora.Bridge.C19Run
import Pandora.Proofs.C19Waiter
import Pandora.Model.C02Sched

namespace Pandora.Props.C19
open Pandora.Model.C10 Pandora.Model.C19 Pandora.Proofs.C19

/-! ## nothing the peer sends makes response-processing code panic -/

/-- * `substr` with ANY integer arguments (negative, swapped, beyond the value) on ANY value slices within bounds,
  and the slice expression of the CURRENT source (`Gen.RespGuard.substrIdx`, regenerated statement by statement from
  the closure in var_header.go) is that `substr`;
* every modifier chain on every header value returns;
* every postprocessor list on every response returns `ok` or an error, never a panic (var/header, assert/response,
  var/jsonpath on unparsable JSON, var/xpath on any HTML and any expression type);
* the gRPC assertion on every status / missing message;
* hence a shot of ANY gun kind panics only in the documented fatal configuration. -/
theorem C19_no_panic :
    (∀ (α : Type) (start end_ : Int) (v : List α), (substr start end_ v).isOk = true) ∧
    (∀ (α : Type) (start end_ : Int) (v : List α),
        goSlice v (Gen.RespGuard.substrIdx start end_ v.length).1 (Gen.RespGuard.substrIdx start end_ v.length).2
          = substr start end_ v) ∧
    (∀ (mods : List Modifier) (v : List Char), (applyChain mods v).isOk = true) ∧
    (∀ (r : Resp) (pps : List PP), runPPs r pps ≠ .panic) ∧
    (∀ (a : GrpcAssert) (code : Nat) (outNil : Bool) (has : String → Bool), assertGrpc a code outNil has ≠ .panic) ∧
    (∀ g : GunShot, g.documentedFatal = false → g.run.panicked = false) := by
  refine ⟨fun α a b v => isOk_of_ok (substr_ok a b v), ?_, fun mods v => isOk_of_ok (applyChain_ok mods v),
    runPPs_no_panic, assertGrpc_no_panic, ?_⟩
  · intro α a b v
    rw [Bridge.C19.substrIdx_eq]
    rfl
  · intro g hg
    rw [run_panicked_iff, hg]

/-- The slice indices of the repaired `substr`, explicitly: `0 ≤ lo ≤ hi ≤ len` for all arguments and lengths. -/
theorem C19_substr_bounds (start end_ : Int) (len : Nat) :
    0 ≤ (substrBounds start end_ len).1 ∧ (substrBounds start end_ len).1 ≤ (substrBounds start end_ len).2 ∧
      (substrBounds start end_ len).2 ≤ (len : Int) :=
  substrBounds_valid start end_ len (by omega)

/-- The unbounded-`Int` reading of the closure is exact for Go's 64-bit `int`: the only additions are `l + start` with
`start < 0` and `l + end` with `end ≤ 0`, and `0 ≤ l`; for all arguments in the `int64` range every intermediate value
stays in that range (no wrap-around), so `C19_substr_bounds` speaks about the machine arithmetic too. -/
theorem C19_substr_no_overflow (start end_ l : Int)
    (hs : -(2 ^ 63) ≤ start ∧ start < 2 ^ 63) (he : -(2 ^ 63) ≤ end_ ∧ end_ < 2 ^ 63) (hl : 0 ≤ l ∧ l < 2 ^ 63) :
    (-(2 ^ 63) ≤ adjStart start l ∧ adjStart start l < 2 ^ 63) ∧ (-(2 ^ 63) ≤ adjEnd end_ l ∧ adjEnd end_ l < 2 ^ 63) := by
  unfold adjStart adjEnd
  constructor <;> split <;> omega

/-- The fix is conservative: whenever the closure as found returned a value, the repaired one returns the same. -/
theorem C19_substr_fix_conservative (α : Type) (start end_ : Int) (v r : List α)
    (h : substrUnclamped start end_ v = .ok r) : substr start end_ v = .ok r :=
  substr_fix_conservative start end_ v r h

/-! ## every response class yields a sample and the instance goes on -/

/-- what the single sample of a plain http shot must carry -/
def carries (reply : Reply) (s : Sample) : Prop :=
  match reply with
  | .full r => s.proto = r.status ∧ s.net = 0
  | .brokenBody st e => s.proto = st ∧ s.net = getErrno e
  | .noResponse e => s.proto = 0 ∧ s.net = getErrno e

/-- For EVERY sequence of ammo and EVERY behaviour of the target outside the documented fatal configuration:
the instance takes all ammo and finishes normally, the samples are exactly those of the individual shots;
a plain http shot yields exactly one sample carrying the received status or the failure code;
a scenario shot (http/scenario, and http2/scenario outside the fatal condition) yields one sample per executed step
(at least one when it has steps);
a gRPC shot yields one sample, a gRPC scenario one per executed call. -/
theorem C19_sample_and_continue :
    (∀ shots : List GunShot, (∀ g ∈ shots, g.documentedFatal = false) →
        (instanceRun (shots.map GunShot.run)).result = .finished ∧
        (instanceRun (shots.map GunShot.run)).shotsTaken = shots.length ∧
        (instanceRun (shots.map GunShot.run)).samples = (shots.map fun g => g.run.reports).flatten) ∧
    (∀ (h2 : Bool) (facts : H2Facts) (cfg : AutoTagCfg) (tag : String) (id : Nat) (path : String) (reply : Reply),
        (h2 && h2Panics facts reply) = false →
        ∃ s, (GunShot.http h2 facts cfg tag id path reply).run.reports = [s] ∧ carries reply s) ∧
    (∀ (h2 : Bool) (scn : String) (steps : List (StepCfg × H2Facts × Reply)),
        (GunShot.scenario h2 scn steps).documentedFatal = false →
        (GunShot.scenario h2 scn steps).run.reports.length
          = executedSteps (steps.map fun (c, _, r) => { name := c.name, outcome := stepOutcome c r }) ∧
        (steps ≠ [] → 1 ≤ (GunShot.scenario h2 scn steps).run.reports.length)) ∧
    (∀ (tag : String) (o : GrpcOutcome), (GunShot.grpc tag o).run.reports.length = 1) ∧
    (∀ (scn : String) (calls : List (GrpcCallCfg × GrpcReply)),
        (GunShot.grpcScenario scn calls).run.reports.length
          = executedGrpcSteps (calls.map fun (c, r) => { tag := c.tag, outcome := grpcStepOutcome c r })) := by
  refine ⟨?_, ?_, ?_, ?_, ?_⟩
  · intro shots hs
    simpa [List.map_map, Function.comp_def] using instanceRun_all _ (runs_not_panicked shots hs)
  · intro h2 facts cfg tag id path reply hf
    simp only [GunShot.run, hf]
    refine ⟨_, Proofs.C10.shootHttp_reports cfg _ nofun rfl, ?_⟩
    cases reply <;> exact ⟨rfl, rfl⟩
  · intro h2 scn steps hnf
    have hlen : (GunShot.scenario h2 scn steps).run.reports.length
        = executedSteps (steps.map fun (c, _, r) => { name := c.name, outcome := stepOutcome c r }) := by
      simp only [GunShot.run]
      rw [scenario_map_eq_of_not_fatal h2 steps hnf scn]
      exact Proofs.C10.shootScenario_length scn _ (stepsOf_noPanic steps)
    refine ⟨hlen, ?_⟩
    intro hne
    rw [hlen]
    cases steps with
    | nil => exact absurd rfl hne
    | cons p rest =>
      simp only [List.map_cons, executedSteps]
      split <;> omega
  · intro tag o
    simp [GunShot.run, shootGrpc]
  · intro scn calls
    simp only [GunShot.run]
    exact Proofs.C10.shootGrpcScenario_length _ _

/-! ## what the samples carry: the received status or the failure -/

/-- A failed plain http exchange carries a NON-ZERO net code (so it is counted as a failure), provided the error
chain has no `Errno(0)` leaf (Go's syscall layer never produces one; hypothesis `ErrnoNonzero` of C10). -/
theorem C19_http_failure_is_visible (h2 : Bool) (facts : H2Facts) (cfg : AutoTagCfg) (tag : String) (id : Nat)
    (path : String) (e : Err) (he : Proofs.C10.ErrnoNonzero e) (hf : (h2 && facts.alpnAlert) = false) :
    ∃ s, (GunShot.http h2 facts cfg tag id path (.noResponse e)).run.reports = [s] ∧ s.proto = 0 ∧ s.net ≠ 0 := by
  have hf' : (h2 && h2Panics facts (.noResponse e)) = false := by simpa [h2Panics] using hf
  refine ⟨{ tags := httpTag cfg tag path, id := id, proto := 0, net := getErrno e }, ?_, rfl, ?_⟩
  · simp [GunShot.run, hf', Reply.httpOutcome, shootHttp]
  · exact Proofs.C10.getErrno_ne_zero e he

/-- The http scenario guns (http/scenario; http2/scenario outside the documented fatal condition), for EVERY step
list and EVERY behaviour of the target: the samples are those of the steps
the loop enters, in order (step `i` ↦ sample `i`); the loop enters the next step exactly when the previous one
completed; the sample of a completed step carries the scenario.step tag, the RECEIVED STATUS and net code 0; the
sample of a step that failed for whatever reason (no response, broken body, unparsable JSON, a scalar xpath, an
assertion, a header the modifiers reject) carries the tag `…|__EMPTY__`, proto 0 and the failure net code 999, and
it is the last sample of that shot. -/
theorem C19_scenario_samples (h2 : Bool) (scn : String) (steps : List (StepCfg × H2Facts × Reply))
    (hnf : (GunShot.scenario h2 scn steps).documentedFatal = false) :
    let ms : List Step := steps.map fun (c, _, r) => { name := c.name, outcome := stepOutcome c r }
    (GunShot.scenario h2 scn steps).run.reports = ((steps.take (executedSteps ms)).map fun (c, _, r) => sampleOfStep scn c r) ∧
    (∀ (c : StepCfg) (resp : Resp), stepCompleted c (.full resp) = true →
        sampleOfStep scn c (.full resp) = { tags := stepTag scn c.name, id := 0, proto := resp.status, net := 0 }) ∧
    (∀ (c : StepCfg) (r : Reply), stepCompleted c r = false →
        sampleOfStep scn c r = { tags := stepTag scn c.name ++ "|" ++ emptyTag, id := 0, proto := 0, net := protoCodeError }) ∧
    (∀ i, i + 1 < executedSteps ms → ∃ p, steps[i]? = some p ∧ stepCompleted p.1 p.2.2 = true) := by
  refine ⟨by simp only [GunShot.run]; rw [scenario_map_eq_of_not_fatal h2 steps hnf scn]; exact shootScenario_reports scn steps,
    sampleOfStep_completed scn, sampleOfStep_failed scn, ?_⟩
  intro i hi
  obtain ⟨s, st, hs, ho⟩ := Proofs.C10.executed_prefix_passed _ i hi
  rw [List.getElem?_map] at hs
  obtain ⟨⟨c, f, r⟩, hp, rfl⟩ := Option.map_eq_some_iff.mp hs
  exact ⟨(c, f, r), hp, (stepCompleted_iff c r).mpr ⟨st, ho⟩⟩

/-- The gRPC guns: a plain shot reports one sample whose proto code is the converted gRPC status of the call
(0 / 400 for an unknown method / an ill-typed payload); a scenario reports one sample per entered call, in order,
carrying the converted status of THAT call, also when an assertion then rejects the response. -/
theorem C19_grpc_samples :
    (∀ (tag : String) (o : GrpcOutcome),
        (GunShot.grpc tag o).run.reports = [{ tags := tag, id := 0, proto := grpcProto o, net := 0 }]) ∧
    (∀ (scn : String) (calls : List (GrpcCallCfg × GrpcReply)),
        (GunShot.grpcScenario scn calls).run.reports
          = ((calls.take (executedGrpcSteps (calls.map fun (c, r) => { tag := c.tag, outcome := grpcStepOutcome c r }))).map
              fun (c, r) => sampleOfCall scn c r)) ∧
    (∀ (scn : String) (c : GrpcCallCfg) (r : GrpcReply), c.kind = .callable →
        (sampleOfCall scn c r).proto = Gen.RespGuard.grpcToHttp r.code) := by
  refine ⟨fun tag o => by simp [GunShot.run, shootGrpc], fun scn calls => shootGrpcScenario_reports scn calls, ?_⟩
  intro scn c r hk
  simp [sampleOfCall, grpcStepOutcome, hk, grpcStepProto, Bridge.C19.grpcToHttp_eq]

/-! ## the pool: any number of instances -/

/-- For ANY number of instances and ANY distribution of the ammo over them: if no shot meets the documented fatal
condition, every instance takes all its ammo, the pool finishes, and the aggregator receives exactly the samples of
all shots. The pool fails if and only if some shot of some instance is the documented fatal one. -/
theorem C19_pool (insts : List (List GunShot)) :
    ((∀ shots ∈ insts, ∀ g ∈ shots, g.documentedFatal = false) →
        poolResult (insts.map (·.map GunShot.run)) = .finished ∧
        poolShots (insts.map (·.map GunShot.run)) = (insts.map List.length).sum ∧
        poolSamples (insts.map (·.map GunShot.run)) = (insts.map fun shots => (shots.map fun g => g.run.reports).flatten).flatten) ∧
    (poolResult (insts.map (·.map GunShot.run)) = .poolFailed ↔ ∃ shots ∈ insts, ∃ g ∈ shots, g.documentedFatal = true) := by
  constructor
  · intro h
    have hp : ∀ shots ∈ insts.map (·.map GunShot.run), ∀ s ∈ shots, s.panicked = false := by
      intro shots hs
      obtain ⟨gs, hgs, rfl⟩ := List.mem_map.mp hs
      exact runs_not_panicked gs (h gs hgs)
    obtain ⟨h1, h2⟩ := poolSamples_all _ hp
    refine ⟨poolResult_finished _ hp, ?_, ?_⟩
    · simpa [List.map_map, Function.comp_def] using h2
    · simpa [List.map_map, Function.comp_def] using h1
  · rw [poolResult_failed_iff]
    constructor
    · rintro ⟨shots, hs, hp⟩
      obtain ⟨gs, hgs, rfl⟩ := List.mem_map.mp hs
      exact ⟨gs, hgs, (exists_run_panicked_iff gs).mp hp⟩
    · rintro ⟨gs, hgs, hf⟩
      exact ⟨_, List.mem_map.mpr ⟨gs, hgs, rfl⟩, (exists_run_panicked_iff gs).mpr hf⟩

/-! ## only the documented condition is fatal -/

/-- What "documented fatal" is, spelled out against `panicOnHTTP1Client.Do` / `checkHTTP2` (tied to the source by
`Bridge.C19.panicOnHTTP1Do_eq`, `checkHTTP2Conds_eq`, `nextProtoTLS_eq`): the gun is the http2 gun AND the peer did
not negotiate HTTP/2 — it answered the ALPN offer with the alert "no application protocol", or a response arrived
over a connection that is not TLS, negotiated another protocol than `h2`, or not mutually.  Refusal, reset, silence,
garbage, any status and any body are NOT fatal for the http2 gun.  For the http2/scenario gun: some step that is
actually sent (all earlier steps completed) meets such a peer.  Nothing is fatal for the other five gun kinds
(http, connect, http/scenario, grpc, grpc/scenario). -/
theorem C19_documented_fatal_iff :
    (∀ (h2 : Bool) (facts : H2Facts) (cfg : AutoTagCfg) (tag : String) (id : Nat) (path : String) (reply : Reply),
      (GunShot.http h2 facts cfg tag id path reply).documentedFatal = true ↔
        h2 = true ∧ (match reply with
          | .noResponse _ =>
            Gen.RespGuard.doErrPanics facts.err.isOpError facts.err.opRemoteError facts.err.textNoAppProto = true ∧
            facts.err.isOpError = true ∧ facts.err.opRemoteError = true ∧ facts.err.textNoAppProto = true
          | _ => facts.tls = none ∨ (∃ p m, facts.tls = some (p, m) ∧ (p ≠ Gen.RespGuard.nextProtoTLS ∨ m = false)))) ∧
    (∀ scn steps, (GunShot.scenario false scn steps).documentedFatal = false) ∧
    (∀ (scn : String) (steps : List (StepCfg × H2Facts × Reply)),
      (GunShot.scenario true scn steps).documentedFatal = true ↔
        ∃ (i : Nat) (p : StepCfg × H2Facts × Reply), steps[i]? = some p ∧ p.1.prepFails = false ∧ h2Panics p.2.1 p.2.2 = true ∧
          ∀ j, j < i → ∃ q, steps[j]? = some q ∧ stepCompleted q.1 q.2.2 = true ∧ h2Panics q.2.1 q.2.2 = false) ∧
    (∀ tag o, (GunShot.grpc tag o).documentedFatal = false) ∧
    (∀ scn calls, (GunShot.grpcScenario scn calls).documentedFatal = false) := by
  refine ⟨?_, fun scn steps => scenarioFatal_false steps, fun scn steps => scenarioFatal_true_iff steps,
    fun _ _ => rfl, fun _ _ => rfl⟩
  intro h2 facts cfg tag id path reply
  have hchk : checkHTTP2 facts.tls = false ↔
      facts.tls = none ∨ (∃ p m, facts.tls = some (p, m) ∧ (p ≠ Gen.RespGuard.nextProtoTLS ∨ m = false)) := by
    rw [Bridge.C19.nextProtoTLS_eq]
    cases facts.tls with
    | none => simp [checkHTTP2]
    | some pm =>
      obtain ⟨p, m⟩ := pm
      by_cases hp : p = nextProtoTLS
      · subst hp; cases m <;> simp [checkHTTP2]
      · exact ⟨fun _ => Or.inr ⟨p, m, rfl, Or.inl hp⟩, fun _ => by simp [checkHTTP2, hp]⟩
  cases reply with
  | noResponse e =>
    simp only [GunShot.documentedFatal, h2Panics, H2Facts.alpnAlert, Bridge.C19.doErrPanics_eq, Bool.and_eq_true]
    simp only [DoErrFacts.panics, Bool.and_eq_true]
    constructor
    · rintro ⟨h, ⟨ha, hb⟩, hc⟩
      exact ⟨h, ⟨⟨ha, hb⟩, hc⟩, ha, hb, hc⟩
    · rintro ⟨h, hp, _⟩
      exact ⟨h, hp⟩
  | brokenBody st e => simp [GunShot.documentedFatal, h2Panics, hchk]
  | full r => simp [GunShot.documentedFatal, h2Panics, hchk]


/-- An instance run fails the pool ("shoot panic") if and only if some shot was the documented fatal configuration:
the http2 gun reaching a peer that does not speak HTTP/2. No status, header, body, JSON, HTML, truncation, reset,
refusal or timeout can do it. -/
theorem C19_only_documented_fatal (shots : List GunShot) :
    (instanceRun (shots.map GunShot.run)).result = .poolFailed ↔ ∃ g ∈ shots, g.documentedFatal = true := by
  rw [instanceRun_failed_iff]
  exact exists_run_panicked_iff shots

/-! ## TLS alerts and connection plans -/

/-- Of ALL alert records a peer can answer the ClientHello with (any level byte, any description byte), exactly one is
the documented fatal condition: the FATAL alert 120 `no_application_protocol` ("I do not speak h2"). Every other one —
internal_error 80, handshake_failure 40, bad_certificate 42, certificate_required 116, unrecognized_name 112,
protocol_version 70, warnings, close_notify, unknown levels — is an ordinary failed exchange for the http2 gun: one
sample with proto 0 and the failure's net code, the shot returns, the instance goes on.  (`alertErr` is how crypto/tls
reports the record; the condition is the regenerated `Gen.RespGuard.doErrPanics`.) -/
theorem C19_tls_alert_fatal_iff (level code : Nat) :
    (Gen.RespGuard.doErrPanics (alertErr level code).isOpError (alertErr level code).opRemoteError
        (alertErr level code).textNoAppProto = true ↔ level = 2 ∧ code = 120) ∧
    (∀ (cfg : AutoTagCfg) (tag : String) (id : Nat) (path : String) (e : Err), ¬ (level = 2 ∧ code = 120) →
      (GunShot.http true { err := alertErr level code } cfg tag id path (.noResponse e)).documentedFatal = false ∧
      (GunShot.http true { err := alertErr level code } cfg tag id path (.noResponse e)).run
        = { reports := [{ tags := httpTag cfg tag path, id := id, proto := 0, net := getErrno e }], panicked := false }) := by
  have hiff : (alertErr level code).panics = true ↔ level = 2 ∧ code = 120 := by
    unfold alertErr
    by_cases h0 : code = 0
    · simp [h0, DoErrFacts.panics]
    · by_cases h2 : level = 2
      · simp [h0, h2, DoErrFacts.panics]
      · by_cases h1 : level = 1 <;> simp [h0, h1, h2, DoErrFacts.panics]
  refine ⟨by rw [Bridge.C19.doErrPanics_eq]; exact hiff, ?_⟩
  intro cfg tag id path e hne
  have hp : (alertErr level code).panics = false := by
    cases h : (alertErr level code).panics with
    | false => rfl
    | true => exact absurd (hiff.mp h) hne
  have hf : (true && h2Panics { err := alertErr level code } (.noResponse e)) = false := by
    simp [h2Panics, H2Facts.alpnAlert, hp]
  exact ⟨by simpa [GunShot.documentedFatal] using hf, by simp [GunShot.run, hf, Reply.httpOutcome, shootHttp]⟩

/-- One http2 client over ANY sequence of connections the peer grants (`connShots`: kept-alive or one per request),
none of which is of the fatal kind (no ALPN alert, no connection negotiated without `h2`) — handshakes may end in
any other alert, EOF, reset, garbage, a timeout, at any point of the run, before or after successful exchanges:
every request gets its shot, no shot is the documented fatal one, the instance finishes with one sample per request. -/
theorem C19_connection_plan (dka : Bool) (dflt : ConnFate) (plan : List ConnFate) (replies : List Reply) (isOpen : Bool)
    (cfg : AutoTagCfg) (hd : dflt.fatal = false) (hp : ∀ c ∈ plan, c.fatal = false) :
    let shots := (connShots dka dflt isOpen plan replies).map fun (f, r) => GunShot.http true f cfg "" 0 "" r
    shots.length = replies.length ∧ (∀ g ∈ shots, g.documentedFatal = false) ∧
    (instanceRun (shots.map GunShot.run)).result = .finished ∧
    (instanceRun (shots.map GunShot.run)).samples.length = replies.length := by
  intro shots
  obtain ⟨hl, hm⟩ := connShots_not_fatal dka dflt hd replies isOpen plan hp
  have hnf : ∀ g ∈ shots, g.documentedFatal = false := by
    intro g hg
    simp only [shots, List.mem_map] at hg
    obtain ⟨⟨f, r⟩, hmem, rfl⟩ := hg
    simp [GunShot.documentedFatal, hm (f, r) hmem]
  have hrun := instanceRun_all _ (runs_not_panicked shots hnf)
  refine ⟨by simp [shots, hl], hnf, hrun.1, ?_⟩
  rw [hrun.2.2]
  have hone : ∀ g ∈ shots, g.run.reports.length = 1 := by
    intro g hg
    have hgf := hnf g hg
    simp only [shots, List.mem_map] at hg
    obtain ⟨⟨f, r⟩, _, rfl⟩ := hg
    have hf : (true && h2Panics f r) = false := by simpa [GunShot.documentedFatal] using hgf
    cases r <;> simp [GunShot.run, hf, Reply.httpOutcome, shootHttp]
  have hones : ((shots.map GunShot.run).map (·.reports)).map List.length = List.replicate shots.length 1 := by
    rw [List.map_map, List.map_map]
    exact List.map_eq_replicate_iff.mpr hone
  rw [List.length_flatten, hones, List.sum_replicate_nat]
  simp [shots, hl]

/-- The same for the http2/scenario gun: `n` scenario shots of one client over ANY sequence of connections none of
which is of the fatal kind — every step that is sent takes the connection state as the previous one left it, a step
that fails (by its connection or by its response) ends its shot — the instance finishes all `n` shots, every shot
reports the samples of the steps it entered (at least one when the scenario has steps). -/
theorem C19_connection_plan_scenario (dka : Bool) (dflt : ConnFate) (plan : List ConnFate) (scn : String)
    (steps : List (StepCfg × Reply)) (n : Nat) (isOpen : Bool)
    (hd : dflt.fatal = false) (hp : ∀ c ∈ plan, c.fatal = false) :
    let shots := scenarioShotsOverConns dka dflt true scn steps n isOpen plan
    shots.length = n ∧ (∀ g ∈ shots, g.documentedFatal = false) ∧
    (instanceRun (shots.map GunShot.run)).result = .finished ∧
    (instanceRun (shots.map GunShot.run)).shotsTaken = n ∧
    (steps ≠ [] → ∀ g ∈ shots, 1 ≤ g.run.reports.length) := by
  intro shots
  obtain ⟨hl, hnf⟩ := scenarioShotsOverConns_not_fatal dka dflt hd true scn steps n isOpen plan hp
  obtain ⟨h1, h2, _⟩ := C19_sample_and_continue.1 shots hnf
  refine ⟨hl, hnf, h1, by rw [h2, hl], ?_⟩
  intro hne g hg
  have hgf := hnf g hg
  -- every shot of the list is a scenario shot over a non-empty step list
  have hshape : ∀ (k : Nat) (o : Bool) (pl : List ConnFate), ∀ g ∈ scenarioShotsOverConns dka dflt true scn steps k o pl,
      ∃ ss : List (StepCfg × H2Facts × Reply), g = GunShot.scenario true scn ss ∧ ss ≠ [] := by
    intro k
    induction k with
    | zero => intro o pl g hg; simp [scenarioShotsOverConns] at hg
    | succ j ih =>
      intro o pl g hg
      simp only [scenarioShotsOverConns, List.mem_cons] at hg
      rcases hg with rfl | hg
      · refine ⟨_, rfl, ?_⟩
        cases steps with
        | nil => exact absurd rfl hne
        | cons p rest =>
          obtain ⟨c, r⟩ := p
          simp only [scenarioOverConns]
          split
          · simp
          · split <;> simp
      · exact ih _ _ g hg
  obtain ⟨ss, rfl, hss⟩ := hshape n isOpen plan g hg
  exact (C19_sample_and_continue.2.2.1 true scn ss hgf).2 hss

/-! ## what an earlier RESPONSE stored is read again inside `Shoot` (preprocessors, template functions) -/

/-- Index arithmetic on response-derived lists. For EVERY index kind (`[N]` with any integer, `[next]`, `[rand]`,
`[last]`, garbage), EVERY list length (empty lists included: `{"items":[]}`, an xpath without matches), every value of
the shared iterator and every draw of its random generator, `calcIndex` returns — an error or an index INSIDE the
list — and never panics (no division by zero, no `rand.Intn(0)`, no index -1); the same holds for `calcIndex` of the
CURRENT source (regenerated statement by statement, `Bridge.C19.calcIndex_eq`); hence no element access of
`extractFromSlice` leaves its slice, whatever value (of whatever type) the variable holds. -/
theorem C19_index_in_bounds :
    (∀ (k : IndexKind) (length : Int) (nextV randRaw : Nat),
        ∃ r, calcIndex k length nextV randRaw = .ok r ∧ ∀ i, r = some i → 0 ≤ i ∧ i < length) ∧
    (∀ (indexStr : String) (atoi : Option Int) (length : Int) (nextV randRaw : Nat),
        ∃ r, Gen.RespGuard.calcIndex indexStr atoi length nextV randRaw = .ok r ∧ ∀ i, r = some i → 0 ≤ i ∧ i < length) ∧
    (∀ (v : Val) (k : IndexKind) (nextV randRaw : Nat), (extractFromSlice v k nextV randRaw).isOk = true) := by
  exact ⟨calcIndex_ok, Bridge.C19.calcIndex_in_bounds, fun v k nextV randRaw => isOk_of_ok (extractFromSlice_ok v k nextV randRaw)⟩

/-- Reading variables never panics. For EVERY variable tree (any nesting of maps, lists of any length and element type,
strings, numbers, nulls — everything a postprocessor can have stored from a response), every path, every iterator:
`GetMapValue` returns a value or an error; and for every list of preprocessor mappings — paths and calls of
`randInt` / `randString` / `uuid` with any arguments, looked up in the variables or literal — `Preprocessor.Process`
returns variables or an error, with the length bound of the CURRENT source (`Gen.RespGuard.maxRandStringLength`):
a digit string chosen by the peer is never a length `make([]rune, n)` refuses. -/
theorem C19_vars_no_panic :
    (∀ (it : Iter) (vars : Fields) (segs : List Seg), (getMapValue it vars segs).isOk = true) ∧
    (∀ (cnt : Val), (randString (some Gen.RespGuard.maxRandStringLength) cnt).isOk = true) ∧
    (∀ (f t : Int), (randIntRange f t).isOk = true) ∧
    (∀ (vars : Fields) (ms : List (String × PreMap)),
        (preprocess (some Gen.RespGuard.maxRandStringLength) vars ms).isOk = true) := by
  exact ⟨fun it vars segs => isOk_of_ok (getMapValue_ok it vars segs),
    fun cnt => isOk_of_ok (randString_ok _ Bridge.C19.maxRandStringLength_ok cnt),
    fun f t => isOk_of_ok (randIntRange_ok f t),
    fun vars ms => isOk_of_ok (preprocess_ok _ Bridge.C19.maxRandStringLength_ok vars ms)⟩

/-- A scenario shot whose steps READ what earlier responses stored. For every list of steps — each with its
preprocessor mappings, its postprocessors, what the target does with its request, the facts of its connection and
ANY variables its postprocessors extract from that response (`post`: chosen by the peer) — every initial variable state
and everything the shared iterator hands out: the shot is exactly the shot of the same steps with the variable
mechanism resolved into the static `prepFails` (a preprocessor that cannot produce its variables is a step that fails
before anything is sent: one `…|__EMPTY__` sample, the remaining steps skipped) — so `C19_scenario_samples` and
`C19_pool` apply to it —, resolving changes nothing else of a step, and the shot panics only in the documented fatal
configuration (never for the http/scenario gun). -/
theorem C19_scenario_vars (h2 : Bool) (scn : String) (s : VarState) (steps : List VStep) :
    let cap := some Gen.RespGuard.maxRandStringLength
    shootScenarioV cap h2 scn s steps = (GunShot.scenario h2 scn (resolveV cap h2 s steps)).run ∧
    (resolveV cap h2 s steps).map (fun p => (p.1.name, p.1.pps, p.2)) =
      steps.map (fun v => (v.cfg.name, v.cfg.pps, v.facts, v.reply)) ∧
    (shootScenarioV cap h2 scn s steps).panicked = (GunShot.scenario h2 scn (resolveV cap h2 s steps)).documentedFatal ∧
    (h2 = false → (shootScenarioV cap h2 scn s steps).panicked = false) := by
  have heq := shootScenarioV_eq _ Bridge.C19.maxRandStringLength_ok h2 scn steps s
  refine ⟨heq, resolveV_shape _ h2 steps s, ?_, ?_⟩
  · rw [heq]; exact run_panicked_iff _
  · intro h
    rw [heq, run_panicked_iff]
    subst h
    exact scenarioFatal_false _

/-- The gRPC scenario gun with "prepare" preprocessors that read the earlier response MESSAGES (`request.<call>.postprocessor`:
repeated fields of any length, strings, anything — chosen by the peer): for every list of calls, every variable state and
every iterator the shot is exactly the shot of the same calls with the preprocessors resolved into the static
`GrpcCallKind.prepFails` (a preprocessor that cannot produce its variable — an index into a list the target left
empty, a missing field of a failed call — is a call that fails before it is made: one sample with code 0, the remaining
calls skipped), so `C19_grpc_samples` applies to it, and it never panics. -/
theorem C19_grpc_scenario_vars (scn : String) (s : VarState) (calls : List VCall) :
    let cap := some Gen.RespGuard.maxRandStringLength
    shootGrpcScenarioV cap scn s calls = (GunShot.grpcScenario scn (resolveGrpcV cap s calls)).run ∧
    (shootGrpcScenarioV cap scn s calls).panicked = false := by
  have heq := shootGrpcScenarioV_eq _ Bridge.C19.maxRandStringLength_ok scn calls s
  refine ⟨heq, ?_⟩
  rw [heq, run_panicked_iff]
  rfl

/-- … and the instance goes on with the next ammo: an instance of the http/scenario gun (or of the gRPC scenario gun) that
shoots ANY sequence of such scenarios — whatever every response stores, whatever every preprocessor reads, whatever the
shared iterator hands out from shot to shot — takes all its ammo, finishes, and the aggregator receives exactly the
samples of all shots. -/
theorem C19_vars_instance (scn : String)
    (httpShots : List (VarState × List VStep)) (grpcShots : List (VarState × List VCall)) :
    let cap := some Gen.RespGuard.maxRandStringLength
    let rs := httpShots.map (fun p => shootScenarioV cap false scn p.1 p.2) ++
      grpcShots.map (fun p => shootGrpcScenarioV cap scn p.1 p.2)
    (instanceRun rs).result = .finished ∧ (instanceRun rs).shotsTaken = httpShots.length + grpcShots.length ∧
      (instanceRun rs).samples = (rs.map (·.reports)).flatten := by
  intro cap rs
  have h : ∀ r ∈ rs, r.panicked = false := by
    intro r hr
    rcases List.mem_append.mp hr with h1 | h1
    · obtain ⟨p, _, rfl⟩ := List.mem_map.mp h1
      exact (C19_scenario_vars false scn p.1 p.2).2.2.2 rfl
    · obtain ⟨p, _, rfl⟩ := List.mem_map.mp h1
      exact (C19_grpc_scenario_vars scn p.1 p.2).2
  have := instanceRun_all rs h
  refine ⟨this.1, ?_, this.2.2⟩
  rw [this.2.1]
  simp [rs]

/-! ## the code the guns depend on — the clock, the shared iterator, the dialer, the pooled sample -/

/-- the schedule tokens an instance meets: is the token overdue when the instance gets to it (the clock decides — a
target that answers slowly makes the following tokens overdue), and the shot it would take -/
def tokensOf (tokens : List (Bool × GunShot)) : List Token :=
  tokens.map fun p => { slowDown := p.1, shot := p.2.run }

/-- `instance.Run` against the clock, with and without `discard_overflow`, for EVERY sequence of tokens, every verdict
of the waiter on each of them and every shot: if no shot that is actually TAKEN (the condition of the current source,
`Gen.RespGuard.instanceShootCond`) is the documented fatal one, the instance takes every token, and the aggregator
receives for each token the samples of its shot or — overdue with `discard_overflow` — exactly ONE `discarded` sample
(no status, failure code 777: what the current netsample constants say); the run fails the pool iff a TAKEN shot is
the documented fatal one (a discarded token cannot); without `discard_overflow` the loop is the plain shooting loop of
the earlier theorems, however slow the target is. -/
theorem C19_discard_overflow (discard : Bool) (tokens : List (Bool × GunShot)) :
    ((∀ p ∈ tokens, Gen.RespGuard.instanceShootCond discard p.1 = true → p.2.documentedFatal = false) →
      (instanceRunSched discard (tokensOf tokens)).result = .finished ∧
      (instanceRunSched discard (tokensOf tokens)).shotsTaken = tokens.length ∧
      (instanceRunSched discard (tokensOf tokens)).samples =
        (tokens.map fun p => if Gen.RespGuard.instanceShootCond discard p.1 then p.2.run.reports
          else [⟨Gen.RespGuard.discardedTag, 0, 0, Gen.RespGuard.discardedNet⟩]).flatten) ∧
    ((instanceRunSched discard (tokensOf tokens)).result = .poolFailed ↔
      ∃ p ∈ tokens, Gen.RespGuard.instanceShootCond discard p.1 = true ∧ p.2.documentedFatal = true) ∧
    (instanceRunSched false (tokensOf tokens) = instanceRun (tokens.map (·.2.run))) := by
  have hw : ∀ t ∈ tokensOf tokens, t.waitOk = true := by
    intro t ht
    obtain ⟨p, _, rfl⟩ := List.mem_map.mp ht
    rfl
  refine ⟨?_, ?_, ?_⟩
  · intro h
    have hp : ∀ t ∈ tokensOf tokens, shootCond discard t.slowDown = true → t.shot.panicked = false := by
      intro t ht hc
      obtain ⟨p, hp, rfl⟩ := List.mem_map.mp ht
      rw [run_panicked_iff]
      exact h p hp (by rw [Bridge.C19.instanceShootCond_eq]; exact hc)
    obtain ⟨h1, h2, h3⟩ := instanceRunSched_all discard _ hw hp
    refine ⟨h1, by simpa [tokensOf] using h2, ?_⟩
    rw [h3]
    simp only [tokensOf, List.map_map, Function.comp_def, tokenSamples, Bridge.C19.instanceShootCond_eq]
    rfl
  · rw [instanceRunSched_failed_iff discard _ hw]
    constructor
    · rintro ⟨t, ht, hc, hpn⟩
      obtain ⟨p, hp, rfl⟩ := List.mem_map.mp ht
      exact ⟨p, hp, by rw [Bridge.C19.instanceShootCond_eq]; exact hc, by rw [← run_panicked_iff]; exact hpn⟩
    · rintro ⟨p, hp, hc, hf⟩
      exact ⟨_, List.mem_map.mpr ⟨p, hp, rfl⟩, by rw [← Bridge.C19.instanceShootCond_eq]; exact hc,
        by rw [run_panicked_iff]; exact hf⟩
  · rw [instanceRunSched_nodiscard _ hw]
    simp [tokensOf, List.map_map, Function.comp_def]

/-- WHEN a token is dropped: with a clock that does not run backwards, the waiter of the current source
(regenerated as functions: `Gen.Waiter.Wait` / `IsSlowDown`, `Bridge.Waiter.Wait_eq`, see
`C19_slow_answer_costs_only_late_tokens`) finds a token overdue exactly when the instance asks for it
`MaxOverdueDuration` (the current constant) or more after its time — whatever the cached clock reading was; and a run in
which the target answers fast enough for every token to be asked for in time is the same run with and without
`discard_overflow`: the option cannot cost a shot unless the target made the instance late. -/
theorem C19_discard_only_when_late :
    (∀ (due lastNow asked : Int) (shot : ShotResult), lastNow ≤ asked →
      ((tokenAt due lastNow asked shot).slowDown = true ↔ asked - due ≥ Gen.RespGuard.maxOverdueNanos)) ∧
    (∀ (discard : Bool) (ts : List Token), (∀ t ∈ ts, t.slowDown = false) →
      instanceRunSched discard ts = instanceRunSched false ts) := by
  refine ⟨?_, instanceRunSched_on_time⟩
  intro due lastNow asked shot h
  rw [Bridge.C19.maxOverdueNanos_eq]
  exact isSlowDown_iff due lastNow asked h

/-- The shared `NextIterator` under ANY interleaving: any number of instances (goroutines numbered below `n`), each
calling `Next` again and again, the scheduler picking who makes the next step (lock, begin of the map access, end of
the map access, unlock) for as long as it likes — with the mutex (the current source: `Bridge.C19.mpIterNext_locked`,
`mpIterRand_locked`) no map access ever begins while another goroutine is inside one: `[next]` in the preprocessors
of several instances cannot be the `fatal error: concurrent map writes` that no recover() catches. -/
theorem C19_iterator_interleaving (n : Nat) (sched : List Nat) :
    (iterRun true n {} sched).fatal = false ∧
    Gen.RespGuard.mpIterNext.take 2 = ["v0.mx.Lock()", "defer v0.mx.Unlock()"] ∧
    Gen.RespGuard.mpIterRand.take 2 = ["v0.mx.Lock()", "defer v0.mx.Unlock()"] :=
  ⟨(iterRun_inv n sched {} iterInv_init).1, Bridge.C19.mpIterNext_locked, Bridge.C19.mpIterRand_locked⟩

/-- …and the mutex is NEEDED: without it two instances suffice (the second begins its map access while the first is
inside) — right for one participant, fatal for two. -/
theorem C19_iterator_needs_mutex : ∃ n sched, (iterRun false n {} sched).fatal = true :=
  ⟨2, [0, 0, 1, 1], by decide⟩

/-- lib/netutil's DNS-caching dialer is TRANSPARENT for what the peer does: for every sequence of dial outcomes of a
run (refused, connected, in any order, before and after the cache is filled) the guns see exactly the outcomes of the
underlying dials, nothing panics (the remote address of a connected tcp connection is a `*net.TCPAddr`; for every
`DialFacts` with that fact), a failed dial remembers nothing and the cache is filled by the first successful one. -/
theorem C19_dns_cache_transparent :
    (∀ (cached : Bool) (os : List DialOutcome),
      dnsDials {} cached os = .ok (os, cached || os.any (· == .connected))) ∧
    (∀ (f : DialFacts) (cached : Bool) (o : DialOutcome), f.remoteIsTCP = true → ∃ r, dnsDial f cached o = .ok r) ∧
    (∀ f : DialFacts, dnsDial f false .refused = .ok (.refused, false)) :=
  ⟨dnsDials_transparent, dnsDial_ok, fun _ => rfl⟩

/-- the order of the two independent-looking operations of the dialer matters: remembering the address BEFORE looking
at the error of the dial reads the remote address of a connection that does not exist — every refused connection of a
host-name target would be a panic inside `Shoot`. -/
theorem C19_dns_cache_order_matters :
    dnsDialAddFirst {} false .refused = .panic "invalid memory address or nil pointer dereference" := rfl

/-- Who owns the pooled sample of a scenario step, for EVERY step list and every outcome of every step (http/scenario
and http2/scenario, outside the documented fatal configuration): the sample of every entered step is acquired, touched
only while the gun owns it, handed to the aggregator EXACTLY once and never touched afterwards (the phout aggregator
returns it to the pool; another instance acquires it), and the number of hand-overs is the number of samples of the
shot.  Tie: `Bridge.C19.scenarioReportLastUse_eq` (the Report of `shootStep` is its last use of the sample and no error
can be returned after it), `scenarioReportCalls_eq`, `scenarioShootLoop_eq`, `scenarioReportErrStmts_eq`. -/
theorem C19_sample_ownership (h2 : Bool) (scn : String) (steps : List (StepCfg × H2Facts × Reply))
    (hf : (GunShot.scenario h2 scn steps).documentedFatal = false) :
    let ss : List Step := steps.map fun (c, f, r) => { name := c.name, outcome := stepOutcomeH2 h2 f c r }
    (∀ tr ∈ scenarioOps false ss, wellOwned tr = true) ∧
    ((scenarioOps false ss).map reportsIn).sum = (GunShot.scenario h2 scn steps).run.reports.length ∧
    Gen.RespGuard.scenarioReportLastUse = true := by
  intro ss
  have hp : (shootScenario scn ss).panicked = false := by
    have := run_panicked_iff (GunShot.scenario h2 scn steps)
    rw [hf] at this
    exact this
  obtain ⟨h1, h2'⟩ := scenarioOps_wellOwned scn ss hp
  exact ⟨h1, h2', Bridge.C19.scenarioReportLastUse_eq⟩

/-- the seeded order (SetProtoCode / Report moved in front of the postprocessor loop) is NOT well owned: a step whose
postprocessor refuses the response hands its sample over twice and writes to it in between. -/
theorem C19_report_before_postprocessors_counterexample :
    ∀ st, wellOwned (stepOps true (.received st .err)) = false ∧ reportsIn (stepOps true (.received st .err)) = 2 :=
  fun _ => ⟨rfl, rfl⟩

/-! ## the defects of the tree as found (what the two fixes repair) -/

/-- `substr(5)` on a 3-byte header value: the closure as found slices `in[3:5]` and panics. -/
theorem C19_substr_as_found_panics :
    substrUnclamped 5 0 ['a', 'b', 'c'] = .panic "slice bounds out of range" := by decide

/-- …and through the engine's eyes: with the code as found a RESPONSE (a short header value) — or a scalar xpath
expression on any response — panics inside `Shoot`, and the instance run fails the pool. -/
theorem C19_as_found_counterexample :
    (∃ (r : Resp) (pps : List PP), runPPsAsFound r pps = .panic) ∧
    (∀ r : Resp, runPPsAsFound r [.varXpath [.scalar]] = .panic) ∧
    (instanceRun [{ reports := [], panicked := true }]).result = .poolFailed := by
  refine ⟨⟨⟨200, fun _ => ['a', 'b', 'c'], 0, fun _ => false, false, fun _ => false⟩,
      [.varHeader [⟨"X-Val", some [.substr 5 0]⟩]], by decide⟩, ?_, by decide⟩
  intro r
  simp [runPPsAsFound, runPPAsFound, xpathUnchecked]

/-- The emptiness guard of `calcIndex` has to stand in front of the KEYWORD branches: with the guard in the numeric
branch only (in front of the modulo it seems to be there for), an EMPTY list in a response — `{"items":[]}` — makes
`[next]` divide by zero, `[rand]` call `rand.Intn(0)` and `[last]` index -1, each a panic inside `Shoot`. -/
theorem C19_index_guard_needed :
    (∀ nextV randRaw : Nat,
      calcIndexGuardNumericOnly .next 0 nextV randRaw = .panic "integer divide by zero" ∧
      calcIndexGuardNumericOnly .rand 0 nextV randRaw = .panic "invalid argument to Intn" ∧
      calcIndexGuardNumericOnly .last 0 nextV randRaw = .ok (some (-1))) ∧
    (∀ k ∈ [IndexKind.next, .rand, .last],
      (getMapValueWith calcIndexGuardNumericOnly ({} : Iter) 0 [("items", .list true [])] [⟨"items", some k⟩]).isOk = false) := by
  refine ⟨calcIndexGuardNumericOnly_empty, ?_⟩
  decide

/-- `randString` as found (before fixes/C19-randstring-cap.diff) has no bound on its length: a digit string the peer
sends (a header value stored by var/header, handed to `randString(request.<step>.postprocessor.<var>)` by the next
step's preprocessor) is a length `make([]rune, n)` refuses — a panic inside `Shoot`, and the pool fails. -/
theorem C19_randString_as_found_panics :
    randString none (.str "99999999999999999") = .panic "makeslice: len out of range" ∧
    (shootScenarioV none false "s" {}
      [{ cfg := ⟨"a", false, []⟩, reply := .full ⟨200, fun _ => [], 0, fun _ => false, false, fun _ => false⟩,
         post := [("v", .str "99999999999999999")] },
       { cfg := ⟨"b", false, []⟩, reply := .full ⟨200, fun _ => [], 0, fun _ => false, false, fun _ => false⟩,
         pre := [("x", .call .randString [⟨[⟨"request", none⟩, ⟨"a", none⟩, ⟨"postprocessor", none⟩, ⟨"v", none⟩],
                                          "request.a.postprocessor.v", {}⟩])] }]).panicked = true ∧
    (instanceRun [{ reports := [⟨"s.a", 0, 200, 0⟩], panicked := true }]).result = .poolFailed := by
  refine ⟨randString_as_found_panics, by decide, by decide⟩

/-! ## non-vacuity -/

example : substr 5 0 ['a', 'b', 'c'] = .ok [] := by decide
-- C19_substr_no_overflow at the extreme arguments: substr(MinInt64, MaxInt64) on a 3-byte value is the whole value
example : substr (-9223372036854775808) 9223372036854775807 "abc".toList = .ok "abc".toList := by decide
example : substr (-2) 0 "abcdef".toList = .ok ['e', 'f'] := by decide
example : substr 5 3 "abcdefgh".toList = .ok ['d', 'e'] := by decide
example : substr (-100) 100 "abc".toList = .ok ['a', 'b', 'c'] := by decide
example : substr 0 (-100) "abc".toList = .ok [] := by decide
example : applyChain [.lower, .replace ['='] [], .substr 6 0] "Basic Ym9=".toList = .ok "ym9".toList := by decide
-- a scenario against a target whose second answer carries a short header: the step completes, the run goes on
example : (GunShot.scenario false "s"
    [(⟨"a", false, []⟩, {}, .full ⟨200, fun _ => [], 0, fun _ => false, false, fun _ => false⟩),
     (⟨"b", false, [.varHeader [⟨"X-Val", some [.substr 5 0]⟩]]⟩, {}, .full ⟨404, fun _ => ['a','b','c'], 0, fun _ => false, false, fun _ => false⟩)]).run
    = { reports := [⟨"s.a", 0, 200, 0⟩, ⟨"s.b", 0, 404, 0⟩], panicked := false } := by decide
-- the documented fatal case
example : (GunShot.http true (.ofAlpnAlert true none) ⟨false, 2, true⟩ "t" 1 "/" (.noResponse .other)).documentedFatal = true := rfl
example : (instanceRun [(GunShot.http true (.ofAlpnAlert true none) ⟨false, 2, true⟩ "t" 1 "/" (.noResponse .other)).run]).result = .poolFailed := by decide
-- a refused connection is not fatal for the http2 gun
example : (GunShot.http true {} ⟨false, 2, true⟩ "t" 1 "/" (.noResponse (.opError (.syscallError (.errno 111))))).run
    = { reports := [⟨"t", 1, 0, 111⟩], panicked := false } := by decide

-- C19_http_failure_is_visible: a refused connection seen by the http2 gun
example : Proofs.C10.ErrnoNonzero (.opError (.syscallError (.errno 111))) := by simp [Proofs.C10.ErrnoNonzero]
-- C19_scenario_samples: a three-step scenario whose second response fails its assertion: two samples, the third step is not entered
example : (GunShot.scenario true "s"
    [(⟨"a", false, [.varJsonpath ["x"]]⟩, {}, .full ⟨201, fun _ => [], 2, fun _ => false, true, fun _ => true⟩),
     (⟨"b", false, [.assertResponse { statusCode := 200 }]⟩, {}, .full ⟨503, fun _ => [], 0, fun _ => false, false, fun _ => false⟩),
     (⟨"c", false, []⟩, {}, .full ⟨200, fun _ => [], 0, fun _ => false, false, fun _ => false⟩)]).run.reports
    = [⟨"s.a", 0, 201, 0⟩, ⟨"s.b|__EMPTY__", 0, 0, 999⟩] := by decide
example : stepCompleted ⟨"a", false, [.varXpath [.nodeSet]]⟩ (.full ⟨404, fun _ => [], 0, fun _ => false, false, fun _ => false⟩) = true := by decide
example : stepCompleted ⟨"a", false, [.varXpath [.scalar]]⟩ (.full ⟨200, fun _ => [], 0, fun _ => false, false, fun _ => false⟩) = false := by decide
-- C19_grpc_samples: Internal (13, e.g. a response message that does not unmarshal) is reported as 500; without an
-- assertion the scenario goes on with the next call, with one it stops there
example : (GunShot.grpcScenario "g" [(⟨"t0", .callable, []⟩, ⟨13, fun _ => false⟩), (⟨"t1", .callable, []⟩, ⟨0, fun _ => true⟩)]).run.reports
    = [⟨"g.t0", 0, 500, 0⟩, ⟨"g.t1", 0, 200, 0⟩] := by decide
example : (GunShot.grpcScenario "g" [(⟨"t0", .callable, [{ statusCode := 200 }]⟩, ⟨13, fun _ => false⟩), (⟨"t1", .callable, []⟩, ⟨0, fun _ => true⟩)]).run.reports
    = [⟨"g.t0", 0, 500, 0⟩] := by decide
-- C19_pool: three instances, one of them idle; 404s, a reset and a truncated body between them
example : poolResult ([[GunShot.http false {} ⟨false, 2, true⟩ "a" 1 "/" (.noResponse .other)], [],
    [GunShot.grpc "g" (.invoked 14), GunShot.http false {} ⟨false, 2, true⟩ "b" 2 "/" (.brokenBody 200 .other)]].map (·.map GunShot.run))
    = .finished := by decide
example : poolResult ([[GunShot.grpc "g" (.invoked 0)], [GunShot.http true { tls := none } ⟨false, 2, true⟩ "t" 1 "/"
    (.full ⟨200, fun _ => [], 0, fun _ => false, false, fun _ => false⟩)]].map (·.map GunShot.run)) = .poolFailed := by decide
-- C19_documented_fatal_iff: http/1.1 negotiated; h2 negotiated but not mutually; plain TCP; and the good case
example : (GunShot.http true { tls := some ("http/1.1", true) } ⟨false, 2, true⟩ "t" 1 "/" (.brokenBody 200 .other)).documentedFatal = true := by decide
example : (GunShot.http true { tls := some ("h2", false) } ⟨false, 2, true⟩ "t" 1 "/" (.brokenBody 200 .other)).documentedFatal = true := by decide
example : (GunShot.http true { tls := some ("h2", true) } ⟨false, 2, true⟩ "t" 1 "/" (.brokenBody 500 .other)).documentedFatal = false := by decide
example : (GunShot.http false (.ofAlpnAlert true none) ⟨false, 2, true⟩ "t" 1 "/" (.noResponse .other)).documentedFatal = false := by decide
-- the http2/scenario gun against a TLS peer without h2: the first request that is sent is fatal, nothing is reported
example : (GunShot.scenario true "s" [(⟨"a", false, []⟩, .ofAlpnAlert true none, .noResponse .other), (⟨"b", false, []⟩, .ofAlpnAlert true none, .noResponse .other)]).run
    = { reports := [], panicked := true } := by decide
example : (GunShot.scenario true "s" [(⟨"a", true, []⟩, .ofAlpnAlert true none, .noResponse .other), (⟨"b", false, []⟩, .ofAlpnAlert true none, .noResponse .other)]).documentedFatal = false := by decide
-- a scenario that meets SEVERAL connections (keep-alives off): the first step over h2, the second over a connection of
-- a backend without ALPN: one sample, then the documented fatal condition
example : (GunShot.scenario true "s"
    [(⟨"a", false, []⟩, {}, .full ⟨200, fun _ => [], 0, fun _ => false, false, fun _ => false⟩),
     (⟨"b", false, []⟩, { tls := some ("", false) }, .full ⟨200, fun _ => [], 0, fun _ => false, false, fun _ => false⟩)]).run
    = { reports := [⟨"s.a", 0, 200, 0⟩], panicked := true } := by decide
-- … and with a TLS alert other than no_application_protocol on the second connection: two samples, the run goes on
example : (GunShot.scenario true "s"
    [(⟨"a", false, []⟩, {}, .full ⟨200, fun _ => [], 0, fun _ => false, false, fun _ => false⟩),
     (⟨"b", false, []⟩, { err := alertErr 2 80 }, .noResponse .other)]).run
    = { reports := [⟨"s.a", 0, 200, 0⟩, ⟨"s.b|__EMPTY__", 0, 0, 999⟩], panicked := false } := by decide
-- the regenerated index arithmetic on the defect's witness: `in[3:3]`, not `in[3:5]`
example : Gen.RespGuard.substrIdx 5 0 3 = (3, 3) := by decide
example : Gen.RespGuard.sizeRejects ">" 10 3 = some true := by decide
example : Gen.RespGuard.sizeRejects "~" 10 3 = none := by decide

-- C19_tls_alert_fatal_iff: internal_error is an ordinary failure, no_application_protocol is the fatal one, the same
-- description at warning level is not
example : (alertErr 2 80).panics = false ∧ (alertErr 2 120).panics = true ∧ (alertErr 1 120).panics = false ∧
    (alertErr 2 0).panics = false ∧ (alertErr 3 120).panics = false := by decide
-- C19_connection_plan: the first handshake meets internal_error, the second a reset, then an h2 connection serves
-- the rest (kept alive): three requests, three samples (two failures and the 503 of the target)
example : (instanceRun (((connShots false .h2 false [.fails (alertErr 2 80), .fails {}] [.noResponse .other, .noResponse .other,
      .full ⟨503, fun _ => [], 0, fun _ => false, false, fun _ => false⟩]).map
    fun (f, r) => GunShot.http true f ⟨false, 2, true⟩ "t" 7 "/" r).map GunShot.run)).samples
    = [⟨"t", 7, 0, 999⟩, ⟨"t", 7, 0, 999⟩, ⟨"t", 7, 503, 0⟩] := by decide
example : ConnFate.fatal (.fails (alertErr 2 80)) = false ∧ ConnFate.fatal (.noH2 (some ("", false))) = true ∧
    ConnFate.fatal (.fails (alertErr 2 120)) = true := by decide
-- with keep-alives disabled the fourth request dials again and meets the backend without ALPN: documented fatal
example : ((connShots true .h2 false [.h2, .h2, .fails {}, .noH2 (some ("", false))] (List.replicate 4
      (.full ⟨200, fun _ => [], 0, fun _ => false, false, fun _ => false⟩))).map
    fun (f, r) => (GunShot.http true f ⟨false, 2, true⟩ "t" 7 "/" r).documentedFatal) = [false, false, false, true] := by decide
-- the regenerated condition of the error branch
example : Gen.RespGuard.doErrPanics true true false = false ∧ Gen.RespGuard.doErrPanics true true true = true := by decide

-- C19_connection_plan_scenario: two shots of a two-step scenario, one connection per request: the second request of
-- the first shot meets a reset, the second shot runs over good connections: 1 + 1 (failed step) + 2 samples
example : (instanceRun ((scenarioShotsOverConns true .h2 true "s"
      [(⟨"a", false, []⟩, .full ⟨200, fun _ => [], 0, fun _ => false, false, fun _ => false⟩),
       (⟨"b", false, []⟩, .full ⟨404, fun _ => [], 0, fun _ => false, false, fun _ => false⟩)] 2 false
      [.h2, .fails {}]).map GunShot.run)).samples
    = [⟨"s.a", 0, 200, 0⟩, ⟨"s.b|__EMPTY__", 0, 0, 999⟩, ⟨"s.a", 0, 200, 0⟩, ⟨"s.b", 0, 404, 0⟩] := by decide

-- index kinds over lists of length 0, 1, n
example : calcIndex .next 3 7 0 = .ok (some 1) ∧ calcIndex .next 0 7 0 = .ok none ∧ calcIndex .last 1 0 0 = .ok (some 0) ∧
    calcIndex (.num (-1)) 3 0 0 = .ok (some 2) ∧ calcIndex (.num 5) 3 0 0 = .ok (some 2) ∧ calcIndex .rand 4 0 11 = .ok (some 3) ∧
    calcIndex .rand 0 0 11 = .ok none ∧ calcIndex .bad 3 0 0 = .ok none := by decide
example : Gen.RespGuard.calcIndex "next" none 0 0 0 = .ok none ∧ Gen.RespGuard.calcIndex "-7" (some (-7)) 3 0 0 = .ok (some 2) := by decide
-- a two-step scenario: the first response stores an EMPTY list, the second step's preprocessor takes `v[next]`:
-- one completed sample, one failed step, no panic; with one element the second step is sent
example : shootScenarioV (some Gen.RespGuard.maxRandStringLength) false "s" {}
      [{ cfg := ⟨"a", false, []⟩, reply := .full ⟨200, fun _ => [], 0, fun _ => false, false, fun _ => false⟩,
         post := [("v", .list true [])] },
       { cfg := ⟨"b", false, []⟩, reply := .full ⟨404, fun _ => [], 0, fun _ => false, false, fun _ => false⟩,
         pre := [("x", .path [⟨"request", none⟩, ⟨"a", none⟩, ⟨"postprocessor", none⟩, ⟨"v", some .next⟩] {})] }]
    = { reports := [⟨"s.a", 0, 200, 0⟩, ⟨"s.b|__EMPTY__", 0, 0, 999⟩], panicked := false } := by decide
example : shootScenarioV (some Gen.RespGuard.maxRandStringLength) false "s" {}
      [{ cfg := ⟨"a", false, []⟩, reply := .full ⟨200, fun _ => [], 0, fun _ => false, false, fun _ => false⟩,
         post := [("v", .list true [.str "e0"])] },
       { cfg := ⟨"b", false, []⟩, reply := .full ⟨404, fun _ => [], 0, fun _ => false, false, fun _ => false⟩,
         pre := [("x", .path [⟨"request", none⟩, ⟨"a", none⟩, ⟨"postprocessor", none⟩, ⟨"v", some .last⟩] {})] }]
    = { reports := [⟨"s.a", 0, 200, 0⟩, ⟨"s.b", 0, 404, 0⟩], panicked := false } := by decide
-- the repaired randString: the same digit string is an error, a small one a string
example : randString (some Gen.RespGuard.maxRandStringLength) (.str "99999999999999999") = .ok false ∧
    randString (some Gen.RespGuard.maxRandStringLength) (.str "12") = .ok true ∧
    randString (some Gen.RespGuard.maxRandStringLength) (.other "1.5" none) = .ok false := by decide
-- C19_grpc_scenario_vars: the first call returns a message without the repeated field (an empty list), the second call's
-- preprocessor takes `result[rand]`: two samples, the second with code 0; nothing panics
example : shootGrpcScenarioV (some Gen.RespGuard.maxRandStringLength) "g" {}
      [{ name := "c0", cfg := ⟨"t0", .callable, []⟩, reply := ⟨0, fun _ => true⟩, post := some [] },
       { name := "c1", cfg := ⟨"t1", .callable, []⟩, reply := ⟨0, fun _ => true⟩,
         pre := [("x", .path [⟨"request", none⟩, ⟨"c0", none⟩, ⟨"postprocessor", none⟩, ⟨"result", some .rand⟩] {})] }]
    = { reports := [⟨"g.t0", 0, 200, 0⟩, ⟨"g.t1", 0, 0, 0⟩], panicked := false } := by decide

-- C19_discard_overflow: a slow first answer makes the second token overdue; with discard_overflow it is
-- reported as ONE discarded sample, the third shot is taken again
example : (instanceRunSched true (tokensOf
    [(false, .grpc "a" (.invoked 0)), (true, .grpc "b" (.invoked 5)), (false, .grpc "c" (.invoked 14))])).samples =
    [⟨"a", 0, 200, 0⟩, ⟨"discarded", 0, 0, 777⟩, ⟨"c", 0, 503, 0⟩] := by decide
-- … and without it all three shots are taken
example : ((instanceRunSched false (tokensOf
    [(false, .grpc "a" (.invoked 0)), (true, .grpc "b" (.invoked 5)), (false, .grpc "c" (.invoked 14))])).samples).length = 3 := by decide
-- C19_iterator_interleaving: three instances, an interleaving in which two of them are blocked in Lock() for a while
example : (iterRun true 3 {} [0, 1, 2, 0, 1, 0, 2, 0, 1, 1, 1, 1, 2, 2, 2, 2]).handed.map (·.2) = [2, 1, 0] := by decide
-- C19_dns_cache_transparent: refused, refused, connected (fills the cache), refused through the cached address
example : dnsDials {} false [.refused, .refused, .connected, .refused] =
    .ok ([.refused, .refused, .connected, .refused], true) := by decide
-- C19_sample_ownership: a failing assertion on the second step
example : scenarioOps false [⟨"a", .received 200 .ok⟩, ⟨"b", .received 200 .err⟩, ⟨"c", .received 200 .ok⟩] =
    [[.acquire, .touch, .touch, .report], [.acquire, .touch, .touch, .touch, .touch, .report]] := by decide

-- C19_discard_only_when_late: due at 1 s, asked for at 3.5 s (the previous answer took that long): overdue; at 2.9 s: not
example : (tokenAt 1000000000 0 3500000000 {reports := []}).slowDown = true ∧
    (tokenAt 1000000000 0 2900000000 {reports := []}).slowDown = false := by decide

/-! ## what a slow answer costs — composition with the waiter of the current source

`Gen.Waiter` (gen area `waiter`, owned by C04) regenerates `(*Waiter).Wait`, `IsSlowDown` and one pass of the loop of
`instance.Run` as Lean FUNCTIONS from core/coreutil/waiter.go and core/engine/instance.go; `Bridge.Waiter` proves them equal
to C04's model. The theorem below is stated over those definitions (imported read-only), not over a copy. -/

/-- A slow answer costs exactly the tokens the instance is late for, never the ones after them. For the waiter and the
loop of the CURRENT source (conjuncts 1-3: the regenerated functions are C04's model, the `discarded` sample of this model
carries the regenerated constants), EVERY waiter state, every token and every clock reading:
* the `overdue` a call of `Wait` leaves behind is a function of the token, the cached reading and the clock alone — what
  the waiter remembered of EARLIER tokens (a late one before) is not an argument (conjunct 4): state that survived from
  one token to the next would make one slow answer cost every later shot;
* with a clock that does not run backwards the token is found overdue exactly when the instance asks for it
  `MaxOverdueDuration` or more after its time (conjunct 5);
* for every history of passes of the loop (any tokens, response times, cancellations, `ClockOK`): a `discarded` sample is
  reported only with `discard_overflow` on and only for a token that is `MaxOverdueDuration` late at that moment
  (conjunct 6) — a token asked for in time is SHOT, whatever the target did to the requests before it;
* the samples the aggregator receives for the whole loop are, token by token, the samples of the token's shot or the one
  `discarded` sample (`tokenSamples`), and the loop is C19's `instanceRunSched` on these tokens: all theorems about it
  (`C19_discard_overflow`) apply to the loop of the current source (conjuncts 7, 8). -/
theorem C19_slow_answer_costs_only_late_tokens :
    (∀ (w : Model.C04.Waiter) (e : Model.C04.Env),
      Gen.Waiter.Wait w e = ((Model.C04.wait w e).w, (Model.C04.wait w e).ok)) ∧
    (∀ (d : Bool) (w : Model.C04.Waiter) (it : Model.C04.Iter),
      Gen.Waiter.iteration d w it = Model.C04.iteration .fresh d w it) ∧
    (discardedSample.tags = Gen.Waiter.DiscardedShootTag ∧ (discardedSample.net : Int) = Gen.Waiter.DiscardedShootCodeError ∧
      maxOverdue = Gen.Waiter.MaxOverdueDuration) ∧
    (∀ (w : Model.C04.Waiter) (e : Model.C04.Env), (Gen.Waiter.Wait w e).1.overdue = R6.overdueAfter w.lastNow e) ∧
    (∀ (w : Model.C04.Waiter) (e : Model.C04.Env) (next : Int), e.ctxDone = false → e.tok = some next → w.lastNow ≤ e.now →
      (Gen.Waiter.IsSlowDown (Gen.Waiter.Wait w e).1 false = true ↔ e.now - next ≥ Gen.Waiter.MaxOverdueDuration)) ∧
    (∀ (d : Bool) (w : Model.C04.Waiter) (h : List Model.C04.Iter), Proofs.C04.ClockOK w h →
      ∀ it s, Model.C04.Ev.discard it s ∈ (Model.C04.runLoop .fresh d w h).1 →
        d = true ∧ ∃ next, it.env.tok = some next ∧ Gen.Waiter.MaxOverdueDuration ≤ it.env.ret - next) ∧
    (∀ (shotOf : Model.C04.Iter → ShotResult) (d : Bool) (w : Model.C04.Waiter) (h : List Model.C04.Iter),
      R6.samplesOfEvents shotOf (Model.C04.runLoop .fresh d w h).1 =
        ((R6.drawnTokens shotOf w h).map (tokenSamples d)).flatten) ∧
    (∀ (shotOf : Model.C04.Iter → ShotResult) (d : Bool) (w : Model.C04.Waiter) (h : List Model.C04.Iter),
      (∀ t ∈ R6.drawnTokens shotOf w h, shootCond d t.slowDown = true → t.shot.panicked = false) →
      (instanceRunSched d (R6.drawnTokens shotOf w h)).result = .finished ∧
      (instanceRunSched d (R6.drawnTokens shotOf w h)).samples =
        R6.samplesOfEvents shotOf (Model.C04.runLoop .fresh d w h).1) := by
  refine ⟨Bridge.Waiter.Wait_eq, Bridge.Waiter.iteration_eq, ⟨rfl, rfl, rfl⟩, ?_, ?_, ?_, R6.samples_eq, ?_⟩
  · intro w e
    rw [Bridge.Waiter.Wait_eq]
    exact R6.wait_overdue w e
  · intro w e next hc ht hl
    rw [Bridge.Waiter.IsSlowDown_eq, Bridge.Waiter.Wait_eq, Bridge.Waiter.MaxOverdueDuration_eq]
    simp only [Model.C04.isSlowDown, Model.C04.slowCond, R6.wait_overdue, R6.overdueAfter_eq w.lastNow e next hc ht]
    have := isSlowDown_iff next w.lastNow e.now hl
    simp only [isSlowDown, maxOverdue] at this
    simpa [Model.C04.maxOverdue] using this
  · intro d w h hc it s hev
    rw [Bridge.Waiter.MaxOverdueDuration_eq]
    exact R6.discard_only_late d w h hc it s hev
  · intro shotOf d w h hp
    have := instanceRunSched_all d (R6.drawnTokens shotOf w h) (R6.drawnTokens_waitOk shotOf w h) hp
    exact ⟨this.1, by rw [this.2.2, R6.samples_eq]⟩

/-- the history behind the seeded change C19-r5-3, as the model sees it: the first answer takes 2.7 s, so the second
token (due at once) is overdue and dropped; the third is due at 3.0 s, the instance asks for it at 2.7 s, sleeps, and
SHOOTS it. (All times in ns after an instant well after year 1.) -/
def r6Demo : List Model.C04.Iter :=
  let t : Int := 1700000000000000000
  [ { env := { tok := some t, pick := t, now := t, arm := t, ret := t }, dur := 2700000000 },
    { env := { tok := some t, pick := t + 2700000000, now := t + 2700000000, arm := t + 2700000000, ret := t + 2700000000 } },
    { env := { tok := some (t + 3000000000), pick := t + 2700000000, now := t + 2700000000, arm := t + 2700000000,
               ret := t + 3000000000 } } ]

-- C19_slow_answer_costs_only_late_tokens: the hypotheses hold of a non-trivial history (a late token followed by one in
-- the future), its second token is dropped, its third is shot
example : Proofs.C04.ClockOK {} r6Demo ∧
    ((Model.C04.runLoop .fresh true {} r6Demo).1.map Model.C04.Ev.isShoot) = [true, false, true] ∧
    (R6.drawnTokens (fun _ => { reports := [] }) {} r6Demo).map (·.slowDown) = [false, true, false] := by decide

/-- the seeded change C19-r5-3 as a model: `Wait` of the current source except that the overdue is NOT reset in front of
the timer wait (a token in the future leaves the overdue of the last late token behind) -/
def waitStale (w : Model.C04.Waiter) (e : Model.C04.Env) : Model.C04.Res :=
  let r := Model.C04.wait w e
  match r.path with
  | .timer | .timerCancel => { r with w := { r.w with overdue := w.overdue } }
  | _ => r

/-- the loop of `instance.Run` over that waiter (shape of `Model.C04.runLoop`; `true` = the token is shot) -/
def runStale (discard : Bool) : Model.C04.Waiter → List Model.C04.Iter → List Bool
  | _, [] => []
  | w, it :: rest =>
    if it.finished || !it.ammoOk then [] else
    let r := waitStale w it.env
    if !r.ok then runStale discard r.w rest
    else Model.C04.fires discard (Model.C04.isSlowDown r.w it.ctxDoneSlow) :: runStale discard r.w rest

/-- …and why the reset matters: with the stale overdue the history `r6Demo` (one slow answer) loses its third token —
due 300 ms AFTER the instance asks for it — and with it every later one: conjunct 6 of
`C19_slow_answer_costs_only_late_tokens` is false of that waiter. The seeded change is a proved violation, not only a
broken bridge. -/
theorem C19_stale_overdue_counterexample :
    Proofs.C04.ClockOK {} r6Demo ∧ runStale true {} r6Demo = [true, false, false] ∧
    ((Model.C04.runLoop .fresh true {} r6Demo).1.map Model.C04.Ev.isShoot) = [true, false, true] := by decide

/-- schedule → waiter → instance, over C02's model of a schedule leaf (`Model.C02.Leaf.fin`: once / const / line / step
profiles are lists of offsets) and C04's waiter of the current source: whatever the target did before, the instance never
acts on token `i` of a started profile before `start + offs[i]` — `Wait` returns true (at instant `e.ret`) only for a token
the schedule handed out, and not before its instant (clock hypotheses `EnvOK`, cached reading not ahead of the clock). A
slow target can make shots LATE (and, with discard_overflow, cost them), it cannot pull later shots forward. -/
theorem C19_shot_not_before_profile_instant (offs : List Int) (dur : Int) (i : Nat) (start now : Int)
    (l' : Model.C02.Leaf) (tx : Int) (w : Model.C04.Waiter) (e : Model.C04.Env)
    (hn : Model.C02.Leaf.next (.fin offs dur i (some start)) now = .ok (l', tx, true))
    (htok : e.tok = some tx) (hok : Proofs.C04.EnvOK e) (hinv : w.lastNow ≤ e.now)
    (h : (Gen.Waiter.Wait w e).2 = true) :
    ∃ o, offs[i]? = some o ∧ tx = start + o ∧ start + o ≤ e.ret := by
  rw [Bridge.Waiter.Wait_eq] at h
  obtain ⟨next, h1, h2, _⟩ := Proofs.C04.waitV_ok .fresh w e hok hinv h
  rw [htok] at h1
  cases h1
  unfold Model.C02.Leaf.next at hn
  cases ho : offs[i]? with
  | none => simp [ho] at hn
  | some o =>
    simp [ho] at hn
    exact ⟨o, rfl, hn.2.symm, by omega⟩

-- C19_shot_not_before_profile_instant: token 1 of const 2/s (offsets 0, 500 ms), started at t = 1.7e18, asked for 100 ms early
example :
    Model.C02.Leaf.next (.fin [0, 500000000] 1000000000 1 (some 1700000000000000000)) 1700000000000000000 =
      .ok (.fin [0, 500000000] 1000000000 2 (some 1700000000000000000), 1700000000500000000, true) ∧
    Proofs.C04.EnvOK { tok := some 1700000000500000000, now := 1700000000400000000, arm := 1700000000400000000,
                       ret := 1700000000500000000 } ∧
    (Gen.Waiter.Wait {} { tok := some 1700000000500000000, now := 1700000000400000000, arm := 1700000000400000000,
                          ret := 1700000000500000000 }).2 = true :=
  ⟨by rfl, by decide, by decide⟩

end Pandora.Props.C19
