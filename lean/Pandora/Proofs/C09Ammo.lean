/-
C09 — COMPOSITION with C07 (ammo decoding fidelity).

C07's model reads the BYTES of an ammo file (`Pandora.Model.C07.uriPassLim`, `uripostPass`: bufio line reading, TrimSpace,
`[k: v]` lines through util.DecodeHeader, the URL/tag cut, size-prefixed bodies) and is tied to decoders/uri.go, uripost.go by its
own regenerated area (`ammodec`) and bridge lemmas. C09's model starts where the decoder calls `Ammo.Setup`. This file joins the
two over C07's definitions (imported read-only), so that the end-to-end statement "file bytes → what `Client.Do` is handed"
does not assume the decoder's behaviour as a hypothesis:

* `toStr`, `toHdr` : C07's bytes / single-valued header maps as C09's strings / http.Header;
* `canonKey_eq` : C07's CanonicalMIMEHeaderKey model IS C09's (`toStr (C07.canonKey k) = canon (toStr k)`, all keys);
* `toHdr_hset` : C07's `http.Header.Set` IS C09's;
* `uriPass_ok`, `uripostPass_ok` : every ammo of a pass carries a well-formed header map (canonical, distinct keys), method GET / POST.
-/
import Pandora.Model.C07
import Pandora.Proofs.C09

namespace Pandora.Proofs.C09R6
open Pandora.Model Pandora.Model.C09 Pandora.Proofs.C09

/-- a C07 byte string as a C09 string -/
def toStr (b : C07.Bytes) : Str := b.map UInt8.toNat

/-- a C07 header map (single values, insertion order) as an http.Header of C09 -/
def toHdr (h : C07.Hdrs) : Hdr := h.map fun kv => (toStr kv.1, [toStr kv.2])

theorem toStr_inj {a b : C07.Bytes} (h : toStr a = toStr b) : a = b :=
  (List.map_inj_right fun _ _ h => UInt8.toNat_inj.mp h).mp h

/-! ## byte classes and the case mapping agree -/

theorem forall_uint8 (P : UInt8 → Prop) (h : ∀ n : Fin 256, P (UInt8.ofFin n)) : ∀ b, P b := by
  intro b
  have := h b.toFin
  simpa using this

theorem tok_eq : ∀ b : UInt8, C07.isTokByte b = isTokenByte b.toNat := by
  apply forall_uint8
  decide +kernel

theorem map_eq : ∀ b : UInt8, ∀ up : Bool,
    (if up then C07.upperB b else C07.lowerB b).toNat = mapByte up b.toNat := by
  apply forall_uint8
  decide +kernel

theorem dash_eq : ∀ b : UInt8, (b == 45) = (b.toNat == 45) := by
  apply forall_uint8
  decide +kernel

theorem canonAux_eq (up : Bool) (k : C07.Bytes) : toStr (C07.canonAux up k) = caseMap up (toStr k) := by
  induction k generalizing up with
  | nil => simp [C07.canonAux, caseMap, toStr]
  | cons b r ih =>
    have e := map_eq b up
    simp only [toStr, List.map_cons, C07.canonAux] at ih ⊢
    rw [caseMap_cons, ← e, ih, dash_eq]

theorem all_tok_eq (k : C07.Bytes) : k.all C07.isTokByte = (toStr k).all isTokenByte := by
  induction k with
  | nil => simp [toStr]
  | cons b r ih => simp only [toStr, List.map_cons, List.all_cons] at ih ⊢; rw [ih, tok_eq]

/-- C07's and C09's models of textproto.CanonicalMIMEHeaderKey agree on every key -/
theorem canonKey_eq (k : C07.Bytes) : toStr (C07.canonKey k) = canon (toStr k) := by
  unfold C07.canonKey canon
  by_cases h : k.all C07.isTokByte = true
  · have h' : (toStr k).all isTokenByte = true := by rw [← all_tok_eq]; exact h
    obtain ⟨j1, j2⟩ := tok_all_or _ h'
    simp only [h, if_true, j1, j2, Bool.false_eq_true, if_false]
    exact canonAux_eq true k
  · have h' : ¬ (toStr k).all isTokenByte = true := by rw [← all_tok_eq]; exact h
    simp only [h]
    by_cases h1 : (toStr k).all (fun c => isTokenByte c || c == 32) = true
    · by_cases h2 : (toStr k).any (· == 32) = true
      · simp [h1, h2]
      · exact absurd (all_tok_of _ h1 (Bool.eq_false_iff.mpr h2)) h'
    · simp [h1]

theorem canon_canonKey (k : C07.Bytes) : canon (toStr (C07.canonKey k)) = toStr (C07.canonKey k) := by
  rw [canonKey_eq, canon_idem]

/-! ## http.Header.Set / lookups agree -/

theorem toHdr_hsetRaw (h : C07.Hdrs) (k v : C07.Bytes) :
    toHdr (C07.hsetRaw h k v) = hput (toHdr h) (toStr k) [toStr v] := by
  fun_induction C07.hsetRaw h k v with
  | case1 => rfl
  | case2 => simp [toHdr, hput]
  | case3 k' v' r k v hne ih =>
    have : ¬ toStr k' = toStr k := fun c => hne (toStr_inj c)
    simpa [toHdr, hput, this] using ih

/-- C07's `http.Header.Set` is C09's -/
theorem toHdr_hset (h : C07.Hdrs) (k v : C07.Bytes) :
    toHdr (C07.hset h k v) = hset (toHdr h) (toStr k) (toStr v) := by
  simp only [C07.hset, hset, toHdr_hsetRaw, canonKey_eq]

theorem hget_toHdr (h : C07.Hdrs) (k : C07.Bytes) :
    hget (toHdr h) (toStr k) = (C07.hget h k).map fun v => [toStr v] := by
  fun_induction C07.hget h k with
  | case1 => rfl
  | case2 => simp [toHdr, hget]
  | case3 k' v' r k hne ih =>
    have : ¬ toStr k' = toStr k := fun c => hne (toStr_inj c)
    simpa [toHdr, hget, this] using ih

theorem WF_toHdr_hset {h : C07.Hdrs} (w : WF (toHdr h)) (k v : C07.Bytes) : WF (toHdr (C07.hset h k v)) := by
  rw [toHdr_hset]
  exact WF_hput w (canon_idem _) (by simp)

/-! ## every ammo of a uri pass: GET, no body, a well-formed header map -/

/-- what C09 needs to know of an ammo C07's decoder model hands to `Ammo.Setup` -/
structure AmmoOK (m : C07.Bytes) (a : C07.Ammo) : Prop where
  method : a.method = m
  wf : WF (toHdr a.hdrs)

theorem uriLine_ok (tok : C07.Bytes) (h : C07.Hdrs) (w : WF (toHdr h)) :
    match C07.uriLine tok h with
    | .skip h' => WF (toHdr h')
    | .ammo a => AmmoOK C07.getBytes a ∧ a.body = [] ∧ a.hdrs = h
    | .err _ => True := by
  unfold C07.uriLine
  cases C07.trimSpace tok with
  | nil => exact w
  | cons b r =>
    by_cases hb : b = C07.LBR
    · simp only [hb, if_true]
      cases C07.decodeHeader (C07.LBR :: r) with
      | ok kv => exact WF_toHdr_hset w _ _
      | error e => trivial
    · show (match (if b = C07.LBR then _ else _ : C07.LineRes) with | .skip h' => _ | .ammo a => _ | .err _ => _)
      rw [if_neg hb]
      exact ⟨⟨rfl, w⟩, rfl, rfl⟩

theorem uriPass_ok (lim : Option Nat) (bs : C07.Bytes) (h : C07.Hdrs) (w : WF (toHdr h)) (a : C07.Ammo)
    (ha : a ∈ (C07.uriPassLim lim bs h).1) : AmmoOK C07.getBytes a ∧ a.body = [] := by
  fun_induction C07.uriPassLim lim bs h with
  | case1 h => simp at ha
  | case2 => simp at ha
  | case3 h b r p hl h' hline ih =>
    have := uriLine_ok (C07.dropCR p.1) h w
    rw [hline] at this
    exact ih this ha
  | case4 h b r p hl a' hline q ih =>
    have := uriLine_ok (C07.dropCR p.1) h w
    rw [hline] at this
    simp only [List.mem_cons] at ha
    rcases ha with rfl | ha
    · exact ⟨this.1, this.2.1⟩
    · exact ih w ha
  | case5 => simp at ha

/-- every ammo of a uripost pass: POST, a well-formed header map -/
theorem uripostPass_ok (fixed : Bool) (bs : C07.Bytes) (h : C07.Hdrs) (w : WF (toHdr h)) (a : C07.Ammo)
    (ha : a ∈ (C07.uripostPass fixed bs h).1) : AmmoOK C07.postBytes a := by
  fun_induction C07.uripostPass fixed bs h <;> simp_all
  case case4 ih => exact ih (WF_toHdr_hset w _ _)
  case case9 ih =>
    rcases ha with rfl | ha
    · exact ⟨rfl, w⟩
    · exact ih ha

/-! ## from the decoded ammo to what `Client.Do` is handed -/

/-- the Host an ammo's header map and the option give a request without a URL host: first value of the merged map's entry -/
def mapsHost (file conf : Hdr) : Str :=
  match hget (mergeUri file conf) hostKey with
  | some (v :: _) => v
  | _ => []

/-- … which is the file's Host when the file's map has one, else the option's -/
theorem mapsHost_eq (file : Hdr) (confL : List (Str × Str)) :
    mapsHost file (confHdr confL) = match (match hget file hostKey with
        | some x => some x
        | none => hget (confHdr confL) hostKey) with
      | some (v :: _) => v
      | _ => [] := by
  unfold mapsHost
  rw [hget_mergeUri _ _ (WF_confHdr confL).canonKeys]
  cases hget file hostKey <;> cases hget (confHdr confL) hostKey <;> rfl

/-- Setup → BuildRequest (http.NewRequest + Enrich over the add-if-absent merge of uri.go / uripost.go) → Shoot, for an ammo of
C07's decoder model and ANY `headers` option: never panics; method, request-URI, body are the ammo's; every header is the
file's when the file's map has it, else the option's; Host is the URL's, else the file's, else the option's, else the target's;
scheme by `ssl`, dialed at the resolved target. -/
theorem wire_of_ammo (m : C07.Bytes) (a : C07.Ammo) (ok : AmmoOK m a) (confL : List (Str × Str)) (g : Gun) :
    ∃ r, buildAmmo (toStr a.method) (toStr a.url) (toStr a.body) (mergeUri (toHdr a.hdrs) (confHdr confL)) = some r ∧
      (shoot g r).method = (if toStr m = [] then GET else toStr m) ∧
      (shoot g r).uri = (splitURL (toStr a.url)).2 ∧ (shoot g r).body = toStr a.body ∧
      (shoot g r).dial = g.targetResolved ∧ (shoot g r).scheme = (if g.ssl then Scheme.https else Scheme.http) ∧
      (∀ n, n ≠ hostKey → hget (shoot g r).header n = match hget (toHdr a.hdrs) n with
          | some x => some x
          | none => hget (confHdr confL) n) ∧
      (shoot g r).host =
        (if (splitURL (toStr a.url)).1 ≠ [] then (splitURL (toStr a.url)).1
         else if mapsHost (toHdr a.hdrs) (confHdr confL) ≠ [] then mapsHost (toHdr a.hdrs) (confHdr confL)
         else hostWithoutPort g.target) := by
  have wconf := WF_confHdr confL
  have wm := WF_mergeUri _ _ ok.wf wconf
  obtain ⟨r, hr⟩ := enrich_no_panic (newRequest (toStr a.method) (toStr a.url) (toStr a.body)) _ wm.nonempty
  have hf := enrich_fields _ _ _ hr
  have hh := enrich_host _ _ _ wm (by simp [newRequest, hget]) hr
  refine ⟨r, hr, ?_, ?_, ?_, rfl, rfl, ?_, ?_⟩
  · simp [shoot, hf.1, newRequest, ok.method]
  · simp [shoot, hf.2.1, newRequest]
  · simp [shoot, hf.2.2.1, newRequest]
  · intro n hn
    have := enrich_header _ _ _ wm.canonKeys hr n hn
    simp only [shoot]
    rw [this]
    simp only [newRequest, hget]
    exact hget_mergeUri _ _ wconf.canonKeys n
  · have hh' : r.host = if (splitURL (toStr a.url)).1 ≠ [] then (splitURL (toStr a.url)).1
        else mapsHost (toHdr a.hdrs) (confHdr confL) := hh
    simp only [shoot, hh']
    generalize mapsHost (toHdr a.hdrs) (confHdr confL) = M
    by_cases hu : (splitURL (toStr a.url)).1 = [] <;> by_cases hM : M = [] <;> simp [hu, hM]

/-! ## http/json: C07's entity → `Ammo.Setup` arguments are C09's reading of a json entry -/

/-- the header members of a C07 entity as C09 header lines -/
def jsonLines (e : C07.Entity) : List (Str × Str) := e.headers.map fun kv => (toStr kv.1, toStr kv.2)

/-- a C07 entity as a C09 entry -/
def jsonEntry (e : C07.Entity) : Entry :=
  { method := toStr e.method, uri := toStr e.uri, host := toStr e.host, body := toStr e.body }

theorem toHdr_foldl_hset (l : List (C07.Bytes × C07.Bytes)) (h : C07.Hdrs) :
    toHdr (l.foldl (fun h kv => C07.hset h kv.1 kv.2) h) =
      commonOf (toHdr h) (l.map fun kv => (toStr kv.1, toStr kv.2)) := by
  induction l generalizing h with
  | nil => simp [commonOf]
  | cons kv r ih =>
    simp only [List.foldl_cons, List.map_cons, commonOf] at ih ⊢
    rw [ih, toHdr_hset]

theorem validMethod_eq (m : C07.Bytes) : C07.validMethod m = validMethod (toStr m) := by
  unfold C07.validMethod validMethod
  rw [all_tok_eq]
  cases m <;> simp [toStr]

/-- what C07's model hands to `Ammo.Setup` for an entity is, field by field, what C09's `buildReq .jsonline` starts from -/
theorem entityAmmo_json (e : C07.Entity) (a : C07.Ammo) (h : C07.entityAmmo e = .ok a) :
    toStr a.method = (jsonEntry e).method ∧ toStr a.url = httpPfx ++ (jsonEntry e).host ++ (jsonEntry e).uri ∧
      toStr a.body = (jsonEntry e).body ∧ toHdr a.hdrs = commonOf [] (jsonLines e) ∧
      validMethod (jsonEntry e).method = true := by
  unfold C07.entityAmmo at h
  split at h
  · rename_i hv
    injection h with h
    subst h
    refine ⟨rfl, ?_, rfl, ?_, ?_⟩
    · simp [toStr, jsonEntry, C07.httpPrefix, httpPfx]
    · exact toHdr_foldl_hset e.headers []
    · show validMethod (toStr e.method) = true
      rw [← validMethod_eq]; exact hv
  · cases h

/-- the entity is refused (ErrBadMethod) exactly when C09's `scanJson` refuses it -/
theorem entityAmmo_refused (e : C07.Entity) (err : C07.Err) (h : C07.entityAmmo e = .error err) :
    validMethod (jsonEntry e).method = false := by
  unfold C07.entityAmmo at h
  split at h
  · cases h
  · rename_i hv
    show validMethod (toStr e.method) = false
    rw [← validMethod_eq]
    exact Bool.eq_false_iff.mpr hv

end Pandora.Proofs.C09R6
