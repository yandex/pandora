/-
C06 helper lemmas: `onWaitDone` is called exactly once per pool, and for a started pool only after its tasks are
over (Model/C06PoolRun.lean).
-/
import Pandora.Model.C06PoolRun
import Pandora.Proofs.C06Engine

namespace Pandora.Proofs.C06PoolRun
open Pandora.Model.C06PoolRun Pandora.Proofs.C06Pool Pandora.Proofs.C06Engine
open Pandora.Model.C06Pool (PSt PEv)

structure RInv (ps : PoolSt) : Prop where
  pinv : PInv ps.p
  /-- a pool that has not been started has not taken a step of its tasks -/
  untouched : ps.path ≠ .started → ps.p = Pandora.Model.C06Pool.init 4
  fresh : ps.path = .fresh → ps.dones = 0
  early : ps.path = .failedEarly → ps.dones = 1
  started : ps.path = .started → ps.dones = (if ps.p.waitDone then 1 else 0)

theorem rinv_init : RInv { p := Pandora.Model.C06Pool.init 4 } := by
  refine ⟨pinv_init, fun _ => rfl, fun _ => rfl, ?_, ?_⟩ <;> intro h <;> simp at h

theorem setPool_same (f : Nat → PoolSt) (j : Nat) (x : PoolSt) : setPool f j x j = x := by simp [setPool]

/-- a property of every pool survives the replacement of one pool by a state that has it -/
theorem setPool_all {P : PoolSt → Prop} {f : Nat → PoolSt} (h : ∀ k, P (f k)) (j : Nat) {x : PoolSt} (hx : P x) :
    ∀ k, P (setPool f j x k) := by
  intro k
  unfold setPool
  split
  · exact hx
  · exact h k

theorem init_waitDone : (Pandora.Model.C06Pool.init 4).waitDone = false := rfl

theorem rinv_early {ps : PoolSt} (hk : RInv ps) (hf : ps.path = .fresh) (d : Nat) (hd : d = 1) :
    RInv { ps with path := .failedEarly, dones := ps.dones + d } := by
  refine ⟨hk.pinv, fun _ => hk.untouched (by rw [hf]; decide), ?_, ?_, ?_⟩
  · intro hh; simp at hh
  · intro _; simp [hk.fresh hf, hd]
  · intro hh; simp at hh

theorem rinv_step {st : St} (h : ∀ k, RInv (st.pools k)) (e : Ev) : ∀ k, RInv ((step Cfg.code st e).pools k) := by
  cases e with
  | warmFail j | asyncFail j =>
    simp only [step]
    split
    · next hf => exact setPool_all h j (rinv_early (h j) hf _ rfl)
    · exact h
  | asyncOk j =>
    simp only [step]
    split
    · next hf =>
      have hu := (h j).untouched (by rw [hf]; decide)
      refine setPool_all h j ⟨(h j).pinv, ?_, ?_, ?_, ?_⟩
      · intro hh; simp at hh
      · intro hh; simp at hh
      · intro hh; simp at hh
      · intro _; simp [(h j).fresh hf, hu, init_waitDone]
    · exact h
  | pool j ev =>
    simp only [step]
    split
    · next hs =>
      have hd := (h j).started hs
      refine setPool_all h j ⟨pinv_step (h j).pinv ev, fun hh => absurd hs hh, ?_, ?_, ?_⟩
      · intro hh; rw [hs] at hh; simp at hh
      · intro hh; rw [hs] at hh; simp at hh
      · intro _
        cases hw : (st.pools j).p.waitDone with
        | true =>
          have := waitDone_mono (st.pools j).p ev hw
          simp [hd, hw, this, done1]
        | false =>
          cases hw' : (Pandora.Model.C06Pool.step (st.pools j).p ev).waitDone <;> simp [hd, hw, done1]
    · exact h
  | ctxReturn j =>
    simp only [step]
    split
    · next hs =>
      refine setPool_all h j ⟨(h j).pinv, (h j).untouched, ?_, ?_, ?_⟩
      · intro hh; rw [hs.1] at hh; simp at hh
      · intro hh; rw [hs.1] at hh; simp at hh
      · intro hh; simp [(h j).started hh, Cfg.code, done1]
    · exact h

theorem rinv_run (tr : List Ev) {st : St} (h : ∀ k, RInv (st.pools k)) : ∀ k, RInv ((run Cfg.code st tr).pools k) := by
  induction tr generalizing st with
  | nil => exact h
  | cons e es ih => exact ih (rinv_step h e)

theorem rinv_dones_le {ps : PoolSt} (h : RInv ps) : ps.dones ≤ 1 := by
  cases hp : ps.path with
  | fresh => rw [h.fresh hp]; omega
  | failedEarly => rw [h.early hp]; omega
  | started => rw [h.started hp]; split <;> omega

theorem totalDones_le' (st : St) (hle : ∀ k, (st.pools k).dones ≤ 1) (n : Nat) : totalDones st n ≤ n := by
  induction n with
  | zero => simp [totalDones]
  | succ m ihm => simp only [totalDones]; have := hle m; omega

theorem totalDones_le (st : St) (h : ∀ k, RInv (st.pools k)) (n : Nat) : totalDones st n ≤ n :=
  totalDones_le' st (fun k => rinv_dones_le (h k)) n

theorem totalDones_full (st : St) (h : ∀ k, RInv (st.pools k)) (n : Nat) (hn : totalDones st n = n) :
    ∀ j, j < n → (st.pools j).dones = 1 := by
  induction n with
  | zero => intro j hj; omega
  | succ n ih =>
    simp only [totalDones] at hn
    have h1 := rinv_dones_le (h n)
    have h2 := totalDones_le st h n
    intro j hj
    by_cases hjn : j = n
    · subst hjn; omega
    · exact ih (by omega) j (by omega)

/-! ### a pool that failed early without `onWaitDone` keeps its count at zero, whatever the variant; with no pool above
one the total then stays below the number of pools -/

theorem forgotten_step (cfg : Cfg) {st : St} (j : Nat) (h : (st.pools j).path = .failedEarly ∧ (st.pools j).dones = 0)
    (e : Ev) : ((step cfg st e).pools j).path = .failedEarly ∧ ((step cfg st e).pools j).dones = 0 := by
  -- every event that does something asks its pool to be fresh or started; pool `j` is neither
  cases e with
  | warmFail i | asyncFail i | asyncOk i | pool i ev | ctxReturn i =>
    simp only [step]
    split
    · next hf =>
      by_cases hk : j = i
      · subst hk; rw [h.1] at hf; simp at hf
      · simp only [setPool, if_neg hk]; exact h
    · exact h

theorem forgotten_run (cfg : Cfg) (tr : List Ev) {st : St} (j : Nat)
    (h : (st.pools j).path = .failedEarly ∧ (st.pools j).dones = 0) :
    ((run cfg st tr).pools j).dones = 0 := by
  induction tr generalizing st with
  | nil => exact h.2
  | cons e es ih => exact ih (forgotten_step cfg j h e)

theorem totalDones_lt (st : St) (n j : Nat) (hj : j < n) (h0 : (st.pools j).dones = 0)
    (hle : ∀ k, (st.pools k).dones ≤ 1) : totalDones st n < n := by
  induction n with
  | zero => omega
  | succ n ih =>
    simp only [totalDones]
    by_cases hjn : j = n
    · subst hjn
      have := totalDones_le' st hle j
      omega
    · have := ih (by omega); have := hle n; omega

end Pandora.Proofs.C06PoolRun
