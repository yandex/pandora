/-
C08: the small-step provider machines of `Model.C08Mach` stay on the cyclic stream of the file's entries.

`Good inp n k s` — `s` is a loop state of `Provider.Run` of `inp.kind` over the file 0..n-1 in which exactly `k`
ammo have been sent.  `good_step`: from such a state one iteration either
  * offers entry `k % n` (only while every bound still allows a further ammo) and goes on in a state that is Good for `k+1`,
  * returns nil — only when `k` IS the bound `min⁺(limit, passes·n)` — or context.Canceled — only when it read a
    cancelled context,
  * or makes one of at most `tauBudget` sendless steps (LoadAmmo; the end-of-file wrap of grpc/json).
-/
import Pandora.Model.C08Mach
import Pandora.Proofs.C08Run

namespace Pandora.Proofs.C08
open Pandora.Model.C08

/-- the first `m` entries of the file 0,1,…,n-1 read over and over -/
def cycl (n m : Nat) : List Nat := (List.range m).map (· % n)

theorem cycl_succ (n m : Nat) : cycl n (m + 1) = cycl n m ++ [m % n] := by
  simp [cycl, List.range_succ]

@[simp] theorem length_cycl (n m : Nat) : (cycl n m).length = m := by simp [cycl]

@[simp] theorem cycl_zero (n : Nat) : cycl n 0 = [] := by simp [cycl]

/-- `k` sent ammo are within every bound that is present -/
def Below (b : Bounds) (n k : Nat) : Prop := (b.limit = 0 ∨ k ≤ b.limit) ∧ (b.passes = 0 ∨ k ≤ b.passes * n)

/-- … and every bound that is present allows one more -/
def Strict (b : Bounds) (n k : Nat) : Prop := (b.limit = 0 ∨ k < b.limit) ∧ (b.passes = 0 ∨ k < b.passes * n)

/-- `k = min⁺(limit, passes·n)` -/
def AtBound (b : Bounds) (n k : Nat) : Prop :=
  Below b n k ∧ ((b.limit ≠ 0 ∧ k = b.limit) ∨ (b.passes ≠ 0 ∧ k = b.passes * n))

theorem Strict.below_succ {b : Bounds} {n k : Nat} (h : Strict b n k) : Below b n (k + 1) :=
  ⟨h.1.imp id (by omega), h.2.imp id (by omega)⟩

theorem Strict.not_atBound {b : Bounds} {n k : Nat} (h : Strict b n k) : ¬ AtBound b n k := by
  intro ⟨_, h2⟩
  rcases h2 with ⟨h0, h1⟩ | ⟨h0, h1⟩
  · rcases h.1 with h | h <;> omega
  · rcases h.2 with h | h <;> omega

theorem atBound_unique {b : Bounds} {n k k' : Nat} (h : AtBound b n k) (h' : AtBound b n k') : k = k' := by
  obtain ⟨⟨b1, b2⟩, h2⟩ := h
  obtain ⟨⟨b1', b2'⟩, h2'⟩ := h'
  rcases h2 with ⟨h0, h1⟩ | ⟨h0, h1⟩ <;> rcases h2' with ⟨h0', h1'⟩ | ⟨h0', h1'⟩ <;> omega

theorem below_of_atBound_le {b : Bounds} {n k m : Nat} (hm : AtBound b n m) (h : k ≤ m) : Below b n k :=
  ⟨hm.1.1.imp id (by omega), hm.1.2.imp id (by omega)⟩

/-- `Model.C08.target … none` is the bound -/
theorem atBound_of_target (b : Bounds) (n m : Nat) (hn : 0 < n) (h : target b.limit b.passes n none = some m) :
    AtBound b n m := by
  have tg := tgt_of_target b.limit b.passes n none m hn h
  refine ⟨⟨?_, ?_⟩, ?_⟩
  · by_cases h0 : b.limit = 0
    · exact Or.inl h0
    · exact Or.inr (tg.le_limit h0)
  · by_cases h0 : b.passes = 0
    · exact Or.inl h0
    · exact Or.inr (tg.le_pass h0)
  · rcases tg.attained with h1 | h1 | h1
    · exact Or.inl h1
    · exact Or.inr h1
    · simp at h1

theorem target_none_iff (b : Bounds) (n : Nat) : target b.limit b.passes n none = none ↔ b.limit = 0 ∧ b.passes = 0 := by
  unfold target
  by_cases h : b.limit = 0 ∧ b.passes = 0 <;> simp [h]

theorem no_atBound_of_unbounded {b : Bounds} {n k : Nat} (h : b.limit = 0 ∧ b.passes = 0) : ¬ AtBound b n k := by
  intro ⟨_, h2⟩
  rcases h2 with ⟨h0, _⟩ | ⟨h0, _⟩ <;> omega

/-! ## counting in passes: `k = q * n + r` ammo after `q` passes and `r` entries -/

theorem mul_succ_le {q p n : Nat} (h : q + 1 ≤ p) : q * n + n ≤ p * n := by
  have := Nat.mul_le_mul_right n h
  rw [Nat.add_mul, Nat.one_mul] at this
  exact this

theorem streamStep_true {σ : Type} (scan : σ → ScanRes × σ) (passNum : σ → Nat) (limit : Nat) (d : σ) (k : Nat) :
    streamStep scan passNum limit true d k = .ret .canceled := by
  simp [streamStep]

theorem RStream_pass0 (n : Nat) (d : Dec) (h : RStream n 0 0 d) : d.passNumOf = 0 := by
  simp [RStream] at h; simp [Dec.passNumOf, h.2.1]

theorem RArr_pass0 (n : Nat) (hn : 0 < n) (d : ArrDec) (h : RArr n 0 0 d) : d.passNumOf = 0 := by
  simp [RArr] at h
  have : ¬ 0 = n := by omega
  simp [ArrDec.passNumOf, h.2, this]

theorem RStream_le {n q r : Nat} {d : Dec} (h : RStream n q r d) : r ≤ n := h.2.2.2
theorem RArr_le {n q r : Nat} {d : ArrDec} (h : RArr n q r d) : r ≤ n := h.2.1

theorem src_stream (st : Style) (n passes : Nat) (hn : 0 < n) :
    Src (scanStream st ⟨0, passes⟩ n) n passes (RStream n) := by
  cases st
  · exact src_eofCheck n passes hn
  · exact src_topCheck n passes hn

/-! ## LoadAmmo -/

theorem loadOf_ok (k : Kind) (n : Nat) (hn : 0 < n) : loadOf k n = some (.ok (List.range n)) := by
  have hlen : (List.range n).length = n := List.length_range
  have hs : ∀ st : Style, loadAmmo (fun b => scanStream st b n) (List.range n) (n + 2) Dec.init [] = some (.ok (List.range n)) := by
    intro st
    have src : Src (scanStream st ⟨0, 1⟩ n) (List.range n).length 1 (RStream n) := by
      rw [hlen]; exact src_stream st n 1 hn
    have h := loadAmmo_spec (fun b => scanStream st b n) (RStream n) (List.range n) src (n + 2) 0 Dec.init
      (RStream_init n) (by omega) (by rw [hlen]; omega)
    simpa using h
  have ha : loadAmmo (fun b => scanArr b n) (List.range n) (n + 2) ArrDec.init [] = some (.ok (List.range n)) := by
    have src : Src (scanArr ⟨0, 1⟩ n) (List.range n).length 1 (RArr n) := by rw [hlen]; exact src_arr n 1 hn
    have h := loadAmmo_spec (fun b => scanArr b n) (RArr n) (List.range n) src (n + 2) 0 ArrDec.init
      (RArr_init n hn) (by omega) (by rw [hlen]; omega)
    simpa using h
  cases k <;> simp only [loadOf] <;> first | exact hs _ | exact ha

/-! ## the invariant -/

def isStreamKind : Kind → Bool
  | .uri | .uripost | .raw | .jsonLines => true
  | _ => false

def isScenario : Kind → Bool
  | .httpScenario | .grpcScenario => true
  | _ => false

/-- loop state of `inp.kind` after exactly `k` sends -/
def Good (inp : Input) (n k : Nat) : PSt → Prop
  | .stream d a => a = k ∧ isStreamKind inp.kind = true ∧
      ∃ q r, RStream n q r d ∧ k = q * n + r ∧ (inp.b.passes = 0 ∨ q < inp.b.passes)
  | .arr d a => a = k ∧ inp.kind = .jsonArray ∧
      ∃ q r, RArr n q r d ∧ k = q * n + r ∧ (inp.b.passes = 0 ∨ q < inp.b.passes)
  | .unloaded => k = 0 ∧ inp.kind.isHttp = true
  | .replay ammos a => a = k ∧ ammos = List.range n ∧ (inp.kind.isHttp = true ∨ isScenario inp.kind = true)
  | .grpc s => inp.kind = .grpcJson ∧ s.ammoNum = k ∧ s.pos ≤ n ∧ 1 ≤ s.passNum ∧ k = (s.passNum - 1) * n + s.pos ∧
      (inp.b.passes = 0 ∨ s.passNum ≤ inp.b.passes)
  | .gen a r ps => inp.kind = .genericJson ∧ a = k ∧ r.pos ≤ n ∧ k = r.passesCount * n + r.pos ∧
      (inp.b.passes = 0 ∨ r.passesCount < inp.b.passes) ∧ ps = r.passesCount * n

/-- sendless iterations that may follow before the next offer / return -/
def tauBudget (n : Nat) : PSt → Nat
  | .unloaded => 1
  | .grpc s => if s.pos < n then 0 else 1
  | _ => 0

theorem good_init (inp : Input) (n : Nat) (hn : 0 < n) : Good inp n 0 (initSt inp n) := by
  unfold initSt
  cases hk : inp.kind <;> cases hp : inp.preload <;>
    simp [Good, hk, isStreamKind, isScenario, Kind.isHttp, GrpcSt.init, Mpr.init]
  all_goals first
    | exact ⟨0, 0, RStream_init n, by simp, by omega⟩
    | exact ⟨0, 0, RArr_init n hn, by simp, by omega⟩
    | omega

theorem below_zero (b : Bounds) (n : Nat) : Below b n 0 := ⟨by omega, by omega⟩

/-! ## one iteration from a Good state -/

section lift
variable {σ τ : Type} {f : σ → τ} {x : Act σ}

theorem liftAct_ret {r : RunRes} : liftAct f x = .ret r ↔ x = .ret r := by
  cases x <;> simp [liftAct]

theorem liftAct_offer {i : Nat} {t : τ} : liftAct f x = .offer i t ↔ ∃ p, x = .offer i p ∧ t = f p := by
  cases x with
  | ret r => simp [liftAct]
  | offer j p =>
    simp only [liftAct, Act.offer.injEq]
    constructor
    · rintro ⟨rfl, rfl⟩; exact ⟨p, ⟨rfl, rfl⟩, rfl⟩
    · rintro ⟨p', ⟨rfl, rfl⟩, rfl⟩; exact ⟨rfl, rfl⟩
  | tau p => simp [liftAct]

theorem liftAct_tau {t : τ} : liftAct f x = .tau t ↔ ∃ p, x = .tau p ∧ t = f p := by
  cases x with
  | ret r => simp [liftAct]
  | offer j p => simp [liftAct]
  | tau p =>
    simp only [liftAct, Act.tau.injEq]
    constructor
    · rintro rfl; exact ⟨p, rfl, rfl⟩
    · rintro ⟨p', rfl, rfl⟩; rfl
end lift

/-- what one iteration does from a state in which `k` ammo have been sent -/
structure StepOk (inp : Input) (n : Nat) (c : Bool) (k : Nat) (s : PSt) : Prop where
  ret : ∀ r, stepOf inp n c s = .ret r → (r = .nil ∧ AtBound inp.b n k) ∨ (c = true ∧ r = .canceled)
  offer : ∀ i s', stepOf inp n c s = .offer i s' → i = k % n ∧ Strict inp.b n k ∧ Good inp n (k + 1) s'
  tau : ∀ s', stepOf inp n c s = .tau s' → Good inp n k s' ∧ tauBudget n s' < tauBudget n s

/-- what `StepOk` asks of the outcome of one iteration, as a predicate on the outcome (`bud` = the state's `tauBudget`) -/
def ActOk (inp : Input) (n : Nat) (c : Bool) (k bud : Nat) : Act PSt → Prop
  | .ret r => (r = .nil ∧ AtBound inp.b n k) ∨ (c = true ∧ r = .canceled)
  | .offer i s' => i = k % n ∧ Strict inp.b n k ∧ Good inp n (k + 1) s'
  | .tau s' => Good inp n k s' ∧ tauBudget n s' < bud

theorem StepOk.of_actOk {inp : Input} {n : Nat} {c : Bool} {k : Nat} {s : PSt}
    (h : ActOk inp n c k (tauBudget n s) (stepOf inp n c s)) : StepOk inp n c k s :=
  ⟨fun _ e => by rw [e] at h; exact h, fun _ _ e => by rw [e] at h; exact h, fun _ e => by rw [e] at h; exact h⟩

/-- runFullScan over any decoder that is a `Src`, after `q` passes and `r` entries (`k = q·n + r` ammo sent); `mk` wraps
the decoder state and the counter into a provider state -/
theorem streamStep_actOk {σ : Type} (scan : σ → ScanRes × σ) (passNum : σ → Nat) (R : Nat → Nat → σ → Prop)
    (inp : Input) (n : Nat) (hn : 0 < n) (src : Src scan n inp.b.passes R) (hpn : ∀ s, R 0 0 s → passNum s = 0)
    (mk : σ × Nat → PSt) (c : Bool) (d : σ) (k q r bud : Nat) (hR : R q r d) (hr : r ≤ n) (hk : k = q * n + r)
    (hq : inp.b.passes = 0 ∨ q < inp.b.passes) (hb : Below inp.b n k)
    (hmk : ∀ d' q' r', R q' r' d' → k + 1 = q' * n + r' → (inp.b.passes = 0 ∨ q' < inp.b.passes) →
      Good inp n (k + 1) (mk (d', k + 1))) :
    ActOk inp n c k bud (liftAct mk (streamStep scan passNum inp.b.limit c d k)) := by
  unfold streamStep
  cases c
  case true => exact Or.inr ⟨rfl, rfl⟩
  simp only [Bool.false_eq_true, if_false]
  by_cases hlim : inp.b.limit ≠ 0 ∧ inp.b.limit ≤ k
  · rw [if_pos hlim]
    exact Or.inl ⟨rfl, hb, Or.inl ⟨hlim.1, by rcases hb.1 with h0 | h0 <;> omega⟩⟩
  rw [if_neg hlim]
  have hls : inp.b.limit = 0 ∨ k < inp.b.limit := by omega
  -- nothing sent and a pass completed: impossible, every pass sends `n ≥ 1` ammo
  have hk0 : ¬ (k = 0 ∧ 0 < passNum d) := by
    intro ⟨h0, h1⟩
    obtain rfl : q = 0 := by
      cases q with
      | zero => rfl
      | succ q => rw [Nat.succ_mul] at hk; omega
    obtain rfl : r = 0 := by omega
    have := hpn d hR; omega
  rw [if_neg hk0]
  by_cases hrn : r < n
  · obtain ⟨s', hs, hR'⟩ := src.next q r d hR hrn hq
    rw [hs]
    refine ⟨by rw [hk, mod_of_qr q n r hrn], ⟨hls, ?_⟩, hmk s' q (r + 1) hR' (by omega) hq⟩
    rcases hq with h0 | h0
    · exact Or.inl h0
    · right; have := mul_succ_le (n := n) (show q + 1 ≤ inp.b.passes by omega); omega
  obtain rfl : r = n := by omega
  by_cases hw : inp.b.passes = 0 ∨ q + 1 < inp.b.passes
  · obtain ⟨s', hs, hR'⟩ := src.wrap q d hR hw
    rw [hs]
    refine ⟨by rw [hk, mod_of_qn q r], ⟨hls, ?_⟩, hmk s' (q + 1) 1 hR' (by rw [hk, Nat.succ_mul]) hw⟩
    rcases hw with h0 | h0
    · exact Or.inl h0
    · right; have := mul_succ_le (n := r) (show q + 1 + 1 ≤ inp.b.passes by omega)
      rw [Nat.succ_mul] at this; omega
  · obtain ⟨s', hs⟩ := src.stop q d hR (by omega) (by omega)
    rw [hs]
    have hkpos : k ≠ 0 := by omega
    simp only [liftAct, if_neg hkpos]
    have hpq : inp.b.passes = q + 1 := by omega
    exact Or.inl ⟨rfl, hb, Or.inr ⟨by omega, by rw [hk, hpq, Nat.succ_mul]⟩⟩

theorem good_step_stream (inp : Input) (n : Nat) (hn : 0 < n) (c : Bool) (k : Nat) (d : Dec) (a : Nat)
    (hg : Good inp n k (.stream d a)) (hb : Below inp.b n k) : StepOk inp n c k (.stream d a) := by
  obtain ⟨rfl, hkind, q, r, hR, hk, hq⟩ := hg
  exact .of_actOk (streamStep_actOk _ _ (RStream n) inp n hn (src_stream (styleOf inp.kind) n inp.b.passes hn) (RStream_pass0 n) _
    c d a q r _ hR (RStream_le hR) hk hq hb fun d' q' r' hR' hk' hq' => ⟨rfl, hkind, q', r', hR', hk', hq'⟩)

theorem good_step_arr (inp : Input) (n : Nat) (hn : 0 < n) (c : Bool) (k : Nat) (d : ArrDec) (a : Nat)
    (hg : Good inp n k (.arr d a)) (hb : Below inp.b n k) : StepOk inp n c k (.arr d a) := by
  obtain ⟨rfl, hkind, q, r, hR, hk, hq⟩ := hg
  exact .of_actOk (streamStep_actOk _ _ (RArr n) inp n hn (src_arr n inp.b.passes hn) (RArr_pass0 n hn) _
    c d a q r _ hR (RArr_le hR) hk hq hb fun d' q' r' hR' hk' hq' => ⟨rfl, hkind, q', r', hR', hk', hq'⟩)

theorem good_step_unloaded (inp : Input) (n : Nat) (hn : 0 < n) (c : Bool) (k : Nat)
    (hg : Good inp n k .unloaded) : StepOk inp n c k .unloaded := by
  obtain ⟨rfl, hkind⟩ := hg
  have hlen : (List.range n).length ≠ 0 := by rw [List.length_range]; omega
  apply StepOk.of_actOk
  simp only [stepOf, loadOf_ok inp.kind n hn, if_neg hlen]
  split
  · rename_i hc; exact Or.inr ⟨hc.1, rfl⟩
  · exact ⟨⟨rfl, rfl, Or.inl hkind⟩, by simp [tauBudget]⟩

theorem good_step_replay (inp : Input) (n : Nat) (hn : 0 < n) (c : Bool) (k : Nat) (ammos : List Nat) (a : Nat)
    (hg : Good inp n k (.replay ammos a)) (hb : Below inp.b n k) : StepOk inp n c k (.replay ammos a) := by
  obtain ⟨rfl, rfl, hkind⟩ := hg
  have hget : (List.range n)[a % n]? = some (a % n) := by simp [Nat.mod_lt _ hn]
  apply StepOk.of_actOk
  simp only [stepOf, replayStep, List.length_range, hget]
  cases c
  case true => exact Or.inr ⟨rfl, rfl⟩
  simp only [Bool.false_eq_true, if_false]
  by_cases hp : inp.b.passes ≠ 0 ∧ inp.b.passes ≤ a / n
  · rw [if_pos hp]
    have : inp.b.passes * n ≤ a := (Nat.le_div_iff_mul_le hn).mp hp.2
    exact Or.inl ⟨rfl, hb, Or.inr ⟨hp.1, by rcases hb.2 with h0 | h0 <;> omega⟩⟩
  rw [if_neg hp]
  by_cases hl : inp.b.limit ≠ 0 ∧ inp.b.limit ≤ a
  · rw [if_pos hl]
    exact Or.inl ⟨rfl, hb, Or.inl ⟨hl.1, by rcases hb.1 with h0 | h0 <;> omega⟩⟩
  rw [if_neg hl]
  refine ⟨rfl, ⟨by omega, ?_⟩, rfl, rfl, hkind⟩
  by_cases h0 : inp.b.passes = 0
  · exact Or.inl h0
  · exact Or.inr ((Nat.div_lt_iff_lt_mul hn).mp (by omega))

theorem pred_mul_add (p n : Nat) (hp : 1 ≤ p) : (p - 1) * n + n = p * n := by
  obtain ⟨q, rfl⟩ : ∃ q, p = q + 1 := ⟨p - 1, by omega⟩
  simp [Nat.succ_mul]

theorem good_step_grpc (inp : Input) (n : Nat) (hn : 0 < n) (c : Bool) (k : Nat) (g : GrpcSt)
    (hg : Good inp n k (.grpc g)) (hb : Below inp.b n k) : StepOk inp n c k (.grpc g) := by
  obtain ⟨hkind, hk, hpos, hpn, hkq, hq⟩ := hg
  have hfull := pred_mul_add g.passNum n hpn
  apply StepOk.of_actOk
  simp only [stepOf, grpcStep]
  by_cases hA : g.pos < n ∧ (inp.b.limit = 0 ∨ g.ammoNum < inp.b.limit)
  · -- a line is read and offered
    rw [if_pos hA]
    refine ⟨by rw [hkq, mod_of_qr _ n _ hA.1], ⟨by omega, ?_⟩, hkind, by simp [hk], by simp; omega, by simpa using hpn,
      by simp; omega, by simpa using hq⟩
    rcases hq with h0 | h0
    · exact Or.inl h0
    · right
      have := Nat.mul_le_mul_right n h0
      omega
  rw [if_neg hA]
  by_cases hl : inp.b.limit ≠ 0 ∧ inp.b.limit ≤ g.ammoNum
  · rw [if_pos hl]
    exact Or.inl ⟨rfl, hb, Or.inl ⟨hl.1, by rcases hb.1 with h0 | h0 <;> omega⟩⟩
  rw [if_neg hl]
  -- the file has been read to its end
  have hposn : g.pos = n := by omega
  by_cases hp : inp.b.passes ≠ 0 ∧ inp.b.passes ≤ g.passNum
  · rw [if_pos hp]
    refine Or.inl ⟨rfl, hb, Or.inr ⟨hp.1, ?_⟩⟩
    have hpe : g.passNum = inp.b.passes := by omega
    rw [hkq, hposn, hfull, hpe]
  rw [if_neg hp]
  have h0 : g.ammoNum ≠ 0 := by rw [hposn] at hkq; omega
  rw [if_neg h0]
  refine ⟨⟨hkind, by simpa using hk, by simp, by simp, ?_, ?_⟩, ?_⟩
  · simp; rw [hkq, hposn, hfull]
  · simp; omega
  · simp [tauBudget, hn, hposn]

theorem good_step_gen (inp : Input) (n : Nat) (hn : 0 < n) (c : Bool) (k : Nat) (a : Nat) (r : Mpr) (ps : Nat)
    (hg : Good inp n k (.gen a r ps)) (hb : Below inp.b n k) : StepOk inp n c k (.gen a r ps) := by
  obtain ⟨hkind, rfl, hpos, hkq, hq, hps⟩ := hg
  have hn0 : n ≠ 0 := by omega
  apply StepOk.of_actOk
  simp only [stepOf, genStep]
  by_cases hl' : ¬ (inp.b.limit = 0 ∨ a < inp.b.limit)
  · rw [if_pos hl']
    exact Or.inl ⟨rfl, hb, Or.inl ⟨by omega, by rcases hb.1 with h0 | h0 <;> omega⟩⟩
  rw [if_neg hl']
  have hl : inp.b.limit = 0 ∨ a < inp.b.limit := by omega
  -- what `Decode` returns from this reader state
  by_cases hlt : r.pos < n
  · have hd : decodeNextNow inp.b.passes n a 2 r ps = (.entry r.pos, { r with pos := r.pos + 1 }, ps) := by
      simp [decodeNextNow, hlt]
    rw [hd]
    refine ⟨by rw [hkq, mod_of_qr _ n _ hlt], ⟨hl, ?_⟩, hkind, rfl, by simp; omega, by simp; omega,
      by simpa using hq, by simpa using hps⟩
    rcases hq with h0 | h0
    · exact Or.inl h0
    · right; have := mul_succ_le (n := n) (show r.passesCount + 1 ≤ inp.b.passes by omega); omega
  have hpn : r.pos = n := by omega
  have hprog : a > ps := by rw [hkq, hps, hpn]; omega
  by_cases hw : inp.b.passes = 0 ∨ r.passesCount + 1 < inp.b.passes
  · -- seek to the start: the first entry again
    have h1 : inp.b.passes ≠ 1 := by omega
    have hd : decodeNextNow inp.b.passes n a 2 r ps = (.entry 0, { pos := 1, passesCount := r.passesCount + 1 }, a) := by
      simp [decodeNextNow, hlt, h1, hw, hn, hn0, hprog]
    rw [hd]
    refine ⟨by rw [hkq, hpn, mod_of_qn], ⟨hl, ?_⟩, hkind, rfl, by simp; omega, ?_, by simp; omega, ?_⟩
    · rcases hw with h0 | h0
      · exact Or.inl h0
      · right
        have := mul_succ_le (n := n) (show r.passesCount + 1 + 1 ≤ inp.b.passes by omega)
        rw [Nat.succ_mul] at this; omega
    · simp; rw [hkq, hpn, Nat.succ_mul]
    · simp; rw [hkq, hpn, Nat.succ_mul]
  · -- the last pass is over
    have hpe : inp.b.passes = r.passesCount + 1 := by omega
    have hd : ∃ r' ps', decodeNextNow inp.b.passes n a 2 r ps = (.eof, r', ps') := by
      by_cases h1 : inp.b.passes = 1
      · exact ⟨r, ps, by simp [decodeNextNow, hlt, h1]⟩
      · exact ⟨{ r with passesCount := r.passesCount + 1 }, a, by simp [decodeNextNow, hlt, h1, hw, hn0, hprog]⟩
    obtain ⟨r', ps', hd⟩ := hd
    rw [hd]
    exact Or.inl ⟨rfl, hb, Or.inr ⟨by omega, by rw [hkq, hpn, hpe, Nat.succ_mul]⟩⟩

theorem good_step (inp : Input) (n : Nat) (hn : 0 < n) (c : Bool) (k : Nat) (s : PSt)
    (hg : Good inp n k s) (hb : Below inp.b n k) : StepOk inp n c k s := by
  cases s with
  | stream d a => exact good_step_stream inp n hn c k d a hg hb
  | arr d a => exact good_step_arr inp n hn c k d a hg hb
  | unloaded => exact good_step_unloaded inp n hn c k hg
  | replay ammos a => exact good_step_replay inp n hn c k ammos a hg hb
  | grpc g => exact good_step_grpc inp n hn c k g hg hb
  | gen a r ps => exact good_step_gen inp n hn c k a r ps hg hb

theorem tauBudget_le_one (n : Nat) (s : PSt) : tauBudget n s ≤ 1 := by
  cases s <;> simp [tauBudget]
  split <;> omega

end Pandora.Proofs.C08
