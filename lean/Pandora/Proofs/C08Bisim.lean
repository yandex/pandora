/-
C08: one iteration of `runFullScan` does the same over ANY two decoders that are the abstract cyclic source
(`Src`) of the same file — in particular over the line-level decoder of `Model.C08Scan` (any file with header / blank
lines anywhere) and over the entry-level decoder `scanStream` the concurrent machine `Model.C08Mach.stepOf` runs on.
Core Lean only.
-/
import Pandora.Proofs.C08Src
import Pandora.Proofs.C08Scan
import Pandora.Model.C08Mach

namespace Pandora.Proofs.C08
open Pandora.Model.C08

/-- two iterations end alike: the same result of `Run`, or the same ammo on offer with successor states related by `P` -/
inductive ActRel {σ τ : Type} (P : σ → τ → Prop) : Act σ → Act τ → Prop where
  | ret (r : RunRes) : ActRel P (.ret r) (.ret r)
  | offer (i : Nat) (s : σ) (t : τ) : P s t → ActRel P (.offer i s) (.offer i t)
  | tau (s : σ) (t : τ) : P s t → ActRel P (.tau s) (.tau t)

/-- decoder states after the same `q` complete passes and `r` entries of the current pass (a position from which the
decoder still has something to say: `passes = 0 ∨ q < passes`), with the same number of delivered ammo -/
def SrcRel {σ τ : Type} (n passes : Nat) (R1 : Nat → Nat → σ → Prop) (R2 : Nat → Nat → τ → Prop)
    (a : σ × Nat) (b : τ × Nat) : Prop :=
  a.2 = b.2 ∧ ∃ q r, r ≤ n ∧ (passes = 0 ∨ q < passes) ∧ R1 q r a.1 ∧ R2 q r b.1

/-- **step bisimulation** — `runFullScan`'s iteration over two decoders that are both the cyclic source of an
`n`-entry file (pass counters in step with the abstraction) does the same from related states, and the successor
states are related again.  Whatever is proved about the iteration over one of them holds over the other. -/
theorem streamStep_bisim {σ τ : Type} (scan1 : σ → ScanRes × σ) (scan2 : τ → ScanRes × τ)
    (pn1 : σ → Nat) (pn2 : τ → Nat) (n passes : Nat) (hn : 0 < n)
    (R1 : Nat → Nat → σ → Prop) (R2 : Nat → Nat → τ → Prop)
    (h1 : Src scan1 n passes R1) (h2 : Src scan2 n passes R2)
    (hp1 : ∀ q r s, R1 q r s → pn1 s = q) (hp2 : ∀ q r t, R2 q r t → pn2 t = q)
    (limit : Nat) (c : Bool) (s : σ) (t : τ) (k : Nat) (hrel : SrcRel n passes R1 R2 (s, k) (t, k)) :
    ActRel (SrcRel n passes R1 R2) (streamStep scan1 pn1 limit c s k) (streamStep scan2 pn2 limit c t k) := by
  obtain ⟨_, q, r, hr, hq, hs, ht⟩ := hrel
  simp only at hs ht
  unfold streamStep
  rw [hp1 q r s hs, hp2 q r t ht]
  cases c
  · simp only [Bool.false_eq_true, if_false]
    by_cases hl : limit ≠ 0 ∧ limit ≤ k
    · rw [if_pos hl, if_pos hl]; exact .ret _
    · rw [if_neg hl, if_neg hl]
      by_cases h0 : k = 0 ∧ 0 < q
      · rw [if_pos h0, if_pos h0]; exact .ret _
      · rw [if_neg h0, if_neg h0]
        by_cases hrn : r < n
        · obtain ⟨s', e1, r1⟩ := h1.next q r s hs hrn hq
          obtain ⟨t', e2, r2⟩ := h2.next q r t ht hrn hq
          rw [e1, e2]
          exact .offer _ _ _ ⟨rfl, q, r + 1, by omega, hq, r1, r2⟩
        · have hre : r = n := by omega
          subst hre
          by_cases hw : passes = 0 ∨ q + 1 < passes
          · obtain ⟨s', e1, r1⟩ := h1.wrap q s hs hw
            obtain ⟨t', e2, r2⟩ := h2.wrap q t ht hw
            rw [e1, e2]
            exact .offer _ _ _ ⟨rfl, q + 1, 1, by omega, hw, r1, r2⟩
          · obtain ⟨s', e1⟩ := h1.stop q s hs (by omega) (by omega)
            obtain ⟨t', e2⟩ := h2.stop q t ht (by omega) (by omega)
            rw [e1, e2]
            exact .ret _
  · simp only [if_true]; exact .ret _

end Pandora.Proofs.C08
