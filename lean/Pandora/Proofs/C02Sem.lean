/-
C02, sequential part, compositional in the nesting depth: every schedule object REFINES the flat spec.

`Sem ops` says what a schedule object means: unstarted (`U s parts`: it is the flat succession `parts`) or
running (`R s segs clk`: from clock `clk` on it behaves like the started segments `segs`): `Next`/`Left`/`Start`
return exactly what `segNext`/`segLeft`/the double-start panic say.  Leaves (finite `doAt` parts and
time-bounded unlimited parts reading the clock) have a `Sem`; the composite construction preserves `Sem`
(`compSem`), with the meaning "the parts of the children, one after the other"; iterating over `Lvl d` covers
every nesting depth, empty parts and 0/1-child composites included.  The clock argument of `R` is needed
because a composite forgets (shifts out) an unlimited part once it has seen it finished: that is right only
while the clock does not go back.
-/
import Pandora.Proofs.C02Flat

set_option linter.unusedVariables false

namespace Pandora.Proofs.C02Sem
open Pandora.Model.C02 Pandora.Spec.C02 Pandora.Proofs.C02Flat

structure Sem {σ : Type} (ops : Ops σ) where
  R : σ → List Seg → Int → Prop
  U : σ → List Part → Prop
  R_ne : ∀ {s segs clk}, R s segs clk → segs ≠ []
  U_ne : ∀ {s parts}, U s parts → parts ≠ []
  R_mono : ∀ {s segs clk clk'}, R s segs clk → clk ≤ clk' → R s segs clk'
  next_R : ∀ {s segs clk}, R s segs clk → ∀ now, clk ≤ now →
    ∃ s', ops.next s now = .ok (s', (segNext segs now).2.1, (segNext segs now).2.2) ∧ R s' (segNext segs now).1 now
  left_R : ∀ {s segs clk}, R s segs clk → ∀ now, clk ≤ now →
    ∃ s', ops.left s now = .ok (s', segLeft segs now) ∧ R s' segs now
  start_R : ∀ {s segs clk}, R s segs clk → ∀ t, ops.start s t = .error alreadyStarted
  start_U : ∀ {s parts}, U s parts → ∀ t, ∃ s', ops.start s t = .ok s' ∧ ∀ clk, R s' (inst parts t) clk
  next_U : ∀ {s parts}, U s parts → ∀ now, ∃ s1, ops.start s now = .ok s1 ∧ ops.next s now = ops.next s1 now
  left_U : ∀ {s parts}, U s parts → ∀ now, ops.left s now = .ok (s, partsLeft parts)
  once0_U : U ops.once0 [.fin [] 0]

/-! ### leaves -/

def leafR : Leaf → List Seg → Int → Prop
  | .fin offs dur i (some s), segs, _ => segs = [Seg.fin ((offs.drop i).map (s + ·)) (s + dur)]
  | .unl dur (some f), segs, _ => segs = [Seg.unl (f - dur) f]
  | _, _, _ => False

def leafU : Leaf → List Part → Prop
  | .fin offs dur 0 none, parts => parts = [Part.fin offs dur]
  | .unl dur none, parts => parts = [Part.unl dur]
  | _, _ => False

theorem drop_of_get {offs : List Int} {i : Nat} {o : Int} (h : offs[i]? = some o) :
    offs.drop i = o :: offs.drop (i + 1) := by
  obtain ⟨hi, rfl⟩ := List.getElem?_eq_some_iff.mp h
  exact List.drop_eq_getElem_cons hi

def leafSem : Sem leafOps where
  R := leafR
  U := leafU
  R_ne := by
    intro s segs clk h
    match s, h with
    | .fin offs dur i (some st), h => simp [leafR] at h; simp [h]
    | .unl dur (some f), h => simp [leafR] at h; simp [h]
  U_ne := by
    intro s parts h
    match s, h with
    | .fin offs dur 0 none, h => simp [leafU] at h; simp [h]
    | .unl dur none, h => simp [leafU] at h; simp [h]
  R_mono := by
    intro s segs clk clk' h _
    match s, h with
    | .fin offs dur i (some st), h => exact h
    | .unl dur (some f), h => exact h
  next_R := by
    intro s segs clk h now _
    match s, h with
    | .fin offs dur i (some st), h =>
      simp only [leafR] at h; subst h
      cases hget : offs[i]? with
      | some o =>
        rw [drop_of_get hget]
        exact ⟨.fin offs dur (i + 1) (some st), by simp only [leafOps, Leaf.next, hget]; rfl, rfl⟩
      | none =>
        have hle : offs.length ≤ i := List.getElem?_eq_none_iff.mp hget
        rw [List.drop_eq_nil_of_le hle]
        refine ⟨.fin offs dur (i + 1) (some st), by simp only [leafOps, Leaf.next, hget]; rfl, ?_⟩
        show _ = [Seg.fin ((offs.drop (i + 1)).map _) _]
        rw [List.drop_eq_nil_of_le (by omega)]; rfl
    | .unl dur (some f), h =>
      simp only [leafR] at h; subst h
      by_cases hlt : now < f
      · exact ⟨.unl dur (some f), by simp [leafOps, Leaf.next, hlt, segNext, segNextAux],
          by simp [leafR, segNext, segNextAux, hlt]⟩
      · exact ⟨.unl dur (some f), by simp [leafOps, Leaf.next, hlt, segNext, segNextAux],
          by simp [leafR, segNext, segNextAux, hlt]⟩
  left_R := by
    intro s segs clk h now _
    match s, h with
    | .fin offs dur i (some st), h =>
      simp only [leafR] at h; subst h
      refine ⟨.fin offs dur i (some st), ?_, rfl⟩
      simp only [leafOps, Leaf.left, segLeft, pendSegs, List.isEmpty_iff, List.map_eq_nil_iff, List.length_map,
        List.length_drop]
      by_cases hd : offs.drop i = []
      · have : offs.length ≤ i := List.drop_eq_nil_iff.mp hd
        simp [hd]
        omega
      · have : ¬ offs.length ≤ i := fun h => hd (List.drop_eq_nil_of_le h)
        simp [hd]
    | .unl dur (some f), h =>
      simp only [leafR] at h; subst h
      exact ⟨.unl dur (some f), by by_cases hlt : now < f <;> simp [leafOps, Leaf.left, segLeft, hlt], rfl⟩
  start_R := by
    intro s segs clk h t
    match s, h with
    | .fin offs dur i (some st), _ => rfl
    | .unl dur (some f), _ => rfl
  start_U := by
    intro s parts h t
    match s, h with
    | .fin offs dur 0 none, h =>
      simp only [leafU] at h; subst h
      exact ⟨.fin offs dur 0 (some t), rfl, fun _ => by simp [leafR, inst]⟩
    | .unl dur none, h =>
      simp only [leafU] at h; subst h
      exact ⟨.unl dur (some (t + dur)), rfl, fun _ => by simp [leafR, inst]⟩
  next_U := by
    intro s parts h now
    match s, h with
    | .fin offs dur 0 none, _ => exact ⟨.fin offs dur 0 (some now), rfl, by simp [leafOps, Leaf.next]⟩
    | .unl dur none, _ => exact ⟨.unl dur (some (now + dur)), rfl, by simp [leafOps, Leaf.next]⟩
  left_U := by
    intro s parts h now
    match s, h with
    | .fin offs dur 0 none, h => simp only [leafU] at h; subst h; simp [leafOps, Leaf.left, partsLeft]
    | .unl dur none, h => simp only [leafU] at h; subst h; simp [leafOps, Leaf.left, partsLeft]
  once0_U := by simp [leafOps, leafU]

/-! ### how `segNext` sees a chain `dead ++ current ++ later` -/

theorem segNext_mid (d a b : List Seg) (clk now : Int) (hd : Dead d clk) (hle : clk ≤ now) (ha : a ≠ [])
    (hok : (segNext a now).2.2 = true) :
    segNext (d ++ a ++ b) now = (d ++ (segNext a now).1 ++ b, (segNext a now).2) := by
  unfold segNext at *
  rw [List.append_assoc, segNextAux_append, segNextAux_dead d 0 clk now hd hle]
  simp only [Bool.false_eq_true, if_false]
  rw [segNextAux_append, segNextAux_default (finOf d 0) 0 now ha]
  simp [hok, List.append_assoc]

theorem segNext_last (d a : List Seg) (clk now : Int) (hd : Dead d clk) (hle : clk ≤ now) (ha : a ≠ []) :
    segNext (d ++ a) now = (d ++ (segNext a now).1, (segNext a now).2) := by
  unfold segNext
  rw [segNextAux_append, segNextAux_dead d 0 clk now hd hle]
  simp only [Bool.false_eq_true, if_false]
  rw [segNextAux_default (finOf d 0) 0 now ha]

theorem finOf_inst0 {p : List Part} (t : Int) (hp : p ≠ []) : finOf (inst p t) 0 = endOf p t := by
  rw [finOf_default 0 t (inst_ne t hp), finOf_inst]

/-! ### the composite construction preserves `Sem` -/

section comp
variable {σ : Type} {ops : Ops σ} (sem : Sem ops)

/-- children are unstarted, with the given parts -/
def AllU : List σ → List (List Part) → Prop
  | [], [] => True
  | r :: rs, p :: ps => sem.U r p ∧ AllU rs ps
  | _, _ => False

/-- `leftAfter` for a head followed by children with parts `ps`: suffix counts (-1 = unknown), last entry 0 -/
def sufsP : List (List Part) → List Int
  | [] => [0]
  | p :: ps => partsLeft (p ++ ps.flatten) :: sufsP ps

theorem sufsP_head (ps : List (List Part)) : (sufsP ps).headD 0 = partsLeft ps.flatten := by
  cases ps <;> simp [sufsP, partsLeft]

theorem sufsP_tail (p : List Part) (ps : List (List Part)) : (sufsP (p :: ps)).tail = sufsP ps := rfl

def compR (s : Comp σ) (segs : List Seg) (clk : Int) : Prop :=
  ∃ c rest dead segsH ps, s = ⟨c :: rest, sufsP ps, true⟩ ∧ sem.R c segsH clk ∧ AllU sem rest ps ∧
    Dead dead clk ∧ segs = dead ++ segsH ++ inst ps.flatten (finOf segsH 0)

def compU (s : Comp σ) (parts : List Part) : Prop :=
  ∃ c rest p ps, s = ⟨c :: rest, sufsP ps, false⟩ ∧ sem.U c p ∧ AllU sem rest ps ∧ parts = p ++ ps.flatten

theorem compNextAux_cons (c h : σ) (t : List σ) (la : List Int) (now : Int) :
    compNextAux ops c (h :: t) la now = (do
      let (c', tx, ok) ← ops.next c now
      if ok then pure (⟨c' :: h :: t, la, true⟩, tx, true) else do
        let h1 ← ops.start h tx
        let (h2, tx2, ok2) ← ops.next h1 now
        if ok2 then pure (⟨h2 :: t, la.tail, true⟩, tx2, true)
        else compNextAux ops h2 t la.tail now) := by
  rw [compNextAux]

/-- the chain seen from a head that is exhausted: the head joins the dead prefix, the next child is the head -/
theorem chain_shift (dead segsH : List Seg) (p : List Part) (ps : List (List Part)) (hp : p ≠ []) :
    dead ++ segsH ++ inst (p :: ps).flatten (finOf segsH 0) =
      (dead ++ segsH) ++ inst p (finOf segsH 0) ++ inst ps.flatten (finOf (inst p (finOf segsH 0)) 0) := by
  simp only [List.flatten_cons, inst_append, finOf_inst0 _ hp, List.append_assoc]

/-- `Next` of the head of a chain `dead ++ segsH ++ later`: while the head has a token, or when it is the last part, its
answer is the answer of the whole chain; otherwise the head is exhausted and reports its finish time -/
theorem head_next {c : σ} {rest : List σ} {ps : List (List Part)} {dead segsH : List Seg} {clk now : Int}
    (hR : sem.R c segsH clk) (hU : AllU sem rest ps) (hD : Dead dead clk) (hle : clk ≤ now) :
    ∃ c', ops.next c now = .ok (c', (segNext segsH now).2.1, (segNext segsH now).2.2) ∧
      (((segNext segsH now).2.2 = true ∨ ps = []) → ∃ segs',
        segNext (dead ++ segsH ++ inst ps.flatten (finOf segsH 0)) now = (segs', (segNext segsH now).2) ∧
        compR sem ⟨c' :: rest, sufsP ps, true⟩ segs' now) ∧
      ((segNext segsH now).2.2 = false →
        sem.R c' segsH now ∧ Dead segsH now ∧ (segNext segsH now).2.1 = finOf segsH 0) := by
  obtain ⟨c', hn, hR'⟩ := sem.next_R hR now hle
  have hne := sem.R_ne hR
  refine ⟨c', hn, fun hfin => ⟨dead ++ (segNext segsH now).1 ++ inst ps.flatten (finOf segsH 0), ?_,
    c', rest, dead, _, ps, rfl, hR', hU, dead_mono hD hle, by unfold segNext; rw [finOf_segNextAux]⟩, fun hok => ?_⟩
  · rcases hfin with hok | rfl
    · exact segNext_mid dead segsH _ clk now hD hle hne hok
    · simp only [List.flatten_nil, inst, List.append_nil]
      exact segNext_last dead segsH clk now hD hle hne
  · obtain ⟨hdeadH, hsame, htx⟩ := segNextAux_notok segsH 0 now hok
    rw [show (segNext segsH now).1 = segsH from hsame] at hR'
    exact ⟨hR', hdeadH, htx⟩

theorem compNextAux_spec (now : Int) : ∀ (rest : List σ) (ps : List (List Part)) (c : σ) (dead segsH : List Seg)
    (clk : Int), sem.R c segsH clk → AllU sem rest ps → Dead dead clk → clk ≤ now →
    ∃ s', compNextAux ops c rest (sufsP ps) now =
        .ok (s', (segNext (dead ++ segsH ++ inst ps.flatten (finOf segsH 0)) now).2.1,
                 (segNext (dead ++ segsH ++ inst ps.flatten (finOf segsH 0)) now).2.2) ∧
      compR sem s' (segNext (dead ++ segsH ++ inst ps.flatten (finOf segsH 0)) now).1 now
  | [], [], c, dead, segsH, clk, hR, hU, hD, hle => by
    obtain ⟨c', hn, hret, _⟩ := head_next sem hR hU hD hle
    obtain ⟨segs', hseg, hrel⟩ := hret (Or.inr rfl)
    rw [hseg]
    refine ⟨_, ?_, hrel⟩
    rw [compNextAux]
    cases hok : (segNext segsH now).2.2 <;> simp [hn, hok, bind, Except.bind, pure, Except.pure]
  | h :: t, p :: ps, c, dead, segsH, clk, hR, hU, hD, hle => by
    obtain ⟨c', hn, hret, hstay⟩ := head_next sem hR hU hD hle
    rw [compNextAux_cons]
    cases hok : (segNext segsH now).2.2 with
    | true =>
      obtain ⟨segs', hseg, hrel⟩ := hret (Or.inl hok)
      rw [hseg]
      exact ⟨_, by simp [hn, hok, bind, Except.bind, pure, Except.pure], hrel⟩
    | false =>
      -- the head is exhausted: the next part is started at its finish time and asked
      obtain ⟨_, hdeadH, htx⟩ := hstay hok
      obtain ⟨h1, hs, hR1⟩ := sem.start_U hU.1 (finOf segsH 0)
      have hD2 : Dead (dead ++ segsH) now := (dead_append _ _ _).mpr ⟨dead_mono hD hle, hdeadH⟩
      obtain ⟨h2, hn2, hret2, hstay2⟩ := head_next sem (hR1 now) hU.2 hD2 (Int.le_refl _)
      rw [chain_shift dead segsH p ps (sem.U_ne hU.1)]
      cases hok2 : (segNext (inst p (finOf segsH 0)) now).2.2 with
      | true =>
        obtain ⟨segs', hseg, hrel⟩ := hret2 (Or.inl hok2)
        rw [hseg]
        exact ⟨_, by simp [hn, hok, htx, hs, hn2, hok2, bind, Except.bind, pure, Except.pure, sufsP_tail], hrel⟩
      | false =>
        obtain ⟨s', hs', hc⟩ := compNextAux_spec now t ps h2 (dead ++ segsH) (inst p (finOf segsH 0)) now
          (hstay2 hok2).1 hU.2 hD2 (Int.le_refl _)
        refine ⟨s', ?_, hc⟩
        simp only [hn, hok, htx, hs, hn2, hok2, bind, Except.bind, Bool.false_eq_true, if_false, sufsP_tail]
        exact hs'
  | [], _ :: _, _, _, _, _, _, hU, _, _ => absurd hU (by simp [AllU])
  | _ :: _, [], _, _, _, _, _, hU, _, _ => absurd hU (by simp [AllU])

/-- what `Left` of a composite answers when a part follows the head and the head has answered `left`
(`la0` = `leftAfter[0]`); `none`: the head is exhausted and what follows is not known — shift and ask again -/
def leftDecide (la0 left : Int) (started : Bool) : Option Int :=
  if left = 0 then (if 0 ≤ la0 then some la0 else if started then none else some (-1))
  else some (if left < 0 ∨ la0 < 0 then -1 else left + la0)

theorem compLeftAux_decide (st : Bool) (c h : σ) (t : List σ) (la : List Int) (now : Int) :
    compLeftAux ops st c (h :: t) la now = (do
      let (c', left) ← ops.left c now
      match leftDecide (la.headD 0) left st with
      | some n => pure (⟨c' :: h :: t, la, st⟩, n)
      | none => do
          let (_, tx, ok) ← ops.next c' now
          if ok then throw "current schedule is not finished"
          let h1 ← ops.start h tx
          compLeftAux ops st h1 t la.tail now) := by
  rw [compLeftAux]
  cases ops.left c now with
  | error e => rfl
  | ok x =>
    obtain ⟨c', left⟩ := x
    simp only [bind, Except.bind, leftDecide, combineLeft]
    generalize la.headD 0 = la0
    by_cases h0 : left = 0
    · subst h0
      by_cases hla : 0 ≤ la0
      · simp only [beq_self_eq_true, if_true, ge_iff_le, hla]
      · cases st <;> simp only [beq_self_eq_true, if_true, ge_iff_le, hla, if_false, Bool.not_true, Bool.not_false,
          Bool.false_eq_true]
    · have hb : (left == 0) = false := by simpa using h0
      simp only [hb, h0, Bool.false_eq_true, if_false]
      by_cases hn : left < 0
      · simp only [hn, if_true, true_or]
      · simp only [hn, if_false, false_or]

/-- the decision on a running schedule: the count of the flat spec, unless the head is exhausted and a part behind it
is unlimited -/
theorem leftDecide_running (segsH tail : List Seg) (now : Int) :
    leftDecide (pendSegs tail) (segLeft segsH now) true =
      if segLeft segsH now = 0 ∧ pendSegs tail < 0 then none else some (segLeft (segsH ++ tail) now) := by
  have hP := pendSegs_ge tail
  rw [segLeft_append]
  unfold leftDecide
  by_cases h0 : segLeft segsH now = 0
  · rw [if_pos h0, if_pos h0]
    by_cases hk : 0 ≤ pendSegs tail
    · rw [if_pos hk, if_neg (by omega), segLeft_of_pend tail now hk]
    · rw [if_neg hk, if_pos rfl, if_pos ⟨h0, by omega⟩]
  · rw [if_neg h0, if_neg h0, if_neg (fun h : segLeft segsH now = 0 ∧ pendSegs tail < 0 => h0 h.1)]

/-- the decision on a schedule that is not started: the count of all its parts, unless the head has no tokens, a part
behind it is unlimited and the `started` flag is set (a `Next` is under way) -/
theorem leftDecide_parts (p q : List Part) (st : Bool) :
    leftDecide (partsLeft q) (partsLeft p) st =
      if partsLeft p = 0 ∧ partsLeft q < 0 ∧ st = true then none else some (partsLeft (p ++ q)) := by
  have hq := partsLeft_ge q
  rw [partsLeft_append]
  unfold leftDecide
  by_cases h0 : partsLeft p = 0
  · rw [if_pos h0, h0]
    by_cases hk : 0 ≤ partsLeft q
    · rw [if_pos hk, if_neg (by omega), if_neg (by omega)]; congr 1; omega
    · cases st
      · rw [if_neg hk, if_neg (by decide), if_pos (Or.inr (by omega)), if_neg (by simp)]
      · rw [if_neg hk, if_pos rfl, if_pos ⟨rfl, by omega, rfl⟩]
  · rw [if_neg h0, if_neg (fun h : partsLeft p = 0 ∧ partsLeft q < 0 ∧ st = true => h0 h.1)]

theorem compLeftAux_spec (now : Int) : ∀ (rest : List σ) (ps : List (List Part)) (c : σ) (dead segsH : List Seg)
    (clk : Int), sem.R c segsH clk → AllU sem rest ps → Dead dead clk → clk ≤ now →
    ∃ s', compLeftAux ops true c rest (sufsP ps) now =
        .ok (s', segLeft (dead ++ segsH ++ inst ps.flatten (finOf segsH 0)) now) ∧
      compR sem s' (dead ++ segsH ++ inst ps.flatten (finOf segsH 0)) now
  | [], [], c, dead, segsH, clk, hR, _, hD, hle => by
    obtain ⟨c', hl, hR'⟩ := sem.left_R hR now hle
    refine ⟨⟨[c'], sufsP [], true⟩, ?_, c', [], dead, segsH, [], rfl, hR', trivial, dead_mono hD hle, rfl⟩
    rw [compLeftAux]
    simp only [hl, bind, Except.bind, pure, Except.pure, List.flatten_nil, inst, List.append_nil]
    rw [segLeft_dead_append dead segsH clk now hD hle]
  | h :: t, p :: ps, c, dead, segsH, clk, hR, hU, hD, hle => by
    obtain ⟨c', hl, hR'⟩ := sem.left_R hR now hle
    have hp : p ≠ [] := sem.U_ne hU.1
    have hD' := dead_mono hD hle
    rw [compLeftAux_decide, hl]
    simp only [bind, Except.bind]
    rw [sufsP_head, ← pendSegs_inst (p :: ps).flatten (finOf segsH 0), leftDecide_running, List.append_assoc,
      segLeft_dead_append dead _ clk now hD hle]
    by_cases hz : segLeft segsH now = 0 ∧ pendSegs (inst (p :: ps).flatten (finOf segsH 0)) < 0
    · -- the head is exhausted and what follows is unknown: shift
      have hdeadH : Dead segsH now := (segLeft_zero_iff segsH now).mp hz.1
      obtain ⟨c'', hn, _⟩ := sem.next_R hR' now (Int.le_refl _)
      rw [show segNext segsH now = (segsH, finOf segsH 0, false) from
        segNextAux_dead segsH 0 now now hdeadH (Int.le_refl _)] at hn
      obtain ⟨h1, hs, hR1⟩ := sem.start_U hU.1 (finOf segsH 0)
      have hD2 : Dead (dead ++ segsH) now := (dead_append _ _ _).mpr ⟨hD', hdeadH⟩
      obtain ⟨s', hs', hc⟩ := compLeftAux_spec now t ps h1 (dead ++ segsH) (inst p (finOf segsH 0)) now (hR1 now)
        hU.2 hD2 (Int.le_refl _)
      rw [← chain_shift dead segsH p ps hp] at hs' hc
      refine ⟨s', ?_, by rw [← List.append_assoc]; exact hc⟩
      simp only [if_pos hz, hn, hs, sufsP_tail, Bool.false_eq_true, if_false]
      rw [hs', List.append_assoc, segLeft_dead_append dead _ now now hD' (Int.le_refl _)]
    · rw [if_neg hz]
      exact ⟨_, rfl, by rw [← List.append_assoc]; exact ⟨c', h :: t, dead, segsH, p :: ps, rfl, hR', hU, hD', rfl⟩⟩
  | [], _ :: _, _, _, _, _, _, hU, _, _ => absurd hU (by simp [AllU])
  | _ :: _, [], _, _, _, _, _, hU, _, _ => absurd hU (by simp [AllU])

/-- `Left` of an unstarted composite: the count of all its parts, or -1; nothing is touched -/
theorem compLeftAux_U (now : Int) (c : σ) (p : List Part) (hc : sem.U c p)
    (rest : List σ) (ps : List (List Part)) (hU : AllU sem rest ps) :
    compLeftAux ops false c rest (sufsP ps) now = .ok (⟨c :: rest, sufsP ps, false⟩, partsLeft (p ++ ps.flatten)) := by
  have hl := sem.left_U hc now
  match rest, ps, hU with
  | [], [], _ =>
    rw [compLeftAux]
    simp [hl, bind, Except.bind, pure, Except.pure]
  | h :: t, q :: qs, _ =>
    rw [compLeftAux_decide, hl]
    simp only [bind, Except.bind]
    rw [sufsP_head, leftDecide_parts, if_neg (by simp)]
    rfl

def compSem : Sem (compOps ops) where
  R := compR sem
  U := compU sem
  R_ne := by
    rintro s segs clk ⟨c, rest, dead, segsH, ps, rfl, hR, _, _, rfl⟩
    have := sem.R_ne hR
    simp [this]
  U_ne := by
    rintro s parts ⟨c, rest, p, ps, rfl, hc, _, rfl⟩
    have := sem.U_ne hc
    simp [this]
  R_mono := by
    rintro s segs clk clk' ⟨c, rest, dead, segsH, ps, rfl, hR, hU, hD, rfl⟩ hle
    exact ⟨c, rest, dead, segsH, ps, rfl, sem.R_mono hR hle, hU, dead_mono hD hle, rfl⟩
  next_R := by
    rintro s segs clk ⟨c, rest, dead, segsH, ps, rfl, hR, hU, hD, rfl⟩ now hle
    exact compNextAux_spec sem now rest ps c dead segsH clk hR hU hD hle
  left_R := by
    rintro s segs clk ⟨c, rest, dead, segsH, ps, rfl, hR, hU, hD, rfl⟩ now hle
    exact compLeftAux_spec sem now rest ps c dead segsH clk hR hU hD hle
  start_R := by
    rintro s segs clk ⟨c, rest, dead, segsH, ps, rfl, hR, hU, hD, rfl⟩ t
    simp [compOps, compStart, sem.start_R hR t, bind, Except.bind]
  start_U := by
    rintro s parts ⟨c, rest, p, ps, rfl, hc, hU, rfl⟩ t
    obtain ⟨c1, hs, hR⟩ := sem.start_U hc t
    refine ⟨⟨c1 :: rest, sufsP ps, true⟩, ?_, fun clk => ⟨c1, rest, [], inst p t, ps, rfl, hR clk, hU, trivial, ?_⟩⟩
    · simp [compOps, compStart, hs, bind, Except.bind, pure, Except.pure]
    · simp [inst_append, finOf_inst0 t (sem.U_ne hc)]
  next_U := by
    rintro s parts ⟨c, rest, p, ps, rfl, hc, hU, rfl⟩ now
    obtain ⟨c1, hs, hn⟩ := sem.next_U hc now
    refine ⟨⟨c1 :: rest, sufsP ps, true⟩, ?_, ?_⟩
    · simp [compOps, compStart, hs, bind, Except.bind, pure, Except.pure]
    · show compNextAux ops c rest (sufsP ps) now = compNextAux ops c1 rest (sufsP ps) now
      cases rest with
      | nil => rw [compNextAux, compNextAux, hn]
      | cons h t => rw [compNextAux_cons, compNextAux_cons, hn]
  left_U := by
    rintro s parts ⟨c, rest, p, ps, rfl, hc, hU, rfl⟩ now
    exact compLeftAux_U sem now c p hc rest ps hU
  once0_U := ⟨ops.once0, [], [.fin [] 0], [], rfl, sem.once0_U, trivial, by simp⟩

/-- parts lists → `leftAfter` as `NewComposite` computes it -/
def laOf : List (List Part) → List Int
  | [] => []
  | _ :: ps => sufsP ps

theorem mkLeftAfter_spec (now : Int) : ∀ (cs : List σ) (pss : List (List Part)), AllU sem cs pss →
    mkLeftAfter ops now cs = .ok (cs, laOf pss, partsLeft pss.flatten, decide (partsLeft pss.flatten < 0))
  | [], [], _ => by simp [mkLeftAfter, laOf, partsLeft, pure, Except.pure]
  | c :: rest, p :: ps, h => by
    have ih := mkLeftAfter_spec now rest ps h.2
    have hl := sem.left_U h.1 now
    have hpg := partsLeft_ge p
    have hqg := partsLeft_ge ps.flatten
    simp only [mkLeftAfter, ih, hl, bind, Except.bind, pure, Except.pure, List.flatten_cons, partsLeft_append]
    have hla : partsLeft ps.flatten :: laOf ps = laOf (p :: ps) := by
      cases ps <;> simp [laOf, sufsP, partsLeft]
    rw [hla]
    by_cases hneg : partsLeft p < 0
    · simp [hneg]
    · simp only [hneg, if_false, false_or]
      by_cases hq : partsLeft ps.flatten < 0
      · have : partsLeft ps.flatten = -1 := by omega
        simp [this]
      · have : ¬ partsLeft p + partsLeft ps.flatten < 0 := by omega
        simp [hq, this]; omega
  | [], _ :: _, h => absurd h (by simp [AllU])
  | _ :: _, [], h => absurd h (by simp [AllU])

end comp

/-! ### sums and levels -/

def sumSem {α β : Type} {a : Ops α} {b : Ops β} (fa : Sem a) (fb : Sem b) : Sem (sumOps a b) where
  R s segs clk := match s with | .inl x => fa.R x segs clk | .inr y => fb.R y segs clk
  U s parts := match s with | .inl x => fa.U x parts | .inr y => fb.U y parts
  R_ne := by
    intro s segs clk h
    cases s with
    | inl x => exact fa.R_ne h
    | inr y => exact fb.R_ne h
  U_ne := by
    intro s parts h
    cases s with
    | inl x => exact fa.U_ne h
    | inr y => exact fb.U_ne h
  R_mono := by
    intro s segs clk clk' h hle
    cases s with
    | inl x => exact fa.R_mono h hle
    | inr y => exact fb.R_mono h hle
  next_R := by
    intro s segs clk h now hle
    cases s with
    | inl x => obtain ⟨x', hn, hr⟩ := fa.next_R h now hle; exact ⟨.inl x', by show (a.next x now).map _ = _; rw [hn]; rfl, hr⟩
    | inr y => obtain ⟨y', hn, hr⟩ := fb.next_R h now hle; exact ⟨.inr y', by show (b.next y now).map _ = _; rw [hn]; rfl, hr⟩
  left_R := by
    intro s segs clk h now hle
    cases s with
    | inl x => obtain ⟨x', hn, hr⟩ := fa.left_R h now hle; exact ⟨.inl x', by show (a.left x now).map _ = _; rw [hn]; rfl, hr⟩
    | inr y => obtain ⟨y', hn, hr⟩ := fb.left_R h now hle; exact ⟨.inr y', by show (b.left y now).map _ = _; rw [hn]; rfl, hr⟩
  start_R := by
    intro s segs clk h t
    cases s with
    | inl x => show (a.start x t).map _ = _; rw [fa.start_R h t]; rfl
    | inr y => show (b.start y t).map _ = _; rw [fb.start_R h t]; rfl
  start_U := by
    intro s parts h t
    cases s with
    | inl x => obtain ⟨x', hs, hr⟩ := fa.start_U h t; exact ⟨.inl x', by show (a.start x t).map _ = _; rw [hs]; rfl, hr⟩
    | inr y => obtain ⟨y', hs, hr⟩ := fb.start_U h t; exact ⟨.inr y', by show (b.start y t).map _ = _; rw [hs]; rfl, hr⟩
  next_U := by
    intro s parts h now
    cases s with
    | inl x => obtain ⟨x', hs, hn⟩ := fa.next_U h now; exact ⟨.inl x', by show (a.start x now).map _ = _; rw [hs]; rfl, by show (a.next x now).map _ = (a.next x' now).map _; rw [hn]⟩
    | inr y => obtain ⟨y', hs, hn⟩ := fb.next_U h now; exact ⟨.inr y', by show (b.start y now).map _ = _; rw [hs]; rfl, by show (b.next y now).map _ = (b.next y' now).map _; rw [hn]⟩
  left_U := by
    intro s parts h now
    cases s with
    | inl x => show (a.left x now).map _ = _; rw [fa.left_U h now]; rfl
    | inr y => show (b.left y now).map _ = _; rw [fb.left_U h now]; rfl
  once0_U := fa.once0_U

/-- every nesting depth -/
def lvlSem : (d : Nat) → Sem (lvlOps d)
  | 0 => leafSem
  | d + 1 => sumSem (lvlSem d) (compSem (lvlSem d))

/-- `NewComposite` of unstarted parts (0, 1 or more of them) is the unstarted chain of those parts -/
theorem newComposite_sem {σ : Type} {ops : Ops σ} (sem : Sem ops) (now : Int) (cs : List σ) (pss : List (List Part))
    (h : AllU sem cs pss) :
    ∃ s, newComposite ops now cs = .ok s ∧
      (sumSem sem (compSem sem)).U s (match pss.flatten with | [] => [.fin [] 0] | ps => ps) := by
  match cs, pss, h with
  | [], [], _ => exact ⟨.inl ops.once0, rfl, sem.once0_U⟩
  | [c], [p], h =>
    refine ⟨.inl c, rfl, ?_⟩
    have hp := sem.U_ne h.1
    show sem.U c _
    simp only [List.flatten_cons, List.flatten_nil, List.append_nil]
    cases p with
    | nil => exact absurd rfl hp
    | cons x xs => exact h.1
  | c1 :: c2 :: rest, p1 :: p2 :: ps, h =>
    have hp := sem.U_ne h.1
    refine ⟨.inr ⟨c1 :: c2 :: rest, sufsP (p2 :: ps), false⟩, ?_, ?_⟩
    · simp [newComposite, mkLeftAfter_spec sem now _ _ h, bind, Except.bind, pure, Except.pure, laOf]
    · show compU sem _ _
      refine ⟨c1, c2 :: rest, p1, p2 :: ps, rfl, h.1, h.2, ?_⟩
      cases p1 with
      | nil => exact absurd rfl hp
      | cons x xs => simp

/-! ### one caller, any sequence of calls -/

/-- the object `s` stands for the abstract object `A` from clock `clk` on -/
def Rel {σ : Type} {ops : Ops σ} (sem : Sem ops) (s : σ) (A : Abs) (clk : Int) : Prop :=
  match A with
  | .unstarted parts => sem.U s parts
  | .running segs => sem.R s segs clk

theorem seq_refines {σ : Type} {ops : Ops σ} (sem : Sem ops) : ∀ (l : List (SOp × Int)) (s : σ) (A : Abs) (clk : Int),
    Rel sem s A clk → ClockSeq clk l → seqRun ops s l = absRun A l
  | [], _, _, _, _, _ => rfl
  | (.start t, now) :: r, s, A, clk, h, hc => by
      cases A with
      | unstarted parts =>
        obtain ⟨s', hs, hR⟩ := sem.start_U h t
        simp only [seqRun, absRun, hs, absStart]
        rw [seq_refines sem r s' (.running (inst parts t)) now (hR now) hc.2]
      | running segs => simp [seqRun, absRun, sem.start_R h t, absStart]
  | (.next, now) :: r, s, A, clk, h, hc => by
      cases A with
      | unstarted parts =>
        obtain ⟨s1, hs1, hn1⟩ := sem.next_U h now
        obtain ⟨s1', hs1', hR1⟩ := sem.start_U h now
        rw [hs1] at hs1'; cases hs1'
        obtain ⟨s', hn, hR'⟩ := sem.next_R (hR1 now) now (Int.le_refl _)
        simp only [seqRun, absRun, hn1, hn, absNext, Abs.segsAt]
        rw [seq_refines sem r s' (.running (segNext (inst parts now) now).1) now hR' hc.2]
      | running segs =>
        obtain ⟨s', hn, hR'⟩ := sem.next_R h now hc.1
        simp only [seqRun, absRun, hn, absNext, Abs.segsAt]
        rw [seq_refines sem r s' (.running (segNext segs now).1) now hR' hc.2]
  | (.left, now) :: r, s, A, clk, h, hc => by
      cases A with
      | unstarted parts =>
        simp only [seqRun, absRun, sem.left_U h now, absLeft]
        rw [seq_refines sem r s (.unstarted parts) now h hc.2]
      | running segs =>
        obtain ⟨s', hl, hR'⟩ := sem.left_R h now hc.1
        simp only [seqRun, absRun, hl, absLeft]
        rw [seq_refines sem r s' (.running segs) now hR' hc.2]

/-! ### every tree -/

theorem flat_ne : ∀ t : Tree, flat t ≠ []
  | .fin _ _ => by simp [flat]
  | .unl _ => by simp [flat]
  | .comp cs => by
      simp only [flat]
      split
      · simp
      · rename_i h; simpa using h

/-- the children of a composite node, once every tree of depth ≤ `d` is known to be built -/
theorem buildList_of (now : Int) (d : Nat)
    (ih : ∀ t : Tree, t.depth ≤ d → ∃ s, build now d t = .ok s ∧ (lvlSem d).U s (flat t)) :
    ∀ ts : List Tree, depthList ts ≤ d →
      ∃ cs pss, buildList now d ts = .ok cs ∧ AllU (lvlSem d) cs pss ∧ pss.flatten = flatList ts
  | [], _ => ⟨[], [], by rw [buildList]; rfl, trivial, rfl⟩
  | t :: ts, h => by
      rw [depthList] at h
      obtain ⟨x, hx, hUx⟩ := ih t (by omega)
      obtain ⟨xs, pss, hxs, hU, hfl⟩ := buildList_of now d ih ts (by omega)
      exact ⟨x :: xs, flat t :: pss, by rw [buildList, hx, hxs]; rfl, ⟨hUx, hU⟩, by rw [List.flatten_cons, hfl, flatList]⟩

/-- **every schedule tree refines the flat succession of its leaf parts** — the object `NewComposite` & co. build
for it (at any level that is deep enough) exists and is the unstarted schedule `flat t`. -/
theorem build_ok (now : Int) : ∀ (d : Nat) (t : Tree), t.depth ≤ d →
    ∃ s, build now d t = .ok s ∧ (lvlSem d).U s (flat t)
  | 0, .fin offs dur, _ => ⟨Leaf.fin offs dur 0 none, by rw [build]; rfl, (rfl : [Part.fin offs dur] = _)⟩
  | 0, .unl dur, _ => ⟨Leaf.unl dur none, by rw [build]; rfl, (rfl : [Part.unl dur] = _)⟩
  | 0, .comp cs, h => by simp [Tree.depth] at h
  | d + 1, .comp cs, h => by
      rw [Tree.depth] at h
      obtain ⟨kids, pss, hk, hU, hfl⟩ := buildList_of now d (build_ok now d) cs (by omega)
      obtain ⟨s, hs, hU'⟩ := newComposite_sem (lvlSem d) now kids pss hU
      refine ⟨s, by rw [build, hk]; exact hs, ?_⟩
      rw [flat, ← hfl]
      exact hU'
  | d + 1, .fin offs dur, _ => by
      obtain ⟨x, hx, hU⟩ := build_ok now d (.fin offs dur) (Nat.zero_le _)
      exact ⟨.inl x, by simp only [build, hx]; rfl, hU⟩
  | d + 1, .unl dur, _ => by
      obtain ⟨x, hx, hU⟩ := build_ok now d (.unl dur) (Nat.zero_le _)
      exact ⟨.inl x, by simp only [build, hx]; rfl, hU⟩

theorem build_U (now : Int) (d : Nat) (t : Tree) (s : Lvl d) (hd : t.depth ≤ d) (h : build now d t = .ok s) :
    (lvlSem d).U s (flat t) := by
  obtain ⟨s', hs', hU⟩ := build_ok now d t hd
  rw [h] at hs'; cases hs'; exact hU

/-- a composite with two or more children is built as a composite node (not collapsed) -/
theorem build_inr (now : Int) (c1 c2 : Tree) (cs : List Tree) (d : Nat) (hd : (Tree.comp (c1 :: c2 :: cs)).depth ≤ d + 1) :
    ∃ c, build now (d + 1) (.comp (c1 :: c2 :: cs)) = .ok (.inr c) := by
  simp only [Tree.depth, depthList] at hd
  obtain ⟨x1, hx1, hU1⟩ := build_ok now d c1 (by omega)
  obtain ⟨x2, hx2, hU2⟩ := build_ok now d c2 (by omega)
  obtain ⟨xs, pss, hxs, hU, _⟩ := buildList_of now d (build_ok now d) cs (by omega)
  have hall : AllU (lvlSem d) (x1 :: x2 :: xs) (flat c1 :: flat c2 :: pss) := ⟨hU1, hU2, hU⟩
  refine ⟨⟨x1 :: x2 :: xs, laOf (flat c1 :: flat c2 :: pss), false⟩, ?_⟩
  simp only [build, buildList, hx1, hx2, hxs, bind, Except.bind, pure, Except.pure, newComposite,
    mkLeftAfter_spec (lvlSem d) now _ _ hall]
  rfl

end Pandora.Proofs.C02Sem
