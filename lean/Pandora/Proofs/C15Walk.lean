/-
C15 — the code of `lib/mp/map.go` (`GetMapValue`'s segment loop, `calcIndex`) as interpreted instruction lists equals the
hand-written model.
-/
import Pandora.Model.C15Walk

namespace Pandora.Proofs.C15
open Pandora.Model.C15

/-! ### the segment loop of `GetMapValue` -/

theorem singleton_dot : String.singleton '.' = "." := by decide

theorem walkBy_cons (id : Nat) (seg0 : String) (rest : List String) (cur : List (String × Val)) (key : String) (it : Iter)
    (ih : ∀ c k i, walkBy walkCode id rest c k i = some (walk id rest c k i)) :
    walkBy walkCode id (seg0 :: rest) cur key it = some (walk id (seg0 :: rest) cur key it) := by
  rw [walk, walkBy]
  simp only [walkCode] at ih
  simp only [walkIter, walkCode, runWOps, trimS, singleton_dot, String.toList_ofList, String.append_assoc]
  by_cases hc : ((trimSpace seg0.toList).contains '[' && (trimSpace seg0.toList).getLast? == some ']') = true
  · simp only [hc, if_true, runWOps]
    cases h1 : goSlice (trimSpace seg0.toList) (indexOfC '[' (trimSpace seg0.toList) + 1) (↑(trimSpace seg0.toList).length - 1) with
    | none => simp
    | some inner =>
      simp only []
      cases h2 : goSlice (trimSpace seg0.toList) 0 (indexOfC '[' (trimSpace seg0.toList)) with
      | none => simp
      | some nameL =>
        simp only []
        cases h3 : getKey (String.ofList nameL) cur with
        | none => simp
        | some v =>
          cases v with
          | list xs =>
            simp only []
            cases h4 : calcIndex (lowerS (String.ofList (trimSpace inner))) (key ++ ("." ++ String.ofList (trimSpace seg0.toList))) xs.length id it with
            | err e => simp
            | panic p => simp
            | ok r =>
              obtain ⟨i, it'⟩ := r
              simp only []
              cases h5 : xs[i]? with
              | none => simp
              | some v2 => cases v2 <;> simp [ih] <;> (by_cases hr : rest = [] <;> simp [hr])
          | nil => simp
          | str s => simp
          | num n => simp
          | map m => simp
  · have hc' : ((trimSpace seg0.toList).contains '[' && (trimSpace seg0.toList).getLast? == some ']') = false := by
      simpa using hc
    simp only [hc', Bool.false_eq_true, ↓reduceIte, runWOps]
    cases h3 : getKey (String.ofList (trimSpace seg0.toList)) cur with
    | none => simp
    | some v => cases v <;> simp [ih] <;> (by_cases hr : rest = [] <;> simp [hr])

/-- **the segment loop of `GetMapValue`, interpreted on the code of the repository, is the model's `walk`** -/
theorem walkBy_eq (id : Nat) : ∀ (segs : List String) (cur : List (String × Val)) (key : String) (it : Iter),
    walkBy walkCode id segs cur key it = some (walk id segs cur key it)
  | [], cur, key, it => by rw [walkBy, walk]
  | seg0 :: rest, cur, key, it => walkBy_cons id seg0 rest cur key it (fun c k i => walkBy_eq id rest c k i)

/-! ### the slices of the indexed branch never panic -/

theorem takeWhile_lt (c d : Char) (hdc : d ≠ c) : ∀ (s : List Char), s.contains c = true → s.getLast? = some d →
    (s.takeWhile (· != c)).length + 1 < s.length
  | [], h, _ => by simp at h
  | x :: t, h, hl => by
    by_cases hx : x = c
    · subst hx
      cases t with
      | nil => simp at hl; exact absurd hl.symm hdc
      | cons y t' => simp [List.takeWhile]
    · have hne : (x != c) = true := by simpa using hx
      have ht : t.contains c = true := by
        simp only [List.contains_cons, Bool.or_eq_true] at h
        rcases h with h | h
        · exact absurd (by simpa using h) (fun e : c = x => hx e.symm)
        · exact h
      cases t with
      | nil => simp at ht
      | cons y t' =>
        have hl' : (y :: t').getLast? = some d := by simpa [List.getLast?_cons_cons] using hl
        have := takeWhile_lt c d hdc (y :: t') ht hl'
        simp only [List.takeWhile, hne, List.length_cons] at this ⊢
        omega

/-! ### `calcIndex` -/

/-- the model's `calcIndex` returns a row number; the code interpreter an `int` -/
def outInt : Outcome (Nat × Iter) → Outcome (Int × Iter)
  | .ok (i, it) => .ok ((i : Int), it)
  | .err e => .err e
  | .panic p => .panic p

theorem numericIdx_nonneg (i : Int) (len : Nat) (hl : len ≠ 0) : 0 ≤ numericIdx i len := by
  unfold numericIdx
  split
  · omega
  · have h1 := Int.lt_tmod_of_pos i (show (0 : Int) < len by omega)
    simp only []
    split <;> omega

theorem runCOps_eq (indexStr seg : String) (len id : Nat) (it : Iter) :
    runCOps indexStr seg len id calcCode none it = some (outInt (calcIndex indexStr seg len id it)) := by
  unfold calcCode calcIndex
  simp only [runCOps, List.contains_cons, List.contains_nil, Bool.or_false]
  -- the guards in the order of the code: not an index, an empty list, then the keywords, at last a number
  by_cases hl : indexStr = "last"
  · subst hl
    by_cases h0 : len = 0 <;> simp [h0, outInt]
    omega
  by_cases hr : indexStr = "rand"
  · subst hr
    by_cases h0 : len = 0 <;> simp [h0, outInt]
  by_cases hn : indexStr = "next"
  · subst hn
    by_cases h0 : len = 0 <;> simp [h0, outInt]
    split <;> rfl
  cases hnum : atoi indexStr.toList with
  | none => simp [hl, hr, hn, outInt]
  | some v =>
    by_cases h0 : len = 0
    · simp [h0, outInt]
    · have hnn := numericIdx_nonneg v len h0
      simp [hl, hr, hn, h0, outInt]
      unfold numericIdx at hnn ⊢
      split
      · rename_i hc; simp only [Int.toNat_of_nonneg hc.1]
      · rename_i hc
        simp only [if_neg hc] at hnn
        simp only [Int.toNat_of_nonneg hnn]

end Pandora.Proofs.C15
