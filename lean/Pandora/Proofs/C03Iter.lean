/-
C03 — the loop iteration REGENERATED from `instance.Run`, executed by ANY instance from ANY reachable state.

`Bridge.InstLoop.iterBody_accepted` checks the regenerated body from one canonical state (one instance, one token, one item) for
every answer of the environment.  Here: for every configuration, every reachable state `s` of the pool (any number of
instances anywhere in their loops), every instance `i` standing at `Acquire`, and the answers the state dictates (an item is
there iff the provider is not exhausted, a token iff instance i's profile has one left, fire-or-discard free unless
discard_overflow is off), the operations the regenerated body performs — with instance `i` and the item number `s.acquired` —
are enabled one after the other, and lead back to the `IsFinished` check with the item released (or out of the loop when the
ammo is finished).  So the per-instance program order of the LTS is the source's from every state, not only the canonical one.
-/
import Pandora.Proofs.C03Reach
import Pandora.Bridge.InstLoop

namespace Pandora.Proofs.C03Iter
open Pandora.Model.C03 Pandora.Proofs.C03 Pandora.Model.C03Loop

theorem set_get {α : Type} (l : List α) (i : Nat) (a x : α) (h : l[i]? = some a) : (l.set i x)[i]? = some x :=
  List.getElem?_set_self (lt_of_get h)

theorem prog_acq {c : Cfg} {s : St} {i : Nat} (hI : InvI c s) (hpc : s.pcs[i]? = some .acquire) (ha : s.ammoLeft ≠ some 0) :
    ∃ s', step c s (.acq i) = some s' ∧ s'.pcs[i]? = some .wait ∧ s'.cur[i]? = some (some s.acquired) := by
  have hi : i < s.cur.length := by rw [hI.curLen, ← hI.pcsLen]; exact lt_of_get hpc
  simp only [step, hpc, if_true]
  cases h : s.ammoLeft with
  | none => exact ⟨_, rfl, set_get _ _ _ _ hpc, List.getElem?_set_self hi⟩
  | some a =>
    cases a with
    | zero => exact absurd h ha
    | succ a => exact ⟨_, rfl, set_get _ _ _ _ hpc, List.getElem?_set_self hi⟩

theorem prog_empty {c : Cfg} {s : St} {i : Nat} (hpc : s.pcs[i]? = some .acquire) (ha : s.ammoLeft = some 0) :
    ∃ s', step c s (.empty i) = some s' ∧ s'.pcs[i]? = some .done := by
  simp only [step, hpc, ha, and_self, if_true]
  exact ⟨_, rfl, set_get _ _ _ _ hpc⟩

theorem prog_tokOk {c : Cfg} {s : St} {i : Nat} {k : Nat} (hpc : s.pcs[i]? = some .wait) (hl : 0 < s.left c i)
    (hcur : s.cur[i]? = some (some k)) :
    ∃ s', step c s (.tokOk i) = some s' ∧ s'.pcs[i]? = some .decide ∧ s'.cur[i]? = some (some k) := by
  simp only [step, hpc, hl, and_self, if_true]
  refine ⟨_, rfl, set_get _ _ _ _ hpc, ?_⟩
  unfold St.draw
  split <;> exact hcur

theorem prog_tokEnd {c : Cfg} {s : St} {i : Nat} {k : Nat} (hpc : s.pcs[i]? = some .wait) (hl : s.left c i = 0)
    (hcur : s.cur[i]? = some (some k)) :
    ∃ s', step c s (.tokEnd i) = some s' ∧ s'.pcs[i]? = some .release ∧ s'.cur[i]? = some (some k) := by
  simp only [step, hpc, hl, and_self, if_true]
  exact ⟨_, rfl, set_get _ _ _ _ hpc, hcur⟩

theorem prog_reqAdd {c : Cfg} {s : St} {i : Nat} {k : Nat} (hpc : s.pcs[i]? = some .decide) (hcur : s.cur[i]? = some (some k)) :
    ∃ s', step c s (.reqAdd i) = some s' ∧ s'.pcs[i]? = some .firing ∧ s'.cur[i]? = some (some k) := by
  simp only [step, hpc, if_true]
  exact ⟨_, rfl, set_get _ _ _ _ hpc, hcur⟩

theorem prog_shoot {c : Cfg} {s : St} {i : Nat} {k : Nat} (hpc : s.pcs[i]? = some .firing) (hcur : s.cur[i]? = some (some k)) :
    ∃ s', step c s (.shoot i k) = some s' ∧ s'.pcs[i]? = some .shot ∧ s'.cur[i]? = some (some k) := by
  simp only [step, hpc, hcur, and_self, if_true]
  exact ⟨_, rfl, set_get _ _ _ _ hpc, hcur⟩

theorem prog_respAdd {c : Cfg} {s : St} {i : Nat} {k : Nat} (hpc : s.pcs[i]? = some .shot) (hcur : s.cur[i]? = some (some k)) :
    ∃ s', step c s (.respAdd i) = some s' ∧ s'.pcs[i]? = some .release ∧ s'.cur[i]? = some (some k) := by
  simp only [step, hpc, if_true]
  exact ⟨_, rfl, set_get _ _ _ _ hpc, hcur⟩

theorem prog_discard {c : Cfg} {s : St} {i : Nat} {k : Nat} (hpc : s.pcs[i]? = some .decide) (hd : c.discardOn = true)
    (hcur : s.cur[i]? = some (some k)) :
    ∃ s', step c s (.discard i) = some s' ∧ s'.pcs[i]? = some .release ∧ s'.cur[i]? = some (some k) := by
  simp only [step, hpc, hd, and_self, if_true]
  exact ⟨_, rfl, set_get _ _ _ _ hpc, hcur⟩

theorem prog_rel {c : Cfg} {s : St} {i : Nat} {k : Nat} (hpc : s.pcs[i]? = some .release) (hcur : s.cur[i]? = some (some k)) :
    ∃ s', step c s (.rel i k) = some s' ∧ s'.pcs[i]? = some .check ∧ s'.released = s.released + 1 := by
  simp only [step, hpc, hcur, and_self, if_true]
  exact ⟨_, rfl, set_get _ _ _ _ hpc, rfl⟩

/-- the model event of instance `i` for an act of the iteration, the item in hand being number `k` -/
def toEvAt (i k : Nat) : Act → Option Ev
  | .acq => some (.acq i)
  | .empty => some (.empty i)
  | .tokOk => some (.tokOk i)
  | .tokEnd => some (.tokEnd i)
  | .reqAdd => some (.reqAdd i)
  | .shoot => some (.shoot i k)
  | .respAdd => some (.respAdd i)
  | .discard => some (.discard i)
  | .rel => some (.rel i k)
  | .bad _ => none

/-- what the regenerated body does, answer by answer (the same for an item whose value is nil) -/
theorem exec_gen (o : Oracle) :
    exec Gen.InstLoop.iterBody o .run none [] =
      (if o.acqOk then
        if o.waitOk then
          if o.fire then ([.acq, .tokOk, .reqAdd, .shoot, .respAdd, .rel], .retNil)
          else ([.acq, .tokOk, .discard, .rel], .retNil)
        else ([.acq, .tokEnd, .rel], .retNil)
      else ([.empty], .retErr)) ∧
    exec (onNilItem Gen.InstLoop.iterBody) o .run none [] = exec Gen.InstLoop.iterBody o .run none [] := by
  obtain ⟨a, w, f⟩ := o
  cases a <;> cases w <;> cases f <;> decide

/-- a token stays where it is while instance `i` acquires -/
theorem acq_left {c : Cfg} {s s' : St} {i : Nat} (h : step c s (.acq i) = some s') : s'.left c i = s.left c i := by
  have hk := step_keeps h (fun _ => nofun) (fun _ => nofun)
  simp [St.left, hk.1, hk.2]

/-- **the regenerated iteration from any reachable state** -/
theorem iteration_from_any_state (c : Cfg) (pre : List Ev) (s : St) (hrun : run c (init c) pre = some s) (i : Nat)
    (hpc : s.pcs[i]? = some .acquire) (o : Oracle)
    (hacq : o.acqOk = decide (s.ammoLeft ≠ some 0)) (hwait : o.waitOk = decide (0 < s.left c i))
    (hfire : o.fire = false → c.discardOn = true) :
    ∃ evs s', (exec Gen.InstLoop.iterBody o .run none []).1.mapM (toEvAt i s.acquired) = some evs ∧
      run c s evs = some s' ∧
      s'.pcs[i]? = some (if o.acqOk then .check else .done) ∧
      (exec Gen.InstLoop.iterBody o .run none []).2 = (if o.acqOk then .retNil else .retErr) ∧
      (o.acqOk = true → evs.getLast? = some (.rel i s.acquired)) := by
  have hI := reach_invI hrun
  rw [(exec_gen o).1]
  obtain ⟨a, w, f⟩ := o
  simp only at hacq hwait hfire
  cases a
  · -- out of ammo
    have ha : s.ammoLeft = some 0 := by
      refine Classical.byContradiction fun hne => ?_
      simp [hne] at hacq
    obtain ⟨s1, h1, p1⟩ := prog_empty (c := c) hpc ha
    exact ⟨[.empty i], s1, rfl, by simp [run, h1], by simpa using p1, rfl, by intro h; cases h⟩
  · have ha : s.ammoLeft ≠ some 0 := by
      intro he
      simp [he] at hacq
    obtain ⟨s1, h1, p1, c1⟩ := prog_acq hI hpc ha
    have hl1 := acq_left h1
    cases w
    · -- the schedule is finished: the item goes back unfired
      have hl : s1.left c i = 0 := by
        rw [hl1]
        have : ¬ 0 < s.left c i := by intro hp; simp [hp] at hwait
        omega
      obtain ⟨s2, h2, p2, c2⟩ := prog_tokEnd p1 hl c1
      obtain ⟨s3, h3, p3, _⟩ := prog_rel (c := c) p2 c2
      exact ⟨[.acq i, .tokEnd i, .rel i s.acquired], s3, rfl, by simp [run, h1, h2, h3], by simpa using p3, rfl, by intro _; rfl⟩
    · have hl : 0 < s1.left c i := by
        rw [hl1]
        simpa using hwait.symm
      obtain ⟨s2, h2, p2, c2⟩ := prog_tokOk p1 hl c1
      cases f
      · -- discarded
        obtain ⟨s3, h3, p3, c3⟩ := prog_discard p2 (hfire rfl) c2
        obtain ⟨s4, h4, p4, _⟩ := prog_rel (c := c) p3 c3
        exact ⟨[.acq i, .tokOk i, .discard i, .rel i s.acquired], s4, rfl, by simp [run, h1, h2, h3, h4], by simpa using p4, rfl,
          by intro _; rfl⟩
      · -- fired
        obtain ⟨s3, h3, p3, c3⟩ := prog_reqAdd (c := c) p2 c2
        obtain ⟨s4, h4, p4, c4⟩ := prog_shoot (c := c) p3 c3
        obtain ⟨s5, h5, p5, c5⟩ := prog_respAdd (c := c) p4 c4
        obtain ⟨s6, h6, p6, _⟩ := prog_rel (c := c) p5 c5
        exact ⟨[.acq i, .tokOk i, .reqAdd i, .shoot i s.acquired, .respAdd i, .rel i s.acquired], s6, rfl,
          by simp [run, h1, h2, h3, h4, h5, h6], by simpa using p6, rfl, by intro _; rfl⟩

end Pandora.Proofs.C03Iter
