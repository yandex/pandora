/-
C01 — composition with C02's model of the composite schedule.

`Pandora.Model.C02` models `compositeSchedule` GENERICALLY over the interface `Ops σ` of its nested
schedules (`compNext`, `compStart`, `compLeft`, `newComposite` with the backwards `leftAfter` loop); C02 ties that model
to core/schedule/composite.go for every `ops` (regenerated `Gen.C02Src`, `Bridge.C02Src`: `C02_next_is_source`,
`C02_newComposite_is_source`, `C02_left_is_source`, `C02_seq_refines`).

Here the interface is instantiated with C01's REGENERATED leaf methods (`doAtOps`: `doAtSchedule_Start/Next/Left` of
`Gen.Schedule`), and the hand-written sequential composite of `Proofs/C01Chain` (`compNext`/`chainRun`, on which
`C01_chain` / `C01_step_chain` are proved) is shown to BE C02's composite at that instance: `c02Run = chainRun`.
So the succession theorems are theorems about C02's (source-tied) composite model over C01's (regenerated) leaves, not
about a private copy.
-/
import Pandora.Proofs.C01Chain
import Pandora.Model.C02Sched

set_option linter.unusedVariables false
set_option linter.unusedSimpArgs false

namespace Pandora.Proofs.C01R6Comp
open Pandora Pandora.Gen.Schedule Pandora.Bridge.C01 Pandora.Proofs.C01Chain

/-- the REGENERATED leaf methods as an instance of C02's schedule interface -/
def doAtOps : Model.C02.Ops DoAtSt where
  start s t := match doAtSchedule_Start s t with
    | .error e => .error e
    | .ok (_, s') => .ok s'
  next s now := match doAtSchedule_Next now s with
    | .error e => .error e
    | .ok (r, s') => .ok (s', r.1, r.2)
  left s _ := match doAtSchedule_Left s with
    | .error e => .error e
    | .ok (l, s') => .ok (s', l)
  once0 := NewDoAtSchedule 0 0 (fun _ => 0)

/-- C02's `compNextAux` at `doAtOps` is `C01Chain.compNext`: same answer, same current schedule, same rest (the
`leftAfter` list, which only `Left` reads, is carried along). -/
theorem compNextAux_eq (now : ℤ) : ∀ (rest : List DoAtSt) (c : DoAtSt) (la : List Int),
    ∃ la' : List Int, Model.C02.compNextAux doAtOps c rest la now =
      (match compNext now c rest with
       | .error e => .error e
       | .ok (r, c', rest') => .ok (⟨c' :: rest', la', true⟩, r.1, r.2)) := by
  intro rest
  induction rest with
  | nil =>
      intro c la
      refine ⟨la, ?_⟩
      unfold Model.C02.compNextAux compNext
      simp only [doAtOps, bind, Except.bind, pure, Except.pure]
      cases h : doAtSchedule_Next now c with
      | error e => simp
      | ok v =>
          obtain ⟨⟨t, ok⟩, s'⟩ := v
          cases ok <;> simp
  | cons s2 rest ih =>
      intro c la
      unfold Model.C02.compNextAux compNext
      simp only [doAtOps, bind, Except.bind, pure, Except.pure]
      cases h : doAtSchedule_Next now c with
      | error e => exact ⟨la, by simp⟩
      | ok v =>
          obtain ⟨⟨t, ok⟩, s'⟩ := v
          cases ok with
          | true => exact ⟨la, by simp⟩
          | false =>
              cases h2 : doAtSchedule_Start s2 t with
              | error e => exact ⟨la, by simp [h2]⟩
              | ok w =>
                  obtain ⟨u, s2'⟩ := w
                  cases h3 : doAtSchedule_Next now s2' with
                  | error e => exact ⟨la, by simp [h2, h3]⟩
                  | ok v3 =>
                      obtain ⟨⟨t3, ok3⟩, s3⟩ := v3
                      cases ok3 with
                      | true => exact ⟨la.tail, by simp [h2, h3]⟩
                      | false =>
                          obtain ⟨la', hla⟩ := ih s3 la.tail
                          refine ⟨la', ?_⟩
                          simp only [h2, h3]
                          simpa [doAtOps] using hla

/-- one consumer drains C02's composite `⟨cur :: rest, la, _⟩` over the regenerated leaves -/
def c02Drain : Model.C02.Comp DoAtSt → List ℤ → Except String (List (ℤ × Bool))
  | _, [] => .ok []
  | s, now :: nows =>
      match Model.C02.compNext doAtOps s now with
      | .error e => .error e
      | .ok (s', t, ok) =>
          match c02Drain s' nows with
          | .error e => .error e
          | .ok rs => .ok ((t, ok) :: rs)

theorem c02Drain_eq : ∀ (nows : List ℤ) (cur : DoAtSt) (rest : List DoAtSt) (la : List Int) (b : Bool),
    c02Drain ⟨cur :: rest, la, b⟩ nows = compDrain cur rest nows := by
  intro nows
  induction nows with
  | nil => intro cur rest la b; simp [c02Drain, compDrain]
  | cons now nows ih =>
      intro cur rest la b
      obtain ⟨la', h⟩ := compNextAux_eq now rest cur la
      simp only [c02Drain, compDrain, Model.C02.compNext, h]
      cases hc : compNext now cur rest with
      | error e => simp
      | ok v =>
          obtain ⟨r, c', rest'⟩ := v
          simp only [ih c' rest' la' true]
          cases compDrain c' rest' nows <;> simp

/-- a leaf schedule (what `NewComposite` returns for 0 or 1 nested schedules) drained by one consumer -/
def leafDrain : DoAtSt → List ℤ → Except String (List (ℤ × Bool))
  | _, [] => .ok []
  | s, now :: nows =>
      match doAtOps.next s now with
      | .error e => .error e
      | .ok (s', t, ok) =>
          match leafDrain s' nows with
          | .error e => .error e
          | .ok rs => .ok ((t, ok) :: rs)

theorem leafDrain_eq : ∀ (nows : List ℤ) (s : DoAtSt), leafDrain s nows = compDrain s [] nows := by
  intro nows
  induction nows with
  | nil => intro s; simp [leafDrain, compDrain]
  | cons now nows ih =>
      intro s
      simp only [leafDrain, compDrain, compNext, doAtOps]
      cases h : doAtSchedule_Next now s with
      | error e => simp
      | ok v =>
          obtain ⟨r, s'⟩ := v
          simp only [ih s']
          cases compDrain s' [] nows <;> simp

/-- `mkLeftAfter` over fresh leaves: `Left()` of a leaf nobody has touched changes nothing, the children come back as
they were; `leftAfter[i]` = the operations of the levels after level i (a negative count counts as 0, as in `Left`). -/
def opsAfter : List Level → Int
  | [] => 0
  | l :: rest => (if l.2.1 < 0 then 0 else l.2.1) + opsAfter rest

theorem opsAfter_nonneg : ∀ ls : List Level, 0 ≤ opsAfter ls
  | [] => le_refl _
  | l :: rest => by
      have := opsAfter_nonneg rest
      unfold opsAfter
      split_ifs <;> omega

def leftAfterOf : List Level → List Int
  | [] => []
  | _ :: rest => opsAfter rest :: leftAfterOf rest

theorem doAtOps_left_fresh (l : Level) (now : Int) :
    doAtOps.left (fresh l) now = .ok (fresh l, if l.2.1 < 0 then 0 else l.2.1) := by
  simp [doAtOps, fresh, left_fresh]

theorem mkLeftAfter_fresh (now : Int) : ∀ ls : List Level,
    Model.C02.mkLeftAfter doAtOps now (ls.map fresh) = .ok (ls.map fresh, leftAfterOf ls, opsAfter ls, false)
  | [] => rfl
  | l :: rest => by
      have ih := mkLeftAfter_fresh now rest
      have h0 := opsAfter_nonneg rest
      simp only [List.map_cons, Model.C02.mkLeftAfter, ih, doAtOps_left_fresh, bind, Except.bind, pure, Except.pure,
        leftAfterOf, opsAfter]
      by_cases hn : l.2.1 < 0
      · simp [hn]
      · simp [hn]
        omega

/-- the profile built by C02's `newComposite` from fresh regenerated leaves, told its start and drained by one consumer -/
def c02Run (levels : List Level) (t0 : ℤ) (nows : List ℤ) : Except String (List (ℤ × Bool)) :=
  match Model.C02.newComposite doAtOps t0 (levels.map fresh) with
  | .error e => .error e
  | .ok (.inl leaf) =>
      (match doAtOps.start leaf t0 with
       | .error e => .error e
       | .ok leaf' => leafDrain leaf' nows)
  | .ok (.inr c) =>
      (match Model.C02.compStart doAtOps c t0 with
       | .error e => .error e
       | .ok c' => c02Drain c' nows)

/-- **the sequential composite of `C01Chain` IS C02's composite over the regenerated leaf methods** -/
theorem c02Run_eq_chainRun (levels : List Level) (t0 : ℤ) (nows : List ℤ) :
    c02Run levels t0 nows = chainRun levels t0 nows := by
  match levels with
  | [] =>
      simp only [c02Run, chainRun, Model.C02.newComposite, List.map_nil, pure, Except.pure, compInit, compStart, doAtOps]
      cases h : doAtSchedule_Start (NewDoAtSchedule 0 0 fun _ => 0) t0 with
      | error e => simp
      | ok v => obtain ⟨u, s⟩ := v; simp [leafDrain_eq, doAtOps]
  | [l] =>
      simp only [c02Run, chainRun, Model.C02.newComposite, List.map_cons, List.map_nil, pure, Except.pure, compInit,
        compStart, doAtOps]
      cases h : doAtSchedule_Start (fresh l) t0 with
      | error e => simp
      | ok v => obtain ⟨u, s⟩ := v; simp [leafDrain_eq, doAtOps]
  | l :: l2 :: rest =>
      have hm := mkLeftAfter_fresh t0 (l :: l2 :: rest)
      simp only [List.map_cons] at hm
      simp only [c02Run, chainRun, Model.C02.newComposite, List.map_cons, hm, bind, Except.bind, pure, Except.pure,
        compInit, compStart, Model.C02.compStart]
      simp only [doAtOps]
      cases h : doAtSchedule_Start (fresh l) t0 with
      | error e => simp
      | ok v =>
          obtain ⟨u, s⟩ := v
          simp only []
          exact c02Drain_eq nows s _ _ true

/-- `Left()` of the composite C02's `newComposite` builds from two or more fresh regenerated leaves, asked before the
start: the operations of all levels. -/
theorem c02Left_before_start (l l2 : Level) (rest : List Level) (now0 now : ℤ)
    (hpos : ∀ x ∈ l :: l2 :: rest, 0 ≤ x.2.1) :
    ∃ c, Model.C02.newComposite doAtOps now0 ((l :: l2 :: rest).map fresh) = .ok (.inr c) ∧
      ∃ c', Model.C02.compLeft doAtOps c now = .ok (c', opsAfter (l :: l2 :: rest)) := by
  have hm := mkLeftAfter_fresh now0 (l :: l2 :: rest)
  simp only [List.map_cons] at hm
  refine ⟨⟨(l :: l2 :: rest).map fresh, leftAfterOf (l :: l2 :: rest), false⟩, ?_, ?_⟩
  · simp only [Model.C02.newComposite, List.map_cons, hm, bind, Except.bind, pure, Except.pure]
  · have hl : 0 ≤ l.2.1 := hpos l (by simp)
    have h0 := opsAfter_nonneg (l2 :: rest)
    unfold Model.C02.compLeft
    simp only [List.map_cons]
    unfold Model.C02.compLeftAux
    simp only [doAtOps_left_fresh, bind, Except.bind, pure, Except.pure, leftAfterOf, List.headD,
      Model.C02.combineLeft]
    have hnl : ¬ (l.2.1 < 0) := by omega
    simp only [hnl, if_false]
    by_cases hz : l.2.1 = 0
    · simp only [opsAfter] at h0
      simp [hz, opsAfter, h0]
    · have hne : (l.2.1 == 0) = false := by simpa using hz
      have hnl2 : ¬ (opsAfter (l2 :: rest) < 0) := by omega
      simp only [opsAfter] at hnl2
      simp [hne, hnl, hnl2, opsAfter]

end Pandora.Proofs.C01R6Comp
