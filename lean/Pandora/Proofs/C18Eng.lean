import Pandora.Proofs.C18Ext
import Pandora.Model.C18Engine

namespace Pandora.Proofs.C18
open Pandora.Model.C18 Pandora.Spec.C18 Pandora.Model.C18Engine

theorem gunK_le (inp : Input) (inst : Nat) : gunK inp inst ≤ poolGunCalls inst := by
  unfold gunK
  split
  · exact Nat.le_refl _
  · split
    · exact Nat.le_refl _
    · exact Nat.min_le_right _ _

theorem eng_products_eq (steps : List Step) : Pandora.Model.C18Engine.products steps = Pandora.Spec.C18.products steps := by
  unfold Pandora.Model.C18Engine.products Pandora.Spec.C18.products
  congr 1

theorem dedup_nodup [DecidableEq α] (l : List α) (h : l.Nodup) : dedup l = l := by
  induction l with
  | nil => rfl
  | cons a l ih =>
    rw [List.nodup_cons] at h
    simp [dedup, ih h.2, h.1]

theorem mem_dedup [DecidableEq α] (a : α) (l : List α) : a ∈ dedup l → a ∈ l := by
  induction l with
  | nil => simp [dedup]
  | cons b l ih =>
    simp only [dedup]
    split
    · intro h; exact List.mem_cons_of_mem _ (ih h)
    · intro h
      simp only [List.mem_cons] at h ⊢
      rcases h with h | h
      · exact .inl h
      · exact .inr (ih h)

theorem products_cells (steps : List Step) :
    (Pandora.Spec.C18.products steps).filterMap (·.cell) = steps.filterMap prodCell? := by
  unfold Pandora.Spec.C18.products
  rw [List.filterMap_filterMap]
  rfl

/-- a phase builds at most k products: the creation step builds none -/
theorem products_le (inp : Input) (st : St) : (Pandora.Spec.C18.products (phaseObs inp st).steps).length ≤ inp.k := by
  unfold Pandora.Spec.C18.products
  rcases phase_cases inp st with ⟨_, hsteps, _⟩ | ⟨_, _, _, ⟨e, _, hsteps⟩ | ⟨fac, _, hsteps, _⟩⟩
  · rw [hsteps]
    exact Nat.le_trans (List.length_filterMap_le _ _) (Nat.le_of_eq (iter_length _ _ _))
  · rw [hsteps]; exact Nat.zero_le _
  · rw [hsteps, List.filterMap_cons]
    exact Nat.le_trans (List.length_filterMap_le _ _) (Nat.le_of_eq (iter_length _ _ _))

/-- a pool run, in terms of the registry model -/
theorem engine_run {inp : Input} {inst : Nat} {per : Bool} {eo : EngineObs} (h : engineRun inp inst per = some eo) :
    ∃ obs, run (gunInput inp inst) = some obs ∧
      eo.guns = (Pandora.Spec.C18.products obs.steps).length ∧
      eo.guns ≤ poolGunCalls inst ∧
      (inp.sh.cfg ≠ .none → ∀ t ∈ eo.seen,
        t = ((expected inp.sh inp.w).get 1, (expected inp.sh inp.w).get 2, (expected inp.sh inp.w).get 3)) ∧
      (freshApplies (gunInput inp inst) = true →
        eo.cells = ((Pandora.Spec.C18.products obs.steps).filterMap (·.cell)).length ∧ eo.own = eo.cells) := by
  unfold engineRun at h
  cases hrun : run (gunInput inp inst) with
  | none => simp [hrun] at h
  | some obs =>
    simp only [hrun, Option.map_some, Option.some.injEq] at h
    subst h
    have hph := (run_eq_phase hrun).2
    refine ⟨obs, rfl, ?_, ?_, ?_, ?_⟩
    · simp only [eng_products_eq]
    · simp only [eng_products_eq]
      have := products_le (gunInput inp inst) (initSt (gunInput inp inst).sh (gunInput inp inst).w)
      rw [← hph] at this
      have hk := gunK_le inp inst
      simp only [gunInput] at this
      omega
    · intro hc t ht
      simp only [eng_products_eq] at ht
      have ht := mem_dedup _ _ ht
      simp only [List.mem_map] at ht
      obtain ⟨p, hp, rfl⟩ := ht
      rw [hph] at hp
      have := (config_phase (gunInput inp inst) _ (initSt_shared _ _) p hp).2 hc
      rw [this 1 (by decide), this 2 (by decide), this 3 (by decide)]
      rfl
    · intro ha
      have hf := fresh_run hrun ha
      simp only [freshOk, Bool.and_eq_true, List.all_eq_true, nodup, decide_eq_true_eq, beq_iff_eq] at hf
      obtain ⟨⟨⟨⟨⟨⟨_, _⟩, _⟩, _⟩, n3⟩, hown⟩, hlen⟩ := hf
      have hcalls : callsOf (gunInput inp inst) obs = obs.steps.drop 1 := by simp [callsOf, gunInput]
      have hdrop : obs.steps.filterMap prodCell? = (obs.steps.drop 1).filterMap prodCell? := by
        rw [← hcalls, (run_eq_phase hrun).2]
        exact (calls_cells _ _).symm
      rw [hcalls] at n3 hlen
      simp only [eng_products_eq, products_cells, hdrop]
      refine ⟨by rw [dedup_nodup _ n3], ?_⟩
      rw [dedup_nodup _ n3, ← hlen]
      congr 1
      apply List.filter_eq_self.mpr
      intro v hv
      have := hown v hv
      simp [this]

end Pandora.Proofs.C18
