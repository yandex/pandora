/-
C02 — facts about the flat specification (`Spec/C02Flat.lean`): how `segNext` / `segLeft` distribute over
`++` (used by the refinement proofs) and the clauses of the token contract themselves, proved once, on the
flat list of parts.
-/
import Pandora.Spec.C02Flat

set_option linter.unusedVariables false

namespace Pandora.Proofs.C02Flat
open Pandora.Spec.C02

/-! ### Dead -/

theorem dead_mono : ∀ {a : List Seg} {clk clk' : Int}, Dead a clk → clk ≤ clk' → Dead a clk'
  | [], _, _, _, _ => trivial
  | .fin _ _ :: r, _, _, h, hle => ⟨h.1, dead_mono (a := r) h.2 hle⟩
  | .unl _ _ :: r, _, _, h, hle => ⟨by have := h.1; omega, dead_mono (a := r) h.2 hle⟩

theorem dead_append : ∀ (a b : List Seg) (clk : Int), Dead (a ++ b) clk ↔ Dead a clk ∧ Dead b clk
  | [], b, clk => by simp [Dead]
  | .fin toks f :: r, b, clk => by simp [Dead, dead_append r b clk, and_assoc]
  | .unl s f :: r, b, clk => by simp [Dead, dead_append r b clk, and_assoc]

/-! ### finOf -/

theorem finOf_append : ∀ (a b : List Seg) (d : Int), finOf (a ++ b) d = finOf b (finOf a d)
  | [], _, _ => rfl
  | .fin _ f :: r, b, _ => by simp [finOf, finOf_append r b f]
  | .unl _ f :: r, b, _ => by simp [finOf, finOf_append r b f]

theorem finOf_default : ∀ {a : List Seg} (d d' : Int), a ≠ [] → finOf a d = finOf a d'
  | [], _, _, h => absurd rfl h
  | .fin _ _ :: _, _, _, _ => rfl
  | .unl _ _ :: _, _, _, _ => rfl

/-! ### segNext -/

theorem segNextAux_append : ∀ (a b : List Seg) (l now : Int),
    segNextAux l (a ++ b) now =
      if (segNextAux l a now).2.2 then ((segNextAux l a now).1 ++ b, (segNextAux l a now).2)
      else ((segNextAux l a now).1 ++ (segNextAux (segNextAux l a now).2.1 b now).1,
            (segNextAux (segNextAux l a now).2.1 b now).2)
  | [], b, l, now => by simp [segNextAux]
  | .fin (t :: ts) f :: r, b, l, now => by simp [segNextAux]
  | .fin [] f :: r, b, l, now => by
      have ih := segNextAux_append r b f now
      simp only [List.cons_append, segNextAux, ih]
      split <;> simp [*]
  | .unl s f :: r, b, l, now => by
      have ih := segNextAux_append r b f now
      simp only [List.cons_append, segNextAux]
      by_cases h : now < f
      · simp [h]
      · simp only [h, if_false, ih]
        split <;> simp [*]

theorem segNextAux_notok : ∀ (a : List Seg) (l now : Int), (segNextAux l a now).2.2 = false →
    Dead a now ∧ (segNextAux l a now).1 = a ∧ (segNextAux l a now).2.1 = finOf a l
  | [], l, now, _ => ⟨trivial, rfl, rfl⟩
  | .fin (t :: ts) f :: r, l, now, h => by simp [segNextAux] at h
  | .fin [] f :: r, l, now, h => by
      simp only [segNextAux] at h ⊢
      obtain ⟨h1, h2, h3⟩ := segNextAux_notok r f now h
      exact ⟨⟨rfl, h1⟩, by rw [h2], by simpa [finOf] using h3⟩
  | .unl s f :: r, l, now, h => by
      simp only [segNextAux] at h ⊢
      by_cases hlt : now < f
      · simp [hlt] at h
      · simp only [hlt, if_false] at h ⊢
        obtain ⟨h1, h2, h3⟩ := segNextAux_notok r f now h
        exact ⟨⟨by omega, h1⟩, by rw [h2], by simpa [finOf] using h3⟩

theorem segNextAux_dead : ∀ (a : List Seg) (l clk now : Int), Dead a clk → clk ≤ now →
    segNextAux l a now = (a, finOf a l, false)
  | [], _, _, _, _, _ => rfl
  | .fin toks f :: r, l, clk, now, h, hle => by
      obtain ⟨h1, h2⟩ := h
      subst h1
      simp [segNextAux, finOf, segNextAux_dead r f clk now h2 hle]
  | .unl s f :: r, l, clk, now, h, hle => by
      obtain ⟨h1, h2⟩ := h
      have : ¬ now < f := by omega
      simp [segNextAux, finOf, this, segNextAux_dead r f clk now h2 hle]

theorem finOf_segNextAux : ∀ (a : List Seg) (l now d : Int), finOf (segNextAux l a now).1 d = finOf a d
  | [], _, _, _ => rfl
  | .fin (t :: ts) f :: r, _, _, _ => rfl
  | .fin [] f :: r, l, now, d => by simp [segNextAux, finOf, finOf_segNextAux r f now f]
  | .unl s f :: r, l, now, d => by
      by_cases h : now < f <;> simp [segNextAux, finOf, h, finOf_segNextAux r f now f]

theorem segNextAux_default : ∀ {a : List Seg} (l l' now : Int), a ≠ [] → segNextAux l a now = segNextAux l' a now
  | [], _, _, _, h => absurd rfl h
  | .fin (t :: ts) f :: r, _, _, _, _ => rfl
  | .fin [] f :: r, _, _, _, _ => rfl
  | .unl s f :: r, _, _, _, _ => rfl

theorem segNextAux_ne : ∀ (a : List Seg) (l now : Int), a ≠ [] → (segNextAux l a now).1 ≠ []
  | [], _, _, h => absurd rfl h
  | .fin (t :: ts) f :: r, _, _, _ => by simp [segNextAux]
  | .fin [] f :: r, _, _, _ => by simp [segNextAux]
  | .unl s f :: r, _, now, _ => by by_cases h : now < f <;> simp [segNextAux, h]

/-! ### counts, and `inst` / `endOf` over `++` -/

theorem pendSegs_ge : ∀ (a : List Seg), -1 ≤ pendSegs a
  | [] => by simp [pendSegs]
  | .unl _ _ :: _ => by simp [pendSegs]
  | .fin toks _ :: r => by
      have := pendSegs_ge r
      simp only [pendSegs]; split <;> omega

theorem pendSegs_fin (toks : List Int) (f : Int) (r : List Seg) :
    pendSegs (.fin toks f :: r) = if pendSegs r < 0 then -1 else (toks.length : Int) + pendSegs r := rfl

theorem pendSegs_append : ∀ (a b : List Seg),
    pendSegs (a ++ b) = if pendSegs a < 0 ∨ pendSegs b < 0 then -1 else pendSegs a + pendSegs b
  | [], b => by
      have := pendSegs_ge b
      by_cases h : pendSegs b < 0
      · rw [if_pos (Or.inr h)]; show pendSegs b = -1; omega
      · rw [if_neg (by simp [pendSegs, h])]; show pendSegs b = 0 + pendSegs b; omega
  | .unl _ _ :: r, b => by simp [pendSegs]
  | .fin toks f :: r, b => by
      have h1 := pendSegs_ge r
      have h2 := pendSegs_ge b
      rw [List.cons_append, pendSegs_fin, pendSegs_fin, pendSegs_append r b]
      by_cases hr : pendSegs r < 0
      · rw [if_pos (Or.inl hr), if_pos hr]; rfl
      · rw [if_neg hr]
        by_cases hb : pendSegs b < 0
        · rw [if_pos (Or.inr hb), if_pos (Or.inr hb)]; rfl
        · rw [if_neg (by omega), if_neg (by omega), if_neg (by omega)]; omega

/-- the parts not started yet count as their segments will, whenever they are started -/
theorem pendSegs_inst : ∀ (p : List Part) (t : Int), pendSegs (inst p t) = partsLeft p
  | [], _ => rfl
  | .unl _ :: _, _ => rfl
  | .fin offs dur :: r, t => by simp [inst, pendSegs, partsLeft, pendSegs_inst r (t + dur)]

theorem inst_append : ∀ (a b : List Part) (t : Int), inst (a ++ b) t = inst a t ++ inst b (endOf a t)
  | [], _, _ => rfl
  | .fin offs dur :: r, b, t => by simp [inst, endOf, Part.dur, inst_append r b (t + dur)]
  | .unl dur :: r, b, t => by simp [inst, endOf, Part.dur, inst_append r b (t + dur)]

theorem partsLeft_ge (a : List Part) : -1 ≤ partsLeft a := by
  rw [← pendSegs_inst a 0]; exact pendSegs_ge _

theorem partsLeft_append (a b : List Part) :
    partsLeft (a ++ b) = if partsLeft a < 0 ∨ partsLeft b < 0 then -1 else partsLeft a + partsLeft b := by
  rw [← pendSegs_inst (a ++ b) 0, inst_append, pendSegs_append, pendSegs_inst, pendSegs_inst]

theorem endOf_append : ∀ (a b : List Part) (t : Int), endOf (a ++ b) t = endOf b (endOf a t)
  | [], _, _ => rfl
  | p :: r, b, t => by simp [endOf, endOf_append r b (t + p.dur)]

theorem finOf_inst : ∀ (p : List Part) (t : Int), finOf (inst p t) t = endOf p t
  | [], _ => rfl
  | .fin offs dur :: r, t => by simpa [inst, finOf, endOf, Part.dur] using finOf_inst r (t + dur)
  | .unl dur :: r, t => by simpa [inst, finOf, endOf, Part.dur] using finOf_inst r (t + dur)

theorem inst_ne : ∀ {p : List Part} (t : Int), p ≠ [] → inst p t ≠ []
  | [], _, h => absurd rfl h
  | .fin _ _ :: _, _, _ => by simp [inst]
  | .unl _ :: _, _, _ => by simp [inst]

theorem dead_inst_of_zero : ∀ (p : List Part) (t clk : Int), partsLeft p = 0 → Dead (inst p t) clk
  | [], _, _, _ => trivial
  | .unl _ :: _, _, _, h => by simp [partsLeft] at h
  | .fin offs dur :: r, t, clk, h => by
      have hr := partsLeft_ge r
      simp only [partsLeft] at h
      split at h
      · omega
      · have h0 : offs.length = 0 := by omega
        have hr0 : partsLeft r = 0 := by omega
        refine ⟨by simp [List.length_eq_zero_iff.mp h0], dead_inst_of_zero r (t + dur) clk hr0⟩

/-! ### segLeft -/

theorem segLeft_fin_nil (f : Int) (r : List Seg) (now : Int) : segLeft (.fin [] f :: r) now = segLeft r now := rfl

/-- a part with tokens still to hand out: `Left` is the count of everything from here on -/
theorem segLeft_fin_cons (t : Int) (ts : List Int) (f : Int) (r : List Seg) (now : Int) :
    segLeft (.fin (t :: ts) f :: r) now = pendSegs (.fin (t :: ts) f :: r) := rfl

theorem segLeft_unl_live {s f now : Int} (r : List Seg) (h : now < f) : segLeft (.unl s f :: r) now = -1 := if_pos h

theorem segLeft_unl_done {s f now : Int} (r : List Seg) (h : ¬ now < f) : segLeft (.unl s f :: r) now = segLeft r now :=
  if_neg h

/-- … and that count is unknown or at least one -/
theorem pendSegs_fin_cons_pos (t : Int) (ts : List Int) (f : Int) (r : List Seg) :
    pendSegs (.fin (t :: ts) f :: r) = -1 ∨ 0 < pendSegs (.fin (t :: ts) f :: r) := by
  have := pendSegs_ge r
  rw [pendSegs_fin, List.length_cons]; split <;> omega

theorem segLeft_ge : ∀ (a : List Seg) (now : Int), -1 ≤ segLeft a now
  | [], _ => show (-1 : Int) ≤ 0 by decide
  | .fin [] _ :: r, now => segLeft_ge r now
  | .fin (t :: ts) f :: r, _ => pendSegs_ge (.fin (t :: ts) f :: r)
  | .unl _ f :: r, now => by
      by_cases h : now < f
      · rw [segLeft_unl_live r h]; decide
      · rw [segLeft_unl_done r h]; exact segLeft_ge r now

theorem segLeft_dead_append : ∀ (a b : List Seg) (clk now : Int), Dead a clk → clk ≤ now →
    segLeft (a ++ b) now = segLeft b now
  | [], _, _, _, _, _ => rfl
  | .fin toks f :: r, b, clk, now, h, hle => by
      obtain ⟨h1, h2⟩ := h
      subst h1
      exact segLeft_dead_append r b clk now h2 hle
  | .unl s f :: r, b, clk, now, h, hle => by
      rw [List.cons_append, segLeft_unl_done _ (by have := h.1; omega)]
      exact segLeft_dead_append r b clk now h.2 hle

theorem segLeft_zero_iff : ∀ (a : List Seg) (now : Int), segLeft a now = 0 ↔ Dead a now
  | [], _ => ⟨fun _ => trivial, fun _ => rfl⟩
  | .fin [] f :: r, now => by
      rw [segLeft_fin_nil, segLeft_zero_iff r now]
      exact ⟨fun h => ⟨rfl, h⟩, fun h => h.2⟩
  | .fin (t :: ts) f :: r, now => by
      rw [segLeft_fin_cons]
      exact ⟨fun h => by have := pendSegs_fin_cons_pos t ts f r; omega, fun h => nomatch h.1⟩
  | .unl s f :: r, now => by
      by_cases h : now < f
      · rw [segLeft_unl_live r h]
        exact ⟨fun h' => by omega, fun h' => by have := h'.1; omega⟩
      · rw [segLeft_unl_done r h, segLeft_zero_iff r now]
        exact ⟨fun h' => ⟨by omega, h'⟩, fun h' => h'.2⟩

theorem segLeft_of_pend : ∀ (a : List Seg) (now : Int), 0 ≤ pendSegs a → segLeft a now = pendSegs a
  | [], _, _ => rfl
  | .unl _ _ :: _, _, h => absurd h (show ¬ (0 : Int) ≤ -1 by decide)
  | .fin (_ :: _) _ :: _, _, _ => rfl
  | .fin [] f :: r, now, h => by
      rw [pendSegs_fin] at h ⊢
      have hr : ¬ pendSegs r < 0 := fun hr => by rw [if_pos hr] at h; omega
      rw [if_neg hr, segLeft_fin_nil, segLeft_of_pend r now (by omega)]
      show pendSegs r = 0 + pendSegs r
      omega

/-- `Left` of a succession: that of its first half while something is alive there, counted together with what is
pending behind it -/
theorem segLeft_append : ∀ (a b : List Seg) (now : Int), segLeft (a ++ b) now =
    if segLeft a now = 0 then segLeft b now
    else if segLeft a now < 0 ∨ pendSegs b < 0 then -1 else segLeft a now + pendSegs b
  | [], _, _ => rfl
  | .fin [] _ :: r, b, now => segLeft_append r b now
  | .fin (t :: ts) f :: r, b, now => by
      rw [List.cons_append, segLeft_fin_cons, segLeft_fin_cons, if_neg (by have := pendSegs_fin_cons_pos t ts f r; omega)]
      exact pendSegs_append (.fin (t :: ts) f :: r) b
  | .unl s f :: r, b, now => by
      by_cases h : now < f
      · rw [List.cons_append, segLeft_unl_live _ h, segLeft_unl_live _ h, if_neg (by decide), if_pos (Or.inl (by decide))]
      · rw [List.cons_append, segLeft_unl_done _ h, segLeft_unl_done _ h]; exact segLeft_append r b now

/-! ## The clauses of the token contract, on the flat spec -/

/-- a clock token of a live unlimited part: every part before it is dead, the clock is before its finish,
the token is the clock reading but never before the part's start -/
def UnlTok (a : List Seg) (now tx : Int) : Prop :=
  ∃ pre s f post, a = pre ++ Seg.unl s f :: post ∧ Dead pre now ∧ now < f ∧ tx = max now s

/-- **exactly once**: an ok `Next` either pops the first remaining token of the finite parts (and nothing else
changes), or is a clock token of a live unlimited part and leaves every finite token where it is; a `!ok`
`Next` changes nothing. -/
theorem segNextAux_finToks : ∀ (a : List Seg) (l now : Int),
    ((segNextAux l a now).2.2 = true ∧ finToks a = (segNextAux l a now).2.1 :: finToks (segNextAux l a now).1) ∨
    (finToks (segNextAux l a now).1 = finToks a ∧
      ((segNextAux l a now).2.2 = true → UnlTok a now (segNextAux l a now).2.1))
  | [], _, _ => Or.inr ⟨rfl, by simp [segNextAux]⟩
  | .fin (t :: ts) f :: r, _, _ => Or.inl ⟨rfl, by simp [segNextAux, finToks]⟩
  | .fin [] f :: r, l, now => by
      simp only [segNextAux, finToks, List.nil_append]
      rcases segNextAux_finToks r f now with ⟨h1, h2⟩ | ⟨h1, h2⟩
      · exact Or.inl ⟨h1, h2⟩
      · refine Or.inr ⟨h1, fun hok => ?_⟩
        obtain ⟨pre, s, f', post, rfl, hd, hlt, htx⟩ := h2 hok
        exact ⟨.fin [] f :: pre, s, f', post, rfl, ⟨rfl, hd⟩, hlt, htx⟩
  | .unl s f :: r, l, now => by
      by_cases hlt : now < f
      · exact Or.inr ⟨by simp [segNextAux, hlt, finToks],
          fun _ => ⟨[], s, f, r, rfl, trivial, hlt, by simp [segNextAux, hlt]⟩⟩
      · simp only [segNextAux, hlt, if_false, finToks]
        rcases segNextAux_finToks r f now with ⟨h1, h2⟩ | ⟨h1, h2⟩
        · exact Or.inl ⟨h1, h2⟩
        · refine Or.inr ⟨h1, fun hok => ?_⟩
          obtain ⟨pre, s', f', post, rfl, hd, hlt', htx⟩ := h2 hok
          exact ⟨.unl s f :: pre, s', f', post, rfl, ⟨by omega, hd⟩, hlt', htx⟩

/-- the finite tokens still to come are counted by `pendSegs` when it is known -/
theorem pendSegs_finToks : ∀ (a : List Seg), 0 ≤ pendSegs a → pendSegs a = ((finToks a).length : Int)
  | [], _ => rfl
  | .unl _ _ :: _, h => by simp [pendSegs] at h
  | .fin toks f :: r, h => by
      have hp := pendSegs_ge r
      simp only [pendSegs] at h ⊢
      split at h
      · omega
      · have ih := pendSegs_finToks r (by omega)
        simp only [finToks, List.length_append, ih]
        omega

/-- a known `Left` stays what it is while the clock advances and nobody draws -/
theorem segLeft_known_stable : ∀ (a : List Seg) (now now' : Int), 0 ≤ segLeft a now → now ≤ now' →
    segLeft a now' = segLeft a now
  | [], _, _, _, _ => rfl
  | .fin [] _ :: r, now, now', h, hle => segLeft_known_stable r now now' h hle
  | .fin (_ :: _) _ :: _, _, _, _, _ => rfl
  | .unl s f :: r, now, now', h, hle => by
      by_cases hlt : now < f
      · rw [segLeft_unl_live r hlt] at h; exact absurd h (by decide)
      · rw [segLeft_unl_done r hlt] at h ⊢
        rw [segLeft_unl_done r (by omega)]
        exact segLeft_known_stable r now now' h hle

/-- popping a token of a known count takes one off -/
theorem pendSegs_pop (t : Int) (ts : List Int) (f : Int) (r : List Seg) (h : 0 ≤ pendSegs (.fin (t :: ts) f :: r)) :
    pendSegs (.fin (t :: ts) f :: r) = pendSegs (.fin ts f :: r) + 1 := by
  rw [pendSegs_fin] at h ⊢
  rw [pendSegs_fin]
  by_cases hr : pendSegs r < 0
  · rw [if_pos hr] at h; omega
  · rw [if_neg hr, if_neg hr, List.length_cons]; omega

/-- **Left is exact when it is non-negative**: zero ⇒ the next `Next` (at any later clock) is `!ok` and nothing
changes; positive ⇒ the next `Next` is ok and `Left` drops by exactly one. -/
theorem segLeft_step : ∀ (a : List Seg) (l now : Int), 0 ≤ segLeft a now →
    (segNextAux l a now).2.2 = decide (0 < segLeft a now) ∧
    segLeft (segNextAux l a now).1 now = segLeft a now - (if 0 < segLeft a now then 1 else 0)
  | [], _, _, _ => ⟨rfl, rfl⟩
  | .fin (t :: ts) f :: r, l, now, h => by
      rw [segLeft_fin_cons] at h ⊢
      have hpop := pendSegs_pop t ts f r h
      have hpos : 0 < pendSegs (.fin (t :: ts) f :: r) := by have := pendSegs_fin_cons_pos t ts f r; omega
      refine ⟨(decide_eq_true hpos).symm, ?_⟩
      show segLeft (.fin ts f :: r) now = _
      rw [if_pos hpos, segLeft_of_pend _ now (by omega), hpop]
      omega
  | .fin [] f :: r, l, now, h => segLeft_step r f now h
  | .unl s f :: r, l, now, h => by
      by_cases hlt : now < f
      · rw [segLeft_unl_live r hlt] at h; exact absurd h (by decide)
      · rw [segLeft_unl_done r hlt] at h ⊢
        simp only [segNextAux, hlt, if_false]
        rw [segLeft_unl_done _ hlt]
        exact segLeft_step r f now h

theorem pendSegs_neg_unl : ∀ (a : List Seg), pendSegs a < 0 → ∃ pre s f post, a = pre ++ Seg.unl s f :: post
  | [], h => by simp [pendSegs] at h
  | .unl s f :: r, _ => ⟨[], s, f, r, rfl⟩
  | .fin toks f :: r, h => by
      have hp := pendSegs_ge r
      simp only [pendSegs] at h
      have hu : pendSegs r < 0 := by
        split at h
        · assumption
        · omega
      obtain ⟨pre, s, f', post, rfl⟩ := pendSegs_neg_unl r hu
      exact ⟨.fin toks f :: pre, s, f', post, rfl⟩

/-- **Left is negative only while the total is genuinely unknown**: there is a time-bounded unlimited part that
has not finished yet — either it is not reached yet (something before it is still alive), or it is the current
part and the clock is before its finish time. -/
theorem segLeft_neg : ∀ (a : List Seg) (now : Int), segLeft a now < 0 →
    ∃ pre s f post, a = pre ++ Seg.unl s f :: post ∧ (Dead pre now → now < f)
  | [], _, h => absurd h (show ¬ (0 : Int) < 0 by decide)
  | .fin (t :: ts) f :: r, now, h => by
      rw [segLeft_fin_cons, pendSegs_fin, List.length_cons] at h
      have hp := pendSegs_ge r
      have hu : pendSegs r < 0 := by
        split at h
        · assumption
        · omega
      obtain ⟨pre, s, f', post, rfl⟩ := pendSegs_neg_unl r hu
      exact ⟨.fin (t :: ts) f :: pre, s, f', post, rfl, fun hd => nomatch hd.1⟩
  | .fin [] f :: r, now, h => by
      obtain ⟨pre, s, f', post, rfl, hd⟩ := segLeft_neg r now h
      exact ⟨.fin [] f :: pre, s, f', post, rfl, fun hd' => hd hd'.2⟩
  | .unl s f :: r, now, h => by
      by_cases hlt : now < f
      · exact ⟨[], s, f, r, rfl, fun _ => hlt⟩
      · rw [segLeft_unl_done r hlt] at h
        obtain ⟨pre, s', f', post, rfl, hd⟩ := segLeft_neg r now h
        exact ⟨.unl s f :: pre, s', f', post, rfl, fun hd' => hd hd'.2⟩

/-- and when `Left` is known, no unlimited part is alive: the count is exactly the number of finite tokens left -/
theorem segLeft_exact : ∀ (a : List Seg) (now : Int), 0 ≤ segLeft a now →
    ∃ pre post, a = pre ++ post ∧ Dead pre now ∧ 0 ≤ pendSegs post ∧ segLeft a now = ((finToks post).length : Int)
  | [], _, _ => ⟨[], [], rfl, trivial, by decide, rfl⟩
  | .fin (t :: ts) f :: r, _, h => ⟨[], _, rfl, trivial, h, pendSegs_finToks (.fin (t :: ts) f :: r) h⟩
  | .fin [] f :: r, now, h => by
      obtain ⟨pre, post, rfl, hd, hp, he⟩ := segLeft_exact r now h
      exact ⟨.fin [] f :: pre, post, rfl, ⟨rfl, hd⟩, hp, he⟩
  | .unl s f :: r, now, h => by
      by_cases hlt : now < f
      · rw [segLeft_unl_live r hlt] at h; exact absurd h (by decide)
      · rw [segLeft_unl_done r hlt] at h ⊢
        obtain ⟨pre, post, rfl, hd, hp, he⟩ := segLeft_exact r now h
        exact ⟨.unl s f :: pre, post, rfl, ⟨by omega, hd⟩, hp, he⟩

/-! ### times never decrease -/

/-- static well-formedness of a chain whose first part starts at `b` or later: every part finishes after it
starts, the next one starts at that finish time, finite tokens are sorted and lie inside their part -/
def Chain (b : Int) : List Seg → Prop
  | [] => True
  | .fin toks f :: r => b ≤ f ∧ toks.Pairwise (· ≤ ·) ∧ (∀ t ∈ toks, b ≤ t ∧ t ≤ f) ∧ Chain f r
  | .unl s f :: r => b ≤ s ∧ s ≤ f ∧ Chain f r

theorem Chain.weaken : ∀ {a : List Seg} {b b' : Int}, Chain b a → b' ≤ b → Chain b' a
  | [], _, _, _, _ => trivial
  | .fin toks f :: r, b, b', h, hle =>
      ⟨by have := h.1; omega, h.2.1, fun t ht => ⟨by have := (h.2.2.1 t ht).1; omega, (h.2.2.1 t ht).2⟩, h.2.2.2⟩
  | .unl s f :: r, b, b', h, hle => ⟨by have := h.1; omega, h.2.1, h.2.2⟩

/-- every time the chain ever returns lies at or after its start; popping keeps the chain well formed -/
theorem chain_next : ∀ (a : List Seg) (b l now : Int), Chain b a → b ≤ l →
    b ≤ (segNextAux l a now).2.1 ∧ Chain b (segNextAux l a now).1
  | [], _, _, _, _, hl => ⟨hl, trivial⟩
  | .fin (t :: ts) f :: r, b, l, now, h, _ => by
      obtain ⟨h1, h2, h3, h4⟩ := h
      refine ⟨(h3 t (by simp)).1, h1, (List.pairwise_cons.mp h2).2, fun x hx => h3 x (by simp [hx]), h4⟩
  | .fin [] f :: r, b, l, now, h, _ => by
      obtain ⟨h1, h2, h3, h4⟩ := h
      obtain ⟨ih1, ih2⟩ := chain_next r f f now h4 (by omega)
      exact ⟨by simp only [segNextAux]; omega, h1, h2, h3, ih2⟩
  | .unl s f :: r, b, l, now, h, _ => by
      obtain ⟨h1, h2, h3⟩ := h
      by_cases hlt : now < f
      · simp only [segNextAux, hlt, if_true]
        exact ⟨by omega, h1, h2, h3⟩
      · simp only [segNextAux, hlt, if_false]
        obtain ⟨ih1, ih2⟩ := chain_next r f f now h3 (by omega)
        exact ⟨by omega, h1, h2, ih2⟩

/-- **times never decrease**: two successive `Next` calls, the clock not going back in between -/
theorem chain_mono : ∀ (a : List Seg) (b l now1 now2 : Int), Chain b a → b ≤ l → now1 ≤ now2 →
    (segNextAux l a now1).2.1 ≤ (segNextAux l (segNextAux l a now1).1 now2).2.1
  | [], _, _, _, _, _, _, _ => by simp [segNextAux]
  | .fin (t :: ts) f :: r, b, l, now1, now2, h, _, _ => by
      obtain ⟨h1, h2, h3, h4⟩ := h
      simp only [segNextAux]
      cases ts with
      | nil =>
        simp only [segNextAux]
        have := (chain_next r f f now2 h4 (by omega)).1
        have := (h3 t (by simp)).2
        omega
      | cons t' ts' =>
        simp only [segNextAux]
        exact (List.pairwise_cons.mp h2).1 t' (by simp)
  | .fin [] f :: r, b, l, now1, now2, h, _, hn => by
      obtain ⟨h1, h2, h3, h4⟩ := h
      simp only [segNextAux]
      exact chain_mono r f f now1 now2 h4 (by omega) hn
  | .unl s f :: r, b, l, now1, now2, h, _, hn => by
      obtain ⟨h1, h2, h3⟩ := h
      by_cases hlt : now1 < f
      · simp only [segNextAux, hlt, if_true]
        by_cases hlt2 : now2 < f
        · simp only [hlt2, if_true]; omega
        · simp only [hlt2, if_false]
          have := (chain_next r f f now2 h3 (by omega)).1
          omega
      · have hlt2 : ¬ now2 < f := by omega
        simp only [segNextAux, hlt, hlt2, if_false]
        exact chain_mono r f f now1 now2 h3 (by omega) hn

theorem sortedB_pairwise : ∀ (l : List Int), sortedB l = true → l.Pairwise (· ≤ ·)
  | [], _ => List.Pairwise.nil
  | [_], _ => by simp
  | a :: b :: r, h => by
      simp only [sortedB, Bool.and_eq_true, decide_eq_true_eq] at h
      have ih := sortedB_pairwise (b :: r) h.2
      refine List.pairwise_cons.mpr ⟨?_, ih⟩
      intro x hx
      rcases List.mem_cons.mp hx with rfl | hx
      · exact h.1
      · have := (List.pairwise_cons.mp ih).1 x hx
        omega

theorem sortedB_of_pairwise : ∀ (l : List Int), l.Pairwise (· ≤ ·) → sortedB l = true
  | [], _ => rfl
  | [_], _ => rfl
  | a :: b :: r, h => by
      have h1 : a ≤ b := (List.pairwise_cons.mp h).1 b (by simp)
      have h2 := sortedB_of_pairwise (b :: r) (List.pairwise_cons.mp h).2
      simp [sortedB, h1, h2]

/-- parts as once/const/line/unlimited produce them give a well-formed chain, whatever the start time -/
theorem chain_inst : ∀ (p : List Part) (t : Int), (∀ x ∈ p, x.wf = true) → Chain t (inst p t)
  | [], _, _ => trivial
  | .fin offs dur :: r, t, h => by
      have hw := h (.fin offs dur) (by simp)
      simp only [Part.wf, Bool.and_eq_true, decide_eq_true_eq, List.all_eq_true] at hw
      obtain ⟨⟨hs, hall⟩, hd⟩ := hw
      refine ⟨by omega, ?_, ?_, chain_inst r (t + dur) (fun x hx => h x (by simp [hx]))⟩
      · exact (List.pairwise_map).mpr ((sortedB_pairwise offs hs).imp (by intro a b hab; omega))
      · intro x hx
        obtain ⟨o, ho, rfl⟩ := List.mem_map.mp hx
        have := hall o ho
        omega
  | .unl dur :: r, t, h => by
      have hw := h (.unl dur) (by simp)
      simp only [Part.wf, decide_eq_true_eq] at hw
      exact ⟨by omega, by omega, chain_inst r (t + dur) (fun x hx => h x (by simp [hx]))⟩

end Pandora.Proofs.C02Flat
