/-
C03 — invariants of the instance-loop transition system, for ANY number of instances and ANY trace.

Every enabled event moves ONE instance along ONE edge of the control graph of `instance.Run` and bumps the counter that
belongs to that edge (`Edge`, `Along`, `step_along`).  The counting invariants all say "counter = counter + number of
instances whose pc lies in some class"; a move shifts one unit from the class of `old` to the class of `new`
(`countP_set_of`), so each is preserved as soon as every edge balances — a finite table, `cases edge <;> rfl`.
-/
import Pandora.Model.C03

namespace Pandora.Proofs.C03
open Pandora.Model.C03

theorem lt_of_get {l : List α} {i : Nat} {a : α} (h : l[i]? = some a) : i < l.length := by
  rcases Nat.lt_or_ge i l.length with h' | h'
  · exact h'
  · rw [List.getElem?_eq_none h'] at h; cases h

/-- replacing an `old` by a `new` moves one unit of every count from `f old` to `f new` -/
theorem countP_set_of {α : Type} (f : α → Bool) {l : List α} {i : Nat} {old : α} (new : α) (h : l[i]? = some old) :
    (l.set i new).countP f + (f old).toNat = l.countP f + (f new).toNat := by
  induction l generalizing i with
  | nil => cases h
  | cons a l ih =>
    cases i with
    | zero =>
      cases h
      simp only [List.set_cons_zero, List.countP_cons]
      cases f old <;> cases f new <;> simp
    | succ i =>
      have := ih (by simpa using h)
      simp only [List.set_cons_succ, List.countP_cons]
      omega

/-- holds an item that is not yet fired, discarded or given up -/
def undecided : Pc → Bool
  | .wait | .decide | .firing => true
  | _ => false

/-- the control graph of one instance: the loop of `instance.Run`, one edge per event (`chk` has two), with the
instance that moves -/
inductive Edge : Ev → Nat → Pc → Pc → Prop
  | start i : Edge (.start i) i .idle .check
  | enter i left : Edge (.chk i left) i .check .acquire
  | leave i left : Edge (.chk i left) i .check .done
  | acq i : Edge (.acq i) i .acquire .wait
  | empty i : Edge (.empty i) i .acquire .done
  | tokOk i : Edge (.tokOk i) i .wait .decide
  | tokEnd i : Edge (.tokEnd i) i .wait .release
  | reqAdd i : Edge (.reqAdd i) i .decide .firing
  | discard i : Edge (.discard i) i .decide .release
  | shoot i k : Edge (.shoot i k) i .firing .shot
  | respAdd i : Edge (.respAdd i) i .shot .release
  | rel i k : Edge (.rel i k) i .release .check

/-- the item an event names -/
def item : Ev → Nat
  | .shoot _ k | .rel _ k => k
  | _ => 0

/-- what the test in front of an edge has seen of the instance's schedule (`left` tokens), of the provider, and of the
instance's local variable `ammo` (`cur`; `k` is the item the event names) -/
def Guard (left : Nat) (ammoLeft : Option Nat) (cur : Option (Option Nat)) (k : Nat) : Pc → Pc → Prop
  | .check, .done | .wait, .release => left = 0
  | .check, .acquire | .wait, .decide => 0 < left
  | .acquire, .done => ammoLeft = some 0
  | .firing, .shot | .release, .check => cur = some (some k)
  | _, _ => True

/-- `s'` is `s` after instance `i` went along `old → new`.  Each counter is bumped on its own edge; `first`, `discOn`,
`guard` are what the event's test says; the remaining fields say what `acq` (ammo), `tokOk` (shared / own, lastDrawer),
`start` (own) and `tokEnd` (unf) do besides.  The defaults fit an event that moves the pc and bumps one counter. -/
structure Along (c : Cfg) (s s' : St) (e : Ev) (i : Nat) (old new : Pc) : Prop where
  edge : Edge e i old new
  pc : s.pcs[i]? = some old
  pcs : s'.pcs = s.pcs.set i new := by rfl
  started : s'.started = s.started + (old == .idle).toNat := by rfl
  acquired : s'.acquired = s.acquired + (old == .acquire && new == .wait).toNat := by rfl
  released : s'.released = s.released + (old == .release).toNat := by rfl
  fired : s'.fired = s.fired + (old == .firing).toNat := by rfl
  discarded : s'.discarded = s.discarded + (old == .decide && new == .release).toNat := by rfl
  unfired : s'.unfired = s.unfired + (old == .wait && new == .release).toNat := by rfl
  request : s'.request = s.request + (old == .decide && new == .firing).toNat := by rfl
  response : s'.response = s.response + (old == .shot).toNat := by rfl
  first : old = .idle → i = s.started := by nofun
  discOn : old = .decide → new = .release → c.discardOn = true := by nofun
  guard : Guard (s.left c i) s.ammoLeft s.cur[i]? (item e) old new := by trivial
  ammo : (s'.ammoLeft = s.ammoLeft ∧ s'.acquired = s.acquired) ∨
    ∃ a, s.ammoLeft = a.map (· + 1) ∧ s'.ammoLeft = a ∧ s'.acquired = s.acquired + 1 := by exact .inl ⟨rfl, rfl⟩
  shared : s'.shared = if (old = .wait ∧ new = .decide) ∧ c.perInstance = false then s.shared - 1 else s.shared := by rfl
  own : s'.own =
    if old = .idle then s.own.set i c.tokens
    else if (old = .wait ∧ new = .decide) ∧ c.perInstance = true then s.own.set i (s.own[i]?.getD 0 - 1)
    else s.own := by rfl
  unf : s'.unf = if old = .wait ∧ new = .release then s.unf.set i true else s.unf := by rfl
  lastDrawer : s'.lastDrawer = if old = .wait ∧ new = .decide then some i else s.lastDrawer := by rfl
  cur : s'.cur = if old = .acquire ∧ new = .wait then s.cur.set i (some s.acquired)
    else if old = .release then s.cur.set i none else s.cur := by rfl
  rels : s'.rels = if old = .acquire ∧ new = .wait then s.rels ++ [0]
    else if old = .release then s.rels.set (item e) (s.rels[item e]?.getD 0 + 1) else s.rels := by rfl
  badUse : s'.badUse = if old = .firing ∨ old = .release then s.badUse || !s.heldItem (item e) else s.badUse := by rfl

theorem step_along {c : Cfg} {s s' : St} {e : Ev} (hs : step c s e = some s') : ∃ i old new, Along c s s' e i old new := by
  cases e with
  | start i =>
    simp only [step] at hs; split at hs
    · rename_i h; cases hs; exact ⟨i, _, _, { edge := .start i, pc := h.2, first := fun _ => h.1 }⟩
    · cases hs
  | chk i left =>
    simp only [step] at hs; split at hs
    · rename_i h; cases hs
      by_cases hl : left = 0
      · rw [if_pos hl]; exact ⟨i, _, _, { edge := .leave i left, pc := h.1, guard := show s.left c i = 0 from h.2 ▸ hl }⟩
      · rw [if_neg hl]; exact ⟨i, _, _, { edge := .enter i left, pc := h.1, guard := show 0 < s.left c i from Nat.pos_of_ne_zero (h.2 ▸ hl) }⟩
    · cases hs
  | acq i =>
    simp only [step] at hs; split at hs
    · rename_i h; split at hs
      · rename_i ha; cases hs; exact ⟨i, _, _, { edge := .acq i, pc := h, ammo := .inr ⟨none, ha, ha, rfl⟩ }⟩
      · cases hs
      · rename_i a ha; cases hs; exact ⟨i, _, _, { edge := .acq i, pc := h, ammo := .inr ⟨some a, ha, rfl, rfl⟩ }⟩
    · cases hs
  | empty i =>
    simp only [step] at hs; split at hs
    · rename_i h; cases hs; exact ⟨i, _, _, { edge := .empty i, pc := h.1, guard := h.2 }⟩
    · cases hs
  | tokOk i =>
    simp only [step] at hs; split at hs
    · rename_i h; cases hs
      unfold St.draw
      by_cases hp : c.perInstance = true
      · rw [if_pos hp]
        exact ⟨i, _, _, { edge := .tokOk i, pc := h.1, guard := h.2, shared := by simp [hp], own := by simp [hp] }⟩
      · rw [if_neg hp]
        exact ⟨i, _, _, { edge := .tokOk i, pc := h.1, guard := h.2, shared := by simp [hp], own := by simp [hp] }⟩
    · cases hs
  | tokEnd i =>
    simp only [step] at hs; split at hs
    · rename_i h; cases hs; exact ⟨i, _, _, { edge := .tokEnd i, pc := h.1, guard := h.2 }⟩
    · cases hs
  | reqAdd i =>
    simp only [step] at hs; split at hs
    · rename_i h; cases hs; exact ⟨i, _, _, { edge := .reqAdd i, pc := h }⟩
    · cases hs
  | shoot i k =>
    simp only [step] at hs; split at hs
    · rename_i h; cases hs; exact ⟨i, _, _, { edge := .shoot i k, pc := h.1, guard := h.2 }⟩
    · cases hs
  | respAdd i =>
    simp only [step] at hs; split at hs
    · rename_i h; cases hs; exact ⟨i, _, _, { edge := .respAdd i, pc := h }⟩
    · cases hs
  | discard i =>
    simp only [step] at hs; split at hs
    · rename_i h; cases hs; exact ⟨i, _, _, { edge := .discard i, pc := h.1, discOn := fun _ _ => h.2 }⟩
    · cases hs
  | rel i k =>
    simp only [step] at hs; split at hs
    · rename_i h; cases hs; exact ⟨i, _, _, { edge := .rel i k, pc := h.1, guard := h.2 }⟩
    · cases hs

theorem count_holds (l : List Pc) :
    l.count .wait + l.count .decide + l.count .firing + l.count .shot + l.count .release = l.countP Pc.holds := by
  induction l with
  | nil => rfl
  | cons p l ih => cases p <;> simp [List.countP_cons, Pc.holds] <;> omega

theorem count_undecided (l : List Pc) :
    l.count .wait + l.count .decide + l.count .firing = l.countP undecided := by
  induction l with
  | nil => rfl
  | cons p l ih => cases p <;> simp [List.countP_cons, undecided] <;> omega

/-- a token, once drawn, is in the hand of an instance about to fire, or has become a shot or a discarded sample -/
theorem tok_along {c : Cfg} {s s' : St} {e : Ev} {i : Nat} {old new : Pc} (m : Along c s s' e i old new) :
    s'.fired + s'.discarded + s'.pcs.count .decide + s'.pcs.count .firing =
      s.fired + s.discarded + s.pcs.count .decide + s.pcs.count .firing + (old == .wait && new == .decide).toNat := by
  have t : (old == .firing).toNat + (old == .decide && new == .release).toNat +
      ((new == .decide).toNat + (new == .firing).toNat) =
        (old == .decide).toNat + (old == .firing).toNat + (old == .wait && new == .decide).toNat := by
    cases m.edge <;> rfl
  have := countP_set_of (· == Pc.decide) new m.pc
  have := countP_set_of (· == Pc.firing) new m.pc
  rw [m.pcs, m.fired, m.discarded]; unfold List.count; omega


theorem not_edge {a b x y : Pc} (h : ¬(a = x ∧ b = y)) : (a == x && b == y).toNat = 0 := by
  cases hb : (a == x && b == y) with
  | false => rfl
  | true => simp only [Bool.and_eq_true, beq_iff_eq] at hb; exact absurd hb h

/-- a provider that has answered "no more ammo" stays empty -/
theorem Along.ammo_empty {c : Cfg} {s s' : St} {e : Ev} {i : Nat} {old new : Pc} (m : Along c s s' e i old new)
    (h0 : s.ammoLeft = some 0) : s'.ammoLeft = some 0 := by
  rcases m.ammo with ⟨h, _⟩ | ⟨a, h1, _⟩
  · rw [h, h0]
  · rw [h0] at h1; cases a <;> cases h1

/-- how the pc of an arbitrary instance `k` looks after instance `i` moved from `old` to `new` -/
theorem pcs_after {l : List Pc} {i : Nat} {old new : Pc} (h : l[i]? = some old) (k : Nat) :
    (l.set i new)[k]? = if k = i then some new else l[k]? := by
  by_cases hk : k = i
  · subst hk; simp [List.getElem?_set_self (lt_of_get h)]
  · simp [hk, List.getElem?_set_ne (Ne.symm hk)]

theorem Along.pcs_at {c : Cfg} {s s' : St} {e : Ev} {i : Nat} {old new : Pc} (m : Along c s s' e i old new) (k : Nat) :
    s'.pcs[k]? = if k = i then some new else s.pcs[k]? := by rw [m.pcs]; exact pcs_after m.pc k

/-! ### what an event does to the token counters -/

theorem step_start {c : Cfg} {b b' : St} {i : Nat} (h : step c b (.start i) = some b') :
    b'.shared = b.shared ∧ b'.own = b.own.set i c.tokens := by
  obtain ⟨_, _, _, m⟩ := step_along h
  have he := m.edge
  cases he
  exact ⟨m.shared, m.own⟩

theorem step_tokOk {c : Cfg} {b b' : St} {i : Nat} (h : step c b (.tokOk i) = some b') :
    0 < b.left c i ∧ b'.shared = (if c.perInstance then b.shared else b.shared - 1) ∧
    b'.own = (if c.perInstance then b.own.set i (b.own[i]?.getD 0 - 1) else b.own) := by
  obtain ⟨_, _, _, m⟩ := step_along h
  have he := m.edge
  cases he
  refine ⟨m.guard, ?_, ?_⟩
  · rw [m.shared]; cases c.perInstance <;> rfl
  · rw [m.own]; cases c.perInstance <;> rfl

theorem step_tokEnd {c : Cfg} {b b' : St} {i : Nat} (h : step c b (.tokEnd i) = some b') :
    b.left c i = 0 ∧ b'.shared = b.shared ∧ b'.own = b.own := by
  obtain ⟨_, _, _, m⟩ := step_along h
  have he := m.edge
  cases he
  exact ⟨m.guard, m.shared, m.own⟩

/-- the other operations of the loop do not touch the profiles -/
theorem step_keeps {c : Cfg} {b b' : St} {e : Ev} (h : step c b e = some b')
    (h1 : ∀ i, e ≠ .tokOk i) (h2 : ∀ i, e ≠ .start i) : b'.shared = b.shared ∧ b'.own = b.own := by
  obtain ⟨_, _, _, m⟩ := step_along h
  have he := m.edge
  cases he with
  | tokOk => exact absurd rfl (h1 _)
  | start => exact absurd rfl (h2 _)
  | _ => exact ⟨m.shared, m.own⟩

structure InvA (c : Cfg) (s : St) : Prop where
  len : s.pcs.length = c.instances
  startedLe : s.started ≤ c.instances
  idleHi : ∀ i : Nat, s.started ≤ i → i < c.instances → s.pcs[i]? = some Pc.idle
  idleLo : ∀ i : Nat, i < s.started → s.pcs[i]? ≠ some Pc.idle
  held : s.acquired = s.released + s.pcs.count .wait + s.pcs.count .decide + s.pcs.count .firing
            + s.pcs.count .shot + s.pcs.count .release
  classified : s.acquired = s.fired + s.discarded + s.unfired + s.pcs.count .wait + s.pcs.count .decide
            + s.pcs.count .firing
  ammo : match c.ammo with
    | none => s.ammoLeft = none
    | some a0 => ∃ a, s.ammoLeft = some a ∧ s.acquired + a = a0
  metrics : s.request = s.fired + s.pcs.count .firing ∧ s.response + s.pcs.count .shot = s.fired
  discOff : c.discardOn = false → s.discarded = 0

theorem init_invA (c : Cfg) : InvA c (init c) := by
  refine ⟨by simp [init], by simp [init], ?_, ?_, ?_, ?_, ?_, ?_, fun _ => rfl⟩
  · intro i _ hi; simp [init, hi]
  · intro i hi; simp [init] at hi
  · simp [init, List.count_replicate]
  · simp [init, List.count_replicate]
  · cases h : c.ammo <;> simp [init, h]
  · simp [init, List.count_replicate]

theorem step_invA {c : Cfg} {s s' : St} {e : Ev} (hi : InvA c s) (hs : step c s e = some s') : InvA c s' := by
  obtain ⟨i, old, new, m⟩ := step_along hs
  have he := m.edge
  have hlen := hi.len
  have hi_lt := lt_of_get m.pc
  have hpc : ∀ k, k ≠ i → s'.pcs[k]? = s.pcs[k]? := fun k hk => by
    rw [m.pcs, List.getElem?_set_ne (Ne.symm hk)]
  -- only `start` moves `started`, and it starts instance number `started`
  have hst : (s'.started = s.started ∧ i < s.started) ∨ (s'.started = s.started + 1 ∧ i = s.started) := by
    by_cases ho : old = .idle
    · subst ho; exact .inr ⟨m.started, m.first rfl⟩
    · refine .inl ⟨by rw [m.started]; simp [ho], Nat.lt_of_not_le fun hle => ho ?_⟩
      have := hi.idleHi i hle (hlen ▸ hi_lt)
      rw [m.pc] at this; exact Option.some.inj this
  refine ⟨by rw [m.pcs, List.length_set]; exact hlen, ?_, ?_, ?_, ?_, ?_, ?_, ⟨?_, ?_⟩, ?_⟩
  · have := hi.startedLe; omega
  · intro k hk1 hk2
    rw [hpc k (by omega)]; exact hi.idleHi k (by omega) hk2
  · intro k hk
    by_cases hki : k = i
    · subst hki; rw [m.pcs, List.getElem?_set_self hi_lt]; cases he <;> decide
    · rw [hpc k hki]; exact hi.idleLo k (by omega)
  · have t : (old == .acquire && new == .wait).toNat + (Pc.holds old).toNat =
        (old == .release).toNat + (Pc.holds new).toNat := by cases he <;> rfl
    have := countP_set_of Pc.holds new m.pc
    have := count_holds s.pcs; have := count_holds (s.pcs.set i new)
    have := hi.held; have := m.acquired; have := m.released
    rw [m.pcs]; omega
  · have t : (old == .acquire && new == .wait).toNat + (undecided old).toNat =
        (old == .firing).toNat + (old == .decide && new == .release).toNat + (old == .wait && new == .release).toNat +
          (undecided new).toNat := by cases he <;> rfl
    have := countP_set_of undecided new m.pc
    have := count_undecided s.pcs; have := count_undecided (s.pcs.set i new)
    have := hi.classified; have := m.acquired; have := m.fired; have := m.discarded; have := m.unfired
    rw [m.pcs]; omega
  · have := hi.ammo
    rcases m.ammo with ⟨h1, h2⟩ | ⟨a, h1, h2, h3⟩
    · rw [h1, h2]; exact this
    · rw [h2, h3]
      cases hc : c.ammo with
      | none => rw [hc, h1] at this; cases a <;> first | rfl | cases this
      | some a0 =>
        rw [hc, h1] at this
        obtain ⟨a', ha, hsum⟩ := this
        cases a with
        | none => cases ha
        | some a =>
          have : a + 1 = a' := Option.some.inj ha
          exact ⟨a, rfl, by omega⟩
  · have t : (old == .decide && new == .firing).toNat + (old == .firing).toNat =
        (old == .firing).toNat + (new == .firing).toNat := by cases he <;> rfl
    have := countP_set_of (· == Pc.firing) new m.pc
    have := hi.metrics.1; have := m.request; have := m.fired
    rw [m.pcs]; show _ = _ + List.countP _ _; unfold List.count at *; omega
  · have t : (old == .shot).toNat + (new == .shot).toNat = (old == .firing).toNat + (old == .shot).toNat := by
      cases he <;> rfl
    have := countP_set_of (· == Pc.shot) new m.pc
    have := hi.metrics.2; have := m.response; have := m.fired
    rw [m.pcs]; unfold List.count at *; omega
  · intro hoff
    have : (old == Pc.decide && new == Pc.release) = false := by
      cases h : (old == Pc.decide && new == Pc.release) with
      | false => rfl
      | true =>
        simp only [Bool.and_eq_true, beq_iff_eq] at h
        have := m.discOn h.1 h.2; rw [hoff] at this; cases this
    rw [m.discarded, this, hi.discOff hoff]; rfl

/-! ### shared profile -/

def Parked (p : Option Pc) : Prop := p = some Pc.release ∨ p = some Pc.check ∨ p = some Pc.done

/-- the instance has drawn a token in this or an earlier iteration and is not waiting for one -/
def Drawn (p : Option Pc) : Prop := p = some Pc.decide ∨ p = some Pc.firing ∨ p = some Pc.shot ∨ Parked p

structure InvS (c : Cfg) (s : St) : Prop where
  tok : c.tokens = s.shared + s.fired + s.discarded + s.pcs.count .decide + s.pcs.count .firing
  busy : ∀ i : Nat, (s.pcs[i]? = some Pc.acquire ∨ s.pcs[i]? = some Pc.wait) → 0 < c.tokens
  unfPos : 0 < s.unfired → s.shared = 0 ∧ 0 < c.tokens
  done : ∀ i : Nat, s.pcs[i]? = some Pc.done → s.shared = 0 ∨ s.ammoLeft = some 0
  unfLen : s.unf.length = c.instances
  pcsLen : s.pcs.length = c.instances
  unfCnt : s.unfired = s.unf.count true
  unfPc : ∀ i : Nat, s.unf[i]? = some true → s.shared = 0 ∧ Parked s.pcs[i]?
  last : s.shared = 0 → 0 < c.tokens →
    ∃ j : Nat, s.lastDrawer = some j ∧ s.unf[j]? = some false ∧ Drawn s.pcs[j]?

theorem init_invS (c : Cfg) : InvS c (init c) := by
  refine ⟨by simp [init, List.count_replicate], ?_, by simp [init], ?_, by simp [init], by simp [init], by simp [init, List.count_replicate], ?_, ?_⟩
  · intro i h
    simp only [init] at h
    rcases h with h | h <;> (rw [List.getElem?_replicate] at h; split at h <;> cases h)
  · intro i h
    simp only [init] at h
    rw [List.getElem?_replicate] at h; split at h <;> cases h
  · intro i h
    simp only [init] at h
    rw [List.getElem?_replicate] at h; split at h <;> cases h
  · intro h0 hpos
    simp only [init] at h0
    omega

theorem drawn_some (p : Pc) : Drawn (some p) ↔ (p = .decide ∨ p = .firing ∨ p = .shot ∨ p = .release ∨ p = .check ∨ p = .done) := by
  simp [Drawn, Parked]

theorem step_invS {c : Cfg} (hc : c.perInstance = false) {s s' : St} {e : Ev} (hi : InvS c s)
    (hs : step c s e = some s') : InvS c s' := by
  obtain ⟨i, old, new, m⟩ := step_along hs
  have he := m.edge
  have hg := m.guard
  rw [show s.left c i = s.shared by simp [St.left, hc]] at hg
  have hsh : s'.shared + (old == .wait && new == .decide).toNat = s.shared := by
    rw [m.shared]
    by_cases hD : old = .wait ∧ new = .decide
    · obtain ⟨rfl, rfl⟩ := hD
      have : 0 < s.shared := hg
      rw [if_pos ⟨⟨rfl, rfl⟩, hc⟩]; show s.shared - 1 + 1 = _; omega
    · rw [if_neg fun h => hD h.1, not_edge hD]; rfl
  have hle : s.shared = 0 → s'.shared = 0 := by omega
  have hilt : i < s.unf.length := by have := lt_of_get m.pc; have := hi.unfLen; have := hi.pcsLen; omega
  have hflag : s.unf[i]? = some true → s.shared = 0 ∧ Parked (some old) := fun h => m.pc ▸ hi.unfPc i h
  have hfalse : s.unf[i]? ≠ some true → s.unf[i]? = some false := by
    rw [List.getElem?_eq_getElem hilt]; cases s.unf[i] <;> simp
  refine ⟨?tok, ?busy, ?unfPos, ?done, ?unfLen, ?pcsLen, ?unfCnt, ?unfPc, ?last⟩
  case tok => have := tok_along m; have := hi.tok; omega
  case pcsLen => rw [m.pcs, List.length_set]; exact hi.pcsLen
  case unfLen => rw [m.unf]; split <;> simp [hi.unfLen]
  case busy =>
    intro k hk
    rw [m.pcs_at k] at hk
    by_cases hki : k = i
    · rw [if_pos hki] at hk
      rcases hk with hk | hk <;> cases Option.some.inj hk <;> cases he
      · have := hi.tok; have : 0 < s.shared := hg; omega
      · exact hi.busy i (.inl m.pc)
    · rw [if_neg hki] at hk; exact hi.busy k hk
  case unfPos =>
    intro hu
    rw [m.unfired] at hu
    by_cases hE : old = .wait ∧ new = .release
    · obtain ⟨rfl, rfl⟩ := hE; exact ⟨hle hg, hi.busy i (.inr m.pc)⟩
    · rw [not_edge hE] at hu; exact (hi.unfPos hu).imp_left hle
  case done =>
    intro k hk
    rw [m.pcs_at k] at hk
    by_cases hki : k = i
    · rw [if_pos hki] at hk
      cases Option.some.inj hk; cases he
      · exact .inl (hle hg)
      · exact .inr (m.ammo_empty hg)
    · rw [if_neg hki] at hk; exact (hi.done k hk).imp hle m.ammo_empty
  case unfCnt =>
    rw [m.unfired, m.unf]
    by_cases hE : old = .wait ∧ new = .release
    · rw [if_pos hE]
      obtain ⟨rfl, rfl⟩ := hE
      have hf := hfalse fun h => by have := (hflag h).2; simp [Parked] at this
      have cu : (s.unf.set i true).count true + 0 = s.unf.count true + 1 := countP_set_of (· == true) true hf
      have := hi.unfCnt
      show s.unfired + 1 = _; omega
    · rw [if_neg hE, not_edge hE]; exact hi.unfCnt
  case unfPc =>
    intro k hk
    rw [m.unf] at hk; rw [m.pcs_at k]
    by_cases hki : k = i
    · subst hki; rw [if_pos rfl]
      by_cases hE : old = .wait ∧ new = .release
      · obtain ⟨rfl, rfl⟩ := hE; exact ⟨hle hg, .inl rfl⟩
      · rw [if_neg hE] at hk
        obtain ⟨h0, hp⟩ := hflag hk
        refine ⟨hle h0, ?_⟩
        -- a parked instance goes on to a parked pc: with no token left `check` leads to `done`
        rcases hp with hp | hp | hp <;> cases Option.some.inj hp <;> cases he
        · exact .inr (.inl rfl)
        · have : 0 < s.shared := hg; omega
        · exact .inr (.inr rfl)
    · rw [if_neg hki]
      have hk' : s.unf[k]? = some true := by
        split at hk
        · rwa [List.getElem?_set_ne (Ne.symm hki)] at hk
        · exact hk
      exact (hi.unfPc k hk').imp_left hle
  case last =>
    intro h0 hpos
    by_cases hD : old = .wait ∧ new = .decide
    · -- the instance that draws the last token is the new last drawer
      obtain ⟨rfl, rfl⟩ := hD
      refine ⟨i, by rw [m.lastDrawer, if_pos ⟨rfl, rfl⟩], ?_, .inl (by rw [m.pcs_at i, if_pos rfl])⟩
      rw [m.unf, if_neg (by decide)]
      exact hfalse fun h => by have := (hflag h).1; have : 0 < s.shared := hg; omega
    · rw [not_edge hD] at hsh
      obtain ⟨j, hj1, hj2, hj3⟩ := hi.last (by omega) hpos
      refine ⟨j, by rw [m.lastDrawer, if_neg hD]; exact hj1, ?_, ?_⟩
      · rw [m.unf]
        split
        · rename_i hE
          have hji : j ≠ i := by
            rintro rfl; rw [m.pc, hE.1] at hj3; simp [drawn_some] at hj3
          rwa [List.getElem?_set_ne (Ne.symm hji)]
        · exact hj2
      · rw [m.pcs_at j]
        by_cases hji : j = i
        · subst hji
          rw [if_pos rfl]; rw [m.pc] at hj3
          rw [drawn_some] at hj3 ⊢
          have hs0 : s.shared = 0 := by omega
          rcases hj3 with h | h | h | h | h | h <;> subst h <;> cases he <;> first | decide | (have : 0 < s.shared := hg; omega)
        · rw [if_neg hji]; exact hj3

/-! ### one profile per instance -/

theorem sum_set_pred : ∀ (l : List Nat) (i : Nat), i < l.length → 0 < l[i]?.getD 0 →
    (l.set i (l[i]?.getD 0 - 1)).sum + 1 = l.sum
  | [], _, h, _ => by simp at h
  | a :: l, 0, _, hp => by simp at hp ⊢; omega
  | a :: l, i + 1, h, hp => by
    have := sum_set_pred l i (by simpa using h) (by simpa using hp)
    simp at this ⊢; omega

theorem sum_set_zero : ∀ (l : List Nat) (i v : Nat), i < l.length → l[i]?.getD 0 = 0 →
    (l.set i v).sum = l.sum + v
  | [], _, _, h, _ => by simp at h
  | a :: l, 0, v, _, hp => by simp at hp ⊢; omega
  | a :: l, i + 1, v, h, hp => by
    have := sum_set_zero l i v (by simpa using h) (by simpa using hp)
    simp at this ⊢; omega

theorem sum_replicate_nat (n a : Nat) : (List.replicate n a).sum = n * a := by
  induction n with
  | zero => simp
  | succ n ih => simp [List.replicate_succ, ih, Nat.succ_mul]; omega

theorem sum_zero_of_all : ∀ (l : List Nat), (∀ i : Nat, i < l.length → l[i]?.getD 0 = 0) → l.sum = 0
  | [], _ => rfl
  | a :: l, h => by
    have h0 := h 0 (by simp)
    have := sum_zero_of_all l (fun i hi => by simpa using h (i + 1) (by simpa using hi))
    simp at h0 ⊢; omega

structure InvP (c : Cfg) (s : St) : Prop where
  ownLen : s.own.length = c.instances
  pcsLen : s.pcs.length = c.instances
  tok : s.started * c.tokens = s.own.sum + s.fired + s.discarded + s.pcs.count .decide + s.pcs.count .firing
  unf0 : s.unfired = 0
  busy : ∀ i : Nat, (s.pcs[i]? = some Pc.acquire ∨ s.pcs[i]? = some Pc.wait) → 0 < s.own[i]?.getD 0
  done : ∀ i : Nat, s.pcs[i]? = some Pc.done → s.own[i]?.getD 0 = 0 ∨ s.ammoLeft = some 0
  ownIdle : ∀ i : Nat, s.pcs[i]? = some Pc.idle → s.own[i]?.getD 0 = 0

theorem init_invP (c : Cfg) : InvP c (init c) := by
  refine ⟨by simp [init], by simp [init], by simp [init, List.count_replicate], rfl, ?_, ?_, ?_⟩
  · intro i h
    simp only [init] at h
    rcases h with h | h <;> (rw [List.getElem?_replicate] at h; split at h <;> cases h)
  · intro i h
    simp only [init] at h
    rw [List.getElem?_replicate] at h; split at h <;> cases h
  · intro i _
    simp only [init]
    rw [List.getElem?_replicate]; split <;> rfl

theorem step_invP {c : Cfg} (hc : c.perInstance = true) {s s' : St} {e : Ev} (hi : InvP c s)
    (hs : step c s e = some s') : InvP c s' := by
  obtain ⟨i, old, new, m⟩ := step_along hs
  have he := m.edge
  have hg := m.guard
  rw [show s.left c i = s.own[i]?.getD 0 by simp [St.left, hc]] at hg
  have hown : s'.own = if old = .idle then s.own.set i c.tokens
      else if old = .wait ∧ new = .decide then s.own.set i (s.own[i]?.getD 0 - 1) else s.own := by
    simpa only [hc, and_true] using m.own
  have hlt : i < s.own.length := by have := hi.ownLen; have := hi.pcsLen; have := lt_of_get m.pc; omega
  -- only the bucket of instance `i` is touched
  have hownk : ∀ k, k ≠ i → s'.own[k]? = s.own[k]? := by
    intro k hk; rw [hown]
    split
    · exact List.getElem?_set_ne (Ne.symm hk)
    · split
      · exact List.getElem?_set_ne (Ne.symm hk)
      · rfl
  refine ⟨?ownLen, ?pcsLen, ?tok, ?unf0, ?busy, ?done, ?ownIdle⟩
  case ownLen =>
    rw [hown]; split
    · simp [hi.ownLen]
    · split <;> simp [hi.ownLen]
  case pcsLen => rw [m.pcs, List.length_set]; exact hi.pcsLen
  case tok =>
    have := tok_along m; have := hi.tok; have hst := m.started
    by_cases ho : old = .idle
    · subst ho; cases he
      rw [hown, if_pos rfl, sum_set_zero s.own i c.tokens hlt (hi.ownIdle i m.pc), hst]
      show (s.started + 1) * c.tokens = _
      rw [Nat.add_mul, Nat.one_mul]
      have : (Pc.idle == Pc.wait && Pc.check == Pc.decide).toNat = 0 := rfl
      omega
    · rw [if_neg ho] at hown
      rw [hst, show (old == Pc.idle).toNat = 0 by simp [ho], Nat.add_zero, hown]
      by_cases hD : old = .wait ∧ new = .decide
      · obtain ⟨rfl, rfl⟩ := hD
        have := sum_set_pred s.own i hlt (hi.busy i (.inr m.pc))
        have : (Pc.wait == Pc.wait && Pc.decide == Pc.decide).toNat = 1 := rfl
        rw [if_pos ⟨rfl, rfl⟩]; omega
      · rw [if_neg hD]; have := not_edge hD; omega
  case unf0 =>
    rw [m.unfired, hi.unf0]
    by_cases hE : old = .wait ∧ new = .release
    · -- `Next()` of an own profile cannot report the end to an instance that saw tokens at the loop head
      obtain ⟨rfl, rfl⟩ := hE
      have := hi.busy i (.inr m.pc); have : s.own[i]?.getD 0 = 0 := hg; omega
    · rw [not_edge hE]
  case busy =>
    intro k hk
    rw [m.pcs_at k] at hk
    by_cases hki : k = i
    · subst hki; rw [if_pos rfl] at hk
      rcases hk with hk | hk <;> cases Option.some.inj hk <;> cases he <;> rw [show s'.own = s.own from hown]
      · exact hg
      · exact hi.busy k (.inl m.pc)
    · rw [if_neg hki] at hk; rw [hownk k hki]; exact hi.busy k hk
  case done =>
    intro k hk
    rw [m.pcs_at k] at hk
    by_cases hki : k = i
    · subst hki; rw [if_pos rfl] at hk
      cases Option.some.inj hk; cases he <;> rw [show s'.own = s.own from hown]
      · exact .inl hg
      · exact .inr (m.ammo_empty hg)
    · rw [if_neg hki] at hk; rw [hownk k hki]; exact (hi.done k hk).imp_right m.ammo_empty
  case ownIdle =>
    intro k hk
    rw [m.pcs_at k] at hk
    by_cases hki : k = i
    · rw [if_pos hki] at hk; cases Option.some.inj hk; cases he
    · rw [if_neg hki] at hk; rw [hownk k hki]; exact hi.ownIdle k hk

/-! ### lifting to whole traces -/

theorem run_inv {c : Cfg} {P : St → Prop} (hstep : ∀ s s' e, P s → step c s e = some s' → P s') :
    ∀ (evs : List Ev) (s s' : St), P s → run c s evs = some s' → P s'
  | [], s, s', hp, h => by simp [run] at h; exact h ▸ hp
  | e :: es, s, s', hp, h => by
    simp only [run] at h
    split at h
    · rename_i s1 hs1; exact run_inv hstep es s1 s' (hstep s s1 e hp hs1) h
    · cases h

/-- at the end of the pool every instance is `done` or was never started -/
theorem count_of_terminal {s : St} (h : s.terminal = true) (p : Pc) (hp : p ≠ .done) (hp' : p ≠ .idle) :
    s.pcs.count p = 0 := by
  unfold St.terminal at h
  rw [List.all_eq_true] at h
  apply List.count_eq_zero.mpr
  intro hm
  have := h p hm
  simp at this
  rcases this with h1 | h1
  · exact hp h1
  · exact hp' h1

end Pandora.Proofs.C03
