/-
C06 helper lemmas: invariants of the pool's await loop (Model/C06Pool.lean), what the aggregator sees of it, and
that it cannot get stuck before the end-of-run cancel.
-/
import Pandora.Model.C06Pool
import Pandora.Proofs.C06Queue

namespace Pandora.Proofs.C06Pool
open Pandora.Model.C06Pool
open Pandora.Model.AggQueue (Ev NoReportAfterCancel isReportEv)
open Pandora.Proofs.C06Queue (nrac_cons_of_ne)

def b2n (b : Bool) : Nat := if b then 0 else 1
theorem b2n_true : b2n true = 0 := rfl
theorem b2n_false : b2n false = 1 := rfl
theorem b2n_le (b : Bool) : b2n b ≤ 1 := by cases b <;> decide
theorem b2n_one {b : Bool} (h : b2n b = 1) : b = false := by cases b <;> first | rfl | cases h

structure PInv (st : PSt) : Prop where
  cnt : st.launched = st.running + st.finishedCount
  aw : st.awaitedInstances ≤ st.finishedCount
  startTaken : st.startResOpen = false → st.startedInstances = (st.launched : Int) ∧ st.starting = false
  closed : st.runResOpen = false → st.running = 0 ∧ st.starting = false ∧ st.startResOpen = false
  noSend : st.sendOnClosed = false
  acct : st.toWait + b2n st.provOpen + b2n st.aggOpen + b2n st.startResOpen + b2n st.runResOpen = 4
  aggTaken : st.aggOpen = false → st.aggDone = true
  wd : st.waitDone = true → st.toWait = 0
  sent : st.startSent = true → st.starting = false

theorem pinv_init : PInv (init 4) := by
  refine ⟨rfl, Nat.le_refl _, ?_, ?_, rfl, rfl, ?_, ?_, ?_⟩ <;> simp [init]

/-- `runRes` is open as long as an instance runs, instances are being started or the start result is not taken -/
theorem runRes_open {st : PSt} (h : PInv st)
    (hc : ¬ (st.running = 0 ∧ st.starting = false ∧ st.startResOpen = false)) : st.runResOpen = true := by
  cases ho : st.runResOpen with
  | true => rfl
  | false => exact absurd (h.closed ho) hc

/-- `checkAllInstancesAreFinished` keeps the invariant, given that the start result was taken before or now -/
theorem pinv_check {st : PSt} (h : PInv st) (hopen : st.runResOpen = true) : PInv st.check := by
  unfold PSt.check
  by_cases hall : ((!st.startResOpen) && decide ((st.awaitedInstances : Int) ≥ st.startedInstances)) = true
  · simp only [hall, Bool.not_true, Bool.false_eq_true, if_false]
    simp only [Bool.and_eq_true, Bool.not_eq_true', decide_eq_true_eq] at hall
    obtain ⟨hs, hge⟩ := hall
    obtain ⟨hsi, hst⟩ := h.startTaken hs
    have hrun : st.running = 0 := by
      have h1 := h.cnt
      have h2 := h.aw
      rw [hsi] at hge
      omega
    exact { h with
      closed := fun _ => ⟨hrun, hst, hs⟩
      acct := by
        have := h.acct; have := b2n_le st.provOpen; have := b2n_le st.aggOpen
        simp only [hopen, hs, b2n_true, b2n_false] at * ; omega
      wd := fun hw => by simp [h.wd hw] }
  · simp only [hall, Bool.not_false, if_true]
    exact h

/-- each step names the clauses whose fields it writes; the others are kept as they are -/
theorem pinv_step {st : PSt} (h : PInv st) (e : PEv) : PInv (step st e) := by
  cases e with
  | launch =>
    simp only [step]; split
    · next hs =>
      exact { h with
        cnt := by simp [h.cnt]; omega
        startTaken := fun ho => by have := (h.startTaken ho).2; rw [hs] at this; cases this
        closed := fun ho => by have := (h.closed ho).2.1; rw [hs] at this; cases this }
    · exact h
  | startDone =>
    simp only [step]; split
    · next hs =>
      exact { h with
        startTaken := fun ho => by have := (h.startTaken ho).2; rw [hs] at this; cases this
        closed := fun ho => by have := (h.closed ho).2.1; rw [hs] at this; cases this
        sent := fun _ => rfl }
    · exact h
  | report _ | provReturn | extCancel => simp only [step]; (try split) <;> exact { h with }
  | finish =>
    simp only [step]; split
    · next hr =>
      have hopen := runRes_open h (fun c => by omega)
      exact { h with
        cnt := by have := h.cnt; simp; omega
        aw := by have := h.aw; simp; omega
        closed := fun ho => by simp at ho; rw [hopen] at ho; cases ho
        noSend := by simp [h.noSend, hopen] }
    · exact h
  | aggReturn => exact { h with aggTaken := fun _ => rfl }
  | awaitProv =>
    simp only [step]; split
    · next hc =>
      exact { h with
        acct := by have := h.acct; simp only [hc.2.1, b2n_true, b2n_false] at this ⊢; omega
        wd := fun hwd => by have := h.wd hwd; omega }
    · exact h
  | awaitAgg =>
    simp only [step]; split
    · next hc =>
      exact { h with
        acct := by have := h.acct; simp only [hc.2.1, b2n_true, b2n_false] at this ⊢; omega
        aggTaken := fun _ => hc.2.2
        wd := fun hwd => by have := h.wd hwd; omega }
    · exact h
  | awaitStart =>
    simp only [step]; split
    · next hc =>
      have hopen := runRes_open h (fun c => by rw [hc.2.1] at c; cases c.2.2)
      refine pinv_check { h with
        startTaken := fun _ => ⟨rfl, h.sent hc.2.2⟩
        closed := fun ho => by rw [hopen] at ho; cases ho
        acct := by have := h.acct; simp only [hc.2.1, b2n_true, b2n_false] at this ⊢; omega
        wd := fun hwd => by have := h.wd hwd; omega } hopen
    · exact h
  | awaitInst =>
    simp only [step]; split
    · next hc => exact pinv_check { h with aw := by simp; omega } hc.2.1
    · exact h
  | waitDone =>
    simp only [step]; split
    · next hz => exact { h with wd := fun _ => hz }
    · exact h

theorem pinv_run (tr : List PEv) {st : PSt} (h : PInv st) : PInv (run st tr) := by
  induction tr generalizing st with
  | nil => exact h
  | cons e es ih => exact ih (pinv_step h e)

/-- what `waitDone` stands for -/
theorem wd_all {st : PSt} (p : PInv st) (hw : st.waitDone = true) :
    st.aggDone = true ∧ st.aggOpen = false ∧ st.runResOpen = false ∧ st.running = 0 ∧ st.starting = false := by
  -- nothing left to wait for: all four channels are closed
  have h0 := p.wd hw
  have hacct := p.acct
  have := b2n_le st.provOpen; have := b2n_le st.aggOpen; have := b2n_le st.startResOpen; have := b2n_le st.runResOpen
  have ha : st.aggOpen = false := b2n_one (by omega)
  have hr : st.runResOpen = false := b2n_one (by omega)
  exact ⟨p.aggTaken ha, ha, hr, (p.closed hr).1, (p.closed hr).2.1⟩

/-- `runRes` is closed only together with the cancel -/
theorem cinv_step {st : PSt} (h : st.runResOpen = false → st.cancelled = true) (e : PEv) :
    (step st e).runResOpen = false → (step st e).cancelled = true := by
  have hcheck : ∀ s : PSt, (s.runResOpen = false → s.cancelled = true) →
      (s.check.runResOpen = false → s.check.cancelled = true) := by
    intro s hs
    unfold PSt.check
    dsimp only
    split
    · exact hs
    · intro _; rfl
  cases e with
  | awaitStart | awaitInst =>
    simp only [step]; split
    · exact hcheck _ h
    · exact h
  | extCancel =>
    simp only [step]; split
    · exact h
    · intro _; rfl
  | _ => simp only [step]; (try split) <;> exact h

theorem cinv_run (tr : List PEv) {st : PSt} (h : st.runResOpen = false → st.cancelled = true) :
    (run st tr).runResOpen = false → (run st tr).cancelled = true := by
  induction tr generalizing st with
  | nil => exact h
  | cons e es ih => exact ih (cinv_step h e)

/-! ## what the aggregator sees: completed Report calls and the cancel -/

theorem nrac_nocancel (l r : List Ev) (h : ∀ e ∈ l, e ≠ Ev.cancel) :
    NoReportAfterCancel (l ++ r) ↔ NoReportAfterCancel r := by
  induction l with
  | nil => rfl
  | cons e es ih =>
    rw [List.cons_append, nrac_cons_of_ne (h e (by simp))]
    exact ih (fun x hx => h x (by simp [hx]))

theorem nrac_snoc_cancel (l : List Ev) (h : ∀ e ∈ l, e ≠ Ev.cancel) : NoReportAfterCancel (l ++ [Ev.cancel]) := by
  rw [nrac_nocancel l _ h]; simp [NoReportAfterCancel]

theorem nrac_of_nocancel (l : List Ev) (h : ∀ e ∈ l, e ≠ Ev.cancel) : NoReportAfterCancel l := by
  have := (nrac_nocancel l [] h).mpr (by simp [NoReportAfterCancel])
  simpa using this

/-- invariant about `emitted` along traces WITHOUT an external cancel -/
structure EInv (st : PSt) : Prop where
  before : st.cancelled = false → ∀ e ∈ st.emitted, e ≠ Ev.cancel
  after : st.cancelled = true → st.runResOpen = false ∧ NoReportAfterCancel st.emitted

theorem einv_init : EInv (init 4) := ⟨by simp [init], by simp [init]⟩

/-- along traces without an external cancel the cancel comes only with the closing of `runRes` -/
theorem not_cancelled {st : PSt} (h : EInv st) (hopen : st.runResOpen = true) : st.cancelled = false := by
  cases hc : st.cancelled with
  | false => rfl
  | true => have := (h.after hc).1; rw [hopen] at this; cases this

theorem einv_check {st : PSt} (h : EInv st) (hopen : st.runResOpen = true) : EInv st.check := by
  unfold PSt.check
  dsimp only
  split
  · exact h
  · exact ⟨by simp, fun _ => ⟨rfl, nrac_snoc_cancel _ (h.before (not_cancelled h hopen))⟩⟩

theorem einv_step {st : PSt} (p : PInv st) (h : EInv st) (e : PEv) (he : e ≠ .extCancel) : EInv (step st e) := by
  cases e with
  | extCancel => exact absurd rfl he
  | report i =>
    simp only [step]; split
    · next hr =>
      -- an instance is running: `runRes` is open, so the cancel has not been issued
      have hc := not_cancelled h (runRes_open p (fun c => by omega))
      refine ⟨fun _ e he => ?_, fun hc' => by rw [show st.cancelled = true from hc'] at hc; cases hc⟩
      simp only [List.mem_append, List.mem_singleton] at he
      rcases he with he | he
      · exact h.before hc e he
      · subst he; intro hx; cases hx
    · exact h
  | finish =>
    simp only [step]; split
    · next hr =>
      have hc := not_cancelled h (runRes_open p (fun c => by omega))
      exact { h with after := fun hc' => by rw [show st.cancelled = true from hc'] at hc; cases hc }
    · exact h
  | awaitStart =>
    simp only [step]; split
    · next hc =>
      have hopen := runRes_open p (fun c => by rw [hc.2.1] at c; cases c.2.2)
      exact einv_check ⟨h.before, h.after⟩ hopen
    · exact h
  | awaitInst =>
    simp only [step]; split
    · next hc => exact einv_check ⟨h.before, h.after⟩ hc.2.1
    · exact h
  | _ => simp only [step]; (try split) <;> exact { h with }

theorem einv_run (tr : List PEv) {st : PSt} (p : PInv st) (h : EInv st) (hne : ∀ e ∈ tr, e ≠ PEv.extCancel) :
    EInv (run st tr) := by
  induction tr generalizing st with
  | nil => exact h
  | cons e es ih =>
    exact ih (pinv_step p e) (einv_step p h e (hne e (by simp))) (fun x hx => hne x (by simp [hx]))

/-! ## `NoReportAfterCancel` only looks at the report / cancel events of a schedule -/

theorem nrac_filter (sched : List Ev) : NoReportAfterCancel sched ↔ NoReportAfterCancel (sched.filter isRC) := by
  induction sched with
  | nil => rfl
  | cons e es ih =>
    by_cases he : e = .cancel
    · subst he
      show (∀ x ∈ es, isReportEv x = false) ↔ (∀ x ∈ es.filter isRC, isReportEv x = false)
      refine ⟨fun h x hx => h x (List.mem_filter.mp hx).1, fun h x hx => ?_⟩
      cases hr : isReportEv x with
      | false => rfl
      | true =>
        have hrc : isRC x = true := by cases x <;> first | rfl | cases hr
        exact hr.symm.trans (h x (List.mem_filter.mpr ⟨hx, hrc⟩))
    · rw [nrac_cons_of_ne he, ih]
      by_cases hrc : isRC e = true
      · rw [List.filter_cons_of_pos hrc, nrac_cons_of_ne he]
      · rw [List.filter_cons_of_neg hrc]

end Pandora.Proofs.C06Pool

/-! ## the await loop cannot get stuck before the end-of-run cancel: once the start result was taken, either
`runRes` is closed (the cancel was issued) or an instance result is still outstanding -/

namespace Pandora.Proofs.C06PoolLive
open Pandora.Model.C06Pool Pandora.Proofs.C06Pool

def KInv (st : PSt) : Prop :=
  st.startResOpen = false → st.runResOpen = false ∨ st.awaitedInstances < st.launched

theorem kinv_init (n : Nat) : KInv (init n) := by
  intro h; simp [init] at h

/-- `checkAllInstancesAreFinished` with the start result taken: closes, or a result is outstanding -/
theorem kinv_check (st : PSt) (hsi : st.startedInstances = (st.launched : Int)) : KInv st.check := by
  intro hs
  unfold PSt.check at hs ⊢
  by_cases hall : ((!st.startResOpen) && decide ((st.awaitedInstances : Int) ≥ st.startedInstances)) = true
  · simp [hall]
  · simp only [hall, Bool.not_false, if_true] at hs ⊢
    right
    simp only [Bool.and_eq_true, Bool.not_eq_true', decide_eq_true_eq, not_and] at hall
    have := hall hs
    rw [hsi] at this
    omega

theorem check_open (st : PSt) (h : st.startResOpen = true) : st.check = st := by
  unfold PSt.check
  simp [h]

theorem kinv_step {st : PSt} (p : PInv st) (k : KInv st) (e : PEv) : KInv (step st e) := by
  cases e with
  | launch =>
    simp only [step]; split
    · rename_i hs
      intro ho
      have := (p.startTaken ho).2
      rw [hs] at this; cases this
    · exact k
  | awaitStart =>
    simp only [step]; split
    · exact kinv_check _ rfl
    · exact k
  | awaitInst =>
    simp only [step]; split
    · cases hs : st.startResOpen with
      | true =>
        rw [check_open _ (by simp)]
        intro ho; simp at ho
      | false => exact kinv_check _ (p.startTaken hs).1
    · exact k
  | _ => simp only [step]; (try split) <;> exact k

theorem kinv_run (tr : List PEv) {st : PSt} (p : PInv st) (k : KInv st) : KInv (run st tr) := by
  induction tr generalizing st with
  | nil => exact k
  | cons e es ih => exact ih (pinv_step p e) (kinv_step p k e)

end Pandora.Proofs.C06PoolLive
