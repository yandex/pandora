/-
C05 — lemmas about the provider model (`Model/C05Prov.lean`) and its composition with the pool model.
-/
import Pandora.Model.C05Prov
import Pandora.Proofs.C05Swallow

namespace Pandora.Proofs.C05
open Pandora.Model.C05 Pandora.Model.C05.Prov

/-! ### `JSONAmmoDecoder.Decode` -/

theorem jsonDecode_ok (d : DecIn) (h : jsonDecode d = .ok) : d.parseFails = false := by
  obtain ⟨nv, r0, pf, r1⟩ := d
  cases nv <;> cases pf <;> rcases r0 with _ | (_ | _) <;> rcases r1 with _ | (_ | _) <;>
    simp_all [jsonDecode, errOfPtr]

/-! ### the loop of `DecodeProvider.Run` -/

theorem runLoop_nil (limit : Nat) (ctxAt : Option Nat) (ds : List DecRes) (n m : Nat)
    (h : runLoop limit ctxAt n ds = some (.nil, m)) :
    n ≤ m ∧ (∀ j, j < m - n → ds[j]? = some .ok) ∧
    ((limit ≠ 0 ∧ limit ≤ m) ∨ ds[m - n]? = some .eof ∨ (ctxAt = some m ∧ ds[m - n]? = some .ok)) := by
  fun_induction runLoop limit ctxAt n ds <;> simp_all
  next n rest _ _ ih =>
    obtain ⟨h1, h2, h3⟩ := ih
    have e : m - n = (m - (n + 1)) + 1 := by omega
    refine ⟨by omega, fun j hj => ?_, ?_⟩
    · cases j with
      | zero => rfl
      | succ j => exact h2 j (by omega)
    · rw [e]; exact h3

theorem runLoop_err (limit : Nat) (ctxAt : Option Nat) (ds : List DecRes) (n m i : Nat) (e : DecRes)
    (h : runLoop limit ctxAt n ds = some (.decodeFailed i e, m)) :
    m = i ∧ n ≤ i ∧ ds[i - n]? = some e ∧ e ≠ .ok ∧ e ≠ .eof := by
  fun_induction runLoop limit ctxAt n ds <;> simp_all
  next n rest _ _ ih =>
    rw [show i - n = (i - (n + 1)) + 1 by omega]
    exact ⟨by omega, ih.2.2.1⟩
  next => omega

/-- `j` ammo and then an answer that is neither an ammo nor `io.EOF`, within the limit and before any cancel: the run
fails with exactly that answer, at exactly that ammo -/
theorem runLoop_first_bad (limit : Nat) (ctxAt : Option Nat) (e : DecRes) (rest : List DecRes)
    (he1 : e ≠ .ok) (he2 : e ≠ .eof) : ∀ (j n : Nat),
    (limit = 0 ∨ n + j < limit) → (∀ c, ctxAt = some c → c < n ∨ n + j ≤ c) →
    runLoop limit ctxAt n (List.replicate j .ok ++ e :: rest) = some (.decodeFailed (n + j) e, n + j) := by
  intro j
  induction j with
  | zero =>
    intro n hl _
    have hn : ¬(limit ≠ 0 ∧ limit ≤ n) := by omega
    simp only [List.replicate_zero, List.nil_append, Nat.add_zero]
    unfold runLoop
    rw [if_neg hn]
    cases e <;> first | exact absurd rfl he1 | exact absurd rfl he2 | rfl
  | succ j ih =>
    intro n hl hc
    have hn : ¬(limit ≠ 0 ∧ limit ≤ n) := by omega
    have hcn : ¬(ctxAt = some n) := by intro h; have := hc n h; omega
    simp only [List.replicate_succ, List.cons_append]
    unfold runLoop
    rw [if_neg hn]
    show (if ctxAt = some n then _ else _) = _
    rw [if_neg hcn]
    have := ih (n + 1) (by omega) (by intro c h; have := hc c h; omega)
    rw [this]
    have e1 : n + 1 + j = n + (j + 1) := by omega
    rw [e1]

/-- the written sources: `k` complete ammo, then what the tail makes of the decoder's next answer -/
theorem answers_eq (k : Nat) (t : Tail) : answers k t = List.replicate k .ok ++ [jsonDecode (decInAt k t k)] := by
  unfold answers
  rw [List.range_succ, List.map_append]
  congr 1
  apply List.ext_getElem
  · simp
  · intro i h1 h2
    simp only [List.length_map, List.length_range] at h1
    simp [decInAt, h1, jsonDecode]

/-! ### composition with the pool model: a component error, once returned, stays on record -/

@[simp] theorem ce_cancelAll (s : State) : (cancelAll s).compErrs = s.compErrs := rfl
@[simp] theorem ce_mainReturn (s : State) (r : PRes) : (mainReturn s r).compErrs = s.compErrs := rfl
@[simp] theorem ce_sendRes (s : State) (id : Nat) (r : Ret) : (sendRes s id r).compErrs = s.compErrs := by
  unfold sendRes; split <;> rfl

/-- a step never removes a recorded component error: it appends to the record (`addErr`, the failing calls) or leaves
it alone (everything else; the await helpers by `Same`) -/
theorem compErrs_step_append (cfg : Cfg) (s : State) (c : Choice) : ∃ l, (step cfg s c).compErrs = s.compErrs ++ l := by
  have nil : ∃ l, s.compErrs = s.compErrs ++ l := ⟨[], (List.append_nil _).symm⟩
  have same : ∀ a b : State, Same a b → (∃ l, b.compErrs = s.compErrs ++ l) → ∃ l, a.compErrs = s.compErrs ++ l :=
    fun a b hs ⟨l, hl⟩ => ⟨l, hs.compErrs.trans hl⟩
  cases c <;> simp only [step, addErr_eq, sendRes] <;> repeat' split
  all_goals first
    | exact nil
    | exact ⟨_, rfl⟩
    | exact same _ _ (same_handleRes _ _ _ _ _) nil
    | exact same _ _ (same_afterErr _ _) nil

theorem compErrs_run (cfg : Cfg) (post : List Choice) (s : State) (h : s.compErrs ≠ []) :
    (post.foldl (step cfg) s).compErrs ≠ [] := by
  induction post generalizing s with
  | nil => exact h
  | cons c rest ih =>
    obtain ⟨l, hl⟩ := compErrs_step_append cfg s c
    exact ih _ (by rw [hl]; exact fun hh => h (List.append_eq_nil_iff.1 hh).1)

/-- once a component error is on record, `Pool.Run` returns nil only after the caller's cancel -/
theorem not_ok_after_error (cfg : Cfg) (hfix : cfg.fixSelect = true) (pre post : List Choice) (c : Choice)
    (h1 : (step cfg (run cfg pre) c).compErrs ≠ []) :
    let s := run cfg (pre ++ c :: post)
    s.extC = false → s.result ≠ some .ok := by
  intro s hext hres
  have h2 : s.compErrs ≠ [] := by
    show (run cfg (pre ++ c :: post)).compErrs ≠ []
    unfold run
    rw [List.foldl_append, List.foldl_cons]
    exact compErrs_run cfg post _ h1
  have hm := main_of_result hres
  rcases (run_invX cfg hfix _).acc with h | h | h | h
  · rw [hext] at h; cases h
  · exact h2 h
  · rw [hm] at h; cases h
  · rw [hm] at h; cases h.1

end Pandora.Proofs.C05
