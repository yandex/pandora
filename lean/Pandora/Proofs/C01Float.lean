/-
C01, the float64 gap of the const profile — proved, not only measured.

`Rounding u fl`: the standard model of floating-point arithmetic — the result of every operation is the exact result
times (1 + e) with |e| ≤ u (IEEE-754 binary64, round to nearest: u = 2⁻⁵³, as long as no underflow/overflow happens).
The regenerated FLOAT64 READING of const.go (`Pandora.Gen.Schedule.NewConst_fl`, `constDoAt_fl`: the same source, every
float operation wrapped in `fl`) is analysed for EVERY such `fl`:

  instant of operation i:  x̃ = fl(fl(i) · fl(10⁹/ops))           three roundings of non-negative quantities
  count:                   ñ = trunc(fl(ops · fl(fl(D)/10⁹)))     three roundings

so x̃ ∈ [(1−u)³, (1+u)³]·T with T = i·10⁹/ops, and (1±u)³ is within 1 ± 4u for u ≤ 1/16.
-/
import Pandora.Bridge.C01

set_option linter.unusedVariables false
set_option linter.unusedSimpArgs false
set_option linter.unusedTactic false

namespace Pandora.Proofs.C01Float
open Pandora Pandora.Gen.Schedule Pandora.Bridge.Schedule

/-- standard model of floating-point arithmetic with unit roundoff `u` -/
structure Rounding (u : ℝ) (fl : ℝ → ℝ) : Prop where
  u_nonneg : 0 ≤ u
  u_small : u ≤ 1 / 16
  err : ∀ x : ℝ, |fl x - x| ≤ u * |x|

variable {u : ℝ} {fl : ℝ → ℝ}

theorem Rounding.lo (h : Rounding u fl) {x : ℝ} (hx : 0 ≤ x) : (1 - u) * x ≤ fl x := by
  have := h.err x
  rw [abs_of_nonneg hx] at this
  have := (abs_le.mp this).1
  linarith

theorem Rounding.hi (h : Rounding u fl) {x : ℝ} (hx : 0 ≤ x) : fl x ≤ (1 + u) * x := by
  have := h.err x
  rw [abs_of_nonneg hx] at this
  have := (abs_le.mp this).2
  linarith

theorem Rounding.one_sub_pos (h : Rounding u fl) : 0 < 1 - u := by linarith [h.u_small]

theorem Rounding.one_add_pos (h : Rounding u fl) : 0 < 1 + u := by linarith [h.u_nonneg]

theorem Rounding.nonneg (h : Rounding u fl) {x : ℝ} (hx : 0 ≤ x) : 0 ≤ fl x :=
  (mul_nonneg h.one_sub_pos.le hx).trans (h.lo hx)

/-! ### relative-error calculus

`Rel u k x y`: `y` approximates the exact quantity `x ≥ 0` within `k` roundings, (1−u)ᵏ·x ≤ y ≤ (1+u)ᵏ·x.
Rules: fl: k+1 · product: k+m · sum: max · square root: k · inverse: 2k (1/(1−u) ≤ (1+u)²) · quotient: k+2m. -/

def Rel (u : ℝ) (k : ℕ) (x y : ℝ) : Prop := 0 ≤ x ∧ (1 - u) ^ k * x ≤ y ∧ y ≤ (1 + u) ^ k * x

theorem Rel.exact {x : ℝ} (hx : 0 ≤ x) : Rel u 0 x x := ⟨hx, by simp, by simp⟩

theorem Rel.nonneg (hu : Rounding u fl) {k : ℕ} {x y : ℝ} (h : Rel u k x y) : 0 ≤ y :=
  (mul_nonneg (pow_nonneg hu.one_sub_pos.le k) h.1).trans h.2.1

theorem Rel.mono (hu : Rounding u fl) {k m : ℕ} {x y : ℝ} (hkm : k ≤ m) (h : Rel u k x y) : Rel u m x y := by
  have h0 := hu.u_nonneg
  refine ⟨h.1, le_trans ?_ h.2.1, le_trans h.2.2 ?_⟩
  · exact mul_le_mul_of_nonneg_right (pow_le_pow_of_le_one hu.one_sub_pos.le (by linarith) hkm) h.1
  · exact mul_le_mul_of_nonneg_right (pow_le_pow_right₀ (by linarith) hkm) h.1

theorem Rel.round (hu : Rounding u fl) {k : ℕ} {x y : ℝ} (h : Rel u k x y) : Rel u (k + 1) x (fl y) := by
  have hy := h.nonneg hu
  refine ⟨h.1, ?_, ?_⟩
  · calc (1 - u) ^ (k + 1) * x = (1 - u) * ((1 - u) ^ k * x) := by ring
      _ ≤ (1 - u) * y := mul_le_mul_of_nonneg_left h.2.1 hu.one_sub_pos.le
      _ ≤ fl y := hu.lo hy
  · calc fl y ≤ (1 + u) * y := hu.hi hy
      _ ≤ (1 + u) * ((1 + u) ^ k * x) := mul_le_mul_of_nonneg_left h.2.2 hu.one_add_pos.le
      _ = (1 + u) ^ (k + 1) * x := by ring

theorem Rel.mul (hu : Rounding u fl) {k m : ℕ} {a a' b b' : ℝ} (ha : Rel u k a a') (hb : Rel u m b b') :
    Rel u (k + m) (a * b) (a' * b') := by
  refine ⟨mul_nonneg ha.1 hb.1, ?_, ?_⟩
  · calc (1 - u) ^ (k + m) * (a * b) = ((1 - u) ^ k * a) * ((1 - u) ^ m * b) := by ring
      _ ≤ a' * b' := mul_le_mul ha.2.1 hb.2.1 (mul_nonneg (pow_nonneg hu.one_sub_pos.le m) hb.1) (ha.nonneg hu)
  · calc a' * b' ≤ ((1 + u) ^ k * a) * ((1 + u) ^ m * b) :=
          mul_le_mul ha.2.2 hb.2.2 (hb.nonneg hu) (mul_nonneg (pow_nonneg hu.one_add_pos.le k) ha.1)
      _ = (1 + u) ^ (k + m) * (a * b) := by ring

theorem Rel.add {k : ℕ} {a a' b b' : ℝ} (ha : Rel u k a a') (hb : Rel u k b b') : Rel u k (a + b) (a' + b') := by
  refine ⟨add_nonneg ha.1 hb.1, ?_, ?_⟩
  · rw [mul_add]; exact add_le_add ha.2.1 hb.2.1
  · rw [mul_add]; exact add_le_add ha.2.2 hb.2.2

theorem Rel.add' (hu : Rounding u fl) {k m : ℕ} {a a' b b' : ℝ} (ha : Rel u k a a') (hb : Rel u m b b') :
    Rel u (max k m) (a + b) (a' + b') :=
  (ha.mono hu (le_max_left k m)).add (hb.mono hu (le_max_right k m))

theorem Rel.sqrt (hu : Rounding u fl) {k : ℕ} {a a' : ℝ} (ha : Rel u k a a') : Rel u k (Real.sqrt a) (Real.sqrt a') := by
  have h0 := hu.u_nonneg
  have hlo0 : 0 ≤ (1 - u) ^ k := pow_nonneg hu.one_sub_pos.le k
  have hlo1 : (1 - u) ^ k ≤ 1 := pow_le_one₀ hu.one_sub_pos.le (by linarith)
  have hhi1 : 1 ≤ (1 + u) ^ k := one_le_pow₀ (by linarith)
  have hhi0 : 0 ≤ (1 + u) ^ k := zero_le_one.trans hhi1
  -- c ≤ √c for c ≤ 1, √c ≤ c for c ≥ 1
  refine ⟨Real.sqrt_nonneg a, ?_, ?_⟩
  · calc (1 - u) ^ k * Real.sqrt a ≤ Real.sqrt ((1 - u) ^ k) * Real.sqrt a :=
          mul_le_mul_of_nonneg_right
            (Real.le_sqrt_of_sq_le (by rw [sq]; exact mul_le_of_le_one_left hlo0 hlo1)) (Real.sqrt_nonneg a)
      _ = Real.sqrt ((1 - u) ^ k * a) := (Real.sqrt_mul hlo0 a).symm
      _ ≤ Real.sqrt a' := Real.sqrt_le_sqrt ha.2.1
  · calc Real.sqrt a' ≤ Real.sqrt ((1 + u) ^ k * a) := Real.sqrt_le_sqrt ha.2.2
      _ = Real.sqrt ((1 + u) ^ k) * Real.sqrt a := Real.sqrt_mul hhi0 a
      _ ≤ (1 + u) ^ k * Real.sqrt a :=
          mul_le_mul_of_nonneg_right
            ((Real.sqrt_le_left hhi0).mpr (by rw [sq]; exact le_mul_of_one_le_left hhi0 hhi1)) (Real.sqrt_nonneg a)

theorem Rounding.inv_lo (h : Rounding u fl) : (1 - u) ^ 2 * (1 + u) ≤ 1 := by
  have e : (1 - u) ^ 2 * (1 + u) = 1 - u * (1 + u * (1 - u)) := by ring
  have : 0 ≤ u * (1 + u * (1 - u)) :=
    mul_nonneg h.u_nonneg (add_nonneg zero_le_one (mul_nonneg h.u_nonneg h.one_sub_pos.le))
  linarith

theorem Rounding.inv_hi (h : Rounding u fl) : 1 ≤ (1 + u) ^ 2 * (1 - u) := by
  have h0 := h.u_nonneg
  have h1 := h.u_small
  have e : (1 + u) ^ 2 * (1 - u) = 1 + u * (1 - u * (1 + u)) := by ring
  have h2 : u * u ≤ 1 * u := mul_le_mul_of_nonneg_right (by linarith) h0
  have : 0 ≤ u * (1 - u * (1 + u)) := mul_nonneg h0 (by linarith)
  linarith

/-- the divisor's roundings count twice on the way up: 1/(1−u) ≤ (1+u)² -/
theorem Rel.inv (hu : Rounding u fl) {m : ℕ} {b b' : ℝ} (hb : Rel u m b b') (hb0 : 0 < b) :
    Rel u (2 * m) b⁻¹ b'⁻¹ := by
  have h1 := hu.one_sub_pos
  have hp := hu.one_add_pos
  have hlo : 0 < (1 - u) ^ m * b := mul_pos (pow_pos h1 m) hb0
  have hb' : 0 < b' := hlo.trans_le hb.2.1
  have hbi : 0 ≤ b⁻¹ := (inv_pos.mpr hb0).le
  refine ⟨hbi, ?_, ?_⟩
  · calc (1 - u) ^ (2 * m) * b⁻¹ ≤ ((1 + u) ^ m)⁻¹ * b⁻¹ := by
          refine mul_le_mul_of_nonneg_right ?_ hbi
          rw [← one_div, le_div_iff₀ (pow_pos hp m), pow_mul, ← mul_pow]
          exact pow_le_one₀ (mul_nonneg (sq_nonneg _) hp.le) hu.inv_lo
      _ = ((1 + u) ^ m * b)⁻¹ := (mul_inv _ _).symm
      _ ≤ b'⁻¹ := inv_anti₀ hb' hb.2.2
  · calc b'⁻¹ ≤ ((1 - u) ^ m * b)⁻¹ := inv_anti₀ hlo hb.2.1
      _ = ((1 - u) ^ m)⁻¹ * b⁻¹ := mul_inv _ _
      _ ≤ (1 + u) ^ (2 * m) * b⁻¹ := by
          refine mul_le_mul_of_nonneg_right ?_ hbi
          rw [← one_div, div_le_iff₀ (pow_pos h1 m), pow_mul, ← mul_pow]
          exact one_le_pow₀ hu.inv_hi

theorem Rel.div (hu : Rounding u fl) {k m : ℕ} {a a' b b' : ℝ} (ha : Rel u k a a') (hb : Rel u m b b') (hb0 : 0 < b) :
    Rel u (k + 2 * m) (a / b) (a' / b') := by
  rw [div_eq_mul_inv, div_eq_mul_inv]
  exact ha.mul hu (hb.inv hu hb0)

/-- end of a derivation: the number of roundings found is within the budget, the exact quantity found is the intended one -/
theorem Rel.conclude (hu : Rounding u fl) {k K : ℕ} {X X' y : ℝ} (h : Rel u k X' y) (hk : k ≤ K) (hX : X' = X) :
    Rel u K X y := hX ▸ h.mono hu hk

/-- `rel_tree hu`: proves `Rel u ?k ?X e` for a float64 expression tree `e` (built from `fl`, `*`, `/`, `+`, `Real.sqrt` and
leaves that are non-negative by assumption or `positivity`), by recursion on `e`; `?k` and the exact quantity `?X` (the
tree with every `fl` erased) are found by unification. Divisors must be positive (`rel_pos`: the facts in context, numerals, products, quotients, sums, square roots).
The shape of the tree is NOT part of any statement: operands may be commuted, sub-terms shared or recomputed, a rounding
more or less — as long as the budget of `Rel.conclude` holds and the erased tree is the intended formula up to `ring_nf`. -/
syntax "rel_pos" : tactic
syntax "rel_nonneg" : tactic
macro_rules
  | `(tactic| rel_pos) => `(tactic|
      first
      | assumption
      | (norm_num; done)
      | (apply div_pos; (· rel_pos); (· rel_pos))
      | (apply mul_pos; (· rel_pos); (· rel_pos))
      | (apply add_pos_of_pos_of_nonneg; (· rel_pos); (· rel_nonneg))
      | (apply add_pos_of_nonneg_of_pos; (· rel_nonneg); (· rel_pos))
      | (apply Real.sqrt_pos.mpr; rel_pos)
      | (apply pow_pos; rel_pos)
      | positivity)
macro_rules
  | `(tactic| rel_nonneg) => `(tactic|
      first
      | assumption
      | exact le_of_lt (by assumption)
      | positivity
      | exact le_of_lt (by rel_pos))

syntax "rel_tree " term : tactic
macro_rules
  | `(tactic| rel_tree $hu) => `(tactic|
      first
      | (apply Rel.round $hu; rel_tree $hu)
      | (apply Rel.sqrt $hu; rel_tree $hu)
      | (apply Rel.div $hu; (· rel_tree $hu); (· rel_tree $hu); (· rel_pos))
      | (apply Rel.mul $hu; (· rel_tree $hu); (· rel_tree $hu))
      | (apply Rel.add' $hu; (· rel_tree $hu); (· rel_tree $hu))
      | exact Rel.exact (by rel_nonneg))

/-! ### the const profile: three roundings -/

theorem cube_hi (h : Rounding u fl) : (1 + u) ^ 3 ≤ 1 + 4 * u := by
  have h0 := h.u_nonneg
  have h1 := h.u_small
  have e : (1 + u) ^ 3 = 1 + 3 * u + u * (3 * u + u * u) := by ring
  have h2 : u * u ≤ 1 * u := mul_le_mul_of_nonneg_right (by linarith) h0
  have h3 : u * (3 * u + u * u) ≤ u * 1 := mul_le_mul_of_nonneg_left (by linarith) h0
  linarith

theorem cube_lo (h : Rounding u fl) : 1 - 4 * u ≤ (1 - u) ^ 3 := by
  have h0 := h.u_nonneg
  have e : (1 - u) ^ 3 = 1 - 3 * u + u * u * (3 - u) := by ring
  have : 0 ≤ u * u * (3 - u) := mul_nonneg (mul_nonneg h0 h0) (by linarith [h.u_small])
  linarith

theorem Rounding.one_sub_four_nonneg (h : Rounding u fl) : 0 ≤ 1 - 4 * u := by linarith [h.u_small]

theorem Rel.within4 (h : Rounding u fl) {X y : ℝ} (hr : Rel u 3 X y) : (1 - 4 * u) * X ≤ y ∧ y ≤ (1 + 4 * u) * X :=
  ⟨(mul_le_mul_of_nonneg_right (cube_lo h) hr.1).trans hr.2.1,
   hr.2.2.trans (mul_le_mul_of_nonneg_right (cube_hi h) hr.1)⟩

/-- "`x i` is within (1 ± 4u) of the exact instant i·10⁹/ops (ns) of operation i" -/
def XBound (u ops : ℝ) (x : ℤ → ℝ) : Prop :=
  ∀ i : ℤ, 0 ≤ i → (1 - 4 * u) * ((i : ℝ) * (1000000000 / ops)) ≤ x i ∧ x i ≤ (1 + 4 * u) * ((i : ℝ) * (1000000000 / ops))

/-- "`c` is within (1 ± 4u) of the exact integral ops·D" -/
def CBound (u ops : ℝ) (D : ℤ) (c : ℝ) : Prop :=
  (1 - 4 * u) * (ops * secs D) ≤ c ∧ c ≤ (1 + 4 * u) * (ops * secs D)

/-- the instant spelt `float64(i) * 1e9 / ops`: three roundings as well -/
theorem xbound_B (h : Rounding u fl) {ops : ℝ} (hops : 0 < ops) :
    XBound u ops (fun i => fl (fl (fl ((i : ℤ) : ℝ) * 1000000000) / ops)) := by
  intro i hi
  have hr : Rel u 3 ((i : ℝ) * 1000000000 / ops) (fl (fl (fl (i : ℝ) * 1000000000) / ops)) :=
    (((((Rel.exact (Int.cast_nonneg hi)).round h).mul h (Rel.exact (by norm_num))).round h).div h
      (Rel.exact hops.le) hops).round h
  rw [← mul_div_assoc]
  exact hr.within4 h

/-- **what the regenerated float64 reading of `NewConst` is**: a leaf of the configured length whose count is the
truncation of some `c` within three roundings of the integral and whose operation i is at the truncation of some `x i`
within three roundings of the exact instant. Whatever operation tree the current source yields is walked (`rel_tree`): it
passes as long as it has at most three roundings and, with every `fl` erased, is the intended formula up to `ring`. -/
theorem NewConst_fl_sem (h : Rounding u fl) (ops : ℝ) (D : ℤ) (hops : 0 ≤ ops) (hD : 0 ≤ D) :
    ∃ (c : ℝ) (x : ℤ → ℝ), NewConst_fl fl ops D = Sched.doAt D (Go.f2i c) (fun i => Go.f2i (x i)) ∧
      Rel u 3 (ops * secs D) c ∧ (0 < ops → ∀ i : ℤ, 0 ≤ i → Rel u 3 ((i : ℝ) * (1000000000 / ops)) (x i)) := by
  unfold NewConst_fl constDoAt_fl
  schedule_aux_unfold
  have hneg : ¬ ops < 0 := not_lt.mpr hops
  try simp only [hneg, if_false]
  try dsimp only
  refine ⟨_, _, rfl, ?_, ?_⟩
  · have hD' : (0:ℝ) ≤ ((D : ℤ) : ℝ) := Int.cast_nonneg hD
    apply Rel.conclude h
    · rel_tree h
    · decide
    · unfold secs; ring
  · intro hpos i hi
    have hi' : (0:ℝ) ≤ ((i : ℤ) : ℝ) := Int.cast_nonneg hi
    apply Rel.conclude h
    · rel_tree h
    · decide
    · ring

/-- exact integral (operations) of the rate `ops` up to `y` nanoseconds -/
noncomputable def cumNs (ops : ℝ) (y : ℝ) : ℝ := ops * (y / 1000000000)

theorem cumNs_mono {ops a b : ℝ} (hops : 0 ≤ ops) (hab : a ≤ b) : cumNs ops a ≤ cumNs ops b :=
  mul_le_mul_of_nonneg_left (div_le_div_of_nonneg_right hab (by norm_num)) hops

/-- the integral reaches `c·i` at `c` times the exact instant of operation `i` -/
theorem cumNs_instant {ops : ℝ} (hops : ops ≠ 0) (c i : ℝ) : cumNs ops (c * (i * (1000000000 / ops))) = c * i := by
  unfold cumNs; field_simp

/-- **the acceptance test of the executable Spec holds for the float64 instant**: the truncated float64 instant `t` of
operation `i` satisfies cum(t) ≤ i + δ and cum(t + 1) ≥ i − δ with δ = 4u·i (for u = 2⁻⁵³: 2⁻⁵¹·i, inside the Spec's
2⁻⁴⁶·(i + 1 + ops·D)). -/
theorem const_token_ok (h : Rounding u fl) {ops : ℝ} (hops : 0 < ops) {x : ℤ → ℝ} (hxb : XBound u ops x)
    {i : ℤ} (hi : 0 ≤ i) :
    0 ≤ Go.f2i (x i) ∧
    cumNs ops (Go.f2i (x i) : ℤ) ≤ (i : ℝ) + 4 * u * (i : ℝ) ∧
    (i : ℝ) - 4 * u * (i : ℝ) ≤ cumNs ops ((Go.f2i (x i) : ℤ) + 1) := by
  obtain ⟨hlo, hhi⟩ := hxb i hi
  have hT0 : (0:ℝ) ≤ (i : ℝ) * (1000000000 / ops) :=
    mul_nonneg (Int.cast_nonneg hi) (div_nonneg (by norm_num) hops.le)
  have hx0 : 0 ≤ x i := (mul_nonneg h.one_sub_four_nonneg hT0).trans hlo
  rw [Go.f2i_of_nonneg hx0]
  refine ⟨Int.floor_nonneg.mpr hx0, ?_, ?_⟩
  · calc cumNs ops ((⌊x i⌋ : ℤ) : ℝ) ≤ cumNs ops (x i) := cumNs_mono hops.le (Int.floor_le _)
      _ ≤ cumNs ops ((1 + 4 * u) * ((i : ℝ) * (1000000000 / ops))) := cumNs_mono hops.le hhi
      _ = (i : ℝ) + 4 * u * (i : ℝ) := by rw [cumNs_instant hops.ne']; ring
  · calc (i : ℝ) - 4 * u * (i : ℝ) = cumNs ops ((1 - 4 * u) * ((i : ℝ) * (1000000000 / ops))) := by
          rw [cumNs_instant hops.ne']; ring
      _ ≤ cumNs ops (x i) := cumNs_mono hops.le hlo
      _ ≤ cumNs ops (((⌊x i⌋ : ℤ) : ℝ) + 1) := cumNs_mono hops.le (Int.lt_floor_add_one _).le

/-- **the float64 count**: ⌊(1 − 4u)·ops·D⌋ ≤ ñ ≤ ⌊(1 + 4u)·ops·D⌋, i.e. ñ = ⌊ops·D⌋ unless ops·D lies within 4u·ops·D of an
integer, then possibly the neighbouring one — the Spec's count test. -/
theorem const_count_ok (h : Rounding u fl) {ops : ℝ} (hops : 0 ≤ ops) {D : ℤ} (hD : 0 ≤ D) {c : ℝ}
    (hcb : CBound u ops D c) :
    ⌊(1 - 4 * u) * (ops * secs D)⌋ ≤ Go.f2i c ∧ Go.f2i c ≤ ⌊(1 + 4 * u) * (ops * secs D)⌋ := by
  have hc0 : 0 ≤ c :=
    (mul_nonneg h.one_sub_four_nonneg (mul_nonneg hops (secs_nonneg hD))).trans hcb.1
  rw [Go.f2i_of_nonneg hc0]
  exact ⟨Int.floor_le_floor hcb.1, Int.floor_le_floor hcb.2⟩

/-- **no float64 instant after the end**: as long as 9u·(ops·D) ≤ 1 (u = 2⁻⁵³: fewer than 10¹⁵ operations), every operation
`i < ñ` the schedule hands out is at an offset ≤ D. -/
theorem const_token_le_D (h : Rounding u fl) {ops : ℝ} (hops : 0 < ops) {D : ℤ} (hD : 0 ≤ D)
    {c : ℝ} (hcb : CBound u ops D c) {x : ℤ → ℝ} (hxb : XBound u ops x)
    (hsmall : 9 * u * (ops * secs D) ≤ 1) {i : ℤ} (hi : 0 ≤ i) (hin : i < Go.f2i c) :
    Go.f2i (x i) ≤ D := by
  obtain ⟨hxlo, hxhi⟩ := hxb i hi
  have hu0 := h.u_nonneg
  have htot0 : 0 ≤ ops * secs D := mul_nonneg hops.le (secs_nonneg hD)
  have hc0 : 0 ≤ c := (mul_nonneg h.one_sub_four_nonneg htot0).trans hcb.1
  rw [Go.f2i_of_nonneg hc0] at hin
  -- i + 1 ≤ ⌊c̃⌋ ≤ c̃ ≤ (1 + 4u)·tot
  have hi1 : (i : ℝ) + 1 ≤ (1 + 4 * u) * (ops * secs D) := by
    have : ((i + 1 : ℤ) : ℝ) ≤ c := (Int.cast_le.mpr (Int.add_one_le_iff.mpr hin)).trans (Int.floor_le c)
    push_cast at this
    linarith only [this, hcb.2]
  -- count space: (1 + 4u)·i ≤ (1 + 4u)²·tot − (1 + 4u) ≤ tot, because ((1 + 4u)² − 1)·tot ≤ 9u·tot ≤ 1
  have key : (1 + 4 * u) * (i : ℝ) ≤ ops * secs D := by
    have h1 := mul_le_mul_of_nonneg_left hi1 (by linarith only [hu0] : 0 ≤ 1 + 4 * u)
    have h2 := mul_le_mul_of_nonneg_right
      (mul_le_mul_of_nonneg_left (by linarith only [h.u_small] : 16 * u ≤ 1) hu0) htot0
    linarith only [h1, h2, hsmall, hu0]
  -- time space: multiply by 10⁹/ops
  have hx : x i ≤ (D : ℝ) :=
    calc x i ≤ (1 + 4 * u) * (i : ℝ) * (1000000000 / ops) := by rw [mul_assoc]; exact hxhi
      _ ≤ ops * secs D * (1000000000 / ops) :=
          mul_le_mul_of_nonneg_right key (div_nonneg (by norm_num) hops.le)
      _ = (D : ℝ) := by rw [← secs_mul D]; field_simp
  have hT0 : (0:ℝ) ≤ (i : ℝ) * (1000000000 / ops) :=
    mul_nonneg (Int.cast_nonneg hi) (div_nonneg (by norm_num) hops.le)
  rw [Go.f2i_of_nonneg ((mul_nonneg h.one_sub_four_nonneg hT0).trans hxlo)]
  exact (Int.floor_le_floor hx).trans_eq (Int.floor_intCast D)

/-- the model is not empty: exact arithmetic is a rounding (u = 0), and so is a consistently pessimistic one -/
theorem rounding_id : Rounding 0 (fun x => x) := ⟨le_refl 0, by norm_num, by intro x; simp⟩

theorem rounding_up : Rounding (1 / 16) (fun x => x * (1 + 1 / 16)) :=
  ⟨by norm_num, le_refl _, by
    intro x
    have : x * (1 + 1 / 16) - x = 1 / 16 * x := by ring
    rw [this, abs_mul]
    have : |(1:ℝ) / 16| = 1 / 16 := abs_of_nonneg (by norm_num)
    rw [this]⟩

end Pandora.Proofs.C01Float
