/-
C06 helper lemmas: the invariant of the reporter / queue / aggregator transition system.
-/
import Pandora.Model.C06AggQueue

namespace Pandora.Proofs.C06Queue
open Pandora.Model.AggQueue

variable {β : Type}

def accepted (log : List (Item β × Bool)) : List (Item β) := (log.filter (fun e => e.2)).map (·.1)
def rejected (log : List (Item β × Bool)) : List (Item β) := (log.filter (fun e => !e.2)).map (·.1)

/-- what Run's return value must be -/
def retErr (cfg : Cfg) (n : Nat) : Option Nat :=
  match cfg.kind with
  | .phout => none
  | .encoder => droppedErr n

structure Inv (cfg : Cfg) (progs : Nat → List β) (st : St β) : Prop where
  /-- FIFO conservation: sink ++ buffer ++ queue is exactly the enqueued samples, in order -/
  flow : st.out ++ st.buf ++ st.q = accepted st.log
  drops : st.dropped = rejected st.log
  count : st.droppedCount = st.dropped.length
  nodrop : cfg.kind = .phout → st.dropped = []
  progs : ∀ r, ofReporter r st.reports ++ st.pending r = progs r
  draining : st.phase = .draining → st.cancelled = true
  ret : st.phase = .returned → st.buf = [] ∧ st.closed = true ∧ st.cancelled = true ∧
          (st.late = false → st.q = [] ∧ st.err = retErr cfg st.droppedCount)

theorem inv_init (cfg : Cfg) (progs : Nat → List β) : Inv cfg progs (init progs) := by
  refine ⟨by simp [init, accepted], by simp [init, rejected], by simp [init], by simp [init], ?_, ?_, ?_⟩
  · intro r; simp [init, St.reports, ofReporter]
  · simp [init]
  · simp [init]

theorem flush_flow (st : St β) : st.flush.out ++ st.flush.buf ++ st.flush.q = st.out ++ st.buf ++ st.q := by
  simp [St.flush]

theorem handle_flow (st : St β) (x : Item β) (rest : List (Item β)) (hq : st.q = x :: rest) :
    (st.handle x rest).out ++ (st.handle x rest).buf ++ (st.handle x rest).q = st.out ++ st.buf ++ st.q := by
  simp [St.handle, hq]

/-- a completed Report call of reporter `r`, enqueued (`b`) or dropped, moves one sample from its program to the log -/
theorem progs_report {progs : Nat → List β} {st : St β} (h : ∀ r, ofReporter r st.reports ++ st.pending r = progs r)
    {r : Nat} {x : β} {rest : List β} (hp : st.pending r = x :: rest) (b : Bool) (r' : Nat) :
    ofReporter r' ((st.log ++ [((r, x), b)]).map (·.1)) ++ setPending st.pending r rest r' = progs r' := by
  have := h r'
  simp only [St.reports, List.map_append, List.map_cons, List.map_nil] at this ⊢
  by_cases hr : r' = r
  · subst hr
    rw [hp] at this
    simpa [ofReporter, setPending] using this
  · have hne : (r == r') = false := by simp; exact fun e => hr e.symm
    simpa [ofReporter, setPending, hr, hne] using this

/-- the aggregator's steps before the return only move samples along queue → buffer → sink: they rewrite the
conservation clause, and the clause about the returned state says nothing yet -/
theorem inv_step {cfg : Cfg} {progs : Nat → List β} {st : St β} (h : Inv cfg progs st) (e : Ev) :
    Inv cfg progs (step cfg st e) := by
  cases e with
  | report r =>
    simp only [step]
    split
    · exact h
    · next x rest hp =>
      -- after the return the context is cancelled, so the call is late and the last clause says nothing
      have hret {P : Prop} (hr : st.phase = .returned) : st.buf = [] ∧ st.closed = true ∧ st.cancelled = true ∧
          ((st.late || st.cancelled) = false → P) := by
        obtain ⟨hb, hcl, hca, _⟩ := h.ret hr
        exact ⟨hb, hcl, hca, fun hl => by simp [hca] at hl⟩
      split
      · exact { h with
          flow := by rw [← List.append_assoc, h.flow]; simp [accepted]
          drops := by simpa [rejected] using h.drops
          progs := progs_report h.progs hp true
          ret := hret }
      · split
        · exact h
        · next hk =>
          exact { h with
            flow := by simpa [accepted] using h.flow
            drops := by simp [rejected, h.drops]
            count := by simp [h.count]
            nodrop := fun hph => by rw [hph] at hk; cases hk
            progs := progs_report h.progs hp false
            ret := hret }
  | recv tf =>
    simp only [step]
    split
    · next x rest hph hq =>
      have hnr : st.phase ≠ .returned := by rw [hph]; decide
      have hh : Inv cfg progs (st.handle x rest) :=
        { h with flow := (handle_flow st x rest hq).trans h.flow, ret := fun hr => absurd hr hnr }
      split
      · split
        · exact { hh with flow := (flush_flow _).trans hh.flow, ret := fun hr => absurd hr hnr }
        · exact hh
      · exact hh
    · exact h
  | tick =>
    simp only [step]
    split
    · next hph =>
      have hnr : st.phase ≠ .returned := by rw [hph]; decide
      have hf : Inv cfg progs st.flush := { h with flow := (flush_flow st).trans h.flow, ret := fun hr => absurd hr hnr }
      split
      · exact hf
      · split
        · exact { hf with ret := fun hr => absurd hr hnr }
        · exact { h with ret := fun hr => absurd hr hnr }
    · exact h
  | spill k =>
    simp only [step]
    split
    · exact h
    · next hk =>
      have hnr : st.phase ≠ .returned := fun hr => hk (Or.inr (by simp [(h.ret hr).1]))
      exact { h with
        flow := (show _ = st.out ++ st.buf ++ st.q by simp).trans h.flow
        ret := fun hr => absurd hr hnr }
  | cancel =>
    exact { h with
      draining := fun _ => rfl
      ret := fun hr => let ⟨hb, hcl, _, hq⟩ := h.ret hr; ⟨hb, hcl, rfl, hq⟩ }
  | seeCancel =>
    simp only [step]
    split
    · split
      · next hc => exact { h with draining := fun _ => hc, ret := fun hr => nomatch hr }
      · exact h
    · exact h
  | drain =>
    simp only [step]
    split
    · next x rest hph hq =>
      have hnr : st.phase ≠ .returned := by rw [hph]; decide
      exact { h with flow := (handle_flow st x rest hq).trans h.flow, ret := fun hr => absurd hr hnr }
    · next hph hq =>
      have hc := h.draining hph
      refine { h with
        flow := by simpa [St.flush] using h.flow
        draining := fun hd => nomatch hd
        ret := fun _ => ?_ }
      refine ⟨by simp [St.flush], rfl, by simpa [St.flush] using hc, fun _ => ⟨by simpa [St.flush] using hq, ?_⟩⟩
      simp only [St.flush, retErr]
      cases cfg.kind <;> rfl
    · exact h

theorem inv_run {cfg : Cfg} {progs : Nat → List β} (sched : List Ev) {st : St β} (h : Inv cfg progs st) :
    Inv cfg progs (run cfg st sched) := by
  induction sched generalizing st with
  | nil => exact h
  | cons e es ih => exact ih (inv_step h e)

/-! ## consequences of the invariant at Run's return -/

theorem accepted_rejected_perm (log : List (Item β × Bool)) :
    (accepted log ++ rejected log).Perm (log.map (·.1)) := by
  unfold accepted rejected
  rw [← List.map_append]
  exact (List.filter_append_perm (fun e => e.2) log).map _

theorem accepted_sublist (log : List (Item β × Bool)) : (accepted log).Sublist (log.map (·.1)) :=
  (List.filter_sublist).map _

theorem accepted_of_rejected_nil {log : List (Item β × Bool)} (h : rejected log = []) :
    accepted log = log.map (·.1) := by
  induction log with
  | nil => rfl
  | cons e es ih =>
    obtain ⟨x, b⟩ := e
    cases b
    · simp [rejected] at h
    · simp only [rejected, accepted] at h ih ⊢
      simp at h ⊢
      simpa using ih (by simpa using h)

/-! ## the context, the ghost flag and the log along a schedule -/

/-- what a step `e` from `st` to `st'` does to the context, the ghost flag `late` and the log: only `cancel` touches
the context, only a completed Report call touches the flag and extends the log -/
structure Ghost (st st' : St β) (e : Ev) : Prop where
  cancelled : st'.cancelled = st.cancelled ∨ e = .cancel
  late : st'.late = st.late ∨ isReportEv e = true ∧ st'.late = (st.late || st.cancelled)
  log : st.log <+: st'.log

theorem step_ghost (cfg : Cfg) (st : St β) (e : Ev) : Ghost st (step cfg st e) e := by
  cases e with
  | report r =>
    -- a call that completes (enqueued or dropped) sets the flag and extends the log; an idle or blocked reporter does nothing
    simp only [step]
    split
    · exact ⟨Or.inl rfl, Or.inl rfl, List.prefix_refl _⟩
    · split
      · exact ⟨Or.inl rfl, Or.inr ⟨rfl, rfl⟩, List.prefix_append _ _⟩
      · split
        · exact ⟨Or.inl rfl, Or.inl rfl, List.prefix_refl _⟩
        · exact ⟨Or.inl rfl, Or.inr ⟨rfl, rfl⟩, List.prefix_append _ _⟩
  | cancel => exact ⟨Or.inr rfl, Or.inl rfl, List.prefix_refl _⟩
  | _ =>
    -- the aggregator's own steps touch neither the context nor the ghosts
    simp only [step]; (repeat' split) <;> exact ⟨Or.inl rfl, Or.inl rfl, List.prefix_refl _⟩

theorem nrac_cons_of_ne {e : Ev} (he : e ≠ .cancel) (es : List Ev) :
    NoReportAfterCancel (e :: es) ↔ NoReportAfterCancel es := by
  cases e <;> first | exact absurd rfl he | exact Iff.rfl

theorem late_of_noreport (cfg : Cfg) (sched : List Ev) (st : St β)
    (h : ∀ e ∈ sched, isReportEv e = false) : (run cfg st sched).late = st.late := by
  induction sched generalizing st with
  | nil => rfl
  | cons e es ih =>
    have he := h e (by simp)
    rw [run, ih _ (fun x hx => h x (by simp [hx]))]
    exact (step_ghost cfg st e).late.resolve_right (fun hr => by rw [he] at hr; cases hr.1)

theorem not_late (cfg : Cfg) (sched : List Ev) (st : St β) (hc : st.cancelled = false)
    (hl : st.late = false) (h : NoReportAfterCancel sched) : (run cfg st sched).late = false := by
  induction sched generalizing st with
  | nil => exact hl
  | cons e es ih =>
    by_cases he : e = .cancel
    · subst he; rw [run, late_of_noreport cfg es _ h]; exact hl
    · have g := step_ghost cfg st e
      refine ih _ ((g.cancelled.resolve_right he).trans hc) ?_ ((nrac_cons_of_ne he es).mp h)
      rcases g.late with h1 | ⟨_, h1⟩
      · exact h1.trans hl
      · rw [h1, hl, hc]; rfl

end Pandora.Proofs.C06Queue
