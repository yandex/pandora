/-
C02, concurrent part: a composite over children that REFINE the flat spec (`Sem`, any nesting depth, finite and
time-bounded unlimited parts) is LINEARIZABLE to the flat spec of the concatenated parts — for every number of
callers, every program of `Next`/`Left` calls, every interleaving of the atomic actions and every
non-decreasing sequence of clock readings.  Proof: an invariant of `Par.step` relating the shared state to an
abstract state `Abs` reached by replaying the log (`Reach`): every returned value is what the atomic flat spec
returns at that moment, which lies inside the call.
-/
import Pandora.Model.C02Par
import Pandora.Proofs.C02Sem

set_option linter.unusedVariables false

namespace Pandora.Proofs.C02Par
open Pandora.Model.C02 Pandora.Model.C02.Par Pandora.Spec.C02 Pandora.Proofs.C02Flat Pandora.Proofs.C02Sem

/-! ### the abstract run a log stands for -/

/-- one logged action seen abstractly.  A returned `Next` / `Left` is the atomic operation of the flat spec at
that clock reading.  An internal action (`goto`) changes nothing, except that it may start a schedule that is
not started yet at its clock reading (the implicit start of a `Next` call in progress). -/
def AbsStep (A : Abs) (now : Int) : Out → Abs → Prop
  | .ret (.tok tx ok), A' => absNext A now = (A', tx, ok)
  | .ret (.cnt n), A' => absLeft A now = n ∧ A' = A
  | .ret (.panic _), _ => False
  | .goto _, A' => A' = A ∨ ∃ parts, A = .unstarted parts ∧ A' = .running (inst parts now)

/-- the same without `Left` results (sections of `Next`, writer section of `Left`) -/
def AbsStepN (A : Abs) (now : Int) : Out → Abs → Prop
  | .ret (.tok tx ok), A' => absNext A now = (A', tx, ok)
  | .ret (.cnt _), _ => False
  | .ret (.panic _), _ => False
  | .goto _, A' => A' = A

/-- the abstract state reached by replaying a log (newest entry first) from `A0` -/
def Reach (A0 : Abs) : List (Nat × Int × Out) → Abs → Prop
  | [], A => A = A0
  | e :: older, A' => ∃ A, Reach A0 older A ∧ AbsStep A e.2.1 e.2.2 A'

theorem AbsStepN.toStep {A : Abs} {now : Int} {out : Out} {A' : Abs} (h : AbsStepN A now out A') : AbsStep A now out A' := by
  cases out with
  | ret r => cases r <;> simp_all [AbsStepN, AbsStep]
  | goto pc => exact Or.inl h

/-- a step from the virtually started schedule is a step from the unstarted one -/
theorem AbsStepN.lift {parts : List Part} {now : Int} {out : Out} {A' : Abs}
    (h : AbsStepN (.running (inst parts now)) now out A') : AbsStep (.unstarted parts) now out A' := by
  cases out with
  | ret r =>
    cases r with
    | tok tx ok => exact h
    | cnt n => exact absurd h (by simp [AbsStepN])
    | panic m => exact absurd h (by simp [AbsStepN])
  | goto pc => exact Or.inr ⟨parts, rfl, h⟩

section
variable {σ : Type} {ops : Ops σ} (sem : Sem ops)

/-! ### what the shared state stands for -/

def ShRelU (sh : Sh σ) (parts : List Part) : Prop :=
  ∃ c rest p ps, sh.cs = c :: rest ∧ sh.la = sufsP ps ∧ sem.U c p ∧ AllU sem rest ps ∧ parts = p ++ ps.flatten

def ShRelR (sh : Sh σ) (segs : List Seg) (clk : Int) : Prop :=
  ∃ c rest dead segsH ps, sh.cs = c :: rest ∧ sh.la = sufsP ps ∧ sh.started = true ∧ sem.R c segsH clk ∧
    AllU sem rest ps ∧ Dead dead clk ∧ segs = dead ++ segsH ++ inst ps.flatten (finOf segsH 0)

def ShRel (sh : Sh σ) (A : Abs) (clk : Int) : Prop :=
  match A with
  | .unstarted parts => ShRelU sem sh parts
  | .running segs => ShRelR sem sh segs clk

theorem ShRel.mono {sh : Sh σ} {A : Abs} {clk clk' : Int} (h : ShRel sem sh A clk) (hle : clk ≤ clk') :
    ShRel sem sh A clk' := by
  cases A with
  | unstarted parts => exact h
  | running segs =>
    obtain ⟨c, rest, dead, segsH, ps, h1, h2, h3, hR, hU, hD, h4⟩ := h
    exact ⟨c, rest, dead, segsH, ps, h1, h2, h3, sem.R_mono hR hle, hU, dead_mono hD hle, h4⟩

theorem U_R_absurd {c : σ} {p : List Part} {segs : List Seg} {clk : Int} (hU : sem.U c p) (hR : sem.R c segs clk) :
    False := by
  obtain ⟨s', hs, _⟩ := sem.start_U hU 0
  rw [sem.start_R hR 0] at hs
  cases hs

/-! ### what a caller waiting before `Lock` knows about the head it saw -/

/-- the head is running, exhausted, and reports the finish time `tx` -/
def HeadDoneR (c : σ) (tx clk : Int) : Prop := ∃ segsH, sem.R c segsH clk ∧ Dead segsH clk ∧ tx = finOf segsH 0
/-- the head is not started and has no tokens at all -/
def HeadDoneU (c : σ) : Prop := ∃ p, sem.U c p ∧ partsLeft p = 0
def HeadDone (c : σ) (clk : Int) : Prop := (∃ tx, HeadDoneR sem c tx clk) ∨ HeadDoneU sem c

def headOK (cs : List σ) (P : σ → Prop) : Prop := ∃ c rest, cs = c :: rest ∧ P c

def PcInv (sh : Sh σ) (clk : Int) : Pc → Prop
  | .idle => True
  | .nextB => sh.started = true
  | .nextW tx seen => sh.started = true ∧ 2 ≤ seen ∧ sh.cs.length ≤ seen ∧
      (sh.cs.length = seen → headOK sh.cs (fun c => HeadDoneR sem c tx clk))
  | .leftW seen => sh.started = true ∧ 2 ≤ seen ∧ sh.cs.length ≤ seen ∧
      (sh.cs.length = seen → headOK sh.cs (fun c => HeadDone sem c clk))

/-- what is preserved when the head `c` (at clock `clk`) becomes `c'` (at `clk'`) -/
def HeadTrans (c : σ) (clk : Int) (c' : σ) (clk' : Int) : Prop :=
  (∀ tx, HeadDoneR sem c tx clk → HeadDoneR sem c' tx clk') ∧ (HeadDoneU sem c → HeadDone sem c' clk')

/-- the shared state only ever advances: the list gets shorter, or keeps its length and an exhausted head stays so -/
def Adv (sh : Sh σ) (clk : Int) (sh' : Sh σ) (clk' : Int) : Prop :=
  (sh.started = true → sh'.started = true) ∧
  (sh'.cs.length < sh.cs.length ∨
    (sh'.cs.length = sh.cs.length ∧
      ∀ c rest, sh.cs = c :: rest → ∃ c', sh'.cs = c' :: rest ∧ HeadTrans sem c clk c' clk'))

theorem headTrans_refl (c : σ) {clk clk' : Int} (hle : clk ≤ clk') : HeadTrans sem c clk c clk' := by
  constructor
  · rintro tx ⟨segsH, hR, hD, rfl⟩
    exact ⟨segsH, sem.R_mono hR hle, dead_mono hD hle, rfl⟩
  · intro h; exact Or.inr h

theorem headTrans_next {c c' : σ} {clk now tx' : Int} {ok : Bool} (hle : clk ≤ now)
    (h : ops.next c now = .ok (c', tx', ok)) : HeadTrans sem c clk c' now := by
  constructor
  · rintro tx ⟨segsH, hR, hD, rfl⟩
    obtain ⟨s', hn, hR'⟩ := sem.next_R hR now hle
    rw [h] at hn
    have hx : segNext segsH now = (segsH, finOf segsH 0, false) := segNextAux_dead segsH 0 clk now hD hle
    rw [hx] at hn hR'
    simp only [Except.ok.injEq, Prod.mk.injEq] at hn
    obtain ⟨rfl, _, _⟩ := hn
    exact ⟨segsH, hR', dead_mono hD hle, rfl⟩
  · rintro ⟨p, hU, hz⟩
    obtain ⟨s1, hs1, hn1⟩ := sem.next_U hU now
    obtain ⟨s1', hs1', hR1⟩ := sem.start_U hU now
    rw [hs1] at hs1'
    cases hs1'
    have hD : Dead (inst p now) now := dead_inst_of_zero p now now hz
    obtain ⟨s', hn, hR'⟩ := sem.next_R (hR1 now) now (Int.le_refl _)
    have hx : segNext (inst p now) now = (inst p now, finOf (inst p now) 0, false) :=
      segNextAux_dead _ 0 now now hD (Int.le_refl _)
    rw [hx] at hn hR'
    rw [hn1, hn] at h
    simp only [Except.ok.injEq, Prod.mk.injEq] at h
    obtain ⟨rfl, _, _⟩ := h
    exact Or.inl ⟨_, inst p now, hR', hD, rfl⟩

theorem headTrans_left {c c' : σ} {clk now n : Int} (hle : clk ≤ now)
    (h : ops.left c now = .ok (c', n)) : HeadTrans sem c clk c' now := by
  constructor
  · rintro tx ⟨segsH, hR, hD, rfl⟩
    obtain ⟨s', hl, hR'⟩ := sem.left_R hR now hle
    rw [h] at hl
    simp only [Except.ok.injEq, Prod.mk.injEq] at hl
    obtain ⟨rfl, _⟩ := hl
    exact ⟨segsH, hR', dead_mono hD hle, rfl⟩
  · rintro ⟨p, hU, hz⟩
    rw [sem.left_U hU now] at h
    simp only [Except.ok.injEq, Prod.mk.injEq] at h
    obtain ⟨rfl, _⟩ := h
    exact Or.inr ⟨p, hU, hz⟩

theorem HeadTrans.trans {c c' c'' : σ} {k k' k'' : Int} (h1 : HeadTrans sem c k c' k') (h2 : HeadTrans sem c' k' c'' k'') :
    HeadTrans sem c k c'' k'' := by
  constructor
  · intro tx h; exact h2.1 tx (h1.1 tx h)
  · intro h
    rcases h1.2 h with ⟨tx, h'⟩ | h'
    · exact Or.inl ⟨tx, h2.1 tx h'⟩
    · exact h2.2 h'

theorem Adv.refl (sh : Sh σ) {clk clk' : Int} (hle : clk ≤ clk') : Adv sem sh clk sh clk' :=
  ⟨id, Or.inr ⟨rfl, fun c rest h => ⟨c, h, headTrans_refl sem c hle⟩⟩⟩

theorem Adv.trans {s1 s2 s3 : Sh σ} {k1 k2 k3 : Int} (h12 : Adv sem s1 k1 s2 k2) (h23 : Adv sem s2 k2 s3 k3) :
    Adv sem s1 k1 s3 k3 := by
  refine ⟨fun h => h23.1 (h12.1 h), ?_⟩
  rcases h12.2 with h | ⟨he, hh⟩
  · rcases h23.2 with h' | ⟨he', _⟩
    · exact Or.inl (by omega)
    · exact Or.inl (by omega)
  · rcases h23.2 with h' | ⟨he', hh'⟩
    · exact Or.inl (by omega)
    · refine Or.inr ⟨by omega, fun c rest hc => ?_⟩
      obtain ⟨c', hc', ht⟩ := hh c rest hc
      obtain ⟨c'', hc'', ht'⟩ := hh' c' rest hc'
      exact ⟨c'', hc'', ht.trans sem ht'⟩

/-- only the head changed -/
theorem adv_head {sh : Sh σ} {c c' : σ} {rest : List σ} {clk clk' : Int} {la : List Int} {st : Bool}
    (hcs : sh.cs = c :: rest) (hst : sh.started = true → st = true) (ht : HeadTrans sem c clk c' clk') :
    Adv sem sh clk ⟨c' :: rest, la, st⟩ clk' := by
  refine ⟨hst, Or.inr ⟨by simp [hcs], fun c0 rest0 h0 => ?_⟩⟩
  rw [hcs] at h0
  cases h0
  exact ⟨c', rfl, ht⟩

/-- what a caller waiting before `Lock` knows about the head survives while the shared state advances -/
theorem waiting_adv {sh sh' : Sh σ} {clk clk' : Int} {seen : Nat} {P P' : σ → Prop} (a : Adv sem sh clk sh' clk')
    (hP : ∀ c c', HeadTrans sem c clk c' clk' → P c → P' c') (hle : sh.cs.length ≤ seen)
    (hex : sh.cs.length = seen → headOK sh.cs P) :
    sh'.cs.length ≤ seen ∧ (sh'.cs.length = seen → headOK sh'.cs P') := by
  rcases a.2 with hl | ⟨he, hh⟩
  · exact ⟨by omega, fun heq => by omega⟩
  · refine ⟨by omega, fun heq => ?_⟩
    obtain ⟨c, rest, hcs, hd⟩ := hex (by omega)
    obtain ⟨c', hcs', ht⟩ := hh c rest hcs
    exact ⟨c', rest, hcs', hP c c' ht hd⟩

theorem PcInv.adv {sh sh' : Sh σ} {clk clk' : Int} {pc : Pc} (h : PcInv sem sh clk pc) (a : Adv sem sh clk sh' clk') :
    PcInv sem sh' clk' pc := by
  cases pc with
  | idle => trivial
  | nextB => exact a.1 h
  | nextW tx seen => exact ⟨a.1 h.1, h.2.1, waiting_adv sem a (fun _ _ ht hd => ht.1 tx hd) h.2.2.1 h.2.2.2⟩
  | leftW seen =>
    exact ⟨a.1 h.1, h.2.1, waiting_adv sem a
      (fun _ _ ht hd => hd.elim (fun ⟨tx, hd⟩ => Or.inl ⟨tx, ht.1 tx hd⟩) ht.2) h.2.2.1 h.2.2.2⟩

/-- what must hold after an action that does not return -/
def GotoOK (sh' : Sh σ) (now : Int) : Out → Prop
  | .goto pc => PcInv sem sh' now pc
  | .ret _ => True

theorem absNext_running {segs X : List Seg} {now : Int} {Y : Int × Bool} {b : Bool}
    (h : segNext segs now = (X, Y)) (hb : Y.2 = b) : absNext (.running segs) now = (.running X, Y.1, b) := by
  simp only [absNext, Abs.segsAt, h]
  subst hb
  rfl

/-- the head as the shared-state relation sees it and as a waiting caller saw it agree -/
theorem head_agree {c : σ} {segsH : List Seg} {clk now tx : Int} (hR : sem.R c segsH clk)
    (hd : HeadDoneR sem c tx clk) (hle : clk ≤ now) : Dead segsH now ∧ finOf segsH 0 = tx := by
  obtain ⟨segs2, hR2, hD2, rfl⟩ := hd
  obtain ⟨s1, hn1, _⟩ := sem.next_R hR now hle
  obtain ⟨s2, hn2, _⟩ := sem.next_R hR2 now hle
  have hx : segNext segs2 now = (segs2, finOf segs2 0, false) := segNextAux_dead segs2 0 clk now hD2 hle
  rw [hn1, hx] at hn2
  simp only [Except.ok.injEq, Prod.mk.injEq] at hn2
  obtain ⟨_, h1, h2⟩ := hn2
  obtain ⟨hd, _, hf⟩ := segNextAux_notok segsH 0 now h2
  exact ⟨hd, by rw [← hf]; exact h1⟩

/-! ### the sections, on a running schedule -/

/-- the one-caller relation, read on the shared state -/
theorem compR_toSh {cs : List σ} {la : List Int} {st : Bool} {segs : List Seg} {clk : Int}
    (h : compR sem ⟨cs, la, st⟩ segs clk) : ShRel sem ⟨cs, la, st⟩ (.running segs) clk := by
  obtain ⟨c, rest, dead, segsH, ps, h, hR, hU, hD, hs⟩ := h
  cases h
  exact ⟨c, rest, dead, segsH, ps, rfl, rfl, rfl, hR, hU, hD, hs⟩

/-- a composite node as `NewComposite` builds it stands for the unstarted flat succession of its parts, and its
`started` flag is not set -/
theorem built_shRel (now0 : Int) (t : Tree) (d : Nat) (hd : t.depth ≤ d + 1) (c : Comp (Lvl d))
    (hb : build now0 (d + 1) t = .ok (.inr c)) (clk : Int) :
    ShRel (lvlSem d) ⟨c.cs, c.la, c.started⟩ (.unstarted (flat t)) clk ∧ c.started = false := by
  obtain ⟨c0, rest, p, ps, rfl, hc, hU', hfl⟩ :=
    (show compU (lvlSem d) c (flat t) from build_U now0 (d + 1) t (.inr c) hd hb)
  exact ⟨⟨c0, rest, p, ps, rfl, rfl, hc, hU', hfl⟩, rfl⟩

theorem nextReader_run {sh : Sh σ} {segs : List Seg} {clk now : Int} (h : ShRelR sem sh segs clk) (hle : clk ≤ now) :
    ∃ segs', AbsStepN (.running segs) now (nextReader ops sh now).2 (.running segs') ∧
      ShRel sem (nextReader ops sh now).1 (.running segs') now ∧
      GotoOK sem (nextReader ops sh now).1 now (nextReader ops sh now).2 ∧
      Adv sem sh clk (nextReader ops sh now).1 now := by
  obtain ⟨cs, la, started⟩ := sh
  obtain ⟨c, rest, dead, segsH, ps, hcs, hla, hst, hR, hU, hD, rfl⟩ := h
  simp only at hcs hla hst
  subst hcs; subst hla; subst hst
  obtain ⟨c', hn, hret, hstay⟩ := head_next sem hR hU hD hle
  have hadv : Adv sem ⟨c :: rest, sufsP ps, true⟩ clk ⟨c' :: rest, sufsP ps, true⟩ now :=
    adv_head sem rfl id (headTrans_next sem hle hn)
  simp only [nextReader, hn]
  cases hok : (segNext segsH now).2.2 with
  | true =>
    obtain ⟨segs', hseg, hrel⟩ := hret (Or.inl hok)
    simp only [if_true]
    exact ⟨segs', absNext_running hseg hok, compR_toSh sem hrel, trivial, hadv⟩
  | false =>
    simp only [Bool.false_eq_true, if_false]
    match rest, ps, hU with
    | [], [], _ =>
      obtain ⟨segs', hseg, hrel⟩ := hret (Or.inr rfl)
      simp only [List.isEmpty_nil, if_true]
      exact ⟨segs', absNext_running hseg hok, compR_toSh sem hrel, trivial, hadv⟩
    | h :: t, p :: ps', hU =>
      obtain ⟨hR', hdeadH, htx⟩ := hstay hok
      simp only [List.isEmpty_cons, Bool.false_eq_true, if_false]
      exact ⟨_, rfl, ⟨c', h :: t, dead, segsH, p :: ps', rfl, rfl, rfl, hR', hU, dead_mono hD hle, rfl⟩,
        ⟨rfl, by simp, by simp, fun _ => ⟨c', h :: t, rfl, segsH, hR', hdeadH, htx⟩⟩, hadv⟩

theorem startNext_run {c h : σ} {t : List σ} {la : List Int} {st : Bool} {p : List Part} (hU : sem.U h p) (tx : Int) :
    ∃ h1, startNext ops ⟨c :: h :: t, la, st⟩ tx = .ok ⟨h1 :: t, la.tail, st⟩ ∧ ∀ clk, sem.R h1 (inst p tx) clk := by
  obtain ⟨h1, hs, hR1⟩ := sem.start_U hU tx
  exact ⟨h1, by simp [startNext, hs], hR1⟩

theorem nextWriter_run {sh : Sh σ} {segs : List Seg} {clk now tx : Int} {seen : Nat} (h : ShRelR sem sh segs clk)
    (hpc : PcInv sem sh clk (.nextW tx seen)) (hle : clk ≤ now) :
    ∃ segs', AbsStepN (.running segs) now (nextWriter ops sh tx seen now).2 (.running segs') ∧
      ShRel sem (nextWriter ops sh tx seen now).1 (.running segs') now ∧
      GotoOK sem (nextWriter ops sh tx seen now).1 now (nextWriter ops sh tx seen now).2 ∧
      Adv sem sh clk (nextWriter ops sh tx seen now).1 now := by
  obtain ⟨cs, la, started⟩ := sh
  obtain ⟨c, rest, dead, segsH, ps, hcs, hla, hst, hR, hU, hD, rfl⟩ := h
  simp only at hcs hla hst
  subst hcs; subst hla; subst hst
  obtain ⟨_, hge2, hlen, hex⟩ := hpc
  simp only at hlen hex
  have hD' := dead_mono hD hle
  unfold nextWriter
  simp only
  by_cases hlt : (c :: rest).length < seen
  · -- somebody shifted before us: as in the reader section, but a drained head means a retry
    simp only [hlt, if_true]
    obtain ⟨c', hn, hret, hstay⟩ := head_next sem hR hU hD hle
    have hadv : Adv sem ⟨c :: rest, sufsP ps, true⟩ clk ⟨c' :: rest, sufsP ps, true⟩ now :=
      adv_head sem rfl id (headTrans_next sem hle hn)
    simp only [hn]
    cases hok : (segNext segsH now).2.2 with
    | true =>
      obtain ⟨segs', hseg, hrel⟩ := hret (Or.inl hok)
      simp only [Bool.true_or, if_true]
      exact ⟨segs', absNext_running hseg hok, compR_toSh sem hrel, trivial, hadv⟩
    | false =>
      simp only [Bool.false_or]
      match rest, ps, hU with
      | [], [], _ =>
        obtain ⟨segs', hseg, hrel⟩ := hret (Or.inr rfl)
        simp only [List.length_singleton, beq_self_eq_true, if_true]
        exact ⟨segs', absNext_running hseg hok, compR_toSh sem hrel, trivial, hadv⟩
      | h :: t, p :: ps', hU =>
        have : ((c :: h :: t).length == 1) = false := by simp
        simp only [this, Bool.false_eq_true, if_false]
        exact ⟨_, rfl, ⟨c', h :: t, dead, segsH, p :: ps', rfl, rfl, rfl, (hstay hok).1, hU, hD', rfl⟩, rfl, hadv⟩
  · -- nobody shifted: the head is the exhausted one we saw
    have heq : (c :: rest).length = seen := by omega
    obtain ⟨c0, rest0, hc0, hdone⟩ := hex heq
    cases hc0
    obtain ⟨hdeadH, hfin⟩ := head_agree sem hR hdone hle
    subst hfin
    simp only [hlt, if_false]
    match rest, ps, hU with
    | [], [], _ => simp at heq; omega
    | h :: t, p :: ps', hU =>
      obtain ⟨h1, hsn, hR1⟩ := startNext_run sem (c := c) (t := t) (la := sufsP (p :: ps')) (st := true) hU.1 (finOf segsH 0)
      have hD2 : Dead (dead ++ segsH) now := (dead_append _ _ _).mpr ⟨hD', hdeadH⟩
      obtain ⟨h2, hn2, hret2, hstay2⟩ := head_next sem (hR1 now) hU.2 hD2 (Int.le_refl _)
      rw [hsn, chain_shift dead segsH p ps' (sem.U_ne hU.1)]
      simp only [hn2, sufsP_tail]
      have hadv : Adv sem ⟨c :: h :: t, sufsP (p :: ps'), true⟩ clk ⟨h2 :: t, sufsP ps', true⟩ now :=
        ⟨id, Or.inl (by simp)⟩
      cases hok2 : (segNext (inst p (finOf segsH 0)) now).2.2 with
      | true =>
        obtain ⟨segs', hseg, hrel⟩ := hret2 (Or.inl hok2)
        simp only [Bool.not_true, Bool.false_and, Bool.false_eq_true, if_false]
        exact ⟨segs', absNext_running hseg hok2, compR_toSh sem hrel, trivial, hadv⟩
      | false =>
        have hgt : decide ((c :: h :: t).length > 1) = true := by simp
        simp only [Bool.not_false, hgt, Bool.and_self, if_true]
        exact ⟨_, rfl, ⟨h2, t, dead ++ segsH, inst p (finOf segsH 0), ps', rfl, rfl, rfl, (hstay2 hok2).1, hU.2, hD2, rfl⟩,
          rfl, hadv⟩

theorem leftWriter_run {sh : Sh σ} {segs : List Seg} {clk now : Int} {seen : Nat} (h : ShRelR sem sh segs clk)
    (hpc : PcInv sem sh clk (.leftW seen)) (hle : clk ≤ now) :
    ∃ segs', AbsStepN (.running segs) now (leftWriter ops sh seen now).2 (.running segs') ∧
      ShRel sem (leftWriter ops sh seen now).1 (.running segs') now ∧
      GotoOK sem (leftWriter ops sh seen now).1 now (leftWriter ops sh seen now).2 ∧
      Adv sem sh clk (leftWriter ops sh seen now).1 now := by
  obtain ⟨cs, la, started⟩ := sh
  obtain ⟨c, rest, dead, segsH, ps, hcs, hla, hst, hR, hU, hD, rfl⟩ := h
  simp only at hcs hla hst
  subst hcs; subst hla; subst hst
  obtain ⟨_, hge2, hlen, hex⟩ := hpc
  simp only at hlen hex
  have hD' := dead_mono hD hle
  unfold leftWriter
  by_cases heq : (c :: rest).length = seen
  · have hb : ((c :: rest).length == seen) = true := by simpa using heq
    simp only [hb, if_true]
    obtain ⟨c0, rest0, hc0, hdone⟩ := hex heq
    cases hc0
    obtain ⟨tx, hdoneR⟩ := hdone.resolve_right (fun ⟨p, hUc, _⟩ => U_R_absurd sem hUc hR)
    obtain ⟨hdeadH, hfin⟩ := head_agree sem hR hdoneR hle
    obtain ⟨c', hn, _⟩ := sem.next_R hR now hle
    rw [show segNext segsH now = (segsH, finOf segsH 0, false) from
      segNextAux_dead segsH 0 now now hdeadH (Int.le_refl _)] at hn
    simp only [hn, Bool.false_eq_true, if_false]
    match rest, ps, hU with
    | [], [], _ => simp at heq; omega
    | h :: t, p :: ps', hU =>
      obtain ⟨h1, hsn, hR1⟩ := startNext_run sem (c := c') (t := t) (la := sufsP (p :: ps')) (st := true) hU.1 (finOf segsH 0)
      rw [hsn]
      exact ⟨_, rfl, ⟨h1, t, dead ++ segsH, inst p (finOf segsH 0), ps', rfl, rfl, rfl, hR1 now, hU.2,
        (dead_append _ _ _).mpr ⟨hD', hdeadH⟩, chain_shift dead segsH p ps' (sem.U_ne hU.1)⟩, trivial, ⟨id, Or.inl (by simp)⟩⟩
  · have hb : ((c :: rest).length == seen) = false := by simpa using heq
    simp only [hb, Bool.false_eq_true, if_false]
    exact ⟨_, rfl, ⟨c, rest, dead, segsH, ps, rfl, rfl, rfl, sem.R_mono hR hle, hU, hD', rfl⟩, trivial, Adv.refl sem _ hle⟩

/-! ### the reader section of `Left`, on any schedule -/

theorem leftReader_decide (c h : σ) (t : List σ) (la : List Int) (st : Bool) (now : Int) (c' : σ) (left : Int)
    (hl : ops.left c now = .ok (c', left)) :
    leftReader ops ⟨c :: h :: t, la, st⟩ now = (⟨c' :: h :: t, la, st⟩,
      match leftDecide (la.headD 0) left st with
      | some n => .ret (.cnt n)
      | none => .goto (.leftW ((h :: t).length + 1))) := by
  simp only [leftReader, hl, leftDecide, List.isEmpty_cons, Bool.false_eq_true, if_false]
  generalize la.headD 0 = la0
  by_cases h0 : left = 0
  · subst h0
    by_cases hla : 0 ≤ la0
    · simp only [beq_self_eq_true, if_true, ge_iff_le, hla]
    · cases st <;> simp only [beq_self_eq_true, if_true, ge_iff_le, hla, if_false, Bool.not_true, Bool.not_false,
        Bool.false_eq_true]
  · have hb : (left == 0) = false := by simpa using h0
    simp only [hb, h0, Bool.false_eq_true, if_false, Bool.or_eq_true, decide_eq_true_eq]
    split <;> rfl

theorem leftReader_ok {sh : Sh σ} {A : Abs} {clk now : Int} (h : ShRel sem sh A clk) (hle : clk ≤ now) :
    AbsStep A now (leftReader ops sh now).2 A ∧ ShRel sem (leftReader ops sh now).1 A now ∧
      GotoOK sem (leftReader ops sh now).1 now (leftReader ops sh now).2 ∧
      Adv sem sh clk (leftReader ops sh now).1 now := by
  obtain ⟨cs, la, started⟩ := sh
  cases A with
  | unstarted parts =>
    obtain ⟨c, rest, p, ps, hcs, hla, hc, hU, rfl⟩ := h
    simp only at hcs hla
    subst hcs; subst hla
    have hl := sem.left_U hc now
    have hadv : Adv sem ⟨c :: rest, sufsP ps, started⟩ clk ⟨c :: rest, sufsP ps, started⟩ now := Adv.refl sem _ hle
    have hkeep : ShRel sem ⟨c :: rest, sufsP ps, started⟩ (.unstarted (p ++ ps.flatten)) now :=
      ⟨c, rest, p, ps, rfl, rfl, hc, hU, rfl⟩
    match rest, ps, hU with
    | [], [], _ =>
      simp only [leftReader, hl, List.isEmpty_nil, if_true]
      exact ⟨⟨by simp [absLeft], rfl⟩, hkeep, trivial, hadv⟩
    | h :: t, q :: qs, hU =>
      rw [leftReader_decide c h t _ started now c _ hl, sufsP_head, leftDecide_parts]
      by_cases hz : partsLeft p = 0 ∧ partsLeft (q :: qs).flatten < 0 ∧ started = true
      · rw [if_pos hz]
        obtain ⟨hz0, _, rfl⟩ := hz
        exact ⟨Or.inl rfl, hkeep, ⟨rfl, by simp, by simp, fun _ => ⟨c, h :: t, rfl, Or.inr ⟨p, hc, hz0⟩⟩⟩, hadv⟩
      · rw [if_neg hz]
        exact ⟨⟨rfl, rfl⟩, hkeep, trivial, hadv⟩
  | running segs =>
    obtain ⟨c, rest, dead, segsH, ps, hcs, hla, hst, hR, hU, hD, rfl⟩ := h
    simp only at hcs hla hst
    subst hcs; subst hla; subst hst
    obtain ⟨c', hl, hR'⟩ := sem.left_R hR now hle
    have hD' := dead_mono hD hle
    have hadv : Adv sem ⟨c :: rest, sufsP ps, true⟩ clk ⟨c' :: rest, sufsP ps, true⟩ now :=
      adv_head sem rfl id (headTrans_left sem hle hl)
    have hkeep : ShRel sem ⟨c' :: rest, sufsP ps, true⟩ (.running (dead ++ segsH ++ inst ps.flatten (finOf segsH 0))) now :=
      ⟨c', rest, dead, segsH, ps, rfl, rfl, rfl, hR', hU, hD', rfl⟩
    match rest, ps, hU with
    | [], [], _ =>
      simp only [leftReader, hl, List.isEmpty_nil, if_true]
      refine ⟨⟨?_, rfl⟩, hkeep, trivial, hadv⟩
      simp only [absLeft, List.flatten_nil, inst, List.append_nil]
      rw [segLeft_dead_append dead segsH clk now hD hle]
    | h :: t, p :: ps', hU =>
      rw [leftReader_decide c h t _ true now c' _ hl, sufsP_head, ← pendSegs_inst (p :: ps').flatten (finOf segsH 0),
        leftDecide_running]
      by_cases hz : segLeft segsH now = 0 ∧ pendSegs (inst (p :: ps').flatten (finOf segsH 0)) < 0
      · rw [if_pos hz]
        have hdeadH : Dead segsH now := (segLeft_zero_iff segsH now).mp hz.1
        exact ⟨Or.inl rfl, hkeep, ⟨rfl, by simp, by simp,
          fun _ => ⟨c', h :: t, rfl, Or.inl ⟨finOf segsH 0, segsH, hR', hdeadH, rfl⟩⟩⟩, hadv⟩
      · rw [if_neg hz]
        refine ⟨⟨?_, rfl⟩, hkeep, trivial, hadv⟩
        show segLeft (dead ++ segsH ++ _) now = segLeft (segsH ++ _) now
        rw [List.append_assoc, segLeft_dead_append dead _ clk now hD hle]

/-! ### a schedule that is not started yet: its first `Next` on the head starts it at that clock reading -/

theorem virt_start {sh : Sh σ} {parts : List Part} {clk now : Int} (h : ShRelU sem sh parts)
    (hs : sh.started = true) :
    ∃ c rest s1, sh.cs = c :: rest ∧ ops.next c now = ops.next s1 now ∧
      ShRelR sem ⟨s1 :: rest, sh.la, sh.started⟩ (inst parts now) now ∧
      Adv sem sh clk ⟨s1 :: rest, sh.la, sh.started⟩ now := by
  obtain ⟨c, rest, p, ps, hcs, hla, hc, hU, rfl⟩ := h
  obtain ⟨s1, hs1, hn1⟩ := sem.next_U hc now
  obtain ⟨s1', hs1', hR1⟩ := sem.start_U hc now
  rw [hs1] at hs1'
  cases hs1'
  have hp := sem.U_ne hc
  refine ⟨c, rest, s1, hcs, hn1, ?_, ?_⟩
  · refine ⟨s1, rest, [], inst p now, ps, rfl, hla, hs, hR1 now, hU, trivial, ?_⟩
    simp [inst_append, finOf_inst0 now hp]
  · refine adv_head sem hcs id ⟨?_, ?_⟩
    · rintro tx ⟨segsH, hR, _, _⟩
      exact absurd hR (fun hR => U_R_absurd sem hc hR)
    · rintro ⟨p', hU', hz'⟩
      have h1 := sem.left_U hc now
      rw [sem.left_U hU' now] at h1
      simp only [Except.ok.injEq, Prod.mk.injEq, true_and] at h1
      have hz : partsLeft p = 0 := by omega
      exact Or.inl ⟨_, inst p now, hR1 now, dead_inst_of_zero p now now hz, rfl⟩

/-- same outcome, and the same state unless the outcome is a panic -/
def SameRes (a b : Sh σ × Out) : Prop := a.2 = b.2 ∧ ((∀ m, b.2 ≠ .ret (.panic m)) → a.1 = b.1)

theorem AbsStepN.nopanic {A : Abs} {now : Int} {out : Out} {A' : Abs} (h : AbsStepN A now out A') :
    ∀ m, out ≠ .ret (.panic m) := by
  intro m hm; subst hm; exact h

/-- a section of `Next`, or the writer section of `Left`, on any schedule: on a running one it is given (`hrun`); one
that is not started yet is started by it at this clock reading, which the section does not notice (`hcongr`) -/
theorem section_lift {sh : Sh σ} {A : Abs} {clk now : Int} {pc : Pc} (f : Sh σ → Sh σ × Out)
    (h : ShRel sem sh A clk) (hpc : PcInv sem sh clk pc) (hs : sh.started = true) (hle : clk ≤ now)
    (hcongr : ∀ c s1 rest la st, sh.cs = c :: rest → ops.next c now = ops.next s1 now →
      SameRes (f ⟨c :: rest, la, st⟩) (f ⟨s1 :: rest, la, st⟩))
    (hrun : ∀ sh1 segs clk1, ShRelR sem sh1 segs clk1 → PcInv sem sh1 clk1 pc → clk1 ≤ now →
      ∃ segs', AbsStepN (.running segs) now (f sh1).2 (.running segs') ∧ ShRel sem (f sh1).1 (.running segs') now ∧
        GotoOK sem (f sh1).1 now (f sh1).2 ∧ Adv sem sh1 clk1 (f sh1).1 now) :
    ∃ segs', AbsStep A now (f sh).2 (.running segs') ∧ ShRel sem (f sh).1 (.running segs') now ∧
      GotoOK sem (f sh).1 now (f sh).2 ∧ Adv sem sh clk (f sh).1 now := by
  cases A with
  | running segs =>
    obtain ⟨segs', h1, h2, h3, h4⟩ := hrun sh segs clk h hpc hle
    exact ⟨segs', h1.toStep, h2, h3, h4⟩
  | unstarted parts =>
    obtain ⟨c, rest, s1, hcs, hn, hR, hadv⟩ := virt_start sem h hs
    obtain ⟨segs', h1, h2, h3, h4⟩ := hrun _ _ now hR (hpc.adv sem hadv) (Int.le_refl _)
    obtain ⟨cs, la, st⟩ := sh
    simp only at hcs
    subst hcs
    obtain ⟨e2, e1⟩ := hcongr c s1 rest la st rfl hn
    rw [e2, e1 h1.nopanic]
    exact ⟨segs', h1.lift, h2, h3, hadv.trans sem h4⟩

theorem nextReader_congr {c s1 : σ} {rest : List σ} {la : List Int} {st : Bool} {now : Int}
    (hn : ops.next c now = ops.next s1 now) :
    SameRes (nextReader ops ⟨c :: rest, la, st⟩ now) (nextReader ops ⟨s1 :: rest, la, st⟩ now) := by
  simp only [nextReader, hn]
  cases ops.next s1 now with
  | error e => exact ⟨rfl, fun h => absurd rfl (h _)⟩
  | ok r => exact ⟨rfl, fun _ => rfl⟩

theorem startNext_congr {c s1 : σ} {rest : List σ} {la : List Int} {st : Bool} (tx : Int) :
    (∃ e, startNext ops ⟨c :: rest, la, st⟩ tx = .error e ∧ startNext ops ⟨s1 :: rest, la, st⟩ tx = .error e) ∨
    (∃ s', startNext ops ⟨c :: rest, la, st⟩ tx = .ok s' ∧ startNext ops ⟨s1 :: rest, la, st⟩ tx = .ok s') := by
  cases rest with
  | nil => exact Or.inl ⟨_, rfl, rfl⟩
  | cons h t =>
    simp only [startNext]
    cases ops.start h tx with
    | error e => exact Or.inl ⟨_, rfl, rfl⟩
    | ok h' => exact Or.inr ⟨_, rfl, rfl⟩

theorem nextWriter_congr {c s1 : σ} {rest : List σ} {la : List Int} {st : Bool} {now tx : Int} {seen : Nat}
    (hn : ops.next c now = ops.next s1 now) :
    SameRes (nextWriter ops ⟨c :: rest, la, st⟩ tx seen now) (nextWriter ops ⟨s1 :: rest, la, st⟩ tx seen now) := by
  unfold nextWriter
  simp only [List.length_cons, hn]
  split
  · cases ops.next s1 now with
    | error e => exact ⟨rfl, fun h => absurd rfl (h _)⟩
    | ok r => exact ⟨rfl, fun _ => rfl⟩
  · rcases startNext_congr (ops := ops) (c := c) (s1 := s1) (rest := rest) (la := la) (st := st) tx with
      ⟨e, h1, h2⟩ | ⟨s', h1, h2⟩
    · rw [h1, h2]; exact ⟨rfl, fun h => absurd rfl (h _)⟩
    · rw [h1, h2]; exact ⟨rfl, fun _ => rfl⟩

theorem leftWriter_congr {c s1 : σ} {rest : List σ} {la : List Int} {st : Bool} {now : Int} {seen : Nat}
    (hn : ops.next c now = ops.next s1 now) (heq : (c :: rest).length = seen) :
    SameRes (leftWriter ops ⟨c :: rest, la, st⟩ seen now) (leftWriter ops ⟨s1 :: rest, la, st⟩ seen now) := by
  unfold leftWriter
  have hb : (rest.length + 1 == seen) = true := by simpa using heq
  simp only [List.length_cons, hn, hb, if_true]
  cases ops.next s1 now with
  | error e => exact ⟨rfl, fun h => absurd rfl (h _)⟩
  | ok r => exact ⟨rfl, fun _ => rfl⟩

/-- the reader section of `Left` writes the head back and nothing else -/
theorem leftReader_started (sh : Sh σ) (now : Int) : (leftReader ops sh now).1.started = sh.started := by
  obtain ⟨cs, la, st⟩ := sh
  unfold leftReader
  cases cs with
  | nil => rfl
  | cons c rest =>
    simp only
    cases ops.left c now with
    | error e => rfl
    | ok r => simp only [apply_ite Prod.fst, ite_self]

/-! ### every atomic action -/

theorem section_ok {sh : Sh σ} {A : Abs} {clk now : Int} (pc : Pc) (op : Op) (h : ShRel sem sh A clk)
    (hpc : PcInv sem sh clk pc) (hle : clk ≤ now) :
    ∃ A', AbsStep A now (runSection ops sh pc op now).2 A' ∧ ShRel sem (runSection ops sh pc op now).1 A' now ∧
      GotoOK sem (runSection ops sh pc op now).1 now (runSection ops sh pc op now).2 ∧
      Adv sem sh clk (runSection ops sh pc op now).1 now ∧
      (∀ parts, A' = .unstarted parts → A = .unstarted parts ∧ pc ≠ .nextB ∧
        ((runSection ops sh pc op now).1.started = true →
          sh.started = true ∨ (runSection ops sh pc op now).2 = .goto .nextB)) := by
  cases pc with
  | idle =>
    cases op with
    | next =>
      -- started.Store(true)
      refine ⟨A, Or.inl rfl, ?_, rfl, ⟨fun _ => rfl, Or.inr ⟨rfl, fun c rest hc => ⟨c, hc, headTrans_refl sem c hle⟩⟩⟩,
        fun _ h => ⟨h, nofun, fun _ => Or.inr rfl⟩⟩
      cases A with
      | unstarted parts =>
        obtain ⟨c, rest, p, ps, h1, h2, h3, h4, h5⟩ := h
        exact ⟨c, rest, p, ps, h1, h2, h3, h4, h5⟩
      | running segs =>
        obtain ⟨c, rest, dead, segsH, ps, h1, h2, h3, hR, hU, hD, h4⟩ := h
        exact ⟨c, rest, dead, segsH, ps, h1, h2, rfl, sem.R_mono hR hle, hU, dead_mono hD hle, h4⟩
    | left =>
      obtain ⟨h1, h2, h3, h4⟩ := leftReader_ok sem (ops := ops) h hle
      exact ⟨A, h1, h2, h3, h4, fun _ hA => ⟨hA, nofun, fun hs =>
        Or.inl (by rw [← leftReader_started (ops := ops) sh now]; exact hs)⟩⟩
  | nextB =>
    obtain ⟨segs', h⟩ := section_lift sem (fun s => nextReader ops s now) h hpc hpc hle
      (fun _ _ _ _ _ _ hn => nextReader_congr hn) (fun _ _ _ hR _ hle1 => nextReader_run sem hR hle1)
    exact ⟨_, h.1, h.2.1, h.2.2.1, h.2.2.2, fun _ hA => nomatch hA⟩
  | nextW tx seen =>
    obtain ⟨segs', h⟩ := section_lift sem (fun s => nextWriter ops s tx seen now) h hpc hpc.1 hle
      (fun _ _ _ _ _ _ hn => nextWriter_congr hn) (fun _ _ _ hR hpc1 hle1 => nextWriter_run sem hR hpc1 hle1)
    exact ⟨_, h.1, h.2.1, h.2.2.1, h.2.2.2, fun _ hA => nomatch hA⟩
  | leftW seen =>
    by_cases heq : sh.cs.length = seen
    · obtain ⟨segs', h⟩ := section_lift sem (fun s => leftWriter ops s seen now) h hpc hpc.1 hle
        (fun c _ rest _ _ hcs hn => leftWriter_congr hn (by rw [← hcs]; exact heq))
        (fun _ _ _ hR hpc1 hle1 => leftWriter_run sem hR hpc1 hle1)
      exact ⟨_, h.1, h.2.1, h.2.2.1, h.2.2.2, fun _ hA => nomatch hA⟩
    · -- somebody shifted meanwhile: nothing is done
      have hlw : runSection ops sh (.leftW seen) op now = (sh, .goto .idle) := by
        simp only [runSection, leftWriter, show (sh.cs.length == seen) = false by simpa using heq, Bool.false_eq_true, if_false]
      rw [hlw]
      exact ⟨A, Or.inl rfl, h.mono sem hle, trivial, Adv.refl sem _ hle, fun _ hA => ⟨hA, nofun, Or.inl⟩⟩

/-! ### the global invariant -/

/-- `Reach` + what the shared state stands for + what the waiting callers know + an unstarted schedule whose
`started` flag is set has a caller inside `Next` (between `started.Store(true)` and its reader section) -/
def Inv (A0 : Abs) (st : St σ) (clk : Int) : Prop :=
  ∃ A, Reach A0 st.log A ∧ ShRel sem st.sh A clk ∧ (∀ th ∈ st.thr, PcInv sem st.sh clk th.pc) ∧
    (∀ parts, A = .unstarted parts → st.sh.started = true → ∃ (i : Nat) (th : Thread), st.thr[i]? = some th ∧ th.pc = Pc.nextB)

theorem Inv.mono {A0 : Abs} {st : St σ} {clk clk' : Int} (h : Inv sem A0 st clk) (hle : clk ≤ clk') :
    Inv sem A0 st clk' := by
  obtain ⟨A, h1, h2, h3, h4⟩ := h
  exact ⟨A, h1, h2.mono sem hle, fun th hth => (h3 th hth).adv sem (Adv.refl sem _ hle), h4⟩

theorem step_inv {A0 : Abs} {st : St σ} {clk : Int} (e : Nat × Int) (hinv : Inv sem A0 st clk) (hle : clk ≤ e.2) :
    Inv sem A0 (step ops st e) e.2 := by
  unfold step
  cases hth : st.thr[e.1]? with
  | none => exact hinv.mono sem hle
  | some th =>
    simp only
    cases htodo : th.todo with
    | nil => exact hinv.mono sem hle
    | cons op more =>
      simp only
      obtain ⟨A, hreach, hrel, hthr, hnb⟩ := hinv
      obtain ⟨A', hstep, hrel', hgoto, hadv, hkeep⟩ :=
        section_ok sem (ops := ops) th.pc op hrel (hthr th (List.mem_of_getElem? hth)) hle
      generalize runSection ops st.sh th.pc op e.2 = r at hstep hrel' hgoto hadv hkeep ⊢
      obtain ⟨sh', out⟩ := r
      -- the callers inside `Next` of an unstarted schedule: the one there before, or this one if it has just entered
      have hnb' : ∀ newth : Thread, (out = .goto .nextB → newth.pc = .nextB) → ∀ parts, A' = .unstarted parts →
          sh'.started = true → ∃ (i : Nat) (th' : Thread), (st.thr.set e.1 newth)[i]? = some th' ∧ th'.pc = Pc.nextB := by
        intro newth hnew parts hA' hst'
        obtain ⟨hA, hpcne, hflag⟩ := hkeep parts hA'
        rcases hflag hst' with hs | hgo
        · obtain ⟨j, thj, hj, hpj⟩ := hnb parts hA hs
          have hji : e.1 ≠ j := fun h => by subst h; rw [hth] at hj; cases hj; exact hpcne hpj
          exact ⟨j, thj, by rw [List.getElem?_set_ne hji]; exact hj, hpj⟩
        · exact ⟨e.1, newth, List.getElem?_set_self (List.getElem?_eq_some_iff.mp hth).1, hnew hgo⟩
      have hthr' : ∀ newth : Thread, PcInv sem sh' e.2 newth.pc → ∀ y ∈ st.thr.set e.1 newth, PcInv sem sh' e.2 y.pc := by
        intro newth hn y hy
        rcases List.mem_or_eq_of_mem_set hy with hy | rfl
        · exact (hthr y hy).adv sem hadv
        · exact hn
      unfold applyOut
      cases out with
      | goto pc => exact ⟨A', ⟨A, hreach, hstep⟩, hrel', hthr' _ hgoto, hnb' _ (fun h => by cases h; rfl)⟩
      | ret r => exact ⟨A', ⟨A, hreach, hstep⟩, hrel', hthr' _ trivial, hnb' _ nofun⟩

/-- clock readings never go back -/
def ClockOK : Int → List (Nat × Int) → Prop
  | _, [] => True
  | clk, e :: rest => clk ≤ e.2 ∧ ClockOK e.2 rest

def lastClk : Int → List (Nat × Int) → Int
  | clk, [] => clk
  | _, e :: rest => lastClk e.2 rest

theorem run_inv {A0 : Abs} : ∀ (sched : List (Nat × Int)) (st : St σ) (clk : Int), ClockOK clk sched →
    Inv sem A0 st clk → Inv sem A0 (run ops st sched) (lastClk clk sched)
  | [], _, _, _, h => h
  | e :: rest, st, clk, hc, h => run_inv rest (step ops st e) e.2 hc.2 (step_inv sem e h hc.1)

end

end Pandora.Proofs.C02Par
