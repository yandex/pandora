/-
C15 helper lemmas: the instruction-level system `LSys` (Model/C15Lock.lean) running `nextCode`, the code of
`NextIterator.Next`. Invariant under EVERY schedule: the mutex admits one thread between its `lock` and its `unlock`,
no fault (Unlock of an unlocked mutex, nil counter) occurs, every counter decides 0, 1, 2, … in order, and what a
thread has received plus the value it is about to return is exactly what the linearisation order attributes to it.
-/
import Pandora.Model.C15Lock
import Pandora.Proofs.C15Next

namespace Pandora.Proofs.C15
open Pandora.Model.C15

theorem gsRead_gsPut (gs : List (CKey × Nat)) (key key' : CKey) (p : Nat) :
    gsRead (gsPut gs key p) key' = if key' = key then some p else gsRead gs key' := by
  induction gs with
  | nil =>
    simp only [gsPut, gsRead_cons, gsRead_nil]
    by_cases h : key = key'
    · simp [h]
    · have : ¬ key' = key := fun e => h e.symm
      simp [h, this]
  | cons e rest ih =>
    obtain ⟨k, q⟩ := e
    simp only [gsPut]
    by_cases hk : k = key
    · rw [if_pos hk, gsRead_cons, gsRead_cons]
      by_cases h : key = key'
      · simp [h]
      · have h1 : ¬ key' = key := fun e => h e.symm
        have h2 : ¬ k = key' := fun e => h (hk.symm.trans e)
        simp [h, h1, h2]
    · rw [if_neg hk, gsRead_cons, gsRead_cons, ih]
      by_cases h : k = key'
      · have : ¬ key' = key := fun e => hk (h.trans e)
        simp [h, this]
      · simp [h]

/-- where a thread is inside `nextCode` -/
inductive Stage where
  | start    -- before `Lock()`
  | locked   -- holds the mutex, before the map lookup
  | miss0    -- lookup missed, before the insert
  | miss1    -- inserted, before `Unlock()`
  | miss2    -- unlocked, before `return 0`
  | hit0     -- lookup hit, before `Add(1)`
  | hit1     -- added, before `Unlock()`
  | hit2     -- unlocked, before `return int(add)`
deriving DecidableEq, Repr

def stageOps : Stage → List NOp
  | .start => [.lock, .mapGet]
  | .locked => [.mapGet]
  | .miss0 => [.putFresh, .unlock, .ret0]
  | .miss1 => [.unlock, .ret0]
  | .miss2 => [.ret0]
  | .hit0 => [.add 1, .unlock, .retAdd]
  | .hit1 => [.unlock, .retAdd]
  | .hit2 => [.retAdd]

def Stage.holds : Stage → Bool
  | .locked | .miss0 | .miss1 | .hit0 | .hit1 => true
  | _ => false

/-- per-thread invariant of an activation -/
def TInv (holder : Option Nat) (gs : List (CKey × Nat)) (t : Nat) (f : LFrame) : Prop :=
  ∃ st : Stage, f.ops = stageOps st ∧ (st.holds = true → holder = some t) ∧
    (st = .miss0 → gsRead gs f.key = none) ∧
    (st = .hit0 → ∃ p, f.ptr = some p ∧ gsRead gs f.key = some p)

/-- the pending value of a frame at a given stage -/
def pendOf (f : LFrame) : List Nat :=
  if f.ops = [.unlock, .ret0] ∨ f.ops = [.ret0] then [0]
  else if f.ops = [.unlock, .retAdd] ∨ f.ops = [.retAdd] then [f.addv]
  else []

def optPend : Option LFrame → List Nat
  | some f => pendOf f
  | none => []

theorem pend_eq (s : LSys) (t : Nat) : s.pend t = optPend (s.pcs t) := by
  unfold LSys.pend optPend pendOf
  cases s.pcs t <;> rfl

def stagePend (addv : Nat) : Stage → List Nat
  | .miss1 | .miss2 => [0]
  | .hit1 | .hit2 => [addv]
  | _ => []

theorem pendOf_stage (f : LFrame) (st : Stage) (h : f.ops = stageOps st) : pendOf f = stagePend f.addv st := by
  unfold pendOf
  rw [h]
  cases st <;> simp [stageOps, stagePend]

structure LInv (s : LSys) : Prop where
  thr : ∀ t f, s.pcs t = some f → TInv s.holder s.gs t f
  noFault : s.fault = false
  /-- a counter stores (number of values decided) − 1, and is absent before its first call -/
  quiet : ∀ key, (gsRead s.gs key).map s.heap =
      if (logVals s.lin key).length = 0 then none else some ((logVals s.lin key).length - 1)
  fresh : ∀ key p, gsRead s.gs key = some p → p < s.next
  inj : ∀ k1 k2 p, gsRead s.gs k1 = some p → gsRead s.gs k2 = some p → k1 = k2
  /-- every counter has decided 0, 1, 2, … in order -/
  seq : ∀ key, logVals s.lin key = List.range (logVals s.lin key).length
  /-- received + about to be returned = what the linearisation order attributes to the thread -/
  gotOK : ∀ t, s.got t ++ s.pend t = logValsOf s.lin t

theorem LInv_init : LInv LSys.init where
  thr := by intro t f h; cases h
  noFault := rfl
  quiet := by intro key; rfl
  fresh := by intro key p h; cases h
  inj := by intro k1 k2 p h; cases h
  seq := by intro key; rfl
  gotOK := by intro t; rfl

/-- under the invariant, a thread other than the mutex holder keeps its per-thread invariant whatever happens to the
mutex and the map -/
theorem LInv.other {s : LSys} (h : LInv s) {t t' : Nat} {f' : LFrame} (hne : t' ≠ t) (hf : s.pcs t' = some f')
    (hh : s.holder = none ∨ s.holder = some t) (holder' : Option Nat) (gs' : List (CKey × Nat)) :
    TInv holder' gs' t' f' := by
  obtain ⟨st, hops, hhold, _, _⟩ := h.thr t' f' hf
  -- `t'` does not hold the mutex, so its stage is one that claims nothing about mutex and map
  have hnh : st.holds = false := by
    cases hs : st.holds with
    | false => rfl
    | true =>
      rcases hh with e | e <;> rw [hhold hs] at e <;> cases e
      exact absurd rfl hne
  refine ⟨st, hops, ?_, ?_, ?_⟩ <;> intro e
  · rw [hnh] at e; cases e
  · subst e; cases hnh
  · subst e; cases hnh

/-- only the frame of thread `t` changes (same stage facts are re-established by the caller) -/
theorem pend_upd_other (s : LSys) (t t' : Nat) (x : Option LFrame) (hne : t' ≠ t)
    (s' : LSys) (hp : s'.pcs = upd s.pcs t x) : s'.pend t' = s.pend t' := by
  rw [pend_eq, pend_eq, hp, upd_other _ _ _ _ hne]

theorem pend_upd_same (s : LSys) (t : Nat) (x : Option LFrame) (s' : LSys) (hp : s'.pcs = upd s.pcs t x) :
    s'.pend t = optPend x := by
  rw [pend_eq, hp, upd_same]

/-- **frame**: a step of thread `t` that touches neither the map, the heap nor the log — only its own frame (now `x`),
what it has received, and the mutex, which it takes or releases itself (no other thread is or becomes the holder) —
keeps the invariant, given the per-thread invariant of the new frame and the account of the values `t` was given -/
theorem LInv.frame {s s' : LSys} (h : LInv s) (t : Nat) {x : Option LFrame}
    (hsame : s'.gs = s.gs ∧ s'.heap = s.heap ∧ s'.next = s.next ∧ s'.lin = s.lin ∧ s'.fault = s.fault)
    (hpcs : s'.pcs = upd s.pcs t x) (hgot : ∀ t', t' ≠ t → s'.got t' = s.got t')
    (hhold : s'.holder = s.holder ∨ s.holder = none ∨ s.holder = some t)
    (hthr : ∀ f', x = some f' → TInv s'.holder s.gs t f')
    (hpend : s'.got t ++ optPend x = logValsOf s.lin t) : LInv s' := by
  obtain ⟨hgs, hheap, hnext, hlin, hfault⟩ := hsame
  refine ⟨fun t' f' hf => ?_, hfault.trans h.noFault, ?_, ?_, ?_, ?_, fun t' => ?_⟩
  · rw [hgs]
    by_cases e : t' = t
    · subst e
      rw [hpcs, upd_same] at hf
      exact hthr f' hf
    · rw [hpcs, upd_other _ _ _ _ e] at hf
      rcases hhold with hh | hh
      · rw [hh]; exact h.thr t' f' hf
      · exact h.other e hf hh _ _
  · rw [hgs, hheap, hlin]; exact h.quiet
  · rw [hgs, hnext]; exact h.fresh
  · rw [hgs]; exact h.inj
  · rw [hlin]; exact h.seq
  · rw [hlin]
    by_cases e : t' = t
    · subst e; rw [pend_upd_same s t' x s' hpcs]; exact hpend
    · rw [pend_upd_other s t t' x e s' hpcs, hgot t' e]; exact h.gotOK t'

theorem LInv_step (prog : NProg) (s : LSys) (t : Nat) (h : LInv s) : LInv (s.step nextCode prog t) := by
  unfold LSys.step
  cases hpc : s.pcs t with
  | none =>
    simp only []
    cases hp : prog t (s.got t) with
    | none => exact h
    | some key =>
      -- the call begins
      have hb := h.gotOK t
      rw [pend_eq, hpc] at hb
      refine h.frame t ⟨rfl, rfl, rfl, rfl, rfl⟩ rfl (fun _ _ => rfl) (Or.inl rfl) ?_ ?_
      · rintro f' ⟨⟩; exact ⟨.start, rfl, nofun, nofun, nofun⟩
      · simpa [optPend, pendOf, nextCode] using hb
  | some f =>
    simp only []
    obtain ⟨st, hops, hhold, hmiss, hhit⟩ := h.thr t f hpc
    have hgot := h.gotOK t
    rw [pend_eq, hpc] at hgot
    rw [optPend, pendOf_stage f st hops] at hgot
    cases st with
    | start =>
      -- `Lock()`: blocked while another thread holds the mutex
      simp only [stageOps] at hops
      rw [hops]
      simp only []
      cases hho : s.holder with
      | some _ => simpa [hho] using h
      | none =>
        refine h.frame t ⟨rfl, rfl, rfl, rfl, rfl⟩ rfl (fun _ _ => rfl) (Or.inr (Or.inl hho)) ?_ ?_
        · rintro f' ⟨⟩; exact ⟨.locked, rfl, fun _ => rfl, nofun, nofun⟩
        · simpa [optPend, stagePend, pendOf] using hgot
    | locked =>
      -- the map lookup decides the branch
      simp only [stageOps] at hops
      rw [hops]
      have hho : s.holder = some t := hhold rfl
      refine h.frame t ⟨rfl, rfl, rfl, rfl, rfl⟩ rfl (fun _ _ => rfl) (Or.inl rfl) ?_ ?_
      · rintro f' ⟨⟩
        cases hr : gsRead s.gs f.key with
        | none => exact ⟨.miss0, by simp [nextCode, stageOps], fun _ => hho, fun _ => hr, nofun⟩
        | some p => exact ⟨.hit0, by simp [nextCode, stageOps], fun _ => hho, nofun, fun _ => ⟨p, rfl, hr⟩⟩
      · cases hr : gsRead s.gs f.key <;> simpa [optPend, stagePend, pendOf, nextCode, hr] using hgot
    | miss0 =>
      simp only [stageOps] at hops
      rw [hops]
      simp only []
      have hho : s.holder = some t := hhold rfl
      have hnone : gsRead s.gs f.key = none := hmiss rfl
      have hlen0 : (logVals s.lin f.key).length = 0 := by
        have q := h.quiet f.key
        rw [hnone] at q
        by_cases c : (logVals s.lin f.key).length = 0
        · exact c
        · rw [if_neg c] at q; cases q
      refine ⟨?_, h.noFault, ?_, ?_, ?_, ?_, ?_⟩
      · intro t' f' hf
        by_cases e : t' = t
        · subst e
          simp only [upd_same] at hf
          cases hf
          exact ⟨.miss1, rfl, fun _ => hho, (by intro c; cases c), (by intro c; cases c)⟩
        · simp only [upd_other _ _ _ _ e] at hf
          exact h.other e hf (Or.inr hho) _ _
      · intro key'
        show (gsRead (gsPut s.gs f.key s.next) key').map (upd s.heap s.next 0) = _
        rw [gsRead_gsPut, vals_snoc]
        by_cases hk : key' = f.key
        · subst hk
          simp [upd_same, hlen0]
        · have hk' : ¬ f.key = key' := fun c => hk c.symm
          rw [if_neg hk, if_neg hk', ← h.quiet key']
          cases hr : gsRead s.gs key' with
          | none => rfl
          | some q =>
            have : q ≠ s.next := Nat.ne_of_lt (h.fresh key' q hr)
            simp [upd_other _ _ _ _ this]
      · intro key' p hr
        show p < s.next + 1
        rw [gsRead_gsPut] at hr
        by_cases hk : key' = f.key
        · rw [if_pos hk] at hr; cases hr; exact Nat.lt_succ_self _
        · rw [if_neg hk] at hr; exact Nat.lt_succ_of_lt (h.fresh key' p hr)
      · intro k1 k2 p h1 h2
        rw [gsRead_gsPut] at h1 h2
        by_cases e1 : k1 = f.key <;> by_cases e2 : k2 = f.key
        · rw [e1, e2]
        · rw [if_pos e1] at h1; rw [if_neg e2] at h2; cases h1
          exact absurd (h.fresh k2 _ h2) (Nat.lt_irrefl _)
        · rw [if_neg e1] at h1; rw [if_pos e2] at h2; cases h2
          exact absurd (h.fresh k1 _ h1) (Nat.lt_irrefl _)
        · rw [if_neg e1] at h1; rw [if_neg e2] at h2; exact h.inj k1 k2 p h1 h2
      · exact seq_snoc h.seq f.key t 0 hlen0.symm
      · intro t'
        show _ = logValsOf (s.lin ++ [(f.key, t, 0)]) t'
        rw [valsOf_snoc]
        by_cases e : t' = t
        · subst e
          rw [pend_upd_same s t' _ _ rfl, if_pos rfl]
          simp only [stagePend, List.append_nil] at hgot
          simp [optPend, pendOf, hgot]
        · have e' : ¬ t = t' := fun c => e c.symm
          rw [pend_upd_other s t t' _ e _ rfl, if_neg e']; exact h.gotOK t'
    | miss1 =>
      simp only [stageOps] at hops
      rw [hops]
      have hho : s.holder = some t := hhold rfl
      simp only [hho]
      refine h.frame t ⟨rfl, rfl, rfl, rfl, rfl⟩ rfl (fun _ _ => rfl) (Or.inr (Or.inr hho)) ?_ ?_
      · rintro f' ⟨⟩; exact ⟨.miss2, rfl, nofun, nofun, nofun⟩
      · simpa [optPend, stagePend, pendOf] using hgot
    | miss2 =>
      -- `return 0`: the pending value is received
      simp only [stageOps] at hops
      rw [hops]
      refine h.frame t ⟨rfl, rfl, rfl, rfl, rfl⟩ rfl (fun t' e => upd_other _ _ _ _ e) (Or.inl rfl) nofun ?_
      simpa [upd_same, optPend, stagePend] using hgot
    | hit0 =>
      simp only [stageOps] at hops
      rw [hops]
      simp only []
      have hho : s.holder = some t := hhold rfl
      obtain ⟨p, hptr, hgs⟩ := hhit rfl
      rw [hptr]
      simp only []
      have hq := h.quiet f.key
      rw [hgs] at hq
      have hlen : (logVals s.lin f.key).length ≠ 0 ∧ s.heap p = (logVals s.lin f.key).length - 1 := by
        by_cases c : (logVals s.lin f.key).length = 0
        · rw [if_pos c] at hq; cases hq
        · rw [if_neg c] at hq
          exact ⟨c, Option.some.inj hq⟩
      have hv : s.heap p + 1 = (logVals s.lin f.key).length := by omega
      refine ⟨?_, h.noFault, ?_, h.fresh, h.inj, ?_, ?_⟩
      · intro t' f' hf
        by_cases e : t' = t
        · subst e
          simp only [upd_same] at hf
          cases hf
          exact ⟨.hit1, rfl, fun _ => hho, (by intro c; cases c), (by intro c; cases c)⟩
        · simp only [upd_other _ _ _ _ e] at hf
          exact h.other e hf (Or.inr hho) _ _
      · intro key'
        show (gsRead s.gs key').map (upd s.heap p (s.heap p + 1)) = _
        rw [vals_snoc]
        by_cases hk : f.key = key'
        · subst hk
          rw [if_pos rfl, hgs]
          simp [upd_same, hv]
        · rw [if_neg hk, ← h.quiet key']
          cases hr : gsRead s.gs key' with
          | none => rfl
          | some q =>
            have : q ≠ p := by
              intro c; subst c
              exact hk (h.inj f.key key' q hgs hr)
            simp [upd_other _ _ _ _ this]
      · exact seq_snoc h.seq f.key t (s.heap p + 1) hv
      · intro t'
        show _ = logValsOf (s.lin ++ [(f.key, t, s.heap p + 1)]) t'
        rw [valsOf_snoc]
        by_cases e : t' = t
        · subst e
          rw [pend_upd_same s t' _ _ rfl, if_pos rfl]
          simp only [stagePend, List.append_nil] at hgot
          simp [optPend, pendOf, hgot]
        · have e' : ¬ t = t' := fun c => e c.symm
          rw [pend_upd_other s t t' _ e _ rfl, if_neg e']; exact h.gotOK t'
    | hit1 =>
      simp only [stageOps] at hops
      rw [hops]
      have hho : s.holder = some t := hhold rfl
      simp only [hho]
      refine h.frame t ⟨rfl, rfl, rfl, rfl, rfl⟩ rfl (fun _ _ => rfl) (Or.inr (Or.inr hho)) ?_ ?_
      · rintro f' ⟨⟩; exact ⟨.hit2, rfl, nofun, nofun, nofun⟩
      · simpa [optPend, stagePend, pendOf] using hgot
    | hit2 =>
      -- `return int(add)`
      simp only [stageOps] at hops
      rw [hops]
      refine h.frame t ⟨rfl, rfl, rfl, rfl, rfl⟩ rfl (fun t' e => upd_other _ _ _ _ e) (Or.inl rfl) nofun ?_
      simpa [upd_same, optPend, stagePend] using hgot

/-- between its `lock` and its `unlock` -/
def inCrit (ops : List NOp) : Bool :=
  ops == [.mapGet] || ops == nextCode.miss || ops == [.unlock, .ret0] || ops == nextCode.hit || ops == [.unlock, .retAdd]

theorem LInv.excl {s : LSys} (h : LInv s) (t : Nat) (f : LFrame) (hf : s.pcs t = some f) (hc : inCrit f.ops = true) :
    s.holder = some t := by
  obtain ⟨st, hops, hh, _, _⟩ := h.thr t f hf
  apply hh
  rw [hops] at hc
  revert hc
  cases st <;> decide

theorem LInv_run (prog : NProg) (sched : List Nat) : ∀ (s : LSys), LInv s → LInv (s.run nextCode prog sched) := by
  induction sched with
  | nil => intro s h; exact h
  | cons t rest ih => intro s h; exact ih _ (LInv_step prog s t h)

end Pandora.Proofs.C15
