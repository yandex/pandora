/-
C14: lemmas that connect the model (`Model.C14`) with the executable Spec (`Spec.C14`) and the driver's view of a
model outcome (`Drv.C14`), and the analysis of the pre-repair streaming loop on a file from which nothing is chosen.
Core Lean only.
-/
import Pandora.Proofs.C14
import Pandora.Drv.C14

namespace Pandora.Proofs.C14
open Pandora.Model.C08 hiding fullScan httpRun runFuel run
open Pandora.Model.C14 Pandora.Proofs.C08

variable {α β : Type}

/-! ## chosen-case filter -/

/-- `isChosen` with a non-empty chosencases list is membership of the tag -/
theorem isChosen_iff_mem (cases : List String) (hc : cases ≠ []) (e : Entry) :
    isChosen cases e = true ↔ e.tag ∈ cases := by
  unfold isChosen
  have : cases.length ≠ 0 := fun h => hc (List.eq_nil_of_length_eq_zero h)
  rw [if_neg this]
  simp [List.any_eq_true]

/-- without chosencases every entry is chosen -/
theorem isChosen_nil (e : Entry) : isChosen [] e = true := by simp [isChosen]

theorem filter_isChosen_eq_mem (cases : List String) (hc : cases ≠ []) (file : List Entry) :
    file.filter (isChosen cases) = file.filter (fun e => decide (e.tag ∈ cases)) := by
  apply List.filter_congr
  intro e _
  by_cases h : e.tag ∈ cases
  · simp [h, (isChosen_iff_mem cases hc e).mpr h]
  · have : isChosen cases e = false := by
      cases hx : isChosen cases e with
      | false => rfl
      | true => exact absurd ((isChosen_iff_mem cases hc e).mp hx) h
    simp [h, this]

theorem filter_isChosen_nil (file : List Entry) : file.filter (isChosen []) = file := by
  rw [List.filter_eq_self]; intro e _; exact isChosen_nil e

/-! ## stopping count -/

theorem target_none_iff (l p f : Nat) : target l p f none = none ↔ l = 0 ∧ p = 0 := by
  unfold target
  by_cases h : l = 0 ∧ p = 0 <;> simp [h]

theorem target_some_ne_none (l p f c : Nat) : target l p f (some c) ≠ none := by
  unfold target
  simp only
  split <;> simp

theorem expected_eq_target (l p f : Nat) (hf : 0 < f) : Spec.C14.expected l p f = target l p f none := by
  unfold Spec.C14.expected target
  cases l with
  | zero =>
    cases p with
    | zero => simp
    | succ p => simp [minPlus]
  | succ l =>
    cases p with
    | zero => simp [minPlus]
    | succ p =>
      have : (p + 1) * f ≠ 0 := Nat.ne_of_gt (Nat.mul_pos (by omega) hf)
      simp [minPlus, this]

/-! ## the Spec's view of a cell = the model's -/

theorem map_rep (g : α → β) (q : Nat) (F : List α) : (rep q F).map g = rep q (F.map g) := by
  induction q with
  | zero => simp
  | succ q ih => rw [rep_succ, rep_succ, List.map_append, ih]

theorem map_cycTake (g : α → β) (F : List α) (t : Nat) : (cycTake F t).map g = cycTake (F.map g) t := by
  unfold cycTake
  rw [List.map_take, map_rep]

/-- `p` whole passes: the first `p · |F|` elements of the endless repetition are `p` copies of `F` -/
theorem cycTake_full (F : List α) (p : Nat) (hf : 0 < F.length) : cycTake F (p * F.length) = rep p F := by
  rw [cycTake_eq F (p * F.length) p hf (Nat.le_refl _)]
  exact List.take_of_length_le (by simp)

theorem chosenIds_zip (cases : List String) (is : List Nat) (ts : List String) :
    ((List.zipWith (fun i t => (⟨i, t⟩ : Entry)) is ts).filter (isChosen cases)).map (·.id)
      = (is.zip ts).filterMap (fun (x : Nat × String) => if Spec.C14.isChosenTag cases x.2 then some x.1 else none) := by
  induction is generalizing ts with
  | nil => simp
  | cons i is ih =>
    cases ts with
    | nil => simp
    | cons t ts =>
      have hsame : isChosen cases ⟨i, t⟩ = Spec.C14.isChosenTag cases t := rfl
      simp only [List.zipWith_cons_cons, List.zip_cons_cons, List.filter_cons, List.filterMap_cons, hsame]
      cases h : Spec.C14.isChosenTag cases t <;> simp [ih]

/-- the Spec's chosen ids are the ids of the model's chosen entries -/
theorem chosenIds_eq (tags cases : List String) (l p cap : Nat) :
    Spec.C14.chosenIds ⟨tags, cases, l, p, cap⟩ = ((mkFile tags).filter (isChosen cases)).map (·.id) := by
  unfold Spec.C14.chosenIds mkFile
  exact (chosenIds_zip cases (List.range tags.length) tags).symm

/-- the model never predicts a provider that kills its process -/
theorem modelSideOf_not_fatal (k : Fmt) (preload : Bool) (tags cases : List String) (b : Bounds) (cap : Nat)
    (hasFile closeFails : Bool) :
    (Drv.C14.modelSideOf k preload tags cases b cap hasFile closeFails).run ≠ .fatal := by
  unfold Drv.C14.modelSideOf
  split
  · cases h : run k preload tags cases b (if cap = 0 then none else some cap) with
    | none => simp [Drv.C14.sideOf]
    | some o =>
      cases hr : o.run <;> cases closeFails <;>
        simp [Drv.C14.sideOf, Drv.C14.classOf, hr, epilogue, EV.ofRun, EV.ofClose, EV.isNil, EV.join]
  · simp [Drv.C14.constructFailed]

/-! ## /repo HEAD before b8504d9: the streaming path on a file from which nothing is chosen, passes = 0 -/

/-- `Head.fullScan` (runFullScan without the no-ammo ending) over a non-empty file from which nothing is chosen
and a decoder without a pass bound never ends, whatever the fuel: it keeps calling `Scan`. -/
theorem head_fullScan_never_ends {σ : Type} (scan : σ → ScanRes × σ) (R : Nat → Nat → σ → Prop)
    (file : List α) (chosen : α → Bool) (limit : Nat) (cancelAt : Option Nat)
    (hn : 0 < file.length) (hf : file.filter chosen = []) (hc0 : cancelled cancelAt 0 = false)
    (src : Src scan file.length 0 R) :
    ∀ fuel q r s, R q r s → r ≤ file.length →
      Head.fullScan scan file chosen limit cancelAt fuel s [] = none := by
  intro fuel
  induction fuel with
  | zero => intro q r s _ _; rfl
  | succ fuel ih =>
    intro q r s hR hr
    unfold Head.fullScan
    have hlim : ¬ (limit ≠ 0 ∧ limit ≤ ([] : List α).length) := by simp
    simp only [List.length_nil] at hlim ⊢
    rw [hc0]
    simp only [Bool.false_eq_true, if_false]
    rw [if_neg hlim]
    by_cases hrn : r < file.length
    · obtain ⟨s', hs, hR'⟩ := src.next q r s hR hrn (Or.inl rfl)
      obtain ⟨a, ha⟩ := exists_getElem? hrn
      have hch := not_chosen_of_filter_nil file chosen hf r a ha
      simp only [hs, ha, hch, Bool.false_eq_true, if_false]
      exact ih q (r + 1) s' hR' (by omega)
    · have hrn' : r = file.length := by omega
      subst hrn'
      obtain ⟨s', hs, hR'⟩ := src.wrap q s hR (Or.inl rfl)
      obtain ⟨a, ha⟩ := exists_getElem? hn
      have hch := not_chosen_of_filter_nil file chosen hf 0 a ha
      simp only [hs, ha, hch, Bool.false_eq_true, if_false]
      exact ih (q + 1) 1 s' hR' (by omega)

theorem head_runFuel_never_ends (k : Fmt) (file : List α) (chosen : α → Bool) (limit : Nat)
    (cancelAt : Option Nat) (hn : 0 < file.length) (hf : file.filter chosen = []) (hc : cancelAt ≠ some 0)
    (fuel : Nat) : Head.runFuel k false file chosen ⟨limit, 0⟩ cancelAt fuel = none := by
  have hc0 := cancelled_zero cancelAt hc
  unfold Head.runFuel Head.httpRun
  cases k with
  | uri | uripost | raw =>
    simp only [Bool.false_eq_true, if_false]
    rw [head_fullScan_never_ends _ (RStream file.length) file chosen limit cancelAt hn hf hc0 (src_eofCheck _ _ hn)
      fuel 0 0 Dec.init (RStream_init _) (by omega)]
  | jsonLines =>
    simp only [Bool.false_eq_true, if_false]
    rw [head_fullScan_never_ends _ (RStream file.length) file chosen limit cancelAt hn hf hc0 (src_topCheck _ _ hn)
      fuel 0 0 Dec.init (RStream_init _) (by omega)]
  | jsonArray =>
    simp only [Bool.false_eq_true, if_false]
    rw [head_fullScan_never_ends _ (RArr file.length) file chosen limit cancelAt hn hf hc0 (src_arr _ _ hn)
      fuel 0 0 ArrDec.init (RArr_init _ hn) (by omega)]

end Pandora.Proofs.C14
