/-
C02 — the onFinish wrapper under concurrent callers (`Model/C02Cb.lean`): the invariant of its transition system
and what follows from it.  Nothing is assumed about the wrapped schedule.
-/
import Pandora.Model.C02Cb
import Pandora.Proofs.C02Reach

namespace Pandora.Proofs.C02Cb
open Pandora.Model.C02 Pandora.Model.C02.Par Pandora.Model.C02.CbW Pandora.Spec.C02

abbrev WLog := List (Nat × Int × WEv)

def gotOf (i : Nat) (e : Nat × Int × WEv) : Option Ret :=
  match e.2.2 with
  | .got r => if e.1 = i then some r else none
  | _ => none

/-- what the newest wrapped call of caller `i` that has returned, returned -/
def lastGot (i : Nat) (log : WLog) : Option Ret := log.findSome? (gotOf i)

def isBegin (e : Nat × Int × WEv) : Bool := e.2.2 == .cbBegin

/-- how often `onFinish` was entered according to the log -/
def begins (log : WLog) : Nat := log.countP isBegin

def EvOK (e : Nat × Int × WEv) (older : WLog) : Prop :=
  match e.2.2 with
  | .ret r => lastGot e.1 older = some r ∧ (finishing r = true → ∃ x ∈ older, x.2.2 = .cbEnd)
  | .cbBegin => (∃ r, lastGot e.1 older = some r ∧ finishing r = true) ∧ ∀ x ∈ older, x.2.2 ≠ .cbBegin
  | .cbEnd => ∃ x ∈ older, x.2.2 = .cbBegin
  | _ => True

/-- every event of the log is justified by what is older than it -/
def LogOK : WLog → Prop
  | [] => True
  | e :: older => EvOK e older ∧ LogOK older

def ThrOK (log : WLog) (once : OnceSt) (i : Nat) (th : WThread) : Prop :=
  (th.pc ≠ .idle → th.todo ≠ []) ∧
  match th.pc with
  | .idle | .inner => True
  | .got r => lastGot i log = some r
  | .inCb r => lastGot i log = some r ∧ finishing r = true ∧ once = .running i
  | .wait r => lastGot i log = some r ∧ finishing r = true ∧ once ≠ .fresh

structure WInv {ι : Type} (st : WSt ι) : Prop where
  thr : ∀ i th, st.thr[i]? = some th → ThrOK st.log st.once i th
  owner : ∀ j, st.once = .running j → ∃ th r, st.thr[j]? = some th ∧ th.pc = .inCb r
  calls : st.calls = (if st.once = .fresh then 0 else 1)
  nbeg : begins st.log = st.calls
  done : st.once = .done → ∃ x ∈ st.log, x.2.2 = .cbEnd
  log : LogOK st.log

/-- an event that is not a result of a wrapped call of caller `i` does not change what `i` got last -/
theorem lastGot_cons (i : Nat) (e : Nat × Int × WEv) (log : WLog) (h : gotOf i e = none) :
    lastGot i (e :: log) = lastGot i log := by
  unfold lastGot
  rw [List.findSome?_cons, h]

theorem lastGot_cons_got (i : Nat) (now : Int) (r : Ret) (log : WLog) :
    lastGot i ((i, now, .got r) :: log) = some r := by
  unfold lastGot
  rw [List.findSome?_cons]
  simp [gotOf]

theorem begins_cons_non (e : Nat × Int × WEv) (log : WLog) (h : e.2.2 ≠ .cbBegin) : begins (e :: log) = begins log := by
  unfold begins
  rw [List.countP_cons]
  have : isBegin e = false := by simp [isBegin, h]
  simp [this]

theorem begins_cons_begin (i : Nat) (now : Int) (log : WLog) : begins ((i, now, .cbBegin) :: log) = begins log + 1 := by
  unfold begins
  rw [List.countP_cons]
  simp [isBegin]

theorem begins_pos {log : WLog} (h : 0 < begins log) : ∃ x ∈ log, x.2.2 = .cbBegin := by
  unfold begins at h
  rw [List.countP_pos_iff] at h
  obtain ⟨x, hx, hb⟩ := h
  exact ⟨x, hx, by simpa [isBegin] using hb⟩

theorem begins_zero {log : WLog} (h : begins log = 0) : ∀ x ∈ log, x.2.2 ≠ .cbBegin := by
  intro x hx hb
  unfold begins at h
  rw [List.countP_eq_zero] at h
  have := h x hx
  simp [isBegin, hb] at this

/-- what a caller knows depends on the log only through the last result of its own wrapped calls -/
theorem thrOK_congr {log log' : WLog} {once : OnceSt} {i : Nat} {th : WThread} (hl : lastGot i log' = lastGot i log)
    (h : ThrOK log once i th) : ThrOK log' once i th := by
  unfold ThrOK at *
  rw [hl]
  exact h

/-- a caller other than `i` does not notice events of `i` nor the moves of the Once that `i` may make -/
theorem thrOK_other {log : WLog} {once once' : OnceSt} {i j : Nat} {th : WThread} (news : WLog)
    (hne : j ≠ i) (hnews : ∀ e ∈ news, e.1 = i) (h : ThrOK log once j th)
    (honce : once' = once ∨ (once = .fresh ∧ once' = .running i) ∨ (once = .running i ∧ once' = .done)) :
    ThrOK (news ++ log) once' j th := by
  have hl : lastGot j (news ++ log) = lastGot j log := by
    induction news with
    | nil => rfl
    | cons e rest ih =>
      have he : gotOf j e = none := by
        unfold gotOf
        split
        · rw [if_neg (by rw [hnews e List.mem_cons_self]; exact Ne.symm hne)]
        · rfl
      rw [List.cons_append, lastGot_cons j e _ he]
      exact ih (fun x hx => hnews x (List.mem_cons_of_mem _ hx))
  refine thrOK_congr hl ?_
  obtain ⟨h1, h2⟩ := h
  refine ⟨h1, ?_⟩
  cases hpc : th.pc with
  | idle => trivial
  | inner => trivial
  | got r => rw [hpc] at h2; exact h2
  | inCb r =>
    rw [hpc] at h2
    refine ⟨h2.1, h2.2.1, ?_⟩
    have c := h2.2.2
    rcases honce with rfl | ⟨hf, _⟩ | ⟨hr, _⟩
    · exact c
    · rw [hf] at c; cases c
    · rw [hr] at c; cases c; exact absurd rfl hne
  | wait r =>
    rw [hpc] at h2
    refine ⟨h2.1, h2.2.1, ?_⟩
    rcases honce with rfl | ⟨_, hr⟩ | ⟨_, hd⟩
    · exact h2.2.2
    · rw [hr]; intro hx; cases hx
    · rw [hd]; intro hx; cases hx

section
variable {ι : Type} (I : Inner ι)

theorem thr_field {st : WSt ι} (h : WInv st) {i : Nat} (th' : WThread) (news : WLog) (once' : OnceSt)
    (hnews : ∀ e ∈ news, e.1 = i)
    (honce : once' = st.once ∨ (st.once = .fresh ∧ once' = .running i) ∨ (st.once = .running i ∧ once' = .done))
    (hself : ThrOK (news ++ st.log) once' i th') :
    ∀ j th2, (st.thr.set i th')[j]? = some th2 → ThrOK (news ++ st.log) once' j th2 := by
  intro j th2 hj
  rw [List.getElem?_set] at hj
  split at hj
  · subst j
    split at hj <;> cases hj
    exact hself
  · exact thrOK_other news (fun e => ‹¬ i = j› e.symm) hnews (h.thr j th2 hj) honce

/-- the owner of the Once stays where it is when another caller moves -/
theorem owner_other {st : WSt ι} (h : WInv st) {i : Nat} {th : WThread} (hth : st.thr[i]? = some th)
    (hpc : ∀ r, th.pc ≠ .inCb r) (th' : WThread) :
    ∀ j, st.once = .running j → ∃ th2 r, (st.thr.set i th')[j]? = some th2 ∧ th2.pc = .inCb r := by
  intro j hj
  obtain ⟨th2, r, h2, hp⟩ := h.owner j hj
  have hne : j ≠ i := by
    intro hx; subst hx
    rw [hth] at h2; cases h2
    exact hpc r hp
  exact ⟨th2, r, by rw [List.getElem?_set_ne (Ne.symm hne)]; exact h2, hp⟩

theorem calls_pos_of_begin {st : WSt ι} (h : WInv st) (hf : st.once = .fresh) : ∀ x ∈ st.log, x.2.2 ≠ .cbBegin := by
  apply begins_zero
  rw [h.nbeg, h.calls, hf]; rfl

/-- an action of caller `i` that leaves the Once alone and is not the entry into `onFinish` -/
theorem inv_plain {st : WSt ι} (h : WInv st) {i : Nat} {th : WThread} (hth : st.thr[i]? = some th)
    (hnot : ∀ r, th.pc ≠ .inCb r) (x : ι) (th' : WThread) (now : Int) (ev : WEv) (hev : ev ≠ .cbBegin)
    (hok : EvOK (i, now, ev) st.log) (hself : ThrOK ((i, now, ev) :: st.log) st.once i th') :
    WInv { st with inner := x, thr := st.thr.set i th', log := (i, now, ev) :: st.log } :=
  ⟨thr_field h th' [(i, now, ev)] st.once (by simp) (Or.inl rfl) hself, owner_other h hth hnot th', h.calls,
    (begins_cons_non _ _ hev).trans h.nbeg,
    fun hd => let ⟨y, hy, hy2⟩ := h.done hd; ⟨y, List.mem_cons_of_mem _ hy, hy2⟩, hok, h.log⟩

/-- an action of the wrapped call -/
theorem inv_inner {st : WSt ι} (h : WInv st) {i : Nat} {th : WThread} (hth : st.thr[i]? = some th)
    (hpc : th.pc = .idle ∨ th.pc = .inner) (htodo : th.todo ≠ []) (x : ι) (now : Int) (r? : Option Ret) :
    WInv (match r? with
      | none => setPc { st with inner := x } i th .inner now .innerAct
      | some r => setPc { st with inner := x } i th (.got r) now (.got r)) := by
  have hnot : ∀ r, th.pc ≠ .inCb r := by
    intro r hx; rcases hpc with hp | hp <;> rw [hp] at hx <;> cases hx
  cases r? with
  | none => exact inv_plain h hth hnot x _ now .innerAct (by simp) (by simp [EvOK]) ⟨fun _ => htodo, trivial⟩
  | some r =>
    exact inv_plain h hth hnot x _ now (.got r) (by simp) (by simp [EvOK]) ⟨fun _ => htodo, lastGot_cons_got i now r st.log⟩

/-- the call returns without touching the Once -/
theorem inv_ret {st : WSt ι} (h : WInv st) {i : Nat} {th : WThread} (hth : st.thr[i]? = some th)
    (r : Ret) (hpc : th.pc = .got r ∨ th.pc = .wait r) (hfin : finishing r = true → st.once = .done)
    (more : List Op) (now : Int) : WInv (doRet st i more now r) := by
  have hnot : ∀ r', th.pc ≠ .inCb r' := by
    intro r' hx; rcases hpc with hp | hp <;> rw [hp] at hx <;> cases hx
  have hlast : lastGot i st.log = some r := by
    have := (h.thr i th hth).2
    rcases hpc with hp | hp <;> rw [hp] at this
    · exact this
    · exact this.1
  exact inv_plain h hth hnot st.inner _ now (.ret r) (by simp) ⟨hlast, fun hf => h.done (hfin hf)⟩
    ⟨fun hx => absurd rfl hx, trivial⟩

/-- `onFinish` is entered -/
theorem inv_begin {st : WSt ι} (h : WInv st) {i : Nat} {th : WThread} (hth : st.thr[i]? = some th)
    (r : Ret) (hpc : th.pc = .got r) (htodo : th.todo ≠ []) (hfin : finishing r = true) (hfresh : st.once = .fresh) (now : Int) :
    WInv (setPc { st with once := .running i, calls := st.calls + 1 } i th (.inCb r) now .cbBegin) := by
  have hlast : lastGot i st.log = some r := by
    have := (h.thr i th hth).2
    rw [hpc] at this; exact this
  refine ⟨?_, ?_, ?_, ?_, ?_, ?_⟩
  · exact thr_field h _ [(i, now, .cbBegin)] (.running i) (by simp) (Or.inr (Or.inl ⟨hfresh, rfl⟩))
      ⟨fun _ => htodo, by
        simp only [List.cons_append, List.nil_append]
        exact ⟨by rw [lastGot_cons i _ _ rfl]; exact hlast, hfin, by trivial⟩⟩
  · rintro _ ⟨⟩
    exact ⟨_, r, List.getElem?_set_self (List.getElem?_eq_some_iff.mp hth).1, rfl⟩
  · show st.calls + 1 = _
    rw [h.calls, hfresh]; rfl
  · show begins ((i, now, WEv.cbBegin) :: st.log) = st.calls + 1
    rw [begins_cons_begin, h.nbeg]
  · intro hd; cases hd
  · exact ⟨⟨⟨r, hlast, hfin⟩, (calls_pos_of_begin h hfresh : ∀ x ∈ st.log, x.2.2 ≠ .cbBegin)⟩, h.log⟩

/-- blocked in `Do` (first time: `got → wait`) -/
theorem inv_block {st : WSt ι} (h : WInv st) {i : Nat} {th : WThread} (hth : st.thr[i]? = some th)
    (r : Ret) (hpc : th.pc = .got r) (htodo : th.todo ≠ []) (hfin : finishing r = true) (j : Nat) (hrun : st.once = .running j) (now : Int) :
    WInv (setPc st i th (.wait r) now .blocked) := by
  have hlast : lastGot i st.log = some r := by
    have := (h.thr i th hth).2
    rw [hpc] at this; exact this
  refine inv_plain h hth (by intro r' hx; rw [hpc] at hx; cases hx) st.inner _ now .blocked (by simp) (by simp [EvOK])
    ⟨fun _ => htodo, ?_, hfin, by rw [hrun]; intro hx; cases hx⟩
  rw [lastGot_cons i _ _ rfl]; exact hlast

/-- still blocked -/
theorem inv_blocked {st : WSt ι} (h : WInv st) (i : Nat) (now : Int) (o : OnceSt) (ho : o = st.once) :
    WInv { inner := st.inner, once := o, calls := st.calls, thr := st.thr, log := (i, now, .blocked) :: st.log } := by
  subst ho
  exact ⟨fun j th2 hj => thrOK_congr (lastGot_cons j _ _ rfl) (h.thr j th2 hj), h.owner, h.calls,
    (begins_cons_non _ _ (by simp)).trans h.nbeg,
    fun hd => let ⟨y, hy, hy2⟩ := h.done hd; ⟨y, List.mem_cons_of_mem _ hy, hy2⟩, by simp [EvOK], h.log⟩

/-- `onFinish` returns: the Once is done, the call returns -/
theorem inv_end {st : WSt ι} (h : WInv st) {i : Nat} {th : WThread} (hth : st.thr[i]? = some th)
    (r : Ret) (hpc : th.pc = .inCb r) (more : List Op) (now : Int) :
    WInv (doRet { st with once := .done, log := (i, now, .cbEnd) :: st.log } i more now r) := by
  have hT := (h.thr i th hth).2
  rw [hpc] at hT
  obtain ⟨hlast, hfin, hrun⟩ := hT
  refine ⟨?_, ?_, ?_, ?_, ?_, ?_⟩
  · exact thr_field h _ [(i, now, .ret r), (i, now, .cbEnd)] .done (by simp) (Or.inr (Or.inr ⟨hrun, rfl⟩))
      ⟨fun hx => absurd rfl hx, trivial⟩
  · intro j hj; cases hj
  · show st.calls = _
    rw [h.calls, hrun]; rfl
  · exact h.nbeg
  · intro _
    exact ⟨(i, now, .cbEnd), List.mem_cons_of_mem _ List.mem_cons_self, rfl⟩
  · refine ⟨⟨?_, fun _ => ⟨(i, now, .cbEnd), List.mem_cons_self, rfl⟩⟩, ?_, h.log⟩
    · show lastGot i ((i, now, WEv.cbEnd) :: st.log) = some r
      rw [lastGot_cons i _ _ rfl]; exact hlast
    · show ∃ x ∈ st.log, x.2.2 = .cbBegin
      apply begins_pos
      rw [h.nbeg, h.calls, hrun]; simp

theorem wstep_inv (st : WSt ι) (e : Nat × Int) (h : WInv st) : WInv (wstep I st e) := by
  unfold wstep
  cases hth : st.thr[e.1]? with
  | none => exact h
  | some th =>
    simp only
    cases htodo : th.todo with
    | nil => exact h
    | cons op more =>
      simp only
      have hne : th.todo ≠ [] := by rw [htodo]; simp
      cases hpc : th.pc with
      | idle => exact inv_inner h hth (Or.inl hpc) hne _ _ _
      | inner => exact inv_inner h hth (Or.inr hpc) hne _ _ _
      | got r =>
        simp only
        cases hf : finishing r with
        | false =>
          simp only [Bool.false_eq_true, if_false]
          exact inv_ret h hth r (Or.inl hpc) (by rw [hf]; intro hx; cases hx) more e.2
        | true =>
          simp only [if_true]
          cases ho : st.once with
          | fresh => exact inv_begin h hth r hpc hne hf ho e.2
          | running j => exact inv_block h hth r hpc hne hf j ho e.2
          | done => exact inv_ret h hth r (Or.inl hpc) (fun _ => ho) more e.2
      | inCb r => exact inv_end h hth r hpc more e.2
      | wait r =>
        simp only
        cases ho : st.once with
        | fresh => exact inv_blocked h e.1 e.2 _ ho.symm
        | running j => exact inv_blocked h e.1 e.2 _ ho.symm
        | done => exact inv_ret h hth r (Or.inr hpc) (fun _ => ho) more e.2

theorem wrun_inv : ∀ (sched : List (Nat × Int)) (st : WSt ι), WInv st → WInv (wrun I st sched)
  | [], _, h => h
  | e :: rest, st, h => wrun_inv rest (wstep I st e) (wstep_inv I st e h)

theorem winit_inv (x : ι) (progs : List (List Op)) : WInv (winit x progs) := by
  refine ⟨?_, ?_, rfl, rfl, ?_, trivial⟩
  · intro i th hth
    simp only [winit, List.getElem?_map] at hth
    cases hp : progs[i]? with
    | none => rw [hp] at hth; cases hth
    | some p => rw [hp] at hth; cases hth; exact ⟨fun hx => absurd rfl hx, trivial⟩
  · intro j hj; cases hj
  · intro hd; cases hd

end


/-! ### what the invariant says about a log -/

theorem logOK_suffix : ∀ (newer : WLog) {e : Nat × Int × WEv} {older : WLog}, LogOK (newer ++ e :: older) → EvOK e older
  | [], _, _, h => h.1
  | _ :: rest, _, _, h => logOK_suffix rest h.2

theorem gotOf_some {i : Nat} {e : Nat × Int × WEv} {r : Ret} (h : gotOf i e = some r) : ∃ now, e = (i, now, .got r) := by
  obtain ⟨j, now, ev⟩ := e
  cases ev <;> simp [gotOf] at h
  obtain ⟨rfl, rfl⟩ := h
  exact ⟨now, rfl⟩

theorem lastGot_mem {i : Nat} {r : Ret} : ∀ {log : WLog}, lastGot i log = some r →
    ∃ o1 now o2, log = o1 ++ (i, now, .got r) :: o2
  | [], h => by simp [lastGot] at h
  | e :: rest, h => by
      unfold lastGot at h
      rw [List.findSome?_cons] at h
      cases hg : gotOf i e with
      | some r' =>
        rw [hg] at h
        cases h
        obtain ⟨now, rfl⟩ := gotOf_some hg
        exact ⟨[], now, rest, rfl⟩
      | none =>
        rw [hg] at h
        obtain ⟨o1, now, o2, rfl⟩ := lastGot_mem (log := rest) h
        exact ⟨e :: o1, now, o2, rfl⟩

/-! ### the wrapped schedule as the atomic flat spec -/

open Pandora.Proofs.C02Par Pandora.Proofs.C02Reach

/-- the flat spec as the wrapped schedule: every call is one atomic action -/
def absInner : Inner Abs where
  act A _ op now := match op with
    | .next => ((absNext A now).1, some (.tok (absNext A now).2.1 (absNext A now).2.2))
    | .left => (A, some (.cnt (absLeft A now)))

def gotEv (e : Nat × Int × WEv) : Option (Nat × Int × Out) :=
  match e.2.2 with
  | .got r => some (e.1, e.2.1, .ret r)
  | _ => none

/-- the results of the wrapped calls, in the order in which the wrapped calls returned -/
def gotLog (log : WLog) : Log := log.filterMap gotEv

/-- one action of the wrapper over the flat spec: nothing happens to the wrapped schedule, or one call of it returns -/
theorem abs_step (st : WSt Abs) (e : Nat × Int) :
    (gotLog (wstep absInner st e).log = gotLog st.log ∧ (wstep absInner st e).inner = st.inner) ∨
    (∃ r, gotLog (wstep absInner st e).log = (e.1, e.2, .ret r) :: gotLog st.log ∧
      AbsStep st.inner e.2 (.ret r) (wstep absInner st e).inner) := by
  unfold wstep
  cases hth : st.thr[e.1]? with
  | none => exact Or.inl ⟨rfl, rfl⟩
  | some th =>
    simp only
    cases htodo : th.todo with
    | nil => exact Or.inl ⟨rfl, rfl⟩
    | cons op more =>
      simp only
      -- a wrapped call is one atomic operation of the flat spec
      have hcall : ∃ r, (absInner.act st.inner e.1 op e.2).2 = some r ∧
          AbsStep st.inner e.2 (.ret r) (absInner.act st.inner e.1 op e.2).1 := by
        cases op with
        | next => exact ⟨_, rfl, rfl⟩
        | left => exact ⟨_, rfl, rfl, rfl⟩
      obtain ⟨r, hr, hs⟩ := hcall
      cases hpc : th.pc with
      | idle => simp only [hr]; exact Or.inr ⟨r, rfl, hs⟩
      | inner => simp only [hr]; exact Or.inr ⟨r, rfl, hs⟩
      | got r =>
        simp only
        split
        · split <;> exact Or.inl ⟨rfl, rfl⟩
        · exact Or.inl ⟨rfl, rfl⟩
      | inCb r => exact Or.inl ⟨rfl, rfl⟩
      | wait r =>
        simp only
        split <;> exact Or.inl ⟨rfl, rfl⟩

/-- the results of the wrapped calls are a run of the atomic flat spec, with non-decreasing clock readings -/
theorem abs_run : ∀ (sched : List (Nat × Int)) (st : WSt Abs) (A0 : Abs) (clk : Int), ClockOK clk sched →
    Reach A0 (gotLog st.log) st.inner → LogMono clk (gotLog st.log) →
    Reach A0 (gotLog (wrun absInner st sched).log) (wrun absInner st sched).inner ∧
      LogMono (lastClk clk sched) (gotLog (wrun absInner st sched).log)
  | [], _, _, _, _, h1, h2 => ⟨h1, h2⟩
  | e :: rest, st, A0, clk, hc, h1, h2 => by
      have hw : LogMono e.2 (gotLog st.log) := logMono_mono h2 hc.1
      have hstep : Reach A0 (gotLog (wstep absInner st e).log) (wstep absInner st e).inner ∧
          LogMono e.2 (gotLog (wstep absInner st e).log) := by
        rcases abs_step st e with ⟨hl, hi⟩ | ⟨r, hl, hs⟩
        · rw [hl, hi]; exact ⟨h1, hw⟩
        · rw [hl]; exact ⟨⟨st.inner, h1, hs⟩, Int.le_refl _, hw⟩
      exact abs_run rest (wstep absInner st e) A0 e.2 hc.2 hstep.1 hstep.2

theorem gotLog_append (a b : WLog) : gotLog (a ++ b) = gotLog a ++ gotLog b := by
  unfold gotLog; rw [List.filterMap_append]

end Pandora.Proofs.C02Cb
