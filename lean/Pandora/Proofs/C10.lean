/-
C10 — the model's functions characterised: tags, `getErrno`, the one sample of a shot, the step loops (also under pauses
and a cancellation), the client's redirect limit, the id counter.
-/
import Pandora.Model.C10
import Pandora.Spec.C10

namespace Pandora.Proofs.C10
open Pandora.Model.C10 Pandora.Spec.C10

/-! ### autotag = first k path elements -/

theorem splitSlash_ne_nil (p : List Char) : splitSlash p ≠ [] := by
  induction p with
  | nil => simp [splitSlash]
  | cons c cs ih =>
    unfold splitSlash
    by_cases h : c = '/'
    · simp [h]
    · simp only [h, if_false]
      cases hs : splitSlash cs <;> simp

theorem joinSlash_cons_cons (c : Char) (p : List Char) (rest : List (List Char)) :
    joinSlash ((c :: p) :: rest) = c :: joinSlash (p :: rest) := by
  cases rest <;> simp [joinSlash]

theorem autotag_eq_firstElements (k : Nat) (p : List Char) :
    autotagChars k p = firstElementsChars k p := by
  induction p generalizing k with
  | nil => simp [autotagChars, firstElementsChars, splitSlash, joinSlash]
  | cons c cs ih =>
    by_cases h : c = '/'
    · subst h
      cases k with
      | zero => simp [autotagChars, firstElementsChars, splitSlash, joinSlash]
      | succ k' =>
        have hne := splitSlash_ne_nil cs
        simp only [autotagChars, if_true, firstElementsChars, splitSlash, List.take_succ_cons]
        rw [ih k']
        unfold firstElementsChars
        cases hs : splitSlash cs with
        | nil => exact absurd hs hne
        | cons q qs => simp [joinSlash]
    · have hne := splitSlash_ne_nil cs
      simp only [autotagChars, h, if_false, firstElementsChars, splitSlash]
      rw [ih k]
      unfold firstElementsChars
      cases hs : splitSlash cs with
      | nil => exact absurd hs hne
      | cons q qs => simp [joinSlash_cons_cons]

/-! ### the http gun's tag is the tag the Spec expects -/

theorem httpTag_eq_expected (cfg : AutoTagCfg) (t p : String) :
    httpTag cfg t p = expectedTag cfg.enabled cfg.uriElements cfg.noTagOnly t p := by
  have ha : autotag cfg.uriElements p = firstElements cfg.uriElements p := by
    simp [autotag, firstElements, autotag_eq_firstElements]
  have hne : ∀ a b : String, a ≠ "" → a ++ "|" ++ b ≠ "" := by
    intro a b _ h
    have := congrArg String.length h
    simp [String.length_append] at this
  unfold httpTag expectedTag
  rw [ha]
  by_cases h1 : (cfg.enabled && (!cfg.noTagOnly || decide (t = ""))) = true
  · simp only [h1, if_true]
    by_cases h2 : t = ""
    · subst h2
      by_cases h3 : firstElements cfg.uriElements p = ""
      · simp [addTag, h3, Model.C10.emptyTag, Spec.C10.emptyTag]
      · simp [addTag, h3]
    · simp [addTag, h2, hne t _ h2]
  · simp only [h1]
    by_cases h2 : t = ""
    · subst h2; simp [addTag, Model.C10.emptyTag, Spec.C10.emptyTag]
    · simp [h2]

/-! ### getErrno -/

/-- every `syscall.Errno` inside the chain is a real error number (Go's syscall layer returns `nil`, not `Errno(0)`) -/
def ErrnoNonzero : Err → Prop
  | .opError e => ErrnoNonzero e
  | .syscallError e => ErrnoNonzero e
  | .urlError e => ErrnoNonzero e
  | .underlying e => ErrnoNonzero e
  | .causer e => ErrnoNonzero e
  | .errno n => n ≠ 0
  | _ => True

theorem errnoNonzero_stripUnderlying (e : Err) (h : ErrnoNonzero e) : ErrnoNonzero (stripUnderlying e) := by
  induction e with
  | underlying e ih => simpa [stripUnderlying] using ih h
  | _ => simpa [stripUnderlying] using h

theorem errnoNonzero_cause (e : Err) (h : ErrnoNonzero e) : ErrnoNonzero (cause e) := by
  induction e with
  | causer e ih => simpa [cause] using ih h
  | _ => simpa [cause] using h

theorem unwrapLoop_ne_zero (e : Err) (h : ErrnoNonzero e) : unwrapLoop e ≠ 0 := by
  induction e with
  | opError e ih | syscallError e ih | urlError e ih => simpa [unwrapLoop] using ih h
  | errno n => simpa [unwrapLoop, ErrnoNonzero] using h
  | _ => simp [unwrapLoop, protoCodeError]

theorem getErrno_ne_zero (e : Err) (h : ErrnoNonzero e) : getErrno e ≠ 0 := by
  unfold getErrno
  split
  · simp [timeoutErrno]
  · exact unwrapLoop_ne_zero _ (errnoNonzero_cause _ (errnoNonzero_stripUnderlying _ h))

/-- the two branches of `getErrno`: a `net.Error` that timed out is 110 whatever it wraps, anything else is unwrapped -/
theorem getErrno_timeout (e : Err) (h1 : isNetError e = true) (h2 : hasTimeout e = true) : getErrno e = 110 := by
  simp [getErrno, h1, h2, timeoutErrno]

theorem getErrno_not_timeout (e : Err) (h : ¬ (isNetError e = true ∧ hasTimeout e = true)) :
    getErrno e = unwrapLoop (cause (stripUnderlying e)) := by
  unfold getErrno
  rw [if_neg (by simpa using h)]

/-! ### failed dials as `getErrno` sees them -/

/-- `dns-cache` does not show: `cachingDial` hands the dial error on as it is -/
theorem dialFailure_eq (g : GunKind) (dc cached redirect : Bool) (d : DialFail) :
    dialFailure g dc cached redirect d =
      clientErr redirect (match g with | .connect => .causer (dialErr d) | _ => dialErr d) := by
  cases dc <;> cases g <;> rfl

/-- The net code of a failed dial. The plain guns hand over `OpError(…)`, inside a `*url.Error` when redirects are
followed: a `net.Error` either way, and the loop unwraps both. The CONNECT gun's `withStack` is not a `net.Error`, and
`errors.Cause` takes it off only when it is outermost. -/
theorem getErrno_dialFailure (g : GunKind) (dc cached redirect : Bool) (d : DialFail) :
    getErrno (dialFailure g dc cached redirect d) =
      match g, redirect, d with
      | .connect, false, .refused n => n
      | .connect, _, _ => 999
      | _, _, .refused n => if n = 11 ∨ n = 110 then 110 else n
      | _, _, .timedOut => 110 := by
  rw [dialFailure_eq]
  cases g <;> cases redirect <;> cases d <;>
    simp [clientErr, dialErr, getErrno, isNetError, hasTimeout, stripUnderlying, cause, unwrapLoop, timeoutErrno,
      protoCodeError]

/-- the chain, after `getErrno`'s unwrapping, ends in something that is not a `syscall.Errno` -/
def Unrecognised (e : Err) : Prop :=
  ∀ n, unwrapLoop (cause (stripUnderlying e)) = n → n = protoCodeError

/-! ### the one sample of a shot of the http gun -/

/-- the status `Shoot` leaves on the sample -/
def outcomeProto : HttpOutcome → Nat
  | .response st _ => st
  | _ => 0

/-- the net code `Shoot` leaves on the sample: `getErrno` of the error handed to `SetErr`, if any -/
def outcomeNet : HttpOutcome → Nat
  | .doErr e => getErrno e
  | .response _ (some e) => getErrno e
  | _ => 0

/-- the Connect hook lets the shot through: unset (the repo), or set and successful -/
theorem hook_unset {s : HttpShot} (h : s.connectHook = none) : s.connectHook ≠ some false := by simp [h]

theorem shootHttp_reports (cfg : AutoTagCfg) (s : HttpShot) (hc : s.connectHook ≠ some false) (hv : s.invalid = false) :
    (shootHttp cfg s).reports =
      [{ tags := httpTag cfg s.ammoTag s.path, id := s.id, proto := outcomeProto s.outcome, net := outcomeNet s.outcome }] := by
  unfold shootHttp
  split
  · exact absurd ‹_› hc
  · simp only [hv]
    cases s.outcome with
    | response st b => cases b <;> rfl
    | _ => rfl

theorem shootHttp_reports_invalid (cfg : AutoTagCfg) (s : HttpShot) (hc : s.connectHook ≠ some false)
    (hv : s.invalid = true) :
    (shootHttp cfg s).reports = [{ tags := addTag s.ammoTag Model.C10.emptyTag, id := s.id, proto := 0, net := 0 }] := by
  unfold shootHttp
  split
  · exact absurd ‹_› hc
  · simp [hv]

/-- the http gun reports exactly one sample and it carries the ammo's id -/
theorem shootHttp_one (cfg : AutoTagCfg) (s : HttpShot) (hc : s.connectHook = none) :
    ∃ r, (shootHttp cfg s).reports = [r] ∧ r.id = s.id := by
  cases hv : s.invalid with
  | true => exact ⟨_, shootHttp_reports_invalid cfg s (hook_unset hc) hv, rfl⟩
  | false => exact ⟨_, shootHttp_reports cfg s (hook_unset hc) hv, rfl⟩

/-! ### scenario loops -/

/-- no postprocessor of the scenario panics (that is property C19) -/
def NoPanic (steps : List Step) : Prop := ∀ s ∈ steps, ∀ st, s.outcome ≠ .received st .panic

/-- does the step let the scenario go on -/
def stepPasses (s : Step) : Bool :=
  match s.outcome with
  | .received _ .ok => true
  | _ => false

theorem stepPasses_iff (s : Step) : stepPasses s = true ↔ ∃ st, s.outcome = .received st .ok := by
  unfold stepPasses
  cases s.outcome with
  | received st post => cases post <;> simp
  | _ => simp

/-- a step that does not panic reports exactly its `stepSample` -/
theorem stepHttp_eq (scn : String) (s : Step) (h : ∀ st, s.outcome ≠ .received st .panic) :
    stepHttp scn s = ([stepSample scn s], stepPasses s, false) := by
  unfold stepHttp stepSample stepPasses
  cases ho : s.outcome with
  | received st post =>
    cases post with
    | panic => exact absurd ho (h st)
    | _ => rfl
  | _ => rfl

theorem executedSteps_cons (s : Step) (rest : List Step) :
    executedSteps (s :: rest) = if stepPasses s then executedSteps rest + 1 else 1 := by
  rw [executedSteps, stepPasses]
  cases s.outcome with
  | received st post => cases post <;> simp [Nat.add_comm]
  | _ => simp

/-- one turn of the step loop -/
theorem shootScenario_cons (scn : String) (s : Step) (rest : List Step) (h : ∀ st, s.outcome ≠ .received st .panic) :
    shootScenario scn (s :: rest) =
      if stepPasses s then { shootScenario scn rest with reports := stepSample scn s :: (shootScenario scn rest).reports }
      else { reports := [stepSample scn s] } := by
  rw [shootScenario, stepHttp_eq scn s h]
  cases stepPasses s <;> rfl

theorem executedSteps_le (steps : List Step) : executedSteps steps ≤ steps.length := by
  induction steps with
  | nil => simp [executedSteps]
  | cons s rest ih => rw [executedSteps_cons]; split <;> simp <;> omega

theorem shootScenario_reports (scn : String) (steps : List Step) (hp : NoPanic steps) :
    (shootScenario scn steps).reports = ((steps.take (executedSteps steps)).map (stepSample scn)) ∧
    (shootScenario scn steps).panicked = false := by
  induction steps with
  | nil => simp [shootScenario, executedSteps]
  | cons s rest ih =>
    obtain ⟨ih1, ih2⟩ := ih (fun t ht => hp t (List.mem_cons_of_mem _ ht))
    rw [shootScenario_cons scn s rest (hp s (List.mem_cons_self ..)), executedSteps_cons]
    cases stepPasses s <;> simp [ih1, ih2]

theorem shootScenario_length (scn : String) (steps : List Step)
    (hp : ∀ s ∈ steps, ∀ st, s.outcome ≠ .received st .panic) :
    (shootScenario scn steps).reports.length = executedSteps steps := by
  rw [(shootScenario_reports scn steps hp).1, List.length_map, List.length_take]
  exact Nat.min_eq_left (executedSteps_le steps)

/-- whatever a step reports is its `stepSample` (a panicking step reports nothing) -/
theorem eq_stepSample_of_mem (scn : String) (s : Step) (r : Sample) (h : r ∈ (stepHttp scn s).1) : r = stepSample scn s := by
  unfold stepHttp at h
  unfold stepSample
  cases ho : s.outcome with
  | received st post => cases post <;> simp_all
  | _ => simp_all

theorem stepSample_of_passed (scn : String) (s : Step) (st : Nat) (h : s.outcome = .received st .ok) :
    stepSample scn s = okSample scn s.name st := by
  simp [stepSample, h]

theorem stepSample_of_failed (scn : String) (s : Step) (h : stepPasses s = false) :
    stepSample scn s = errSample scn s.name := by
  unfold stepPasses at h
  unfold stepSample
  split <;> simp_all

/-- with or without a panic the reports are the samples of a prefix of the steps -/
theorem shootScenario_prefix (scn : String) (steps : List Step) :
    ∃ k, (shootScenario scn steps).reports = (steps.take k).map (stepSample scn) := by
  induction steps with
  | nil => exact ⟨0, rfl⟩
  | cons s rest ih =>
    by_cases hp : ∃ st, s.outcome = .received st .panic
    · obtain ⟨st, hp⟩ := hp
      exact ⟨0, by simp [shootScenario, stepHttp, hp]⟩
    · obtain ⟨k, hk⟩ := ih
      rw [shootScenario_cons scn s rest (fun st h => hp ⟨st, h⟩)]
      cases stepPasses s with
      | true => exact ⟨k + 1, by simp [hk]⟩
      | false => exact ⟨1, by simp⟩

/-- an element of the image of a prefix comes from the element at the same position -/
theorem getElem?_map_take {α β : Type} (f : α → β) (l : List α) (k i : Nat) (r : β)
    (h : ((l.take k).map f)[i]? = some r) : ∃ a, l[i]? = some a ∧ r = f a := by
  rw [List.getElem?_map, List.getElem?_take] at h
  split at h
  · obtain ⟨a, ha, rfl⟩ := Option.map_eq_some_iff.mp h
    exact ⟨a, ha, rfl⟩
  · simp at h

theorem shootScenario_getElem? (scn : String) (steps : List Step) (i : Nat) (r : Sample)
    (h : (shootScenario scn steps).reports[i]? = some r) : ∃ s, steps[i]? = some s ∧ r = stepSample scn s := by
  obtain ⟨k, hk⟩ := shootScenario_prefix scn steps
  exact getElem?_map_take _ steps k i r (hk ▸ h)

/-- every executed step but the last one passed -/
theorem executed_prefix_passed (steps : List Step) (i : Nat) (h : i + 1 < executedSteps steps) :
    ∃ s st, steps[i]? = some s ∧ s.outcome = .received st .ok := by
  induction steps generalizing i with
  | nil => simp [executedSteps] at h
  | cons s rest ih =>
    rw [executedSteps_cons] at h
    cases hs : stepPasses s with
    | false => simp [hs] at h
    | true =>
      simp only [hs, if_true] at h
      cases i with
      | zero => obtain ⟨st, ho⟩ := (stepPasses_iff s).mp hs; exact ⟨s, st, rfl, ho⟩
      | succ j => simpa using ih j (by omega)

/-- does the gRPC step let the scenario go on -/
def grpcStepPasses (s : GrpcStep) : Bool :=
  match s.outcome with
  | .invoked _ .ok => true
  | _ => false

/-- a gRPC step reports its `grpcStepSample` on every path -/
theorem stepGrpc_fst (scn : String) (s : GrpcStep) :
    (stepGrpc scn s).1 = [grpcStepSample scn s] ∧ (stepGrpc scn s).2.1 = grpcStepPasses s := by
  unfold stepGrpc grpcStepSample grpcStepPasses
  cases s.outcome with
  | invoked c post => cases post <;> exact ⟨rfl, rfl⟩
  | _ => exact ⟨rfl, rfl⟩

theorem executedGrpcSteps_cons (s : GrpcStep) (rest : List GrpcStep) :
    executedGrpcSteps (s :: rest) = if grpcStepPasses s then executedGrpcSteps rest + 1 else 1 := by
  rw [executedGrpcSteps, grpcStepPasses]
  cases s.outcome with
  | invoked c post => cases post <;> simp [Nat.add_comm]
  | _ => simp

theorem shootGrpcScenario_cons (scn : String) (s : GrpcStep) (rest : List GrpcStep) :
    (shootGrpcScenario scn (s :: rest)).reports =
      grpcStepSample scn s :: if grpcStepPasses s then (shootGrpcScenario scn rest).reports else [] := by
  obtain ⟨h1, h2⟩ := stepGrpc_fst scn s
  rw [shootGrpcScenario]
  rcases h : stepGrpc scn s with ⟨rs, go, p⟩
  rw [h] at h1 h2
  simp only at h1 h2
  subst h1 h2
  cases grpcStepPasses s <;> rfl

theorem executedGrpcSteps_le (steps : List GrpcStep) : executedGrpcSteps steps ≤ steps.length := by
  induction steps with
  | nil => simp [executedGrpcSteps]
  | cons s rest ih => rw [executedGrpcSteps_cons]; split <;> simp <;> omega

theorem shootGrpcScenario_reports (scn : String) (steps : List GrpcStep) :
    (shootGrpcScenario scn steps).reports = ((steps.take (executedGrpcSteps steps)).map (grpcStepSample scn)) := by
  induction steps with
  | nil => simp [shootGrpcScenario, executedGrpcSteps]
  | cons s rest ih =>
    rw [shootGrpcScenario_cons, executedGrpcSteps_cons]
    cases grpcStepPasses s <;> simp [ih]

theorem shootGrpcScenario_length (scn : String) (steps : List GrpcStep) :
    (shootGrpcScenario scn steps).reports.length = executedGrpcSteps steps := by
  rw [shootGrpcScenario_reports, List.length_map, List.length_take]
  exact Nat.min_eq_left (executedGrpcSteps_le steps)

/-! ### pauses of a step, and a cancellation during one -/

/-- the code's pause (`time.Sleep`): a cancellation changes nothing -/
theorem paused_sleeps (scn : String) : ∀ (steps : List Step) (c : Option Nat),
    shootScenarioPaused .sleeps scn c steps = shootScenario scn steps
  | [], c => by simp [shootScenarioPaused, shootScenario]
  | s :: rest, c => by
    unfold shootScenarioPaused shootScenario
    rcases h : stepHttp scn s with ⟨rs, go, p⟩
    cases go with
    | false => simp
    | true =>
      by_cases hc : c = some 0
      · simp [hc, paused_sleeps scn rest none]
      · simp [hc, paused_sleeps scn rest (c.map (· - 1))]

/-- "one sample per executed step, in order": the reports are the per-step samples of a prefix of the steps -/
def OnePerExecutedStep (scn : String) (steps : List Step) (r : ShotResult) : Prop :=
  ∃ k, k ≤ steps.length ∧ r.reports = (steps.take k).map (stepSample scn)

theorem paused_stopsQuietly (scn : String) : ∀ (steps : List Step) (c : Option Nat), NoPanic steps →
    OnePerExecutedStep scn steps (shootScenarioPaused .stopsQuietly scn c steps)
  | [], c, _ => ⟨0, by simp, by simp [shootScenarioPaused]⟩
  | s :: rest, c, hp => by
    have hs := stepHttp_eq scn s (hp s (List.mem_cons_self ..))
    have hrest : NoPanic rest := fun t ht => hp t (List.mem_cons_of_mem _ ht)
    unfold shootScenarioPaused
    rw [hs]
    cases hgo : stepPasses s with
    | false => exact ⟨1, by simp, by simp⟩
    | true =>
      by_cases hc : c = some 0
      · exact ⟨1, by simp, by simp [hc]⟩
      · obtain ⟨k, hk, hr⟩ := paused_stopsQuietly scn rest (c.map (· - 1)) hrest
        exact ⟨k + 1, by simp; omega, by simp [hc, hr]⟩

/-! ### redirect chains -/

theorem isRedirectStatus_eq (st : Nat) : Model.C10.isRedirectStatus st = Spec.C10.isRedirectStatus st := rfl

/-- ten requests: `k` redirects that lead on and then an exchange `o` give `o` while the request for `o` is still within
the limit, and the client's own error from then on -/
theorem followDo_replicate (o : HttpOutcome) : ∀ (k n : Nat), 1 ≤ n →
    followDo n (List.replicate k (.answer 302 .leadsOn) ++ [.last o]) = if k < n then o else clientGaveUp
  | 0, n, hn => by
    have : 0 < n := hn
    simp [followDo, this]
  | k + 1, n, hn => by
    have hr : Model.C10.isRedirectStatus 302 = true := by decide
    rw [List.replicate_succ, List.cons_append]
    unfold followDo
    simp only [hr, if_true]
    by_cases h1 : n ≤ 1
    · have : ¬ (k + 1 < n) := by omega
      simp [h1, this]
    · have ih := followDo_replicate o k (n - 1) (by omega)
      simp only [h1, if_false, ih]
      by_cases h2 : k < n - 1
      · have : k + 1 < n := by omega
        simp [h2, this]
      · have : ¬ (k + 1 < n) := by omega
        simp [h2, this]

/-! ### tags are never empty on the http guns -/

theorem addTag_ne_empty (a b : String) (hb : b ≠ "") : addTag a b ≠ "" := by
  unfold addTag
  split
  · exact hb
  · intro h
    have := congrArg String.length h
    simp [String.length_append] at this

theorem emptyTag_ne : Model.C10.emptyTag ≠ "" := by decide

theorem httpTag_ne_empty (cfg : AutoTagCfg) (t p : String) : httpTag cfg t p ≠ "" := by
  unfold httpTag
  generalize (if (cfg.enabled && (!cfg.noTagOnly || decide (t = ""))) = true then addTag t (autotag cfg.uriElements p) else t) = t1
  simp only
  by_cases h : t1 = ""
  · simp only [h, if_true]; exact addTag_ne_empty _ _ emptyTag_ne
  · simp only [h, if_false]; exact h

theorem stepTag_ne_empty (a b : String) : stepTag a b ≠ "" := by
  intro h
  have := congrArg String.length h
  simp [stepTag, String.length_append] at this

/-- the tag `reportErr` leaves on a failed step's sample -/
theorem errSample_tags (scn name : String) :
    (errSample scn name).tags = scn ++ "." ++ name ++ "|" ++ Model.C10.emptyTag := by
  simp only [errSample, addTag, stepTag_ne_empty scn name, if_false]
  rfl

/-! ### ids -/

/-- the ids handed out from `c`: the next one, then those handed out from the advanced counter -/
theorem ids_succ (c n : Nat) :
    (List.range' 1 (n + 1)).map (fun k => (c + k) % idModulus) =
      (nextID c).2 :: (List.range' 1 n).map (fun k => ((nextID c).1 + k) % idModulus) := by
  rw [List.range'_succ, List.map_cons, ← List.map_add_range' (a := 1), List.map_map]
  congr 1
  apply List.map_congr_left
  intro k _
  simp only [Function.comp, idModulus, nextID]
  omega

theorem runIds_snd {ι : Type} (c : Nat) (sched : List ι) :
    (runIds c sched).map Prod.snd = (List.range' 1 sched.length).map (fun k => (c + k) % idModulus) := by
  induction sched generalizing c with
  | nil => simp [runIds]
  | cons i rest ih => simp only [runIds, List.map_cons, List.length_cons, ih, ids_succ]

theorem runIds_fst {ι : Type} (c : Nat) (sched : List ι) :
    (runIds c sched).map Prod.fst = sched := by
  induction sched generalizing c with
  | nil => simp [runIds]
  | cons i rest ih => simp [runIds, ih]

/-- up to 2^64 consecutive values of a 64-bit counter are pairwise distinct -/
theorem ids_nodup (c n : Nat) (h : n ≤ idModulus) :
    ((List.range' 1 n).map (fun k => (c + k) % idModulus)).Nodup := by
  rw [List.Nodup, List.pairwise_map]
  have hp : (List.range' 1 n).Pairwise (· < ·) := List.pairwise_lt_range'
  refine List.Pairwise.imp_of_mem ?_ hp
  intro a b ha hb hab
  simp only [List.mem_range'_1] at ha hb
  simp only [idModulus] at h ⊢
  omega

theorem ids_small (c n : Nat) (h : c + n < idModulus) :
    (List.range' 1 n).map (fun k => (c + k) % idModulus) = List.range' (c + 1) n := by
  rw [← List.map_add_range' (a := c)]
  apply List.map_congr_left
  intro k hk
  simp only [List.mem_range'_1] at hk
  simp only [idModulus] at h ⊢
  rw [Nat.mod_eq_of_lt (by omega)]

theorem wrap_general (m : Nat) (hm : 1 < m) : ¬ ((List.range' 1 (m + 1)).map (fun k => (0 + k) % m)).Nodup := by
  intro h
  rw [List.Nodup, List.pairwise_iff_getElem] at h
  have := h 0 m (by simp) (by simp) (by omega)
  simp at this

/-- after 2^64 acquisitions the counter has wrapped and the first id is handed out again -/
theorem ids_wrap {ι : Type} (sched : List ι) (h : sched.length = idModulus + 1) :
    ¬ ((runIds 0 sched).map Prod.snd).Nodup := by
  rw [runIds_snd, h]
  exact wrap_general idModulus (by unfold idModulus; omega)

/-- the ids carried by the samples of a pool run are a sub-sequence of the ids handed out, one per FIRED ammo -/
theorem runPool_ids {ι : Type} (cfg : AutoTagCfg) (c : Nat) (plans : List (ι × ShotPlan)) :
    ((runPool cfg c plans).map (·.id)).Sublist ((List.range' 1 plans.length).map (fun k => (c + k) % idModulus)) ∧
    (runPool cfg c plans).length = (plans.filter (·.2.fired)).length := by
  induction plans generalizing c with
  | nil => simp [runPool]
  | cons ip rest ih =>
    obtain ⟨i, p⟩ := ip
    obtain ⟨r, hr, hid⟩ := shootHttp_one cfg (p.toShot (nextID c).2) rfl
    have hhead : (nextID c).2 = r.id := hid.symm
    simp only [runPool, List.length_cons, ids_succ]
    by_cases hf : p.fired = true
    · simp only [hf, if_true, hr, List.cons_append, List.nil_append, List.map_cons, List.length_cons]
      refine ⟨?_, by simp [List.filter, hf, (ih (nextID c).1).2]⟩
      rw [← hhead]
      exact List.Sublist.cons_cons _ (ih (nextID c).1).1
    · simp only [hf]
      refine ⟨List.Sublist.cons _ (ih (nextID c).1).1, by simp [List.filter, hf, (ih (nextID c).1).2]⟩

/-- no gun sample of a run that does not wrap the counter carries the id 0 (which the discarded-shot sample carries) -/
theorem runPool_ids_pos {ι : Type} (cfg : AutoTagCfg) (c : Nat) (plans : List (ι × ShotPlan))
    (h : c + plans.length < idModulus) : ∀ s ∈ runPool cfg c plans, c < s.id ∧ s.id ≤ c + plans.length := by
  intro s hs
  have hsub := (runPool_ids cfg c plans).1
  have hmem : s.id ∈ (runPool cfg c plans).map (·.id) := List.mem_map.mpr ⟨s, hs, rfl⟩
  have := hsub.subset hmem
  simp only [List.mem_map, List.mem_range'_1] at this
  obtain ⟨k, ⟨hk1, hk2⟩, hk⟩ := this
  have : (c + k) % idModulus = c + k := Nat.mod_eq_of_lt (by omega)
  omega

theorem pow64 : (2 : Nat) ^ 64 = idModulus := by decide

theorem runIdsW_64 {ι : Type} (c : Nat) (sched : List ι) : runIdsW 64 c sched = runIds c sched := by
  induction sched generalizing c with
  | nil => simp [runIdsW, runIds]
  | cons i rest ih => simp only [runIdsW, runIds, nextIDw, nextID, pow64, ih]

/-- far into a run: as long as the counter does not wrap, the stretch's ids are `start+1 … start+n` -/
theorem ids_after_start {ι : Type} (start : Nat) (sched : List ι) (h : start + sched.length < idModulus) :
    ∀ id ∈ (runIds start sched).map Prod.snd, start < id ∧ id ≤ start + sched.length := by
  intro id hid
  rw [runIds_snd, ids_small start _ h] at hid
  simp only [List.mem_range'_1] at hid
  omega

end Pandora.Proofs.C10
