/-
C15 helper lemmas: the small-step system of `NextIterator.Next` (Model.C15 §7). Under every schedule the mutex
admits one thread between `Lock` and `Unlock`, and every counter hands out 0, 1, 2, … in the order its calls return.
-/
import Pandora.Model.C15
import Pandora.Spec.C15

namespace Pandora.Proofs.C15
open Pandora.Model.C15

/-! ### the counter map -/

theorem gsRead_nil (key : CKey) : gsRead [] key = none := rfl

theorem gsRead_cons (k : CKey) (c : Nat) (rest : List (CKey × Nat)) (key : CKey) :
    gsRead ((k, c) :: rest) key = if k = key then some c else gsRead rest key := by
  unfold gsRead
  by_cases h : k = key
  · simp [h]
  · have : (k == key) = false := by simpa using h
    simp [h, this]

theorem gsRead_append_new (gs : List (CKey × Nat)) (key key' : CKey) (h : gsRead gs key = none) :
    gsRead (gs ++ [(key, 0)]) key' = if key' = key then some 0 else gsRead gs key' := by
  unfold gsRead at h ⊢
  rw [List.find?_append]
  by_cases hk : key' = key
  · subst hk
    simp [Option.map_eq_none_iff.mp h]
  · have : (key == key') = false := by simpa using fun e => hk e.symm
    simp [hk, this]

theorem gsRead_map_bump (gs : List (CKey × Nat)) (key key' : CKey) (c' : Nat) :
    gsRead (gs.map fun e => if e.1 == key then (e.1, c') else e) key' =
      if key' = key then (gsRead gs key).map (fun _ => c') else gsRead gs key' := by
  -- the update keeps every entry's key: the same entry is found, then updated
  have hp : ((·.1 == key') ∘ fun e : CKey × Nat => if e.1 == key then (e.1, c') else e) = (·.1 == key') := by
    funext e; by_cases h : e.1 = key <;> simp [h]
  unfold gsRead
  rw [List.find?_map, hp]
  by_cases hk : key' = key
  · subst hk
    cases hf : gs.find? (·.1 == key') with
    | none => simp
    | some e =>
      have he : e.1 = key' := by simpa using List.find?_some hf
      simp [he]
  · cases hf : gs.find? (·.1 == key') with
    | none => simp [hk]
    | some e =>
      have he : e.1 = key' := by simpa using List.find?_some hf
      have : ¬ e.1 = key := he ▸ hk
      simp [hk, this]
/-- what a read-then-write does to the map, seen through reads -/
theorem gsWrite_read (gs : List (CKey × Nat)) (key key' : CKey) :
    gsRead (gsWrite gs key (gsRead gs key)).2 key' =
      if key' = key then some (gsWrite gs key (gsRead gs key)).1 else gsRead gs key' := by
  cases h : gsRead gs key with
  | none => simp only [gsWrite]; rw [gsRead_append_new gs key key' h]
  | some c =>
    simp only [gsWrite]
    rw [gsRead_map_bump, h]
    rfl

theorem gsWrite_val (gs : List (CKey × Nat)) (key : CKey) (cur : Option Nat) :
    (gsWrite gs key cur).1 = match cur with | none => 0 | some c => c + 1 := by
  cases cur <;> rfl

/-! ### the invariant -/

theorem upd_same {α} (f : Nat → α) (t : Nat) (a : α) : upd f t a t = a := by simp [upd]
theorem upd_other {α} (f : Nat → α) (t t' : Nat) (a : α) (h : t' ≠ t) : upd f t a t' = f t' := by simp [upd, h]

theorem vals_snoc (log : List (CKey × Nat × Nat)) (key key' : CKey) (t v : Nat) :
    logVals (log ++ [(key, t, v)]) key' = if key = key' then logVals log key' ++ [v] else logVals log key' := by
  unfold logVals
  by_cases h : key = key'
  · simp [List.filter_append, h]
  · have : (key == key') = false := by simpa using h
    simp [List.filter_append, h, this]

theorem valsOf_snoc (log : List (CKey × Nat × Nat)) (key : CKey) (t t' v : Nat) :
    logValsOf (log ++ [(key, t, v)]) t' = if t = t' then logValsOf log t' ++ [v] else logValsOf log t' := by
  unfold logValsOf
  by_cases h : t = t'
  · simp [List.filter_append, h]
  · have : (t == t') = false := by simpa using h
    simp [List.filter_append, h, this]

/-- a counter that has handed out 0, 1, 2, … still has after handing out its next number -/
theorem seq_snoc {log : List (CKey × Nat × Nat)} (hseq : ∀ key, logVals log key = List.range (logVals log key).length)
    (key : CKey) (t v : Nat) (hv : v = (logVals log key).length) (key' : CKey) :
    logVals (log ++ [(key, t, v)]) key' = List.range (logVals (log ++ [(key, t, v)]) key').length := by
  rw [vals_snoc]
  by_cases hk : key = key'
  · subst hk
    rw [if_pos rfl, List.length_append, List.length_singleton, List.range_succ, ← hseq key, hv]
  · rw [if_neg hk]; exact hseq key'

structure NInv (s : NSys) : Prop where
  /-- mutual exclusion: whoever is between `Lock` and `Unlock` holds the mutex -/
  excl : ∀ t, s.pcs t ≠ .idle → s.holder = some t
  readOK : ∀ t key c, s.pcs t = .read key c → c = gsRead s.gs key
  /-- with no write pending on it, a counter stores (number of values handed out) − 1, and is absent before its first call -/
  quiet : ∀ key, (∀ t v, s.pcs t ≠ .wrote key v) →
      gsRead s.gs key = if (logVals s.log key).length = 0 then none else some ((logVals s.log key).length - 1)
  /-- a pending return value is the next number of its counter -/
  pending : ∀ t key v, s.pcs t = .wrote key v → v = (logVals s.log key).length ∧ gsRead s.gs key = some v
  /-- every counter has handed out 0, 1, 2, … in order -/
  seq : ∀ key, logVals s.log key = List.range (logVals s.log key).length
  /-- a thread has received exactly the values the log attributes to it -/
  gotOK : ∀ t, s.got t = logValsOf s.log t

theorem NInv_init : NInv NSys.init where
  excl := by intro t h; exact absurd rfl h
  readOK := by intro t key c h; cases h
  quiet := by intro key _; rfl
  pending := by intro t key v h; cases h
  seq := by intro key; rfl
  gotOK := by intro t; rfl

/-- under the invariant at most one thread is not idle -/
theorem NInv.other_idle {s : NSys} (h : NInv s) {t t' : Nat} (ht : s.pcs t ≠ .idle) (hne : t' ≠ t) : s.pcs t' = .idle := by
  by_cases hi : s.pcs t' = .idle
  · exact hi
  · have h1 := h.excl t ht
    have h2 := h.excl t' hi
    rw [h1] at h2
    exact absurd (Option.some.inj h2).symm hne

/-- when every thread but `t` is idle, a thread that is not idle after `t` moved to `x` is `t` itself, at `x` -/
theorem only_mover {pcs : Nat → NPc} {t : Nat} {x : NPc} (hoth : ∀ t', t' ≠ t → pcs t' = .idle) {t' : Nat} {y : NPc}
    (h : upd pcs t x t' = y) (hy : y ≠ .idle) : t' = t ∧ x = y := by
  by_cases e : t' = t
  · subst e; exact ⟨rfl, (upd_same _ _ _).symm.trans h⟩
  · rw [upd_other _ _ _ _ e, hoth t' e] at h; exact absurd h.symm hy

theorem NInv_step (prog : NProg) (s : NSys) (t : Nat) (h : NInv s) : NInv (s.step prog t) := by
  unfold NSys.step
  split
  · -- idle
    rename_i hpc
    split
    · rename_i key hprog hhold
      -- Lock succeeds: everybody else is idle
      have hoth : ∀ t', t' ≠ t → s.pcs t' = .idle := fun t' _ => by
        by_cases hi : s.pcs t' = .idle
        · exact hi
        · have := h.excl t' hi; rw [hhold] at this; cases this
      refine ⟨fun t' hne => ?_, fun t' key' c hr => ?_, fun key' _ => ?_, fun t' key' v hw => ?_, h.seq, h.gotOK⟩
      · rw [(only_mover hoth rfl hne).1]
      · cases (only_mover hoth hr nofun).2
      · refine h.quiet key' fun t' v hw => ?_
        by_cases e : t' = t
        · rw [e, hpc] at hw; cases hw
        · rw [hoth t' e] at hw; cases hw
      · cases (only_mover hoth hw nofun).2
    · exact h
  · -- locked → read
    rename_i key hpc
    have hne : s.pcs t ≠ .idle := by rw [hpc]; nofun
    have hoth : ∀ t', t' ≠ t → s.pcs t' = .idle := fun t' e => h.other_idle hne e
    refine ⟨fun t' hn => ?_, fun t' key' c hr => ?_, fun key' _ => ?_, fun t' key' v hw => ?_, h.seq, h.gotOK⟩
    · rw [(only_mover hoth rfl hn).1]; exact h.excl _ hne
    · cases (only_mover hoth hr nofun).2; rfl
    · refine h.quiet key' fun t' v hw => ?_
      by_cases e : t' = t
      · rw [e, hpc] at hw; cases hw
      · rw [hoth t' e] at hw; cases hw
    · cases (only_mover hoth hw nofun).2
  · -- read → wrote
    rename_i key cur hpc
    have hne : s.pcs t ≠ .idle := by rw [hpc]; nofun
    have hoth : ∀ t', t' ≠ t → s.pcs t' = .idle := fun t' e => h.other_idle hne e
    have hcur : cur = gsRead s.gs key := h.readOK t key cur hpc
    have noWrite : ∀ key' t' v, s.pcs t' ≠ .wrote key' v := by
      intro key' t' v hw
      by_cases e : t' = t
      · rw [e, hpc] at hw; cases hw
      · rw [hoth t' e] at hw; cases hw
    have hq := h.quiet key (noWrite key)
    subst hcur
    have hread := gsWrite_read s.gs key
    have hval := gsWrite_val s.gs key (gsRead s.gs key)
    refine ⟨fun t' hn => ?_, fun t' key' c hr => ?_, fun key' hnw => ?_, fun t' key' v hw => ?_, h.seq, h.gotOK⟩
    · rw [(only_mover hoth rfl hn).1]; exact h.excl _ hne
    · cases (only_mover hoth hr nofun).2
    · have hk : key' ≠ key := by
        intro e; subst e
        exact hnw t _ (upd_same _ _ _)
      show gsRead (gsWrite s.gs key (gsRead s.gs key)).2 key' = _
      rw [hread key', if_neg hk]
      exact h.quiet key' (noWrite key')
    · cases (only_mover hoth hw nofun).2
      show (gsWrite s.gs key (gsRead s.gs key)).1 = _ ∧ gsRead (gsWrite s.gs key (gsRead s.gs key)).2 key = _
      refine ⟨?_, by rw [hread key, if_pos rfl]⟩
      show _ = (logVals s.log key).length
      rw [hval, hq]
      by_cases h0 : (logVals s.log key).length = 0
      · simp [h0]
      · simp only [h0, if_false]; omega
  · -- wrote → idle (Unlock, return)
    rename_i key v hpc
    have hne : s.pcs t ≠ .idle := by rw [hpc]; nofun
    have hoth : ∀ t', t' ≠ t → s.pcs t' = .idle := fun t' e => h.other_idle hne e
    obtain ⟨hv, hg⟩ := h.pending t key v hpc
    refine ⟨fun t' hn => ?_, fun t' key' c hr => ?_, fun key' _ => ?_, fun t' key' v' hw => ?_, fun key' => ?_, fun t' => ?_⟩
    · exact absurd (only_mover hoth rfl hn).2.symm hn
    · cases (only_mover hoth hr nofun).2
    · show gsRead s.gs key' = if (logVals (s.log ++ [(key, t, v)]) key').length = 0 then none
        else some ((logVals (s.log ++ [(key, t, v)]) key').length - 1)
      rw [vals_snoc]
      by_cases hk : key = key'
      · subst hk
        rw [if_pos rfl, hg, hv]
        simp
      · rw [if_neg hk]
        refine h.quiet key' fun t' v' hw => ?_
        by_cases e : t' = t
        · rw [e, hpc] at hw; cases hw; exact hk rfl
        · rw [hoth t' e] at hw; cases hw
    · cases (only_mover hoth hw nofun).2
    · exact seq_snoc h.seq key t v hv key'
    · show upd s.got t (s.got t ++ [v]) t' = logValsOf (s.log ++ [(key, t, v)]) t'
      rw [valsOf_snoc]
      by_cases e : t = t'
      · subst e; rw [if_pos rfl, upd_same, h.gotOK t]
      · rw [if_neg e, upd_other _ _ _ _ (fun x => e x.symm), h.gotOK t']

theorem NInv_run (prog : NProg) (sched : List Nat) : ∀ (s : NSys), NInv s → NInv (s.run prog sched) := by
  induction sched with
  | nil => intro s h; exact h
  | cons t rest ih => intro s h; exact ih _ (NInv_step prog s t h)

/-! ### the executable round-robin predicate of the Spec holds of `k ↦ k mod L` -/

theorem succ_div_mod (n L : Nat) (hL : 0 < L) :
    (n % L + 1 < L ∧ (n + 1) / L = n / L ∧ (n + 1) % L = n % L + 1) ∨
    (n % L + 1 = L ∧ (n + 1) / L = n / L + 1 ∧ (n + 1) % L = 0) := by
  have hq := Nat.div_add_mod n L
  have hm := Nat.mod_lt n hL
  by_cases h : n % L + 1 < L
  · left
    have e : n + 1 = L * (n / L) + (n % L + 1) := by omega
    refine ⟨h, ?_, ?_⟩
    · rw [e, Nat.mul_add_div hL, Nat.div_eq_of_lt h]; rfl
    · rw [e, Nat.mul_add_mod, Nat.mod_eq_of_lt h]
  · right
    have h' : n % L + 1 = L := by omega
    have e : n + 1 = L * (n / L + 1) := by rw [Nat.mul_add, Nat.mul_one]; omega
    refine ⟨h', ?_, ?_⟩
    · rw [e, Nat.mul_div_cancel_left _ hL]
    · rw [e, Nat.mul_mod_right]

theorem count_mod_range (L r : Nat) (hL : 0 < L) (hr : r < L) : ∀ n,
    Spec.C15.count r ((List.range n).map (· % L)) = n / L + (if r < n % L then 1 else 0)
  | 0 => by simp [Spec.C15.count, Nat.zero_mod]
  | n + 1 => by
    have ih := count_mod_range L r hL hr n
    unfold Spec.C15.count at ih ⊢
    rw [List.range_succ, List.map_append, List.filter_append, List.length_append, ih]
    have hm := Nat.mod_lt n hL
    rcases succ_div_mod n L hL with ⟨h1, h2, h3⟩ | ⟨h1, h2, h3⟩
    · rw [h2, h3]
      by_cases e : n % L = r
      · have : (n % L == r) = true := by simpa using e
        simp [this]; split <;> split <;> omega
      · have : (n % L == r) = false := by simpa using e
        simp [this]; split <;> split <;> omega
    · rw [h2, h3]
      by_cases e : n % L = r
      · have : (n % L == r) = true := by simpa using e
        simp [this]; omega
      · have : (n % L == r) = false := by simpa using e
        simp [this]; omega

/-- the row a drawn value selects is the value modulo the number of rows -/
theorem rowOf_eq (L i : Nat) : rowOf L i = i % L := by
  unfold rowOf
  split
  · rfl
  · exact (Nat.mod_eq_of_lt (by omega)).symm

/-- a list that counts 0, 1, 2, … holds `k` at position `k` -/
theorem getElem_of_eq_range {l : List Nat} (h : l = List.range l.length) (k : Nat) (hk : k < l.length) : l[k] = k := by
  have : l[k] = (List.range l.length)[k]'(by simpa using hk) := by congr 1
  rw [this, List.getElem_range]

theorem roundRobinOK_range (L n : Nat) (hL : 0 < L) :
    Spec.C15.roundRobinOK L ((List.range n).map (· % L)) = true := by
  unfold Spec.C15.roundRobinOK
  have h0 : (L == 0) = false := by simpa using Nat.ne_of_gt hL
  simp only [h0, Bool.false_eq_true, if_false, List.length_map, List.length_range, List.all_eq_true, List.mem_range]
  intro r hr
  rw [count_mod_range L r hL hr n]
  simp

end Pandora.Proofs.C15
