/-
Proofs C16: line terminators.

* `replaceAll_crlf`      `strings.ReplaceAll(s, "\r\n", "\n")` (the generic model of the regenerated step) is `crlfToLf`;
* `crlfToLf_saveMixed`   a text without carriage returns, saved with ANY subset of its line terminators as CR LF, is read
                         back as the text;
* `crlfToLf_toCrlf`      a text saved with CR LF throughout is read back as the text — whatever it contains (also lone
                         carriage returns and CR LF pairs of its own);
* `crlfToLf_id`          a text without carriage returns is not touched.
-/
import Pandora.Model.C16Text

namespace Pandora.Proofs.C16
open Pandora.Model.C16

theorem crlfToLf_crlf (s : List Char) : crlfToLf ('\r' :: '\n' :: s) = '\n' :: crlfToLf s :=
  crlfToLf.eq_2 s

theorem crlfToLf_cons_ne (c : Char) (s : List Char) (h : c ≠ '\r') : crlfToLf (c :: s) = c :: crlfToLf s :=
  crlfToLf.eq_3 c s (fun _ hc _ => h hc)

theorem crlfToLf_cons_not_before_lf (c : Char) (s : List Char) (h : ∀ r, s ≠ '\n' :: r) : crlfToLf (c :: s) = c :: crlfToLf s :=
  crlfToLf.eq_3 c s (fun r _ hs => h r hs)

theorem replaceAllAux_crlf (s : List Char) : replaceAllAux ['\r', '\n'] ['\n'] 0 s = crlfToLf s := by
  fun_induction crlfToLf s with
  | case1 => simp [replaceAllAux]
  | case2 cs ih => simp [replaceAllAux, List.isPrefixOf, ih]
  | case3 c cs hne ih =>
    have hp : List.isPrefixOf ['\r', '\n'] (c :: cs) = false := by
      cases cs with
      | nil => simp [List.isPrefixOf]
      | cons d r =>
        by_cases hc : c = '\r'
        · by_cases hd : d = '\n'
          · exact absurd (by rw [hd]) (hne r hc)
          · have hd' : ('\n' == d) = false := by
              simp only [beq_eq_false_iff_ne, ne_eq]
              exact fun e => hd e.symm
            simp [List.isPrefixOf, hd']
        · have hc' : ('\r' == c) = false := by
            simp only [beq_eq_false_iff_ne, ne_eq]
            exact fun e => hc e.symm
          simp [List.isPrefixOf, hc']
    simp [replaceAllAux, hp, ih]

/-- the regenerated step of `ParseHCLFile`, in closed form -/
theorem replaceAll_crlf (s : List Char) : replaceAll "\r\n".toList "\n".toList s = crlfToLf s := by
  have h1 : "\r\n".toList = ['\r', '\n'] := by decide
  have h2 : "\n".toList = ['\n'] := by decide
  rw [h1, h2]
  unfold replaceAll
  simp [replaceAllAux_crlf]

theorem crlfToLf_saveMixed (fl : List Bool) (t : List Char) (h : '\r' ∉ t) : crlfToLf (saveMixed fl t) = t := by
  induction t generalizing fl with
  | nil => simp [saveMixed, crlfToLf]
  | cons c cs ih =>
    have hc : c ≠ '\r' := fun e => h (by rw [e]; exact List.mem_cons_self)
    have hcs : '\r' ∉ cs := fun m => h (List.mem_cons_of_mem _ m)
    unfold saveMixed
    by_cases hn : c = '\n'
    · subst hn
      simp only [if_true]
      cases fl with
      | nil => simp only []; rw [crlfToLf_cons_ne _ _ (by decide), ih [] hcs]
      | cons b fl' =>
        cases b with
        | true => simp only []; rw [crlfToLf_crlf, ih fl' hcs]
        | false => simp only []; rw [crlfToLf_cons_ne _ _ (by decide), ih fl' hcs]
    · simp only [hn, if_false]
      rw [crlfToLf_cons_ne _ _ hc, ih fl hcs]

theorem toCrlf_not_lf_cons (cs r : List Char) : toCrlf cs ≠ '\n' :: r := by
  cases cs with
  | nil => simp [toCrlf]
  | cons c cs =>
    unfold toCrlf
    by_cases hn : c = '\n'
    · simp [hn]
    · simp only [hn, if_false]
      intro e
      exact hn (List.cons.inj e).1

theorem crlfToLf_toCrlf (t : List Char) : crlfToLf (toCrlf t) = t := by
  induction t with
  | nil => simp [toCrlf, crlfToLf]
  | cons c cs ih =>
    unfold toCrlf
    by_cases hn : c = '\n'
    · simp only [hn, if_true]
      rw [crlfToLf_crlf, ih]
    · simp only [hn, if_false]
      rw [crlfToLf_cons_not_before_lf c _ (toCrlf_not_lf_cons cs), ih]

theorem crlfToLf_id (t : List Char) (h : '\r' ∉ t) : crlfToLf t = t := by
  induction t with
  | nil => simp [crlfToLf]
  | cons c cs ih =>
    have hc : c ≠ '\r' := fun e => h (by rw [e]; exact List.mem_cons_self)
    have hcs : '\r' ∉ cs := fun m => h (List.mem_cons_of_mem _ m)
    rw [crlfToLf_cons_ne _ _ hc, ih hcs]

end Pandora.Proofs.C16
