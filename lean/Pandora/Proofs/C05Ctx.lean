/-
C05 — who cancels the contexts of a pool.  The caller's cancel cancels the pool context; the run context is cancelled
by the caller, by the return of `Pool.Run` (its deferred `cancel()`), or by `checkAllInstancesAreFinished` once every
started instance was awaited — and that is also the only place where `runRes` is closed.  Consequence: an instance
that is still shooting sees its context cancelled only after the caller's cancel or after `Pool.Run` has returned
without success; in a run nobody cancels that ends successfully no instance is ever stopped by a cancelled context.
-/
import Pandora.Proofs.C05Inv

namespace Pandora.Proofs.C05
open Pandora.Model.C05

structure InvK (s : State) : Prop where
  /-- the caller's cancel is remembered -/
  ext : s.extC = true → s.poolC = true
  /-- once the await goroutine exists, `ah.runRes == nil` means `checkAllInstancesAreFinished` has run to its end,
  and that cancelled the run context -/
  closed : s.aw ≠ .off → s.runResOpen = false → s.runC = true
  run : s.runC = true → s.extC = true ∨ (∃ r, s.main = .returned r) ∨ (s.aw ≠ .off ∧ s.runResOpen = false)

theorem invK_init : InvK init := ⟨nofun, fun h => absurd rfl h, nofun⟩

/-- the await goroutine moves on: only its program counter changes -/
theorem InvK.aw {s : State} (h : InvK s) (hon : s.aw ≠ .off) (a : AwPc) (ha : a ≠ .off) : InvK { s with aw := a } :=
  { h with closed := fun _ => h.closed hon
           run := fun hr => (h.run hr).imp_right (Or.imp_right fun hc => ⟨ha, hc.2⟩) }

theorem k_finish (s : State) (h : InvK s) : InvK (finish s) := by
  unfold finish
  split
  · next hf =>
    exact { h with closed := fun _ => h.closed (by rw [hf.1]; nofun)
                   run := fun hr => (h.run hr).imp_right (Or.imp_right fun hc => ⟨nofun, hc.2⟩) }
  · exact h

theorem k_checkAll (s : State) (h : InvK s) (hl : s.aw ≠ .off) : InvK (checkAll s) := by
  unfold checkAll
  repeat' split
  · exact { h with }
  · exact { h with }
  · exact { h with closed := fun _ _ => rfl, run := fun _ => .inr (.inr ⟨hl, rfl⟩) }
  · exact h

theorem k_afterErr (s : State) (chk : Bool) (h : InvK s) (hon : s.aw ≠ .off) : InvK (afterErr s chk) := by
  unfold afterErr
  apply k_finish
  split
  · exact k_checkAll _ (h.aw hon _ nofun) nofun
  · exact h.aw hon _ nofun

theorem k_handleRes (s : State) (w : Wrap) (r : Ret) (done chk : Bool) (h : InvK s) (hon : s.aw ≠ .off) :
    InvK (handleRes s w r done chk) := by
  unfold handleRes
  split
  · exact k_afterErr _ _ h hon
  · exact h.aw hon _ nofun

theorem invK_mainReturn (s : State) (r : PRes) : InvK (mainReturn s r) :=
  ⟨fun _ => rfl, fun _ _ => rfl, fun _ => .inr (.inl ⟨r, rfl⟩)⟩

/-- each step keeps `InvK`, and none resets the run context -/
theorem step_invK (cfg : Cfg) (s : State) (c : Choice) (ha : InvA s) (h : InvK s) :
    InvK (step cfg s c) ∧ (s.runC = true → (step cfg s c).runC = true) := by
  cases c with
  | extCancel => exact ⟨⟨fun _ => rfl, fun _ _ => rfl, fun _ => .inl rfl⟩, fun _ => rfl⟩
  | warm o =>
    simp only [step]; split
    · next hm =>
      cases o with
      | ok c =>
        have hnr : (∃ r, s.main = .returned r) → False := fun ⟨_, hm'⟩ => by rw [hm] at hm'; cases hm'
        exact ⟨{ h with run := fun hr => (h.run hr).imp_right (Or.imp_left fun hc => (hnr hc).elim) }, id⟩
      | _ => exact ⟨invK_mainReturn _ _, fun _ => rfl⟩
    · exact ⟨h, id⟩
  | sched o =>
    simp only [step]; split
    · next hm =>
      cases o with
      | none =>
        have hnr : (∃ r, s.main = .returned r) → False := fun ⟨_, hm'⟩ => by rw [hm] at hm'; cases hm'
        have hoff := (ha.1.pre2 (.inr hm)).1
        exact ⟨{ h with
          closed := fun _ => nofun
          run := fun hr => (h.run hr).imp_right fun hc => hc.elim (fun hc => (hnr hc).elim) (absurd hoff ·.1) }, id⟩
      | some e => exact ⟨invK_mainReturn _ _, fun _ => rfl⟩
    · exact ⟨h, id⟩
  | provRet r | aggRet r => simp only [step, addErr_eq]; split <;> exact ⟨{ h with }, id⟩
  | rpsFinished | startTick | startEnd => simp only [step]; split <;> exact ⟨{ h with }, id⟩
  | startFirst o =>
    simp only [step]; split
    · cases o <;> exact ⟨{ h with }, id⟩
    · exact ⟨h, id⟩
  | instCreate i o =>
    simp only [step]; split
    · next k hl =>
      cases o with
      | ok c => exact ⟨{ h with }, id⟩
      | _ => dsimp only; rw [sendRes_live ha hl]; exact ⟨{ h with }, id⟩
    · exact ⟨h, id⟩
  | instRet i r =>
    simp only [step, addErr_eq]; split
    · next k g hl =>
      split
      · exact ⟨h, id⟩
      · rw [sendRes_live ha hl]; exact ⟨{ h with }, id⟩
    · exact ⟨h, id⟩
  | awaitProv | awaitAgg =>
    simp only [step]; split
    · next r hl _ =>
      exact ⟨k_handleRes _ _ _ _ _ { h with } (by rw [hl]; nofun), fun hr => (same_handleRes _ _ _ _ _).2.1 hr⟩
    · exact ⟨h, id⟩
  | awaitStart =>
    simp only [step]; split
    · next n r hl _ _ =>
      exact ⟨k_handleRes _ _ _ _ _ { h with } (by rw [hl]; nofun), fun hr => (same_handleRes _ _ _ _ _).2.1 hr⟩
    · exact ⟨h, id⟩
  | awaitRun =>
    simp only [step]; split
    · next k r rest hl _ _ =>
      have hon : s.aw ≠ .off := by rw [hl]; nofun
      split
      · split <;> exact ⟨k_afterErr _ _ { h with } hon, fun hr => (same_afterErr _ _).2.1 hr⟩
      · exact ⟨k_handleRes _ _ _ _ _ { h with } hon, fun hr => (same_handleRes _ _ _ _ _).2.1 hr⟩
    · exact ⟨h, id⟩
  | errDeliver =>
    simp only [step]; split
    · next w r chk hl _ =>
      exact ⟨k_afterErr _ _ (invK_mainReturn s _) (by rw [show (mainReturn s _).aw = s.aw from rfl, hl]; nofun),
        fun _ => (same_afterErr _ _).2.1 rfl⟩
    · exact ⟨h, id⟩
  | errSuppress =>
    simp only [step]; split
    · next w r chk hl =>
      generalize (if cfg.fixSelect = true then s.poolC else s.runC) = b
      cases b
      · exact ⟨h, id⟩
      · exact ⟨k_afterErr _ _ h (by rw [hl]; nofun), fun hr => (same_afterErr _ _).2.1 hr⟩
    · exact ⟨h, id⟩
  | mainCancel | mainClosed =>
    simp only [step]; split
    · exact ⟨invK_mainReturn _ _, fun _ => rfl⟩
    · exact ⟨h, id⟩

theorem run_invK (cfg : Cfg) (cs : List Choice) : InvK (run cfg cs) :=
  run_induction cfg invK_init (fun s c ha h => (step_invK cfg s c ha h).1) cs

end Pandora.Proofs.C05
