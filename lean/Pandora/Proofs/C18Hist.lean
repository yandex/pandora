/-
C18 — histories: several phases (creations) on one registration.  Monotone allocation frontier, frame (a phase never
touches a configuration object that existed before it started, unless the default-config function itself shares one),
and from these the cross-phase statements.
-/
import Pandora.Proofs.C18Ext

set_option linter.unusedSimpArgs false

namespace Pandora.Proofs.C18
open Pandora.Model.C18 Pandora.Spec.C18

/-! ### one phase: frontier and frame -/

/-- the frontier never moves back, and (unless the default-config function shares one object) a phase touches no
configuration object that existed when it started -/
theorem phase_frame (inp : Input) (st : St) (hs : inp.sh.dflt ≠ .shared) :
    st.next ≤ (phaseSt inp st).1.next ∧ ∀ c, c < st.next → (phaseSt inp st).1.heap c = st.heap c := by
  -- invariant of every intermediate state
  let I : St → Prop := fun s => st.next ≤ s.next ∧ ∀ c, c < st.next → s.heap c = st.heap c
  have hI0 : I (st0 st) := ⟨Nat.le_refl _, fun _ _ => rfl⟩
  have hcall : ∀ (doGet vf pan : Bool) (r : St × Step) (s : St),
      tri r = callSpec inp.sh inp.w doGet vf pan s → I s → I r.1 := by
    intro doGet vf pan r s hf hIs
    obtain ⟨t1, t2, _⟩ := tri_step hf
    obtain ⟨c1, c2⟩ := callSpec_frame inp.sh inp.w doGet vf pan s hs
    refine ⟨by rw [t2]; exact Nat.le_trans hIs.1 c1, fun c hc => ?_⟩
    rw [t1, c2 c (Nat.lt_of_lt_of_le hc hIs.1)]
    exact hIs.2 c hc
  suffices h : I (phaseSt inp st).1 from h
  rcases phase_state inp st with ⟨_, hst⟩ | ⟨_, hn, hcr⟩
  · rw [hst]
    exact (iter_inv (step (regNew inp.sh inp.w)) I (fun _ => True)
      (fun s hIs => ⟨hcall true inp.sh.factory false _ s (step_regNew inp.sh inp.w s) hIs, trivial⟩)
      inp.k (st0 st) hI0).1
  · obtain ⟨q1, q2, _, q4⟩ := quad_proj (create_eq inp.sh inp.w inp.form.numOut (st0 st) rfl)
    obtain ⟨f1, f2, f3⟩ := createSpec_frame inp.sh inp.w inp.form.numOut (st0 st) hs
    have hIc : I (created inp st).1 := ⟨by rw [q2]; exact f1, fun c hc => by rw [q1]; exact f2 c hc⟩
    rcases hcr with ⟨e, _, hst⟩ | ⟨fac, hfac, hst⟩
    · rw [hst]; exact hIc
    · rw [hst]
      have hfac' := hfac
      rw [q4] at hfac'
      have hok := createSpec_facOk inp.sh inp.w _ (st0 st) fac hfac'
      exact (iter_inv (step (callFac inp.sh inp.w fac)) I (fun _ => True)
        (fun s hIs => ⟨by
          rcases callFac_cases inp.sh inp.w _ hn fac hok with ⟨_, doGet, _, hh⟩ | ⟨_, rf, hrf, hh⟩
          · exact hcall doGet false _ _ s (hh s) hIs
          · obtain ⟨t1, t2, _⟩ := tri_step (hh s)
            obtain ⟨c1, c2⟩ := facSpec_frame inp.sh inp.w rf (inp.form.numOut == 1) s
            refine ⟨by rw [t2, c1]; exact hIs.1, fun c hc => ?_⟩
            have hne : rf.cell ≠ some c := by
              intro hcell
              have := (f3 rf (by rcases hrf with rfl | rfl <;> simp [hfac']) c hcell).1
              simp only at this
              omega
            rw [t1, c2 c hne]
            exact hIs.2 c hc, trivial⟩)
        inp.k _ hIc).1

/-! ### the configurations a per-product-configuring phase allocates -/

/-- the products of a phase that configures per product hold configurations allocated by that phase -/
theorem fresh_phase_cells (inp : Input) (st : St) (ha : freshApplies inp = true) :
    ∀ s ∈ (phaseObs inp st).steps, ∀ c, prodCell? s = some c → st.next ≤ c ∧ c < (phaseSt inp st).1.next := by
  simp only [freshApplies, Bool.and_eq_true, bne_iff_ne, ne_eq, Bool.or_eq_true, beq_iff_eq,
    Bool.not_eq_true'] at ha
  obtain ⟨⟨hc, hs⟩, hform⟩ := ha
  obtain ⟨f, pan, st1, pre, hf, hnext, hsteps, hpre, _, _, hst⟩ := percall_iter inp st hc hform
  have hr := iter_keys f prodCell? (fun s => by
    obtain ⟨a1, _, _, a4, _, _⟩ := callSpec_alloc (hf s) hc hs
    rw [a1]
    exact ⟨by omega, fun c hcc => by have := a4 c hcc; omega⟩) inp.k st1
  intro s hs' c hcc
  rw [hsteps, List.mem_append] at hs'
  rcases hs' with hs' | hs'
  · -- the creation step holds no product
    rcases hpre with ⟨_, rfl⟩ | ⟨_, rfl⟩
    · cases hs'
    · rw [List.mem_singleton.mp hs'] at hcc; cases hcc
  · rw [hst, ← hnext]; exact hr.2.1 s hs' c hcc

theorem viewsOf_congr (h1 h2 : Nat → Cfg) (steps : List Step)
    (h : ∀ s ∈ steps, ∀ c, prodCell? s = some c → h1 c = h2 c) : viewsOf h1 steps = viewsOf h2 steps := by
  induction steps with
  | nil => rfl
  | cons s l ih =>
    have ih' := ih (fun s' hs' => h s' (List.mem_cons_of_mem _ hs'))
    have hs := h s (List.mem_cons_self ..)
    obtain ⟨evs, res⟩ := s
    simp only [viewsOf, List.filterMap_cons] at ih' ⊢
    cases res with
    | ok p =>
      obtain ⟨serial, cell, seen⟩ := p
      cases cell with
      | none => simpa using ih'
      | some c =>
        have := hs c (by simp [prodCell?, product?])
        simp [this, ih']
    | made => simpa using ih'
    | err e => simpa using ih'
    | panic e => simpa using ih'

theorem viewsOf_append (heap : Nat → Cfg) (a b : List Step) : viewsOf heap (a ++ b) = viewsOf heap a ++ viewsOf heap b := by
  simp [viewsOf, List.filterMap_append]

/-! ### the whole history -/

/-- frontier and frame of the rest of a history -/
theorem hist_frame (h : HInput) (hs : h.sh.dflt ≠ .shared) :
    ∀ ps st, st.next ≤ (histSt h ps st).1.next ∧ ∀ c, c < st.next → (histSt h ps st).1.heap c = st.heap c := by
  intro ps; induction ps with
  | nil => intro st; exact ⟨Nat.le_refl _, fun _ _ => rfl⟩
  | cons p ps ih =>
    intro st
    obtain ⟨f1, f2⟩ := phase_frame (h.input p) st hs
    obtain ⟨i1, i2⟩ := ih (phaseSt (h.input p) st).1
    simp only [histSt]
    exact ⟨Nat.le_trans f1 i1, fun c hc => by rw [i2 c (Nat.lt_of_lt_of_le hc f1), f2 c hc]⟩

/-- cells of per-product-configuring phases: all at or above the start frontier, pairwise distinct -/
theorem hist_cells (h : HInput) (hs : h.sh.dflt ≠ .shared) :
    ∀ ps st, (∀ c ∈ freshCellsH h ps (histSt h ps st).2, st.next ≤ c) ∧ (freshCellsH h ps (histSt h ps st).2).Nodup := by
  intro ps; induction ps with
  | nil => intro st; simp [histSt, freshCellsH]
  | cons p ps ih =>
    intro st
    obtain ⟨f1, _⟩ := phase_frame (h.input p) st hs
    obtain ⟨i1, i2⟩ := ih (phaseSt (h.input p) st).1
    simp only [histSt, freshCellsH]
    by_cases ha : freshApplies (h.input p) = true
    · have hr := fresh_phase_cells (h.input p) st ha
      have hnd : (phaseCells (phaseObs (h.input p) st)).Nodup := by
        have := fresh_phase (h.input p) st ha
        simp only [freshOk, Bool.and_eq_true, nodup, decide_eq_true_eq] at this
        obtain ⟨⟨⟨_, n3⟩, _⟩, _⟩ := this
        rwa [calls_cells] at n3
      have hmem : ∀ c ∈ phaseCells (phaseObs (h.input p) st), st.next ≤ c ∧ c < (phaseSt (h.input p) st).1.next := by
        intro c hc
        simp only [phaseCells, List.mem_filterMap] at hc
        obtain ⟨s, hs', hsc⟩ := hc
        exact hr s hs' c hsc
      simp only [ha, if_true]
      refine ⟨?_, ?_⟩
      · intro c hc
        simp only [List.mem_append] at hc
        rcases hc with hc | hc
        · exact (hmem c hc).1
        · exact Nat.le_trans f1 (i1 c hc)
      · rw [List.nodup_append]
        refine ⟨hnd, i2, ?_⟩
        intro a ha' b hb hab
        subst hab
        have := (hmem a ha').2
        have := i1 a hb
        omega
    · simp only [ha, Bool.false_eq_true, if_false, List.nil_append]
      exact ⟨fun c hc => Nat.le_trans f1 (i1 c hc), i2⟩

/-- final views, phase by phase -/
theorem hist_views (h : HInput) (hs : h.sh.dflt ≠ .shared) :
    ∀ ps st, finalViewsOk h ps (histSt h ps st).2
      (viewsOf (histSt h ps st).1.heap ((histSt h ps st).2.flatMap (·.steps))) = true := by
  intro ps; induction ps with
  | nil => intro st; simp [histSt, finalViewsOk]
  | cons p ps ih =>
    intro st
    have ih' := ih (phaseSt (h.input p) st).1
    obtain ⟨_, g2⟩ := hist_frame h hs ps (phaseSt (h.input p) st).1
    simp only [histSt, List.flatMap_cons, viewsOf_append, finalViewsOk]
    have hlen : (viewsOf (histSt h ps (phaseSt (h.input p) st).1).1.heap (phaseObs (h.input p) st).steps).length =
        (phaseCells (phaseObs (h.input p) st)).length := viewsOf_length _ _
    rw [← hlen, List.take_left, List.drop_left]
    simp only [Bool.and_eq_true, Bool.or_eq_true, Bool.not_eq_true', List.all_eq_true, beq_iff_eq]
    refine ⟨?_, ih'⟩
    by_cases ha : freshApplies (h.input p) = true
    · refine .inr ?_
      have hr := fresh_phase_cells (h.input p) st ha
      have hcong := viewsOf_congr (histSt h ps (phaseSt (h.input p) st).1).1.heap (phaseSt (h.input p) st).1.heap
        (phaseObs (h.input p) st).steps (fun s hs' c hc => g2 c (hr s hs' c hc).2)
      rw [hcong]
      have := fresh_phase (h.input p) st ha
      simp only [freshOk, Bool.and_eq_true, List.all_eq_true, beq_iff_eq] at this
      obtain ⟨⟨_, hown⟩, _⟩ := this
      exact hown
    · exact .inl (by simpa using ha)

theorem hist_cross {h : HInput} {o : HObs} (hr : runHist h = some o) : histCrossOk h o = true := by
  unfold runHist at hr
  by_cases hreg : registerOk h.sh = true
  · simp only [hreg, Bool.not_true, Bool.false_eq_true, if_false, Option.some.injEq] at hr
    subst hr
    unfold histCrossOk
    by_cases hs : h.sh.dflt = .shared
    · simp [hs]
    · simp only [Bool.or_eq_true, beq_iff_eq, hs, false_or, Bool.and_eq_true]
      exact ⟨nodup_of _ (hist_cells h hs h.phases (histInit h)).2, hist_views h hs h.phases (histInit h)⟩
  · simp [hreg] at hr

/-- every phase satisfies the single-creation Spec with its own user settings -/
theorem hist_phases (h : HInput) (fields : List Nat) :
    ∀ ps st, histPhasesOk h fields ps (histSt h ps st).2 = true := by
  intro ps; induction ps with
  | nil => intro st; simp [histSt, histPhasesOk]
  | cons p ps ih =>
    intro st
    simp only [histSt, histPhasesOk, Bool.and_eq_true, Bool.or_eq_true, Bool.not_eq_true', beq_iff_eq]
    refine ⟨⟨⟨⟨⟨⟨errors_phase _ st, ?_⟩, ?_⟩, ?_⟩, ?_⟩, struct_phase _ st⟩, ih _⟩
    · by_cases hs : h.sh.dflt = .shared
      · exact .inl hs
      · refine .inr ?_
        have hcfg := config_phase (h.input p) st (fun hsh => absurd hsh hs)
        simp only [configOk, List.all_eq_true]
        intro pr hpr
        obtain ⟨h1, h2⟩ := hcfg pr hpr
        by_cases hc : (h.input p).sh.cfg = .none
        · simp [hc, h1 hc]
        · simp only [hc, if_false, List.all_eq_true, Bool.or_eq_true, beq_iff_eq]
          intro f _
          by_cases hf : f = markField
          · exact .inl hf
          · exact .inr (h2 hc f hf)
    · by_cases ha : freshApplies (h.input p) = true
      · exact .inr (fresh_phase _ st ha)
      · exact .inl (by simpa using ha)
    · by_cases ha : onceApplies (h.input p) = true
      · exact .inr (once_phase _ st ha)
      · exact .inl (by simpa using ha)
    · by_cases ha : percallApplies (h.input p) = true
      · exact .inr (percall_phase _ st ha)
      · exact .inl (by simpa using ha)

end Pandora.Proofs.C18
