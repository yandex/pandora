/-
C10 — the executable Spec accepts what the model reports: the gRPC gun (also with a target that goes away, and over
delivered ammo), gRPC scenario steps, shots of an http scenario, failed dials.
-/
import Pandora.Proofs.C10

namespace Pandora.Proofs.C10
open Pandora.Model.C10 Pandora.Spec.C10

/-! ### a target that goes away -/

theorem runGrpcGone_eq (gone : Bool) (reqs : List (String × GrpcOutcome × Bool)) :
    runGrpcGone gone reqs = (effectiveOutcomes gone reqs).flatMap fun r => (shootGrpc r.1 r.2).reports := by
  induction reqs generalizing gone with
  | nil => simp [runGrpcGone, effectiveOutcomes]
  | cons r rest ih =>
    obtain ⟨tag, o, kill⟩ := r
    simp [runGrpcGone, effectiveOutcomes, ih]

theorem effectiveOutcomes_length (gone : Bool) (reqs : List (String × GrpcOutcome × Bool)) :
    (effectiveOutcomes gone reqs).length = reqs.length := by
  induction reqs generalizing gone with
  | nil => simp [effectiveOutcomes]
  | cons r rest ih => obtain ⟨tag, o, kill⟩ := r; simp [effectiveOutcomes, ih]

theorem effectiveOutcomes_gone (reqs : List (String × GrpcOutcome × Bool)) :
    effectiveOutcomes true reqs = reqs.map fun r => (r.1, afterGone r.2.1) := by
  induction reqs with
  | nil => simp [effectiveOutcomes]
  | cons r rest ih => obtain ⟨tag, o, kill⟩ := r; simp [effectiveOutcomes, ih]

/-! ### the Spec accepts the model's samples -/

/-- a model sample as the Spec sees it -/
def toObs (s : Sample) : Obs := { tags := s.tags, id := s.id, proto := s.proto, net := s.net }

/-- gRPC, any list of requests (`htab`: the model's table is the documented one — `Bridge` + `C10_grpc_table`) -/
theorem judgeGrpc_accepts (htab : ∀ c, grpcToHttp c = docTable c) (reqs : List (String × GrpcOutcome)) :
    judgeGrpc (reqs.map fun r => (r.1, grpcTruth r.2))
      ((reqs.flatMap fun r => (shootGrpc r.1 r.2).reports).map toObs) = "ok" := by
  induction reqs with
  | nil => simp [judgeGrpc]
  | cons r rest ih =>
    obtain ⟨tag, o⟩ := r
    cases o with
    | invoked c => simpa [judgeGrpc, shootGrpc, toObs, grpcTruth, grpcProto, htab] using ih
    | _ => simpa [judgeGrpc, shootGrpc, toObs, grpcTruth, grpcProto, docTable] using ih

/-- gRPC scenario steps, any list -/
theorem judgeGrpc_accepts_steps (htab : ∀ c, grpcToHttp c = docTable c) (scn : String) (l : List GrpcStep) :
    judgeGrpc (l.map (grpcStepTruth scn)) ((l.map (grpcStepSample scn)).map toObs) = "ok" := by
  induction l with
  | nil => simp [judgeGrpc]
  | cons s rest ih =>
    cases ho : s.outcome with
    | invoked c p => simpa [judgeGrpc, grpcStepTruth, grpcStepSample, toObs, stepTag, grpcStepProto, ho, htab] using ih
    | _ => simpa [judgeGrpc, grpcStepTruth, grpcStepSample, toObs, stepTag, grpcStepProto, ho, docTable] using ih

/-- http scenario: what the harness knows about a step -/
def stepTruthOf (s : Step) : String × StepTruth :=
  (s.name, match s.outcome with
    | .received st .ok => .passed st
    | _ => .failedStep)

theorem stepTruthOf_passed (s : Step) (st : Nat) (h : s.outcome = .received st .ok) :
    stepTruthOf s = (s.name, .passed st) := by
  simp [stepTruthOf, h]

theorem stepTruthOf_failed (s : Step) (h : stepPasses s = false) : stepTruthOf s = (s.name, .failedStep) := by
  unfold stepPasses at h
  unfold stepTruthOf
  split <;> simp_all

theorem executed_map (steps : List Step) :
    executed (steps.map stepTruthOf) = (steps.take (executedSteps steps)).map stepTruthOf := by
  induction steps with
  | nil => simp [executed, executedSteps]
  | cons s rest ih =>
    rw [executedSteps_cons]
    cases hp : stepPasses s with
    | false => simp [executed, stepTruthOf_failed s hp]
    | true =>
      obtain ⟨st, ho⟩ := (stepPasses_iff s).mp hp
      simp [executed, stepTruthOf_passed s st ho, ih]

/-- one shot, any list of steps: the per-step samples pass the positional judge -/
theorem judgeShot_accepts (scn : String) (l : List Step) :
    judgeShot scn (l.map stepTruthOf) ((l.map (stepSample scn)).map toObs) = "ok" := by
  induction l with
  | nil => simp [judgeShot]
  | cons s rest ih =>
    cases hp : stepPasses s with
    | false =>
      have hn : (errSample scn s.name).net ≠ 0 := (by decide : getErrno .other ≠ 0)
      simpa [stepTruthOf_failed s hp, stepSample_of_failed scn s hp, judgeShot, toObs, hn, errSample_tags,
        Model.C10.emptyTag, Spec.C10.emptyTag] using ih
    | true =>
      obtain ⟨st, ho⟩ := (stepPasses_iff s).mp hp
      simpa [stepTruthOf_passed s st ho, stepSample_of_passed scn s st ho, judgeShot, toObs, okSample, stepTag] using ih

/-- `n` identical shots, each passing the positional judge, pass `judgeShotsSeq` -/
theorem judgeShotsSeq_accepts (scn : String) (truths : List (String × StepTruth)) (one : List Obs)
    (hlen : one.length = (executed truths).length) (hone : judgeShot scn (executed truths) one = "ok") (n : Nat) :
    judgeShotsSeq scn truths n (List.replicate n one).flatten = "ok" := by
  induction n with
  | zero => simp [judgeShotsSeq]
  | succ k ih =>
    rw [List.replicate_succ, List.flatten_cons]
    unfold judgeShotsSeq
    have h1 : ¬ ((one ++ (List.replicate k one).flatten).length < (executed truths).length) := by
      simp [hlen]
    simp only [h1, if_false]
    rw [← hlen, List.take_left, List.drop_left, hone]
    exact ih

theorem judgeShots_of_seq (scn : String) (truths : List (String × StepTruth)) (n : Nat) (obs : List Obs)
    (h : judgeShotsSeq scn truths n obs = "ok") : judgeShots scn truths n obs = "ok" := by
  unfold judgeShots
  rw [h]
  rfl

/-- the Spec's judge accepts the samples of any list of delivered ammo against the truth read off each ammo -/
theorem judgeGrpc_accepts_ammo (htab : ∀ c, grpcToHttp c = docTable c) (l : List AmmoObj) :
    judgeGrpc (l.map fun a => (a.tag, grpcTruth (scriptedOutcome a))) ((shootAmmo l).map toObs) = "ok" := by
  have h := judgeGrpc_accepts htab (l.map fun a => (a.tag, scriptedOutcome a))
  simpa [shootAmmo, List.map_map, List.flatMap_map, Function.comp_def] using h

theorem judgeDialerIndependent_refl (l : List Nat) : judgeDialerIndependent l l = "ok" := by
  induction l with
  | nil => rfl
  | cons a rest ih => simp [judgeDialerIndependent, ih]

end Pandora.Proofs.C10
