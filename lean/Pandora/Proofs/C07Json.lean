import Pandora.Model.C07Json

/-! C07 — the JSON text reader reads back what `renderEntJ` / `renderStreamJ` / `renderElemsJ` write. -/
namespace Pandora.Proofs.C07
open Pandora.Model.C07

theorem skipWs_gap (g x : Bytes) (hg : allJWs g = true) : skipWs (g ++ x) = skipWs x := by
  induction g with
  | nil => rfl
  | cons b r ih =>
    have h : isJWs b = true ∧ allJWs r = true := by simpa [allJWs] using hg
    simp [skipWs, h.1, ih h.2]

theorem skipWs_nonws (b : UInt8) (x : Bytes) (hb : isJWs b = false) : skipWs (b :: x) = b :: x := by
  simp [skipWs, hb]

theorem skipWs_all (g : Bytes) (hg : allJWs g = true) : skipWs g = [] := by
  have := skipWs_gap g [] hg
  simpa [skipWs] using this

theorem hexVal_hexDigit : ∀ n, n < 16 → hexVal (hexDigit n) = some n := by decide

theorem readStr_escByte (b : UInt8) (x s rest : Bytes) (ih : readStr x = some (s, rest)) :
    readStr (escByte b ++ x) = some (b :: s, rest) := by
  by_cases h34 : b = 34
  · subst h34; show readStr (92 :: 34 :: x) = _
    rw [readStr.eq_def]; simp [simpleEsc, ih]
  by_cases h92 : b = 92
  · subst h92; show readStr (92 :: 92 :: x) = _
    rw [readStr.eq_def]; simp [simpleEsc, ih]
  by_cases hc : b < 32
  · -- `\u00XY`: the two hex digits give the byte back, and a code point below 128 is that one byte
    have hn : b.toNat < 32 := by simpa [UInt8.lt_iff_toNat_lt] using hc
    have f1 := hexVal_hexDigit (b.toNat / 16) (by omega)
    have f2 := hexVal_hexDigit (b.toNat % 16) (by omega)
    have f3 : b.toNat / 16 * 16 + b.toNat % 16 = b.toNat := by omega
    have hu : utf8Enc b.toNat = [b] := by simp [utf8Enc, show b.toNat < 128 by omega]
    simp [escByte, h34, h92, hc, readStr, show hexVal 48 = some 0 by decide, f1, f2, ih, f3, hu]
    omega
  · simp only [escByte, beq_iff_eq, h34, h92, hc, if_false, List.singleton_append]
    rw [readStr.eq_def]; simp [h34, h92, hc, ih]

theorem readStr_esc (s rest : Bytes) : readStr (escStr s ++ 34 :: rest) = some (s, rest) := by
  induction s with
  | nil =>
    show readStr (34 :: rest) = _
    rw [readStr.eq_def]; simp
  | cons b r ih =>
    simp only [escStr, List.append_assoc]
    exact readStr_escByte b _ r rest ih

theorem readStr_jStr (s rest : Bytes) : readStr (escStr s ++ ([34] ++ rest)) = some (s, rest) := readStr_esc s rest

theorem jStr_append (s X : Bytes) : jStr s ++ X = 34 :: (escStr s ++ 34 :: X) := by simp [jStr]

theorem skipWs_jStr (s X : Bytes) : skipWs (jStr s ++ X) = jStr s ++ X := by
  rw [jStr_append]; exact skipWs_nonws 34 _ (by decide)

theorem readStrVal_jStr (v X : Bytes) : readStrVal (jStr v ++ X) = some (some v, X) := by
  rw [jStr_append]; simp [readStrVal, readStr_esc]

/-- a string member of an entity object -/
theorem fieldStep_str (f : Nat) (key : Bytes) (e : Entity) (seen : List Bytes) (v X : Bytes)
    (hk : key ∈ knownKeys) (hs : key ∉ seen) (hh : key ≠ kHeaders) :
    fieldStep f key e seen (jStr v ++ X) =
      some ((if key == kHost then { e with host := v } else if key == kMethod then { e with method := v }
              else if key == kUri then { e with uri := v } else if key == kTag then { e with tag := v } else { e with body := v }),
            key :: seen, X) := by
  simp [fieldStep, hk, hs, hh, readStrVal_jStr]

/-- the members of a non-empty `headers` object -/
theorem readHdrMembers_render (g : Bytes) (hg : allJWs g = true) :
    ∀ (hs : List (Bytes × Bytes)) (fuel : Nat) (X : Bytes), hs ≠ [] → hs.length ≤ fuel →
      readHdrMembers fuel (renderHdrMembers g hs ++ X) = some (hs, X)
  | [], _, _, h, _ => absurd rfl h
  | [kv], fuel, X, _, hf => by
    obtain ⟨n, rfl⟩ : ∃ n, fuel = n + 1 := ⟨fuel - 1, by simp at hf; omega⟩
    obtain ⟨k, v⟩ := kv
    simp only [renderHdrMembers, jMember, List.append_assoc, List.cons_append, List.nil_append]
    rw [readHdrMembers]
    simp only [skipWs_gap _ _ hg, skipWs_jStr]
    rw [jStr_append]
    simp only [readStr_esc, skipWs_gap _ _ hg, skipWs_nonws 58 _ (by decide), skipWs_jStr]
    rw [jStr_append]
    simp only [readStr_esc, skipWs_gap _ _ hg, skipWs_nonws 125 _ (by decide)]
  | kv :: kv2 :: r, fuel, X, _, hf => by
    obtain ⟨n, rfl⟩ : ∃ n, fuel = n + 1 := ⟨fuel - 1, by simp at hf; omega⟩
    obtain ⟨k, v⟩ := kv
    have ih := readHdrMembers_render g hg (kv2 :: r) n X (by simp) (by simp at hf ⊢; omega)
    simp only [renderHdrMembers, jMember, List.append_assoc, List.cons_append] at ih ⊢
    rw [readHdrMembers]
    simp only [skipWs_gap _ _ hg, skipWs_jStr]
    rw [jStr_append]
    simp only [readStr_esc, skipWs_gap _ _ hg, skipWs_nonws 58 _ (by decide), skipWs_jStr]
    rw [jStr_append]
    simp only [readStr_esc, skipWs_gap _ _ hg, skipWs_nonws 44 _ (by decide)]
    rw [ih]; rfl

theorem readHdrs_render (g : Bytes) (hg : allJWs g = true) (hs : List (Bytes × Bytes)) (fuel : Nat) (X : Bytes)
    (hf : hs.length ≤ fuel) : readHdrs fuel (renderHdrsJ g hs ++ X) = some (hs, X) := by
  unfold renderHdrsJ
  cases hs with
  | nil =>
    simp only [List.isEmpty_nil, if_true, List.cons_append, List.append_assoc]
    simp [readHdrs, skipWs_gap _ _ hg, skipWs, isJWs]
  | cons kv r =>
    simp only [List.isEmpty_cons, Bool.false_eq_true, if_false, List.cons_append]
    have h := readHdrMembers_render g hg (kv :: r) fuel X (by simp) hf
    have hne : ∀ Y, skipWs (renderHdrMembers g (kv :: r) ++ X) ≠ 125 :: Y := by
      intro Y
      cases r with
      | nil =>
        simp only [renderHdrMembers, jMember, List.append_assoc, skipWs_gap _ _ hg, skipWs_jStr]
        rw [jStr_append]; simp
      | cons kv2 r2 =>
        simp only [renderHdrMembers, jMember, List.append_assoc, skipWs_gap _ _ hg, skipWs_jStr]
        rw [jStr_append]; simp
    rw [readHdrs]
    split
    · rename_i r1 heq; exact absurd heq (hne r1)
    · exact h

theorem skipWs_hdrs (g : Bytes) (hs : List (Bytes × Bytes)) (X : Bytes) :
    skipWs (renderHdrsJ g hs ++ X) = renderHdrsJ g hs ++ X := by
  unfold renderHdrsJ; split <;> exact skipWs_nonws 123 _ (by decide)

theorem fieldStep_hdrs (g : Bytes) (hg : allJWs g = true) (f : Nat) (e : Entity) (seen : List Bytes)
    (hs : List (Bytes × Bytes)) (X : Bytes) (hsn : kHeaders ∉ seen) (hf : hs.length ≤ f) :
    fieldStep f kHeaders e seen (renderHdrsJ g hs ++ X) = some ({ e with headers := hs }, kHeaders :: seen, X) := by
  have hk : kHeaders ∈ knownKeys := by decide
  simp [fieldStep, hk, hsn, readHdrs_render g hg hs f X hf]

/-- one member followed by a comma -/
theorem readFields_comma (g : Bytes) (hg : allJWs g = true) (fuel : Nat) (e e' : Entity) (seen seen' : List Bytes)
    (key val rest : Bytes) (hval : ∀ Y, skipWs (val ++ Y) = val ++ Y)
    (hstep : fieldStep (fuel + 1) key e seen (val ++ (g ++ 44 :: rest)) = some (e', seen', g ++ 44 :: rest)) :
    readFields (fuel + 1) e seen (g ++ (jMember g key val ++ (g ++ 44 :: rest))) = readFields fuel e' seen' rest := by
  rw [readFields]
  simp only [jMember, List.append_assoc, List.cons_append, skipWs_gap _ _ hg, skipWs_jStr]
  rw [jStr_append]
  simp only [readStr_esc, skipWs_gap _ _ hg, skipWs_nonws 58 _ (by decide), hval, hstep, skipWs_nonws 44 _ (by decide)]

/-- the last member and the closing brace -/
theorem readFields_close (g : Bytes) (hg : allJWs g = true) (fuel : Nat) (e e' : Entity) (seen seen' : List Bytes)
    (key val rest : Bytes) (hval : ∀ Y, skipWs (val ++ Y) = val ++ Y)
    (hstep : fieldStep (fuel + 1) key e seen (val ++ (g ++ 125 :: rest)) = some (e', seen', g ++ 125 :: rest)) :
    readFields (fuel + 1) e seen (g ++ (jMember g key val ++ (g ++ 125 :: rest))) = some (e', rest) := by
  rw [readFields]
  simp only [jMember, List.append_assoc, List.cons_append, skipWs_gap _ _ hg, skipWs_jStr]
  rw [jStr_append]
  simp only [readStr_esc, skipWs_gap _ _ hg, skipWs_nonws 58 _ (by decide), hval, hstep, skipWs_nonws 125 _ (by decide)]

/-- **one entity object**: the reader gives back the entity, for every gap of JSON white space -/
theorem readObj_render (g : Bytes) (hg : allJWs g = true) (e : Entity) (fuel : Nat)
    (hh : e.headers.length + 6 ≤ fuel) (X : Bytes) : readObj fuel (entBody g e ++ X) = some (e, X) := by
  obtain ⟨n, rfl⟩ : ∃ n, fuel = n + 6 := ⟨fuel - 6, by omega⟩
  have hne : ∀ Y, skipWs (entBody g e ++ X) ≠ 125 :: Y := by
    intro Y
    simp only [entBody, jMember, List.append_assoc, skipWs_gap _ _ hg, skipWs_jStr]
    rw [jStr_append]; simp
  unfold readObj
  split
  · rename_i r1 heq; exact absurd heq (hne r1)
  · simp only [entBody, List.append_assoc, List.cons_append, List.nil_append]
    rw [readFields_comma g hg (n + 5) emptyEntity _ [] _ kHost (jStr e.host) _ (skipWs_jStr _)
          (fieldStep_str _ kHost _ _ _ _ (by decide) (by decide) (by decide))]
    rw [readFields_comma g hg (n + 4) _ _ _ _ kMethod (jStr e.method) _ (skipWs_jStr _)
          (fieldStep_str _ kMethod _ _ _ _ (by decide) (by decide) (by decide))]
    rw [readFields_comma g hg (n + 3) _ _ _ _ kUri (jStr e.uri) _ (skipWs_jStr _)
          (fieldStep_str _ kUri _ _ _ _ (by decide) (by decide) (by decide))]
    rw [readFields_comma g hg (n + 2) _ _ _ _ kHeaders (renderHdrsJ g e.headers) _ (skipWs_hdrs g _)
          (fieldStep_hdrs g hg _ _ _ _ _ (by decide) (by omega))]
    rw [readFields_comma g hg (n + 1) _ _ _ _ kTag (jStr e.tag) _ (skipWs_jStr _)
          (fieldStep_str _ kTag _ _ _ _ (by decide) (by decide) (by decide))]
    rw [readFields_close g hg n _ _ _ _ kBody (jStr e.body) _ (skipWs_jStr _)
          (fieldStep_str _ kBody _ _ _ _ (by decide) (by decide) (by decide))]
    cases e; rfl

theorem skipWs_ent (g : Bytes) (e : Entity) (X : Bytes) : skipWs (renderEntJ g e ++ X) = 123 :: (entBody g e ++ X) :=
  skipWs_nonws 123 _ (by decide)

theorem readStream_skip (n fo : Nat) (sep X : Bytes) (hs : allJWs sep = true) :
    readStream n fo (sep ++ X) = readStream n fo X := by
  cases n with
  | zero => rfl
  | succ m => simp only [readStream, skipWs_gap _ _ hs]

/-! Fuel: the stream reader spends one unit per object and the object reader `headers + 6` per object; an object is
longer than both (`len_ent`), so the length of the text (what `jsonDoc` takes) is enough. -/

theorem len_hdrMembers (g : Bytes) : ∀ hs : List (Bytes × Bytes), hs.length ≤ (renderHdrMembers g hs).length
  | [] => by simp
  | [kv] => by simp [renderHdrMembers, jMember, jStr]; omega
  | kv :: kv2 :: r => by
    have ih := len_hdrMembers g (kv2 :: r)
    simp [renderHdrMembers, jMember, jStr] at ih ⊢; omega

theorem len_ent (g : Bytes) (e : Entity) : e.headers.length + 6 ≤ (renderEntJ g e).length := by
  have : e.headers.length ≤ (renderHdrsJ g e.headers).length := by
    have := len_hdrMembers g e.headers
    unfold renderHdrsJ; split <;> simp_all <;> omega
  simp only [renderEntJ, entBody, jMember, jStr, List.length_append, List.length_cons]; omega

/-- **a stream of objects** (one per line, packed, pretty-printed: any white space before and after each) -/
theorem readStream_render (g lead sep : Bytes) (hg : allJWs g = true) (hl : allJWs lead = true) (hs : allJWs sep = true)
    (fo : Nat) :
    ∀ (es : List Entity) (fuel : Nat), (renderStreamJ g lead sep es).length < fuel →
      (renderStreamJ g lead sep es).length ≤ fo → readStream fuel fo (renderStreamJ g lead sep es) = some es
  | [], fuel, hf, _ => by
    obtain ⟨n, rfl⟩ : ∃ n, fuel = n + 1 := ⟨fuel - 1, by omega⟩
    simp [readStream, renderStreamJ, skipWs_all lead hl]
  | e :: r, fuel, hf, hfo => by
    obtain ⟨n, rfl⟩ : ∃ n, fuel = n + 1 := ⟨fuel - 1, by omega⟩
    have he := len_ent g e
    simp only [renderStreamJ, List.length_append] at hf hfo
    have ih := readStream_render g lead sep hg hl hs fo r n (by omega) (by omega)
    have hobj := readObj_render g hg e fo (by omega) (sep ++ renderStreamJ g lead sep r)
    rw [readStream]
    simp only [renderStreamJ, skipWs_gap _ _ hl, skipWs_ent, hobj, readStream_skip _ _ _ _ hs, ih]
    rfl

/-- **ONE array of objects** -/
theorem readElems_render (g lead sep trail : Bytes) (hg : allJWs g = true) (hl : allJWs lead = true)
    (hs : allJWs sep = true) (fo : Nat) :
    ∀ (es : List Entity) (fuel : Nat), es ≠ [] → (renderElemsJ g lead sep trail es).length ≤ fuel →
      (renderElemsJ g lead sep trail es).length ≤ fo →
      readElems fuel fo (renderElemsJ g lead sep trail es) = some (es, trail)
  | [], _, h, _, _ => absurd rfl h
  | [e], fuel, _, hf, hfo => by
    have he := len_ent g e
    simp only [renderElemsJ, List.length_append] at hf hfo
    obtain ⟨n, rfl⟩ : ∃ n, fuel = n + 1 := ⟨fuel - 1, by omega⟩
    have hobj := readObj_render g hg e fo (by omega) (sep ++ 93 :: trail)
    rw [readElems]
    simp only [renderElemsJ, skipWs_gap _ _ hl, skipWs_ent, hobj, skipWs_gap _ _ hs, skipWs_nonws 93 _ (by decide)]
  | e :: e2 :: r, fuel, _, hf, hfo => by
    have he := len_ent g e
    simp only [renderElemsJ, List.length_append, List.length_cons] at hf hfo
    obtain ⟨n, rfl⟩ : ∃ n, fuel = n + 1 := ⟨fuel - 1, by omega⟩
    have ih := readElems_render g lead sep trail hg hl hs fo (e2 :: r) n (by simp) (by omega) (by omega)
    have hobj := readObj_render g hg e fo (by omega) (sep ++ 44 :: renderElemsJ g lead sep trail (e2 :: r))
    rw [readElems]
    simp only [renderElemsJ, skipWs_gap _ _ hl, skipWs_ent, hobj, skipWs_gap _ _ hs, skipWs_nonws 44 _ (by decide)]
    rw [ih]; rfl

/-- **an http/json file of one object after the other** is read back as its entities, in stream mode -/
theorem jsonDoc_stream (g lead sep : Bytes) (hg : allJWs g = true) (hl : allJWs lead = true) (hs : allJWs sep = true)
    (es : List Entity) (hne : es ≠ []) (hu : utf8Valid (renderStreamJ g lead sep es) = true) :
    jsonDoc (renderStreamJ g lead sep es) = some (false, es) := by
  have hread := readStream_render g lead sep hg hl hs _ es _ (Nat.lt_succ_self _) (Nat.le_succ _)
  unfold jsonDoc
  simp only [hu, Bool.not_true, Bool.false_eq_true, if_false]
  cases es with
  | nil => exact absurd rfl hne
  | cons e r =>
    have hsk : skipWs (renderStreamJ g lead sep (e :: r)) = 123 :: (entBody g e ++ (sep ++ renderStreamJ g lead sep r)) := by
      simp only [renderStreamJ, skipWs_gap _ _ hl, skipWs_ent]
    rw [hsk]
    simp only [hread, Option.map_some]

/-- **an http/json file that is ONE array** is read back as its entities, in array mode -/
theorem jsonDoc_array (g lead0 lead sep trail : Bytes) (hg : allJWs g = true) (hl0 : allJWs lead0 = true)
    (hl : allJWs lead = true) (hs : allJWs sep = true) (ht : allJWs trail = true)
    (es : List Entity) (hne : es ≠ []) (hu : utf8Valid (lead0 ++ 91 :: renderElemsJ g lead sep trail es) = true) :
    jsonDoc (lead0 ++ 91 :: renderElemsJ g lead sep trail es) = some (true, es) := by
  have hL : (renderElemsJ g lead sep trail es).length ≤ (lead0 ++ 91 :: renderElemsJ g lead sep trail es).length + 1 := by
    simp; omega
  have hread := readElems_render g lead sep trail hg hl hs _ es _ hne hL hL
  have hsk : ∃ Z, skipWs (renderElemsJ g lead sep trail es) = 123 :: Z := by
    match es, hne with
    | [e], _ => exact ⟨_, by rw [renderElemsJ, skipWs_gap _ _ hl, skipWs_ent]⟩
    | e :: e2 :: r2, _ => exact ⟨_, by rw [renderElemsJ, skipWs_gap _ _ hl, skipWs_ent]⟩
  obtain ⟨Z, hZ⟩ := hsk
  unfold jsonDoc
  simp only [hu, Bool.not_true, Bool.false_eq_true, if_false, skipWs_gap _ _ hl0, skipWs_nonws 91 _ (by decide), hZ]
  rw [hread]
  simp [skipWs_all trail ht]

end Pandora.Proofs.C07
