/-
C17 — paths into a configuration: an error / a constraint violation at the end of a path, seen from the root; plugin
positions with the `type` key anywhere in the mapping; type-only plugin blocks; Go field paths `FAt` (the value at
their end: `value_at` in `C17AnyPath`).
-/
import Pandora.Proofs.C17
import Pandora.Proofs.C17Struct
import Pandora.Spec.C17

namespace Pandora.Proofs.C17
open Pandora.Model.C17 Pandora.Spec.C17

/-! ## paths -/

/-- one step of a path into a configuration -/
inductive Step
  | key (k : Str)      -- the value under a key of a struct-decoded mapping, or of a map
  | idx (i : Nat)      -- an element of a list
  | deref              -- through a pointer field
  | plugin             -- from a plugin position into the config of the plugin named by `type`
  | shortcut           -- a schedule given as a list: the `composite` schedule of that list

/-- what `scheduleSliceToCompositeConfigHook` makes of a list at a schedule position -/
def schedMap (xs : List Val) : List (Str × Val) :=
  [("type".toList, .str "composite".toList), ("nested".toList, .list xs)]

/-- `At dive p s cfg s' c'`: following path `p` from a position of schema `s` holding configuration `cfg` arrives at a
position of schema `s'` holding `c'`.  Steps: a struct field (through the data key `findKey` selects for it), a list
element, a map entry, a pointer, the config of the plugin a `type` key names (the `type` key may stand anywhere in
the mapping), the list shortcut of a schedule.  With `dive = true` every slice / map field on the path carries the
`dive` tag (the validator descends into it). -/
inductive At (dive : Bool) : List Step → Schema → Val → Schema → Val → Prop
  | here (s : Schema) (c : Val) : At dive [] s c s c
  | field (fs : Fields) (kvs : List (Str × Val)) (f : FInfo) (s : Schema) (key : Str) (c : Val) (p : List Step)
      (s' : Schema) (c' : Val) :
      FieldIn f s fs → f.settable = true → findKey kvs f.key = some (key, c) →
      (dive = true → isContainer s = true → hasDive f.tags = true) →
      At dive p s c s' c' → At dive (.key key :: p) (.struct fs) (.map kvs) s' c'
  | elem (e : Schema) (d : DVal) (xs : List Val) (i : Nat) (c : Val) (p : List Step) (s' : Schema) (c' : Val) :
      xs[i]? = some c → At dive p e c s' c' → At dive (.idx i :: p) (.slice e d) (.list xs) s' c'
  | entry (e : Schema) (d : Option (List (Str × DVal))) (kvs : List (Str × Val)) (key : Str) (c : Val) (p : List Step)
      (s' : Schema) (c' : Val) :
      (key, c) ∈ kvs → At dive p e c s' c' → At dive (.key key :: p) (.map e d) (.map kvs) s' c'
  | deref (n : Bool) (s : Schema) (c : Val) (p : List Step) (s' : Schema) (c' : Val) :
      c ≠ .null → At dive p s c s' c' → At dive (.deref :: p) (.ptr n s) c s' c'
  | plugin (pi : PInfo) (alts : Alts) (m : List (Str × Val)) (name : Str) (lzy : Bool) (s : Schema) (p : List Step)
      (s' : Schema) (c' : Val) :
      typeEntries m = [.str name] → pi.names.contains name = true → altOf alts name = some (lzy, s) →
      At dive p s (.map (dropType m)) s' c' → At dive (.plugin :: p) (.plugin pi alts) (.map m) s' c'
  | schedList (pi : PInfo) (alts : Alts) (xs : List Val) (p : List Step) (s' : Schema) (c' : Val) :
      pi.hook = .sched → At dive p (.plugin pi alts) (.map (schedMap xs)) s' c' →
      At dive (.shortcut :: p) (.plugin pi alts) (.list xs) s' c'

theorem At.weaken {p : List Step} {s : Schema} {c : Val} {s' : Schema} {c' : Val} (h : At true p s c s' c') :
    At false p s c s' c' := by
  induction h with
  | field fs kvs f s key c p s' c' hin hset hfind _ _ ih => exact .field fs kvs f s key c p s' c' hin hset hfind (by simp) ih
  | _ => constructor <;> assumption

/-! ## plugin positions, `type` key anywhere -/

/-- a mapping with more than one `type` key, or a `type` that is no string, is refused -/
theorem plugin_bad_type (fl : Flags) (env : Env) (pi : PInfo) (alts : Alts) (m : List (Str × Val))
    (h : ∀ name, typeEntries m ≠ [.str name]) :
    (decode fl env (.plugin pi alts) (.map m)).errs = [.plugintype] := by
  rcases hl : typeEntries m with _ | ⟨v, _ | ⟨w, r⟩⟩
  · simp [decode, hl, R.fail]
  · cases v <;> first | (exfalso; exact h _ hl) | simp [decode, hl, R.fail]
  · simp [decode, hl, R.fail]

theorem decode_sched_list (fl : Flags) (env : Env) (pi : PInfo) (alts : Alts) (xs : List Val) (h : pi.hook = .sched) :
    decode fl env (.plugin pi alts) (.list xs) = decode fl env (.plugin pi alts) (.map (schedMap xs)) := by
  simp [decode, h, schedMap]

/-! ## an error at the end of a path is an error of the whole -/

theorem mem_of_getElem? {α} {xs : List α} {i : Nat} {c : α} (h : xs[i]? = some c) : c ∈ xs := by
  rcases List.getElem?_eq_some_iff.mp h with ⟨hi, rfl⟩
  exact List.getElem_mem hi

theorem nested_failed (fl : Flags) (env : Env) {p : List Step} {s : Schema} {cfg : Val} {s' : Schema} {c' : Val}
    (h : At false p s cfg s' c') (hf : R.failed (decode fl env s' c')) : R.failed (decode fl env s cfg) := by
  induction h with
  | here s c => exact hf
  | field fs kvs f s key c p s' c' hin hset hfind _ _ ih =>
    exact struct_failed_of_flat fl env fs kvs (failed_of_field fl env fs kvs f s key c hin hset hfind (ih hf))
  | elem e d xs i c p s' c' hget _ ih => exact slice_failed fl env e d xs c (mem_of_getElem? hget) (ih hf)
  | entry e d kvs key c p s' c' hmem _ ih => exact map_failed fl env e d kvs key c hmem (ih hf)
  | deref n s c p s' c' hn _ ih =>
    have hp := ptr_errs_later fl env n s c hn
    rcases ih hf with h | h
    · exact Or.inl (hp.1 h)
    · exact hp.2.1 h
  | plugin pi alts m name lzy s p s' c' hte hname halt _ ih =>
    apply plugin_rejects_gen fl env pi alts m name lzy s hte hname halt
    rcases ih hf with h | h
    · exact Or.inl (settle_ne_nil_of_errs h)
    · exact Or.inr h
  | schedList pi alts xs p s' c' hh _ ih =>
    rw [decode_sched_list fl env pi alts xs hh]
    exact ih hf

/-! ## a constraint violation at the end of a path -/

theorem rejected_of_R (fl : Flags) (env : Env) (s : Schema) (cfg : Val) (h : (decode fl env s cfg).rejected) :
    (decodeAndValidate fl env s cfg).rejected = true := by
  rcases h with h | h | h
  · exact rejected_of_failed fl env s cfg (Or.inl h)
  · exact rejected_of_vfail fl env s cfg h
  · exact rejected_of_failed fl env s cfg (Or.inr h)

theorem R.rejected_of_failed {r : R} (h : R.failed r) : r.rejected := by
  rcases h with h | h
  · exact Or.inl h
  · exact Or.inr (Or.inr h)

theorem R.failed_or_vfail {r : R} (h : r.rejected) : R.failed r ∨ r.vfail = true := by
  rcases h with h | h | h
  · exact Or.inl (Or.inl h)
  · exact Or.inr h
  · exact Or.inl (Or.inr h)

theorem decode_map_vfail (fl : Flags) (env : Env) (e : Schema) (d : Option (List (Str × DVal))) (kvs : List (Str × Val)) :
    (decode fl env (.map e d) (.map kvs)).vfail = (kvs.map fun kv => (kv.1, decode fl env e kv.2)).any (·.2.vfail) := by
  simp [decode]

theorem settle_ne_nil_of_rejected {r : R} (h : r.rejected) : settle r ≠ [] ∨ r.later ≠ [] := by
  rcases h with h | h | h
  · exact Or.inl (settle_ne_nil_of_errs h)
  · left
    unfold settle
    cases he : r.errs with
    | nil => simp [h]
    | cons x xs => simp
  · exact Or.inr h

theorem nested_rejected (fl : Flags) (env : Env) {p : List Step} {s : Schema} {cfg : Val} {s' : Schema} {c' : Val}
    (h : At true p s cfg s' c') (hr : (decode fl env s' c').rejected) : (decode fl env s cfg).rejected := by
  induction h with
  | here s c => exact hr
  | field fs kvs f s key c p s' c' hin hset hfind hd _ ih =>
    rcases R.failed_or_vfail (ih hr) with h | h
    · exact R.rejected_of_failed (struct_failed_of_flat fl env fs kvs
        (failed_of_field fl env fs kvs f s key c hin hset hfind h))
    · right; left
      rw [decode_struct_map]
      apply vfail_of_field fl env fs kvs f s hin
      right
      rw [show fieldResult fl env kvs f s = decode fl env s c by simp [fieldResult, hset, hfind]]
      unfold childVfail
      by_cases hc : isContainer s = true
      · simp [hc, hd rfl hc, h]
      · simp [hc, h]
  | elem e d xs i c p s' c' hget _ ih =>
    have hmem := mem_of_getElem? hget
    rcases R.failed_or_vfail (ih hr) with h | h
    · exact R.rejected_of_failed (slice_failed fl env e d xs c hmem h)
    · right; left
      rw [decode_slice_list]
      simp only [List.any_map, List.any_eq_true]
      exact ⟨c, hmem, h⟩
  | entry e d kvs key c p s' c' hmem _ ih =>
    rcases R.failed_or_vfail (ih hr) with h | h
    · exact R.rejected_of_failed (map_failed fl env e d kvs key c hmem h)
    · right; left
      rw [decode_map_vfail]
      simp only [List.any_map, List.any_eq_true]
      exact ⟨(key, c), hmem, h⟩
  | deref n s c p s' c' hn _ ih =>
    have hp := ptr_errs_later fl env n s c hn
    rcases ih hr with h | h | h
    · exact Or.inl (hp.1 h)
    · exact (hp.2.2 h).imp_right Or.inl
    · exact (hp.2.1 h).imp_right Or.inr
  | plugin pi alts m name lzy s p s' c' hte hname halt _ ih =>
    exact R.rejected_of_failed (plugin_rejects_gen fl env pi alts m name lzy s hte hname halt
      (settle_ne_nil_of_rejected (ih hr)))
  | schedList pi alts xs p s' c' hh _ ih =>
    rw [decode_sched_list fl env pi alts xs hh]
    exact ih hr

/-! ## type-only plugin blocks: the defaults are validated -/

theorem decodeFlat_nil_data (fl : Flags) (env : Env) : ∀ (fs : Fields),
    (decodeFlat fl env fs []).errs = [] ∧ (decodeFlat fl env fs []).later = [] ∧ (decodeFlat fl env fs []).used = [] ∧
    (decodeFlat fl env fs []).vfail = (keepFields false fs).vfail ∧ (decodeFlat fl env fs []).vals = (keepFields false fs).vals
  | .nil => by simp [decodeFlat, keepFields]
  | .cons f s rest => by
    have ih := decodeFlat_nil_data fl env rest
    rw [decodeFlat_cons]
    have : (if f.settable = true then findKey ([] : List (Str × Val)) f.key else none) = none := by
      split <;> simp [findKey]
    simp only [this, keepFields]
    simp [ih.1, ih.2.1, ih.2.2.1, ih.2.2.2.1, ih.2.2.2.2]

/-- an empty mapping decoded into a struct: no error, and the validator sees the defaults -/
theorem decode_struct_empty (fl : Flags) (env : Env) (fs : Fields) :
    (decode fl env (.struct fs) (.map [])).errs = [] ∧ (decode fl env (.struct fs) (.map [])).later = [] ∧
    (decode fl env (.struct fs) (.map [])).vfail = (keep false (.struct fs)).vfail ∧
    (decode fl env (.struct fs) (.map [])).val = (keep false (.struct fs)).val := by
  have h := decodeFlat_nil_data fl env fs
  rw [decode_struct_map]
  simp [h.1, h.2.1, h.2.2.2.1, h.2.2.2.2, keep]

/-! ## Go field paths -/

/-- the first field of that Go name -/
inductive FieldFirst : FInfo → Schema → Fields → Prop
  | head (f s rest) : FieldFirst f s (.cons f s rest)
  | tail (f s g t rest) : g.name ≠ f.name → FieldFirst f s rest → FieldFirst f s (.cons g t rest)

theorem FieldFirst.fieldIn {f : FInfo} {s : Schema} {fs : Fields} (h : FieldFirst f s fs) : FieldIn f s fs := by
  induction h <;> constructor <;> assumption

/-- `FAt names s cfg s' c'`: the Go field path `names` (through structs and pointers to structs) leads from the
position `(s, cfg)` to the position `(s', c')` -/
inductive FAt : List Str → Schema → Val → Schema → Val → Prop
  | here (s : Schema) (c : Val) : FAt [] s c s c
  | field (fs : Fields) (kvs : List (Str × Val)) (f : FInfo) (s : Schema) (key : Str) (c : Val) (p : List Str)
      (s' : Schema) (c' : Val) :
      FieldFirst f s fs → f.settable = true → findKey kvs f.key = some (key, c) →
      FAt p s c s' c' → FAt (f.name :: p) (.struct fs) (.map kvs) s' c'
  | deref (n : Bool) (fs : Fields) (kvs : List (Str × Val)) (nm : Str) (p : List Str) (s' : Schema) (c' : Val) :
      FAt (nm :: p) (.struct fs) (.map kvs) s' c' → FAt (nm :: p) (.ptr n (.struct fs)) (.map kvs) s' c'

theorem find_first (fl : Flags) (env : Env) (kvs : List (Str × Val)) {f : FInfo} {s : Schema} {fs : Fields}
    (h : FieldFirst f s fs) :
    (decodeFlat fl env fs kvs).vals.find? (fun x => x.1 == f.name) = some (f.name, (fieldResult fl env kvs f s).val) := by
  induction h with
  | head rest =>
    rw [decodeFlat_vals]
    simp [Fields.toList]
  | tail g t rest hne _ ih =>
    rw [decodeFlat_vals] at ih ⊢
    have : (g.name == f.name) = false := by simp [hne]
    simp only [Fields.toList, List.map_cons, List.find?_cons, this]
    exact ih

end Pandora.Proofs.C17
