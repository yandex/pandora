/-
C19 — the repaired `substr` slices within bounds; no postprocessor and no assertion panics; a shot panics exactly in the
documented fatal configuration (`run_panicked_iff`); the loops of the instance and the pool; the connections an http2
client meets.
-/
import Pandora.Model.C19
import Pandora.Proofs.C10

namespace Pandora.Proofs.C19
open Pandora.Model.C10 Pandora.Model.C19

theorem isOk_of_ok {α : Type} {c : Checked α} (h : ∃ r, c = .ok r) : c.isOk = true := by
  obtain ⟨r, rfl⟩ := h
  rfl

/-! ### slice bounds of the repaired `substr` -/

/-- `clamp` and `order` are `min`/`max`, which linear arithmetic understands -/
theorem clamp_eq (x l : Int) : clamp x l = min (max x 0) l := by
  simp only [clamp]; omega

theorem order_eq (st en : Int) : order st en = (min st en, max st en) := by
  simp only [order, Prod.mk.injEq]; omega

/-- `order` as the source writes it: one conditional swap -/
theorem order_swap (st en : Int) : order st en = if st > en then (en, st) else (st, en) := by
  unfold order; split <;> rfl

theorem clamp_range (x l : Int) (hl : 0 ≤ l) : 0 ≤ clamp x l ∧ clamp x l ≤ l := by
  rw [clamp_eq]; omega

theorem order_valid (st en l : Int) (hs : 0 ≤ st ∧ st ≤ l) (he : 0 ≤ en ∧ en ≤ l) :
    0 ≤ (order st en).1 ∧ (order st en).1 ≤ (order st en).2 ∧ (order st en).2 ≤ l := by
  rw [order_eq]; omega

/-- After the two index adjustments (`start < 0 ⇒ l + start`, `end ≤ 0 ⇒ l + end`) both indices are clamped into
`[0, l]` and then ordered; hence `0 ≤ lo ≤ hi ≤ l` for EVERY pair of integer arguments and every length. -/
theorem substrBounds_valid (a b l : Int) (hl : 0 ≤ l) :
    0 ≤ (substrBounds a b l).1 ∧ (substrBounds a b l).1 ≤ (substrBounds a b l).2 ∧ (substrBounds a b l).2 ≤ l :=
  order_valid _ _ l (clamp_range _ l hl) (clamp_range _ l hl)

theorem substr_ok {α : Type} (a b : Int) (s : List α) : ∃ r, substr a b s = .ok r := by
  have h := substrBounds_valid a b s.length (by omega)
  unfold substr goSlice
  simp only [h, and_self, if_true]
  exact ⟨_, rfl⟩

/-- the code as found slices with the same indices whenever it does not panic: the fix changes no defined result.
Indices that pass the bounds check lie in `[0, l]` already, where `clamp` is the identity (and on the end index does
what the one clamp of the code as found does). -/
theorem substrBounds_agree (a b l : Int)
    (h : 0 ≤ (substrBoundsUnclamped a b l).1 ∧ (substrBoundsUnclamped a b l).1 ≤ (substrBoundsUnclamped a b l).2 ∧
      (substrBoundsUnclamped a b l).2 ≤ l) :
    substrBounds a b l = substrBoundsUnclamped a b l := by
  unfold substrBounds substrBoundsUnclamped at *
  generalize adjStart a l = st at *
  generalize adjEnd b l = en at *
  rw [order_eq] at h
  have hs : clamp st l = st := by rw [clamp_eq]; omega
  have he : clamp en l = if en > l then l else en := by rw [clamp_eq]; omega
  rw [hs, he]

theorem substr_fix_conservative {α : Type} (a b : Int) (s : List α) (r : List α)
    (h : substrUnclamped a b s = .ok r) : substr a b s = .ok r := by
  unfold substrUnclamped goSlice at h
  by_cases hv : 0 ≤ (substrBoundsUnclamped a b s.length).1 ∧
      (substrBoundsUnclamped a b s.length).1 ≤ (substrBoundsUnclamped a b s.length).2 ∧
      (substrBoundsUnclamped a b s.length).2 ≤ (s.length : Int)
  · have heq := substrBounds_agree a b s.length hv
    unfold substr goSlice
    rw [heq]
    exact h
  · simp [hv] at h

theorem applyMod_ok (m : Modifier) (s : List Char) : ∃ r, applyMod m s = .ok r := by
  cases m with
  | substr a b => exact substr_ok a b s
  | _ => exact ⟨_, rfl⟩

theorem applyChain_ok (ms : List Modifier) (s : List Char) : ∃ r, applyChain ms s = .ok r := by
  induction ms generalizing s with
  | nil => exact ⟨s, rfl⟩
  | cons m ms ih =>
    obtain ⟨r, hr⟩ := applyMod_ok m s
    obtain ⟨r', hr'⟩ := ih r
    exact ⟨r', by simp [applyChain, hr, Checked.bind, hr']⟩

/-! ### postprocessors never panic -/

theorem varHeader_no_panic (r : Resp) (ms : List HeaderMapping) : varHeaderWith applyChain r ms ≠ .panic := by
  induction ms with
  | nil => simp [varHeaderWith]
  | cons m ms ih =>
    unfold varHeaderWith
    cases hm : m.mods with
    | none => simp
    | some mods =>
      simp only
      by_cases hv : r.header m.header = []
      · simpa [hv] using ih
      · obtain ⟨x, hx⟩ := applyChain_ok mods (r.header m.header)
        simpa [hv, hx] using ih

theorem ite_ne_panic (c : Prop) [Decidable c] (a b : PostRes) (ha : a ≠ .panic) (hb : b ≠ .panic) :
    (if c then a else b) ≠ .panic := by
  by_cases h : c <;> simp [h, ha, hb]

theorem assertHttp_no_panic (a : AssertCfg) (r : Resp) : assertHttp a r ≠ .panic := by
  unfold assertHttp
  simp only []
  refine ite_ne_panic _ _ _ (by simp) (ite_ne_panic _ _ _ (by simp) (ite_ne_panic _ _ _ (by simp) ?_))
  cases a.size with
  | none => simp
  | some p =>
    obtain ⟨val, op⟩ := p
    simp only []
    split <;> simp

theorem varJsonpath_no_panic (ps : List String) (r : Resp) : varJsonpath ps r ≠ .panic := by
  unfold varJsonpath
  repeat' split
  all_goals simp

theorem varXpath_no_panic (ks : List XKind) : varXpath ks ≠ .panic := by
  induction ks with
  | nil => simp [varXpath]
  | cons k ks ih => cases k <;> simp [varXpath, ih]

theorem runPP_no_panic (r : Resp) (p : PP) : runPP r p ≠ .panic := by
  cases p with
  | varHeader ms => exact varHeader_no_panic r ms
  | assertResponse a => exact assertHttp_no_panic a r
  | varJsonpath ps => exact varJsonpath_no_panic ps r
  | varXpath ks => exact varXpath_no_panic ks

theorem runPPs_no_panic (r : Resp) (ps : List PP) : runPPs r ps ≠ .panic := by
  induction ps with
  | nil => simp [runPPs]
  | cons p ps ih =>
    unfold runPPs
    have hp := runPP_no_panic r p
    cases h : runPP r p with
    | ok => simpa using ih
    | err => simp
    | panic => exact absurd h hp

theorem assertGrpc_no_panic (a : GrpcAssert) (code : Nat) (outNil : Bool) (f : String → Bool) :
    assertGrpc a code outNil f ≠ .panic := by
  unfold assertGrpc
  repeat' split
  all_goals simp

theorem runGrpcAsserts_no_panic (code : Nat) (outNil : Bool) (f : String → Bool) (as : List GrpcAssert) :
    runGrpcAsserts code outNil f as ≠ .panic := by
  induction as with
  | nil => simp [runGrpcAsserts]
  | cons a as ih =>
    unfold runGrpcAsserts
    have hp := assertGrpc_no_panic a code outNil f
    cases h : assertGrpc a code outNil f with
    | ok => simpa using ih
    | err => simp
    | panic => exact absurd h hp

/-! ### the decision trees do not panic unless a step does -/

theorem shootScenario_panicked (scn : String) (steps : List Step)
    (hp : ∀ s ∈ steps, ∀ st, s.outcome ≠ .received st .panic) :
    (shootScenario scn steps).panicked = false :=
  (Proofs.C10.shootScenario_reports scn steps hp).2

theorem shootGrpcScenario_panicked (scn : String) (steps : List GrpcStep)
    (hp : ∀ s ∈ steps, ∀ c, s.outcome ≠ .invoked c .panic) :
    (shootGrpcScenario scn steps).panicked = false := by
  induction steps with
  | nil => simp [shootGrpcScenario]
  | cons s rest ih =>
    have ih' := ih (fun t ht => hp t (List.mem_cons_of_mem _ ht))
    have hs := hp s (List.mem_cons_self ..)
    unfold shootGrpcScenario
    cases ho : s.outcome with
    | invoked c post =>
      cases post with
      | ok => simp [stepGrpc, ho, ih']
      | err => simp [stepGrpc, ho]
      | panic => exact absurd ho (hs c)
    | _ => simp [stepGrpc, ho]

theorem stepOutcome_no_panic (c : StepCfg) (r : Reply) (st : Nat) : stepOutcome c r ≠ .received st .panic := by
  unfold stepOutcome
  by_cases h : c.prepFails = true
  · simp [h]
  · simp only [h]
    cases r with
    | full resp =>
      intro heq
      simp at heq
      exact runPPs_no_panic resp c.pps heq.2
    | _ => simp

/-- the steps of the http/scenario gun, as `Model.C10` sees them, never panic -/
theorem stepsOf_noPanic (steps : List (StepCfg × H2Facts × Reply)) :
    Proofs.C10.NoPanic (steps.map fun (c, _, r) => { name := c.name, outcome := stepOutcome c r }) := by
  intro s hs st
  obtain ⟨⟨c, f, r⟩, _, rfl⟩ := List.mem_map.mp hs
  exact stepOutcome_no_panic c r st

theorem grpcStepOutcome_no_panic (c : GrpcCallCfg) (r : GrpcReply) (code : Nat) :
    grpcStepOutcome c r ≠ .invoked code .panic := by
  unfold grpcStepOutcome
  cases c.kind with
  | callable =>
    intro heq
    simp at heq
    exact runGrpcAsserts_no_panic _ _ _ _ heq.2
  | _ => simp

theorem stepOutcomeH2_false (f : H2Facts) (c : StepCfg) (r : Reply) : stepOutcomeH2 false f c r = stepOutcome c r := by
  simp [stepOutcomeH2]

theorem stepCompleted_iff (c : StepCfg) (r : Reply) :
    stepCompleted c r = true ↔ ∃ st, stepOutcome c r = .received st .ok := by
  unfold stepOutcome
  by_cases hp : c.prepFails = true
  · cases r <;> simp [stepCompleted, hp]
  · cases r with
    | noResponse e => simp [stepCompleted, hp]
    | brokenBody st e => simp [stepCompleted, hp]
    | full resp =>
      simp only [stepCompleted, hp, Bool.not_false, Bool.true_and, beq_iff_eq, Bool.false_eq_true, if_false,
        StepOutcome.received.injEq]
      constructor
      · intro h
        exact ⟨resp.status, rfl, h⟩
      · rintro ⟨_, _, h⟩
        exact h

/-- `Model.C10`'s loop goes on after a step exactly when the step ran to its end -/
theorem stepPasses_eq_completed (c : StepCfg) (r : Reply) :
    Proofs.C10.stepPasses { name := c.name, outcome := stepOutcome c r } = stepCompleted c r :=
  Bool.eq_iff_iff.mpr ((Proofs.C10.stepPasses_iff _).trans (stepCompleted_iff c r).symm)

theorem stepCompleted_prep (c : StepCfg) (r : Reply) (h : stepCompleted c r = true) : c.prepFails = false := by
  cases r <;> simp_all [stepCompleted]

/-- one turn of `scenarioFatal`: fatal at once, or the step runs to its end and a later request is -/
theorem scenarioFatal_cons (h2 : Bool) (c : StepCfg) (f : H2Facts) (r : Reply) (rest : List (StepCfg × H2Facts × Reply)) :
    scenarioFatal h2 ((c, f, r) :: rest) =
      if !c.prepFails && (h2 && h2Panics f r) then true else stepCompleted c r && scenarioFatal h2 rest := by
  rw [scenarioFatal]
  split
  · rfl
  · rw [← stepPasses_eq_completed]
    simp only [Proofs.C10.stepPasses]
    cases stepOutcome c r with
    | received st post => cases post <;> simp
    | _ => simp

/-- without the panic of the http2 client a step is a step of the http/scenario gun -/
theorem stepOutcomeH2_of_not (h2 : Bool) (f : H2Facts) (c : StepCfg) (r : Reply)
    (hp : ¬ (!c.prepFails && (h2 && h2Panics f r)) = true) : stepOutcomeH2 h2 f c r = stepOutcome c r := by
  simp only [stepOutcomeH2, hp, Bool.false_eq_true, if_false]

/-- the scenario loop panics exactly when it sends a request the http2 client panics on -/
theorem shootScenarioH2_panicked (h2 : Bool) (scn : String) (steps : List (StepCfg × H2Facts × Reply)) :
    (shootScenario scn (steps.map fun (c, f, r) => { name := c.name, outcome := stepOutcomeH2 h2 f c r })).panicked
      = scenarioFatal h2 steps := by
  induction steps with
  | nil => simp [shootScenario, scenarioFatal]
  | cons p rest ih =>
    obtain ⟨c, f, r⟩ := p
    rw [scenarioFatal_cons]
    by_cases hp : (!c.prepFails && (h2 && h2Panics f r)) = true
    · have hs : stepOutcomeH2 h2 f c r = .received 0 .panic := by simp only [stepOutcomeH2, hp, if_true]
      simp only [List.map_cons, shootScenario, stepHttp, hs, hp, if_true]
    · rw [List.map_cons, if_neg hp]
      simp only [stepOutcomeH2_of_not h2 f c r hp]
      rw [Proofs.C10.shootScenario_cons scn _ _ (stepOutcome_no_panic c r), stepPasses_eq_completed]
      cases stepCompleted c r
      · rfl
      · exact ih

/-- outside the fatal condition the http2/scenario gun behaves like the http/scenario gun -/
theorem scenario_map_eq_of_not_fatal (h2 : Bool) (steps : List (StepCfg × H2Facts × Reply))
    (h : scenarioFatal h2 steps = false) (scn : String) :
    shootScenario scn (steps.map fun (c, f, r) => { name := c.name, outcome := stepOutcomeH2 h2 f c r })
      = shootScenario scn (steps.map fun (c, _, r) => { name := c.name, outcome := stepOutcome c r }) := by
  induction steps with
  | nil => rfl
  | cons p rest ih =>
    obtain ⟨c, f, r⟩ := p
    rw [scenarioFatal_cons] at h
    by_cases hp : (!c.prepFails && (h2 && h2Panics f r)) = true
    · rw [if_pos hp] at h
      exact absurd h (by decide)
    · rw [if_neg hp] at h
      simp only [List.map_cons, stepOutcomeH2_of_not h2 f c r hp]
      rw [Proofs.C10.shootScenario_cons scn _ _ (stepOutcome_no_panic c r),
        Proofs.C10.shootScenario_cons scn _ _ (stepOutcome_no_panic c r), stepPasses_eq_completed]
      cases hc : stepCompleted c r
      · rfl
      · rw [hc, Bool.true_and] at h
        simp only [if_true]
        rw [ih h]

theorem scenarioFatal_false (steps : List (StepCfg × H2Facts × Reply)) : scenarioFatal false steps = false := by
  induction steps with
  | nil => rfl
  | cons p rest ih =>
    obtain ⟨c, f, r⟩ := p
    rw [scenarioFatal_cons, ih]
    simp

/-- the http2/scenario gun is in the fatal condition iff the first request it sends to a peer without HTTP/2 is
reached: all steps before it completed (and, being completed, were not themselves such requests) -/
theorem scenarioFatal_true_iff (steps : List (StepCfg × H2Facts × Reply)) :
    scenarioFatal true steps = true ↔
      ∃ (i : Nat) (p : StepCfg × H2Facts × Reply), steps[i]? = some p ∧ p.1.prepFails = false ∧ h2Panics p.2.1 p.2.2 = true ∧
        ∀ j, j < i → ∃ q, steps[j]? = some q ∧ stepCompleted q.1 q.2.2 = true ∧ h2Panics q.2.1 q.2.2 = false := by
  induction steps with
  | nil => simp [scenarioFatal]
  | cons p rest ih =>
    obtain ⟨c, f, r⟩ := p
    rw [scenarioFatal_cons]
    by_cases hp : (!c.prepFails && (true && h2Panics f r)) = true
    · simp only [hp, if_true, true_iff]
      simp only [Bool.true_and, Bool.and_eq_true, Bool.not_eq_true'] at hp
      exact ⟨0, (c, f, r), rfl, hp.1, hp.2, fun j hj => absurd hj (Nat.not_lt_zero j)⟩
    · rw [if_neg hp, Bool.and_eq_true]
      have hp' : ¬ (c.prepFails = false ∧ h2Panics f r = true) := by
        simpa [Bool.and_eq_true] using hp
      constructor
      · rintro ⟨hc, h⟩
        obtain ⟨i, q, hq, hq1, hq2, hall⟩ := ih.mp h
        refine ⟨i + 1, q, by simpa using hq, hq1, hq2, ?_⟩
        intro j hj
        cases j with
        | zero =>
          refine ⟨(c, f, r), rfl, hc, ?_⟩
          cases hh : h2Panics f r with
          | false => rfl
          | true => exact absurd ⟨stepCompleted_prep c r hc, hh⟩ hp'
        | succ k =>
          obtain ⟨q', hq', h1, h2⟩ := hall k (by omega)
          exact ⟨q', by simpa using hq', h1, h2⟩
      · rintro ⟨i, q, hq, hq1, hq2, hall⟩
        cases i with
        | zero =>
          simp only [List.getElem?_cons_zero, Option.some.injEq] at hq
          subst hq
          exact absurd ⟨hq1, hq2⟩ hp'
        | succ k =>
          obtain ⟨q0, hq0, hc0, _⟩ := hall 0 (by omega)
          simp only [List.getElem?_cons_zero, Option.some.injEq] at hq0
          subst hq0
          refine ⟨hc0, ih.mpr ⟨k, q, by simpa using hq, hq1, hq2, ?_⟩⟩
          intro j hj
          obtain ⟨q', hq', h1, h2⟩ := hall (j + 1) (by omega)
          exact ⟨q', by simpa using hq', h1, h2⟩

theorem run_panicked_iff (g : GunShot) : g.run.panicked = g.documentedFatal := by
  cases g with
  | http h2 facts cfg tag id path reply =>
    by_cases hf : (h2 && h2Panics facts reply) = true
    · simp [GunShot.run, GunShot.documentedFatal, hf, shootHttp]
    · have hf' : (h2 && h2Panics facts reply) = false := by simpa using hf
      simp only [GunShot.run, GunShot.documentedFatal, hf']
      cases reply <;> simp [Reply.httpOutcome, shootHttp]
  | scenario h2 scn steps =>
    simp only [GunShot.run, GunShot.documentedFatal]
    exact shootScenarioH2_panicked h2 scn steps
  | grpc tag o => simp [GunShot.run, GunShot.documentedFatal, shootGrpc]
  | grpcScenario scn calls =>
    simp only [GunShot.run, GunShot.documentedFatal]
    apply shootGrpcScenario_panicked
    intro s hs c
    simp only [List.mem_map] at hs
    obtain ⟨⟨cc, r⟩, _, rfl⟩ := hs
    exact grpcStepOutcome_no_panic cc r c

/-- a list of shots, as the instance loop sees it: some shot panics iff some shot is the documented fatal one -/
theorem exists_run_panicked_iff (shots : List GunShot) :
    (∃ s ∈ shots.map GunShot.run, s.panicked = true) ↔ ∃ g ∈ shots, g.documentedFatal = true := by
  simp only [List.mem_map, ← run_panicked_iff]
  exact ⟨fun ⟨_, ⟨g, hg, heq⟩, hp⟩ => ⟨g, hg, heq ▸ hp⟩, fun ⟨g, hg, hp⟩ => ⟨_, ⟨g, hg, rfl⟩, hp⟩⟩

theorem runs_not_panicked (shots : List GunShot) (h : ∀ g ∈ shots, g.documentedFatal = false) :
    ∀ s ∈ shots.map GunShot.run, s.panicked = false := by
  intro s hs
  obtain ⟨g, hg, rfl⟩ := List.mem_map.mp hs
  rw [run_panicked_iff, h g hg]

/-! ### instance.Run -/

theorem instanceRun_all (shots : List ShotResult) (h : ∀ s ∈ shots, s.panicked = false) :
    (instanceRun shots).result = .finished ∧ (instanceRun shots).shotsTaken = shots.length ∧
      (instanceRun shots).samples = (shots.map (·.reports)).flatten := by
  induction shots with
  | nil => simp [instanceRun]
  | cons s rest ih =>
    have hs := h s (List.mem_cons_self ..)
    obtain ⟨h1, h2, h3⟩ := ih (fun t ht => h t (List.mem_cons_of_mem _ ht))
    simp [instanceRun, hs, h1, h2, h3]

theorem instanceRun_failed_iff (shots : List ShotResult) :
    (instanceRun shots).result = .poolFailed ↔ ∃ s ∈ shots, s.panicked = true := by
  induction shots with
  | nil => simp [instanceRun]
  | cons s rest ih =>
    by_cases hs : s.panicked = true
    · simp [instanceRun, hs]
    · have hs' : s.panicked = false := by simpa using hs
      simp [instanceRun, hs', ih]

/-! ### the pool -/

theorem poolResult_failed_iff (insts : List (List ShotResult)) :
    poolResult insts = .poolFailed ↔ ∃ shots ∈ insts, ∃ s ∈ shots, s.panicked = true := by
  simp [poolResult, ← instanceRun_failed_iff]

theorem poolResult_finished (insts : List (List ShotResult)) (h : ∀ shots ∈ insts, ∀ s ∈ shots, s.panicked = false) :
    poolResult insts = .finished := by
  cases hr : poolResult insts with
  | finished => rfl
  | poolFailed =>
    obtain ⟨shots, hs, s, hss, hp⟩ := (poolResult_failed_iff insts).mp hr
    rw [h shots hs s hss] at hp
    exact absurd hp (by decide)

theorem poolSamples_all (insts : List (List ShotResult)) (h : ∀ shots ∈ insts, ∀ s ∈ shots, s.panicked = false) :
    poolSamples insts = (insts.map fun shots => (shots.map (·.reports)).flatten).flatten ∧
    poolShots insts = (insts.map List.length).sum := by
  unfold poolSamples poolShots
  induction insts with
  | nil => simp
  | cons shots rest ih =>
    obtain ⟨_, h2, h3⟩ := instanceRun_all shots (h shots (List.mem_cons_self ..))
    obtain ⟨i1, i2⟩ := ih (fun sh hsh => h sh (List.mem_cons_of_mem _ hsh))
    simp only [List.map_cons, List.flatten_cons, List.sum_cons, h2, h3, i1, i2, and_self]

/-! ### what the samples of a scenario carry -/

/-- with steps that cannot panic, the scenario gun reports exactly the samples of the steps its loop enters -/
theorem shootScenario_reports (scn : String) (steps : List (StepCfg × H2Facts × Reply)) :
    (shootScenario scn (steps.map fun (c, _, r) => { name := c.name, outcome := stepOutcome c r })).reports
      = ((steps.take (executedSteps (steps.map fun (c, _, r) => { name := c.name, outcome := stepOutcome c r }))).map
          fun (c, _, r) => sampleOfStep scn c r) := by
  rw [(Proofs.C10.shootScenario_reports scn _ (stepsOf_noPanic steps)).1, ← List.map_take, List.map_map]
  exact List.map_congr_left fun ⟨c, _, r⟩ _ => rfl

theorem sampleOfStep_completed (scn : String) (c : StepCfg) (resp : Resp) (h : stepCompleted c (.full resp) = true) :
    sampleOfStep scn c (.full resp) = { tags := stepTag scn c.name, id := 0, proto := resp.status, net := 0 } := by
  simp only [stepCompleted, Bool.and_eq_true, Bool.not_eq_true', beq_iff_eq] at h
  simp [sampleOfStep, stepOutcome, h.1, h.2, okSample]

theorem sampleOfStep_failed (scn : String) (c : StepCfg) (r : Reply) (h : stepCompleted c r = false) :
    sampleOfStep scn c r = { tags := stepTag scn c.name ++ "|" ++ emptyTag, id := 0, proto := 0, net := protoCodeError } := by
  have herr : errSample scn c.name
      = { tags := stepTag scn c.name ++ "|" ++ emptyTag, id := 0, proto := 0, net := protoCodeError } := by
    unfold errSample
    congr 1
    exact Proofs.C10.errSample_tags scn c.name
  rw [← herr]
  exact Proofs.C10.stepSample_of_failed scn _ ((stepPasses_eq_completed c r).trans h)

theorem shootGrpcScenario_reports (scn : String) (calls : List (GrpcCallCfg × GrpcReply)) :
    (shootGrpcScenario scn (calls.map fun (c, r) => { tag := c.tag, outcome := grpcStepOutcome c r })).reports
      = ((calls.take (executedGrpcSteps (calls.map fun (c, r) => { tag := c.tag, outcome := grpcStepOutcome c r }))).map
          fun (c, r) => sampleOfCall scn c r) := by
  rw [Proofs.C10.shootGrpcScenario_reports, ← List.map_take, List.map_map]
  exact List.map_congr_left fun ⟨c, r⟩ _ => rfl

/-! ### the connections an http2 client meets -/

theorem h2Panics_default (r : Reply) : h2Panics {} r = false := by
  cases r <;> simp [h2Panics, H2Facts.alpnAlert, DoErrFacts.panics, checkHTTP2, nextProtoTLS]

theorem connNext_not_fatal (dka : Bool) (dflt : ConnFate) (hd : dflt.fatal = false) (isOpen : Bool)
    (plan : List ConnFate) (hp : ∀ c ∈ plan, c.fatal = false) (r : Reply) :
    h2Panics (connNext dka dflt isOpen plan r).1.1 (connNext dka dflt isOpen plan r).1.2 = false ∧
      ∀ c ∈ (connNext dka dflt isOpen plan r).2.2, c.fatal = false := by
  have htail : ∀ c ∈ plan.tail, c.fatal = false := fun c hc => hp c (List.mem_of_mem_tail hc)
  unfold connNext
  cases isOpen with
  | true => exact ⟨by simpa using h2Panics_default r, by simpa using hp⟩
  | false =>
    have hhead : (plan.headD dflt).fatal = false := by
      cases plan with
      | nil => simpa using hd
      | cons c cs => simpa using hp c (List.mem_cons_self ..)
    simp only [Bool.false_eq_true, if_false]
    cases hc : plan.headD dflt with
    | h2 => exact ⟨h2Panics_default r, htail⟩
    | noH2 t =>
      rw [hc] at hhead
      have ht : checkHTTP2 t = true := by simpa [ConnFate.fatal] using hhead
      refine ⟨?_, htail⟩
      cases r <;> simp [h2Panics, H2Facts.alpnAlert, DoErrFacts.panics, ht]
    | fails e =>
      rw [hc] at hhead
      exact ⟨by simpa [h2Panics, H2Facts.alpnAlert, ConnFate.fatal] using hhead, htail⟩

/-- over connections none of which is of the fatal kind, no request meets the documented fatal condition; and every
request gets its turn -/
theorem connShots_not_fatal (dka : Bool) (dflt : ConnFate) (hd : dflt.fatal = false) (replies : List Reply) :
    ∀ (isOpen : Bool) (plan : List ConnFate), (∀ c ∈ plan, c.fatal = false) →
      (connShots dka dflt isOpen plan replies).length = replies.length ∧
      ∀ p ∈ connShots dka dflt isOpen plan replies, h2Panics p.1 p.2 = false := by
  induction replies with
  | nil => intro o plan _; simp [connShots]
  | cons r rs ih =>
    intro o plan hp
    obtain ⟨h1, h2⟩ := connNext_not_fatal dka dflt hd o plan hp r
    obtain ⟨hl, hm⟩ := ih (connNext dka dflt o plan r).2.1 (connNext dka dflt o plan r).2.2 h2
    refine ⟨by simp [connShots, hl], ?_⟩
    intro p hpm
    simp only [connShots, List.mem_cons] at hpm
    rcases hpm with rfl | hpm
    · exact h1
    · exact hm p hpm

/-- a scenario shot over connections none of which is of the fatal kind does not meet the documented fatal condition,
and leaves only such connections to the next shot -/
theorem scenarioOverConns_not_fatal (dka : Bool) (dflt : ConnFate) (hd : dflt.fatal = false) (h2 : Bool)
    (steps : List (StepCfg × Reply)) :
    ∀ (isOpen : Bool) (plan : List ConnFate), (∀ c ∈ plan, c.fatal = false) →
      scenarioFatal h2 (scenarioOverConns dka dflt h2 isOpen plan steps).1 = false ∧
      ∀ c ∈ (scenarioOverConns dka dflt h2 isOpen plan steps).2.2, c.fatal = false := by
  induction steps with
  | nil => intro o plan hp; exact ⟨rfl, hp⟩
  | cons p rest ih =>
    obtain ⟨c, r⟩ := p
    intro o plan hp
    by_cases hpf : c.prepFails = true
    · simp only [scenarioOverConns, hpf, if_true]
      refine ⟨?_, hp⟩
      simp [scenarioFatal, hpf, stepOutcome]
    · have hpf' : c.prepFails = false := by simpa using hpf
      obtain ⟨h1, h2'⟩ := connNext_not_fatal dka dflt hd o plan hp r
      have hso : stepOutcomeH2 h2 (connNext dka dflt o plan r).1.1 c (connNext dka dflt o plan r).1.2
          = stepOutcome c (connNext dka dflt o plan r).1.2 := by
        simp [stepOutcomeH2, h1]
      simp only [scenarioOverConns, hpf', Bool.false_eq_true, if_false, hso]
      cases ho : stepOutcome c (connNext dka dflt o plan r).1.2 with
      | received st post =>
        cases post with
        | ok =>
          obtain ⟨i1, i2⟩ := ih (connNext dka dflt o plan r).2.1 (connNext dka dflt o plan r).2.2 h2'
          exact ⟨by simp [scenarioFatal, h1, ho, i1], i2⟩
        | _ => exact ⟨by simp [scenarioFatal, h1, ho], h2'⟩
      | _ => exact ⟨by simp [scenarioFatal, h1, ho], h2'⟩

theorem scenarioShotsOverConns_not_fatal (dka : Bool) (dflt : ConnFate) (hd : dflt.fatal = false) (h2 : Bool) (scn : String)
    (steps : List (StepCfg × Reply)) (n : Nat) :
    ∀ (isOpen : Bool) (plan : List ConnFate), (∀ c ∈ plan, c.fatal = false) →
      (scenarioShotsOverConns dka dflt h2 scn steps n isOpen plan).length = n ∧
      ∀ g ∈ scenarioShotsOverConns dka dflt h2 scn steps n isOpen plan, g.documentedFatal = false := by
  induction n with
  | zero => intro o plan _; simp [scenarioShotsOverConns]
  | succ k ih =>
    intro o plan hp
    obtain ⟨h1, h2'⟩ := scenarioOverConns_not_fatal dka dflt hd h2 steps o plan hp
    obtain ⟨hl, hm⟩ := ih (scenarioOverConns dka dflt h2 o plan steps).2.1 (scenarioOverConns dka dflt h2 o plan steps).2.2 h2'
    refine ⟨by simp [scenarioShotsOverConns, hl], ?_⟩
    intro g hg
    simp only [scenarioShotsOverConns, List.mem_cons] at hg
    rcases hg with rfl | hg
    · simpa [GunShot.documentedFatal] using h1
    · exact hm g hg

end Pandora.Proofs.C19
