/-
C08: the hypothesis `Progressing` of `C08_conc_fair_end` is satisfiable: a concrete infinite
schedule (the two-consumer example of Props/C08.lean, then `prod` for ever) and the facts needed to show it makes
minimal progress.
-/
import Pandora.Proofs.C08Term

namespace Pandora.Proofs.C08
open Pandora.Model.C08

/-- a state in which `Run` has returned, nothing is on offer or in the channel and every consumer has seen the end is stuck -/
theorem stuck_of_done (inp : Input) (n cap cons : Nat) (s : Sys) (hr : s.result.isSome = true) (ho : s.offering = none)
    (hb : s.buf = []) (he : ∀ c, c < cons → c ∈ s.ended) : Stuck inp n cap cons s := by
  intro l hl
  cases l with
  | prod => simp [Sys.next, hr]
  | push => simp [Sys.next, ho]
  | hand c => simp [Sys.next, ho]
  | done => simp [Sys.next, ho]
  | recv c => simp [Sys.next, hb]
  | eoa c =>
    simp only [Sys.next]
    split
    · next h => exact absurd (he c h.2.2.1) h.2.2.2
    · rfl
  | cancel => exact absurd rfl hl

def fairInp : Input := ⟨.uri, true, ⟨3, 0⟩, none⟩
def fairLs : List Label := [.prod, .prod, .hand 1, .prod, .hand 0, .prod, .hand 1, .prod, .eoa 0, .eoa 1]
/-- the schedule of the two-consumer example, then `prod` for ever -/
def fairSched (t : Nat) : Label := (fairLs[t]?).getD .prod

theorem fairSched_const : ∀ j, stateAt fairInp 2 0 2 fairSched (10 + j) = stateAt fairInp 2 0 2 fairSched 10 := by
  intro j
  induction j with
  | zero => rfl
  | succ j ih =>
    have hσ : fairSched (10 + j) = .prod := by
      unfold fairSched
      have : fairLs[10 + j]? = none := by
        apply List.getElem?_eq_none
        simp [fairLs]
      rw [this]; rfl
    show ((stateAt fairInp 2 0 2 fairSched (10 + j)).next fairInp 2 0 2 (fairSched (10 + j))).getD _ = _
    rw [hσ, ih]
    have : (stateAt fairInp 2 0 2 fairSched 10).next fairInp 2 0 2 .prod = none := by decide
    rw [this]
    exact ih

end Pandora.Proofs.C08
