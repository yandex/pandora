/-
C07 — lemmas behind the line-length and header-scope theorems:
* request targets of any length (`longTarget`), and a Scanner with a token limit refusing a line that reaches it;
* scope of an in-file header line (entries after it, not the ones before it).
-/
import Pandora.Proofs.C07Deliver

namespace Pandora.Proofs.C07
open Pandora.Model.C07 Pandora.Spec.C07

/-! ### arbitrarily long request targets -/

/-- `/aaa…a` with `n` letters: a well-formed request target of any length -/
def longTarget (n : Nat) : Bytes := 47 :: List.replicate n 97

theorem longTarget_length (n : Nat) : (longTarget n).length = n + 1 := by simp [longTarget]

theorem mem_longTarget {b : UInt8} {n : Nat} (h : b ∈ longTarget n) : b = 47 ∨ b = 97 := by
  simp only [longTarget, List.mem_cons, List.mem_replicate] at h
  rcases h with h | ⟨_, h⟩
  · exact Or.inl h
  · exact Or.inr h

theorem longTarget_noLF (n : Nat) : LF ∉ longTarget n := by
  intro h; rcases mem_longTarget h with h | h <;> simp [LF] at h

theorem longTarget_noSP (n : Nat) : SP ∉ longTarget n := by
  intro h; rcases mem_longTarget h with h | h <;> simp [SP] at h

theorem longTarget_reverse_edge (n : Nat) : spWidthRev (longTarget n).reverse = 0 := by
  cases n with
  | zero => decide
  | succ m =>
    have : (longTarget (m + 1)).reverse = 97 :: (longTarget m).reverse := by
      have e1 : ∀ k, (longTarget k).reverse = List.replicate k 97 ++ [47] := by
        intro k; simp only [longTarget, List.reverse_cons, List.reverse_replicate]
      rw [e1 (m + 1), e1 m, List.replicate_succ, List.cons_append]
    rw [this]
    exact spWidthRev_ascii 97 _ (by decide) (by decide)

theorem longTarget_ok (n : Nat) : targetOK (longTarget n) = true := by
  have h1 : noLF (longTarget n) = true := (noLF_iff _).mpr (longTarget_noLF n)
  have h2 : (longTarget n).contains SP = false := by
    simpa using longTarget_noSP n
  have h3 := longTarget_reverse_edge n
  simp only [longTarget] at h1 h2 h3 ⊢
  simp only [targetOK]
  rw [h1, h2, h3]
  decide

theorem longTarget_uriOK (n : Nat) : uriOK (longTarget n) = true := by
  cases n with
  | zero => decide
  | succ m =>
    have hb : ∀ k, uriBytesOK (List.replicate k 97) = true := by
      intro k
      induction k with
      | zero => rfl
      | succ k ih =>
        rw [List.replicate_succ]
        unfold uriBytesOK
        rw [if_neg (by decide), ih]
        decide
    simp only [longTarget, List.replicate_succ, uriOK]
    have := hb (m + 1)
    rw [List.replicate_succ] at this
    exact this

/-! ### the Scanner limit -/

/-- with a token limit `l > 0`, a first line of `l` bytes or more ends the pass at once with `token too long` -/
theorem uriPass_toolong (l : Nat) (hl : 0 < l) (line R : Bytes) (h : Hdrs) (hline : LF ∉ line) (hlong : l ≤ line.length)
    (hR : R = [] ∨ ∃ R', R = LF :: R') :
    uriPassLim (some l) (line ++ R) h = ([], .err .toolong) := by
  have hc : (cut LF (line ++ R)).1 = line := by
    rcases hR with hR | ⟨R', hR⟩
    · rw [hR, List.append_nil, cut_no_sep LF line hline]
    · rw [hR, cut_append_sep LF line R' hline]
  have hpos : 0 < line.length := by omega
  cases hb : line ++ R with
  | nil =>
    have : (line ++ R).length = 0 := by rw [hb]; rfl
    rw [List.length_append] at this; omega
  | cons b r =>
    rw [uriPassLim]
    rw [hb] at hc
    simp only [hc, tooLong, hlong, decide_true, if_true]

/-! ### scope of a header line -/

theorem hget_hsetRaw_same (h : Hdrs) (k v : Bytes) : hget (hsetRaw h k v) k = some v := by
  induction h with
  | nil => simp [hsetRaw, hget]
  | cons kv r ih =>
    obtain ⟨k', v'⟩ := kv
    unfold hsetRaw
    by_cases hk : k' = k
    · simp [hk, hget]
    · simp [hk, hget, ih]

theorem hget_hsetRaw_other (h : Hdrs) (k v key : Bytes) (hne : k ≠ key) : hget (hsetRaw h k v) key = hget h key := by
  induction h with
  | nil => simp [hsetRaw, hget, hne]
  | cons kv r ih =>
    obtain ⟨k', v'⟩ := kv
    unfold hsetRaw
    by_cases hk : k' = k
    · subst hk; simp [hget, hne]
    · simp only [hk, if_false, hget]
      by_cases hk2 : k' = key
      · simp [hk2]
      · simp [hk2, ih]

/-- after `[k: v]` the accumulator answers `v` for the canonical key -/
theorem hget_hset_same (h : Hdrs) (k v : Bytes) : hget (hset h k v) (canonKey k) = some v :=
  hget_hsetRaw_same h (canonKey k) v

/-- a header line with another canonical key leaves the value untouched -/
theorem hget_hset_other (h : Hdrs) (k v key : Bytes) (hne : canonKey k ≠ key) : hget (hset h k v) key = hget h key :=
  hget_hsetRaw_other h (canonKey k) v key hne

/-- the header accumulator after the entries `items`, starting from `h` -/
def accHdrs : Hdrs → List Item → Hdrs
  | h, [] => h
  | h, .hdr k v :: r => accHdrs (hset h k v) r
  | h, _ :: r => accHdrs h r

theorem expAmmo_append (f : Fmt) : ∀ (pre post : List Item) (h : Hdrs),
    expAmmo f h (pre ++ post) = expAmmo f h pre ++ expAmmo f (accHdrs h pre) post := by
  intro pre
  induction pre with
  | nil => intro post h; rfl
  | cons it r ih =>
    intro post h
    cases it with
    | hdr k v => simp only [List.cons_append, expAmmo, accHdrs]; exact ih post _
    | req u t b => simp only [List.cons_append, expAmmo, accHdrs, List.cons_append]; rw [ih post h]
    | frame t fr => simp only [List.cons_append, expAmmo, accHdrs]; exact ih post h

/-- no header line among `items` defines the canonical key `key` -/
def noRedef (key : Bytes) : List Item → Bool
  | [] => true
  | .hdr k _ :: r => canonKey k != key && noRedef key r
  | _ :: r => noRedef key r

theorem expAmmo_keeps (f : Fmt) (key v : Bytes) : ∀ (items : List Item) (h : Hdrs),
    hget h key = some v → noRedef key items = true → ∀ a ∈ expAmmo f h items, hget a.hdrs key = some v := by
  intro items
  induction items with
  | nil => intro h _ _ a ha; simp [expAmmo] at ha
  | cons it r ih =>
    intro h hk hn a ha
    cases it with
    | hdr k' v' =>
      simp only [noRedef, Bool.and_eq_true, bne_iff_ne, ne_eq] at hn
      simp only [expAmmo] at ha
      exact ih (hset h k' v') (by rw [hget_hset_other h k' v' key hn.1]; exact hk) hn.2 a ha
    | req u t b =>
      simp only [noRedef] at hn
      simp only [expAmmo, List.mem_cons] at ha
      rcases ha with ha | ha
      · rw [ha]; exact hk
      · exact ih h hk hn a ha
    | frame t fr =>
      simp only [noRedef] at hn
      simp only [expAmmo] at ha
      exact ih h hk hn a ha

end Pandora.Proofs.C07
