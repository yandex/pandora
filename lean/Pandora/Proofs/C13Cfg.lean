/-
C13 — lemmas about the option handling around the decoders (Model/C13Cfg.lean): the `chosen_cases` filter under
`runFullScan` (`ccMulti`, `jlArrayLoopCC`, and `multiRun` / `jlArrayLoop` as the loops whose filter refuses nothing),
the http provider over a jsonline file, the separator of `readCsv`.
-/
import Pandora.Model.C13Cfg
import Pandora.Proofs.C13Jsonline

namespace Pandora.Proofs.C13
open Pandora.Model.C13

/-! ### `ccMulti` -/

/-- one pass of the provider with a filter: it stops - with chosen entries, ending well, as the pass ends, or with
"no ammo" - or the file is read again, which the guarded provider does only after it has delivered something -/
theorem ccMulti_succ_cases (guarded : Bool) (one : Run) (sel : List Entry) (passes limit fuel passNum read done : Nat) :
    let r := ccMulti guarded one sel passes limit (fuel + 1) passNum read done
    ((∀ e ∈ r.entries, e ∈ sel) ∧ (r.end_ = .ok ∨ r.end_ = one.end_ ∨ r.end_ = .err "noammo")) ∨
    ((limit = 0 ∨ done + sel.length < limit) ∧ (guarded = true → done + sel.length ≠ 0) ∧
      httpPassEnd passes (passNum + 1) (read + one.entries.length) = .again ∧
      r = (ccMulti guarded one sel passes limit fuel (passNum + 1) (read + one.entries.length) (done + sel.length)).prepend sel) := by
  dsimp only
  rw [ccMulti]
  by_cases h1 : limit ≠ 0 ∧ done + sel.length ≥ limit
  · rw [if_pos h1]; exact .inl ⟨fun e => List.mem_of_mem_take, .inl rfl⟩
  rw [if_neg h1]
  by_cases h2 : one.end_ ≠ .ok
  · rw [if_pos h2]; exact .inl ⟨fun _ h => h, .inr (.inl rfl)⟩
  rw [if_neg h2]
  cases hpe : httpPassEnd passes (passNum + 1) (read + one.entries.length) with
  | stop e =>
    refine .inl ⟨fun _ h => h, ?_⟩
    by_cases h3 : done + sel.length = 0
    · exact .inr (.inr (if_pos h3))
    · exact ((httpPassEnd_stop hpe).imp (fun h => (if_neg h3).trans h) fun h => .inr ((if_neg h3).trans h))
  | again =>
    by_cases h3 : guarded = true ∧ done + sel.length = 0
    · rw [if_pos h3]; exact .inl ⟨fun _ h => (nomatch h), .inr (.inr rfl)⟩
    · rw [if_neg h3]; exact .inr ⟨by omega, fun hg h0 => h3 ⟨hg, h0⟩, rfl, rfl⟩

/-- a filter that lets nothing through: one pass, then "no ammo" (or the error of the file) - whatever the limits -/
theorem ccMulti_nothing (one : Run) (passes limit : Nat) (fuel passNum read : Nat) :
    ccMulti true one [] passes limit (fuel + 1) passNum read 0 =
      if one.end_ ≠ .ok then ⟨[], one.end_, one.rest⟩ else ⟨[], .err "noammo", []⟩ := by
  unfold ccMulti
  have h0 : ¬ (limit ≠ 0 ∧ 0 + ([] : List Entry).length ≥ limit) := by
    simp only [List.length_nil, Nat.add_zero]; omega
  rw [if_neg h0]
  by_cases he : one.end_ ≠ .ok
  · rw [if_pos he, if_pos he]
  · rw [if_neg he, if_neg he]
    cases httpPassEnd passes (passNum + 1) (read + one.entries.length) <;> rfl

/-- with a limit: every repeated pass delivers at least one entry -/
theorem ccMulti_no_fuel_limit (one : Run) (sel : List Entry) (passes limit : Nat) (hone : one.end_ ≠ .fuel) (hl : limit ≠ 0) :
    ∀ (fuel passNum read done : Nat), done = passNum * sel.length → limit - done + 1 ≤ fuel →
      (ccMulti true one sel passes limit fuel passNum read done).end_ ≠ .fuel := by
  intro fuel
  induction fuel with
  | zero => intro passNum read done _ h; omega
  | succ fuel ih =>
    intro passNum read done hd hf
    rcases ccMulti_succ_cases true one sel passes limit fuel passNum read done with ⟨_, he | he | he⟩ | ⟨hlim, hpos, _, hr⟩
    · rw [he]; exact End.noConfusion
    · rw [he]; exact hone
    · rw [he]; exact End.noConfusion
    · rw [hr, prepend_end]
      have hpos := hpos rfl
      refine ih (passNum + 1) _ (done + sel.length) (by rw [hd, Nat.succ_mul]) ?_
      have hlen : 0 < sel.length := by
        rcases Nat.eq_zero_or_pos sel.length with h0 | h0
        · rw [h0, Nat.mul_zero] at hd; omega
        · exact h0
      omega

/-- with a pass limit: at most `passes` passes -/
theorem ccMulti_no_fuel_passes (guarded : Bool) (one : Run) (sel : List Entry) (passes limit : Nat) (hone : one.end_ ≠ .fuel)
    (hp : passes ≠ 0) :
    ∀ (fuel passNum read done : Nat), passes - passNum + 1 ≤ fuel →
      (ccMulti guarded one sel passes limit fuel passNum read done).end_ ≠ .fuel := by
  intro fuel
  induction fuel with
  | zero => intro passNum read done h; omega
  | succ fuel ih =>
    intro passNum read done hf
    rcases ccMulti_succ_cases guarded one sel passes limit fuel passNum read done with ⟨_, he | he | he⟩ | ⟨_, _, hag, hr⟩
    · rw [he]; exact End.noConfusion
    · rw [he]; exact hone
    · rw [he]; exact End.noConfusion
    · rw [hr, prepend_end]
      have := (httpPassEnd_again _ _ _ hag).2
      exact ih (passNum + 1) _ _ (by omega)

/-- nothing but chosen entries of the file is delivered -/
theorem ccMulti_mem (guarded : Bool) (one : Run) (sel : List Entry) (passes limit : Nat) :
    ∀ (fuel passNum read done : Nat), ∀ e ∈ (ccMulti guarded one sel passes limit fuel passNum read done).entries, e ∈ sel := by
  intro fuel
  induction fuel with
  | zero => intro _ _ _ e he; cases he
  | succ fuel ih =>
    intro passNum read done e he
    rcases ccMulti_succ_cases guarded one sel passes limit fuel passNum read done with ⟨hm, _⟩ | ⟨_, _, _, hr⟩
    · exact hm e he
    · rw [hr, prepend_entries, List.mem_append] at he
      exact he.elim id (ih _ _ _ e)

/-- how the provider with a filter can end: well, as the single pass ends, with "no ammo" - or out of fuel -/
theorem ccMulti_end_cases (guarded : Bool) (one : Run) (sel : List Entry) (passes limit : Nat) :
    ∀ (fuel passNum read done : Nat),
      let e := (ccMulti guarded one sel passes limit fuel passNum read done).end_
      e = .ok ∨ e = one.end_ ∨ e = .fuel ∨ e = .err "noammo" := by
  intro fuel
  induction fuel with
  | zero => intro _ _ _; exact .inr (.inr (.inl rfl))
  | succ fuel ih =>
    intro passNum read done
    rcases ccMulti_succ_cases guarded one sel passes limit fuel passNum read done with ⟨_, he | he | he⟩ | ⟨_, _, _, hr⟩
    · exact .inl he
    · exact .inr (.inl he)
    · exact .inr (.inr (.inr he))
    · rw [hr, prepend_end]; exact ih _ _ _

/-- a filter that lets everything through: the provider without a filter (`multiRun`), entry by entry; the end differs
in one case only - a pass limit reached with nothing delivered is "no ammo" here, and is not told from a regular end there -/
theorem ccMulti_all (one : Run) (passes limit : Nat) :
    ∀ (fuel passNum done : Nat),
      (ccMulti true one one.entries passes limit fuel passNum done done).entries = (multiRun one passes limit fuel passNum done).entries ∧
      ((ccMulti true one one.entries passes limit fuel passNum done done).end_ = (multiRun one passes limit fuel passNum done).end_ ∨
       ((multiRun one passes limit fuel passNum done).end_ = .ok ∧
        (ccMulti true one one.entries passes limit fuel passNum done done).end_ = .err "noammo")) := by
  intro fuel
  induction fuel with
  | zero => intro _ _; exact ⟨rfl, .inl rfl⟩
  | succ fuel ih =>
    intro passNum done
    rw [ccMulti, multiRun]
    by_cases h1 : limit ≠ 0 ∧ done + one.entries.length ≥ limit
    · rw [if_pos h1, if_pos h1]; exact ⟨rfl, .inl rfl⟩
    rw [if_neg h1, if_neg h1]
    by_cases h2 : one.end_ ≠ .ok
    · rw [if_pos h2, if_pos h2]; exact ⟨rfl, .inl rfl⟩
    rw [if_neg h2, if_neg h2]
    cases hpe : httpPassEnd passes (passNum + 1) (done + one.entries.length) with
    | stop e =>
      refine ⟨rfl, ?_⟩
      by_cases h0 : done + one.entries.length = 0
      · rcases httpPassEnd_stop hpe with he | he
        · exact .inr ⟨he, if_pos h0⟩
        · exact .inl ((if_pos h0).trans he.symm)
      · exact .inl (if_neg h0)
    | again =>
      have hpos := (httpPassEnd_again _ _ _ hpe).1
      have hg : ¬ ((true : Bool) = true ∧ done + one.entries.length = 0) := by omega
      obtain ⟨h1, h2⟩ := ih (passNum + 1) (done + one.entries.length)
      rw [if_neg hg]
      exact ⟨congrArg (one.entries ++ ·) h1, h2⟩

/-- the provider WITHOUT the test in front of `Scan` (or with a decoder that does not answer the `passCounter` assertion):
a file with an entry, a filter that matches nothing, no pass limit - it never ends, whatever the ammo limit -/
theorem ccMulti_unguarded_spins (e : Entry) (es : List Entry) (limit : Nat) :
    ∀ (fuel passNum read : Nat), (ccMulti false ⟨e :: es, .ok, []⟩ [] 0 limit fuel passNum read 0).end_ = .fuel := by
  intro fuel
  induction fuel with
  | zero => intro _ _; rfl
  | succ fuel ih =>
    intro passNum read
    unfold ccMulti
    have h0 : ¬ (limit ≠ 0 ∧ 0 + ([] : List Entry).length ≥ limit) := by
      simp only [List.length_nil, Nat.add_zero]; omega
    rw [if_neg h0]
    simp only [ne_eq, not_true_eq_false, if_false]
    have hpe : httpPassEnd 0 (passNum + 1) (read + (e :: es).length) = .again := by
      unfold httpPassEnd
      simp
    rw [hpe]
    simp only [Bool.false_eq_true, false_and, if_false, prepend_end]
    exact ih _ _

/-! ### the provider without a filter (`multiRun`), through `ccMulti_all` -/

theorem multiRun_no_fuel_limit (one : Run) (passes limit : Nat) (hone : one.end_ ≠ .fuel) (hl : limit ≠ 0)
    (fuel passNum done : Nat) (hd : done = passNum * one.entries.length) (hf : limit - done + 1 ≤ fuel) :
    (multiRun one passes limit fuel passNum done).end_ ≠ .fuel := fun h => by
  rcases (ccMulti_all one passes limit fuel passNum done).2 with he | ⟨hok, _⟩
  · exact ccMulti_no_fuel_limit one _ passes limit hone hl fuel passNum done done hd hf (he.trans h)
  · rw [hok] at h; cases h

theorem multiRun_no_fuel_passes (one : Run) (passes limit : Nat) (hone : one.end_ ≠ .fuel) (hp : passes ≠ 0)
    (fuel passNum done : Nat) (hf : passes - passNum + 1 ≤ fuel) :
    (multiRun one passes limit fuel passNum done).end_ ≠ .fuel := fun h => by
  rcases (ccMulti_all one passes limit fuel passNum done).2 with he | ⟨hok, _⟩
  · exact ccMulti_no_fuel_passes true one _ passes limit hone hp fuel passNum done done hf (he.trans h)
  · rw [hok] at h; cases h

/-- how a run over repeated passes can end: well, as the single pass ends, with "no ammo" - or out of fuel -/
theorem multiRun_end_cases (one : Run) (passes limit fuel passNum done : Nat) :
    let e := (multiRun one passes limit fuel passNum done).end_
    e = .ok ∨ e = one.end_ ∨ e = .fuel ∨ e = .err "noammo" := by
  rcases (ccMulti_all one passes limit fuel passNum done).2 with he | ⟨hok, _⟩
  · exact he ▸ ccMulti_end_cases true one _ passes limit fuel passNum done done
  · exact .inl hok

theorem multiRun_mem (one : Run) (passes limit fuel passNum done : Nat) :
    ∀ e ∈ (multiRun one passes limit fuel passNum done).entries, e ∈ one.entries :=
  (ccMulti_all one passes limit fuel passNum done).1 ▸ ccMulti_mem true one _ passes limit fuel passNum done done

/-- an end that is "fine", the end of a pass that returned, "out of fuel" or "no ammo" is not a crash -/
theorem End.not_crash {e oe : End} (hone : End.clean oe) (h : e = .ok ∨ e = oe ∨ e = .fuel ∨ e = .err "noammo") :
    e ≠ .panic ∧ e ≠ .fatal := by
  rcases h with rfl | rfl | rfl | rfl
  · exact ⟨End.noConfusion, End.noConfusion⟩
  · cases e with
    | panic | fatal => exact hone.elim
    | _ => exact ⟨End.noConfusion, End.noConfusion⟩
  · exact ⟨End.noConfusion, End.noConfusion⟩
  · exact ⟨End.noConfusion, End.noConfusion⟩

theorem multiRunAll_no_panic (one : Run) (passes limit : Nat) (hone : End.clean one.end_) :
    (multiRunAll one passes limit).end_ ≠ .panic ∧ (multiRunAll one passes limit).end_ ≠ .fatal :=
  End.not_crash hone (multiRun_end_cases one passes limit _ 0 0)

/-- a pass that fails before the limit is reached ends the run with what it read -/
theorem multiRunAll_failed (one : Run) (passes limit : Nat) (he : one.end_ ≠ .ok) (hl : limit = 0 ∨ one.entries.length < limit) :
    multiRunAll one passes limit = ⟨one.entries, one.end_, one.rest⟩ := by
  unfold multiRunAll
  rw [multiRun, if_neg (by omega), if_pos he]

/-! ### `jlArrayLoopCC` -/

/-- one `Scan` of the array loop with a filter: the run ends there - well or with "no ammo", with what was delivered so far -
or `scanAmmos` hands out an element, which is delivered when the filter lets it through -/
theorem jlArrayLoopCC_succ_cases (guarded : Bool) (chosen : Bytes → Bool) (elems : List Bytes) (passes limit fuel : Nat)
    (s : JlArr) (n : Nat) (acc : List Entry) :
    let r := jlArrayLoopCC guarded chosen elems passes limit (fuel + 1) s n acc
    (∃ e, r = ⟨acc.reverse, e, []⟩ ∧ (e = .err "noammo" ∨ (e = .ok ∧ n ≠ 0))) ∨
    ∃ t s', scanAmmos elems passes s = (.ammo t, s') ∧ (limit = 0 ∨ n < limit) ∧
      (guarded = true → n = 0 → s.passNum = 0) ∧
      r = if chosen t then jlArrayLoopCC guarded chosen elems passes limit fuel s' (n + 1) (⟨t, [], []⟩ :: acc)
        else jlArrayLoopCC guarded chosen elems passes limit fuel s' n acc := by
  dsimp only
  rw [jlArrayLoopCC]
  by_cases h1 : limit ≠ 0 ∧ n ≥ limit
  · rw [if_pos h1]; exact .inl ⟨_, rfl, .inr ⟨rfl, by omega⟩⟩
  rw [if_neg h1]
  by_cases h2 : guarded = true ∧ n = 0 ∧ s.passNum > 0
  · rw [if_pos h2]; exact .inl ⟨_, rfl, .inl rfl⟩
  rw [if_neg h2]
  have hnp := scanAmmos_no_panic elems passes s
  cases hr : scanAmmos elems passes s with
  | mk r s' =>
    cases r with
    | ammo t => exact .inr ⟨t, s', rfl, by omega, fun hg hn => by false_or_by_contra; exact h2 ⟨hg, hn, by omega⟩, rfl⟩
    | passLimit =>
      refine .inl ⟨_, rfl, ?_⟩
      by_cases hn : n = 0
      · exact .inl (if_pos hn)
      · exact .inr ⟨if_neg hn, hn⟩
    | noAmmo => exact .inl ⟨_, rfl, .inl rfl⟩
    | panic => rw [hr] at hnp; exact absurd rfl hnp

theorem jlArrayLoopCC_no_panic (guarded : Bool) (chosen : Bytes → Bool) (elems : List Bytes) (passes limit : Nat) :
    ∀ (fuel : Nat) (s : JlArr) (n : Nat) (acc : List Entry),
      (jlArrayLoopCC guarded chosen elems passes limit fuel s n acc).end_ ≠ .panic ∧
      (jlArrayLoopCC guarded chosen elems passes limit fuel s n acc).end_ ≠ .fatal := by
  intro fuel
  induction fuel with
  | zero => intro s n acc; exact ⟨End.noConfusion, End.noConfusion⟩
  | succ fuel ih =>
    intro s n acc
    rcases jlArrayLoopCC_succ_cases guarded chosen elems passes limit fuel s n acc with ⟨e, hr, he⟩ | ⟨t, s', _, _, _, hr⟩
    · rw [hr]; rcases he with rfl | ⟨rfl, _⟩ <;> exact ⟨End.noConfusion, End.noConfusion⟩
    · rw [hr]; cases chosen t
      · exact ih _ _ _
      · exact ih _ _ _

/-- a filter that lets every element through: the loop without a filter -/
theorem jlArrayLoopCC_all (elems : List Bytes) (passes limit : Nat) :
    ∀ (fuel : Nat) (s : JlArr) (n : Nat) (acc : List Entry),
      jlArrayLoopCC true (fun _ => true) elems passes limit fuel s n acc = jlArrayLoop elems passes limit fuel s n acc := by
  intro fuel
  induction fuel with
  | zero => intro s n acc; rfl
  | succ fuel ih =>
    intro s n acc
    rw [jlArrayLoopCC, jlArrayLoop]
    simp only [true_and, if_true, ih]
    cases scanAmmos elems passes s with
    | mk r s' => cases r <;> rfl

/-- an array none of whose elements passes the filter: the run ends with "no ammo" after at most one pass, whatever the limits -/
theorem jlArrayLoopCC_nothing (chosen : Bytes → Bool) (elems : List Bytes) (passes limit : Nat)
    (hnone : ∀ t ∈ elems, chosen t = false) :
    ∀ (fuel : Nat) (s : JlArr) (acc : List Entry), JlArr.Inv elems.length s → 1 ≤ fuel →
      (s.passNum = 0 → elems.length - s.ammoNum + 1 ≤ fuel) →
      jlArrayLoopCC true chosen elems passes limit fuel s 0 acc = ⟨acc.reverse, .err "noammo", []⟩ := by
  intro fuel
  induction fuel with
  | zero => intro s acc _ h; omega
  | succ fuel ih =>
    intro s acc hinv _ hf
    rcases jlArrayLoopCC_succ_cases true chosen elems passes limit fuel s 0 acc with ⟨e, hr, rfl | ⟨_, h0⟩⟩ | ⟨t, s', hsc, _, hp0, hr⟩
    · exact hr
    · exact absurd rfl h0
    · obtain ⟨hinv', hnum, _, hmem⟩ := scanAmmos_ammo elems passes s s' t hinv hsc
      rw [hr, hnone t hmem]
      have hp0 := hp0 rfl rfl
      obtain ⟨r, hr, hreq⟩ := hinv
      have hlt : s.ammoNum < elems.length := by rw [hreq, hp0]; simpa using hr
      have hfu := hf hp0
      exact ih s' acc hinv' (by omega) (fun _ => by omega)

/-! ### the array loop without a filter -/

theorem jlArrayLoop_succ_cases (elems : List Bytes) (passes limit fuel : Nat) (s : JlArr) (n : Nat) (acc : List Entry) :
    let r := jlArrayLoop elems passes limit (fuel + 1) s n acc
    (∃ e, r = ⟨acc.reverse, e, []⟩ ∧ (e = .err "noammo" ∨ (e = .ok ∧ n ≠ 0))) ∨
    ∃ t s', scanAmmos elems passes s = (.ammo t, s') ∧ (limit = 0 ∨ n < limit) ∧
      r = jlArrayLoop elems passes limit fuel s' (n + 1) (⟨t, [], []⟩ :: acc) := by
  have h := jlArrayLoopCC_succ_cases true (fun _ => true) elems passes limit fuel s n acc
  simp only [jlArrayLoopCC_all, if_true] at h
  exact h.imp id fun ⟨t, s', h1, h2, _, h3⟩ => ⟨t, s', h1, h2, h3⟩

theorem jlArrayLoop_no_panic (elems : List Bytes) (passes limit : Nat) :
    ∀ (fuel : Nat) (s : JlArr) (n : Nat) (acc : List Entry),
      (jlArrayLoop elems passes limit fuel s n acc).end_ ≠ .panic ∧
      (jlArrayLoop elems passes limit fuel s n acc).end_ ≠ .fatal := by
  intro fuel s n acc
  rw [← jlArrayLoopCC_all]
  exact jlArrayLoopCC_no_panic true _ elems passes limit fuel s n acc

/-- with a limit: every `Scan` that does not end the run delivers an ammo -/
theorem jlArrayLoop_no_fuel_limit (elems : List Bytes) (passes limit : Nat) (hl : limit ≠ 0) :
    ∀ (fuel : Nat) (s : JlArr) (n : Nat) (acc : List Entry), limit - n + 1 ≤ fuel →
      (jlArrayLoop elems passes limit fuel s n acc).end_ ≠ .fuel := by
  intro fuel
  induction fuel with
  | zero => intro s n acc h; omega
  | succ fuel ih =>
    intro s n acc hf
    rcases jlArrayLoop_succ_cases elems passes limit fuel s n acc with ⟨e, hr, he⟩ | ⟨t, s', _, hlim, hr⟩
    · rw [hr]; rcases he with rfl | ⟨rfl, _⟩ <;> exact End.noConfusion
    · rw [hr]; exact ih s' (n + 1) _ (by omega)

/-- with a pass limit: at most `passes × length` ammo are handed out -/
theorem jlArrayLoop_no_fuel_passes (elems : List Bytes) (passes limit : Nat) (hp : passes ≠ 0) :
    ∀ (fuel : Nat) (s : JlArr) (n : Nat) (acc : List Entry), JlArr.Inv elems.length s →
      passes * elems.length - s.ammoNum + 1 ≤ fuel →
      (jlArrayLoop elems passes limit fuel s n acc).end_ ≠ .fuel := by
  intro fuel
  induction fuel with
  | zero => intro s n acc _ h; omega
  | succ fuel ih =>
    intro s n acc hinv hf
    rcases jlArrayLoop_succ_cases elems passes limit fuel s n acc with ⟨e, hr, he⟩ | ⟨t, s', hsc, _, hr⟩
    · rw [hr]; rcases he with rfl | ⟨rfl, _⟩ <;> exact End.noConfusion
    · rw [hr]
      obtain ⟨hinv', hnum, hlt, _⟩ := scanAmmos_ammo elems passes s s' t hinv hsc
      refine ih s' (n + 1) _ hinv' ?_
      obtain ⟨r, hr', heq⟩ := hinv
      have hlt' : s.passNum < passes := hlt.resolve_left hp
      have h1 : (s.passNum + 1) * elems.length ≤ passes * elems.length := Nat.mul_le_mul_right _ hlt'
      rw [Nat.succ_mul] at h1
      omega

/-- everything `runFullScan` delivers in array mode is an element of the array -/
theorem jlArrayLoop_entries (elems : List Bytes) (passes limit : Nat) :
    ∀ (fuel : Nat) (s : JlArr) (n : Nat) (acc : List Entry), JlArr.Inv elems.length s →
      (∀ e ∈ acc, e.tag ∈ elems) →
      ∀ e ∈ (jlArrayLoop elems passes limit fuel s n acc).entries, e.tag ∈ elems := by
  intro fuel
  induction fuel with
  | zero => intro s n acc _ hacc e he; exact hacc e (List.mem_reverse.mp he)
  | succ fuel ih =>
    intro s n acc hinv hacc
    rcases jlArrayLoop_succ_cases elems passes limit fuel s n acc with ⟨e, hr, _⟩ | ⟨t, s', hsc, _, hr⟩
    · rw [hr]; exact fun e he => hacc e (List.mem_reverse.mp he)
    · rw [hr]
      obtain ⟨hinv', _, _, hmem⟩ := scanAmmos_ammo elems passes s s' t hinv hsc
      refine ih s' (n + 1) _ hinv' fun e he => ?_
      rcases List.mem_cons.mp he with rfl | he
      · exact hmem
      · exact hacc e he

/-! ### the http provider over a jsonline file -/

/-- the constructor refuses the file, or the array loop runs, or passes are made over the object stream (a pass returns) -/
theorem jsonlineRun_cases (fixed : Bool) (src : JSrc) (pre : Bool) (passes limit : Nat) :
    jsonlineRun fixed src pre passes limit = ctorErr ∨
    (∃ es, jsonlineRun fixed src pre passes limit = jlArrayRun es passes limit) ∨
    ∃ one, End.clean one.end_ ∧ jsonlineRun fixed src pre passes limit = multiRunAll one passes limit := by
  cases src with
  | refused => exact .inl rfl
  | array elems tr =>
    cases elems with
    | none => exact .inl rfl
    | some es =>
      by_cases h : fixed = true ∧ tr = true
      · exact .inl (if_pos h)
      · exact .inr (.inl ⟨es, if_neg h⟩)
  | stream items =>
    refine .inr (.inr ⟨_, ?_, rfl⟩)
    split <;> exact jlItems_end_clean items

/-- an array is handed out `passes` times, element by element, or up to the limit -/
theorem jlArrayRun_terminates (es : List Bytes) (passes limit : Nat) (h : limit ≠ 0 ∨ passes ≠ 0) :
    (jlArrayRun es passes limit).end_ ≠ .fuel := by
  cases es with
  | nil => rw [jlArrayRun_nil]; exact End.noConfusion
  | cons e r =>
    unfold jlArrayRun
    by_cases hl : limit ≠ 0
    · rw [if_pos hl]
      exact jlArrayLoop_no_fuel_limit _ passes limit hl _ _ _ _ (by omega)
    · rw [if_neg hl]
      exact jlArrayLoop_no_fuel_passes _ passes limit (h.resolve_left hl) _ _ _ _
        (JlArr.init_Inv _ (Nat.succ_pos _)) (by simp)

/-! ### the separator of a csv variable source -/

theorem csvComma_guarded (delimiter : Bytes) : ∃ c, csvComma true delimiter = .ok c := by
  unfold csvComma
  cases delimiter with
  | nil => exact ⟨44, by simp⟩
  | cons b rest => exact ⟨b, by simp [indexC]⟩

theorem csvOpen_returns (delimiter : Bytes) : (csvOpen true delimiter).returns = true := by
  obtain ⟨c, hc⟩ := csvComma_guarded delimiter
  unfold csvOpen
  rw [hc]
  simp only [Res.bind]
  split <;> simp [Res.returns, Res.isPanic, Res.isFatal]

end Pandora.Proofs.C13
