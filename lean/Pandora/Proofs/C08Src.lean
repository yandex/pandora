/-
C08 / C14: the three decoders of components/providers/http/decoders behave as one abstract cyclic source.
`R q r s` = decoder state `s` after `q` complete passes and `r` entries of the current pass.
-/
import Pandora.Model.C08
import Pandora.Proofs.C08Lists

namespace Pandora.Proofs.C08
open Pandora.Model.C08

/-- what the provider loops need to know about a decoder (constructed with Limit = 0) over a file of `n ≥ 1` entries -/
structure Src {σ : Type} (scan : σ → ScanRes × σ) (n passes : Nat) (R : Nat → Nat → σ → Prop) : Prop where
  next : ∀ q r s, R q r s → r < n → (passes = 0 ∨ q < passes) → ∃ s', scan s = (.ammo r, s') ∧ R q (r + 1) s'
  wrap : ∀ q s, R q n s → (passes = 0 ∨ q + 1 < passes) → ∃ s', scan s = (.ammo 0, s') ∧ R (q + 1) 1 s'
  stop : ∀ q s, R q n s → passes ≠ 0 → passes ≤ q + 1 → ∃ s', scan s = (.errPass, s')

/-- uri / uripost / raw / jsonline-stream decoder state after `q` passes and `r` entries -/
def RStream (n q r : Nat) (d : Dec) : Prop := d.pos = r ∧ d.passNum = q ∧ d.ammoNum = q * n + r ∧ r ≤ n

theorem RStream_init (n : Nat) : RStream n 0 0 Dec.init := by simp [RStream, Dec.init]

theorem src_eofCheck (n passes : Nat) (hn : 0 < n) :
    Src (scanStream .eofCheck ⟨0, passes⟩ n) n passes (RStream n) where
  next := by
    intro q r d ⟨h1, h2, h3, h4⟩ hr _
    refine ⟨⟨r + 1, d.ammoNum + 1, q⟩, ?_, ?_⟩
    · simp [scanStream, scanLoop, h1, h2, hr]
    · simp [RStream, h3]; omega
  wrap := by
    intro q d ⟨h1, h2, h3, _⟩ hp
    have hne : ¬ (¬ passes = 0 ∧ passes ≤ q + 1) := by omega
    have hn' : n ≠ 0 := by omega
    refine ⟨⟨1, d.ammoNum + 1, q + 1⟩, ?_, ?_⟩
    · simp [scanStream, scanLoop, h1, h2, h3, hn, hne, hn']
    · simp [RStream, h3, Nat.succ_mul]; omega
  stop := by
    intro q d ⟨h1, h2, _, _⟩ hp0 hp
    exact ⟨⟨n, d.ammoNum, q + 1⟩, by simp [scanStream, scanLoop, h1, h2, hp0, hp]⟩

theorem src_topCheck (n passes : Nat) (hn : 0 < n) :
    Src (scanStream .topCheck ⟨0, passes⟩ n) n passes (RStream n) where
  next := by
    intro q r d ⟨h1, h2, h3, h4⟩ hr hq
    have hne : ¬ (¬ passes = 0 ∧ passes ≤ q) := by omega
    refine ⟨⟨r + 1, d.ammoNum + 1, q⟩, ?_, ?_⟩
    · simp [scanStream, scanLoop, h1, h2, hr, hne]
    · simp [RStream, h3]; omega
  wrap := by
    intro q d ⟨h1, h2, h3, _⟩ hp
    have hne : ¬ (¬ passes = 0 ∧ passes ≤ q + 1) := by omega
    have hne' : ¬ (¬ passes = 0 ∧ passes ≤ q) := by omega
    have hn' : n ≠ 0 := by omega
    refine ⟨⟨1, d.ammoNum + 1, q + 1⟩, ?_, ?_⟩
    · simp [scanStream, scanLoop, h1, h2, h3, hn, hne, hne', hn']
    · simp [RStream, h3, Nat.succ_mul]; omega
  stop := by
    intro q d ⟨h1, h2, h3, _⟩ hp0 hp
    have hn' : n ≠ 0 := by omega
    by_cases hq : passes ≤ q
    · exact ⟨d, by simp [scanStream, scanLoop, h2, hp0, hq]⟩
    · exact ⟨⟨0, d.ammoNum, q + 1⟩, by simp [scanStream, scanLoop, h1, h2, h3, hp0, hq, hp, hn']⟩

theorem mod_of_qr (q n r : Nat) (hr : r < n) : (q * n + r) % n = r := by
  rw [Nat.mul_comm, Nat.mul_add_mod]; exact Nat.mod_eq_of_lt hr

theorem mod_of_qn (q n : Nat) : (q * n + n) % n = 0 := by
  rw [Nat.mul_comm, Nat.mul_add_mod]; exact Nat.mod_self n

/-- jsonline-array decoder state after `q` passes and `r` entries (the pass is counted when its last element is handed out) -/
def RArr (n q r : Nat) (d : ArrDec) : Prop := d.ammoNum = q * n + r ∧ r ≤ n ∧ d.passNum = if r = n then q + 1 else q

theorem RArr_init (n : Nat) (hn : 0 < n) : RArr n 0 0 ArrDec.init := by
  simp [RArr, ArrDec.init]; omega

theorem src_arr (n passes : Nat) (hn : 0 < n) :
    Src (scanArr ⟨0, passes⟩ n) n passes (RArr n) where
  next := by
    intro q r d ⟨h1, h2, h3⟩ hr hq
    have hrn : r ≠ n := by omega
    have hmod := mod_of_qr q n r hr
    have hn0 : n ≠ 0 := by omega
    have hne : ¬ (¬ passes = 0 ∧ passes ≤ q) := by omega
    simp [hrn] at h3
    refine ⟨⟨d.ammoNum + 1, if r = n - 1 then q + 1 else q⟩, ?_, ?_⟩
    · simp [scanArr, hn0, h1, h3, hmod, hne]
    · simp only [RArr, h1]
      refine ⟨by omega, by omega, ?_⟩
      by_cases h : r = n - 1
      · have h' : r + 1 = n := by omega
        rw [if_pos h, if_pos h']
      · have h' : r + 1 ≠ n := by omega
        rw [if_neg h, if_neg h']
  wrap := by
    intro q d ⟨h1, _, h3⟩ hp
    have hmod := mod_of_qn q n
    have hn0 : n ≠ 0 := by omega
    have hne : ¬ (¬ passes = 0 ∧ passes ≤ q + 1) := by omega
    simp at h3
    refine ⟨⟨d.ammoNum + 1, if 0 = n - 1 then q + 1 + 1 else q + 1⟩, ?_, ?_⟩
    · simp [scanArr, hn0, h1, h3, hmod, hne]
    · simp only [RArr]
      refine ⟨by rw [h1, Nat.succ_mul], by omega, ?_⟩
      by_cases h : 0 = n - 1
      · have h' : 1 = n := by omega
        rw [if_pos h, if_pos h']
      · have h' : ¬ 1 = n := by omega
        rw [if_neg h, if_neg h']
  stop := by
    intro q d ⟨h1, _, h3⟩ hp0 hp
    have hn0 : n ≠ 0 := by omega
    simp at h3
    exact ⟨d, by simp [scanArr, hn0, h3, hp0, hp]⟩

end Pandora.Proofs.C08
