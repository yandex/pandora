/-
C12 — invariants of the startup transition system (`Pandora.Model.C12`), its refinement to the sequential program
`startSeq` (= the regenerated `startInstances`, Bridge/C12Startup), and the exits of `instRun`.  Core Lean only.
-/
import Pandora.Model.C12
import Pandora.Proofs.C04

namespace Pandora.Proofs.C12
open Pandora.Model.C04 Pandora.Model.C12 Pandora.Proofs.C04 Pandora.Go.C12

/-! ### what one `Wait` call can answer -/

/-- every path of `Wait`, with what it needs of the environment -/
theorem waitV_spec (v : Variant) (w : Waiter) (e : Env) :
    (e.ctxDone = true ∧ (waitV v w e).path = .ctxDone ∧ (waitV v w e).ok = false) ∨
    (e.ctxDone = false ∧ e.tok = none ∧ (waitV v w e).path = .finished ∧ (waitV v w e).ok = false) ∨
    (e.ctxDone = false ∧ ∃ next, e.tok = some next ∧
      ((((waitV v w e).path = .cachedNow ∨ (waitV v w e).path = .freshNow) ∧ (waitV v w e).ok = true) ∨
       ((waitV v w e).path = .timer ∧ (waitV v w e).ok = true ∧ e.timerWins = true) ∨
       ((waitV v w e).path = .timerCancel ∧ (waitV v w e).ok = false ∧ e.timerWins = false))) := by
  unfold waitV
  by_cases hc : e.ctxDone = true
  · left; simp [hc]
  · right
    have hc' : e.ctxDone = false := by simpa using hc
    cases htok : e.tok with
    | none => left; simp [hc']
    | some next =>
      right
      refine ⟨hc', next, rfl, ?_⟩
      simp only [hc', Bool.false_eq_true, if_false]
      by_cases h1 : Pandora.Go.C04.timeSub next w.lastNow ≤ 0
      · left; cases v <;> simp [h1]
      · by_cases h2 : Pandora.Go.C04.timeSub next e.now ≤ 0
        · left; simp [h1, h2]
        · right
          by_cases h3 : e.timerWins = true
          · left; simp [h1, h2, h3]
          · right; simp [h1, h2, h3]

/-- a call that sleeps and is woken by `ctx.Done()` instead of the timer: same waiter state, answer false -/
theorem waitV_timer_cancel (v : Variant) (w : Waiter) (e : Env) (h : (waitV v w e).path = .timer) :
    (waitV v w { e with timerWins := false }).path = .timerCancel ∧
    (waitV v w { e with timerWins := false }).ok = false := by
  unfold waitV at h ⊢
  by_cases hc : e.ctxDone = true
  · simp [hc] at h
  · cases htok : e.tok with
    | none => simp [hc, htok] at h
    | some next =>
      simp only [hc, htok] at h ⊢
      by_cases h1 : Pandora.Go.C04.timeSub next w.lastNow ≤ 0
      · cases v <;> simp [h1] at h
      · by_cases h2 : Pandora.Go.C04.timeSub next e.now ≤ 0
        · simp [h1, h2] at h
        · simp [h1, h2]

theorem waitV_timer_ok (v : Variant) (w : Waiter) (e : Env) (h : (waitV v w e).path = .timer) :
    (waitV v w e).ok = true ∧ ∃ next, e.tok = some next := by
  rcases waitV_spec v w e with ⟨_, hp, _⟩ | ⟨_, _, hp, _⟩ | ⟨_, next, htok, hp⟩
  · rw [hp] at h; cases h
  · rw [hp] at h; cases h
  · rcases hp with ⟨hp | hp, _⟩ | ⟨_, hok, _⟩ | ⟨hp, _, _⟩
    · rw [hp] at h; cases h
    · rw [hp] at h; cases h
    · exact ⟨hok, next, htok⟩
    · rw [hp] at h; cases h

/-! ### state invariant -/

/-- one of the three events that cancel the start context has happened -/
def cancelSeen (s : St) : Prop := s.sawOutOfAmmo = true ∨ s.sawRpsFinished = true ∨ s.sawRunCancelled = true

/-- the four causes of the property statement -/
def causeSeen (s : St) : Prop :=
  s.sawOutOfAmmo = true ∨ s.sawRpsFinished = true ∨ s.sawCreateFailed = true ∨ s.sawRunCancelled = true

theorem cancelSeen.cause {s : St} (h : cancelSeen s) : causeSeen s := by
  rcases h with a | a | a
  · exact Or.inl a
  · exact Or.inr (Or.inl a)
  · exact Or.inr (Or.inr (Or.inr a))

/-- constant answer of a `Wait` call, whatever context it is given -/
def K (b : Bool) : Ctx → Bool := fun _ => b

/-- state invariant of the startup loop for a profile whose tokens are `all` -/
structure Inv (c : Cfg) (all : List Int) (s : St) : Prop where
  toks : s.toks = all.drop s.consumed
  bound : s.consumed ≤ all.length
  started : s.started = s.created.length
  ids : s.created.map (·.id) = List.range s.created.length
  cons : s.consumed = s.started ∨ (s.phase = .done ∧ s.consumed = s.started + 1)
  consStarting : s.phase = .starting → s.consumed = s.started
  ctx : s.startCtxDone = true → cancelSeen s
  done : s.phase = .done → (s.toks = [] ∧ s.consumed = s.started) ∨ causeSeen s
  pend : ∀ p, s.pending = some p →
    s.phase = .starting ∧ p.env.tok = s.toks.head? ∧ (waitV c.v s.waiter p.env).path = .timer
  runCtx : s.runCtxDone = true ↔ s.sawRunCancelled = true
  ammo : s.sawOutOfAmmo = true → s.ammoOut = true
  rps : s.sawRpsFinished = true ↔ s.sharedRpsDone = true
  rpsShared : s.sharedRpsDone = true → c.perInstance = false ∧ anyInstance s = true
  running : ∀ id ∈ s.running, ∃ cr ∈ s.created, cr.id = id ∧ cr.ok = true
  failed : s.sawCreateFailed = false → ∀ cr ∈ s.created, cr.ok = true
  firstOkS : s.phase = .starting → s.firstOk = true
  retS : s.phase = .starting → s.ret = .none
  log0 : s.phase = .starting → (s.waitLog = [] ↔ s.started = 0)
  seq : startSeq s.firstOk (s.waitLog.map K) = ⟨s.acts, (s.started : Int), s.ret, s.phase == .done⟩

theorem Inv.init (c : Cfg) (all : List Int) : Inv c all (St.init all) := by
  refine ⟨by simp [St.init], by simp [St.init], rfl, rfl, Or.inl rfl, fun _ => rfl, ?_, ?_, ?_, ?_, ?_, ?_, ?_, ?_,
    ?_, ?_, ?_, ?_, ?_⟩ <;> simp [St.init, startSeq]

/-- what the invariant needs to know about the answer `r` of the `Wait` call that is being completed in state `s` -/
structure ResOK (s : St) (r : Res) : Prop where
  drewTok : drew r.path = true → s.toks ≠ []
  okDrew : r.ok = true → drew r.path = true
  notOk : r.ok = false → (drew r.path = false ∧ s.toks = []) ∨ s.startCtxDone = true

theorem resOK_of_matches (v : Variant) (s : St) (env : Env) (hm : envMatches s env = true) :
    ResOK s (waitV v s.waiter env) := by
  simp only [envMatches, Bool.and_eq_true, beq_iff_eq] at hm
  obtain ⟨⟨hctx, htok⟩, htw⟩ := hm
  rcases waitV_spec v s.waiter env with ⟨hc, hp, hok⟩ | ⟨_, hn, hp, hok⟩ | ⟨_, next, hnext, hp⟩
  · refine ⟨by simp [hp, drew], by simp [hok], fun _ => Or.inr (by rw [← hctx, hc])⟩
  · have hnil : s.toks = [] := by
      rw [htok] at hn
      cases hs : s.toks with
      | nil => rfl
      | cons a b => simp [hs] at hn
    refine ⟨by simp [hp, drew], by simp [hok], fun _ => Or.inl ⟨by simp [hp, drew], hnil⟩⟩
  · have hne : s.toks ≠ [] := by
      intro hnil
      rw [htok, hnil] at hnext
      simp at hnext
    rcases hp with ⟨hp | hp, hok⟩ | ⟨hp, hok, _⟩ | ⟨_, _, hf⟩
    · exact ⟨fun _ => hne, by simp [hp, drew], by simp [hok]⟩
    · exact ⟨fun _ => hne, by simp [hp, drew], by simp [hok]⟩
    · exact ⟨fun _ => hne, by simp [hp, drew], by simp [hok]⟩
    · rw [htw] at hf; cases hf

/-! ### `startSeq` one answer further -/

theorem startSeqLoop_snoc (acts : List Act) (st : Int) (l : List (Ctx → Bool)) (x : Ctx → Bool) :
    startSeqLoop acts st (l ++ [x]) =
      if (startSeqLoop acts st l).returned then startSeqLoop acts st l
      else if x .start then
        ⟨(startSeqLoop acts st l).acts ++ [.goRunNew .run (startSeqLoop acts st l).started],
          (startSeqLoop acts st l).started + 1, .none, false⟩
      else ⟨(startSeqLoop acts st l).acts, (startSeqLoop acts st l).started, .ofCtx .start, true⟩ := by
  induction l generalizing acts st with
  | nil =>
    simp only [List.nil_append, startSeqLoop]
    by_cases hx : x .start = true <;> simp [hx]
  | cons w ws ih =>
    simp only [List.cons_append, startSeqLoop]
    by_cases hw : w .start = true
    · simp only [hw, if_true]; exact ih _ _
    · simp [hw]

theorem startSeq_snoc (f : Bool) (l : List (Ctx → Bool)) (x : Ctx → Bool) (hl : l ≠ []) :
    startSeq f (l ++ [x]) =
      if (startSeq f l).returned then startSeq f l
      else if x .start then
        ⟨(startSeq f l).acts ++ [.goRunNew .run (startSeq f l).started], (startSeq f l).started + 1, .none, false⟩
      else ⟨(startSeq f l).acts, (startSeq f l).started, .ofCtx .start, true⟩ := by
  cases l with
  | nil => exact absurd rfl hl
  | cons w ws =>
    simp only [List.cons_append, startSeq]
    by_cases hw : w .start = true
    · by_cases hf : f = true
      · simp only [hw, hf, Bool.not_true, Bool.false_eq_true, if_false]
        exact startSeqLoop_snoc _ _ ws x
      · simp [hw, hf]
    · simp [hw]

/-! ### completing a `Wait` call preserves the invariant -/

theorem seq_nil {c : Cfg} {all : List Int} {s : St} (h : Inv c all s) (hl0 : s.waitLog = []) : s.acts = [] := by
  have := h.seq
  rw [hl0] at this
  simp only [List.map_nil, startSeq] at this
  exact (congrArg StartRes.acts this).symm

theorem complete_inv (c : Cfg) (all : List Int) (s : St) (r : Res) (p : Pending) (h : Inv c all s)
    (hph : s.phase = .starting) (hr : ResOK s r) : Inv c all (complete s r p) := by
  have hcons : s.consumed = s.started := h.consStarting hph
  have hfo : s.firstOk = true := h.firstOkS hph
  have hrt : s.ret = .none := h.retS hph
  have hseq0 := h.seq
  -- the tokens after this call
  have htoks' : drew r.path = true → s.toks.tail = all.drop (s.consumed + 1) ∧ s.consumed + 1 ≤ all.length := by
    intro hd
    have hne := hr.drewTok hd
    refine ⟨by rw [h.toks, List.tail_drop], ?_⟩
    have : all.drop s.consumed ≠ [] := by rw [← h.toks]; exact hne
    rw [Ne, List.drop_eq_nil_iff] at this
    omega
  -- the sequential program one answer further, when the call answers false
  have hseqFalse :
      startSeq s.firstOk ((s.waitLog ++ [false]).map K) = ⟨s.acts, (s.started : Int), .ofCtx .start, true⟩ := by
    by_cases hl0 : s.waitLog = []
    · have hs0 : s.started = 0 := (h.log0 hph).mp hl0
      simp [hl0, seq_nil h hl0, hs0, startSeq, K]
    · rw [List.map_append, List.map_cons, List.map_nil, startSeq_snoc _ _ _ (by simpa using hl0), hseq0]
      simp [hph, K]
  unfold complete
  by_cases hok : r.ok = true
  · -- the call answered true: a token was drawn
    have hd : drew r.path = true := hr.okDrew hok
    obtain ⟨htl, hb⟩ := htoks' hd
    simp only [hd, if_true, hok, Bool.not_true, Bool.false_eq_true, if_false]
    by_cases h0 : (s.started == 0) = true
    · have hs0 : s.started = 0 := by simpa using h0
      have hcl : s.created = [] := by
        have := h.started; rw [hs0] at this
        exact List.length_eq_zero_iff.mp this.symm
      have hl0 : s.waitLog = [] := (h.log0 hph).mpr hs0
      have hacts : s.acts = [] := seq_nil h hl0
      by_cases hco : p.createOk = true
      · simp only [h0, if_true, hco]
        exact { h with
          toks := by simpa using htl
          bound := hb
          started := by simp [hcl]
          ids := by simp [hcl]
          cons := Or.inl (by simp [hcons, hs0])
          consStarting := fun _ => by simp [hcons, hs0]
          done := by intro hdn; simp [hph] at hdn
          pend := by intro q hq; simp at hq
          rpsShared := by
            intro hsh
            exact ⟨(h.rpsShared hsh).1, by simp [anyInstance]⟩
          running := by
            intro id hid
            simp only [List.mem_append, List.mem_singleton] at hid
            rcases hid with hid | hid
            · obtain ⟨cr, hcr, hi⟩ := h.running id hid
              exact ⟨cr, by simp [hcr], hi⟩
            · exact ⟨⟨0, p.env.ret + p.delay, true⟩, by simp, by simp [hid]⟩
          failed := by
            intro hf cr hcr
            simp only [List.mem_append, List.mem_singleton] at hcr
            rcases hcr with hcr | hcr
            · exact h.failed hf cr hcr
            · rw [hcr]
          firstOkS := fun _ => hfo
          retS := fun _ => hrt
          log0 := by intro _; simp
          seq := by
            simp [hl0, hacts, startSeq, K, hfo, startSeqLoop, hph, hrt] }
      · have hco' : p.createOk = false := by simpa using hco
        simp only [h0, if_true, hco', Bool.false_eq_true, if_false]
        exact { h with
          toks := by simpa using htl
          bound := hb
          cons := Or.inr ⟨rfl, by simp [hcons]⟩
          consStarting := by intro hx; cases hx
          done := fun _ => Or.inr (Or.inr (Or.inr (Or.inl rfl)))
          pend := by intro q hq; simp at hq
          failed := by intro hx; cases hx
          firstOkS := by intro hx; cases hx
          retS := by intro hx; cases hx
          log0 := by intro hx; cases hx
          seq := by
            simp [hl0, hacts, hs0, startSeq, K] }
    · -- a later instance
      have hsn : s.started ≠ 0 := by simpa using h0
      have hlne : s.waitLog ≠ [] := fun hx => hsn ((h.log0 hph).mp hx)
      simp only [h0, Bool.false_eq_true, if_false]
      exact { h with
        toks := by simpa using htl
        bound := hb
        started := by simpa using h.started
        ids := by simp [List.range_succ, h.ids]; exact h.started
        cons := Or.inl (by simp [hcons])
        consStarting := fun _ => by simp [hcons]
        done := by intro hdn; simp [hph] at hdn
        pend := by intro q hq; simp at hq
        rpsShared := by
          intro hsh
          obtain ⟨a, b⟩ := h.rpsShared hsh
          refine ⟨a, ?_⟩
          simp only [anyInstance, List.any_append, Bool.or_eq_true] at b ⊢
          exact Or.inl b
        running := by
          intro id hid
          by_cases hco : p.createOk = true
          · simp only [hco, if_true, List.mem_append, List.mem_singleton] at hid
            rcases hid with hid | hid
            · obtain ⟨cr, hcr, hi⟩ := h.running id hid
              exact ⟨cr, by simp [hcr], hi⟩
            · exact ⟨⟨s.started, p.env.ret + p.delay, p.createOk⟩, by simp, by simp [hid, hco]⟩
          · simp only [hco, Bool.false_eq_true, if_false] at hid
            obtain ⟨cr, hcr, hi⟩ := h.running id hid
            exact ⟨cr, by simp [hcr], hi⟩
        failed := by
          intro hf cr hcr
          simp only [Bool.or_eq_false_iff, Bool.not_eq_false'] at hf
          simp only [List.mem_append, List.mem_singleton] at hcr
          rcases hcr with hcr | hcr
          · exact h.failed hf.1 cr hcr
          · rw [hcr]; exact hf.2
        firstOkS := fun _ => hfo
        log0 := by
          intro _
          constructor
          · intro hx; simp at hx
          · intro hx; simp at hx
        retS := fun _ => hrt
        seq := by
          dsimp only
          rw [List.map_append, List.map_cons, List.map_nil, startSeq_snoc _ _ _ (by simpa using hlne), hseq0]
          simp [hph, K, hrt] }
  · -- the call answered false: the loop is over
    have hok' : r.ok = false := by simpa using hok
    simp only [hok', Bool.not_false, if_true]
    by_cases hd : drew r.path = true
    · -- woken by the cancelled context after the token was drawn
      obtain ⟨htl, hb⟩ := htoks' hd
      have hcx : s.startCtxDone = true := by
        rcases hr.notOk hok' with ⟨hnd, _⟩ | hx
        · rw [hd] at hnd; cases hnd
        · exact hx
      simp only [hd, if_true]
      exact { h with
        toks := by simpa using htl
        bound := hb
        cons := Or.inr ⟨rfl, by simp [hcons]⟩
        consStarting := by intro hx; cases hx
        done := fun _ => Or.inr (h.ctx hcx).cause
        pend := by intro q hq; simp at hq
        firstOkS := by intro hx; cases hx
        retS := by intro hx; cases hx
        log0 := by intro hx; cases hx
        seq := by simpa using hseqFalse }
    · have hd' : drew r.path = false := by simpa using hd
      simp only [hd', Bool.false_eq_true, if_false]
      exact { h with
        cons := Or.inl hcons
        consStarting := fun _ => hcons
        done := by
          intro _
          rcases hr.notOk hok' with ⟨_, hnil⟩ | hx
          · exact Or.inl ⟨hnil, hcons⟩
          · exact Or.inr (h.ctx hx).cause
        pend := by intro q hq; simp at hq
        firstOkS := by intro hx; cases hx
        retS := by intro hx; cases hx
        log0 := by intro hx; cases hx
        seq := by simpa using hseqFalse }

/-! ### what an event of the start loop does -/

/-- An event of the start loop leaves the state alone (it is not enabled), parks the `Wait` call on its timer, or
completes a `Wait` call with the answer of `waitV`. -/
inductive LoopStep (c : Cfg) (s : St) : Event → St → Prop
  | same (ev : Event) : LoopStep c s ev s
  | park (env : Env) (createOk : Bool) (delay : Nat) (hph : s.phase = .starting) (hm : envMatches s env = true)
      (ht : (waitV c.v s.waiter env).path = .timer) :
      LoopStep c s (.wait env createOk delay) { s with pending := some ⟨env, createOk, delay⟩ }
  | now (env : Env) (createOk : Bool) (delay : Nat) (hph : s.phase = .starting) (hm : envMatches s env = true) :
      LoopStep c s (.wait env createOk delay) (complete s (waitV c.v s.waiter env) ⟨env, createOk, delay⟩)
  | fire (p : Pending) (hp : s.pending = some p) : LoopStep c s .timerFire (complete s (waitV c.v s.waiter p.env) p)
  | wake (p : Pending) (hp : s.pending = some p) (hcx : s.startCtxDone = true) :
      LoopStep c s .wakeCancelled (complete s (waitV c.v s.waiter { p.env with timerWins := false }) p)

theorem wait_step (c : Cfg) (s : St) (env : Env) (createOk : Bool) (delay : Nat) :
    LoopStep c s (.wait env createOk delay) (step c s (.wait env createOk delay)) := by
  show LoopStep c s _ (stepWait c s env createOk delay)
  unfold stepWait
  by_cases hg : (s.phase != .starting || s.pending.isSome || !envMatches s env) = true
  · rw [if_pos hg]; exact .same _
  · rw [if_neg hg]
    have hph : s.phase = .starting := by cases hp : s.phase <;> simp_all
    have hm : envMatches s env = true := by cases hm : envMatches s env <;> simp_all
    by_cases ht : ((waitV c.v s.waiter env).path == .timer) = true
    · simp only [ht, if_true]; exact .park env createOk delay hph hm (by simpa using ht)
    · simp only [ht, Bool.false_eq_true, if_false]; exact .now env createOk delay hph hm

theorem fire_step (c : Cfg) (s : St) : LoopStep c s .timerFire (step c s .timerFire) := by
  show LoopStep c s _ (stepFire c s)
  unfold stepFire
  cases hp : s.pending with
  | none => exact .same _
  | some p => exact .fire p hp

theorem wake_step (c : Cfg) (s : St) : LoopStep c s .wakeCancelled (step c s .wakeCancelled) := by
  show LoopStep c s _ (stepWake c s)
  unfold stepWake
  cases hp : s.pending with
  | none => exact .same _
  | some p =>
    by_cases hcx : s.startCtxDone = true
    · simp only [hcx, Bool.not_true, Bool.false_eq_true, if_false]; exact .wake p hp hcx
    · simp only [hcx, Bool.not_false, if_true]; exact .same _

/-! ### every event preserves the invariant -/

/-- the `Wait` call that sleeps on its timer draws a token and answers true when the timer fires -/
theorem Inv.pendOf {c : Cfg} {all : List Int} {s : St} (h : Inv c all s) (p : Pending) (hp : s.pending = some p) :
    ResOK s (waitV c.v s.waiter p.env) := by
  obtain ⟨_, htok, hpath⟩ := h.pend p hp
  obtain ⟨hok, next, hnext⟩ := waitV_timer_ok _ _ _ hpath
  have hne : s.toks ≠ [] := by
    intro hnil
    rw [htok, hnil] at hnext
    simp at hnext
  exact ⟨fun _ => hne, fun _ => by simp [hpath, drew], by simp [hok]⟩

theorem loopStep_inv {c : Cfg} {all : List Int} {s b : St} {ev : Event} (hl : LoopStep c s ev b) (h : Inv c all s) :
    Inv c all b := by
  cases hl with
  | same => exact h
  | park env createOk delay hph hm ht =>
    simp only [envMatches, Bool.and_eq_true, beq_iff_eq] at hm
    exact { h with pend := fun q hq => by cases hq; exact ⟨hph, hm.1.2, ht⟩ }
  | now env createOk delay hph hm => exact complete_inv c all s _ _ h hph (resOK_of_matches c.v s env hm)
  | fire p hp => exact complete_inv c all s _ p h (h.pend p hp).1 (h.pendOf p hp)
  | wake p hp hcx =>
    obtain ⟨hph, htok, hpath⟩ := h.pend p hp
    obtain ⟨hpc, hokc⟩ := waitV_timer_cancel _ _ _ hpath
    exact complete_inv c all s _ p h hph ⟨fun _ => (h.pendOf p hp).drewTok (by rw [hpath]; rfl), by simp [hokc], fun _ => Or.inr hcx⟩

theorem step_inv (c : Cfg) (all : List Int) (s : St) (ev : Event) (h : Inv c all s) : Inv c all (step c s ev) := by
  cases ev with
  | wait env createOk delay => exact loopStep_inv (wait_step ..) h
  | timerFire => exact loopStep_inv (fire_step ..) h
  | wakeCancelled => exact loopStep_inv (wake_step ..) h
  | outOfAmmoResult =>
    show Inv c all (if !s.ammoOut then s else _)
    by_cases ha : s.ammoOut = true
    · simp only [ha, Bool.not_true, Bool.false_eq_true, if_false]
      exact { h with
        ctx := fun _ => Or.inl rfl
        done := by
          intro hd
          rcases h.done hd with a | a
          · exact Or.inl a
          · exact Or.inr (Or.inl rfl)
        ammo := fun _ => rfl }
    · simpa [ha] using h
  | rpsFinished =>
    show Inv c all (if c.perInstance || !anyInstance s then s else _)
    by_cases hg : (c.perInstance || !anyInstance s) = true
    · simpa [hg] using h
    · simp only [hg, Bool.false_eq_true, if_false]
      simp only [Bool.or_eq_true, Bool.not_eq_true', not_or, Bool.not_eq_true, Bool.not_eq_false] at hg
      exact { h with
        ctx := fun _ => Or.inr (Or.inl rfl)
        done := by
          intro hd
          rcases h.done hd with a | a
          · exact Or.inl a
          · exact Or.inr (Or.inr (Or.inl rfl))
        rps := by simp
        rpsShared := fun _ => ⟨hg.1, hg.2⟩ }
  | runCancel =>
    exact { h with
      ctx := fun _ => Or.inr (Or.inr rfl)
      done := by
        intro hd
        rcases h.done hd with a | a
        · exact Or.inl a
        · exact Or.inr (Or.inr (Or.inr (Or.inr rfl)))
      runCtx := by simp [step] }
  | instanceExit id reason =>
    show Inv c all (stepExit c s id reason)
    unfold stepExit
    split
    · exact h
    · exact { h with
        ammo := fun hx => by simp [h.ammo hx]
        running := fun i hi => h.running i (List.mem_of_mem_erase hi) }

theorem run_inv (c : Cfg) (all : List Int) (s : St) (evs : List Event) (h : Inv c all s) : Inv c all (run c s evs) := by
  induction evs generalizing s with
  | nil => exact h
  | cons ev rest ih => exact ih _ (step_inv c all s ev h)

/-! ### timing -/

/-- the `Wait` calls of the start loop among the events -/
def waitEnvs : List Event → List Env
  | [] => []
  | .wait env _ _ :: rest => env :: waitEnvs rest
  | _ :: rest => waitEnvs rest

/-- clock hypotheses (as in C04) for the `Wait` calls of the startup waiter among the events -/
def EventsClockOK (w : Waiter) (evs : List Event) : Prop :=
  (∀ e ∈ waitEnvs evs, EnvOK e) ∧ (∀ e ∈ waitEnvs evs, w.lastNow ≤ e.now) ∧
    (waitEnvs evs).Pairwise (fun a b => a.now ≤ b.now)

instance (w : Waiter) (evs : List Event) : Decidable (EventsClockOK w evs) := by
  unfold EventsClockOK; exact inferInstance

/-- the clock hypotheses for the events still to come, in a state that may hold a sleeping `Wait` call -/
structure ClockInv (s : St) (rest : List Event) : Prop where
  ok : ∀ e ∈ waitEnvs rest, EnvOK e
  last : ∀ e ∈ waitEnvs rest, s.waiter.lastNow ≤ e.now
  pw : (waitEnvs rest).Pairwise (fun a b => a.now ≤ b.now)
  pend : ∀ p, s.pending = some p →
    EnvOK p.env ∧ s.waiter.lastNow ≤ p.env.now ∧ ∀ e ∈ waitEnvs rest, p.env.now ≤ e.now

/-- what the start loop leaves alone when it completes a `Wait` call: the contexts and what the other events record;
no instance stops running -/
structure Kept (s b : St) : Prop where
  startCtxDone : b.startCtxDone = s.startCtxDone
  runCtxDone : b.runCtxDone = s.runCtxDone
  sharedRpsDone : b.sharedRpsDone = s.sharedRpsDone
  ammoOut : b.ammoOut = s.ammoOut
  sawOutOfAmmo : b.sawOutOfAmmo = s.sawOutOfAmmo
  sawRpsFinished : b.sawRpsFinished = s.sawRpsFinished
  sawRunCancelled : b.sawRunCancelled = s.sawRunCancelled
  running : ∀ id ∈ s.running, id ∈ b.running

theorem complete_kept (s : St) (r : Res) (p : Pending) :
    ((complete s r p).waiter = r.w ∧ (complete s r p).pending = none) ∧ Kept s (complete s r p) := by
  unfold complete
  dsimp only
  (repeat' split) <;>
    exact ⟨⟨rfl, rfl⟩, rfl, rfl, rfl, rfl, rfl, rfl, rfl,
      fun _ h => by first | exact h | exact List.mem_append_left _ h⟩

theorem complete_waiter (s : St) (r : Res) (p : Pending) :
    (complete s r p).waiter = r.w ∧ (complete s r p).pending = none := (complete_kept s r p).1

theorem LoopStep.kept {c : Cfg} {s b : St} {ev : Event} (hl : LoopStep c s ev b) : Kept s b := by
  cases hl with
  | same => exact ⟨rfl, rfl, rfl, rfl, rfl, rfl, rfl, fun _ h => h⟩
  | park => exact ⟨rfl, rfl, rfl, rfl, rfl, rfl, rfl, fun _ h => h⟩
  | now => exact (complete_kept ..).2
  | fire => exact (complete_kept ..).2
  | wake => exact (complete_kept ..).2

/-- every created instance was created at or after the release time of the token with its number -/
def NotAhead (all : List Int) (s : St) : Prop :=
  ∀ c ∈ s.created, ∃ t, all[c.id]? = some t ∧ t ≤ c.instant

theorem complete_notAhead (c : Cfg) (all : List Int) (s : St) (r : Res) (p : Pending) (hi : Inv c all s)
    (hn : NotAhead all s) (hph : s.phase = .starting)
    (hr : r.ok = true → ∃ next, s.toks.head? = some next ∧ next ≤ p.env.ret) : NotAhead all (complete s r p) := by
  have hcons : s.consumed = s.started := hi.consStarting hph
  unfold complete
  by_cases hok : r.ok = true
  · obtain ⟨next, hnext, hle⟩ := hr hok
    have hall : all[s.started]? = some next := by
      rw [hi.toks, hcons] at hnext
      simpa [List.head?_drop] using hnext
    simp only [hok, Bool.not_true, Bool.false_eq_true, if_false]
    by_cases hd : drew r.path = true <;> simp only [hd, if_true, Bool.false_eq_true, if_false]
    all_goals
      by_cases h0 : (s.started == 0) = true
      · have hs0 : s.started = 0 := by simpa using h0
        by_cases hco : p.createOk = true
        · simp only [h0, if_true, hco]
          intro cr hcr
          simp only [List.mem_append, List.mem_singleton] at hcr
          rcases hcr with hcr | hcr
          · exact hn cr hcr
          · subst hcr
            exact ⟨next, by simpa [hs0] using hall, by simp; omega⟩
        · simp only [h0, if_true, hco, Bool.false_eq_true, if_false]
          exact hn
      · simp only [h0, Bool.false_eq_true, if_false]
        intro cr hcr
        simp only [List.mem_append, List.mem_singleton] at hcr
        rcases hcr with hcr | hcr
        · exact hn cr hcr
        · subst hcr
          exact ⟨next, hall, by simp; omega⟩
  · have hok' : r.ok = false := by simpa using hok
    simp only [hok', Bool.not_false, if_true]
    by_cases hd : drew r.path = true <;> simp only [hd, if_true, Bool.false_eq_true, if_false] <;> exact hn

theorem ClockInv.tail {s : St} {ev : Event} {rest : List Event} (h : ClockInv s (ev :: rest)) : ClockInv s rest := by
  cases ev with
  | wait env createOk delay =>
    have hpw := h.pw
    simp only [waitEnvs, List.pairwise_cons] at hpw
    exact ⟨fun e he => h.ok e (by simp [waitEnvs, he]), fun e he => h.last e (by simp [waitEnvs, he]), hpw.2,
      fun p hp => let ⟨a, b, d⟩ := h.pend p hp; ⟨a, b, fun e he => d e (by simp [waitEnvs, he])⟩⟩
  | _ => exact ⟨h.ok, h.last, h.pw, h.pend⟩

/-- after a completed call the waiter's clock reading is the old one or the call's own: both lie before the calls to come -/
theorem complete_clock {s : St} {rest : List Event} (h : ClockInv s rest) (v : Variant) (e0 : Env) (p : Pending)
    (hnow : ∀ e ∈ waitEnvs rest, e0.now ≤ e.now) : ClockInv (complete s (waitV v s.waiter e0) p) rest := by
  obtain ⟨hw, hpn⟩ := complete_waiter s (waitV v s.waiter e0) p
  refine ⟨h.ok, fun e he => ?_, h.pw, fun q hq => by rw [hpn] at hq; cases hq⟩
  rw [hw]
  rcases waitV_lastNow v s.waiter e0 with hl | hl <;> rw [hl]
  · exact h.last e he
  · exact hnow e he

theorem loopStep_clock {c : Cfg} {s b : St} {ev : Event} {rest : List Event} (hl : LoopStep c s ev b)
    (h : ClockInv s (ev :: rest)) : ClockInv b rest := by
  have t := h.tail
  cases hl with
  | same => exact t
  | park env createOk delay hph hm ht =>
    have hpw := h.pw
    simp only [waitEnvs, List.pairwise_cons] at hpw
    exact ⟨t.ok, t.last, t.pw, fun p hp => by
      cases hp; exact ⟨h.ok env (by simp [waitEnvs]), h.last env (by simp [waitEnvs]), hpw.1⟩⟩
  | now env createOk delay hph hm =>
    have hpw := h.pw
    simp only [waitEnvs, List.pairwise_cons] at hpw
    exact complete_clock t c.v env _ hpw.1
  | fire p hp => exact complete_clock t c.v p.env p (h.pend p hp).2.2
  | wake p hp hcx => exact complete_clock t c.v { p.env with timerWins := false } p (h.pend p hp).2.2

theorem step_clock (c : Cfg) (s : St) (ev : Event) (rest : List Event) (h : ClockInv s (ev :: rest)) :
    ClockInv (step c s ev) rest := by
  cases ev with
  | wait env createOk delay => exact loopStep_clock (wait_step ..) h
  | timerFire => exact loopStep_clock (fire_step ..) h
  | wakeCancelled => exact loopStep_clock (wake_step ..) h
  | outOfAmmoResult =>
    show ClockInv (if !s.ammoOut then s else _) rest
    split <;> exact ⟨h.ok, h.last, h.pw, h.pend⟩
  | rpsFinished =>
    show ClockInv (if c.perInstance || !anyInstance s then s else _) rest
    split <;> exact ⟨h.ok, h.last, h.pw, h.pend⟩
  | runCancel => exact ⟨h.ok, h.last, h.pw, h.pend⟩
  | instanceExit id reason =>
    show ClockInv (stepExit c s id reason) rest
    unfold stepExit
    split <;> exact ⟨h.ok, h.last, h.pw, h.pend⟩

theorem loopStep_notAhead {c : Cfg} {all : List Int} {s b : St} {ev : Event} {rest : List Event}
    (hl : LoopStep c s ev b) (hi : Inv c all s) (hn : NotAhead all s) (hclk : ClockInv s (ev :: rest)) :
    NotAhead all b := by
  cases hl with
  | same => exact hn
  | park => exact hn
  | now env createOk delay hph hm =>
    refine complete_notAhead c all s _ _ hi hn hph fun hok => ?_
    obtain ⟨next, hnext, hle, _⟩ := waitV_ok c.v s.waiter env (hclk.ok env (by simp [waitEnvs]))
      (hclk.last env (by simp [waitEnvs])) hok
    simp only [envMatches, Bool.and_eq_true, beq_iff_eq] at hm
    exact ⟨next, by rw [← hm.1.2, hnext], hle⟩
  | fire p hp =>
    obtain ⟨hph, htok, _⟩ := hi.pend p hp
    obtain ⟨hek, hlast, _⟩ := hclk.pend p hp
    refine complete_notAhead c all s _ p hi hn hph fun hok => ?_
    obtain ⟨next, hnext, hle, _⟩ := waitV_ok c.v s.waiter p.env hek hlast hok
    exact ⟨next, by rw [← htok, hnext], hle⟩
  | wake p hp hcx =>
    obtain ⟨hph, _, hpath⟩ := hi.pend p hp
    refine complete_notAhead c all s _ p hi hn hph fun hok => ?_
    rw [(waitV_timer_cancel _ _ _ hpath).2] at hok
    cases hok

theorem step_notAhead (c : Cfg) (all : List Int) (s : St) (ev : Event) (rest : List Event) (hi : Inv c all s)
    (hn : NotAhead all s) (hclk : ClockInv s (ev :: rest)) : NotAhead all (step c s ev) := by
  cases ev with
  | wait env createOk delay => exact loopStep_notAhead (wait_step ..) hi hn hclk
  | timerFire => exact loopStep_notAhead (fire_step ..) hi hn hclk
  | wakeCancelled => exact loopStep_notAhead (wake_step ..) hi hn hclk
  | outOfAmmoResult =>
    show NotAhead all (if !s.ammoOut then s else _)
    split <;> exact hn
  | rpsFinished =>
    show NotAhead all (if c.perInstance || !anyInstance s then s else _)
    split <;> exact hn
  | runCancel => exact hn
  | instanceExit id reason =>
    show NotAhead all (stepExit c s id reason)
    unfold stepExit; split <;> exact hn

theorem run_notAhead (c : Cfg) (all : List Int) (s : St) (evs : List Event) (hi : Inv c all s) (hn : NotAhead all s)
    (hclk : ClockInv s evs) : NotAhead all (run c s evs) := by
  induction evs generalizing s with
  | nil => exact hn
  | cons ev rest ih =>
    exact ih _ (step_inv c all s ev hi) (step_notAhead c all s ev rest hi hn hclk) (step_clock c s ev rest hclk)

theorem ClockInv.init (all : List Int) (evs : List Event) (h : EventsClockOK (St.init all).waiter evs) :
    ClockInv (St.init all) evs :=
  ⟨h.1, h.2.1, h.2.2, fun p hp => by simp [St.init] at hp⟩

/-- counting form of `NotAhead`: at any instant `T` at most as many instances have been created as the profile has
released tokens (ids are distinct token indices, each not later than its instance) -/
theorem count_le_of_notAhead (all : List Int) (created : List Created)
    (hids : created.map (·.id) = List.range created.length)
    (hn : ∀ c ∈ created, ∃ t, all[c.id]? = some t ∧ t ≤ c.instant) (T : Int) :
    (created.filter (fun c => decide (c.instant ≤ T))).length ≤ (all.filter (fun t => decide (t ≤ T))).length := by
  -- created ids are 0..n-1 in order, so created[j].id = j and all[j] ≤ created[j].instant
  have hlen : created.length ≤ all.length := by
    by_cases h0 : created.length = 0
    · omega
    · have hlast : created.length - 1 < created.length := by omega
      have hmem : created[created.length - 1] ∈ created := List.getElem_mem hlast
      have hid : created[created.length - 1].id = created.length - 1 := by
        have := congrArg (fun l => l[created.length - 1]?) hids
        simp only [List.getElem?_map, List.getElem?_range hlast] at this
        rw [List.getElem?_eq_getElem hlast] at this
        simpa using this
      obtain ⟨t, ht, _⟩ := hn _ hmem
      rw [hid] at ht
      have := (List.getElem?_eq_some_iff.mp ht).1
      omega
  -- induction over a common prefix length
  have key : ∀ n, n ≤ created.length →
      ((created.take n).filter (fun c => decide (c.instant ≤ T))).length ≤
        ((all.take n).filter (fun t => decide (t ≤ T))).length := by
    intro n
    induction n with
    | zero => intro _; simp
    | succ n ih =>
      intro hn1
      have hn' : n < created.length := by omega
      have hna : n < all.length := by omega
      rw [List.take_succ_eq_append_getElem hn', List.take_succ_eq_append_getElem hna]
      simp only [List.filter_append, List.length_append]
      have hid : created[n].id = n := by
        have := congrArg (fun l => l[n]?) hids
        simp only [List.getElem?_map, List.getElem?_range hn'] at this
        rw [List.getElem?_eq_getElem hn'] at this
        simpa using this
      obtain ⟨t, ht, hle⟩ := hn _ (List.getElem_mem hn')
      rw [hid, List.getElem?_eq_getElem hna] at ht
      have hte : all[n] = t := by simpa using ht
      have := ih (by omega)
      by_cases hc : created[n].instant ≤ T
      · have : all[n] ≤ T := by omega
        simp [hc, this]
        omega
      · by_cases ha : all[n] ≤ T <;> simp [hc, ha] <;> omega
  have h1 := key created.length (Nat.le_refl _)
  rw [List.take_length] at h1
  refine Nat.le_trans h1 ?_
  have hsub : List.Sublist (all.take created.length) all := List.take_sublist _ _
  exact (hsub.filter _).length_le

/-! ### the exits of `instance.Run` -/

/-- `Run` returns the error of its loop body only as "out of ammo", after a pass in which the provider had no ammo -/
theorem instRun_body (its : List RunIter) (e : BodyErr) (h : instRun its = .body e) :
    e = .outOfAmmo ∧ ∃ it ∈ its, it.ammoOk = false := by
  induction its with
  | nil => simp [instRun] at h
  | cons it rest ih =>
    simp only [instRun] at h
    by_cases hf : instFinished it.ctxDone it.left = true
    · simp [hf] at h
    · simp only [hf, Bool.not_false, if_true] at h
      by_cases ha : it.ammoOk = true
      · have hb : instBody it.ammoOk it.waitOk = .nil := by simp [instBody, ha]
        simp only [hb, bne_self_eq_false, Bool.false_eq_true, if_false] at h
        obtain ⟨h1, it', hm, h2⟩ := ih h
        exact ⟨h1, it', List.mem_cons_of_mem _ hm, h2⟩
      · have ha' : it.ammoOk = false := by simpa using ha
        have hb : instBody it.ammoOk it.waitOk = .outOfAmmo := by simp [instBody, ha']
        rw [hb] at h
        simp only [show (BodyErr.outOfAmmo != BodyErr.nil) = true by decide, if_true] at h
        injection h with h
        exact ⟨h.symm, it, List.mem_cons_self, ha'⟩

/-- `Run` returns `ctx.Err()` only after a loop head at which its context was done or its schedule had no tokens left -/
theorem instRun_ctxErr (its : List RunIter) (h : instRun its = .ctxErr) :
    ∃ it ∈ its, it.ctxDone = true ∨ it.left = 0 := by
  induction its with
  | nil => simp [instRun] at h
  | cons it rest ih =>
    simp only [instRun] at h
    by_cases hf : instFinished it.ctxDone it.left = true
    · refine ⟨it, List.mem_cons_self, ?_⟩
      unfold instFinished at hf
      by_cases hc : it.ctxDone = true
      · exact Or.inl hc
      · right; simpa [hc] using hf
    · simp only [hf, Bool.not_false, if_true] at h
      by_cases hb : (instBody it.ammoOk it.waitOk != .nil) = true
      · simp [hb] at h
      · simp only [hb, Bool.false_eq_true, if_false] at h
        obtain ⟨it', hm, h2⟩ := ih h
        exact ⟨it', List.mem_cons_of_mem _ hm, h2⟩

/-- as long as the context is not done, tokens are left and the provider has ammo, `Run` keeps looping -/
theorem instRun_running (its : List RunIter)
    (h : ∀ it ∈ its, it.ctxDone = false ∧ it.left ≠ 0 ∧ it.ammoOk = true) : instRun its = .running := by
  induction its with
  | nil => rfl
  | cons it rest ih =>
    obtain ⟨hc, hl, ha⟩ := h it List.mem_cons_self
    have hf : instFinished it.ctxDone it.left = false := by simp [instFinished, hc, hl]
    have hb : instBody it.ammoOk it.waitOk = .nil := by simp [instBody, ha]
    simp only [instRun, hf, Bool.not_false, if_true, hb, bne_self_eq_false, Bool.false_eq_true, if_false]
    exact ih (fun it' hm => h it' (List.mem_cons_of_mem _ hm))

end Pandora.Proofs.C12
