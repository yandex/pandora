/-
C19 — `instance.Run` against the clock, the shared iterator under any interleaving, the DNS-caching dialer, who owns the
pooled sample (`Model/C19Run.lean`).
-/
import Pandora.Model.C19Run
import Pandora.Proofs.C19

namespace Pandora.Proofs.C19
open Pandora.Model.C10 Pandora.Model.C19

/-! ## instance.Run against the clock -/

theorem instanceRunSched_nodiscard (ts : List Token) (hw : ∀ t ∈ ts, t.waitOk = true) :
    instanceRunSched false ts = instanceRun (ts.map (·.shot)) := by
  induction ts with
  | nil => simp [instanceRunSched, instanceRun]
  | cons t rest ih =>
    have h1 := hw t (List.mem_cons_self ..)
    have ih' := ih (fun u hu => hw u (List.mem_cons_of_mem _ hu))
    by_cases hp : t.shot.panicked = true
    · simp [instanceRunSched, instanceRun, shootCond, h1, hp]
    · simp [instanceRunSched, instanceRun, shootCond, h1, hp, ih']

theorem instanceRunSched_failed_iff (discard : Bool) (ts : List Token) (hw : ∀ t ∈ ts, t.waitOk = true) :
    (instanceRunSched discard ts).result = .poolFailed ↔
      ∃ t ∈ ts, shootCond discard t.slowDown = true ∧ t.shot.panicked = true := by
  induction ts with
  | nil => simp [instanceRunSched]
  | cons t rest ih =>
    have h1 := hw t (List.mem_cons_self ..)
    have ih' := ih (fun u hu => hw u (List.mem_cons_of_mem _ hu))
    by_cases hc : shootCond discard t.slowDown = true
    · by_cases hp : t.shot.panicked = true
      · simp [instanceRunSched, h1, hc, hp]
      · simp [instanceRunSched, h1, hc, hp, ih']
    · simp [instanceRunSched, h1, hc, ih']

theorem instanceRunSched_all (discard : Bool) (ts : List Token) (hw : ∀ t ∈ ts, t.waitOk = true)
    (hp : ∀ t ∈ ts, shootCond discard t.slowDown = true → t.shot.panicked = false) :
    (instanceRunSched discard ts).result = .finished ∧ (instanceRunSched discard ts).shotsTaken = ts.length ∧
      (instanceRunSched discard ts).samples = (ts.map (tokenSamples discard)).flatten := by
  induction ts with
  | nil => simp [instanceRunSched]
  | cons t rest ih =>
    have h1 := hw t (List.mem_cons_self ..)
    obtain ⟨i1, i2, i3⟩ := ih (fun u hu => hw u (List.mem_cons_of_mem _ hu))
      (fun u hu => hp u (List.mem_cons_of_mem _ hu))
    by_cases hc : shootCond discard t.slowDown = true
    · have h2 := hp t (List.mem_cons_self ..) hc
      simp [instanceRunSched, tokenSamples, h1, hc, h2, i1, i2, i3]
    · simp [instanceRunSched, tokenSamples, h1, hc, i1, i2, i3]

/-- with a clock that does not run backwards the stored overdue is exactly how late the instance asks -/
theorem waiterOverdue_eq (next lastNow now : Int) (h : lastNow ≤ now) :
    waiterOverdue next lastNow now = if now - next ≥ 0 then now - next else 0 := by
  unfold waiterOverdue
  split <;> split <;> (try split) <;> omega

theorem isSlowDown_iff (next lastNow now : Int) (h : lastNow ≤ now) :
    isSlowDown (waiterOverdue next lastNow now) = true ↔ now - next ≥ maxOverdue := by
  rw [waiterOverdue_eq next lastNow now h]
  unfold isSlowDown maxOverdue
  split <;> simp <;> omega

theorem instanceRunSched_on_time (discard : Bool) (ts : List Token) (h : ∀ t ∈ ts, t.slowDown = false) :
    instanceRunSched discard ts = instanceRunSched false ts := by
  induction ts with
  | nil => simp [instanceRunSched]
  | cons t rest ih =>
    have h1 := h t (List.mem_cons_self ..)
    have ih' := ih (fun u hu => h u (List.mem_cons_of_mem _ hu))
    simp [instanceRunSched, shootCond, h1, ih']

/-! ## the shared iterator -/

/-- nobody died, and whoever is inside a call holds the mutex -/
def IterInv (s : IterState) : Prop := s.fatal = false ∧ ∀ u, s.pc u ≠ 0 → s.lock = some u

theorem otherInside_true {pc : Nat → Nat} {t n : Nat} (h : otherInside pc t n = true) : ∃ m, m ≠ t ∧ pc m = 2 := by
  induction n with
  | zero => simp [otherInside] at h
  | succ n ih =>
    simp only [otherInside, Bool.or_eq_true, Bool.and_eq_true, bne_iff_ne, beq_iff_eq, ne_eq] at h
    rcases h with ⟨h1, h2⟩ | h
    · exact ⟨n, h1, h2⟩
    · exact ih h

theorem iterStep_inv (n : Nat) (s : IterState) (t : Nat) (h : IterInv s) : IterInv (iterStep true n s t) := by
  obtain ⟨hf, hl⟩ := h
  unfold iterStep
  simp only [hf, Bool.false_eq_true, if_false, if_true]
  split
  · rename_i hpc
    split
    · rename_i hlock
      refine ⟨rfl, ?_⟩
      intro u hu
      by_cases hut : u = t
      · subst hut; rfl
      · have hu' : s.pc u ≠ 0 := by simpa [setPc, hut] using hu
        have := hl u hu'
        rw [hlock] at this
        cases this
    · exact ⟨hf, hl⟩
  · rename_i hpc
    have hlt : s.lock = some t := hl t (by omega)
    have hno : otherInside s.pc t n = false := by
      cases ho : otherInside s.pc t n with
      | false => rfl
      | true =>
        obtain ⟨m, hm, hm2⟩ := otherInside_true ho
        have := hl m (by omega)
        rw [hlt] at this
        cases this
        exact absurd rfl hm
    simp only [hno, Bool.false_eq_true, if_false]
    refine ⟨rfl, ?_⟩
    intro u hu
    by_cases hut : u = t
    · subst hut; exact hlt
    · exact hl u (by simpa [setPc, hut] using hu)
  · rename_i hpc
    have hlt : s.lock = some t := hl t (by omega)
    refine ⟨rfl, ?_⟩
    intro u hu
    by_cases hut : u = t
    · subst hut; exact hlt
    · exact hl u (by simpa [setPc, hut] using hu)
  · rename_i h0 h1 h2
    refine ⟨rfl, ?_⟩
    intro u hu
    by_cases hut : u = t
    · subst hut; simp [setPc] at hu
    · have hu' : s.pc u ≠ 0 := by simpa [setPc, hut] using hu
      have ht' : s.pc t ≠ 0 := fun h => h0 h
      have a := hl u hu'
      have b := hl t ht'
      rw [a] at b
      cases b
      exact absurd rfl hut

theorem iterRun_inv (n : Nat) (sched : List Nat) (s : IterState) (h : IterInv s) : IterInv (iterRun true n s sched) := by
  induction sched generalizing s with
  | nil => exact h
  | cons t rest ih => exact ih _ (iterStep_inv n s t h)

theorem iterInv_init : IterInv {} := ⟨rfl, fun _ hu => absurd rfl hu⟩

/-! ## the DNS-caching dialer -/

theorem dnsDial_ok (f : DialFacts) (cached : Bool) (o : DialOutcome) (h : f.remoteIsTCP = true) :
    ∃ r, dnsDial f cached o = .ok r := by
  cases cached <;> cases o <;> by_cases hs : f.addrSplits = true <;> simp [dnsDial, h, hs]

theorem dnsDials_transparent (cached : Bool) (os : List DialOutcome) :
    dnsDials {} cached os = .ok (os, cached || os.any (· == .connected)) := by
  induction os generalizing cached with
  | nil => simp [dnsDials]
  | cons o rest ih =>
    cases cached <;> cases o <;> simp [dnsDials, dnsDial, ih]

/-! ## sample ownership -/

theorem stepOps_wellOwned (o : StepOutcome) (h : ∀ st, o ≠ .received st .panic) :
    wellOwned (stepOps false o) = true ∧ reportsIn (stepOps false o) = 1 := by
  cases o with
  | received st p =>
    cases p with
    | panic => exact absurd rfl (h st)
    | _ => exact ⟨by simp [stepOps, wellOwned, wellOwned.go], by simp [stepOps, reportsIn]⟩
  | _ => exact ⟨by simp [stepOps, wellOwned, wellOwned.go], by simp [stepOps, reportsIn]⟩

theorem stepOps_reports (scn : String) (s : Step) : reportsIn (stepOps false s.outcome) = (stepHttp scn s).1.length := by
  cases h : s.outcome with
  | received st p => cases p <;> simp [stepOps, reportsIn, stepHttp, h]
  | _ => simp [stepOps, reportsIn, stepHttp, h]

theorem scenarioOps_wellOwned (scn : String) (steps : List Step) (hp : (shootScenario scn steps).panicked = false) :
    (∀ tr ∈ scenarioOps false steps, wellOwned tr = true) ∧
      ((scenarioOps false steps).map reportsIn).sum = (shootScenario scn steps).reports.length := by
  induction steps with
  | nil => simp [scenarioOps, shootScenario]
  | cons s rest ih =>
    cases h : s.outcome with
    | received st p =>
      cases p with
      | ok =>
        have hp' : (shootScenario scn rest).panicked = false := by
          simpa [shootScenario, stepHttp, h] using hp
        obtain ⟨i1, i2⟩ := ih hp'
        constructor
        · intro tr htr
          simp only [scenarioOps, h, List.mem_cons] at htr
          rcases htr with rfl | htr
          · simp [stepOps, wellOwned, wellOwned.go]
          · exact i1 tr htr
        · simp [scenarioOps, shootScenario, stepHttp, h, i2, stepOps, reportsIn]
          omega
      | panic => simp [shootScenario, stepHttp, h] at hp
      | err => simp [scenarioOps, shootScenario, stepHttp, h, stepOps, wellOwned, wellOwned.go, reportsIn]
    | _ => simp [scenarioOps, shootScenario, stepHttp, h, stepOps, wellOwned, wellOwned.go, reportsIn]

end Pandora.Proofs.C19
