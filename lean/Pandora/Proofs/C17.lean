/-
C17 — lemmas about the decoder model: unfolding equations, key lookup, error propagation.
-/
import Pandora.Model.C17

namespace Pandora.Proofs.C17
open Pandora.Model.C17

/-! ## results -/

/-- a decoding error now, or at the first call of a factory created here -/
def R.failed (r : R) : Prop := r.errs ≠ [] ∨ r.later ≠ []

def FR.failed (r : FR) : Prop := r.errs ≠ [] ∨ r.later ≠ []

/-! ## unfolding -/

theorem decode_struct_map (fl : Flags) (env : Env) (fs : Fields) (kvs : List (Str × Val)) :
    decode fl env (.struct fs) (.map kvs) =
      { val := .struct (decodeFlat fl env fs kvs).vals
        errs := (decodeFlat fl env fs kvs).errs ++
          (if fl.errorUnused && !(kvs.filter fun kv => !(decodeFlat fl env fs kvs).used.contains kv.1).isEmpty
            then [.unused] else [])
        later := (decodeFlat fl env fs kvs).later
        vfail := (decodeFlat fl env fs kvs).vfail } := by
  simp [decode]

theorem decode_scalar (fl : Flags) (env : Env) (k : Kind) (d : DVal) {v : Val} (hn : v ≠ .null) :
    decode fl env (.scalar k d) v = decodeScalarWith castTo fl env k d v := by
  cases v <;> simp_all [decode, decodeScalar]

theorem decode_ptr (fl : Flags) (env : Env) (n : Bool) (s : Schema) (v : Val) (h : v ≠ .null)
    (hs : ∀ str, v ≠ .str str) :
    decode fl env (.ptr n s) v = { decode fl env s v with val := .ptr (decode fl env s v).val } := by
  cases v <;> simp_all [decode]

/-- a text at a pointer position: the hooks see the pointer target first -/
theorem decode_ptr_str (fl : Flags) (env : Env) (n : Bool) (s : Schema) (str : Str) :
    decode fl env (.ptr n s) (.str str) =
      match injectOther env str with
      | .error e => R.fail (keep false (.ptr n s)).val e
      | .ok _ => { decode fl env s (.str str) with val := .ptr (decode fl env s (.str str)).val } := by
  simp only [decode]
  cases injectOther env str <;> rfl

/-- whatever fails / is rejected below a pointer fails / is rejected at the pointer -/
theorem ptr_errs_later (fl : Flags) (env : Env) (n : Bool) (s : Schema) (v : Val) (h : v ≠ .null) :
    ((decode fl env s v).errs ≠ [] → (decode fl env (.ptr n s) v).errs ≠ []) ∧
    ((decode fl env s v).later ≠ [] → (decode fl env (.ptr n s) v).errs ≠ [] ∨ (decode fl env (.ptr n s) v).later ≠ []) ∧
    ((decode fl env s v).vfail = true → (decode fl env (.ptr n s) v).errs ≠ [] ∨ (decode fl env (.ptr n s) v).vfail = true) := by
  cases v with
  | str str =>
    rw [decode_ptr_str]
    cases injectOther env str with
    | error e => simp [R.fail]
    | ok t => exact ⟨id, Or.inr, Or.inr⟩
  | _ =>
    rw [decode_ptr fl env n s _ h (by intro _ e; cases e)]
    exact ⟨id, Or.inr, Or.inr⟩

theorem decode_slice_list (fl : Flags) (env : Env) (e : Schema) (d : DVal) (xs : List Val) :
    decode fl env (.slice e d) (.list xs) =
      { val := .slice ((xs.map fun x => decode fl env e x).map (·.val))
        errs := ((xs.map fun x => decode fl env e x).map (·.errs)).flatten
        later := ((xs.map fun x => decode fl env e x).map (·.later)).flatten
        vfail := (xs.map fun x => decode fl env e x).any (·.vfail) } := by
  simp [decode]

theorem decode_map_map (fl : Flags) (env : Env) (e : Schema) (d : Option (List (Str × DVal))) (kvs : List (Str × Val)) :
    (decode fl env (.map e d) (.map kvs)).errs = ((kvs.map fun kv => (kv.1, decode fl env e kv.2)).map (·.2.errs)).flatten ∧
    (decode fl env (.map e d) (.map kvs)).later = ((kvs.map fun kv => (kv.1, decode fl env e kv.2)).map (·.2.later)).flatten := by
  simp [decode]

theorem decodeFlat_cons (fl : Flags) (env : Env) (f : FInfo) (s : Schema) (rest : Fields) (kvs : List (Str × Val)) :
    decodeFlat fl env (.cons f s rest) kvs =
      match (if f.settable then findKey kvs f.key else none) with
      | none =>
        { decodeFlat fl env rest kvs with
          vals := (f.name, (keep false s).val) :: (decodeFlat fl env rest kvs).vals
          vfail := tagsFail f.tags (keep false s).val || childVfail f s (keep false s) || (decodeFlat fl env rest kvs).vfail }
      | some (k, v) =>
        { vals := (f.name, (decode fl env s v).val) :: (decodeFlat fl env rest kvs).vals
          errs := (decode fl env s v).errs ++ (decodeFlat fl env rest kvs).errs
          later := (decode fl env s v).later ++ (decodeFlat fl env rest kvs).later
          vfail := tagsFail f.tags (decode fl env s v).val || childVfail f s (decode fl env s v) || (decodeFlat fl env rest kvs).vfail
          used := k :: (decodeFlat fl env rest kvs).used } := by
  rw [decodeFlat]
  rfl

/-! ## fields -/

inductive FieldIn : FInfo → Schema → Fields → Prop
  | head (f s rest) : FieldIn f s (.cons f s rest)
  | tail (f s g t rest) : FieldIn f s rest → FieldIn f s (.cons g t rest)

/-- `k` matches the key of no field, not even case-insensitively -/
def noField : Fields → Str → Bool
  | .nil, _ => true
  | .cons f _ rest, k => !(eqFold k f.key) && noField rest k

theorem eqFold_refl (a : Str) : eqFold a a = true := by simp [eqFold]

/-! ## key lookup -/

/-- the key `findKey` returns matches the field key exactly or case-insensitively -/
theorem findKey_matches {kvs : List (Str × Val)} {key k : Str} {v : Val} (h : findKey kvs key = some (k, v)) :
    eqFold k key = true := by
  unfold findKey at h
  split at h
  · rename_i kv hkv
    cases h
    have := List.find?_some hkv
    simp at this
    subst this
    exact eqFold_refl _
  · have := List.find?_some h
    simpa using this

/-- data keys consumed by the fields all match some field key -/
theorem used_matches (fl : Flags) (env : Env) : ∀ (fs : Fields) (kvs : List (Str × Val)) (k : Str),
    k ∈ (decodeFlat fl env fs kvs).used → noField fs k = false
  | .nil, kvs, k, h => by simp [decodeFlat] at h
  | .cons f s rest, kvs, k, h => by
    rw [decodeFlat_cons] at h
    split at h
    · have := used_matches fl env rest kvs k h
      simp [noField, this]
    · rename_i k' v hk
      simp only [List.mem_cons] at h
      rcases h with h | h
      · subst h
        have hm : findKey kvs f.key = some (k, v) := by
          split at hk
          · exact hk
          · cases hk
        simp [noField, findKey_matches hm]
      · have := used_matches fl env rest kvs k h
        simp [noField, this]

/-- a key matching no field, anywhere in the mapping, is reported when `ErrorUnused` is set -/
theorem unknown_key_mem (fl : Flags) (env : Env) (hfl : fl.errorUnused = true) (fs : Fields) (kvs : List (Str × Val))
    (k : Str) (v : Val) (hmem0 : (k, v) ∈ kvs) (hno : noField fs k = true) :
    ErrC.unused ∈ (decode fl env (.struct fs) (.map kvs)).errs := by
  rw [decode_struct_map]
  have hnot : k ∉ (decodeFlat fl env fs kvs).used := fun hmem => by
    have := used_matches fl env fs _ k hmem
    rw [hno] at this
    cases this
  have hfilter : (kvs.filter fun kv => !(decodeFlat fl env fs kvs).used.contains kv.1).isEmpty = false :=
    List.isEmpty_eq_false_iff_exists_mem.mpr ⟨(k, v), by simp [List.mem_filter, hnot, hmem0]⟩
  rw [hfl, hfilter]
  simp

/-- in particular in front -/
theorem unknown_key_here (fl : Flags) (env : Env) (hfl : fl.errorUnused = true) (fs : Fields) (kvs : List (Str × Val))
    (k : Str) (v : Val) (hno : noField fs k = true) :
    ErrC.unused ∈ (decode fl env (.struct fs) (.map ((k, v) :: kvs))).errs :=
  unknown_key_mem fl env hfl fs _ k v (List.mem_cons_self ..) hno

/-! ## propagation through a struct -/

theorem failed_of_field (fl : Flags) (env : Env) : ∀ (fs : Fields) (kvs : List (Str × Val)) (f : FInfo) (s : Schema)
    (k : Str) (c : Val), FieldIn f s fs → f.settable = true → findKey kvs f.key = some (k, c) →
    R.failed (decode fl env s c) → FR.failed (decodeFlat fl env fs kvs)
  | .nil, _, _, _, _, _, hin, _, _, _ => by cases hin
  | .cons g t rest, kvs, f, s, k, c, hin, hset, hfind, hfail => by
    rw [decodeFlat_cons]
    cases hin with
    | head =>
      simp only [hset, if_true, hfind]
      rcases hfail with h | h
      · exact Or.inl (List.append_ne_nil_of_left_ne_nil h _)
      · exact Or.inr (List.append_ne_nil_of_left_ne_nil h _)
    | tail g t rest hin' =>
      have ih := failed_of_field fl env rest kvs f s k c hin' hset hfind hfail
      split
      · exact ih
      · rcases ih with h | h
        · exact Or.inl (List.append_ne_nil_of_right_ne_nil _ h)
        · exact Or.inr (List.append_ne_nil_of_right_ne_nil _ h)

theorem struct_failed_of_flat (fl : Flags) (env : Env) (fs : Fields) (kvs : List (Str × Val))
    (h : FR.failed (decodeFlat fl env fs kvs)) : R.failed (decode fl env (.struct fs) (.map kvs)) := by
  rw [decode_struct_map]
  rcases h with h | h
  · exact Or.inl (List.append_ne_nil_of_left_ne_nil h _)
  · exact Or.inr h

/-! ## replacing the value under a key -/

/-- the configuration mapping with the value under `key` replaced -/
def setKey (kvs : List (Str × Val)) (key : Str) (c : Val) : List (Str × Val) :=
  kvs.map fun kv => if kv.1 == key then (kv.1, c) else kv

theorem find?_setKey (p : Str → Bool) (key : Str) (c : Val) (kvs : List (Str × Val)) :
    (setKey kvs key c).find? (fun kv => p kv.1) =
      (kvs.find? (fun kv => p kv.1)).map (fun kv => if kv.1 == key then (kv.1, c) else kv) := by
  unfold setKey
  rw [List.find?_map]
  congr 2
  funext kv
  dsimp only [Function.comp]
  split <;> rfl

theorem findKey_setKey (kvs : List (Str × Val)) (fkey key : Str) (c c' : Val)
    (h : findKey kvs fkey = some (key, c)) : findKey (setKey kvs key c') fkey = some (key, c') := by
  unfold findKey at h ⊢
  have e1 := find?_setKey (fun k => k == fkey) key c' kvs
  have e2 := find?_setKey (fun k => eqFold k fkey) key c' kvs
  rw [e1, e2]
  split at h
  · rename_i kv hkv
    cases h
    simp [hkv]
  · rename_i hnone
    simp [hnone, h]

theorem setKey_keys (kvs : List (Str × Val)) (key : Str) (c : Val) :
    (setKey kvs key c).map (·.1) = kvs.map (·.1) := by
  unfold setKey
  rw [List.map_map]
  refine List.map_congr_left fun kv _ => ?_
  dsimp only [Function.comp]
  split <;> rfl

/-! ## slices, maps -/

theorem slice_failed (fl : Flags) (env : Env) (e : Schema) (d : DVal) (xs : List Val) (x : Val) (hx : x ∈ xs)
    (h : R.failed (decode fl env e x)) : R.failed (decode fl env (.slice e d) (.list xs)) := by
  rw [decode_slice_list]
  rcases h with h | h
  · left
    refine List.flatten_ne_nil_iff.mpr ⟨(decode fl env e x).errs, ?_, h⟩
    simp only [List.map_map, List.mem_map]
    exact ⟨x, hx, rfl⟩
  · right
    refine List.flatten_ne_nil_iff.mpr ⟨(decode fl env e x).later, ?_, h⟩
    simp only [List.map_map, List.mem_map]
    exact ⟨x, hx, rfl⟩

theorem map_failed (fl : Flags) (env : Env) (e : Schema) (d : Option (List (Str × DVal))) (kvs : List (Str × Val))
    (k : Str) (x : Val) (hx : (k, x) ∈ kvs) (h : R.failed (decode fl env e x)) :
    R.failed (decode fl env (.map e d) (.map kvs)) := by
  have hm := decode_map_map fl env e d kvs
  rcases h with h | h
  · left
    rw [hm.1]
    refine List.flatten_ne_nil_iff.mpr ⟨(decode fl env e x).errs, ?_, h⟩
    simp only [List.map_map, List.mem_map]
    exact ⟨(k, x), hx, rfl⟩
  · right
    rw [hm.2]
    refine List.flatten_ne_nil_iff.mpr ⟨(decode fl env e x).later, ?_, h⟩
    simp only [List.map_map, List.mem_map]
    exact ⟨(k, x), hx, rfl⟩

/-! ## plugin positions -/

/-- the registered alternative of that name in the schema -/
def altOf : Alts → Str → Option (Bool × Schema)
  | .nil, _ => none
  | .cons n l s rest, name => if n == name then some (l, s) else altOf rest name

theorem decodeAlt_eq (fl : Flags) (env : Env) : ∀ (alts : Alts) (name : Str) (v : Val),
    decodeAlt fl env alts name v = (altOf alts name).map fun ls => (ls.1, decode fl env ls.2 v)
  | .nil, _, _ => by simp [decodeAlt, altOf]
  | .cons n l s rest, name, v => by
    rw [decodeAlt, altOf]
    split
    · simp
    · exact decodeAlt_eq fl env rest name v

theorem typeEntries_cons_type (tk : Str) (name : Str) (kvs : List (Str × Val)) (htk : isTypeKey tk = true)
    (hno : typeEntries kvs = []) : typeEntries ((tk, .str name) :: kvs) = [.str name] := by
  unfold typeEntries at hno ⊢
  simp only [List.filter, htk, List.map_cons]
  rw [hno]

theorem dropType_cons_type (tk : Str) (w : Val) (kvs : List (Str × Val)) (htk : isTypeKey tk = true)
    (hno : typeEntries kvs = []) : dropType ((tk, w) :: kvs) = kvs := by
  unfold typeEntries at hno
  have hf := List.map_eq_nil_iff.mp hno
  unfold dropType
  simp only [List.filter, htk, Bool.not_true]
  rw [List.filter_eq_self]
  intro kv hkv
  have : ¬ (isTypeKey kv.1 = true) := by
    intro ht
    have : kv ∈ kvs.filter fun kv => isTypeKey kv.1 := List.mem_filter.mpr ⟨hkv, ht⟩
    rw [hf] at this
    cases this
  simp [this]

/-- `parseConf` + `plugin.New` / `NewFactory` on a mapping whose `type` names a registered plugin -/
theorem decode_plugin_map (fl : Flags) (env : Env) (pi : PInfo) (alts : Alts) (m : List (Str × Val)) (name : Str)
    (lzy : Bool) (s : Schema)
    (hte : typeEntries m = [.str name]) (hname : pi.names.contains name = true)
    (halt : altOf alts name = some (lzy, s)) (r : R) (hr : decode fl env s (.map (dropType m)) = r) :
    decode fl env (.plugin pi alts) (.map m) =
      if lzy then
        { val := if pi.factory then .factory r.val else .plugin r.val, later := if (settle r).isEmpty then r.later else settle r }
      else if (settle r).isEmpty then { val := if pi.factory then .factory r.val else .plugin r.val, later := r.later }
      else { val := if pi.dfltSet then (if pi.factory then .factory .opaque else .plugin .opaque) else .nil, errs := settle r } := by
  have hda : decodeAlt fl env alts name (.map (dropType m)) = some (lzy, r) := by
    rw [decodeAlt_eq, halt, ← hr]; rfl
  simp only [decode, hte, hname, hda, Bool.not_true, Bool.false_eq_true, if_false]

/-- the `type` key anywhere in the mapping: what the plugin's own `DecodeAndValidate` reports (now, or when the factory
is called) fails the plugin position -/
theorem plugin_rejects_gen (fl : Flags) (env : Env) (pi : PInfo) (alts : Alts) (m : List (Str × Val)) (name : Str)
    (lzy : Bool) (s : Schema)
    (hte : typeEntries m = [.str name]) (hname : pi.names.contains name = true)
    (halt : altOf alts name = some (lzy, s))
    (hfail : settle (decode fl env s (.map (dropType m))) ≠ [] ∨ (decode fl env s (.map (dropType m))).later ≠ []) :
    R.failed (decode fl env (.plugin pi alts) (.map m)) := by
  rw [decode_plugin_map fl env pi alts m name lzy s hte hname halt _ rfl]
  generalize decode fl env s (.map (dropType m)) = r at hfail
  by_cases he : (settle r).isEmpty = true
  · have hl : r.later ≠ [] := hfail.resolve_left fun h => h (List.isEmpty_iff.mp he)
    cases lzy <;> simp only [he, if_true, Bool.false_eq_true, if_false] <;> exact Or.inr hl
  · have hn : settle r ≠ [] := fun h => he (List.isEmpty_iff.mpr h)
    cases lzy <;> simp only [he, if_true, Bool.false_eq_true, if_false]
    · exact Or.inl hn
    · exact Or.inr hn

/-- the same with the `type` key in front -/
theorem plugin_rejects (fl : Flags) (env : Env) (pi : PInfo) (alts : Alts) (tk name : Str) (kvs : List (Str × Val))
    (lzy : Bool) (s : Schema)
    (htk : isTypeKey tk = true) (hno : typeEntries kvs = []) (hname : pi.names.contains name = true)
    (halt : altOf alts name = some (lzy, s))
    (hfail : settle (decode fl env s (.map kvs)) ≠ [] ∨ (decode fl env s (.map kvs)).later ≠ []) :
    R.failed (decode fl env (.plugin pi alts) (.map ((tk, .str name) :: kvs))) := by
  apply plugin_rejects_gen fl env pi alts _ name lzy s (typeEntries_cons_type tk name kvs htk hno) hname halt
  rw [dropType_cons_type tk (.str name) kvs htk hno]
  exact hfail

theorem settle_ne_nil_of_errs {r : R} (h : r.errs ≠ []) : settle r ≠ [] := by
  unfold settle
  cases he : r.errs with
  | nil => exact absurd he h
  | cons x xs => simp

theorem plugin_failed (fl : Flags) (env : Env) (pi : PInfo) (alts : Alts) (tk name : Str) (kvs : List (Str × Val))
    (lzy : Bool) (s : Schema)
    (htk : isTypeKey tk = true) (hno : typeEntries kvs = []) (hname : pi.names.contains name = true)
    (halt : altOf alts name = some (lzy, s)) (hfail : R.failed (decode fl env s (.map kvs))) :
    R.failed (decode fl env (.plugin pi alts) (.map ((tk, .str name) :: kvs))) := by
  apply plugin_rejects fl env pi alts tk name kvs lzy s htk hno hname halt
  rcases hfail with h | h
  · exact Or.inl (settle_ne_nil_of_errs h)
  · exact Or.inr h

/-! ## top level -/

theorem rejected_of_failed (fl : Flags) (env : Env) (s : Schema) (cfg : Val) (h : R.failed (decode fl env s cfg)) :
    (decodeAndValidate fl env s cfg).rejected = true := by
  unfold decodeAndValidate
  generalize decode fl env s cfg = r at h
  simp only
  split
  · rfl
  · split
    · rfl
    · rename_i h1 h2
      rcases h with h | h
      · have := settle_ne_nil_of_errs h
        cases hs : settle r with
        | nil => exact absurd hs this
        | cons x xs => simp [hs] at h1
      · cases hl : r.later with
        | nil => exact absurd hl h
        | cons x xs => simp [hl] at h2

end Pandora.Proofs.C17
