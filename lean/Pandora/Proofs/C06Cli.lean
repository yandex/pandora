/-
C06 helper lemmas: invariant of the process-shutdown transition system (`awaitPandoraTermination`) for a
configuration that waits in the signal branch, notifies both signals, cancels on both and waits when the engine
fails first.
-/
import Pandora.Model.C06CliShutdown

namespace Pandora.Proofs.C06Cli
open Pandora.Model.CliShutdown

/-- the four properties of the code the proof needs -/
structure Good (cfg : Cfg) : Prop where
  waits : cfg.waitOnErrs = true
  notified : ∀ s, cfg.notified s = true
  cancels : ∀ s, cfg.cancels s = true
  failWaits : cfg.waitOnFail = true

theorem good_repaired : Good Cfg.repaired := ⟨rfl, fun _ => rfl, fun _ => rfl, rfl⟩

structure Inv (st : St) : Prop where
  errsOk : st.errsReady = some true → st.flushed = true
  sigsLe : st.sigs.length ≤ st.delivered
  waited : (st.pc = .sigWait ∨ st.pc = .sigWaitTasks) → st.sigs.length + 1 ≤ st.delivered
  exitOk : ∀ x, st.exit = some x →
    x.flushed = true ∨ (x.reason = .timeout ∧ st.timerFired = true) ∨ (x.reason = .secondSignal ∧ 2 ≤ st.delivered)
  exitPc : st.exit ≠ none → st.pc = .exited
  /-- once the main goroutine has left the outer select other than by a normal finish, the run context is cancelled -/
  canc : (st.pc = .sigWait ∨ st.pc = .sigWaitTasks ∨ st.pc = .errWait) → st.cancelled = true
  exitCanc : ∀ x, st.exit = some x → x.reason ≠ .finished → st.cancelled = true

/-- the process exits: what is asked of an exit is asked here, the rest is about fields `die` leaves alone -/
theorem inv_die {st : St} (h : Inv st) (r : Reason)
    (hx : st.flushed = true ∨ (r = .timeout ∧ st.timerFired = true) ∨ (r = .secondSignal ∧ 2 ≤ st.delivered))
    (hc : r ≠ .finished → st.cancelled = true) : Inv (st.die r) where
  errsOk := h.errsOk
  sigsLe := h.sigsLe
  waited := by simp [St.die]
  exitOk := fun x hxe => by obtain rfl := Option.some.inj hxe; exact hx
  exitPc := fun _ => rfl
  canc := by simp [St.die]
  exitCanc := fun x hxe => by obtain rfl := Option.some.inj hxe; exact hc

/-- while the process runs, the clauses about the exit record say nothing -/
theorem inv_running {st : St} (hx : st.exit = none)
    (h1 : st.errsReady = some true → st.flushed = true) (h2 : st.sigs.length ≤ st.delivered)
    (h3 : (st.pc = .sigWait ∨ st.pc = .sigWaitTasks) → st.sigs.length + 1 ≤ st.delivered)
    (h6 : (st.pc = .sigWait ∨ st.pc = .sigWaitTasks ∨ st.pc = .errWait) → st.cancelled = true) : Inv st :=
  ⟨h1, h2, h3, fun x hxe => (by rw [hx] at hxe; cases hxe), fun hn => absurd hx hn, h6,
    fun x hxe => (by rw [hx] at hxe; cases hxe)⟩

theorem inv_init : Inv {} :=
  inv_running rfl (fun h => nomatch h) (Nat.le_refl _) (fun h => by simp at h) (fun h => by simp at h)

theorem inv_step {cfg : Cfg} (g : Good cfg) {st : St} (h : Inv st) (e : Ev) : Inv (step cfg st e) := by
  unfold step
  by_cases hx : st.pc = .exited
  · rw [if_pos hx]; exact h
  rw [if_neg hx]
  have hne : st.exit = none := by
    cases he : st.exit with
    | none => rfl
    | some x => exact absurd (h.exitPc (by simp [he])) hx
  have ⟨h1, h2, h3, _, _, h6, _⟩ := h
  cases e with
  | signal s =>
    simp only [g.notified s, Bool.not_true, Bool.false_eq_true, if_false]
    split
    · exact inv_running hne h1 (by simp; omega) (fun hp => by have := h3 hp; simp; omega) h6
    · exact inv_running hne h1 (Nat.le_succ_of_le h2) (fun hp => Nat.le_succ_of_le (h3 hp)) h6
  | engineReturned ok =>
    dsimp only
    split
    · exact h
    · split
      · exact h
      · next hk =>
        refine inv_running hne (fun he => ?_) h2 h3 h6
        obtain rfl : ok = true := (Option.some.inj he)
        simpa using hk
  | tasksDone => exact inv_running hne (fun _ => rfl) h2 h3 h6
  | timerFires =>
    dsimp only
    split
    · exact inv_running hne h1 h2 h3 h6
    · exact h
  | takeSignal =>
    dsimp only
    split
    · exact h
    · next s rest hs =>
      have hlen : rest.length + 1 = st.sigs.length := by rw [hs]; rfl
      -- the state with the signal taken out of the channel
      have h' : Inv { st with sigs := rest } :=
        inv_running hne h1 (show rest.length ≤ st.delivered by omega)
          (fun hp => show rest.length + 1 ≤ st.delivered by have := h3 hp; omega) h6
      split
      · exact inv_running hne h1 (show rest.length ≤ st.delivered by omega) (fun _ => show rest.length + 1 ≤ st.delivered by omega)
          (fun _ => g.cancels s)
      · next hp =>
        have := h3 (Or.inl hp)
        exact inv_die h' _ (Or.inr (Or.inr ⟨rfl, show 2 ≤ st.delivered by omega⟩)) (fun _ => h6 (Or.inl hp))
      · next hp =>
        have := h3 (Or.inr hp)
        exact inv_die h' _ (Or.inr (Or.inr ⟨rfl, show 2 ≤ st.delivered by omega⟩)) (fun _ => h6 (Or.inr (Or.inl hp)))
      · exact h
  | takeErrs =>
    dsimp only
    split
    · next he hp =>
      exact inv_die (st := { st with errsReady := none }) (inv_running hne (fun h => nomatch h) h2 h3 h6) _
        (Or.inl (h1 he)) (fun hr => absurd rfl hr)
    · rw [if_pos g.failWaits]
      exact inv_running hne (fun h => nomatch h) h2 (fun hp => by rcases hp with hp | hp <;> cases hp) (fun _ => rfl)
    · next hp =>
      rw [if_pos g.waits]
      exact inv_running hne (fun h => nomatch h) h2 (fun _ => h3 (Or.inl hp)) (fun _ => h6 (Or.inl hp))
    · exact h
  | takeTimeout =>
    dsimp only
    split
    · next hf =>
      -- the three waiting states time out alike; each of them is one the context is cancelled in
      split <;> first
        | exact h
        | next hp => exact inv_die h _ (Or.inr (Or.inl ⟨rfl, hf⟩)) (fun _ => h6 (by simp [hp]))
    · exact h
  | takeWaitDone =>
    dsimp only
    split
    · next hf =>
      split <;> first
        | exact h
        | next hp => exact inv_die h _ (Or.inl hf) (fun _ => h6 (by simp [hp]))
    · exact h

theorem inv_run {cfg : Cfg} (g : Good cfg) (tr : List Ev) {st : St} (h : Inv st) : Inv (run cfg st tr) := by
  induction tr generalizing st with
  | nil => exact h
  | cons e es ih => exact ih (inv_step g h e)

end Pandora.Proofs.C06Cli
