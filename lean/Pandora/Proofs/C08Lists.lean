/-
C08 / C14 helper lemmas: repeated passes over a list, prefixes of the cyclic sequence.  Core Lean only.
-/
namespace Pandora.Proofs.C08

/-- `q` consecutive copies of `F` (what `q` complete passes over a file deliver) -/
def rep {α : Type} (q : Nat) (F : List α) : List α := (List.replicate q F).flatten

/-- the first `t` elements of the endless repetition of `F` (`F ≠ []`) -/
def cycTake {α : Type} (F : List α) (t : Nat) : List α := (rep t F).take t

variable {α : Type}

@[simp] theorem rep_zero (F : List α) : rep 0 F = [] := by simp [rep]

theorem rep_succ (q : Nat) (F : List α) : rep (q + 1) F = rep q F ++ F := by
  simp [rep, List.replicate_succ']

theorem rep_succ' (q : Nat) (F : List α) : rep (q + 1) F = F ++ rep q F := by
  simp [rep, List.replicate_succ]

theorem rep_add (a b : Nat) (F : List α) : rep (a + b) F = rep a F ++ rep b F := by
  induction b with
  | zero => simp
  | succ b ih => rw [← Nat.add_assoc, rep_succ, ih, rep_succ, List.append_assoc]

@[simp] theorem length_rep (q : Nat) (F : List α) : (rep q F).length = q * F.length := by
  induction q with
  | zero => simp
  | succ q ih => rw [rep_succ, List.length_append, ih, Nat.succ_mul]

theorem filter_rep (p : α → Bool) (q : Nat) (F : List α) : (rep q F).filter p = rep q (F.filter p) := by
  induction q with
  | zero => simp
  | succ q ih => rw [rep_succ, List.filter_append, ih, rep_succ]

/-- a prefix of the repetition does not depend on how many copies it is cut from -/
theorem take_rep_indep (F : List α) (t a b : Nat) (ha : t ≤ a * F.length) (hb : t ≤ b * F.length) :
    (rep a F).take t = (rep b F).take t := by
  have h1 : (rep (a + b) F).take t = (rep a F).take t := by
    rw [rep_add]; exact List.take_append_of_le_length (by simpa using ha)
  have h2 : (rep (b + a) F).take t = (rep b F).take t := by
    rw [rep_add]; exact List.take_append_of_le_length (by simpa using hb)
  rw [← h1, ← h2, Nat.add_comm]

theorem cycTake_eq (F : List α) (t a : Nat) (hf : 0 < F.length) (ha : t ≤ a * F.length) :
    cycTake F t = (rep a F).take t := by
  unfold cycTake
  apply take_rep_indep _ _ _ _ _ ha
  exact Nat.le_mul_of_pos_right t hf

@[simp] theorem length_cycTake (F : List α) (t : Nat) (hf : 0 < F.length) : (cycTake F t).length = t := by
  unfold cycTake
  rw [List.length_take, length_rep]
  exact Nat.min_eq_left (Nat.le_mul_of_pos_right t hf)

/-- a prefix of `rep a F` of length `t` is `cycTake F t` -/
theorem eq_cycTake_of_prefix (F l : List α) (a : Nat) (hf : 0 < F.length) (hp : l <+: rep a F) :
    l = cycTake F l.length := by
  have hl : l.length ≤ a * F.length := by simpa using hp.length_le
  rw [cycTake_eq F l.length a hf hl]
  exact List.prefix_iff_eq_take.mp hp

theorem rep_eq_cycTake (F : List α) (q : Nat) (hf : 0 < F.length) : rep q F = cycTake F (q * F.length) := by
  have := eq_cycTake_of_prefix F (rep q F) q hf (List.prefix_refl _)
  simpa using this

theorem exists_getElem? {l : List α} {i : Nat} (h : i < l.length) : ∃ a, l[i]? = some a :=
  ⟨l[i], List.getElem?_eq_getElem h⟩

theorem take_succ_getElem (l : List α) (r : Nat) (a : α) (h : l[r]? = some a) : l.take (r + 1) = l.take r ++ [a] := by
  rw [List.take_add_one, h]; rfl

theorem take_prefix_rep (F : List α) (q r : Nat) : rep q F ++ F.take r <+: rep (q + 1) F := by
  rw [rep_succ]
  exact (List.prefix_append_right_inj _).mpr (List.take_prefix r F)

/-- the `k`-th element of the repetition: `cycTake` grows by `F[k % |F|]` -/
theorem cycTake_succ (F : List α) (k : Nat) (a : α) (h : F[k % F.length]? = some a) :
    cycTake F (k + 1) = cycTake F k ++ [a] := by
  have hf : 0 < F.length := by
    cases F with
    | nil => simp at h
    | cons x xs => simp
  have hlt : k % F.length < F.length := Nat.mod_lt _ hf
  -- both sides are prefixes of rep (k / |F| + 1) F
  have hk : k = (k / F.length) * F.length + k % F.length := by
    rw [Nat.mul_comm]; exact (Nat.div_add_mod k F.length).symm
  have hp : rep (k / F.length) F ++ F.take (k % F.length + 1) <+: rep (k / F.length + 1) F := take_prefix_rep _ _ _
  have hlen : (rep (k / F.length) F ++ F.take (k % F.length + 1)).length = k + 1 := by
    rw [List.length_append, length_rep, List.length_take, Nat.min_eq_left (by omega)]; omega
  have hp0 : rep (k / F.length) F ++ F.take (k % F.length) <+: rep (k / F.length + 1) F := take_prefix_rep _ _ _
  have hlen0 : (rep (k / F.length) F ++ F.take (k % F.length)).length = k := by
    rw [List.length_append, length_rep, List.length_take, Nat.min_eq_left (by omega)]; omega
  have e1 := eq_cycTake_of_prefix F _ _ hf hp
  have e0 := eq_cycTake_of_prefix F _ _ hf hp0
  rw [hlen] at e1; rw [hlen0] at e0
  rw [← e1, ← e0, take_succ_getElem F _ a h, List.append_assoc]

theorem cycTake_zero (F : List α) : cycTake F 0 = [] := by simp [cycTake]

end Pandora.Proofs.C08
