/-
Scenario gun (helper lemmas for Props/C20.lean), core Lean only.

(A) progress: a thread of the repaired code running alone completes its shot within the fuel of `runShot`, so
    `applyMetadata .copy` returns the definition's templates rendered with the shot's variables, leaves the
    definition's map as it was and keeps the gun's template cache equal to the definition;
(B) the world invariant of `runSched .copy` and the step-by-step refinement of the stateless specification
    `Spec.C20.specSteps` / `expectedSched` by the model of the code.
-/
import Pandora.Model.C20
import Pandora.Spec.C20
import Pandora.Proofs.C20Conc

namespace Pandora.Proofs.C20Scen
open Pandora.Model.C20Conc Pandora.Proofs.C20Conc Pandora.Model.C20 Pandora.Spec.C20

/-! ### (A) progress of one thread running alone -/

section progress
variable {κ : Type}

/-- number of atomic actions a thread still needs to complete its current shot (`n` = number of metadata keys) -/
def rank (n : Nat) (th : Thread κ) : Nat :=
  match th.shots with
  | [] => 0
  | _ :: _ =>
    match th.phase with
    | Phase.idle => 3 * n + 4
    | Phase.copying acc => 3 * n + 3 - acc.length
    | Phase.applyLoc _ rest => rest.length + n + 2
    | Phase.readLoc _ rest => rest.length + 1
    | Phase.applySh _ => 0
    | Phase.readSh _ _ => 0

/-- every action either brings the thread one action closer to the end of its shot, or is the last one -/
theorem threadStepCopy_progress (tmpls : List (Tmpl κ)) (orig : List (Vars κ)) (th : Thread κ)
    (h : ThreadOk tmpls orig th) (hne : th.shots ≠ []) :
    ((threadStepCopy tmpls th).sent = th.sent ∧ (threadStepCopy tmpls th).shots = th.shots ∧
        rank tmpls.length (threadStepCopy tmpls th) + 1 = rank tmpls.length th) ∨
    (rank tmpls.length th = 1 ∧ (threadStepCopy tmpls th).sent.length = th.sent.length + 1) := by
  obtain ⟨vs, more, hshots⟩ := List.exists_cons_of_ne_nil hne
  obtain ⟨_, _, hp⟩ := h
  rw [hshots] at hp
  simp only at hp
  unfold threadStepCopy
  simp only [hshots]
  cases hph : th.phase with
  | idle =>
    left
    simp [rank, hshots, hph]
  | copying acc =>
    rw [hph] at hp
    simp only [PhaseOk] at hp
    have hlen : acc.length ≤ tmpls.length := by
      have := congrArg List.length hp
      simp at this
      omega
    cases hget : tmpls[acc.length]? with
    | some c =>
      left
      have hlt : acc.length < tmpls.length := by
        have := (List.getElem?_eq_some_iff.mp hget).1
        exact this
      simp [rank, hshots, hph, hget]
      omega
    | none =>
      left
      have hge : tmpls.length ≤ acc.length := List.getElem?_eq_none_iff.mp hget
      simp [rank, hshots, hph, hget]
      omega
  | applyLoc done rest =>
    rw [hph] at hp
    obtain ⟨t1, ht, hd⟩ := hp
    cases rest with
    | nil =>
      left
      have hl : done.length = tmpls.length := by
        rw [hd, ht]; simp
      simp [rank, hshots, hph]
      omega
    | cons c rest' =>
      left
      simp [rank, hshots, hph]
      omega
  | readLoc out rest =>
    cases rest with
    | nil =>
      right
      simp [rank, hshots, hph]
    | cons c rest' =>
      left
      simp [rank, hshots, hph]
  | applySh j => rw [hph] at hp; exact absurd hp (by simp [PhaseOk])
  | readSh out j => rw [hph] at hp; exact absurd hp (by simp [PhaseOk])

/-- the single-thread state `runShot` works on -/
theorem stepCopy_single (st : State κ) (th : Thread κ) (h : st.threads = [th]) :
    stepCopy st 0 = { st with threads := [threadStepCopy st.shared th] } := by
  unfold stepCopy
  simp [h]

theorem go_done (step : State κ → Nat → State κ) (i target fuel : Nat) (st : State κ)
    (h : (st.threads[i]?.map (·.sent.length)).getD 0 ≥ target) :
    runShot.go step i target fuel st = st := by
  cases fuel with
  | zero => simp [runShot.go]
  | succ f => simp [runShot.go, h]

/-- running alone, the thread completes one more shot within `rank` actions and keeps its invariant -/
theorem go_reaches (tmpls : List (Tmpl κ)) (orig : List (Vars κ)) (target : Nat) :
    ∀ (fuel : Nat) (st : State κ) (th : Thread κ), st.shared = tmpls → st.threads = [th] →
      ThreadOk tmpls orig th → th.sent.length + 1 = target → th.shots ≠ [] → rank tmpls.length th ≤ fuel →
      ∃ th', (runShot.go stepCopy 0 target fuel st).shared = tmpls ∧
        (runShot.go stepCopy 0 target fuel st).threads = [th'] ∧ ThreadOk tmpls orig th' ∧
        th'.sent.length = target := by
  intro fuel
  induction fuel with
  | zero =>
    intro st th hsh hth hok hlen hne hr
    rcases threadStepCopy_progress tmpls orig th hok hne with ⟨_, _, h3⟩ | ⟨h1, _⟩ <;> omega
  | succ f ih =>
    intro st th hsh hth hok hlen hne hr
    have hcond : ¬ ((st.threads[0]?.map (·.sent.length)).getD 0 ≥ target) := by
      simp [hth]; omega
    have hstep : runShot.go stepCopy 0 target (f + 1) st = runShot.go stepCopy 0 target f (stepCopy st 0) := by
      simp [runShot.go, hcond]
    rw [hstep, stepCopy_single st th hth, hsh]
    have hok' := threadStepCopy_ok tmpls orig th hok
    rcases threadStepCopy_progress tmpls orig th hok hne with ⟨h1, h2, h3⟩ | ⟨h1, h2⟩
    · exact ih _ (threadStepCopy tmpls th) rfl rfl hok' (by rw [h1]; exact hlen) (by rw [h2]; exact hne) (by omega)
    · refine ⟨threadStepCopy tmpls th, ?_, ?_, hok', by omega⟩
      · rw [go_done]; simp; omega
      · rw [go_done]; simp; omega

end progress

/-- `templ.Apply` + `metadata.New` of the repaired code on a definition whose map and cache are intact: the values
sent are the definition's templates rendered with the shot's variables, the map is left as it was, the cache stays
equal to the definition -/
theorem applyMetadata_copy (tmpls : List T) (cache : Cache Char) (vars : Vars Char) (hc : CacheOk tmpls cache) :
    ∃ cache', applyMetadata .copy tmpls cache vars = (tmpls, cache', tmpls.map (render vars)) ∧ CacheOk tmpls cache' := by
  let th0 : Thread Char := { shots := [vars], phase := Phase.idle, cache := cache, sent := [] }
  let st0 : State Char := { shared := tmpls, threads := [th0] }
  have hok0 : ThreadOk tmpls [vars] th0 := ⟨hc, ⟨[], rfl, rfl⟩, by simp [th0, PhaseOk]⟩
  obtain ⟨th', h1, h2, h3, h4⟩ := go_reaches tmpls [vars] 1 (3 * tmpls.length + 4) st0 th0 rfl rfl hok0 rfl
    (by simp [th0]) (by simp [rank, th0])
  obtain ⟨hc', ⟨d, hd, hs⟩, _⟩ := h3
  have hsent : th'.sent = [tmpls.map (render vars)] := by
    have hl : d.length = 1 := by
      have := congrArg List.length hs
      simp at this
      omega
    match d, hl, hd, hs with
    | [v], _, hd, hs =>
      have : v = vars := by
        have := congrArg List.head? hd
        simp at this
        exact this.symm
      subst this
      simpa [expected] using hs
  refine ⟨th'.cache, ?_, hc'⟩
  have hrun : runShot stepCopy st0 0 = runShot.go stepCopy 0 1 (3 * tmpls.length + 4) st0 := by
    simp [runShot, st0, th0]
  simp only [applyMetadata]
  show (match (runShot stepCopy st0 0).threads with
        | th :: _ => ((runShot stepCopy st0 0).shared, th.cache, th.sent.headD [])
        | [] => ((runShot stepCopy st0 0).shared, cache, [])) = _
  rw [hrun, h2, h1]
  simp [hsent]

/-! ### association lists -/

section assoc
variable {α β : Type} [BEq α] [LawfulBEq α]

omit [LawfulBEq α] in
theorem find_map_upd (l : List (α × β)) (k k' : α) (v : β) :
    (l.map fun (x : α × β) => if x.1 == k then (x.1, v) else x).find? (fun x => x.1 == k') =
      (l.find? (fun x => x.1 == k')).map (fun x => if x.1 == k then (x.1, v) else x) := by
  induction l with
  | nil => rfl
  | cons x xs ih =>
    simp only [List.map_cons, List.find?_cons]
    by_cases h : (x.1 == k) = true <;> by_cases h2 : (x.1 == k') = true <;> simp [h, h2, ih]

theorem assocGet_set_self (l : List (α × β)) (k : α) (v : β) : assocGet (assocSet l k v) k = some v := by
  unfold assocGet assocSet
  by_cases h : l.any (·.1 == k) = true
  · simp only [h, if_true]
    rw [find_map_upd]
    obtain ⟨x, hx, hk⟩ := List.any_eq_true.mp h
    cases hf : l.find? (fun x => x.1 == k) with
    | none =>
      have := List.find?_eq_none.mp hf x hx
      exact absurd hk this
    | some y =>
      have hy : (y.1 == k) = true := by
        have := List.find?_some hf
        simpa using this
      simp [hy]
  · have h' : l.find? (fun x => x.1 == k) = none := by
      simp only [List.find?_eq_none]
      intro x hx hk
      exact h (List.any_eq_true.mpr ⟨x, hx, hk⟩)
    simp [h, List.find?_append, h']

theorem assocGet_set_ne (l : List (α × β)) (k k' : α) (v : β) (hne : (k' == k) = false) :
    assocGet (assocSet l k v) k' = assocGet l k' := by
  have hne' : k' ≠ k := by simpa using hne
  unfold assocGet assocSet
  by_cases h : l.any (·.1 == k) = true
  · simp only [h, if_true]
    rw [find_map_upd]
    cases hf : l.find? (fun x => x.1 == k') with
    | none => rfl
    | some y =>
      have hy : y.1 = k' := by
        have := List.find?_some hf
        simpa using this
      have : (y.1 == k) = false := by
        rw [hy]; exact hne
      simp [this]
  · have hkk : (k == k') = false := by
      simp only [beq_eq_false_iff_ne, ne_eq]
      intro h; exact hne' h.symm
    simp [h, List.find?_append, hkk]

end assoc

/-! ### (B) world invariant of the repaired scenario gun -/

def tmplsOf (cd : CallDef) : List T := cd.md.map (·.2)

/-- every definition's metadata map holds its templates, every gun's cache holds templates of the definition -/
def WOk (c : Cfg) (w : World) : Prop :=
  (∀ cd ∈ c.calls, assocGet w.cells cd.name = some (tmplsOf cd)) ∧
  (∀ (gun : Nat) (scn : String) (cd : CallDef) (cache : Cache Char), cd ∈ c.calls →
      assocGet w.caches (gun, scn, cd.name) = some cache → CacheOk (tmplsOf cd) cache)

theorem namesDistinct_inj : ∀ (l : List CallDef), namesDistinct l = true →
    ∀ cd ∈ l, ∀ cd' ∈ l, cd.name = cd'.name → cd = cd'
  | [], _, cd, h, _, _, _ => by simp at h
  | x :: xs, hd, cd, h, cd', h', hn => by
    simp only [namesDistinct, Bool.and_eq_true, Bool.not_eq_true', List.any_eq_false] at hd
    obtain ⟨hx, hrest⟩ := hd
    rcases List.mem_cons.mp h with rfl | hm <;> rcases List.mem_cons.mp h' with rfl | hm'
    · rfl
    · exact absurd (by simpa using hn.symm) (hx cd' hm')
    · exact absurd (by simpa using hn) (hx cd hm)
    · exact namesDistinct_inj xs hrest cd hm cd' hm' hn

theorem find_name_self : ∀ (l : List CallDef), namesDistinct l = true → ∀ cd ∈ l,
    (l.map fun cd => (cd.name, tmplsOf cd)).find? (fun x => x.1 == cd.name) = some (cd.name, tmplsOf cd)
  | [], _, cd, h => by simp at h
  | x :: xs, hd, cd, h => by
    by_cases hx : (x.name == cd.name) = true
    · have : x = cd := namesDistinct_inj (x :: xs) hd x (List.mem_cons_self) cd h (by simpa using hx)
      subst this
      simp
    · have hm : cd ∈ xs := by
        rcases List.mem_cons.mp h with rfl | hm
        · simp at hx
        · exact hm
      have hrest : namesDistinct xs = true := by
        simp only [namesDistinct, Bool.and_eq_true] at hd
        exact hd.2
      simp only [List.map_cons, List.find?_cons, hx]
      exact find_name_self xs hrest cd hm

theorem initWorld_ok (c : Cfg) (hd : namesDistinct c.calls = true) : WOk c (initWorld c) := by
  refine ⟨?_, ?_⟩
  · intro cd hcd
    simp only [initWorld, assocGet]
    have := find_name_self c.calls hd cd hcd
    simp only [tmplsOf] at this
    rw [this]; rfl
  · intro gun scn cd cache _ h
    simp [initWorld, assocGet] at h

/-- writing a definition's own templates back into its map and a cache that holds templates of the definition into a
gun's slot keeps the invariant (whatever happens to the iterators) -/
theorem WOk.set {c : Cfg} {w : World} (hw : WOk c w) (hd : namesDistinct c.calls = true) {cd : CallDef}
    (hcd : cd ∈ c.calls) {gun : Nat} {scn : String} {cache' : Cache Char} (hc' : CacheOk (tmplsOf cd) cache')
    {iters : List (String × Nat)} :
    WOk c { cells := assocSet w.cells cd.name (tmplsOf cd), iters := iters,
            caches := assocSet w.caches (gun, scn, cd.name) cache' } := by
  have hinj := namesDistinct_inj c.calls hd
  refine ⟨fun cd' hcd' => ?_, fun g' s' cd' cache hcd' hget => ?_⟩
  · show assocGet (assocSet w.cells cd.name (tmplsOf cd)) cd'.name = _
    by_cases hn : cd'.name = cd.name
    · cases hinj cd' hcd' cd hcd hn
      exact assocGet_set_self _ _ _
    · rw [assocGet_set_ne _ _ _ _ (by simpa using hn)]
      exact hw.1 cd' hcd'
  · have hget : assocGet (assocSet w.caches (gun, scn, cd.name) cache') (g', s', cd'.name) = some cache := hget
    by_cases hk : (g', s', cd'.name) = (gun, scn, cd.name)
    · cases hinj cd' hcd' cd hcd (congrArg (·.2.2) hk)
      rw [hk, assocGet_set_self] at hget
      cases hget
      exact hc'
    · rw [assocGet_set_ne _ _ _ _ (by simpa using hk)] at hget
      exact hw.2 g' s' cd' cache hcd' hget

/-- **one step**: on a world satisfying the invariant the model of the repaired `shootStep` produces exactly what
the specification computes from the definition and the step's variables, and re-establishes the invariant -/
theorem shootStep_copy (c : Cfg) (gun : Nat) (scn : String) (cd : CallDef) (w : World) (sv : ShotVars)
    (hd : namesDistinct c.calls = true) (hw : WOk c w) (hcd : cd ∈ c.calls)
    (hm1 : (cd.pre && c.users.isEmpty) = false) :
    ∃ w', WOk c w' ∧ w'.iters = (stepVars c cd w.iters sv).2 ∧
      shootStep .copy c gun scn cd w sv =
        (if (specStep c scn cd (stepVars c cd w.iters sv).1).2.1
          then .ok w' (svNext cd (specStep c scn cd (stepVars c cd w.iters sv).1).2.2 sv) (specStep c scn cd (stepVars c cd w.iters sv).1).1
          else .failed w' (specStep c scn cd (stepVars c cd w.iters sv).1).1) := by
  -- a template that cannot be parsed / executed: only the iterator moves
  by_cases hbad : callBad cd = true
  · refine ⟨{ w with iters := (stepVars c cd w.iters sv).2 }, ⟨hw.1, hw.2⟩, rfl, ?_⟩
    simp only [shootStep, specStep, hm1, hbad, Bool.false_eq_true, if_false, if_true]
    rfl
  have hbad' : callBad cd = false := by simpa using hbad
  have hcells : assocGet w.cells cd.name = some (tmplsOf cd) := hw.1 cd hcd
  have hcache : CacheOk (tmplsOf cd) ((assocGet w.caches (gun, scn, cd.name)).getD []) := by
    cases hg : assocGet w.caches (gun, scn, cd.name) with
    | none => exact cacheOk_nil _
    | some cache => exact hw.2 gun scn cd cache hcd hg
  obtain ⟨cache', happ, hc'⟩ := applyMetadata_copy (tmplsOf cd) _ (stepVars c cd w.iters sv).1 hcache
  let w' : World := { cells := assocSet w.cells cd.name (tmplsOf cd), iters := (stepVars c cd w.iters sv).2,
                      caches := assocSet w.caches (gun, scn, cd.name) cache' }
  refine ⟨w', hw.set hd hcd hc', rfl, ?_⟩
  -- model and specification now take the same decisions, on the same rendered payload and metadata
  have hsv : stepVars c cd w.iters sv =
      (mkVars (drawUser c cd w.iters).1 (svFor cd sv) c.g c.gn, (drawUser c cd w.iters).2) := rfl
  simp only [hsv] at happ
  unfold shootStep specStep
  simp only [hm1, hbad', Bool.false_eq_true, if_false, hcells, Option.getD_some]
  rw [happ]
  simp only [hsv]
  cases hl : lookupMethod cd.call with
  | none => rfl
  | some mf =>
    obtain ⟨m, fs⟩ := mf
    simp only
    cases hdec : decodeFields fs _ with
    | none => rfl
    | some vals =>
      simp only [tmplsOf, List.map_map, List.zip_map', Function.comp_apply]
      generalize serverCode m (canonMsg fs vals) _ = code
      cases assertFails cd code
      · simp only [Bool.not_false, if_true, svNext]
        cases (m == "Auth" && code == 200) <;> rfl
      · rfl

theorem mapM_find_mem (calls : List CallDef) : ∀ (reqs : List String) (cds : List CallDef),
    reqs.mapM (fun r => calls.find? (·.name == r)) = some cds → ∀ cd ∈ cds, cd ∈ calls
  | [], cds, h, cd, hcd => by
    simp at h
    subst h
    simp at hcd
  | r :: rs, cds, h, cd, hcd => by
    simp only [List.mapM_cons, Option.bind_eq_bind, Option.bind_eq_some_iff, Option.pure_def, Option.some.injEq] at h
    obtain ⟨b, hb, bs, hbs, rfl⟩ := h
    rcases List.mem_cons.mp hcd with rfl | hm
    · exact List.mem_of_find?_eq_some hb
    · exact mapM_find_mem calls rs bs hbs cd hm

/-- **one shot**: whenever the specification defines what the shot must produce, the model of the repaired code
produces exactly that, leaves the iterators where the specification leaves them and re-establishes the invariant -/
theorem shootSteps_copy (c : Cfg) (gun : Nat) (scn : String) (hd : namesDistinct c.calls = true) :
    ∀ (cds : List CallDef) (w : World) (sv : ShotVars) (acc o : Outcome) (iters' : List (String × Nat)),
      (∀ cd ∈ cds, cd ∈ c.calls) → WOk c w → specSteps c scn cds w.iters sv acc = some (o, iters') →
      ∃ w', WOk c w' ∧ w'.iters = iters' ∧ shootSteps .copy c gun scn cds w sv acc = .done w' o
  | [], w, sv, acc, o, iters', _, hw, h => by
    simp only [specSteps, Option.some.injEq, Prod.mk.injEq] at h
    obtain ⟨rfl, rfl⟩ := h
    exact ⟨w, hw, rfl, rfl⟩
  | cd :: rest, w, sv, acc, o, iters', hmem, hw, h => by
    have hcd : cd ∈ c.calls := hmem cd List.mem_cons_self
    have hrest : ∀ cd' ∈ rest, cd' ∈ c.calls := fun cd' h' => hmem cd' (List.mem_cons_of_mem _ h')
    unfold specSteps at h
    by_cases hm : (cd.pre && c.users.isEmpty) = true
    · simp [hm] at h
    · have hm' : (cd.pre && c.users.isEmpty) = false := by simpa using hm
      simp only [hm', Bool.false_eq_true, if_false] at h
      obtain ⟨w', hw', hit, hstep⟩ := shootStep_copy c gun scn cd w sv hd hw hcd hm'
      unfold shootSteps
      rw [hstep]
      by_cases hok : (specStep c scn cd (stepVars c cd w.iters sv).1).2.1 = true
      · simp only [hok, if_true] at h ⊢
        rw [← hit] at h
        exact shootSteps_copy c gun scn hd rest w' _ _ o iters' hrest hw' h
      · have hok' : (specStep c scn cd (stepVars c cd w.iters sv).1).2.1 = false := by simpa using hok
        simp only [hok', Bool.false_eq_true, if_false, Option.some.injEq, Prod.mk.injEq] at h ⊢
        obtain ⟨rfl, rfl⟩ := h
        exact ⟨w', hw', hit, rfl⟩

/-- **any number of shots by any guns in any order**: whenever the specification defines the expected trace, the
model of the repaired code produces exactly that trace -/
theorem runSched_copy (c : Cfg) (hd : namesDistinct c.calls = true) :
    ∀ (sched : List Nat) (k : Nat) (w : World) (acc tr : List (Nat × Outcome)),
      WOk c w → expectedSched c sched k w.iters acc = some tr → runSched .copy c sched k w acc = .inl (some tr)
  | [], k, w, acc, tr, _, h => by
    simp only [expectedSched, Option.some.injEq] at h
    subst h
    rfl
  | gun :: rest, k, w, acc, tr, hw, h => by
    unfold expectedSched at h
    unfold runSched
    cases hs : (ammoList c)[k % (ammoList c).length]? with
    | none => simp [hs] at h
    | some s =>
      have hne : (ammoList c).isEmpty = false := by
        cases ha : ammoList c with
        | nil => simp [ha] at hs
        | cons a b => rfl
      simp only [hs] at h
      simp only [hne, Bool.false_eq_true, if_false, hs]
      cases hr : resolveReqs c s with
      | none => simp [hr] at h
      | some cds =>
        simp only [hr] at h ⊢
        have hmem : ∀ cd ∈ cds, cd ∈ c.calls := mapM_find_mem c.calls s.reqs cds hr
        cases hsp : specSteps c s.name cds w.iters { a := none, i := none } { calls := [], samples := [] } with
        | none => simp [hsp] at h
        | some oi =>
          obtain ⟨o, iters'⟩ := oi
          simp only [hsp] at h
          obtain ⟨w', hw', hit, hrun⟩ := shootSteps_copy c gun s.name hd cds w _ _ o iters' hmem hw hsp
          rw [hrun]
          simp only
          rw [← hit] at h
          exact runSched_copy c hd rest (k + 1) w' _ tr hw' h

/-! ### the specification's step, case by case -/

/-- payload of a step after templating: every value template rendered with the step's variables -/
def renderedPayload (cd : CallDef) (vars : Vars Char) : List (String × PVal) :=
  cd.payload.map fun (fname, kind, t) => (fname, pvalOf kind (String.ofList (render vars t)))

/-- metadata of a step after templating: every value template of the DEFINITION rendered with the step's variables -/
def renderedMd (cd : CallDef) (vars : Vars Char) : List (String × String) :=
  cd.md.map fun (k, t) => (k, String.ofList (render vars t))

theorem specStep_bad (c : Cfg) (scn : String) (cd : CallDef) (vars : Vars Char) (h : callBad cd = true) :
    specStep c scn cd vars = ({ calls := [], samples := [sampleText (scn ++ "." ++ cd.tag) 0] }, false, none) := by
  simp [specStep, h]

theorem specStep_unknown (c : Cfg) (scn : String) (cd : CallDef) (vars : Vars Char) (h : lookupMethod cd.call = none) :
    specStep c scn cd vars = ({ calls := [], samples := [sampleText (scn ++ "." ++ cd.tag) 0] }, false, none) := by
  by_cases hb : callBad cd = true <;> simp [specStep, h, hb]

theorem specStep_illtyped (c : Cfg) (scn : String) (cd : CallDef) (vars : Vars Char) (m : String) (fs : List Field)
    (hb : callBad cd = false)
    (h : lookupMethod cd.call = some (m, fs)) (h2 : decodeFields fs (renderedPayload cd vars) = none) :
    specStep c scn cd vars = ({ calls := [], samples := [sampleText (scn ++ "." ++ cd.tag) 400] }, false, none) := by
  simp only [renderedPayload] at h2
  simp [specStep, h, h2, hb]

theorem specStep_call (c : Cfg) (scn : String) (cd : CallDef) (vars : Vars Char) (m : String) (fs : List Field)
    (vals : List (String × Option String)) (hb : callBad cd = false)
    (h : lookupMethod cd.call = some (m, fs)) (h2 : decodeFields fs (renderedPayload cd vars) = some vals) :
    (specStep c scn cd vars).1 =
        { calls := [callText m (canonMsg fs vals) (mdText (renderedMd cd vars)) c.tmo],
          samples := [sampleText (scn ++ "." ++ cd.tag) (serverCode m (canonMsg fs vals) (renderedMd cd vars))] } ∧
      (specStep c scn cd vars).2.1 = !(assertFails cd (serverCode m (canonMsg fs vals) (renderedMd cd vars))) := by
  simp only [renderedPayload] at h2
  simp [specStep, h, h2, renderedMd, hb]

theorem lookupMethod_some (call m : String) (fs : List Field) (h : lookupMethod call = some (m, fs)) :
    (m, fs) ∈ methodTable ∧ call = svc ++ "." ++ m := by
  refine ⟨List.mem_of_find?_eq_some h, ?_⟩
  have := List.find?_some h
  exact (by simpa using this : svc ++ "." ++ m = call).symm

/-! ### plain gun -/

theorem shootAll_outcomes (tmo : Nat) (g : GunState) (es : List Entry) :
    (shootAll tmo g es).2 = es.map (shootEntry tmo) := by
  induction es generalizing g with
  | nil => rfl
  | cons e es ih => simp [shootAll, ih]

/-- a pool whose schedule names existing instances only fires the entries in order, whoever fires them -/
theorem runPool_outcomes (tmo : Nat) : ∀ (gs : List GunState) (sched : List Nat) (es : List Entry),
    (∀ i ∈ sched, i < gs.length) →
    ((runPool tmo gs sched es).2.map fun (i, _, o) => (i, o)) = (sched.zip es).map fun (i, e) => (i, shootEntry tmo e)
  | gs, [], es, _ => by simp [runPool]
  | gs, i :: sched, [], _ => by simp [runPool]
  | gs, i :: sched, e :: es, h => by
    have hi : i < gs.length := h i List.mem_cons_self
    have hrest : ∀ j ∈ sched, j < (gs.set i { gs[i] with shots := gs[i].shots + 1 }).length := by
      intro j hj
      simp only [List.length_set]
      exact h j (List.mem_cons_of_mem _ hj)
    have hget : gs[i]? = some gs[i] := List.getElem?_eq_getElem hi
    simp only [runPool, hget, List.zip_cons_cons, List.map_cons]
    rw [runPool_outcomes tmo _ sched es hrest]

end Pandora.Proofs.C20Scen
