/-
C06 helper lemmas: decimal printing / parsing of Nat and Int, byte-level splitting. Core only.
-/
import Pandora.Model.C06Phout

namespace Pandora.Proofs.C06
open Pandora.Model.Phout

/-! ## digits -/

theorem digitByte_toNat {d : Nat} (h : d < 10) : (digitByte d).toNat = 48 + d := by
  unfold digitByte
  rw [UInt8.toNat_ofNat']
  omega

def IsDigit (b : UInt8) : Prop := 48 ≤ b.toNat ∧ b.toNat ≤ 57

instance (b : UInt8) : Decidable (IsDigit b) := by unfold IsDigit; infer_instance

theorem isDigit_digitByte {d : Nat} (h : d < 10) : IsDigit (digitByte d) := by
  unfold IsDigit; rw [digitByte_toNat h]; omega

theorem digitVal_digitByte {d : Nat} (h : d < 10) : digitVal (digitByte d) = some d := by
  unfold digitVal
  rw [digitByte_toNat h]
  have : 48 ≤ 48 + d ∧ 48 + d ≤ 57 := by omega
  simp [this]

theorem natDigits_lt {n : Nat} (h : n < 10) : natDigits n = [digitByte n] := by
  rw [natDigits]; simp [h]

theorem natDigits_ge {n : Nat} (h : 10 ≤ n) :
    natDigits n = natDigits (n / 10) ++ [digitByte (n % 10)] := by
  rw [natDigits]
  have : ¬ n < 10 := by omega
  simp [this]

theorem natDigits_ne_nil (n : Nat) : natDigits n ≠ [] := by
  by_cases h : n < 10
  · rw [natDigits_lt h]; simp
  · rw [natDigits_ge (by omega)]; simp

theorem natDigits_isDigit (n : Nat) : ∀ b ∈ natDigits n, IsDigit b := by
  induction n using Nat.strongRecOn with
  | _ n ih =>
    by_cases h : n < 10
    · rw [natDigits_lt h]
      intro b hb
      simp at hb
      subst hb
      exact isDigit_digitByte h
    · rw [natDigits_ge (by omega)]
      intro b hb
      simp at hb
      rcases hb with hb | hb
      · exact ih (n / 10) (by omega) b hb
      · subst hb; exact isDigit_digitByte (by omega)

/-- `n ≥ 1000`: the decimal text is the text of the seconds followed by three millisecond digits -/
theorem natDigits_split3 {n : Nat} (h : 1000 ≤ n) :
    natDigits n = natDigits (n / 1000) ++ pad3 (n % 1000) := by
  rw [natDigits_ge (by omega), natDigits_ge (n := n / 10) (by omega),
      natDigits_ge (n := n / 10 / 10) (by omega)]
  have e1 : n / 10 / 10 / 10 = n / 1000 := by simp only [Nat.div_div_eq_div_mul]
  have e2 : n / 10 / 10 % 10 = n % 1000 / 100 := by
    rw [Nat.div_div_eq_div_mul, show 1000 = 100 * 10 from rfl, Nat.mod_mul_right_div_self]
  have e3 : n / 10 % 10 = n % 1000 / 10 % 10 := by
    rw [show 1000 = 10 * 100 from rfl, Nat.mod_mul_right_div_self, Nat.mod_mod_of_dvd _ (by decide)]
  have e4 : n % 10 = n % 1000 % 10 := (Nat.mod_mod_of_dvd _ (by decide)).symm
  rw [e1, e2, e3, e4]
  simp [pad3]

theorem natDigits_length_ge3 {n : Nat} (h : 100 ≤ n) : 3 ≤ (natDigits n).length := by
  rw [natDigits_ge (by omega), natDigits_ge (n := n / 10) (by omega)]
  have := natDigits_ne_nil (n / 10 / 10)
  have : 0 < (natDigits (n / 10 / 10)).length := List.length_pos_iff.mpr this
  simp; omega

theorem natDigits_length_lt100 {n : Nat} (h : n < 100) : (natDigits n).length < 3 := by
  by_cases h1 : n < 10
  · rw [natDigits_lt h1]; simp
  · rw [natDigits_ge (by omega), natDigits_lt (n := n / 10) (by omega)]; simp

theorem natDigits_length_100_999 {n : Nat} (h : 100 ≤ n) (h2 : n < 1000) : (natDigits n).length = 3 := by
  rw [natDigits_ge (by omega), natDigits_ge (n := n / 10) (by omega), natDigits_lt (n := n/10/10) (by omega)]
  simp

theorem pad3_length (k : Nat) : (pad3 k).length = 3 := by simp [pad3]

theorem pad3_isDigit {k : Nat} (h : k < 1000) : ∀ b ∈ pad3 k, IsDigit b := by
  intro b hb
  simp [pad3] at hb
  rcases hb with hb | hb | hb <;> subst hb <;> apply isDigit_digitByte <;> omega

/-! ## parsing back -/

theorem parseNatAcc_append (acc : Nat) (a b : Bytes) :
    parseNatAcc acc (a ++ b) = (parseNatAcc acc a).bind (fun x => parseNatAcc x b) := by
  induction a generalizing acc with
  | nil => simp [parseNatAcc]
  | cons c r ih =>
    simp only [List.cons_append, parseNatAcc]
    cases digitVal c with
    | none => simp
    | some d => simp [ih]

theorem parseNatAcc_natDigits (n : Nat) : parseNatAcc 0 (natDigits n) = some n := by
  induction n using Nat.strongRecOn with
  | _ n ih =>
    by_cases h : n < 10
    · rw [natDigits_lt h]
      simp [parseNatAcc, digitVal_digitByte h]
    · rw [natDigits_ge (by omega), parseNatAcc_append, ih (n / 10) (by omega)]
      simp [parseNatAcc, digitVal_digitByte (show n % 10 < 10 by omega)]
      omega

theorem parseNat_of_ne_nil {l : Bytes} (h : l ≠ []) : parseNat l = parseNatAcc 0 l := by
  cases l with
  | nil => exact absurd rfl h
  | cons _ _ => rfl

theorem parseNat_natDigits (n : Nat) : parseNat (natDigits n) = some n := by
  rw [parseNat_of_ne_nil (natDigits_ne_nil n), parseNatAcc_natDigits]

theorem parseNat_pad3 {k : Nat} (h : k < 1000) : parseNat (pad3 k) = some k := by
  simp [pad3, parseNat, parseNatAcc, digitVal_digitByte (show k / 100 < 10 by omega),
    digitVal_digitByte (show k / 10 % 10 < 10 by omega), digitVal_digitByte (show k % 10 < 10 by omega)]
  omega

theorem parseInt_intBytes (i : Int) : parseInt (intBytes i) = some i := by
  unfold intBytes
  by_cases h : i < 0
  · simp only [h, if_true, parseInt, parseNat_natDigits]
    simp
    omega
  · simp only [h, if_false]
    cases hd : natDigits i.toNat with
    | nil => exact absurd hd (natDigits_ne_nil _)
    | cons b r =>
      have hb : b ≠ MINUS := fun e => by
        have := natDigits_isDigit i.toNat b (by rw [hd]; simp)
        rw [e] at this; revert this; decide
      simp only [parseInt, hb, if_false]
      rw [← hd, parseNat_natDigits]
      simp
      omega

/-- bytes of a printed integer: digits or the minus sign -/
theorem intBytes_chars (i : Int) : ∀ b ∈ intBytes i, IsDigit b ∨ b = MINUS := by
  intro b hb
  unfold intBytes at hb
  by_cases h : i < 0
  · simp only [h, if_true, List.mem_cons] at hb
    rcases hb with hb | hb
    · exact Or.inr hb
    · exact Or.inl (natDigits_isDigit _ b hb)
  · simp only [h, if_false] at hb
    exact Or.inl (natDigits_isDigit _ b hb)

theorem not_mem_of_chars {l : Bytes} {c : UInt8} (hl : ∀ b ∈ l, IsDigit b ∨ b = MINUS)
    (h1 : ¬ IsDigit c) (h2 : c ≠ MINUS) : c ∉ l := by
  intro hc
  rcases hl c hc with h | h
  · exact h1 h
  · exact h2 h

theorem tab_notin_intBytes (i : Int) : TAB ∉ intBytes i :=
  not_mem_of_chars (intBytes_chars i) (by decide) (by decide)
theorem lf_notin_intBytes (i : Int) : LF ∉ intBytes i :=
  not_mem_of_chars (intBytes_chars i) (by decide) (by decide)
theorem hash_notin_intBytes (i : Int) : HASH ∉ intBytes i :=
  not_mem_of_chars (intBytes_chars i) (by decide) (by decide)
theorem dot_notin_intBytes (i : Int) : DOT ∉ intBytes i :=
  not_mem_of_chars (intBytes_chars i) (by decide) (by decide)

theorem notin_of_digits {l : Bytes} {c : UInt8} (hl : ∀ b ∈ l, IsDigit b) (h1 : ¬ IsDigit c) : c ∉ l :=
  fun hc => h1 (hl c hc)

/-! ## splitting -/

theorem splitOn_ne_nil (sep : UInt8) (l : Bytes) : splitOn sep l ≠ [] := by
  cases l with
  | nil => simp [splitOn]
  | cons b r =>
    simp only [splitOn]
    split
    · simp
    · split <;> simp

theorem splitOn_nosep {sep : UInt8} {a : Bytes} (h : sep ∉ a) : splitOn sep a = [a] := by
  induction a with
  | nil => rfl
  | cons b r ih =>
    have hb : b ≠ sep := fun e => h (by simp [e])
    have hr : sep ∉ r := fun e => h (by simp [e])
    simp [splitOn, hb, ih hr]

theorem splitOn_append_sep {sep : UInt8} {a : Bytes} (r : Bytes) (h : sep ∉ a) :
    splitOn sep (a ++ sep :: r) = a :: splitOn sep r := by
  induction a with
  | nil => simp [splitOn]
  | cons b t ih =>
    have hb : b ≠ sep := fun e => h (by simp [e])
    have ht : sep ∉ t := fun e => h (by simp [e])
    simp [splitOn, hb, ih ht]

/-- a sep-free head followed by sep-prefixed sep-free tokens splits into exactly those pieces -/
theorem splitOn_tokens {sep : UInt8} (a : Bytes) (toks : List Bytes) (ha : sep ∉ a)
    (ht : ∀ t ∈ toks, sep ∉ t) :
    splitOn sep (a ++ toks.flatMap (fun t => sep :: t)) = a :: toks := by
  induction toks generalizing a with
  | nil => simp [splitOn_nosep ha]
  | cons t ts ih =>
    simp only [List.flatMap_cons, List.cons_append]
    rw [splitOn_append_sep _ ha]
    rw [ih t (ht t (by simp)) (fun x hx => ht x (by simp [hx]))]

/-- sep-free pieces each followed by sep split into the pieces plus a final empty piece -/
theorem splitOn_terminated {sep : UInt8} (toks : List Bytes) (ht : ∀ t ∈ toks, sep ∉ t) :
    splitOn sep (toks.flatMap (fun t => t ++ [sep])) = toks ++ [[]] := by
  induction toks with
  | nil => simp [splitOn]
  | cons t ts ih =>
    simp only [List.flatMap_cons, List.append_assoc, List.cons_append]
    rw [splitOn_append_sep _ (ht t (by simp))]
    simp only [List.nil_append]
    rw [ih (fun x hx => ht x (by simp [hx]))]

theorem splitLast_nosep {sep : UInt8} {y : Bytes} (h : sep ∉ y) : splitLast sep y = none := by
  induction y with
  | nil => rfl
  | cons b r ih =>
    have hb : b ≠ sep := fun e => h (by simp [e])
    have hr : sep ∉ r := fun e => h (by simp [e])
    simp [splitLast, ih hr, hb]

theorem splitLast_append {sep : UInt8} (x : Bytes) {y : Bytes} (h : sep ∉ y) :
    splitLast sep (x ++ sep :: y) = some (x, y) := by
  induction x with
  | nil => simp [splitLast, splitLast_nosep h]
  | cons b t ih => simp [splitLast, ih]

end Pandora.Proofs.C06
