/-
C13 — lemmas about the helper-function models: every slice / index / remainder / Intn in the
repaired functions is shown to be within its bounds.
-/
import Pandora.Model.C13Funcs
import Pandora.Proofs.C13Base

namespace Pandora.Proofs.C13
open Pandora.Model.C13

/-! ### `str.ParseStringFunc` -/

theorem parseStringFunc_returns (shoot : Bytes) : (parseStringFunc shoot).returns = true := by
  unfold parseStringFunc
  simp only
  by_cases h1 : indexByte shoot 40 = -1
  · simp only [h1, if_true]
    split <;> simp [Res.returns, Res.isPanic, Res.isFatal]
  · simp only [h1, if_false]
    -- shoot[:openIdx] and shoot[openIdx+1:]: 0 ≤ openIdx < len(shoot)
    rcases indexByte_bounds shoot 40 with hneg | ⟨h0, hlt⟩
    · exact absurd hneg h1
    · rw [sliceC_ok shoot 0 (indexByte shoot 40) (by omega)]
      rw [sliceC_ok shoot (indexByte shoot 40 + 1) shoot.length (by omega)]
      simp only [Res.bind_ok]
      split
      · exact ret_err _
      · rename_i hc
        -- arg[:closeIdx]: closeIdx = len(arg)-1 and closeIdx ≠ -1, so 0 ≤ closeIdx ≤ len(arg)
        have hc' := not_or.mp hc
        have e1 := Decidable.of_not_not hc'.1
        rcases indexByte_bounds (trimSpace ((shoot.take (Int.toNat (shoot.length : Int))).drop (indexByte shoot 40 + 1).toNat)) 41 with hneg | ⟨c0, clt⟩
        · exact absurd hneg hc'.2
        · rw [sliceC_ok _ 0 _ (by omega)]
          simp only [Res.bind_ok]
          exact ret_ok _

/-! ### `ParseShootName` -/

theorem argInt_returns (args : List Bytes) (i : Nat) (d : Int) : (argInt args i d).returns = true := by
  unfold argInt
  split
  · rename_i hl
    -- args[i] is guarded by len(args) > i
    obtain ⟨a, ha⟩ := indexC_ok args (i : Int) (by omega) (by omega)
    rw [ha]; simp only
    split
    · exact ret_ok _
    · split
      · exact ret_err _
      · exact ret_ok _
  · exact ret_ok _

theorem parseShootName_returns (shoot : Bytes) : (parseShootName shoot).returns = true := by
  unfold parseShootName
  rcases ret_cases (parseStringFunc_returns shoot) with ⟨a, ha⟩ | ⟨c, hc⟩
  · obtain ⟨name, args⟩ := a
    rw [ha]; simp only
    rcases ret_cases (argInt_returns (args.getD []) 0 1) with ⟨a0, h0⟩ | ⟨c0, h0⟩
    · rw [h0]; simp only
      rcases ret_cases (argInt_returns (args.getD []) 1 0) with ⟨a1, h1⟩ | ⟨c1, h1⟩
      · rw [h1]; exact ret_ok _
      · rw [h1]; exact ret_err _
    · rw [h0]; exact ret_err _
  · rw [hc]; exact ret_err _

/-! ### scenario expansion -/

/-- what one item of the request list does to the steps built so far (head = last); `expandGo` folds it over the list -/
def expandStep (fixed : Bool) (known : Bytes → Bool) (sh : Bytes) (acc : List ScnStep) : Res (List ScnStep) :=
  (parseShootName sh).bind fun s =>
    if s.name = sleepName then addSleep fixed acc s.cnt
    else if !known s.name then .err "unknown-request"
    else if fixed && decide (s.cnt > maxScenarioRequests - (acc.length : Int)) then .err "too-many-requests"
    else .ok (List.replicate s.cnt.toNat (s.name, if s.sleep > 0 then s.sleep else 0) ++ acc)

theorem expandGo_cons (fixed : Bool) (known : Bytes → Bool) (sh : Bytes) (rest : List Bytes) (acc : List ScnStep) :
    expandGo fixed known (sh :: rest) acc = (expandStep fixed known sh acc).bind (expandGo fixed known rest) := by
  rw [expandGo, expandStep]
  cases parseShootName sh with
  | ok s =>
    simp only [Res.bind_ok]
    by_cases h1 : s.name = sleepName
    · simp only [if_pos h1]; cases addSleep fixed acc s.cnt <;> rfl
    · by_cases h2 : (!known s.name) = true
      · simp only [if_neg h1, if_pos h2]; rfl
      · by_cases h3 : (fixed && decide (s.cnt > maxScenarioRequests - (acc.length : Int))) = true
        · simp only [if_neg h1, if_neg h2, if_pos h3]; rfl
        · simp only [if_neg h1, if_neg h2, if_neg h3]; rfl
  | err c => rfl
  | panic w => rfl
  | fatal w => rfl

theorem addSleep_fixed_returns (acc : List ScnStep) (cnt : Int) : (addSleep true acc cnt).returns = true := by
  cases acc <;> rfl

theorem expandStep_fixed_returns (known : Bytes → Bool) (sh : Bytes) (acc : List ScnStep) :
    (expandStep true known sh acc).returns = true := by
  refine Res.bind_returns (parseShootName_returns sh) fun s => ?_
  by_cases h1 : s.name = sleepName
  · rw [if_pos h1]; exact addSleep_fixed_returns acc s.cnt
  · rw [if_neg h1]
    cases !known s.name
    · cases true && decide (s.cnt > maxScenarioRequests - (acc.length : Int)) <;> rfl
    · rfl

theorem expandGo_fixed_returns (known : Bytes → Bool) (reqs : List Bytes) (acc : List ScnStep) :
    (expandGo true known reqs acc).returns = true := by
  induction reqs generalizing acc with
  | nil => rfl
  | cons sh rest ih => rw [expandGo_cons]; exact Res.bind_returns (expandStep_fixed_returns known sh acc) ih

/-- a request string that is rejected whatever has been built so far makes the whole list rejected -/
theorem expandGo_rejects (fixed : Bool) (known : Bytes → Bool) (pre : List Bytes) (sh : Bytes) (rest : List Bytes)
    (hbad : ∀ acc, (expandGo fixed known (sh :: rest) acc).isOk = false) (acc : List ScnStep) :
    (expandGo fixed known (pre ++ sh :: rest) acc).isOk = false := by
  induction pre generalizing acc with
  | nil => exact hbad acc
  | cons p ps ih =>
    rw [List.cons_append, expandGo_cons]
    cases expandStep fixed known p acc with
    | ok acc' => exact ih acc'
    | err c => rfl
    | panic w => rfl
    | fatal w => rfl

theorem expandGo_append (fixed : Bool) (known : Bytes → Bool) (pre rest : List Bytes) (acc : List ScnStep) (out : List ScnStep)
    (h : expandGo fixed known pre acc = .ok out) :
    expandGo fixed known (pre ++ rest) acc = expandGo fixed known rest out.reverse := by
  induction pre generalizing acc with
  | nil =>
    cases h
    rw [List.nil_append, List.reverse_reverse]
  | cons p ps ih =>
    rw [expandGo_cons] at h
    obtain ⟨acc', h1, h2⟩ := Res.bind_eq_ok h
    rw [List.cons_append, expandGo_cons, h1]
    exact ih acc' h2

theorem addSleep_length {fixed : Bool} {acc acc' : List ScnStep} {cnt : Int} (h : addSleep fixed acc cnt = .ok acc') :
    acc'.length = acc.length := by
  cases acc with
  | nil => cases fixed <;> cases h
  | cons hd tl => cases h; rfl

theorem expandStep_bounded {known : Bytes → Bool} {sh : Bytes} {acc acc' : List ScnStep}
    (hacc : (acc.length : Int) ≤ maxScenarioRequests) (h : expandStep true known sh acc = .ok acc') :
    (acc'.length : Int) ≤ maxScenarioRequests := by
  obtain ⟨s, _, h⟩ := Res.bind_eq_ok h
  by_cases h1 : s.name = sleepName
  · rw [if_pos h1] at h; rw [addSleep_length h]; exact hacc
  · rw [if_neg h1] at h
    cases hk : !known s.name
    · by_cases hm : s.cnt > maxScenarioRequests - (acc.length : Int)
      · simp only [hk, hm, Bool.false_eq_true, if_false, decide_true, Bool.and_self, if_true] at h; cases h
      · simp only [hk, hm, Bool.false_eq_true, if_false, decide_false, Bool.and_false] at h
        cases h
        rw [List.length_append, List.length_replicate]
        omega
    · rw [hk] at h; cases h

theorem expandGo_bounded (known : Bytes → Bool) (reqs : List Bytes) (acc out : List ScnStep)
    (hacc : (acc.length : Int) ≤ maxScenarioRequests) (h : expandGo true known reqs acc = .ok out) :
    (out.length : Int) ≤ maxScenarioRequests := by
  induction reqs generalizing acc with
  | nil => cases h; rw [List.length_reverse]; exact hacc
  | cons sh rest ih =>
    rw [expandGo_cons] at h
    obtain ⟨acc', h1, h2⟩ := Res.bind_eq_ok h
    exact ih acc' (expandStep_bounded hacc h1) h2

/-! ### `calcIndex` -/

/-- the repaired `calcIndex` refuses every source without elements before it computes anything from the length -/
theorem calcIndex_fixed_nonpos (indexStr : Bytes) (length next : Int) (rnd : Nat) (h : length ≤ 0) :
    ∃ c, calcIndex true indexStr length next rnd = .err c := by
  unfold calcIndex
  simp only [Bool.true_and, decide_eq_true_eq]
  by_cases h1 : ((atoi indexStr).isNone && !isKw indexStr) = true
  · rw [if_pos h1]; exact ⟨_, rfl⟩
  · rw [if_neg h1, if_pos h]; exact ⟨_, rfl⟩

/-- repaired `calcIndex`: never panics, and an index it returns is inside the slice -/
theorem calcIndex_fixed (indexStr : Bytes) (length next : Int) (rnd : Nat) (hnext : 0 ≤ next) :
    (∃ c, calcIndex true indexStr length next rnd = .err c) ∨
    (∃ i, calcIndex true indexStr length next rnd = .ok i ∧ 0 ≤ i ∧ i < length) := by
  by_cases hlen : length ≤ 0
  · exact .inl (calcIndex_fixed_nonpos indexStr length next rnd hlen)
  have hpos : 0 < length := by omega
  have hne : length ≠ 0 := by omega
  unfold calcIndex
  simp only [Bool.true_and, decide_eq_true_eq]
  by_cases h1 : ((atoi indexStr).isNone && !isKw indexStr) = true
  · rw [if_pos h1]; exact .inl ⟨_, rfl⟩
  rw [if_neg h1, if_neg hlen]
  right
  -- every remaining path divides by, or draws below, `length > 0`
  by_cases hkw : (!isKw indexStr) = true
  · rw [if_pos hkw]
    by_cases hin : 0 ≤ (atoi indexStr).getD 0 ∧ (atoi indexStr).getD 0 < length
    · rw [if_pos hin]; exact ⟨_, rfl, hin⟩
    · rw [if_neg hin, tmodC_ok _ _ hne]
      have h1 := Int.tmod_lt_of_pos ((atoi indexStr).getD 0) hpos
      have h2 := Int.lt_tmod_of_pos ((atoi indexStr).getD 0) hpos
      refine ⟨_, rfl, ?_⟩
      split <;> omega
  rw [if_neg hkw]
  by_cases hl : indexStr = kwLast
  · rw [if_pos hl]; exact ⟨_, rfl, by omega, by omega⟩
  rw [if_neg hl]
  by_cases hr : indexStr = kwRand
  · rw [if_pos hr, intnC_ok _ _ hpos]
    exact ⟨_, rfl, Int.emod_nonneg _ hne, Int.emod_lt_of_pos _ hpos⟩
  rw [if_neg hr]
  by_cases hge : next ≥ length
  · rw [if_pos hge, tmodC_ok _ _ hne]
    exact ⟨_, rfl, Int.tmod_nonneg _ hnext, Int.tmod_lt_of_pos _ hpos⟩
  · rw [if_neg hge]; exact ⟨_, rfl, hnext, by omega⟩

theorem iterNext_nonneg (st : IterState) (seg : Bytes) : 0 ≤ (iterNext st seg).1 := by
  unfold iterNext
  split <;> simp <;> omega

theorem extractFromSlice_fixed_returns (cur : Val) (indexStr curSeg : Bytes) (st : IterState) (rnd : Nat) :
    (extractFromSlice true cur indexStr curSeg st rnd).1.returns = true := by
  unfold extractFromSlice
  split
  · rename_i elems
    simp only
    generalize hit : (if (usesNext indexStr && !(true && elems.length == 0)) = true then iterNext st curSeg else (0, st)) = it
    have hnn : 0 ≤ it.1 := by
      rw [← hit]
      split
      · exact iterNext_nonneg st curSeg
      · simp
    rcases calcIndex_fixed indexStr elems.length it.1 rnd hnn with ⟨c, hc⟩ | ⟨i, hi, h0, h1⟩
    · rw [hc]; simp [Res.castFail, Res.returns, Res.isPanic, Res.isFatal]
    · rw [hi]; simp only
      -- v[index]: 0 ≤ index < len(v)
      obtain ⟨a, ha⟩ := indexC_ok elems i h0 h1
      rw [ha]; exact ret_ok _
  · exact ret_err _

/-! ### `GetMapValue` -/

theorem hasSuffix_last (s : Bytes) (c : UInt8) (h : hasSuffix s [c] = true) :
    ∃ hpos : 0 < s.length, s[s.length - 1] = c := by
  unfold hasSuffix at h
  have := List.isSuffixOf_iff_suffix.mp h
  obtain ⟨t, ht⟩ := this
  subst ht
  refine ⟨by simp, ?_⟩
  simp

theorem getGo_fixed_returns (rnd : Nat) (segs : List Bytes) (s : MpState) :
    (getGo true rnd segs s).1.returns = true := by
  induction segs generalizing s with
  | nil => simp [getGo, Res.returns, Res.isPanic, Res.isFatal]
  | cons segment rest ih =>
    unfold getGo
    simp only
    split
    · rename_i hcond
      simp only [Bool.and_eq_true, decide_eq_true_eq] at hcond
      obtain ⟨hopen, hsuf⟩ := hcond
      -- segment[openBraceIdx+1 : len(segment)-1] and segment[:openBraceIdx]:
      -- segment ends with ']' and its first '[' is at openBraceIdx, so openBraceIdx ≤ len(segment)-2
      obtain ⟨i, hi, hil, hget⟩ := indexByte_get (trimSpace segment) 91 hopen
      obtain ⟨hpos, hlast⟩ := hasSuffix_last (trimSpace segment) 93 hsuf
      have hne : i ≠ (trimSpace segment).length - 1 := by
        intro h
        have : (trimSpace segment)[i] = (trimSpace segment)[(trimSpace segment).length - 1] := by
          congr
        rw [hget, hlast] at this
        exact absurd this (by decide)
      rw [sliceC_ok _ (indexByte (trimSpace segment) 91 + 1) _ (by omega)]
      simp only
      rw [sliceC_ok _ 0 _ (by omega)]
      simp only
      split
      · exact ret_err _
      · rename_i pathVal hl
        have hx := fun idx seg => extractFromSlice_fixed_returns pathVal idx seg s.st rnd
        split
        · exact ih _
        · split
          · rename_i heq _
            have := congrArg (fun p => p.1.returns) heq
            simp only at this
            rw [hx] at this
            simpa using this.symm
          · exact ret_err _
        · rename_i r st' _ _ heq
          have := congrArg (fun p => p.1.returns) heq
          simp only at this
          rw [hx] at this
          simpa using this.symm
    · split
      · exact ret_err _
      · exact ih _
      · split
        · exact ret_ok _
        · exact ret_err _

/-! ### property placeholder -/

theorem propScan_returns (property : Bytes) (lines : List Bytes) : (propScan property lines).returns = true := by
  induction lines with
  | nil => exact ret_err _
  | cons l ls ih =>
    unfold propScan
    split
    · split
      · exact ret_ok _
      · exact ih
    · exact ih

theorem propertyResolve_fixed_returns (fileOf : Bytes → Option (List Bytes)) (inp : Bytes) :
    (propertyResolve true fileOf inp).returns = true := by
  unfold propertyResolve
  cases hc : cut inp 35 with
  | none => simp [ret_err]
  | some p =>
    obtain ⟨a, b⟩ := p
    -- split[0], split[1]: the list has two elements
    simp [indexC_zero, indexC_one]
    split
    · exact ret_err _
    · exact propScan_returns _ _

theorem resolveGo_fixed_returns (env : Bytes → Option Bytes) (fileOf : Bytes → Option (List Bytes))
    (tags : List Tag) (res : Bytes) : (resolveGo true env fileOf tags res).returns = true := by
  induction tags generalizing res with
  | nil => exact ret_ok _
  | cons t ts ih =>
    unfold resolveGo
    simp only
    split
    · split
      · exact ret_err _
      · exact ih _
    · split
      · rcases ret_cases (propertyResolve_fixed_returns fileOf t.varname) with ⟨v, hv⟩ | ⟨c, hc⟩
        · rw [hv]; simp only; exact ih _
        · rw [hc]; exact ret_err _
      · exact ih _

/-! ### int64 wrap-around (`randInt`, the total of the scenario weights) -/

theorem wrap64_id (x : Int) (h0 : minInt64 ≤ x) (h1 : x ≤ maxInt64) : wrap64 x = x := by
  unfold wrap64 minInt64 maxInt64 at *
  omega

theorem wrap64_id_nonneg (x : Int) (h0 : 0 ≤ x) (h1 : x < 9223372036854775808) : wrap64 x = x := by
  unfold wrap64; omega

/-! ### `readConfig` -/

/-- the repaired massage gets through every list: every mapping carries `discard_overflow` afterwards, nothing else changed shape -/
theorem massageItems_fixed (items : List PoolItem) :
    ∃ l, massageItems true items = .ok l ∧ l.length = items.length ∧ ∀ i ∈ l, i = .mapping true ∨ i = .other := by
  induction items with
  | nil => exact ⟨[], rfl, rfl, fun _ h => nomatch h⟩
  | cons i rest ih =>
    obtain ⟨l, hl, hlen, hall⟩ := ih
    cases i with
    | mapping d =>
      exact ⟨.mapping true :: l, by simp [massageItems, hl], by simp [hlen],
        fun x hx => (List.mem_cons.mp hx).elim (fun e => .inl e) (hall x)⟩
    | other =>
      exact ⟨.other :: l, by simp [massageItems, hl], by simp [hlen],
        fun x hx => (List.mem_cons.mp hx).elim (fun e => .inr e) (hall x)⟩

/-! ### scenario weights -/

theorem gcdGo_pos (fuel : Nat) (a b : Int) (ha : 0 ≤ a) (hb : 0 ≤ b) (hab : 0 < a ∨ 0 < b) : 0 < gcdGo fuel a b := by
  induction fuel generalizing a b with
  | zero => unfold gcdGo; split <;> omega
  | succ f ih =>
    unfold gcdGo
    split
    · rename_i h
      split
      · exact ih _ _ (Int.tmod_nonneg _ ha) hb (.inr h.2)
      · exact ih _ _ ha (Int.tmod_nonneg _ hb) (.inl h.1)
    · split <;> omega

theorem gcd64_pos (a b : Int) (ha : 0 < a) (hb : 0 < b) : 0 < gcd64 a b :=
  gcdGo_pos _ a b (by omega) (by omega) (.inl ha)

/-- the loop of `math.GCD` ends: with more fuel than `a + b` one more unit of fuel changes nothing -/
theorem gcdGo_fuel (fuel : Nat) (a b : Int) (h : a.toNat + b.toNat < fuel) : gcdGo (fuel + 1) a b = gcdGo fuel a b := by
  induction fuel generalizing a b with
  | zero => omega
  | succ f ih =>
    rw [gcdGo]
    conv => rhs; rw [gcdGo]
    split
    · rename_i hp
      split
      · rename_i hle
        have h1 : 0 ≤ Int.tmod a b := Int.tmod_nonneg _ (by omega)
        have h2 : Int.tmod a b < b := Int.tmod_lt_of_pos _ hp.2
        exact ih _ _ (by omega)
      · rename_i hle
        have h1 : 0 ≤ Int.tmod b a := Int.tmod_nonneg _ (by omega)
        have h2 : Int.tmod b a < a := Int.tmod_lt_of_pos _ hp.1
        exact ih _ _ (by omega)
    · rfl

theorem gcdmRev_pos (l : List Int) (hl : 2 ≤ l.length) (hp : ∀ w ∈ l, 0 < w) : 0 < gcdmRev l := by
  match l, hl, hp with
  | b :: a :: rest, _, hp =>
    have hb : 0 < b := hp b (by simp)
    have ha : 0 < a := hp a (by simp)
    unfold gcdmRev
    split
    · exact gcd64_pos a b ha hb
    · rename_i hne
      have hlen : 2 ≤ (a :: rest).length := by
        cases rest with
        | nil => simp at hne
        | cons _ _ => simp
      have ih := gcdmRev_pos (a :: rest) hlen (fun w hw => hp w (by simp at hw ⊢; right; exact hw))
      exact gcd64_pos _ _ ih (gcd64_pos a b ha hb)

theorem normWeight_pos (w : Int) (h : ¬ w < 0) : 0 < normWeight w := by
  unfold normWeight; split <;> omega

theorem mapRes_tdiv (div : Int) (hd : 0 < div) (ws : List Int) (hw : ∀ w ∈ ws, 0 ≤ w) :
    ∃ cs, mapRes (fun w => tdivC w div) ws = .ok cs ∧ cs.length = ws.length ∧ (∀ c ∈ cs, 0 ≤ c) ∧ sumInt cs ≤ sumInt ws := by
  induction ws with
  | nil => exact ⟨[], by simp [mapRes], rfl, by simp, by simp [sumInt]⟩
  | cons w rest ih =>
    obtain ⟨cs, h1, h2, h3, h4⟩ := ih (fun x hx => hw x (by simp [hx]))
    have h0 : 0 ≤ w := hw w (by simp)
    have hne : div ≠ 0 := by omega
    have e : tdivC w div = .ok (Int.tdiv w div) := by simp [tdivC, hne]
    refine ⟨Int.tdiv w div :: cs, by rw [mapRes, e]; simp only; rw [h1], by simp [h2], ?_, ?_⟩
    · intro c hc
      simp at hc
      rcases hc with rfl | hc
      · exact Int.tdiv_nonneg h0 (by omega)
      · exact h3 c hc
    · have : Int.tdiv w div ≤ w := Int.tdiv_le_self _ h0
      simp only [sumInt, List.foldr_cons] at h4 ⊢
      omega

/-- `SpreadNames` on weights none of which is negative: no division by zero, every count is ≥ 0,
and there are no more copies than the weights announce -/
theorem spreadCounts_nonneg (ws : List Int) (h : ∀ w ∈ ws, ¬ w < 0) :
    ∃ cs, spreadCounts ws = .ok cs ∧ cs.length = ws.length ∧ (∀ c ∈ cs, 0 ≤ c) ∧ sumInt cs ≤ sumInt (ws.map normWeight) := by
  match ws, h with
  | [], _ => exact ⟨[], rfl, rfl, by simp, by simp [sumInt]⟩
  | [w], h =>
    refine ⟨[1], rfl, rfl, by simp, ?_⟩
    have := normWeight_pos w (h w (by simp))
    simp [sumInt]; omega
  | a :: b :: rest, h =>
    have hpos : ∀ w ∈ (a :: b :: rest).map normWeight, 0 < w := by
      intro w hw
      obtain ⟨x, hx, rfl⟩ := List.mem_map.mp hw
      exact normWeight_pos x (h x hx)
    have hd : 0 < gcdmRev ((a :: b :: rest).map normWeight).reverse :=
      gcdmRev_pos _ (by simp) (fun w hw => hpos w (List.mem_reverse.mp hw))
    obtain ⟨cs, h1, h2, h3, h4⟩ := mapRes_tdiv _ hd ((a :: b :: rest).map normWeight) (fun w hw => by have := hpos w hw; omega)
    exact ⟨cs, by simp only [spreadCounts]; exact h1, by simpa using h2, h3, h4⟩

theorem makeCapC_ok (n : Int) (h0 : 0 ≤ n) (h1 : n * 8 ≤ memCap) : makeCapC n = .ok () := by
  unfold makeCapC maxAlloc
  unfold memCap at h1
  have a : ¬ n < 0 := by omega
  have b : ¬ n * 8 > 281474976710656 := by omega
  have c : ¬ n * 8 > memCap := by unfold memCap; omega
  simp [a, b, c]

theorem sumInt_nonneg (l : List Int) (h : ∀ c ∈ l, 0 ≤ c) : 0 ≤ sumInt l := by
  induction l with
  | nil => simp [sumInt]
  | cons a as ih =>
    have := ih (fun c hc => h c (by simp [hc]))
    have := h a (by simp)
    simp only [sumInt, List.foldr_cons] at *
    omega

theorem spread_fixed_neg (ws : List Int) (h : ∃ w ∈ ws, w < 0) : spread true ws = .err "weight" := by
  unfold spread
  have : ws.any (fun w => decide (w < 0)) = true := by
    obtain ⟨w, hw, hn⟩ := h
    exact List.any_eq_true.mpr ⟨w, hw, by simpa using hn⟩
  simp [this]

theorem sumInt_le_mul (cs : List Int) (b : Int) (h : ∀ c ∈ cs, c ≤ b) : sumInt cs ≤ cs.length * b := by
  induction cs with
  | nil => simp [sumInt]
  | cons a as ih =>
    have h1 := ih (fun c hc => h c (by simp [hc]))
    have h2 := h a (by simp)
    simp only [sumInt, List.foldr_cons, List.length_cons] at h1 ⊢
    have : ((as.length + 1 : Nat) : Int) * b = (as.length : Int) * b + b := by
      rw [Int.natCast_add, Int.add_mul]; simp
    omega

/-- the repaired `decodeAmmo` (4cfc662), EVERY list of weights: an error, or the counts - each between 0 and `MaxSpreadSize`, and
so is the (wrapped) total the slice is allocated from -/
theorem spread_fixed (ws : List Int) :
    (∃ c, spread true ws = .err c) ∨
    ∃ cs, spread true ws = .ok cs ∧ cs.length = ws.length ∧ (∀ c ∈ cs, 0 ≤ c ∧ c ≤ maxSpreadSize) ∧
      0 ≤ wrap64 (sumInt cs) ∧ wrap64 (sumInt cs) ≤ maxSpreadSize := by
  by_cases hneg : ∃ w ∈ ws, w < 0
  · left; exact ⟨_, spread_fixed_neg ws hneg⟩
  · have hall : ∀ w ∈ ws, ¬ w < 0 := fun w hw hn => hneg ⟨w, hw, hn⟩
    obtain ⟨cs, h1, h2, h3, h4⟩ := spreadCounts_nonneg ws hall
    have hany : ws.any (fun w => decide (w < 0)) = false := by
      apply Bool.eq_false_iff.mpr
      intro hany
      obtain ⟨w, hw, hn⟩ := List.any_eq_true.mp hany
      exact hall w hw (by simpa using hn)
    unfold spread
    simp only [hany, Bool.and_false, Bool.false_eq_true, if_false, h1, if_true, Bool.true_and]
    by_cases hc : checkSpread cs (wrap64 (sumInt cs)) = true
    · left; exact ⟨"spread", by simp [hc]⟩
    · right
      have hc' : checkSpread cs (wrap64 (sumInt cs)) = false := by simpa using hc
      unfold checkSpread at hc'
      rw [Bool.or_eq_false_iff] at hc'
      obtain ⟨ht, hcs⟩ := hc'
      have ht' : ¬ (wrap64 (sumInt cs) < 0 ∨ wrap64 (sumInt cs) > maxSpreadSize) := by simpa using ht
      have hcs' : ∀ c ∈ cs, 0 ≤ c ∧ c ≤ maxSpreadSize := by
        intro c hcm
        have := List.any_eq_false.mp hcs c hcm
        have : ¬ (c < 0 ∨ c > maxSpreadSize) := by simpa using this
        omega
      refine ⟨cs, ?_, h2, hcs', by omega, by omega⟩
      simp only [checkSpread, ht, hcs, Bool.or_false, Bool.false_eq_true, if_false]
      rw [makeCapC_ok _ (by omega) (by unfold memCap; unfold maxSpreadSize at ht'; omega)]

/-- with fewer than 2^39 scenarios the total does not wrap: the copies allocated and appended are at most `MaxSpreadSize` -/
theorem spread_fixed_total (ws cs : List Int) (h : spread true ws = .ok cs) (hlen : ws.length < 549755813888) :
    sumInt cs ≤ maxSpreadSize := by
  rcases spread_fixed ws with ⟨c, hc⟩ | ⟨cs', h', hl, hb, h0, h1⟩
  · rw [hc] at h; cases h
  · rw [h'] at h; cases h
    have hs0 : 0 ≤ sumInt cs := sumInt_nonneg cs (fun c hc => (hb c hc).1)
    have hs1 := sumInt_le_mul cs maxSpreadSize (fun c hc => (hb c hc).2)
    have : wrap64 (sumInt cs) = sumInt cs := by
      apply wrap64_id_nonneg _ hs0
      unfold maxSpreadSize at hs1
      have : (cs.length : Int) < 549755813888 := by omega
      have hmul : (cs.length : Int) * 16777216 ≤ 549755813887 * 16777216 :=
        Int.mul_le_mul_of_nonneg_right (by omega) (by omega)
      omega
    omega

/-! ### randString -/

/-- the repaired `randString` (28b7d1e), EVERY announced length -/
theorem randStringLen_fixed (n : Int) :
    (n < 0 ∧ randStringLen true n = .err "length") ∨ (n = 0 ∧ randStringLen true n = .ok 1) ∨
    (0 < n ∧ n ≤ maxRandStringLength ∧ randStringLen true n = .ok n.toNat) ∨
    (maxRandStringLength < n ∧ randStringLen true n = .err "length") := by
  unfold randStringLen makeRunesC maxAlloc memCap maxRandStringLength
  by_cases h0 : n = 0
  · subst h0; right; left; simp
  · by_cases hn : n < 0
    · left; simp [h0, hn]
    · by_cases hb : n > 16777216
      · right; right; right; simp [h0, hn, hb]
      · right; right; left
        have a : ¬ n * 4 > 281474976710656 := by omega
        have b : ¬ n * 4 > 4294967296 := by omega
        refine ⟨by omega, by omega, ?_⟩
        simp [h0, hn, hb, a, b]

theorem randStringLen_fixed_no_panic (n : Int) : (randStringLen true n).isPanic = false := by
  rcases randStringLen_fixed n with ⟨_, h⟩ | ⟨_, h⟩ | ⟨_, _, h⟩ | ⟨_, h⟩ <;> rw [h] <;> simp [Res.isPanic]

end Pandora.Proofs.C13
