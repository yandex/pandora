/-
C13 — helper lemmas about the jsonline decoder model (Model/C13Jsonline.lean): the object stream of one pass and
`scanAmmos` (array mode); the loop of `runFullScan` over it is in Proofs/C13Cfg.lean.
-/
import Pandora.Model.C13Jsonline
import Pandora.Proofs.C13Ammo
import Pandora.Proofs.C13Base
import Pandora.Proofs.C13Multi

namespace Pandora.Proofs.C13
open Pandora.Model.C13

/-! ### the object stream -/

theorem jlItems_end_clean (items : List JItem) : End.clean (jlItems items).end_ := by
  induction items with
  | nil => simp [jlItems, End.clean]
  | cons i rest ih =>
    cases i with
    | good t => simpa [jlItems, Run.cons] using ih
    | bad => simp [jlItems, End.clean]

theorem jlItems_append (l1 l2 : List JItem) (h : (jlItems l1).end_ = .ok) :
    jlItems (l1 ++ l2) = (jlItems l2).prepend (jlItems l1).entries := by
  induction l1 with
  | nil => simp [jlItems, Run.prepend]
  | cons i rest ih =>
    cases i with
    | good t =>
      have h' : (jlItems rest).end_ = .ok := by simpa [jlItems, Run.cons] using h
      simp only [List.cons_append, jlItems]
      rw [ih h']
      simp [Run.cons, Run.prepend]
    | bad => simp [jlItems] at h

/-- objects the loop got through, then a value that is refused: the entries of the objects, then the error -/
theorem jlItems_reject (pre : List JItem) (post : List JItem) (h : (jlItems pre).end_ = .ok) :
    jlItems (pre ++ .bad :: post) = ⟨(jlItems pre).entries, .err "other", []⟩ := by
  rw [jlItems_append pre _ h]
  simp [jlItems, Run.prepend]

/-- a stream of well-formed objects only -/
theorem jlItems_goods (tags : List Bytes) :
    jlItems (tags.map .good) = ⟨tags.map fun t => ⟨t, [], []⟩, .ok, []⟩ := by
  induction tags with
  | nil => rfl
  | cons t rest ih => simp [jlItems, ih, Run.cons]

/-! ### `scanAmmos` -/

theorem natCast_tmod (a b : Nat) : Int.tmod (a : Int) (b : Int) = ((a % b : Nat) : Int) := by
  rw [Int.tmod_eq_emod_of_nonneg (by omega)]
  exact (Int.natCast_emod a b).symm

/-- `int(d.ammoNum) % length` is not a division by zero and `d.ammos[i]` is inside the slice: whatever the array, the
pass limit and the counters -/
theorem scanAmmos_no_panic (elems : List Bytes) (passes : Nat) (s : JlArr) :
    (scanAmmos elems passes s).1 ≠ .panic := by
  unfold scanAmmos
  simp only
  split
  · simp
  · rename_i hlen
    split
    · simp
    · have hpos : (0 : Int) < (elems.length : Int) := by omega
      rw [tmodC_ok _ _ hlen]
      simp only
      have h0 : 0 ≤ Int.tmod (s.ammoNum : Int) (elems.length : Int) := Int.tmod_nonneg _ (by omega)
      have h1 : Int.tmod (s.ammoNum : Int) (elems.length : Int) < (elems.length : Int) := Int.tmod_lt_of_pos _ hpos
      obtain ⟨a, ha⟩ := indexC_ok elems _ h0 h1
      rw [ha]
      simp

/-- the counters of `scanAmmos` say where in the array the decoder stands: `ammoNum = passNum × length + r`, `r < length` -/
def JlArr.Inv (len : Nat) (s : JlArr) : Prop := ∃ r, r < len ∧ s.ammoNum = s.passNum * len + r

theorem JlArr.init_Inv (len : Nat) (h : 0 < len) : JlArr.Inv len ⟨0, 0⟩ := ⟨0, h, by simp⟩

/-- an ammo is handed out only below the pass limit, and the counters keep describing the position -/
theorem scanAmmos_ammo (elems : List Bytes) (passes : Nat) (s s' : JlArr) (t : Bytes)
    (hinv : JlArr.Inv elems.length s) (h : scanAmmos elems passes s = (.ammo t, s')) :
    JlArr.Inv elems.length s' ∧ s'.ammoNum = s.ammoNum + 1 ∧ (passes = 0 ∨ s.passNum < passes) ∧ t ∈ elems := by
  obtain ⟨r, hr, heq⟩ := hinv
  unfold scanAmmos at h
  simp only at h
  split at h
  · simp at h
  · rename_i hlen
    split at h
    · simp at h
    · rename_i hpass
      rw [tmodC_ok _ _ hlen] at h
      simp only at h
      have hmod : s.ammoNum % elems.length = r := by
        rw [heq, Nat.mul_add_mod_self_right, Nat.mod_eq_of_lt hr]
      rw [natCast_tmod, hmod] at h
      split at h
      · rename_i a ha
        simp only [Prod.mk.injEq, ScanRes.ammo.injEq] at h
        obtain ⟨hat, hs'⟩ := h
        subst hs'
        refine ⟨?_, rfl, ?_, ?_⟩
        · by_cases hlast : (r : Int) = (elems.length : Int) - 1
          · refine ⟨0, by omega, ?_⟩
            simp only [hlast, if_true]
            have : r + 1 = elems.length := by omega
            rw [Nat.succ_mul, heq]
            omega
          · refine ⟨r + 1, by omega, ?_⟩
            simp only [hlast, if_false]
            omega
        · by_cases hp : passes = 0
          · exact .inl hp
          · right
            have : ¬ s.passNum ≥ passes := fun hge => hpass ⟨hp, hge⟩
            omega
        · subst hat
          unfold indexC at ha
          split at ha
          · split at ha
            · rename_i a' hget
              simp only [Res.ok.injEq] at ha
              subst ha
              exact List.mem_of_getElem? hget
            · simp at ha
          · simp at ha
      · simp at h

/-! ### the whole provider -/

theorem jlArrayRun_nil (passes limit : Nat) : jlArrayRun [] passes limit = ⟨[], .err "noammo", []⟩ := by
  unfold jlArrayRun jlArrayLoop
  by_cases hl : limit ≠ 0
  · simp [hl, scanAmmos]
  · simp [hl, scanAmmos]

end Pandora.Proofs.C13
