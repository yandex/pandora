/-
C17 — `ResolveCustomTags` substitutes tag by tag (`renderSeq`: resolve, then `strings.ReplaceAll` on the string built
so far).  When no resolved value contains a `$` this is the substitution of every placeholder at once (`render`,
`piecesValue`); a value that contains the text of a later placeholder of the same string is substituted again.
-/
import Pandora.Proofs.C17Subst

namespace Pandora.Proofs.C17
open Pandora.Model.C17 Pandora.Spec.C17

/-- tag types and names without `$` -/
def PiecesClean (ps : List (Str × Str × Str)) : Prop := ∀ p ∈ ps, NoDollar p.2.1 ∧ NoDollar p.2.2

/-- no resolver returns a text with a `$` for a placeholder of the string -/
def CleanValues (env : Env) (ps : List (Str × Str × Str)) : Prop :=
  ∀ p ∈ ps, ∀ v, resolveTag env (placeholder p.2.1 p.2.2) p.2.1 p.2.2 = some v → NoDollar v

/-! ## chunks: text without `$`, or a placeholder -/

inductive Chunk
  | clean (s : Str)
  | tag (ty name : Str)

def Chunk.text : Chunk → Str
  | .clean s => s
  | .tag ty name => placeholder ty name

def flat : List Chunk → Str
  | [] => []
  | c :: r => c.text ++ flat r

def ChunkOk : Chunk → Prop
  | .clean s => NoDollar s
  | .tag ty name => PlainType ty ∧ PlainName name ∧ NoDollar ty ∧ NoDollar name

def substChunk (ty name v : Str) : Chunk → Chunk
  | .tag ty' name' => if ty' = ty ∧ name' = name then .clean v else .tag ty' name'
  | c => c

/-- two placeholders with plain type and name: one is a prefix of the other followed by anything only if they are the same -/
theorem placeholder_prefix (ty name ty' name' rest : Str) (ht : PlainType ty) (hn : PlainName name)
    (ht' : PlainType ty') (hn' : PlainName name')
    (h : isPrefix (placeholder ty name) (placeholder ty' name' ++ rest) = true) : ty' = ty ∧ name' = name := by
  rcases (isPrefix_iff _ _).mp h with ⟨rest', he⟩
  unfold placeholder at he
  simp only [List.cons_append, List.cons.injEq, true_and, List.append_assoc, List.nil_append] at he
  -- ty' ++ ':' :: (name' ++ '}' :: rest) = ty ++ ':' :: (name ++ '}' :: rest')
  have e1 : (ty' ++ ':' :: name') ++ '}' :: rest = (ty ++ ':' :: name) ++ '}' :: rest' := by
    simpa [List.append_assoc] using he
  have hb := append_cons_unique '}' _ _ _ _ (fun c hc => (body_no_brace ty' name' ht' hn' c hc).2) (fun c hc => (body_no_brace ty name ht hn c hc).2) e1
  have hc := append_cons_unique ':' ty' ty name' name (fun c hc => ht'.2 c hc) (fun c hc => ht.2 c hc) hb.1
  exact hc

theorem placeholder_tail_clean (ty name : Str) (h1 : NoDollar ty) (h2 : NoDollar name) :
    ∀ c ∈ '{' :: (ty ++ ':' :: name ++ ['}']), c ≠ '$' := by
  intro c hc
  simp only [List.mem_cons, List.mem_append, List.mem_nil_iff, or_false] at hc
  rcases hc with rfl | (hc | rfl | hc) | rfl
  · decide
  · exact h1 c hc
  · decide
  · exact h2 c hc
  · decide

/-- one `ReplaceAll` on a chunked text replaces exactly the chunks that ARE the placeholder -/
theorem replace_flat (ty name v : Str) (ht : PlainType ty) (hn : PlainName name) :
    ∀ (L : List Chunk), (∀ c ∈ L, ChunkOk c) →
      replaceAux (placeholder ty name) v (flat L) 0 = flat (L.map (substChunk ty name v))
  | [], _ => rfl
  | .clean s :: r, h => by
    have hs : NoDollar s := h (.clean s) (by simp)
    have ih := replace_flat ty name v ht hn r (fun c hc => h c (by simp [hc]))
    simp only [flat, Chunk.text, List.map_cons, substChunk]
    have := replaceAux_copy '$' ('{' :: (ty ++ ':' :: name ++ ['}'])) v s (flat r) hs
    unfold placeholder
    rw [this]
    unfold placeholder at ih
    rw [ih]
  | .tag ty' name' :: r, h => by
    have hok : PlainType ty' ∧ PlainName name' ∧ NoDollar ty' ∧ NoDollar name' := h (.tag ty' name') (by simp)
    have ih := replace_flat ty name v ht hn r (fun c hc => h c (by simp [hc]))
    by_cases hsame : ty' = ty ∧ name' = name
    · obtain ⟨rfl, rfl⟩ := hsame
      simp only [flat, Chunk.text, List.map_cons, substChunk, and_self, if_true]
      rw [replaceAux_match _ _ _ (by simp [placeholder]), ih]
    · simp only [flat, Chunk.text, List.map_cons, substChunk, hsame, if_false]
      have hnp : isPrefix (placeholder ty name) (placeholder ty' name' ++ flat r) = false := by
        cases hp : isPrefix (placeholder ty name) (placeholder ty' name' ++ flat r) with
        | false => rfl
        | true => exact absurd (placeholder_prefix ty name ty' name' _ ht hn hok.1 hok.2.1 hp) hsame
      have e : placeholder ty' name' ++ flat r = '$' :: (('{' :: (ty' ++ ':' :: name' ++ ['}'])) ++ flat r) := by
        simp [placeholder]
      rw [e] at hnp ⊢
      rw [replaceAux_step _ _ _ _ hnp]
      have := replaceAux_copy '$' ('{' :: (ty ++ ':' :: name ++ ['}'])) v ('{' :: (ty' ++ ':' :: name' ++ ['}'])) (flat r)
        (placeholder_tail_clean ty' name' hok.2.2.1 hok.2.2.2)
      unfold placeholder
      rw [this]
      unfold placeholder at ih
      rw [ih]
      simp

theorem replaceAll_flat (ty name v : Str) (ht : PlainType ty) (hn : PlainName name) (L : List Chunk)
    (h : ∀ c ∈ L, ChunkOk c) :
    replaceAll (flat L) (placeholder ty name) v = flat (L.map (substChunk ty name v)) := by
  have : (placeholder ty name).isEmpty = false := by simp [placeholder]
  simp only [replaceAll, this, Bool.false_eq_true, if_false]
  exact replace_flat ty name v ht hn L h

theorem substChunk_ok (ty name v : Str) (hv : NoDollar v) (L : List Chunk) (h : ∀ c ∈ L, ChunkOk c) :
    ∀ c ∈ L.map (substChunk ty name v), ChunkOk c := by
  intro c hc
  rcases List.mem_map.mp hc with ⟨c0, hc0, rfl⟩
  cases c0 with
  | clean s => exact h _ hc0
  | tag ty' name' =>
    simp only [substChunk]
    split
    · exact hv
    · exact h _ hc0

/-! ## tag by tag -/

def seqTags (env : Env) : Str → List (Str × Str) → Option Str
  | res, [] => some res
  | res, (ty, name) :: r =>
    match resolveTag env (placeholder ty name) ty name with
    | none => none
    | some v => seqTags env (replaceAll res (placeholder ty name) v) r

def substAll (env : Env) : List (Str × Str) → List Chunk → Option (List Chunk)
  | [], L => some L
  | (ty, name) :: r, L =>
    match resolveTag env (placeholder ty name) ty name with
    | none => none
    | some v => substAll env r (L.map (substChunk ty name v))

def TagsOk (env : Env) (tags : List (Str × Str)) : Prop :=
  ∀ t ∈ tags, PlainType t.1 ∧ PlainName t.2 ∧ ∀ v, resolveTag env (placeholder t.1 t.2) t.1 t.2 = some v → NoDollar v

theorem seqTags_flat (env : Env) : ∀ (tags : List (Str × Str)) (L : List Chunk), TagsOk env tags → (∀ c ∈ L, ChunkOk c) →
    seqTags env (flat L) tags = (substAll env tags L).map flat
  | [], L, _, _ => rfl
  | (ty, name) :: r, L, ht, hL => by
    have h0 := ht (ty, name) (by simp)
    simp only [seqTags, substAll]
    cases hr : resolveTag env (placeholder ty name) ty name with
    | none => rfl
    | some v =>
      simp only
      rw [replaceAll_flat ty name v h0.1 h0.2.1 L hL]
      exact seqTags_flat env r _ (fun t ht' => ht t (by simp [ht'])) (substChunk_ok ty name v (h0.2.2 v hr) L hL)

theorem renderSeq_litSeg (env : Env) (res l : Str) (rest : List Seg) :
    renderSeq env res (litSeg l ++ rest) = renderSeq env res rest := by
  unfold litSeg
  cases l <;> simp [renderSeq]

theorem renderSeq_pieces_tags (env : Env) : ∀ (ps : List (Str × Str × Str)) (post res : Str),
    renderSeq env res (piecesSegs ps post) = seqTags env res (ps.map fun p => (p.2.1, p.2.2))
  | [], post, res => by
    have := renderSeq_litSeg env res post []
    simp only [List.append_nil] at this
    simp [piecesSegs, this, renderSeq, seqTags]
  | (pre, ty, name) :: r, post, res => by
    simp only [piecesSegs, renderSeq_litSeg, renderSeq, List.map_cons, seqTags]
    cases resolveTag env (placeholder ty name) ty name with
    | none => rfl
    | some v => exact renderSeq_pieces_tags env r post _

/-! ## all at once -/

def valueChunks (env : Env) : List Chunk → Option Str
  | [] => some []
  | .clean s :: r => (valueChunks env r).map (s ++ ·)
  | .tag ty name :: r =>
    match resolveTag env (placeholder ty name) ty name with
    | none => none
    | some v => (valueChunks env r).map (v ++ ·)

def chunksOf : List (Str × Str × Str) → Str → List Chunk
  | [], post => [.clean post]
  | (pre, ty, name) :: r, post => .clean pre :: .tag ty name :: chunksOf r post

theorem flat_chunksOf : ∀ (ps : List (Str × Str × Str)) (post : Str), flat (chunksOf ps post) = piecesText ps post
  | [], post => by simp [chunksOf, flat, Chunk.text, piecesText]
  | (pre, ty, name) :: r, post => by
    simp [chunksOf, flat, Chunk.text, piecesText, flat_chunksOf r post]

theorem valueChunks_chunksOf (env : Env) : ∀ (ps : List (Str × Str × Str)) (post : Str),
    valueChunks env (chunksOf ps post) = piecesValue env ps post
  | [], post => by simp [chunksOf, valueChunks, piecesValue]
  | (pre, ty, name) :: r, post => by
    simp only [chunksOf, valueChunks, piecesValue, valueChunks_chunksOf env r post]
    cases resolveTag env (placeholder ty name) ty name with
    | none => rfl
    | some v => cases piecesValue env r post <;> simp

theorem chunksOf_ok : ∀ (ps : List (Str × Str × Str)) (post : Str), PiecesOk ps post → PiecesClean ps →
    ∀ c ∈ chunksOf ps post, ChunkOk c
  | [], post, h, _ => by
    intro c hc
    simp only [chunksOf, List.mem_cons, List.mem_nil_iff, or_false] at hc
    subst hc
    exact h.2
  | (pre, ty, name) :: r, post, h, hc' => by
    intro c hc
    have hp := h.1 (pre, ty, name) (by simp)
    have hq := hc' (pre, ty, name) (by simp)
    simp only [chunksOf, List.mem_cons] at hc
    rcases hc with rfl | rfl | hc
    · exact hp.1
    · exact ⟨hp.2.1, hp.2.2, hq.1, hq.2⟩
    · exact chunksOf_ok r post ⟨fun p hp' => h.1 p (by simp [hp']), h.2⟩ (fun p hp' => hc' p (by simp [hp'])) c hc

/-- a step of the tag-by-tag substitution does not change the all-at-once value -/
theorem valueChunks_subst (env : Env) (ty name v : Str) (hr : resolveTag env (placeholder ty name) ty name = some v) :
    ∀ (L : List Chunk), valueChunks env (L.map (substChunk ty name v)) = valueChunks env L
  | [] => rfl
  | .clean s :: r => by simp [valueChunks, substChunk, valueChunks_subst env ty name v hr r]
  | .tag ty' name' :: r => by
    by_cases hsame : ty' = ty ∧ name' = name
    · obtain ⟨rfl, rfl⟩ := hsame
      simp [valueChunks, substChunk, hr, valueChunks_subst env ty' name' v hr r]
    · simp [valueChunks, substChunk, hsame, valueChunks_subst env ty name v hr r]

theorem valueChunks_failing (env : Env) (ty name : Str) (hr : resolveTag env (placeholder ty name) ty name = none) :
    ∀ (L : List Chunk), Chunk.tag ty name ∈ L → valueChunks env L = none
  | [], h => by simp at h
  | .clean s :: r, h => by
    simp only [List.mem_cons, reduceCtorEq, false_or] at h
    simp [valueChunks, valueChunks_failing env ty name hr r h]
  | .tag ty' name' :: r, h => by
    simp only [List.mem_cons, Chunk.tag.injEq] at h
    rcases h with ⟨rfl, rfl⟩ | h
    · simp [valueChunks, hr]
    · simp only [valueChunks]
      cases resolveTag env (placeholder ty' name') ty' name' with
      | none => rfl
      | some v => simp [valueChunks_failing env ty name hr r h]

theorem mem_subst_other (ty name v ty' name' : Str) (L : List Chunk) (h : Chunk.tag ty' name' ∈ L)
    (hne : ¬ (ty' = ty ∧ name' = name)) : Chunk.tag ty' name' ∈ L.map (substChunk ty name v) := by
  apply List.mem_map.mpr
  exact ⟨.tag ty' name', h, by simp [substChunk, hne]⟩

def AllClean (L : List Chunk) : Prop := ∀ c ∈ L, ∀ ty name, c ≠ Chunk.tag ty name

theorem valueChunks_clean (env : Env) : ∀ (L : List Chunk), AllClean L → valueChunks env L = some (flat L)
  | [], _ => rfl
  | .clean s :: r, h => by
    simp [valueChunks, flat, Chunk.text, valueChunks_clean env r (fun c hc => h c (by simp [hc]))]
  | .tag ty name :: r, h => absurd rfl (h (.tag ty name) (by simp) ty name)

/-- substituting the tags one after the other, when every placeholder of the text is among them and every tag that does
not resolve occurs in the text, gives the all-at-once value -/
theorem substAll_flat (env : Env) : ∀ (tags : List (Str × Str)) (L : List Chunk),
    (∀ ty name, Chunk.tag ty name ∈ L → (ty, name) ∈ tags) →
    (∀ t ∈ tags, resolveTag env (placeholder t.1 t.2) t.1 t.2 = none → Chunk.tag t.1 t.2 ∈ L) →
    (substAll env tags L).map flat = valueChunks env L
  | [], L, hsub, _ => by
    rw [valueChunks_clean env L fun c hc ty name he => by simpa using hsub ty name (he ▸ hc)]
    rfl
  | (ty, name) :: r, L, hsub, hfail => by
    simp only [substAll]
    cases hr : resolveTag env (placeholder ty name) ty name with
    | none => exact (valueChunks_failing env ty name hr L (hfail (ty, name) (by simp) hr)).symm
    | some v =>
      simp only
      rw [← valueChunks_subst env ty name v hr L]
      apply substAll_flat env r
      · intro ty' name' hmem
        obtain ⟨c0, hc0, he⟩ := List.mem_map.mp hmem
        cases c0 with
        | clean s => simp [substChunk] at he
        | tag a b =>
          simp only [substChunk] at he
          split at he
          · cases he
          · next hne =>
            cases he
            simpa [hne] using hsub ty' name' hc0
      · intro t ht hnone
        refine mem_subst_other ty name v t.1 t.2 L (hfail t (by simp [ht]) hnone) ?_
        rintro ⟨h1, h2⟩
        rw [h1, h2, hr] at hnone
        cases hnone

theorem tags_of_chunksOf : ∀ (ps : List (Str × Str × Str)) (post : Str) (ty name : Str),
    Chunk.tag ty name ∈ chunksOf ps post ↔ (ty, name) ∈ ps.map fun p => (p.2.1, p.2.2)
  | [], post, ty, name => by simp [chunksOf]
  | (pre, a, b) :: r, post, ty, name => by
    simp only [chunksOf, List.mem_cons, reduceCtorEq, false_or, Chunk.tag.injEq, List.map_cons, Prod.mk.injEq,
      tags_of_chunksOf r post ty name]

/-- **Tag by tag = all at once when no resolved value brings a `$`.** -/
theorem renderSeq_pieces (env : Env) (ps : List (Str × Str × Str)) (post : Str) (hok : PiecesOk ps post)
    (hcl : PiecesClean ps) (hv : CleanValues env ps) :
    renderSeq env (piecesText ps post) (piecesSegs ps post) = piecesValue env ps post := by
  let tags := ps.map fun p => (p.2.1, p.2.2)
  have htags : TagsOk env tags := by
    intro t ht
    rcases List.mem_map.mp ht with ⟨p, hp, rfl⟩
    exact ⟨(hok.1 p hp).2.1, (hok.1 p hp).2.2, hv p hp⟩
  have hL := chunksOf_ok ps post hok hcl
  rw [renderSeq_pieces_tags, ← flat_chunksOf ps post, seqTags_flat env tags _ htags hL, ← valueChunks_chunksOf]
  exact substAll_flat env tags _ (fun ty name h => (tags_of_chunksOf ps post ty name).mp h)
    (fun t ht _ => (tags_of_chunksOf ps post t.1 t.2).mpr ht)

/-- a string built from literal text and placeholders resolves to the text with every placeholder substituted, when no
resolved value contains a `$` -/
theorem resolve_pieces (env : Env) (ps : List (Str × Str × Str)) (post : Str) (hok : PiecesOk ps post) (hne : ps ≠ [])
    (hcl : PiecesClean ps) (hv : CleanValues env ps) :
    resolve env (piecesText ps post) =
      match piecesValue env ps post with
      | none => .failed
      | some t => .text t (loneTag (piecesSegs ps post)) := by
  unfold resolve scan
  have := scan_pieces ps post hok []
  simp only [List.nil_append] at this
  rw [this]
  simp only [hasTag_pieces ps post hne, Bool.not_true, Bool.false_eq_true, if_false,
    renderSeq_pieces env ps post hok hcl hv]
  cases piecesValue env ps post <;> rfl

end Pandora.Proofs.C17
