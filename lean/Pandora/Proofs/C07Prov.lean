import Pandora.Model.C07Prov

/-! C07 — helper lemmas for the provider-side theorems (`uris` option, counters). -/
namespace Pandora.Proofs.C07
open Pandora.Model.C07

/-- an entry of a well-formed uri file has nothing after its line -/
theorem payload_uri_of_ok (it : Item) (h : itemOK .uri it = true) : payload .uri it = [] := by
  cases it with
  | hdr k v => rfl
  | req u t b => simp [payload]
  | frame t fr => simp [itemOK] at h

/-- the lines of the entries joined with newlines = the file rendered without any layout and without final newline -/
theorem renderItems_uris : ∀ (items : List Item), (∀ it ∈ items, payload .uri it = []) →
    renderItems .uri false [] items [] = urisFile (items.map urisLine)
  | [], _ => rfl
  | [it], h => by
    have hp := h it (by simp)
    simp [renderItems, urisFile, urisLine, hp]
  | it :: it2 :: rest, h => by
    have hp := h it (by simp)
    have ih := renderItems_uris (it2 :: rest) (fun x hx => h x (List.mem_cons_of_mem _ hx))
    simp only [List.map_cons] at ih ⊢
    simp [renderItems, urisFile, urisLine, hp, renderBlanks, ih]

theorem render_uris (items : List Item) (hi : itemsOK .uri items = true) :
    render .uri items { finalNL := false } = urisFile (items.map urisLine) := by
  have h : ∀ it ∈ items, payload .uri it = [] := fun it hm =>
    payload_uri_of_ok it (by simpa [itemsOK] using (List.all_eq_true.mp hi) it hm)
  simp [render, renderBlanks, renderItems_uris items h]

theorem wrapIdx_of_lt (bits len n : Nat) (h : n < 2 ^ bits) : wrapIdx bits len n = n % len := by
  unfold wrapIdx; rw [Nat.mod_eq_of_lt h]

end Pandora.Proofs.C07
