/-
C04 — helper lemmas about the closed world of `Pandora.Model.C04` (`simIter`, `simHist`: time advances, timers fire, `Shoot`
returns) and about fair scheduling of a pool (`phi`: a potential that every step of an instance decreases).  Core Lean only.
-/
import Pandora.Proofs.C04Pool

namespace Pandora.Proofs.C04
open Pandora.Go.C04 Pandora.Model.C04

/-! ### one pass of the closed world -/

/-- the clock hypotheses hold of a generated pass -/
theorem simIter_envOK (t tok : Int) (p : Delays) : EnvOK (simIter t tok p).env := by
  unfold EnvOK simIter
  refine ⟨by simp only; omega, ?_, ?_⟩
  · simp only; split <;> omega
  · intro next hn _ hlt _
    simp only [Option.mem_def, Option.some.injEq] at hn
    subst hn
    simp only at hlt ⊢
    split <;> omega

theorem simIter_pick_le_now (t tok : Int) (p : Delays) : (simIter t tok p).env.pick ≤ (simIter t tok p).env.now := by
  simp only [simIter]; omega

theorem simIter_now_ge (t tok : Int) (p : Delays) : t ≤ (simIter t tok p).env.now := by
  simp only [simIter]; omega

theorem simIter_now_le_ret (t tok : Int) (p : Delays) : (simIter t tok p).env.now ≤ (simIter t tok p).env.ret := by
  simp only [simIter]; split <;> omega

/-- in the closed world `Wait` always succeeds: nothing is cancelled, the timer fires -/
theorem simIter_ok (v : Variant) (w : Waiter) (t tok : Int) (p : Delays) : (waitV v w (simIter t tok p).env).ok = true :=
  waitV_ok_of_token v w _ tok rfl rfl rfl

theorem simNext_ge_ret (d : Bool) (w' : Waiter) (it : Iter) (h : 0 ≤ it.dur) : it.env.ret ≤ simNext d w' it := by
  unfold simNext; split <;> omega

theorem simIter_dur (t tok : Int) (p : Delays) : (0 : Int) ≤ (simIter t tok p).dur := by
  simp only [simIter]; omega

/-- the next pass does not start before the reading of this one -/
theorem simNext_ge_now (d : Bool) (w' : Waiter) (t tok : Int) (p : Delays) :
    (simIter t tok p).env.now ≤ simNext d w' (simIter t tok p) :=
  Int.le_trans (simIter_now_le_ret t tok p) (simNext_ge_ret d w' _ (simIter_dur t tok p))

/-! ### the generated history meets the clock hypotheses -/

/-- every generated pass satisfies the clock hypotheses of one call, is not read before the world's clock `t`, and sees no
cancellation -/
theorem simHist_pass (v : Variant) (d : Bool) (w : Waiter) (t : Int) (toks : List Int) (ps : List Delays) :
    ∀ it ∈ simHist v d w t toks ps, EnvOK it.env ∧ it.env.pick ≤ it.env.now ∧ t ≤ it.env.now ∧ it.ctxDoneSlow = false := by
  induction toks generalizing w t ps with
  | nil =>
    intro it hit
    simp [simHist] at hit
    subst hit
    exact ⟨⟨by simp [simLast], by simp [simLast], fun next hn => by simp [simLast] at hn⟩, by simp [simLast],
      by simp [simLast], rfl⟩
  | cons tok toks ih =>
    cases ps with
    | nil => intro it hit; simp [simHist] at hit
    | cons p ps =>
      intro it hit
      simp only [simHist, List.mem_cons] at hit
      rcases hit with rfl | hit
      · exact ⟨simIter_envOK t tok p, simIter_pick_le_now t tok p, simIter_now_ge t tok p, rfl⟩
      · obtain ⟨h1, h2, h3, h4⟩ := ih _ _ ps it hit
        have h5 := simNext_ge_now d (waitV v w (simIter t tok p).env).w t tok p
        have h6 := simIter_now_ge t tok p
        exact ⟨h1, h2, by omega, h4⟩

theorem simHist_pairwise (v : Variant) (d : Bool) (w : Waiter) (t : Int) (toks : List Int) (ps : List Delays) :
    (simHist v d w t toks ps).Pairwise (fun a b => a.env.now ≤ b.env.now) := by
  induction toks generalizing w t ps with
  | nil => simp [simHist]
  | cons tok toks ih =>
    cases ps with
    | nil => simp [simHist]
    | cons p ps =>
      simp only [simHist, List.pairwise_cons]
      refine ⟨fun it hit => ?_, ih _ _ ps⟩
      have h1 := (simHist_pass v d _ _ toks ps it hit).2.2.1
      have h2 := simNext_ge_now d (waitV v w (simIter t tok p).env).w t tok p
      omega

/-- every history the closed world generates satisfies the clock hypotheses of the property theorems -/
theorem simHist_clockOK (v : Variant) (d : Bool) (w : Waiter) (t : Int) (toks : List Int) (ps : List Delays)
    (hw : w.lastNow ≤ t) : ClockOK w (simHist v d w t toks ps) ∧ ReadAfterPick (simHist v d w t toks ps) := by
  refine ⟨⟨fun it hit => (simHist_pass v d w t toks ps it hit).1, fun it hit => ?_, simHist_pairwise v d w t toks ps⟩,
    fun it hit => (simHist_pass v d w t toks ps it hit).2.1⟩
  have := (simHist_pass v d w t toks ps it hit).2.2.1
  omega

/-! ### the loop over a generated history: it terminates, one action per token -/

theorem runLoop_simHist (v : Variant) (d : Bool) (w : Waiter) (t : Int) (toks : List Int) (ps : List Delays)
    (hlen : toks.length ≤ ps.length) :
    (runLoop v d w (simHist v d w t toks ps)).2 = .loopEnd ∧
    (runLoop v d w (simHist v d w t toks ps)).1.map (fun ev => ev.iter.tok) = toks := by
  induction toks generalizing w t ps with
  | nil => simp [simHist, runLoop, simLast]
  | cons tok toks ih =>
    cases ps with
    | nil => simp at hlen
    | cons p ps =>
      have hl : toks.length ≤ ps.length := by simpa using hlen
      obtain ⟨h1, h2⟩ := ih (waitV v w (simIter t tok p).env).w
        (simNext d (waitV v w (simIter t tok p).env).w (simIter t tok p)) ps hl
      simp only [simHist]
      rw [runLoop_cons_ok v d w _ _ rfl rfl (simIter_ok v w t tok p), List.map_cons, actOf_iter, h2]
      exact ⟨h1, rfl⟩

/-- the first event of the loop over a generated history, and the rest -/
theorem runLoop_simHist_cons (v : Variant) (d : Bool) (w : Waiter) (t tok : Int) (toks : List Int) (p : Delays) (ps : List Delays) :
    (runLoop v d w (simHist v d w t (tok :: toks) (p :: ps))).1 =
      actOf d (waitV v w (simIter t tok p).env).w (simIter t tok p) ::
      (runLoop v d (waitV v w (simIter t tok p).env).w
        (simHist v d (waitV v w (simIter t tok p).env).w
          (simNext d (waitV v w (simIter t tok p).env).w (simIter t tok p)) toks ps)).1 := by
  simp only [simHist]
  exact runLoop_events_ok v d w _ _ rfl rfl (simIter_ok v w t tok p)

/-- the cached reading after a pass is not ahead of the instant at which the next pass starts -/
theorem sim_lastNow_le (v : Variant) (d : Bool) (w : Waiter) (t tok : Int) (p : Delays) (hw : w.lastNow ≤ t) :
    (waitV v w (simIter t tok p).env).w.lastNow ≤ simNext d (waitV v w (simIter t tok p).env).w (simIter t tok p) := by
  have h2 := simNext_ge_now d (waitV v w (simIter t tok p).env).w t tok p
  have h3 := simIter_now_ge t tok p
  rcases waitV_lastNow v w (simIter t tok p).env with hl | hl <;> rw [hl] <;> omega

/-- repaired `Wait`, generated pass: a token that is fired was less than 2 s late at the reading -/
theorem sim_fired_lt (w : Waiter) (t tok : Int) (p : Delays) (hw : w.lastNow ≤ t)
    (h : fires true (isSlowDown (waitV .fresh w (simIter t tok p).env).w false) = true) :
    (simIter t tok p).env.now - tok < maxOverdue := by
  have hn := simIter_now_ge t tok p
  have hov := wait_overdue w (simIter t tok p).env (by omega) tok rfl (simIter_ok .fresh w t tok p)
  simp [fires, isSlowDown, slowCond] at h
  have hm : (0 : Int) < maxOverdue := by decide
  split at hov <;> omega

/-! ### fair scheduling of a pool: a potential that every step of an instance decreases -/

/-- upper bound of the number of steps instance `i` can still make: with `s` tokens left, an instance at the loop head needs at
most `2s + 2` steps to leave the loop, one that is about to call `Wait` at most `2s + 1` (`1` and `2` once the schedule is empty) -/
def phi (st : PState) (i : Nat) : Nat :=
  match st.phase i with
  | .exited => 0
  | .head => if st.sched.length = 0 then 1 else 2 * st.sched.length + 2
  | .waiting => if st.sched.length = 0 then 2 else 2 * st.sched.length + 1

/-- how often instance `i` moves in a list of steps -/
def stepsOf (steps : List PStep) (i : Nat) : Nat := (steps.filter (fun s => s.inst == i)).length

theorem phi_eq_zero {st : PState} {i : Nat} (h : phi st i = 0) : st.phase i = .exited := by
  unfold phi at h
  cases hp : st.phase i with
  | exited => rfl
  | head => simp only [hp] at h; split at h <;> omega
  | waiting => simp only [hp] at h; split at h <;> omega

/-- a calm step of instance `i` itself decreases its potential (unless it has left the loop); a step of another instance does
not increase it -/
theorem phi_pstep (st : PState) (s : PStep) (i : Nat) (hs : Calm s) :
    phi (pstep st s) i + (if s.inst = i then 1 else 0) ≤ phi st i ∨ phi (pstep st s) i = 0 := by
  obtain ⟨hch, hammo, hctx, htw⟩ := hs
  by_cases hi : s.inst = i
  · subst hi
    simp only [↓reduceIte]
    unfold pstep
    cases hph : st.phase s.inst with
    | exited => right; simp [phi, hph]
    | head =>
      simp only []
      by_cases hfin : isFinished s.ctxDoneHead st.sched.length = true
      · right
        simp only [hfin, ↓reduceIte]
        simp [phi, record_phase_same]
      · left
        have hlen : st.sched.length ≠ 0 := by
          intro h0
          apply hfin
          simp [isFinished, hch, h0]
        simp only [hfin, hammo, Bool.false_eq_true, ↓reduceIte, Bool.not_true]
        simp only [phi, upd, ↓reduceIte, hph, hlen]
        omega
    | waiting =>
      left
      simp only [hctx, Bool.false_eq_true, ↓reduceIte]
      cases hsched : st.sched with
      | nil =>
        simp only [phi, record_phase_same, record_sched, hph, hsched, List.length_nil, ↓reduceIte]
        omega
      | cons tk rest =>
        simp only [phi, record_phase_same, record_sched, hph]
        rw [hsched]
        by_cases h0 : rest.length = 0 <;> simp [h0] <;> omega
  · simp only [hi, ↓reduceIte, Nat.add_zero]
    left
    -- another instance moves: the phase of `i` is unchanged and the schedule does not grow
    have hi' : i ≠ s.inst := fun h => hi h.symm
    unfold pstep
    cases hph : st.phase s.inst with
    | exited => exact Nat.le_refl _
    | head =>
      simp only []
      split
      · simp only [phi, record_phase_other _ _ _ _ _ hi', record_sched]; exact Nat.le_refl _
      · split
        · simp only [phi, record_phase_other _ _ _ _ _ hi', record_sched]; exact Nat.le_refl _
        · simp only [phi, upd, hi', ↓reduceIte]; exact Nat.le_refl _
    | waiting =>
      simp only [hctx, Bool.false_eq_true, ↓reduceIte]
      cases hsched : st.sched with
      | nil => simp only [phi, record_phase_other _ _ _ _ _ hi', record_sched, hsched]; exact Nat.le_refl _
      | cons tk rest =>
        simp only [phi, record_phase_other _ _ _ _ _ hi', record_sched]
        rw [hsched]
        cases st.phase i with
        | exited => exact Nat.le_refl _
        | head => by_cases h0 : rest.length = 0 <;> simp [h0] <;> omega
        | waiting => by_cases h0 : rest.length = 0 <;> simp [h0] <;> omega

theorem phi_prun (st : PState) (steps : List PStep) (i : Nat) (hs : ∀ s ∈ steps, Calm s) :
    phi (prun st steps) i + stepsOf steps i ≤ phi st i ∨ phi (prun st steps) i = 0 := by
  induction steps generalizing st with
  | nil => left; simp [prun, stepsOf]
  | cons s rest ih =>
    have hrest : ∀ x ∈ rest, Calm x := fun x hx => hs x (by simp [hx])
    have h1 := phi_pstep st s i (hs s (by simp))
    have h2 := ih (pstep st s) hrest
    simp only [prun, List.foldl_cons] at h2 ⊢
    have hcount : stepsOf (s :: rest) i = (if s.inst = i then 1 else 0) + stepsOf rest i := by
      unfold stepsOf
      by_cases hi : s.inst = i
      · simp [hi]; omega
      · simp [hi]
    rcases h2 with h2 | h2
    · rcases h1 with h1 | h1
      · left; rw [hcount]; omega
      · right; omega
    · right; exact h2

theorem phi_init (toks : List Int) (i : Nat) : phi (PState.init toks) i ≤ 2 * toks.length + 2 := by
  simp only [phi, PState.init]
  by_cases h0 : toks.length = 0 <;> simp [h0]

/-! ### Go's saturating `Time.Sub` -/

theorem satSub_exact (a b : Int) (h1 : a - b ≤ maxDuration) (h2 : minDuration ≤ a - b) : satSub a b = timeSub a b := by
  unfold satSub timeSub
  split
  · omega
  · split
    · omega
    · rfl

/-- saturation keeps the sign -/
theorem satSub_pos (a b : Int) (h : 0 < a - b) : ¬ satSub a b ≤ 0 := by
  have hmax : maxDuration = 9223372036854775807 := rfl
  have hmin : minDuration = -9223372036854775808 := rfl
  unfold satSub
  split
  · omega
  · split <;> omega

/-! ### end instants of actions and the bounds of the closed-world runs (helpers of `C04_run_end_bounded`, `C04_sim_*`) -/

/-- instant at which an action is over: a shot when the response has arrived, a discard when it is reported -/
def endT : Ev → Int
  | .shoot it => it.env.ret + it.dur
  | .discard it _ => it.env.ret

/-- `B + (k+1)·step` without a product -/
def chainBound (B step : Int) : Nat → Int
  | 0 => B + step
  | k + 1 => chainBound B step k + step

/-- time one pass costs: overheads plus the response -/
def passCost (p : Delays) : Int := p.dPick + p.dNow + p.dArm + p.dLag + p.dur

def sumCost : List Delays → Int
  | [] => 0
  | p :: ps => passCost p + sumCost ps

/-- the end of the action of a generated pass is the instant `simNext` at which the next pass starts -/
theorem endT_sim_head (d : Bool) (w' : Waiter) (it : Iter) (h : it.ctxDoneSlow = false) :
    endT (actOf d w' it) = simNext d w' it := by
  unfold simNext actOf
  rw [h]
  split <;> rfl

theorem sim_end_by_aux (v : Variant) (d : Bool) (M : Int) (toks : List Int) :
    ∀ (w : Waiter) (t c : Int) (ps : List Delays), (∀ tok ∈ toks, tok ≤ M) → 0 ≤ c → t ≤ M + c →
      ∀ k ev, (runLoop v d w (simHist v d w t toks ps)).1[k]? = some ev → endT ev ≤ M + c + sumCost (ps.take (k + 1)) := by
  induction toks with
  | nil => intro w t c ps _ _ _ k ev hk; simp [simHist, runLoop, simLast] at hk
  | cons tok toks ih =>
    intro w t c ps htoks hc ht k ev hk
    cases ps with
    | nil => simp [simHist, runLoop] at hk
    | cons p ps =>
      rw [runLoop_simHist_cons] at hk
      have htok : tok ≤ M := htoks tok (by simp)
      have hcost : 0 ≤ passCost p := by unfold passCost; omega
      -- the end of this pass's action
      have hend : simNext d (waitV v w (simIter t tok p).env).w (simIter t tok p) ≤ M + c + passCost p := by
        unfold simNext passCost
        simp only [simIter]
        split <;> split <;> omega
      cases k with
      | zero =>
        simp only [List.getElem?_cons_zero, Option.some.injEq] at hk
        subst hk
        rw [endT_sim_head _ _ _ rfl]
        simp only [List.take_succ_cons, List.take_zero, sumCost]
        omega
      | succ k =>
        simp only [List.getElem?_cons_succ] at hk
        have := ih _ _ (c + passCost p) ps (fun x hx => htoks x (by simp [hx])) (by omega) (by omega) k ev hk
        simp only [List.take_succ_cons, sumCost]
        omega

theorem chainBound_ge (B step : Int) (hs : 0 ≤ step) (k : Nat) : B ≤ chainBound B step k := by
  induction k with
  | zero => simp only [chainBound]; omega
  | succ k ih => simp only [chainBound]; omega

theorem chainBound_shift (B step : Int) (k : Nat) : chainBound (B + step) step k = chainBound B step (k + 1) := by
  induction k with
  | zero => simp [chainBound]
  | succ k ih => simp only [chainBound, ih]

theorem sim_on_aux (start D R ε δ : Int) (hε : 0 ≤ ε) (hδ : 0 ≤ δ) (hR : 0 ≤ R) (toks : List Int) :
    ∀ (w : Waiter) (t B' : Int) (ps : List Delays), w.lastNow ≤ t → (∀ tok ∈ toks, tok ≤ start + D) →
      (∀ p ∈ ps, (p.dur : Int) ≤ R ∧ (p.dPick : Int) ≤ δ ∧ (p.dNow : Int) + p.dArm + p.dLag ≤ ε) →
      start + D + maxOverdue + ε + R ≤ B' → t ≤ B' →
      ∀ k ev, (runLoop .fresh true w (simHist .fresh true w t toks ps)).1[k]? = some ev → endT ev ≤ chainBound B' (δ + ε) k := by
  have hm : (0 : Int) ≤ maxOverdue := by decide
  induction toks with
  | nil => intro w t B' ps _ _ _ _ _ k ev hk; simp [simHist, runLoop, simLast] at hk
  | cons tok toks ih =>
    intro w t B' ps hw htoks hps hB ht k ev hk
    cases ps with
    | nil => simp [simHist, runLoop] at hk
    | cons p ps =>
      rw [runLoop_simHist_cons] at hk
      have htok : tok ≤ start + D := htoks tok (by simp)
      obtain ⟨hp1, hp2, hp3⟩ := hps p (by simp)
      -- the action of this pass is over by B' + δ + ε
      have hend : simNext true (waitV .fresh w (simIter t tok p).env).w (simIter t tok p) ≤ B' + (δ + ε) := by
        unfold simNext
        by_cases hfire : fires true (isSlowDown (waitV .fresh w (simIter t tok p).env).w false) = true
        · have hlt := sim_fired_lt w t tok p hw hfire
          simp only [hfire, ↓reduceIte]
          simp only [simIter] at hlt ⊢
          split <;> omega
        · simp only [hfire, Bool.false_eq_true, ↓reduceIte]
          simp only [simIter]
          split <;> omega
      cases k with
      | zero =>
        simp only [List.getElem?_cons_zero, Option.some.injEq] at hk
        subst hk
        rw [endT_sim_head _ _ _ rfl]
        simp only [chainBound]
        exact hend
      | succ k =>
        simp only [List.getElem?_cons_succ] at hk
        have hw' := sim_lastNow_le .fresh true w t tok p hw
        have := ih _ _ (B' + (δ + ε)) ps hw' (fun x hx => htoks x (by simp [hx])) (fun x hx => hps x (by simp [hx]))
          (by omega) hend k ev hk
        rw [chainBound_shift] at this
        exact this

end Pandora.Proofs.C04
