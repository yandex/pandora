/-
C05 — progress: a state in which no step that is BOUND to happen changes anything is a finished pool
(`Done`): `Pool.Run` returned, `onWaitDone` was called once, no goroutine of the pool is left, every gun is
accounted for. Together with the ranking function of `C05Live` (every effective step decreases `mu` once the run
context is cancelled) this is termination of every fair execution.
-/
import Pandora.Proofs.C05Live
import Pandora.Proofs.C05Guns
import Pandora.Proofs.C05Ctx

namespace Pandora.Proofs.C05
open Pandora.Model.C05

/-- Steps that are bound to happen once they are enabled: the engine's own steps (every `select` with a ready
case fires), calls into components that return (gun / schedule factories, `Bind`, `WarmUp`), and the return of a
goroutine whose context is cancelled (the component contract: provider, aggregator, startup waiter and
`instance.Run` return after their context is done). Not bound to happen: the caller's cancel, startup tokens,
the end of the shared schedule, and returns of components whose context is still live. -/
def Must (s : State) : Choice → Prop
  | .extCancel => False
  | .warm _ => True
  | .sched _ => True
  | .provRet _ => s.runC = true
  | .aggRet _ => s.runC = true
  | .rpsFinished => False
  | .startFirst _ => False
  | .startTick => False
  | .startEnd => s.startC = true
  | .instCreate _ _ => True
  | .instRet _ _ => s.runC = true
  | .awaitProv => True
  | .awaitAgg => True
  | .awaitStart => True
  | .awaitRun => True
  | .errDeliver => True
  | .errSuppress => True
  | .mainCancel => True
  | .mainClosed => True

/-- nothing that is bound to happen can change the state any more -/
def Quiescent (cfg : Cfg) (s : State) : Prop := ∀ c, Must s c → step cfg s c = s

/-- the pool is finished: nothing of it is left running -/
structure Done (cfg : Cfg) (s : State) : Prop where
  returned : ∃ r, s.main = .returned r
  waitDone : s.waitDone = 1
  awaiter : s.aw = .off ∨ s.aw = .finished
  noInst : s.live = []
  noBuf : s.buf = []
  prov : s.prov = .idle ∨ s.prov = .taken
  agg : s.agg = .idle ∨ s.agg = .taken
  start : s.startPc = .idle ∨ (s.startPc = .done ∧ s.startTaken = true)
  guns : ∀ g ∈ s.guns, GunDone cfg g

/-! ### termination: at most `mu s` effective steps are left once the run context is cancelled -/

/-- number of steps of the continuation `cs` that change the state -/
def effSteps (cfg : Cfg) : State → List Choice → Nat
  | _, [] => 0
  | s, c :: cs => (if step cfg s c = s then 0 else 1) + effSteps cfg (step cfg s c) cs

theorem effSteps_le (cfg : Cfg) (cs : List Choice) (s : State) (ha : InvA s) (he : InvK s) (hr : s.runC = true) :
    effSteps cfg s cs + mu (cs.foldl (step cfg) s) ≤ mu s := by
  induction cs generalizing s with
  | nil => simp [effSteps]
  | cons c cs ih =>
    obtain ⟨he', hr'⟩ := step_invK cfg s c ha he
    have ih' := ih (step cfg s c) (step_invA cfg s c ha) he' (hr' hr)
    simp only [effSteps, List.foldl_cons]
    rcases mu_step cfg s c ha hr he.ext with h | h
    · rw [h] at ih' ⊢; simp; exact ih'
    · split <;> omega

/-! ### progress -/

/-- every gun is accounted for once no instance goroutine is left -/
theorem guns_done {cfg : Cfg} {s : State} (hg : InvG cfg s) (hl : s.live = []) : ∀ g ∈ s.guns, GunDone cfg g := by
  intro g hgm
  simp only [State.guns, hl, List.filterMap_nil, List.append_nil, List.mem_append, Option.mem_toList] at hgm
  exact hgm.elim (hg.warm1 g) (hg.ret1 g)

/-- `Pool.Run` has returned and the await loop has ended: nothing of the pool is left -/
theorem done_of_finished {cfg : Cfg} {s : State} (hW : InvW s) (hg : InvG cfg s) (hm : ∃ r, s.main = .returned r)
    (haw : s.aw = .finished) : Done cfg s := by
  obtain ⟨h1, h2, h3, _, h5, h6⟩ := hW.all_taken haw
  exact ⟨hm, hW.wd1 haw, .inr haw, h5, h6, .inr h1, .inr h2, .inr ⟨hW.startDone.2 (hW.taken h3).1, h3⟩,
    guns_done hg h5⟩

/-! What a state tells in which a step that must happen changes nothing (`h : step cfg s c = s`). -/

theorem main_of_stuck {cfg : Cfg} {s : State} (h1 : step cfg s (.warm (.ok false)) = s)
    (h2 : step cfg s (.sched none) = s) : s.main ≠ .init ∧ s.main ≠ .warmed := by
  constructor <;> intro hm
  · simp only [step, hm, if_true] at h1
    have := congrArg State.main h1
    simp [hm] at this
  · simp only [step, hm, if_true] at h2
    have := congrArg State.main h2
    simp [hm] at this

theorem start_of_stuck {cfg : Cfg} {s : State} (h : step cfg s .startEnd = s) :
    s.startPc = .idle ∨ s.startPc = .done := by
  simp only [step] at h
  split at h
  · next hc =>
    have := congrArg State.startPc h
    simp at this
    rw [← this] at hc
    simp at hc
  · next hc =>
    cases hs : s.startPc with
    | idle => exact .inl rfl
    | done => exact .inr rfl
    | waiting f => cases f <;> simp [hs] at hc
    | exiting => simp [hs] at hc

theorem live_of_stuck {cfg : Cfg} {s : State} (h1 : step cfg s (.instCreate 0 (.ok false)) = s)
    (h2 : step cfg s (.instRet 0 .ok) = s) : s.live = [] := by
  cases hl : s.live with
  | nil => rfl
  | cons x l =>
    exfalso
    obtain ⟨id, gun⟩ := x
    cases gun with
    | none =>
      simp only [step, hl, List.getElem?_cons_zero] at h1
      have := congrArg State.live h1
      simp [hl] at this
    | some g =>
      simp only [step, hl, List.getElem?_cons_zero, reduceCtorEq, false_and, ite_false] at h2
      have := congrArg (fun t => t.live.length) h2
      simp only [sendRes, addErr] at this
      by_cases hro : s.runResOpen = false <;> simp [hro, hl] at this

theorem startTaken_of_stuck {cfg : Cfg} {s : State} (hW : InvW s) (haw : s.aw = .loop) (hd : s.startPc = .done)
    (h : step cfg s .awaitStart = s) : s.startTaken = true := by
  cases ht : s.startTaken with
  | true => rfl
  | false =>
    exfalso
    have hsome := hW.startDone.1 hd
    cases hsr : s.startRes with
    | none => simp [hsr] at hsome
    | some nr =>
      obtain ⟨n, r⟩ := nr
      simp only [step, haw, ht, hsr] at h
      have this := congrArg State.startTaken h
      rw [(same_handleRes _ _ _ _ _).startTaken] at this
      simp [ht] at this

/-- every instance has returned and its result was read, so `checkAllInstancesAreFinished` has closed `runRes` -/
theorem closed_of_stuck {cfg : Cfg} {s : State} (ha : InvA s) (haw : s.aw = .loop) (ht : s.startTaken = true)
    (hv : s.live = []) (h : step cfg s .awaitRun = s) : s.runResOpen = false := by
  cases ho : s.runResOpen with
  | false => rfl
  | true =>
    exfalso
    have hlt := ha.2.2 (Or.inl haw) ht ho
    have hcount := ha.1.count
    rw [hv] at hcount
    cases hb : s.buf with
    | nil => simp [hb] at hcount; omega
    | cons x rest =>
      obtain ⟨id, r⟩ := x
      simp only [step, haw, ho, hb] at h
      split at h
      · have this := congrArg State.awaited h
        rw [(same_afterErr _ _).awaited] at this
        simp at this
      · have this := congrArg State.awaited h
        rw [(same_handleRes _ _ _ _ _).awaited] at this
        simp at this

theorem main_of_stuck_onErr {cfg : Cfg} {s : State} {w : Wrap} {r : Ret} {chk : Bool} (haw : s.aw = .onErr w r chk)
    (h : step cfg s .errDeliver = s) : s.main ≠ .selecting := by
  intro hm
  simp only [step, haw, hm] at h
  have this := congrArg State.main h
  rw [(same_afterErr _ _).main] at this
  simp [mainReturn, cancelAll, hm] at this

theorem main_of_stuck_finished {cfg : Cfg} {s : State} (hW : InvW s) (haw : s.aw = .finished)
    (h : step cfg s .mainClosed = s) : s.main ≠ .selecting := by
  intro hm
  simp only [step, hm, hW.closed.2 haw, and_self, if_true] at h
  have := congrArg State.main h
  simp [mainReturn, cancelAll, hm] at this

theorem progress (cfg : Cfg) (hw : cfg.fixWaitDone = true) (s : State) (ha : InvA s) (hg : InvG cfg s)
    (hr : s.runC = true) (hq : Quiescent cfg s) : Done cfg s := by
  have hsc : s.startC = true := ha.1.ctx2 hr
  obtain ⟨m1, m2⟩ := main_of_stuck (hq _ trivial) (hq _ trivial)
  -- provider, aggregator, start goroutine have returned
  have p1 : s.prov ≠ .running := by
    intro hp
    have h := hq (.provRet .ok) hr
    simp only [step, hp, retAllowed, and_self, if_true, addErr] at h
    have := congrArg State.prov h
    simp [hp] at this
  have p2 : s.agg ≠ .running := by
    intro hp
    have h := hq (.aggRet .ok) hr
    simp only [step, hp, retAllowed, and_self, if_true, addErr] at h
    have := congrArg State.agg h
    simp [hp] at this
  have p3 := start_of_stuck (hq .startEnd hsc)
  have l1 := live_of_stuck (hq _ trivial) (hq _ hr)
  have hW := ha.1
  have hret : s.main ≠ .selecting → ∃ r, s.main = .returned r := fun hs => by
    cases hm : s.main with
    | init => exact absurd hm m1
    | warmed => exact absurd hm m2
    | selecting => exact absurd hm hs
    | returned r => exact ⟨r, rfl⟩
  cases haw : s.aw with
  | off =>
    obtain ⟨h1, h2, h3, _, h5, _⟩ := hW.pre haw
    obtain ⟨r, hm⟩ := hret fun hm => absurd haw (hg.sel hm)
    exact ⟨⟨r, hm⟩, hg.offRet hw haw (by simp [mainRunning, hm]), .inl haw, l1, h5, .inl h1, .inl h2, .inl h3,
      guns_done hg l1⟩
  | loop =>
    exfalso
    have hne : s.aw ≠ .off := by simp [haw]
    have hon := hW.on hne
    have htw := hW.toWait hne
    have h0 := ha.2.1 haw
    -- every result has been consumed, otherwise an await step is effective
    have c1 : s.prov = .taken := by
      cases hp : s.prov with
      | idle => exact absurd hp hon.1
      | running => exact absurd hp p1
      | taken => rfl
      | ready r =>
        exfalso
        have h := hq .awaitProv trivial
        simp only [step, haw, hp] at h
        have this := congrArg State.prov h
        rw [(same_handleRes _ _ _ _ _).prov] at this
        simp [hp] at this
    have c2 : s.agg = .taken := by
      cases hp : s.agg with
      | idle => exact absurd hp hon.2.1
      | running => exact absurd hp p2
      | taken => rfl
      | ready r =>
        exfalso
        have h := hq .awaitAgg trivial
        simp only [step, haw, hp] at h
        have this := congrArg State.agg h
        rw [(same_handleRes _ _ _ _ _).agg] at this
        simp [hp] at this
    have c3 := startTaken_of_stuck hW haw (p3.resolve_left hon.2.2.1) (hq .awaitStart trivial)
    have c4 := closed_of_stuck ha haw c3 l1 (hq .awaitRun trivial)
    simp [cnt, c1, c2, c3, c4] at htw
    omega
  | onErr w r chk =>
    exfalso
    cases hm : s.main with
    | init => exact absurd hm m1
    | warmed => exact absurd hm m2
    | selecting => exact main_of_stuck_onErr haw (hq .errDeliver trivial) hm
    | returned res =>
      have hp : s.poolC = true := hW.retCancel res hm
      have h := hq .errSuppress trivial
      simp only [step, haw, hp, hr, ite_self, if_true] at h
      have := aw_afterErr s chk
      rw [h, haw] at this
      simp at this
  | finished =>
    exact done_of_finished hW hg (hret (main_of_stuck_finished hW haw (hq .mainClosed trivial))) haw

end Pandora.Proofs.C05
