/-
C08: entry sizes: when every line fits the reader of EVERY pass the sized loops are the unsized ones.
-/
import Pandora.Model.C08Size

namespace Pandora.Proofs.C08
open Pandora.Model.C08

/-- every line is handed out by the scanner of every pass ⇒ `grpcLoopSz` is `grpcLoop` -/
theorem grpcLoopSz_eq {α : Type} (file : List α) (chosen : α → Bool) (b : Bounds) (cancelAt : Option Nat)
    (rd : Nat → Nat → Bool) (hrd : ∀ p i, i < file.length → rd p i = true) :
    ∀ fuel s out, grpcLoopSz file chosen b cancelAt rd fuel s out = grpcLoop file chosen b cancelAt fuel s out := by
  intro fuel
  induction fuel with
  | zero => intro s out; rfl
  | succ fuel ih =>
    intro s out
    unfold grpcLoopSz grpcLoop
    have h0 : ¬ (s.pos < file.length ∧ rd s.passNum s.pos = false) := by
      intro ⟨h1, h2⟩
      rw [hrd _ _ h1] at h2
      cases h2
    rw [if_neg h0]
    by_cases hc : s.pos < file.length ∧ (b.limit = 0 ∨ s.ammoNum < b.limit)
    · rw [if_pos hc, if_pos hc]
      cases file[s.pos]? with
      | none => rfl
      | some a => simp only [ih]
    · rw [if_neg hc, if_neg hc]
      simp only [ih]

/-- a line the scanner of the current pass does not hand out ends `start` at once with the scanner's error — before
the limit is looked at, without a retry -/
theorem grpcLoopSz_unreadable {α : Type} (file : List α) (chosen : α → Bool) (b : Bounds) (cancelAt : Option Nat)
    (rd : Nat → Nat → Bool) (fuel : Nat) (s : GrpcSt) (out : List α)
    (hpos : s.pos < file.length) (hrd : rd s.passNum s.pos = false) :
    grpcLoopSz file chosen b cancelAt rd (fuel + 1) s out = some (out, .errOther) := by
  unfold grpcLoopSz
  rw [if_pos ⟨hpos, hrd⟩]

/-- all lines shorter than the token limit ⇒ readable in every pass (grpc/json) -/
theorem readable_grpc (mas : Nat) (sizes : List Nat) (hfit : ∀ len, len ∈ sizes → len < tokMax mas) (p i : Nat) :
    readable .grpcJson mas sizes p i = true := by
  unfold readable
  cases h : sizes[i]? with
  | none => rfl
  | some len =>
    have hm : len ∈ sizes := List.mem_of_getElem? h
    simp [fitsTok, lineMax, hfit len hm]

/-- uri: every line a 64-bit machine can hold is readable, in every pass -/
theorem readable_uri (mas : Nat) (sizes : List Nat) (hfit : ∀ len, len ∈ sizes → len < maxInt) (p i : Nat) :
    readable .uri mas sizes p i = true := by
  unfold readable
  cases h : sizes[i]? with
  | none => rfl
  | some len =>
    have hm : len ∈ sizes := List.mem_of_getElem? h
    simp [fitsTok, lineMax, hfit len hm]

/-- the readers without a token limit read every line -/
theorem readable_unlimited (k : Kind) (hk : k ≠ .grpcJson ∧ k ≠ .uri) (mas : Nat) (sizes : List Nat) (p i : Nat) :
    readable k mas sizes p i = true := by
  unfold readable
  cases h : sizes[i]? with
  | none => rfl
  | some len => cases k <;> simp_all [fitsTok, lineMax]

/-- a grpc/json cell whose lines all fit the configured token limit IS the cell without sizes -/
theorem runGrpcSz_eq_run (inp : Input) (hk : inp.kind = .grpcJson) (sizes : List Nat) (mas : Nat)
    (hfit : ∀ len, len ∈ sizes → len < tokMax mas) :
    runGrpcSz inp sizes mas none = run inp sizes.length := by
  unfold runGrpcSz run
  simp only
  cases hT : target inp.b.limit inp.b.passes sizes.length inp.cancelAt with
  | none => rfl
  | some t =>
    simp only
    rw [grpcLoopSz_eq _ _ _ _ _ (fun p i _ => readable_grpc mas sizes hfit p i)]
    simp only [runFuel, hk, grpcRun]
    generalize grpcLoop _ _ _ _ _ _ _ = r
    rcases r with _ | ⟨out, e⟩ <;> rfl

/-- … also with a chosencases option -/
theorem runGrpcSz_eq_runPick (inp : Input) (hk : inp.kind = .grpcJson) (sizes : List Nat) (mas : Nat) (pick : List Nat)
    (hfit : ∀ len, len ∈ sizes → len < tokMax mas) :
    runGrpcSz inp sizes mas (some pick) = runPick inp sizes.length pick := by
  unfold runGrpcSz runPick
  simp only
  cases hT : target inp.b.limit inp.b.passes (chosenOf sizes.length pick).length inp.cancelAt with
  | none => rfl
  | some t =>
    simp only
    rw [grpcLoopSz_eq _ _ _ _ _ (fun p i _ => readable_grpc mas sizes hfit p i)]
    simp only [runFuelPick, hk, grpcRun]
    generalize grpcLoop _ _ _ _ _ _ _ = r
    rcases r with _ | ⟨out, e⟩ <;> rfl

/-- the line-level reader over lines that all fit is the reader of `Model.C08Scan` -/
theorem rdAtSz_eq (f : Lines) (fits : Nat → Bool) (hfit : ∀ i, i < f.length → fits i = true) (pos : Nat) :
    rdAtSz f fits pos = rdAt f pos := by
  unfold rdAtSz
  split
  · next h => rw [hfit _ h.1] at h; cases h.2
  · rfl

end Pandora.Proofs.C08
