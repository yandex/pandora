/-
C20 — the grpc/json provider's reading loop delivers exactly the stateless description: helper lemmas.
-/
import Pandora.Model.C20Feed

namespace Pandora.Proofs.C20Feed
open Pandora.Model.C20

/-- what is left of a limit after `n` ammo -/
def takeRem (limit n : Nat) (l : List Entry) : List Entry := if limit == 0 then l else l.take (limit - n)

/-- the ammo of the harmless prefix of a list of lines -/
def items (cfg : ProvCfg) (raws : List Raw) : List Entry := (raws.takeWhile (rawOk cfg)).filterMap (itemOf cfg)

/-! ### the loop body, line by line -/

theorem action_eq (cfg : ProvCfg) (pooled : Entry) (r : Raw) :
    action cfg pooled r =
      (if rawOk cfg r then (match itemOf cfg r with | some e => .deliver e | none => .skip)
       else .stop (match r with | .long => .scan | _ => .decode)) := by
  cases r with
  | long => simp [action, rawOk]
  | bad =>
    by_cases hc : cfg.coe = true
    · by_cases hch : isChosen invalidEntry.tag cfg.chosen = true <;> simp [action, rawOk, itemOf, hc, hch]
    · simp [action, rawOk, hc]
  | line l =>
    have : decodeAmmo pooled l = unmarshalInto zeroEntry l := rfl
    by_cases hch : isChosen (unmarshalInto zeroEntry l).tag cfg.chosen = true <;>
      simp [action, rawOk, itemOf, this, hch]

theorem isLong_not_ok (cfg : ProvCfg) (r : Raw) (h : isLong r = true) : rawOk cfg r = false := by
  cases r <;> simp_all [isLong, rawOk]

/-! ### one pass -/

theorem scanPass_spec (cfg : ProvCfg) : ∀ (raws : List Raw) (pooled : Entry) (n : Nat),
    (scanPass cfg raws pooled n).1 = takeRem cfg.limit n (items cfg raws) ∧
    (scanPass cfg raws pooled n).2.1 = n + (scanPass cfg raws pooled n).1.length ∧
    ((scanPass cfg raws pooled n).2.2 = .none →
      (cfg.limit ≠ 0 ∧ (scanPass cfg raws pooled n).2.1 ≥ cfg.limit) ∨ raws.all (rawOk cfg) = true) ∧
    ((scanPass cfg raws pooled n).2.2 ≠ .none → raws.all (rawOk cfg) = false)
  | [], pooled, n => by
    simp [scanPass, takeRem, items]
  | r :: rs, pooled, n => by
    unfold scanPass
    by_cases hl : isLong r = true
    · have hok := isLong_not_ok cfg r hl
      simp only [hl, if_true]
      refine ⟨?_, by simp, by simp, by simp [hok]⟩
      simp [takeRem, items, hok]
    · simp only [hl, Bool.false_eq_true, if_false]
      by_cases hlim : (cfg.limit != 0 && decide (n ≥ cfg.limit)) = true
      · simp only [hlim, if_true]
        have h0 : cfg.limit ≠ 0 ∧ n ≥ cfg.limit := by simpa using hlim
        refine ⟨?_, by simp, ?_, by simp⟩
        · have : cfg.limit - n = 0 := by omega
          simp [takeRem, h0.1, this]
        · intro _; exact Or.inl ⟨h0.1, h0.2⟩
      · simp only [hlim, Bool.false_eq_true, if_false]
        rw [action_eq]
        by_cases hok : rawOk cfg r = true
        · simp only [hok, if_true]
          cases hi : itemOf cfg r with
          | none =>
            simp only
            obtain ⟨h1, h2, h3, h4⟩ := scanPass_spec cfg rs pooled n
            refine ⟨?_, h2, ?_, ?_⟩
            · rw [h1]; simp [items, hok, hi]
            · intro hn
              rcases h3 hn with h | h
              · exact Or.inl h
              · exact Or.inr (by simp [hok, h])
            · intro hn; simpa [hok] using h4 hn
          | some e =>
            simp only
            obtain ⟨h1, h2, h3, h4⟩ := scanPass_spec cfg rs e (n + 1)
            refine ⟨?_, ?_, ?_, ?_⟩
            · rw [h1]
              by_cases hz : cfg.limit = 0
              · simp [takeRem, items, hok, hi, hz]
              · have hlt : n < cfg.limit := by
                  have : ¬ (cfg.limit ≠ 0 ∧ n ≥ cfg.limit) := by simpa using hlim
                  omega
                have : cfg.limit - n = (cfg.limit - (n + 1)) + 1 := by omega
                simp [takeRem, items, hok, hi, hz, this, List.take_succ_cons]
            · rw [h2]; simp; omega
            · intro hn
              rcases h3 hn with h | h
              · exact Or.inl h
              · exact Or.inr (by simp [hok, h])
            · intro hn; simpa [hok] using h4 hn
        · have hok' : rawOk cfg r = false := by simpa using hok
          simp only [hok', Bool.false_eq_true, if_false]
          refine ⟨?_, by simp, ?_, by simp [hok']⟩
          · simp [takeRem, items, hok']
          · intro hn
            cases r <;> simp_all [rawOk]

/-! ### lists -/

theorem takeWhile_append_all {α} (p : α → Bool) (l m : List α) (h : l.all p = true) :
    (l ++ m).takeWhile p = l ++ m.takeWhile p :=
  List.takeWhile_append_of_pos (by simpa using h)

theorem takeWhile_append_not_all {α} (p : α → Bool) (l m : List α) (h : l.all p = false) :
    (l ++ m).takeWhile p = l.takeWhile p := by
  induction l with
  | nil => simp at h
  | cons a l ih =>
    by_cases ha : p a = true
    · have : l.all p = false := by simpa [ha] using h
      simp [ha, ih this]
    · simp [ha]

theorem takeWhile_all {α} (p : α → Bool) (l : List α) (h : l.all p = true) : l.takeWhile p = l := by
  have := takeWhile_append_all p l [] h
  simpa using this

/-- the ammo of the harmless prefix of `raws ++ more` -/
theorem items_append_all (cfg : ProvCfg) (raws more : List Raw) (h : raws.all (rawOk cfg) = true) :
    items cfg (raws ++ more) = items cfg raws ++ items cfg more := by
  simp [items, takeWhile_append_all _ _ _ h, takeWhile_all _ _ h]

theorem items_append_not_all (cfg : ProvCfg) (raws more : List Raw) (h : raws.all (rawOk cfg) = false) :
    items cfg (raws ++ more) = items cfg raws := by
  simp [items, takeWhile_append_not_all _ _ _ h]

/-- `items` of a longer list of lines extends `items` of a prefix -/
theorem items_prefix (cfg : ProvCfg) (raws more : List Raw) : ∃ t, items cfg (raws ++ more) = items cfg raws ++ t := by
  by_cases h : raws.all (rawOk cfg) = true
  · exact ⟨_, items_append_all cfg raws more h⟩
  · exact ⟨[], by simp [items_append_not_all cfg raws more (by simpa using h)]⟩

/-- the lines of `k` passes, one after another -/
def passesRaws (raws : List Raw) (k : Nat) : List Raw := (List.replicate k raws).flatten

theorem passesRaws_succ (raws : List Raw) (k : Nat) : passesRaws raws (k + 1) = raws ++ passesRaws raws k := by
  simp [passesRaws, List.replicate_succ]

theorem takeRem_prefix (limit n : Nat) (a t : List Entry) (hz : limit ≠ 0) (h : n + (takeRem limit n a).length ≥ limit) :
    takeRem limit n (a ++ t) = takeRem limit n a := by
  simp only [takeRem, hz, beq_iff_eq, if_false] at h ⊢
  have hlen : (a.take (limit - n)).length = min (limit - n) a.length := List.length_take
  have : limit - n ≤ a.length := by omega
  rw [List.take_append_of_le_length this]

/-! ### all passes -/

/-- the ammo delivered by `fuel` passes from here on is the ammo of the harmless prefix of those passes' lines, cut at
the limit. With a configured number of passes `fuel` is the number of passes still to do (the last of them ends the
run); with unlimited passes no pass is ever the last and `fuel` is arbitrary -/
theorem runPasses_spec (cfg : ProvCfg) (raws : List Raw) :
    ∀ (fuel passNum : Nat) (pooled : Entry) (n : Nat), (cfg.passes ≠ 0 → passNum + fuel = cfg.passes) →
      (runPasses cfg raws fuel passNum pooled n).1 = takeRem cfg.limit n (items cfg (passesRaws raws fuel))
  | 0, _, _, _, _ => by simp [runPasses, passesRaws, items, takeRem]
  | fuel + 1, passNum, pooled, n, hsum => by
    obtain ⟨h1, h2, h3, h4⟩ := scanPass_spec cfg raws pooled n
    unfold runPasses
    simp only
    rw [passesRaws_succ]
    by_cases hst : (scanPass cfg raws pooled n).2.2 = .none
    · simp only [hst, bne_self_eq_false, Bool.false_eq_true, if_false]
      by_cases hlim : (cfg.limit != 0 && decide ((scanPass cfg raws pooled n).2.1 ≥ cfg.limit)) = true
      · -- the limit is reached inside this pass
        simp only [hlim, if_true]
        have h0 : cfg.limit ≠ 0 ∧ (scanPass cfg raws pooled n).2.1 ≥ cfg.limit := by simpa using hlim
        obtain ⟨t, ht⟩ := items_prefix cfg raws (passesRaws raws fuel)
        rw [ht, h1]
        rw [h2, h1] at h0
        exact (takeRem_prefix cfg.limit n _ t h0.1 h0.2).symm
      · simp only [hlim, Bool.false_eq_true, if_false]
        have hall : raws.all (rawOk cfg) = true := by
          rcases h3 hst with h | h
          · exact absurd (by simpa using h) (by simpa using hlim)
          · exact h
        by_cases hlast : (cfg.passes != 0 && decide (passNum + 1 ≥ cfg.passes)) = true
        · -- this was the last pass
          simp only [hlast, if_true]
          have hf : fuel = 0 := by
            have hl : cfg.passes ≠ 0 ∧ passNum + 1 ≥ cfg.passes := by simpa using hlast
            have := hsum hl.1
            omega
          subst hf
          simp [passesRaws, h1]
        · simp only [hlast, Bool.false_eq_true, if_false]
          have hsum' : cfg.passes ≠ 0 → passNum + 1 + fuel = cfg.passes := fun h => by have := hsum h; omega
          rw [items_append_all cfg raws _ hall]
          -- nothing cut off in this pass
          have hfull : (scanPass cfg raws pooled n).1 = items cfg raws := by
            rw [h1]
            by_cases hz : cfg.limit = 0
            · simp [takeRem, hz]
            · have hlt : ¬ ((scanPass cfg raws pooled n).2.1 ≥ cfg.limit) := by simpa [hz] using hlim
              rw [h2, h1] at hlt
              simp only [takeRem, hz, beq_iff_eq, if_false, List.length_take] at hlt ⊢
              apply List.take_of_length_le
              omega
          by_cases hzero : ((scanPass cfg raws pooled n).2.1 == 0) = true
          · -- a whole pass without ammo: later passes would deliver nothing either
            simp only [hzero, if_true]
            have hn : (scanPass cfg raws pooled n).2.1 = 0 := by simpa using hzero
            rw [h2] at hn
            have hnil : items cfg raws = [] := by
              rw [← hfull]; exact List.eq_nil_of_length_eq_zero (by omega)
            have hrest : ∀ k, items cfg (passesRaws raws k) = [] := by
              intro k
              induction k with
              | zero => simp [passesRaws, items]
              | succ k ih => rw [passesRaws_succ, items_append_all cfg raws _ hall, hnil, ih]; rfl
            rw [hfull, hnil, hrest]
            simp [takeRem]
          · simp only [hzero, Bool.false_eq_true, if_false]
            have ih := runPasses_spec cfg raws fuel (passNum + 1) ((scanPass cfg raws pooled n).1.getLast?.getD pooled)
              (scanPass cfg raws pooled n).2.1 hsum'
            rw [ih, hfull, h2, hfull]
            by_cases hz : cfg.limit = 0
            · simp [takeRem, hz]
            · simp only [takeRem, hz, beq_iff_eq, if_false]
              rw [List.take_append]
              have hlt : ¬ ((scanPass cfg raws pooled n).2.1 ≥ cfg.limit) := by simpa [hz] using hlim
              rw [h2, hfull] at hlt
              have : (items cfg raws).take (cfg.limit - n) = items cfg raws := List.take_of_length_le (by omega)
              rw [this]
              congr 2
              omega
    · -- the provider stops inside this pass
      have hst' : ((scanPass cfg raws pooled n).2.2 != Stop.none) = true := by simpa using hst
      simp only [hst', if_true]
      rw [items_append_not_all cfg raws _ (h4 hst), h1]


/-! ### the scenario provider's call registry -/

theorem namesDistinct_filter (p : CallDef → Bool) : ∀ (l : List CallDef), namesDistinct l = true → namesDistinct (l.filter p) = true
  | [], _ => rfl
  | cd :: rest, h => by
    simp only [namesDistinct, Bool.and_eq_true, Bool.not_eq_true', List.any_eq_false] at h
    by_cases hp : p cd = true
    · simp only [List.filter_cons, hp, if_true, namesDistinct, Bool.and_eq_true, Bool.not_eq_true', List.any_eq_false]
      refine ⟨?_, namesDistinct_filter p rest h.2⟩
      intro x hx
      exact h.1 x (List.mem_filter.mp hx).1
    · simp only [List.filter_cons, hp, Bool.false_eq_true, if_false]
      exact namesDistinct_filter p rest h.2

theorem keepFirst_distinct : ∀ (l : List CallDef), namesDistinct (keepFirst l) = true
  | [] => rfl
  | cd :: rest => by
    simp only [keepFirst, namesDistinct, Bool.and_eq_true, Bool.not_eq_true', List.any_eq_false]
    refine ⟨?_, namesDistinct_filter _ _ (keepFirst_distinct rest)⟩
    intro x hx
    have := (List.mem_filter.mp hx).2
    simpa using this

theorem find_filter_ne (l : List CallDef) (a n : String) (h : (a == n) = false) :
    (l.filter (·.name != a)).find? (·.name == n) = l.find? (·.name == n) := by
  induction l with
  | nil => rfl
  | cons x xs ih =>
    by_cases hx : (x.name == n) = true
    · have hxa : (x.name != a) = true := by
        have h1 : x.name = n := by simpa using hx
        have h2 : ¬ a = n := by simpa using h
        simp only [bne_iff_ne, ne_eq]
        intro h3
        exact h2 (h3 ▸ h1)
      simp [hxa, hx]
    · by_cases hxa : (x.name != a) = true
      · simp [hxa, hx, ih]
      · simp [hxa, hx, ih]

/-- looking a name up in `keepFirst l` gives the FIRST definition of that name in `l` -/
theorem keepFirst_find : ∀ (l : List CallDef) (n : String), (keepFirst l).find? (·.name == n) = l.find? (·.name == n)
  | [], _ => rfl
  | cd :: rest, n => by
    by_cases h : (cd.name == n) = true
    · simp [keepFirst, h]
    · have h' : (cd.name == n) = false := by simpa using h
      simp only [keepFirst, List.find?_cons, h']
      rw [find_filter_ne _ _ _ h', keepFirst_find rest n]

end Pandora.Proofs.C20Feed
