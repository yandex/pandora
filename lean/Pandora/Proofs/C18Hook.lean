/-
C18 — core/plugin/pluginconfig: what the hook makes of the config data (Model/C18Hook).
-/
import Pandora.Model.C18Hook

namespace Pandora.Proofs.C18Hook
open Pandora.Model.C18Hook

/-- the one well-formed case -/
def WellFormed (fixed : Bool) (dk : DataKind) (nonStrKey : Bool) (data : List KV) (name : String) : Prop :=
  dk ≠ .other ∧ ¬ (dk = .anyMap ∧ nonStrKey = true) ∧
    ∃ t, data.filter (fun kv => isTypeKey kv.key) = [t] ∧ t.isStr = true ∧ t.val = name ∧ (fixed = true → name ≠ "")

theorem parseConf_ok {fixed : Bool} {dk : DataKind} {nsk : Bool} {data : List KV} {name : String} {rest : List KV}
    (h : parseConf fixed dk nsk data = .ok name rest) :
    WellFormed fixed dk nsk data name ∧ rest = data.filter (fun kv => !isTypeKey kv.key) := by
  unfold parseConf at h
  by_cases h1 : dk = .other
  · simp [h1] at h
  · by_cases h2 : (dk = .anyMap && nsk) = true
    · simp [h1, h2] at h
    · simp only [h1, h2, if_false, Bool.false_eq_true] at h
      split at h
      · rename_i t ht
        by_cases h3 : t.isStr = true
        · by_cases h4 : (fixed && decide (t.val = "")) = true
          · simp [h3, h4] at h
          · simp only [h3, Bool.not_true, Bool.false_eq_true, if_false, h4, Parse.ok.injEq] at h
            refine ⟨⟨h1, fun hh => h2 (by simp [hh.1, hh.2]), t, ht, h3, h.1, fun hf hn => h4 ?_⟩, h.2.symm⟩
            rw [h.1]; simp [hf, hn]
        · simp [h3] at h
      · simp at h

theorem parseConf_of_wf {fixed : Bool} {dk : DataKind} {nsk : Bool} {data : List KV} {name : String}
    (h : WellFormed fixed dk nsk data name) :
    parseConf fixed dk nsk data = .ok name (data.filter fun kv => !isTypeKey kv.key) := by
  obtain ⟨h1, h2, t, ht, h3, h4, h5⟩ := h
  unfold parseConf
  have h2' : (dk = .anyMap && nsk) = false := by
    cases hd : decide (dk = .anyMap) <;> cases nsk <;> simp_all
  simp only [h1, if_false, h2', Bool.false_eq_true, ht, h3, Bool.not_true]
  simp [h4]
  exact h5

/-- anything that is not the well-formed case is the error result -/
theorem parseConf_err {fixed : Bool} {dk : DataKind} {nsk : Bool} {data : List KV}
    (h : ¬ ∃ name, WellFormed fixed dk nsk data name) : parseConf fixed dk nsk data = .err := by
  cases hp : parseConf fixed dk nsk data with
  | err => rfl
  | ok name rest => exact absurd ⟨name, (parseConf_ok hp).1⟩ h

/-- a Go map has no order: the model's list may be any enumeration of it -/
theorem wf_perm {fixed : Bool} {dk : DataKind} {nsk : Bool} {data data' : List KV} {name : String}
    (hp : data.Perm data') (h : WellFormed fixed dk nsk data name) : WellFormed fixed dk nsk data' name := by
  obtain ⟨h1, h2, t, ht, h3⟩ := h
  refine ⟨h1, h2, t, ?_, h3⟩
  have := hp.filter (fun kv => isTypeKey kv.key)
  rw [ht] at this
  exact (List.singleton_perm.mp this).symm

end Pandora.Proofs.C18Hook
