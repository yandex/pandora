/-
C18 — WHERE an error result can come from.

`C18_errors` (Spec `errorsOk`) relates a step's result to the failing invocations LOGGED in that step.  This file adds the
other direction of the tie to the world: an error result (or a panic carrying an error) of ANY operation is the error of an
invocation of user code that the fault plan makes fail AND that has an error result at all —
  `.fill i`: a fillConf was given and its i-th invocation fails,
  `.ctor i`: the registered constructor HAS an error result and its i-th invocation fails,
  `.fact i`: the registered factory HAS an error result and its i-th invocation fails —
and nothing else: in particular a constructor (or factory) without an error result never makes `New`, `NewFactory` or a
factory call end with an error, whatever the component it returns is (the trial change seeded/C18-r6-1 takes the
component itself for the error result when its implementation type has an `Error() string` method).
-/
import Pandora.Proofs.C18Run

set_option linter.unusedSimpArgs false

namespace Pandora.Proofs.C18
open Pandora.Model.C18 Pandora.Spec.C18

/-- the failing invocations the world prescribes: the fault plan says so AND the function has an error result -/
def planned (sh : Shape) (w : World) : Err → Bool
  | .fill i => w.hasFill && w.fillFault i
  | .ctor i => sh.ctorErr && w.ctorFault i
  | .fact i => sh.factErr && w.factFault i

/-- every error a step ends with is a planned one -/
def SrcOk (sh : Shape) (w : World) (s : Step) : Prop :=
  ∀ e, (s.res = .err e ∨ s.res = .panic e) → planned sh w e = true

theorem conv_src {sh : Shape} {w : World} {pan : Bool} {e0 : Err} {evs : List Ev} (h : planned sh w e0 = true) :
    SrcOk sh w ⟨evs, conv pan e0⟩ := by
  intro e he
  cases pan <;> simp [conv] at he <;> (subst he; exact h)

theorem ok_src (sh : Shape) (w : World) (evs : List Ev) (p : Product) : SrcOk sh w ⟨evs, .ok p⟩ := by
  intro e he; simp at he

theorem made_src (sh : Shape) (w : World) (evs : List Ev) : SrcOk sh w ⟨evs, .made⟩ := by
  intro e he; simp at he

/-- the failing invocation of a call is one the world prescribes -/
theorem callErr_planned {sh : Shape} {w : World} {doGet vf : Bool} {st : St} {e : Err}
    (h : callErr sh w doGet vf st = some e) : planned sh w e = true := by
  unfold callErr at h
  split at h
  · rename_i hg; cases h; simp only [getFails, Bool.and_eq_true] at hg; simpa [planned, fillFails] using hg.2
  · split at h
    · rename_i hc; cases h; simpa [planned, ctorFails] using hc
    · split at h
      · rename_i hf; cases h; simp only [Bool.and_eq_true] at hf; simpa [planned, factFails] using hf.2
      · simp at h

theorem callSpec_src (sh : Shape) (w : World) (doGet vf pan : Bool) (st : St) :
    SrcOk sh w (callSpec sh w doGet vf pan st).2.2 := by
  cases he : callErr sh w doGet vf st with
  | some e => rw [callSpec_fail pan he]; exact conv_src (callErr_planned he)
  | none => rw [callSpec_ok pan he]; exact ok_src _ _ _ _

theorem facSpec_src (sh : Shape) (w : World) (rf : RegFac) (pan : Bool) (st : St) :
    SrcOk sh w (facSpec sh w rf pan st).2.2 := by
  unfold facSpec
  by_cases hff : factFails sh w st.facts = true
  · simp only [hff, if_true]
    exact conv_src (by simpa [planned, factFails] using hff)
  · simp only [hff, Bool.false_eq_true, if_false]
    exact ok_src _ _ _ _

theorem createSpec_src (sh : Shape) (w : World) (n : Nat) (st : St) (e : Err)
    (h : (createSpec sh w n st).2.2.2 = .error e) : planned sh w e = true := by
  unfold createSpec at h
  by_cases hfa : sh.factory = true
  · simp only [hfa, Bool.not_true, Bool.false_eq_true, if_false] at h
    cases hce : callErr sh w true false st with
    | none => simp [hce] at h
    | some e' =>
      simp only [hce, Except.error.injEq] at h
      subst h
      exact callErr_planned hce
  · simp only [Bool.not_eq_true] at hfa
    simp only [hfa, Bool.not_false, if_true] at h
    by_cases hc : sh.cfg = .none
    · simp only [hc, if_true] at h
      by_cases hf : fillFails w st.fills = true
      · simp only [hf, if_true, Except.error.injEq] at h
        subst h; simpa [planned, fillFails] using hf
      · simp [hf] at h
    · simp [hc] at h

/-- **error source, one creation started in any state** -/
theorem src_phase (inp : Input) (st : St) : ∀ s ∈ (phaseObs inp st).steps, SrcOk inp.sh inp.w s :=
  phase_all inp st (SrcOk inp.sh inp.w) (callSpec_src inp.sh inp.w) (facSpec_src inp.sh inp.w) (made_src _ _)
    (fun s e he e' he' => by
      simp only [Res.err.injEq, reduceCtorEq, or_false] at he'
      subst he'
      exact createSpec_src inp.sh inp.w inp.form.numOut s _ he)

end Pandora.Proofs.C18
