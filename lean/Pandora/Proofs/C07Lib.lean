/-
C07 — lemmas about the library models of Pandora.Model.C07Base (Cut, Split/Join, TrimSpace, Atoi, …).
-/
import Pandora.Model.C07

namespace Pandora.Proofs.C07
open Pandora.Model.C07

theorem cut_append_sep (sep : UInt8) (a b : Bytes) (h : sep ∉ a) : cut sep (a ++ sep :: b) = (a, b, true) := by
  induction a with
  | nil => simp [cut]
  | cons x a ih =>
    simp only [List.mem_cons, not_or] at h
    simp [cut, ih h.2, Ne.symm h.1]

theorem cut_no_sep (sep : UInt8) (a : Bytes) (h : sep ∉ a) : cut sep a = (a, [], false) := by
  induction a with
  | nil => simp [cut]
  | cons x a ih =>
    simp only [List.mem_cons, not_or] at h
    simp [cut, ih h.2, Ne.symm h.1]

theorem splitOn_append_sep (sep : UInt8) (a b : Bytes) (h : sep ∉ a) : splitOn sep (a ++ sep :: b) = a :: splitOn sep b := by
  induction a with
  | nil => simp [splitOn]
  | cons x a ih =>
    simp only [List.mem_cons, not_or] at h
    simp [splitOn, ih h.2, Ne.symm h.1]

theorem splitOn_no_sep (sep : UInt8) (a : Bytes) (h : sep ∉ a) : splitOn sep a = [a] := by
  induction a with
  | nil => simp [splitOn]
  | cons x a ih =>
    simp only [List.mem_cons, not_or] at h
    simp [splitOn, ih h.2, Ne.symm h.1]

theorem splitOn_ne_nil (sep : UInt8) (s : Bytes) : splitOn sep s ≠ [] := by
  induction s with
  | nil => simp [splitOn]
  | cons x a ih =>
    unfold splitOn; split
    · simp
    · split <;> simp

theorem join_splitOn (sep : UInt8) (s : Bytes) : join sep (splitOn sep s) = s := by
  induction s with
  | nil => simp [splitOn, join]
  | cons x a ih =>
    unfold splitOn; split
    · rename_i hx
      cases hs : splitOn sep a with
      | nil => exact absurd hs (splitOn_ne_nil _ _)
      | cons h t => rw [hs] at ih; simp [join, ih, hx]
    · cases hs : splitOn sep a with
      | nil => exact absurd hs (splitOn_ne_nil _ _)
      | cons h t =>
        rw [hs] at ih
        cases t with
        | nil => simp [join] at ih ⊢; exact ih
        | cons t1 t2 => simp [join] at ih ⊢; exact ih

theorem ne_of_lt128 {c : UInt8} (h : c < 128) (x : UInt8) (hx : 128 ≤ x) : c ≠ x := by
  rintro rfl
  exact absurd (Nat.lt_of_lt_of_le (UInt8.lt_iff_toNat_lt.mp h) (UInt8.le_iff_toNat_le.mp hx)) (Nat.lt_irrefl _)

theorem notWs_of_spWidthRev (a : UInt8) (r : Bytes) (h0 : spWidthRev (a :: r) = 0) : isAsciiWs a = false := by
  cases hh : isAsciiWs a with
  | false => rfl
  | true => simp [spWidthRev, hh] at h0

theorem spWidthRev_append (s t : Bytes) (hs : s ≠ []) (h0 : spWidthRev s = 0) (ht : ∀ x ∈ t.head?, x < 128) :
    spWidthRev (s ++ t) = 0 := by
  match s, hs with
  | [a], _ =>
    match t with
    | [] => simpa using h0
    | c :: t2 =>
      have hc : c < 128 := ht c (by simp)
      have hw := notWs_of_spWidthRev a [] h0
      have e1 := ne_of_lt128 hc 194 (by decide)
      have e2 := ne_of_lt128 hc 154 (by decide)
      have e3 := ne_of_lt128 hc 128 (by decide)
      have e4 := ne_of_lt128 hc 129 (by decide)
      cases t2 with
      | nil => simp [spWidthRev, hw, e1]
      | cons d t3 => simp [spWidthRev, hw, e1, e2, e3, e4]
  | [a, b], _ =>
    match t with
    | [] => simpa using h0
    | d :: t2 =>
      have hd : d < 128 := ht d (by simp)
      have hw := notWs_of_spWidthRev a [b] h0
      have e1 := ne_of_lt128 hd 225 (by decide)
      have e2 := ne_of_lt128 hd 226 (by decide)
      have e3 := ne_of_lt128 hd 227 (by decide)
      simp [spWidthRev, hw] at h0 ⊢
      simp [e1, e2, e3]
      exact h0
  | a :: b :: c :: r, _ => simpa [spWidthRev] using h0

theorem ws_lt128 {b : UInt8} (h : isAsciiWs b = true) : b < 128 := by
  simp [isAsciiWs] at h
  rcases h with ((((h|h)|h)|h)|h)|h <;> subst h <;> decide

theorem trimAux_of_zero (w : Bytes → Nat) (s : Bytes) (h : w s = 0) : trimAux w 0 s = s := by
  cases s with
  | nil => rfl
  | cons b r => simp [trimAux, h]

theorem spWidth_ws (b : UInt8) (r : Bytes) (h : isAsciiWs b = true) : spWidth (b :: r) = 1 := by
  simp [spWidth, h]
theorem spWidthRev_ws (b : UInt8) (r : Bytes) (h : isAsciiWs b = true) : spWidthRev (b :: r) = 1 := by
  simp [spWidthRev, h]

theorem trimAux_ws (b : UInt8) (r : Bytes) (h : isAsciiWs b = true) : trimAux spWidth 0 (b :: r) = trimAux spWidth 0 r := by
  simp [trimAux, spWidth_ws b r h]
theorem trimAuxRev_ws (b : UInt8) (r : Bytes) (h : isAsciiWs b = true) : trimAux spWidthRev 0 (b :: r) = trimAux spWidthRev 0 r := by
  simp [trimAux, spWidthRev_ws b r h]

/-! ### white-space runes (ASCII and Unicode) as padding -/

/-- one white-space rune in its UTF-8 encoding -/
inductive WsRune : Bytes → Prop
  | ascii (b : UInt8) (h : isAsciiWs b = true) : WsRune [b]
  | two (c : UInt8) (h : (c == 0x85 || c == 0xA0) = true) : WsRune [0xC2, c]
  | three (b c d : UInt8)
      (h : ((b == 0xE1 && c == 0x9A && d == 0x80) || (b == 0xE2 && c == 0x80 && isE280Sp d)
            || (b == 0xE2 && c == 0x81 && d == 0x9F) || (b == 0xE3 && c == 0x80 && d == 0x80)) = true) :
      WsRune [b, c, d]

/-- a sequence of white-space runes (ASCII blanks, NEL, NBSP, U+1680, U+2000–200A, U+2028/9, U+202F, U+205F, U+3000) -/
inductive allWs : Bytes → Prop
  | nil : allWs []
  | cons (r p : Bytes) (hr : WsRune r) (hp : allWs p) : allWs (r ++ p)

theorem e280_ge {d : UInt8} (h : isE280Sp d = true) : 128 ≤ d := by
  simp only [isE280Sp, Bool.or_eq_true, Bool.and_eq_true, decide_eq_true_eq, beq_iff_eq] at h
  rcases h with ((h | h) | h) | h
  · exact h.1
  · subst h; decide
  · subst h; decide
  · subst h; decide

theorem notWs_of_ge128 {d : UInt8} (h : 128 ≤ d) : isAsciiWs d = false := by
  cases hh : isAsciiWs d with
  | false => rfl
  | true => exact absurd (ws_lt128 hh) (UInt8.not_lt.mpr h)

/-- the three-byte white-space runes, one by one -/
theorem ws3_cases {b c d : UInt8}
    (h : ((b == 0xE1 && c == 0x9A && d == 0x80) || (b == 0xE2 && c == 0x80 && isE280Sp d)
          || (b == 0xE2 && c == 0x81 && d == 0x9F) || (b == 0xE3 && c == 0x80 && d == 0x80)) = true) :
    (b = 0xE1 ∧ c = 0x9A ∧ d = 0x80) ∨ (b = 0xE2 ∧ c = 0x80 ∧ isE280Sp d = true) ∨ (b = 0xE2 ∧ c = 0x81 ∧ d = 0x9F)
      ∨ (b = 0xE3 ∧ c = 0x80 ∧ d = 0x80) := by
  simp only [Bool.or_eq_true, Bool.and_eq_true, beq_iff_eq] at h
  rcases h with ((h | h) | h) | h
  · exact Or.inl ⟨h.1.1, h.1.2, h.2⟩
  · exact Or.inr (Or.inl ⟨h.1.1, h.1.2, h.2⟩)
  · exact Or.inr (Or.inr (Or.inl ⟨h.1.1, h.1.2, h.2⟩))
  · exact Or.inr (Or.inr (Or.inr ⟨h.1.1, h.1.2, h.2⟩))

/-- `TrimSpace` from the left steps over one white-space rune -/
theorem trimAux_rune (r s : Bytes) (hr : WsRune r) : trimAux spWidth 0 (r ++ s) = trimAux spWidth 0 s := by
  cases hr with
  | ascii b h => exact trimAux_ws b s h
  | two c h =>
    have hw : spWidth (0xC2 :: c :: s) = 2 := by
      simp [spWidth, isAsciiWs, h]
    show trimAux spWidth 0 (0xC2 :: c :: s) = _
    simp [trimAux, hw]
  | three b c d h =>
    have hw : spWidth (b :: c :: d :: s) = 3 := by
      rcases ws3_cases h with ⟨rfl, rfl, rfl⟩ | ⟨rfl, rfl, hd⟩ | ⟨rfl, rfl, rfl⟩ | ⟨rfl, rfl, rfl⟩
      · simp [spWidth, isAsciiWs]
      · simp [spWidth, isAsciiWs, hd]
      · simp [spWidth, isAsciiWs]
      · simp [spWidth, isAsciiWs]
    show trimAux spWidth 0 (b :: c :: d :: s) = _
    simp [trimAux, hw]

/-- `TrimSpace` from the right steps over one white-space rune (`DecodeLastRune`) -/
theorem trimAuxRev_rune (r s : Bytes) (hr : WsRune r) : trimAux spWidthRev 0 (r.reverse ++ s) = trimAux spWidthRev 0 s := by
  cases hr with
  | ascii b h => exact trimAuxRev_ws b s h
  | two c h =>
    have hw : spWidthRev (c :: 0xC2 :: s) = 2 := by
      simp only [Bool.or_eq_true, beq_iff_eq] at h
      rcases h with rfl | rfl <;> simp [spWidthRev, isAsciiWs]
    show trimAux spWidthRev 0 (c :: 0xC2 :: s) = _
    simp [trimAux, hw]
  | three b c d h =>
    have hw : spWidthRev (d :: c :: b :: s) = 3 := by
      rcases ws3_cases h with ⟨rfl, rfl, rfl⟩ | ⟨rfl, rfl, hd⟩ | ⟨rfl, rfl, rfl⟩ | ⟨rfl, rfl, rfl⟩
      · simp [spWidthRev, isAsciiWs]
      · simp [spWidthRev, notWs_of_ge128 (e280_ge hd), hd]
      · simp [spWidthRev, isAsciiWs]
      · simp [spWidthRev, isAsciiWs]
    show trimAux spWidthRev 0 (d :: c :: b :: s) = _
    simp [trimAux, hw]

theorem trimAux_pad (p s : Bytes) (hp : allWs p) : trimAux spWidth 0 (p ++ s) = trimAux spWidth 0 s := by
  induction hp with
  | nil => rfl
  | cons r p hr _ ih => rw [List.append_assoc, trimAux_rune r _ hr, ih]

/-- from the right: the reversed padding is stepped over rune by rune -/
theorem trimAuxRev_pad (p s : Bytes) (hp : allWs p) : trimAux spWidthRev 0 (p.reverse ++ s) = trimAux spWidthRev 0 s := by
  induction hp generalizing s with
  | nil => rfl
  | cons r p hr _ ih => rw [List.reverse_append, List.append_assoc, ih, trimAuxRev_rune r s hr]

theorem allWs_append {p q : Bytes} (hp : allWs p) (hq : allWs q) : allWs (p ++ q) := by
  induction hp with
  | nil => exact hq
  | cons r p hr _ ih => rw [List.append_assoc]; exact allWs.cons r _ hr ih

theorem allWs_single {b : UInt8} (h : isAsciiWs b = true) : allWs [b] := by
  have := allWs.cons [b] [] (WsRune.ascii b h) allWs.nil
  simpa using this

theorem allWs_LF : allWs [LF] := allWs_single (by decide)

/-- the bytes of a white-space rune: an ASCII blank, or a byte ≥ 0x80 -/
theorem wsRune_bytes {r : Bytes} (hr : WsRune r) : ∀ b ∈ r, isAsciiWs b = true ∨ 128 ≤ b := by
  cases hr with
  | ascii b h => intro x hx; rw [List.mem_singleton.mp hx]; exact Or.inl h
  | two c h =>
    simp only [Bool.or_eq_true, beq_iff_eq] at h
    rcases h with rfl | rfl <;> decide
  | three b c d h =>
    rcases ws3_cases h with ⟨rfl, rfl, rfl⟩ | ⟨rfl, rfl, hd⟩ | ⟨rfl, rfl, rfl⟩ | ⟨rfl, rfl, rfl⟩
    · decide
    · simp [e280_ge hd]
    · decide
    · decide

theorem allWs_bytes {p : Bytes} (hp : allWs p) : ∀ b ∈ p, isAsciiWs b = true ∨ 128 ≤ b := by
  induction hp with
  | nil => intro b hb; simp at hb
  | cons r p hr _ ih =>
    intro b hb
    rcases List.mem_append.mp hb with h | h
    · exact wsRune_bytes hr b h
    · exact ih b h

/-- the first byte of a white-space rune is an ASCII blank or a UTF-8 lead byte: never a continuation byte -/
theorem wsRune_head {r : Bytes} (hr : WsRune r) : ∃ y t, r = y :: t ∧ (y < 128 ∨ 192 ≤ y) := by
  cases hr with
  | ascii b h => exact ⟨b, [], rfl, Or.inl (ws_lt128 h)⟩
  | two c h => exact ⟨0xC2, [c], rfl, Or.inr (by decide)⟩
  | three b c d h =>
    refine ⟨b, [c, d], rfl, Or.inr ?_⟩
    rcases ws3_cases h with ⟨rfl, _⟩ | ⟨rfl, _⟩ | ⟨rfl, _⟩ | ⟨rfl, _⟩ <;> decide

theorem allWs_head {p : Bytes} (hp : allWs p) : ∀ x ∈ p.head?, x < 128 ∨ 192 ≤ x := by
  cases hp with
  | nil => intro x hx; simp at hx
  | cons r p hr _ =>
    obtain ⟨y, t, rfl, hy⟩ := wsRune_head hr
    intro x hx
    simp at hx; subst hx; exact hy

/-- a white-space rune ends in CR only when it IS the CR -/
theorem wsRune_concat_cr {q r : Bytes} (hr : WsRune r) (h : r = q ++ [13]) : q = [] := by
  have hl : r.getLast? = some 13 := by rw [h, List.getLast?_concat]
  cases hr with
  | ascii b hb => simpa using congrArg List.length h
  | two c hc =>
    simp at hl; subst hl; exact absurd hc (by decide)
  | three b c d hd3 =>
    simp at hl; subst hl
    rcases ws3_cases hd3 with ⟨_, _, h⟩ | ⟨_, _, h⟩ | ⟨_, _, h⟩ | ⟨_, _, h⟩ <;> exact absurd h (by decide)

/-- dropping a final CR from padding leaves padding -/
theorem allWs_of_concat_cr {q : Bytes} (h : allWs (q ++ [13])) : allWs q := by
  generalize hp : q ++ [13] = p at h
  induction h generalizing q with
  | nil => simp at hp
  | cons r p hr hpp ih =>
    rcases List.eq_nil_or_concat p with rfl | ⟨p', z, rfl⟩
    · rw [List.append_nil] at hp
      rw [wsRune_concat_cr hr hp.symm]; exact allWs.nil
    · -- `q ++ [13] = (r ++ p') ++ [z]`: the last bytes agree, and so does what precedes them
      rw [List.concat_eq_append, ← List.append_assoc] at hp
      obtain ⟨rfl, hz⟩ := List.append_inj' hp rfl
      exact allWs.cons r p' hr (ih (by rw [hz, List.concat_eq_append]))

/-- a byte that is not a UTF-8 continuation byte differs from every continuation byte -/
theorem notCont_ne {x c : UInt8} (hx : x < 128 ∨ 192 ≤ x) (hc1 : 128 ≤ c) (hc2 : c < 192) : (x == c) = false := by
  cases h : x == c with
  | false => rfl
  | true =>
    have := eq_of_beq h; subst this
    have h1 := UInt8.le_iff_toNat_le.mp hc1
    have h2 := UInt8.lt_iff_toNat_lt.mp hc2
    rcases hx with hx | hx
    · exact absurd (Nat.lt_of_lt_of_le (UInt8.lt_iff_toNat_lt.mp hx) h1) (Nat.lt_irrefl _)
    · exact absurd (Nat.lt_of_lt_of_le h2 (UInt8.le_iff_toNat_le.mp hx)) (Nat.lt_irrefl _)

theorem notCont_notE280 {x : UInt8} (hx : x < 128 ∨ 192 ≤ x) : isE280Sp x = false := by
  have h1 : (128 : UInt8) ≤ x → 138 < x := fun ha => by
    have ha := UInt8.le_iff_toNat_le.mp ha
    rcases hx with hx | hx
    · have := UInt8.lt_iff_toNat_lt.mp hx; simp at this ha; omega
    · have := UInt8.le_iff_toNat_le.mp hx; apply UInt8.lt_iff_toNat_lt.mpr; simp at this ⊢; omega
  simpa [isE280Sp, notCont_ne hx (c := 168) (by decide) (by decide), notCont_ne hx (c := 169) (by decide) (by decide),
    notCont_ne hx (c := 175) (by decide) (by decide)] using h1

/-- a following ASCII byte or UTF-8 lead byte (anything but a continuation byte) never completes a white-space rune: the
second and third byte of every white-space rune are continuation bytes -/
theorem spWidth_append (s t : Bytes) (hs : s ≠ []) (h0 : spWidth s = 0) (ht : ∀ x ∈ t.head?, x < 128 ∨ 192 ≤ x) :
    spWidth (s ++ t) = 0 := by
  cases t with
  | nil => simpa using h0
  | cons y t2 =>
    have hy := ht y (by simp)
    have hw : ∀ a r, spWidth (a :: r) = 0 → isAsciiWs a = false := fun a r h0 => by
      cases hh : isAsciiWs a with
      | false => rfl
      | true => simp [spWidth, hh] at h0
    match s, hs with
    | [a], _ =>
      cases t2 with
      | nil => simp [spWidth, hw a _ h0, notCont_ne hy (c := 133) (by decide) (by decide), notCont_ne hy (c := 160) (by decide) (by decide)]
      | cons d t3 =>
        simp [spWidth, hw a _ h0, notCont_ne hy (c := 133) (by decide) (by decide), notCont_ne hy (c := 160) (by decide) (by decide),
          notCont_ne hy (c := 154) (by decide) (by decide), notCont_ne hy (c := 128) (by decide) (by decide),
          notCont_ne hy (c := 129) (by decide) (by decide)]
    | [a, b], _ =>
      have e1 := notCont_ne hy (c := 128) (by decide) (by decide)
      have e2 := notCont_ne hy (c := 159) (by decide) (by decide)
      simp [spWidth, hw a _ h0] at h0 ⊢
      simp [beq_eq_false_iff_ne.mp e1, beq_eq_false_iff_ne.mp e2, notCont_notE280 hy]
      exact h0
    | a :: b :: c :: r, _ => simpa [spWidth] using h0

theorem trimLeft_allWs (p : Bytes) (hp : allWs p) : trimLeft p = [] := by
  have := trimAux_pad p [] hp
  simpa [trimLeft, trimAux] using this

/-- `TrimSpace` of padding ++ core ++ padding is the core, when the core has no white-space rune at its ends -/
theorem trimSpace_pad (pre core post : Bytes) (hpre : allWs pre) (hpost : allWs post)
    (h1 : spWidth core = 0) (h2 : spWidthRev core.reverse = 0) :
    trimSpace (pre ++ core ++ post) = core := by
  by_cases hc : core = []
  · subst hc
    have : allWs (pre ++ [] ++ post) := by
      simpa using allWs_append hpre hpost
    rw [trimSpace, trimLeft_allWs _ this]; rfl
  · have hl : trimLeft (pre ++ core ++ post) = core ++ post := by
      unfold trimLeft
      rw [List.append_assoc, trimAux_pad _ _ hpre]
      apply trimAux_of_zero
      exact spWidth_append _ _ hc h1 (allWs_head hpost)
    unfold trimSpace trimRight
    rw [hl, List.reverse_append, trimAuxRev_pad _ _ hpost,
      trimAux_of_zero _ _ h2, List.reverse_reverse]

theorem trimSpace_allWs (p : Bytes) (hp : allWs p) : trimSpace p = [] := by
  have := trimSpace_pad p [] [] hp allWs.nil rfl rfl
  simpa using this

theorem spWidth_ascii (a : UInt8) (r : Bytes) (ha : a < 128) (hw : isAsciiWs a = false) : spWidth (a :: r) = 0 := by
  have e1 := ne_of_lt128 ha 194 (by decide)
  have e2 := ne_of_lt128 ha 225 (by decide)
  have e3 := ne_of_lt128 ha 226 (by decide)
  have e4 := ne_of_lt128 ha 227 (by decide)
  match r with
  | [] => simp [spWidth, hw]
  | [c] => simp [spWidth, hw, e1]
  | c :: d :: _ => simp [spWidth, hw, e1, e2, e3, e4]

theorem spWidthRev_ascii (a : UInt8) (r : Bytes) (ha : a < 128) (hw : isAsciiWs a = false) : spWidthRev (a :: r) = 0 := by
  have e1 := ne_of_lt128 ha 133 (by decide)
  have e2 := ne_of_lt128 ha 160 (by decide)
  have e3 := ne_of_lt128 ha 128 (by decide)
  have e4 := ne_of_lt128 ha 159 (by decide)
  have e5 : ¬ (128 : UInt8) ≤ a := UInt8.not_le.mpr ha
  have e6 := ne_of_lt128 ha 168 (by decide)
  have e7 := ne_of_lt128 ha 169 (by decide)
  have e8 := ne_of_lt128 ha 175 (by decide)
  match r with
  | [] => simp [spWidthRev, hw]
  | [c] => simp [spWidthRev, hw, e1, e2]
  | c :: d :: _ => simp [spWidthRev, hw, e1, e2, e3, e4, e5, e6, e7, e8, isE280Sp]

theorem dropCR_concat_cr (s : Bytes) : dropCR (s ++ [13]) = s := by
  simp [dropCR]

theorem dropCR_of_last_ne (s : Bytes) (h : s.getLast? ≠ some 13) : dropCR s = s := by
  unfold dropCR
  split
  · rename_i h'; exact absurd h' h
  · rfl

def digitOf (d : Nat) : UInt8 := (48 + d).toUInt8

theorem digitOf_toNat (d : Nat) (h : d < 10) : (digitOf d).toNat = 48 + d := by
  simp [digitOf, Nat.toUInt8, UInt8.toNat_ofNat']
  omega

theorem digitOf_isDigit (d : Nat) (h : d < 10) : isDigit (digitOf d) = true := by
  have := digitOf_toNat d h
  simp [isDigit, UInt8.le_iff_toNat_le, this]
  omega

theorem digitsVal_concat (l : Bytes) (d : UInt8) : digitsVal (l ++ [d]) = digitsVal l * 10 + (d.toNat - 48) := by
  simp [digitsVal, List.foldl_append]

theorem natToDec_spec (n : Nat) :
    natToDec n ≠ [] ∧ (∀ b ∈ natToDec n, isDigit b = true) ∧ digitsVal (natToDec n) = n := by
  induction n using Nat.strongRecOn with
  | _ n ih =>
    rw [natToDec]
    split
    · rename_i h
      refine ⟨by simp, ?_, ?_⟩
      · intro b hb; rw [List.mem_singleton.mp hb]; exact digitOf_isDigit n h
      · have := digitOf_toNat n h
        simp only [digitOf] at this
        simp only [digitsVal, List.foldl, this]; omega
    · rename_i h
      have ⟨h1, h2, h3⟩ := ih (n / 10) (by omega)
      refine ⟨by simp, ?_, ?_⟩
      · intro b hb
        rcases List.mem_append.mp hb with hb | hb
        · exact h2 b hb
        · rw [List.mem_singleton.mp hb]; exact digitOf_isDigit (n % 10) (by omega)
      · have := digitOf_toNat (n % 10) (by omega)
        simp only [digitOf] at this
        rw [digitsVal_concat, h3, this]; omega

theorem isDigit_props {b : UInt8} (h : isDigit b = true) :
    b < 128 ∧ isAsciiWs b = false ∧ b ≠ LBR ∧ b ≠ SP ∧ b ≠ LF ∧ b ≠ 45 ∧ b ≠ 43 := by
  simp [isDigit, UInt8.le_iff_toNat_le] at h
  have hb : ∀ x : UInt8, x.toNat < 48 ∨ 57 < x.toNat → b ≠ x := by
    intro x hx e; subst e; omega
  refine ⟨?_, ?_, hb _ (by decide), hb _ (by decide), hb _ (by decide), hb _ (by decide), hb _ (by decide)⟩
  · simp [UInt8.lt_iff_toNat_lt]; omega
  · simp [isAsciiWs, hb 9 (by decide), hb 10 (by decide), hb 11 (by decide), hb 12 (by decide), hb 13 (by decide), hb 32 (by decide)]

/-! ### the size field: optional `+`, leading zeros, decimal digits -/

theorem digitsVal_zeros (z : Nat) (ds : Bytes) : digitsVal (List.replicate z 48 ++ ds) = digitsVal ds := by
  have h : ∀ z : Nat, List.foldl (fun a (d : UInt8) => a * 10 + (d.toNat - 48)) 0 (List.replicate z (48 : UInt8)) = 0 := by
    intro z
    induction z with
    | zero => rfl
    | succ k ih => rw [List.replicate_succ', List.foldl_append, ih]; rfl
  simp only [digitsVal, List.foldl_append, h]

theorem atoiUnsigned_digits (ds : Bytes) (hne : ds ≠ []) (hall : ∀ b ∈ ds, isDigit b = true)
    (hv : digitsVal ds < 9223372036854775808) : atoiUnsigned false ds = some (digitsVal ds : Int) := by
  have hall' : ds.all isDigit = true := List.all_eq_true.mpr hall
  have hemp : ds.isEmpty = false := by cases ds with | nil => exact absurd rfl hne | cons _ _ => rfl
  simp [atoiUnsigned, hall', hemp, hv]

theorem atoi_digits (ds : Bytes) (hne : ds ≠ []) (hall : ∀ b ∈ ds, isDigit b = true)
    (hv : digitsVal ds < 9223372036854775808) : atoi ds = some (digitsVal ds : Int) := by
  cases ds with
  | nil => exact absurd rfl hne
  | cons b r =>
    have hb := isDigit_props (hall b (by simp))
    have := atoiUnsigned_digits (b :: r) hne hall hv
    simp only [atoi, hb.2.2.2.2.2.1, hb.2.2.2.2.2.2, if_false]
    exact this

theorem atoi_natToDec (n : Nat) (hn : n < 9223372036854775808) : atoi (natToDec n) = some (n : Int) := by
  have ⟨h1, h2, h3⟩ := natToDec_spec n
  have := atoi_digits (natToDec n) h1 h2 (by rw [h3]; exact hn)
  rwa [h3] at this

/-- what the decoders need of a size field that denotes `n` -/
structure SizeTok (sz : Bytes) (n : Nat) : Prop where
  noSP : SP ∉ sz
  noLF : LF ∉ sz
  head : ∃ c r, sz = c :: r ∧ c < 128 ∧ isAsciiWs c = false ∧ c ≠ LBR
  revEdge : spWidthRev sz.reverse = 0
  val : atoi sz = some (n : Int)

/-- decimal digits, with or without a `+` in front -/
theorem SizeTok.of_digits (plus : Bool) {ds : Bytes} {n : Nat} (hne : ds ≠ []) (hd : ∀ b ∈ ds, isDigit b = true)
    (hv : digitsVal ds = n) (hn : n < 9223372036854775808) : SizeTok ((if plus then [43] else []) ++ ds) n := by
  have hmem : ∀ b ∈ (if plus then [43] else []) ++ ds, isDigit b = true ∨ b = 43 := by
    intro b hb
    rcases List.mem_append.mp hb with hb | hb
    · cases plus <;> simp at hb; exact Or.inr hb
    · exact Or.inl (hd b hb)
  obtain ⟨c, r, hcr⟩ := List.exists_cons_of_ne_nil hne
  have hc := isDigit_props (hd c (by simp [hcr]))
  refine ⟨?_, ?_, ?_, ?_, ?_⟩
  · intro hm; rcases hmem _ hm with h | h
    · exact (isDigit_props h).2.2.2.1 rfl
    · exact absurd h (by decide)
  · intro hm; rcases hmem _ hm with h | h
    · exact (isDigit_props h).2.2.2.2.1 rfl
    · exact absurd h (by decide)
  · cases plus with
    | true => exact ⟨43, _, rfl, by decide, by decide, by decide⟩
    | false => exact ⟨c, r, by simp [hcr], hc.1, hc.2.1, hc.2.2.1⟩
  · -- the last byte is the last digit
    rw [List.reverse_append]
    cases hrev : ds.reverse with
    | nil => exact absurd (List.reverse_eq_nil_iff.mp hrev) hne
    | cons x t =>
      have hx := isDigit_props (hd x (List.mem_reverse.mp (by rw [hrev]; simp)))
      exact spWidthRev_ascii x _ hx.1 hx.2.1
  · have hu := hv ▸ atoiUnsigned_digits ds hne hd (hv ▸ hn)
    cases plus with
    | true => exact hu
    | false => exact hv ▸ atoi_digits ds hne hd (hv ▸ hn)

theorem sizeText_tok (l : ItemLay) (n : Nat) (hn : sizeOK n = true) : SizeTok (sizeText l n) n := by
  simp only [sizeOK, decide_eq_true_eq] at hn
  have ⟨h1, h2, h3⟩ := natToDec_spec n
  refine SizeTok.of_digits l.szPlus (by simp [h1]) (fun b hb => ?_) (by rw [digitsVal_zeros, h3]) hn
  rcases List.mem_append.mp hb with hb | hb
  · rw [(List.mem_replicate.mp hb).2]; decide
  · exact h2 b hb

/-- a string with a white-space rune at its head splits into that rune and the rest -/
theorem spWidth_split (b : UInt8) (r : Bytes) (h : spWidth (b :: r) ≠ 0) :
    ∃ rune, WsRune rune ∧ b :: r = rune ++ (b :: r).drop (spWidth (b :: r)) := by
  by_cases hb : isAsciiWs b = true
  · refine ⟨[b], WsRune.ascii b hb, ?_⟩
    simp [spWidth, hb]
  · have hb' : isAsciiWs b = false := by simpa using hb
    match r with
    | [] => simp [spWidth, hb'] at h
    | [c] =>
      by_cases h2 : (b == 0xC2 && (c == 0x85 || c == 0xA0)) = true
      · simp only [Bool.and_eq_true, beq_iff_eq] at h2
        obtain ⟨rfl, hc⟩ := h2
        exact ⟨[0xC2, c], WsRune.two c hc, by simp [spWidth, isAsciiWs, hc]⟩
      · simp [spWidth, hb', h2] at h
    | c :: d :: r2 =>
      by_cases h2 : (b == 0xC2 && (c == 0x85 || c == 0xA0)) = true
      · simp only [Bool.and_eq_true, beq_iff_eq] at h2
        obtain ⟨rfl, hc⟩ := h2
        exact ⟨[0xC2, c], WsRune.two c hc, by simp [spWidth, isAsciiWs, hc]⟩
      · by_cases h3 : ((b == 0xE1 && c == 0x9A && d == 0x80) || (b == 0xE2 && c == 0x80 && isE280Sp d)
            || (b == 0xE2 && c == 0x81 && d == 0x9F) || (b == 0xE3 && c == 0x80 && d == 0x80)) = true
        · refine ⟨[b, c, d], WsRune.three b c d h3, ?_⟩
          have hw : spWidth (b :: c :: d :: r2) = 3 := by
            simp only [spWidth, hb', Bool.false_eq_true, if_false, h2, h3, if_true]
          rw [hw]; rfl
        · have hw : spWidth (b :: c :: d :: r2) = 0 := by
            simp only [spWidth, hb', Bool.false_eq_true, if_false, h2, h3]
          exact absurd hw h

theorem wsRunesAux_allWs : ∀ (n : Nat) (p : Bytes), wsRunesAux n p = true → allWs p
  | _, [], _ => allWs.nil
  | 0, _ :: _, h => by simp [wsRunesAux] at h
  | n + 1, b :: r, h => by
    simp only [wsRunesAux, Bool.and_eq_true, bne_iff_ne, ne_eq] at h
    obtain ⟨rune, hr, he⟩ := spWidth_split b r h.1
    rw [he]
    exact allWs.cons rune _ hr (wsRunesAux_allWs n _ h.2)

theorem padOK_allWs {p : Bytes} (h : padOK p = true) : allWs p := by
  simp only [padOK, Bool.and_eq_true] at h
  exact wsRunesAux_allWs _ _ h.1

theorem padOK_noLF {p : Bytes} (h : padOK p = true) : LF ∉ p := by
  simp only [padOK, Bool.and_eq_true, Bool.not_eq_true', List.contains_eq_mem, decide_eq_false_iff_not] at h
  exact h.2

theorem ws_ne_colon {b : UInt8} (h : isAsciiWs b = true) : b ≠ COLON := by
  intro e; subst e; simp [isAsciiWs, COLON] at h

theorem padOK_noColon {p : Bytes} (h : padOK p = true) : COLON ∉ p := by
  intro hb
  rcases allWs_bytes (padOK_allWs h) _ hb with h1 | h1
  · exact ws_ne_colon h1 rfl
  · exact absurd h1 (by decide)

theorem noLF_iff (s : Bytes) : noLF s = true ↔ LF ∉ s := by simp [noLF]

/-- `util.DecodeHeader` reads back a rendered header line -/
theorem decodeHeader_render (k v i1 i2 i3 i4 : Bytes) (hk : hdrKeyOK k = true) (hv : hdrValOK v = true)
    (h1 : padOK i1 = true) (h2 : padOK i2 = true) (h3 : padOK i3 = true) (h4 : padOK i4 = true) :
    decodeHeader (LBR :: (i1 ++ k ++ i2 ++ COLON :: (i3 ++ v ++ i4 ++ [RBR]))) = .ok (k, v) := by
  simp only [hdrKeyOK, hdrValOK, edgesOK, Bool.and_eq_true, beq_iff_eq, Bool.not_eq_true', noLF] at hk hv
  obtain ⟨⟨⟨hk1, hk2⟩, hk3⟩, hk4, hk5⟩ := hk
  obtain ⟨hv2, hv4, hv5⟩ := hv
  have hcut : cut COLON ((LBR :: (i1 ++ k ++ i2 ++ COLON :: (i3 ++ v ++ i4 ++ [RBR]))).drop 1).dropLast
      = (i1 ++ k ++ i2, i3 ++ v ++ i4, true) := by
    have : ((LBR :: (i1 ++ k ++ i2 ++ COLON :: (i3 ++ v ++ i4 ++ [RBR]))).drop 1).dropLast
        = (i1 ++ k ++ i2) ++ COLON :: (i3 ++ v ++ i4) := by
      simp only [List.drop_one, List.tail_cons]
      rw [show i1 ++ k ++ i2 ++ COLON :: (i3 ++ v ++ i4 ++ [RBR]) = (i1 ++ k ++ i2 ++ COLON :: (i3 ++ v ++ i4)) ++ [RBR] by simp]
      exact List.dropLast_concat
    rw [this]
    apply cut_append_sep
    intro hm
    rcases List.mem_append.mp hm with hm | hm
    · rcases List.mem_append.mp hm with hm | hm
      · exact padOK_noColon h1 hm
      · simp at hk3; exact hk3 hm
    · exact padOK_noColon h2 hm
  unfold decodeHeader
  have hlast : (LBR :: (i1 ++ k ++ i2 ++ COLON :: (i3 ++ v ++ i4 ++ [RBR]))).getLast? = some RBR := by
    rw [show LBR :: (i1 ++ k ++ i2 ++ COLON :: (i3 ++ v ++ i4 ++ [RBR])) = (LBR :: (i1 ++ k ++ i2 ++ COLON :: (i3 ++ v ++ i4))) ++ [RBR] by simp]
    exact List.getLast?_concat
  have tk : trimSpace (i1 ++ k ++ i2) = k := trimSpace_pad i1 k i2 (padOK_allWs h1) (padOK_allWs h2) hk4 hk5
  have tv : trimSpace (i3 ++ v ++ i4) = v := trimSpace_pad i3 v i4 (padOK_allWs h3) (padOK_allWs h4) hv4 hv5
  rw [hcut]
  simp only [hlast, tk, tv]
  simp [hk1]
  omega

end Pandora.Proofs.C07
