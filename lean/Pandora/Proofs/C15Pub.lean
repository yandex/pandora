/-
C15 — under every schedule of any number of instances, `getTemplate` as it is (parse, then publish) never returns
a template object that is not parsed; the publish-first order of seed C15-r6-2 does.
-/
import Pandora.Model.C15Pub

namespace Pandora.Proofs.C15
open Pandora.Model.C15

/-- the statement list of the real `getTemplate` -/
def realGet : List PubOp := [.load, .branch, .parse, .chk, .store, .join, .ret]

theorem ofGetCode_getCode : ofGetCode getCode = realGet := by decide

def validId (heap : List Bool) (o : Option Nat) : Prop := ∀ i, o = some i → i < heap.length

/-- where an instance can be, and what it then knows -/
def ThOK (heap : List Bool) (th : PTh) : Prop :=
  th.exposed = false ∧
  (th.code = realGet ∨
   (th.code = realGet.drop 1 ∧ th.ok = th.tmpl.isSome ∧ validId heap th.tmpl) ∨
   th.code = realGet.drop 2 ∨
   ((th.code = realGet.drop 3 ∨ th.code = realGet.drop 4 ∨ th.code = realGet.drop 5 ∨ th.code = realGet.drop 6) ∧
      ∃ i, th.tmpl = some i ∧ i < heap.length) ∨
   th.code = [])

structure PInv (s : PSys) : Prop where
  parsed : ∀ i, i < s.heap.length → s.heap.getD i false = true
  cache : validId s.heap s.cache
  ths : ∀ t, ThOK s.heap (s.ths t)

theorem ThOK_mono {heap : List Bool} {th : PTh} (b : Bool) (h : ThOK heap th) : ThOK (heap ++ [b]) th := by
  obtain ⟨he, h⟩ := h
  refine ⟨he, ?_⟩
  rcases h with h | ⟨h1, h2, h3⟩ | h | ⟨h1, i, hi, hl⟩ | h
  · exact Or.inl h
  · refine Or.inr (Or.inl ⟨h1, h2, ?_⟩)
    intro i hi; have := h3 i hi; simp; omega
  · exact Or.inr (Or.inr (Or.inl h))
  · exact Or.inr (Or.inr (Or.inr (Or.inl ⟨h1, i, hi, by simp; omega⟩)))
  · exact Or.inr (Or.inr (Or.inr (Or.inr h)))

theorem init_inv : PInv (PSys.init realGet) :=
  { parsed := by intro i hi; simp [PSys.init] at hi
    cache := by intro i hi; simp [PSys.init] at hi
    ths := fun _ => ⟨rfl, Or.inl rfl⟩ }

theorem setTh_same (f : Nat → PTh) (t : Nat) (x : PTh) : setTh f t x t = x := by simp [setTh]
theorem setTh_other (f : Nat → PTh) (t u : Nat) (x : PTh) (h : u ≠ t) : setTh f t x u = f u := by simp [setTh, h]

/-- **frame**: a statement that allocates nothing — it replaces the record of instance `t` and may publish a valid
object — keeps the invariant when the new record is in order -/
theorem PInv.frame {s : PSys} (h : PInv s) (t : Nat) {c : Option Nat} {x : PTh} (hc : validId s.heap c)
    (hx : ThOK s.heap x) : PInv { s with cache := c, ths := setTh s.ths t x } :=
  { parsed := h.parsed
    cache := hc
    ths := fun u => by
      by_cases hu : u = t
      · subst hu; simp only [setTh_same]; exact hx
      · simp only [setTh_other _ _ _ _ hu]; exact h.ths u }

/-- every statement of every instance preserves the invariant -/
theorem step_inv (s : PSys) (t : Nat) (h : PInv s) : PInv (s.step t) := by
  obtain ⟨hex, hcode⟩ := h.ths t
  have hc := h.cache
  rcases hcode with h0 | ⟨h1, h2, h3⟩ | h0 | ⟨h1, i, hi, hl⟩ | h0
  · -- load
    simp only [PSys.step, h0, realGet]
    exact h.frame t hc ⟨hex, Or.inr (Or.inl ⟨rfl, rfl, hc⟩)⟩
  · -- branch
    simp only [PSys.step, h1, realGet, List.drop]
    refine h.frame t hc ⟨hex, ?_⟩
    by_cases hok : (s.ths t).ok = true
    · obtain ⟨i, hi⟩ := Option.isSome_iff_exists.mp (h2 ▸ hok)
      refine Or.inr (Or.inr (Or.inr (Or.inl ⟨Or.inr (Or.inr (Or.inr ?_)), i, hi, h3 i hi⟩)))
      simp [hok, realGet]
    · refine Or.inr (Or.inr (Or.inl ?_))
      simp [hok, realGet]
  · -- parse: the heap grows by a parsed object
    simp only [PSys.step, h0, realGet, List.drop]
    refine { parsed := fun i hi => ?_, cache := fun i hi => ?_, ths := fun u => ?_ }
    · by_cases hlt : i < s.heap.length
      · simpa [List.getD, List.getElem?_append_left hlt] using h.parsed i hlt
      · have : i = s.heap.length := by simp at hi; omega
        subst this; simp [List.getD]
    · have := hc i hi; simp; omega
    · by_cases hu : u = t
      · subst hu
        simp only [setTh_same]
        exact ⟨hex, Or.inr (Or.inr (Or.inr (Or.inl ⟨Or.inl rfl, s.heap.length, rfl, by simp⟩)))⟩
      · simp only [setTh_other _ _ _ _ hu]; exact ThOK_mono true (h.ths u)
  · -- chk / store / join / ret
    rcases h1 with h1 | h1 | h1 | h1 <;> simp only [PSys.step, h1, realGet, List.drop]
    · exact h.frame t hc ⟨hex, Or.inr (Or.inr (Or.inr (Or.inl ⟨Or.inr (Or.inl rfl), i, hi, hl⟩)))⟩
    · exact h.frame t (fun j hj => by rw [hi] at hj; cases hj; exact hl)
        ⟨hex, Or.inr (Or.inr (Or.inr (Or.inl ⟨Or.inr (Or.inr (Or.inl rfl)), i, hi, hl⟩)))⟩
    · exact h.frame t hc ⟨hex, Or.inr (Or.inr (Or.inr (Or.inl ⟨Or.inr (Or.inr (Or.inr rfl)), i, hi, hl⟩)))⟩
    · refine h.frame t hc ⟨?_, Or.inr (Or.inr (Or.inr (Or.inr rfl)))⟩
      simpa [hi, List.getD] using h.parsed i hl
  · -- finished
    have : s.step t = s := by simp [PSys.step, h0]
    rw [this]; exact h

theorem run_inv (s : PSys) (sched : List Nat) (h : PInv s) : PInv (s.run sched) := by
  induction sched generalizing s with
  | nil => exact h
  | cons t r ih => exact ih (s.step t) (step_inv s t h)

end Pandora.Proofs.C15
