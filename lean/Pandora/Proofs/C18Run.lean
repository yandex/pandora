/-
C18 — from the per-operation lemmas of Proofs/C18 to statements about a whole phase (`phaseObs`: one creation and its
calls, started in any state; `Model.C18.run` is the phase started right after registration): case analysis of a phase,
then the assembled Spec predicates `freshOk` and `onceOk`.
-/
import Pandora.Proofs.C18

namespace Pandora.Proofs.C18
open Pandora.Model.C18 Pandora.Spec.C18

/-- a phase starts with an empty event log -/
abbrev st0 (st : St) : St := { st with log := [] }

/-- creation step + state of `NewFactory` for the requested form, in a phase started in `st` -/
abbrev created (inp : Input) (st : St) : St × Except Err Fac :=
  regNewFactory inp.sh inp.w inp.form.numOut (st0 st)

/-- the k calls of `New` -/
abbrev newCalls (inp : Input) (st : St) : St × List Step :=
  iter (step (regNew inp.sh inp.w)) inp.k (st0 st)

/-- the k calls of the factory `fac` handed out by `NewFactory` -/
abbrev facCalls (inp : Input) (st : St) (fac : Fac) : St × List Step :=
  iter (step (callFac inp.sh inp.w fac)) inp.k (created inp st).1

/-- every phase is: either k calls of `New`, or a failed `NewFactory`, or a successful `NewFactory` followed by k
calls of its result -/
theorem phase_cases (inp : Input) (st : St) :
    ((inp.form = .component ∧ (phaseObs inp st).steps = (newCalls inp st).2 ∧
        (phaseObs inp st).views = viewsOf (newCalls inp st).1.heap (newCalls inp st).2) ∨
     (inp.form ≠ .component ∧ (inp.form.numOut = 1 ∨ inp.form.numOut = 2) ∧
        (inp.form == .facNoErr) = (inp.form.numOut == 1) ∧
        ((∃ e, (created inp st).2 = .error e ∧ (phaseObs inp st).steps = [⟨(created inp st).1.log.reverse, .err e⟩]) ∨
         (∃ fac, (created inp st).2 = .ok fac ∧
            (phaseObs inp st).steps = ⟨(created inp st).1.log.reverse, .made⟩ :: (facCalls inp st fac).2 ∧
            (phaseObs inp st).views = viewsOf (facCalls inp st fac).1.heap (phaseObs inp st).steps)))) := by
  obtain ⟨sh, form, w, k⟩ := inp
  cases form with
  | component => exact .inl ⟨rfl, rfl, rfl⟩
  | facNoErr =>
    refine .inr ⟨by simp, .inl rfl, rfl, ?_⟩
    cases hc : (regNewFactory sh w Form.facNoErr.numOut (st0 st)).2 with
    | error e =>
      refine .inl ⟨e, rfl, ?_⟩
      simp only [phaseObs, phaseSt, hc]
    | ok fac =>
      refine .inr ⟨fac, rfl, ?_, ?_⟩ <;> simp only [phaseObs, phaseSt, hc]
  | facErr =>
    refine .inr ⟨by simp, .inr rfl, rfl, ?_⟩
    cases hc : (regNewFactory sh w Form.facErr.numOut (st0 st)).2 with
    | error e =>
      refine .inl ⟨e, rfl, ?_⟩
      simp only [phaseObs, phaseSt, hc]
    | ok fac =>
      refine .inr ⟨fac, rfl, ?_, ?_⟩ <;> simp only [phaseObs, phaseSt, hc]

/-- the final state of a phase -/
theorem phase_state (inp : Input) (st : St) :
    (inp.form = .component ∧ (phaseSt inp st).1 = (newCalls inp st).1) ∨
    (inp.form ≠ .component ∧ (inp.form.numOut = 1 ∨ inp.form.numOut = 2) ∧
      ((∃ e, (created inp st).2 = .error e ∧ (phaseSt inp st).1 = (created inp st).1) ∨
       (∃ fac, (created inp st).2 = .ok fac ∧ (phaseSt inp st).1 = (facCalls inp st fac).1))) := by
  obtain ⟨sh, form, w, k⟩ := inp
  cases form with
  | component => exact .inl ⟨rfl, rfl⟩
  | facNoErr =>
    refine .inr ⟨by simp, .inl rfl, ?_⟩
    cases hc : (regNewFactory sh w Form.facNoErr.numOut (st0 st)).2 with
    | error e => exact .inl ⟨e, rfl, by simp only [phaseSt, hc]⟩
    | ok fac => exact .inr ⟨fac, rfl, by simp only [phaseSt, hc]⟩
  | facErr =>
    refine .inr ⟨by simp, .inr rfl, ?_⟩
    cases hc : (regNewFactory sh w Form.facErr.numOut (st0 st)).2 with
    | error e => exact .inl ⟨e, rfl, by simp only [phaseSt, hc]⟩
    | ok fac => exact .inr ⟨fac, rfl, by simp only [phaseSt, hc]⟩

theorem viewsOf_made (heap : Nat → Cfg) (evs : List Ev) (l : List Step) :
    viewsOf heap (⟨evs, .made⟩ :: l) = viewsOf heap l := by
  simp [viewsOf]

/-- the steps of a phase, by position: for `New` k calls; otherwise a creation step — `made` and then k calls, or an
error and nothing more.  `Pc` of the creation step and `P` of every call follow from the same of the explicit forms -/
theorem phase_steps (inp : Input) (st : St) (Pc P : Step → Prop)
    (hcall : inp.form = .component ∨ inp.sh.factory = false → ∀ doGet s, doGet = reconfigures inp →
      P (callSpec inp.sh inp.w doGet (doGet && inp.sh.factory) (inp.form == .facNoErr) s).2.2)
    (hfac : inp.form ≠ .component → inp.sh.factory = true → ∀ rf s,
      P (facSpec inp.sh inp.w rf (inp.form == .facNoErr) s).2.2)
    (hcreate : inp.form ≠ .component → ∀ s, Pc ⟨(createSpec inp.sh inp.w inp.form.numOut s).2.2.1,
      resOf (createSpec inp.sh inp.w inp.form.numOut s).2.2.2⟩) :
    (inp.form = .component ∧ (phaseObs inp st).steps.length = inp.k ∧ ∀ s ∈ (phaseObs inp st).steps, P s) ∨
    (inp.form ≠ .component ∧ ∃ c calls, (phaseObs inp st).steps = c :: calls ∧ Pc c ∧
      (c.res = .made ∧ calls.length = inp.k ∨ (∃ e, c.res = .err e) ∧ calls = []) ∧ ∀ s ∈ calls, P s) := by
  rcases phase_cases inp st with ⟨hf, hsteps, _⟩ | ⟨hf, hn, hpan, hcr⟩
  · refine .inl ⟨hf, by rw [hsteps]; exact iter_length _ _ _, ?_⟩
    rw [hsteps]
    exact (iter_inv (step (regNew inp.sh inp.w)) (fun _ => True) P (fun s _ => ⟨trivial, by
      have := hcall (.inl hf) true s (by simp [reconfigures, hf])
      rw [(tri_step (step_regNew inp.sh inp.w s)).2.2]
      simpa [hf, show (Form.component == Form.facNoErr) = false from rfl] using this⟩) inp.k (st0 st) trivial).2
  · obtain ⟨_, _, q3, q4⟩ := quad_proj (create_eq inp.sh inp.w inp.form.numOut (st0 st) rfl)
    have hc := hcreate hf (st0 st)
    rw [← q3, ← q4] at hc
    rcases hcr with ⟨e, he, hsteps⟩ | ⟨fac, hcfac, hsteps, _⟩
    · rw [he] at hc
      exact .inr ⟨hf, _, [], hsteps, hc, .inr ⟨⟨e, rfl⟩, rfl⟩, by simp⟩
    · rw [hcfac] at hc
      refine .inr ⟨hf, _, _, hsteps, hc, .inl ⟨rfl, iter_length _ _ _⟩, ?_⟩
      have hok := createSpec_facOk inp.sh inp.w inp.form.numOut (st0 st) fac (by rw [← q4]; exact hcfac)
      rcases callFac_cases inp.sh inp.w inp.form.numOut hn fac hok with ⟨hfa, doGet, hdg, h⟩ | ⟨hfa, rf, _, h⟩
      · have hd : doGet = reconfigures inp := by
          cases doGet <;> simp [reconfigures, hf, hfa] at hdg ⊢ <;> exact hdg
        exact (iter_inv (step (callFac inp.sh inp.w fac)) (fun _ => True) P (fun s _ => ⟨trivial, by
          have := hcall (.inr hfa) doGet s hd
          rw [(tri_step (h s)).2.2, ← hpan]
          simpa [hfa] using this⟩) inp.k _ trivial).2
      · exact (iter_inv (step (callFac inp.sh inp.w fac)) (fun _ => True) P (fun s _ => ⟨trivial, by
          rw [(tri_step (h s)).2.2, ← hpan]; exact hfac hf hfa rf s⟩) inp.k _ trivial).2

/-- a property of single steps holds of every step of a phase when it holds of every operation a phase can consist of -/
theorem phase_all (inp : Input) (st : St) (P : Step → Prop)
    (hcall : ∀ doGet vf pan s, P (callSpec inp.sh inp.w doGet vf pan s).2.2)
    (hfac : ∀ rf pan s, P (facSpec inp.sh inp.w rf pan s).2.2)
    (hmade : ∀ evs, P ⟨evs, .made⟩)
    (herr : ∀ s e, (createSpec inp.sh inp.w inp.form.numOut s).2.2.2 = .error e →
      P ⟨(createSpec inp.sh inp.w inp.form.numOut s).2.2.1, .err e⟩) :
    ∀ s ∈ (phaseObs inp st).steps, P s := by
  intro s hs
  rcases phase_steps inp st P P (fun _ doGet s _ => hcall _ _ _ s) (fun _ _ rf s => hfac _ _ s) (fun _ s => by
    cases hr : (createSpec inp.sh inp.w inp.form.numOut s).2.2.2 with
    | error e => exact herr s e hr
    | ok fac => exact hmade _) with ⟨_, _, hall⟩ | ⟨_, c, calls, hst, hc, _, hcalls⟩
  · exact hall s hs
  · rw [hst, List.mem_cons] at hs
    rcases hs with rfl | hs
    · exact hc
    · exact hcalls s hs

theorem callsOf_ne {inp : Input} (obs : Obs) (hf : inp.form ≠ .component) : callsOf inp obs = obs.steps.drop 1 := by
  unfold callsOf
  split
  · contradiction
  · rfl

/-- a phase of a form that configures per product (`New`, or a factory made from a component constructor; the constructor
takes a config) is k iterations of ONE reconfiguring call `f`, after a creation step that runs no user code and changes
nothing (no such step for `New`) -/
theorem percall_iter (inp : Input) (st : St) (hc : inp.sh.cfg ≠ .none)
    (hform : inp.form = .component ∨ inp.sh.factory = false) :
    ∃ (f : St → St × Step) (pan : Bool) (st1 : St) (pre : List Step),
      (∀ s, tri (f s) = callSpec inp.sh inp.w true inp.sh.factory pan s) ∧ st1.next = st.next ∧
      (phaseObs inp st).steps = pre ++ (iter f inp.k st1).2 ∧
      (inp.form = .component ∧ pre = [] ∨ inp.form ≠ .component ∧ pre = [⟨[], .made⟩]) ∧
      callsOf inp (phaseObs inp st) = (iter f inp.k st1).2 ∧
      (phaseObs inp st).views = viewsOf (iter f inp.k st1).1.heap (iter f inp.k st1).2 ∧
      (phaseSt inp st).1 = (iter f inp.k st1).1 := by
  by_cases hf : inp.form = .component
  · refine ⟨step (regNew inp.sh inp.w), false, st0 st, [], step_regNew inp.sh inp.w, rfl, ?_, .inl ⟨hf, rfl⟩, ?_, ?_, ?_⟩ <;>
      simp only [phaseObs, phaseSt, callsOf, hf, List.nil_append]
  · have hfa : inp.sh.factory = false := hform.resolve_left hf
    obtain ⟨_, q2, q3, q4⟩ := quad_proj (create_eq inp.sh inp.w inp.form.numOut (st0 st) rfl)
    rw [createSpec_plain _ _ _ hfa hc] at q2 q3 q4
    rcases phase_cases inp st with ⟨hf', _⟩ | ⟨_, hn, _, ⟨e, he, _⟩ | ⟨fac, hfac, hsteps, hviews⟩⟩
    · exact absurd hf' hf
    · rw [q4] at he; cases he
    · obtain rfl : Fac.wrapPlugin inp.form.numOut = fac := by rw [q4] at hfac; cases hfac; rfl
      rw [q3] at hsteps
      have hst : (phaseSt inp st).1 = (facCalls inp st (.wrapPlugin inp.form.numOut)).1 := by
        rcases phase_state inp st with ⟨hf', _⟩ | ⟨_, _, ⟨e, he, _⟩ | ⟨fac, hfac, hst⟩⟩
        · exact absurd hf' hf
        · rw [q4] at he; cases he
        · obtain rfl : Fac.wrapPlugin inp.form.numOut = fac := by rw [q4] at hfac; cases hfac; rfl
          exact hst
      refine ⟨step (callFac inp.sh inp.w (.wrapPlugin inp.form.numOut)), inp.form.numOut == 1, (created inp st).1,
        [⟨[], .made⟩], fun s => by rw [hfa]; exact step_wrapPlugin inp.sh inp.w _ hn s hc, q2, hsteps, .inr ⟨hf, rfl⟩,
        by rw [callsOf_ne _ hf, hsteps]; rfl, by rw [hviews, hsteps, viewsOf_made], hst⟩

/-- the calls hold all products of a phase: the creation step holds none -/
theorem calls_cells (inp : Input) (st : St) :
    (callsOf inp (phaseObs inp st)).filterMap prodCell? = phaseCells (phaseObs inp st) := by
  have hcase := phase_cases inp st
  generalize phaseObs inp st = obs at hcase ⊢
  unfold callsOf phaseCells
  rcases hcase with ⟨hf, _⟩ | ⟨hf, _, _, ⟨e, _, hsteps⟩ | ⟨fac, _, hsteps, _⟩⟩
  · rw [hf]
  · cases hform : inp.form <;> simp [hsteps, prodCell?, product?] at hf ⊢
  · cases hform : inp.form <;> simp [hsteps, List.filterMap_cons, prodCell?, product?] at hf ⊢

theorem st0_initSt (sh : Shape) (w : World) : st0 (initSt sh w) = initSt sh w := by
  unfold initSt; split <;> rfl

/-- a run is the phase started in the state right after registration -/
theorem run_eq_phase {inp : Input} {obs : Obs} (h : run inp = some obs) :
    registerOk inp.sh = true ∧ obs = phaseObs inp (initSt inp.sh inp.w) := by
  obtain ⟨sh, form, w, k⟩ := inp
  unfold run runSt at h
  by_cases hr : registerOk sh = true
  · refine ⟨hr, ?_⟩
    simp only [hr, Bool.not_true, Bool.false_eq_true, if_false] at h
    have h0 := st0_initSt sh w
    cases form with
    | component =>
      simp only [Option.map_some, Option.some.injEq] at h
      subst h
      simp only [phaseObs, phaseSt, h0]
    | facNoErr =>
      simp only at h
      cases hc : (regNewFactory sh w Form.facNoErr.numOut (initSt sh w)).2 with
      | error e =>
        simp only [hc, Option.map_some, Option.some.injEq] at h
        subst h
        simp only [phaseObs, phaseSt, h0, hc]
      | ok fac =>
        simp only [hc, Option.map_some, Option.some.injEq] at h
        subst h
        simp only [phaseObs, phaseSt, h0, hc]
    | facErr =>
      simp only at h
      cases hc : (regNewFactory sh w Form.facErr.numOut (initSt sh w)).2 with
      | error e =>
        simp only [hc, Option.map_some, Option.some.injEq] at h
        subst h
        simp only [phaseObs, phaseSt, h0, hc]
      | ok fac =>
        simp only [hc, Option.map_some, Option.some.injEq] at h
        subst h
        simp only [phaseObs, phaseSt, h0, hc]
  · simp [hr] at h

theorem nodup_of (l : List Nat) (h : l.Nodup) : nodup l = true := by simp [nodup, h]

/-- the creation step of such a phase (if there is one) shows no user code -/
theorem percall_head {inp : Input} {obs : Obs} {pre calls : List Step} (hsteps : obs.steps = pre ++ calls)
    (hpre : inp.form = .component ∧ pre = [] ∨ inp.form ≠ .component ∧ pre = [⟨[], .made⟩]) :
    (inp.form == .component || (obs.steps.head?.map (·.evs)) == some []) = true := by
  rcases hpre with ⟨h, _⟩ | ⟨_, rfl⟩
  · simp [h]
  · simp [hsteps]

/-- `freshOk` of a phase started in any state -/
theorem fresh_phase (inp : Input) (st : St) (ha : freshApplies inp = true) :
    freshOk inp (phaseObs inp st) = true := by
  simp only [freshApplies, Bool.and_eq_true, bne_iff_ne, ne_eq, Bool.or_eq_true, beq_iff_eq,
    Bool.not_eq_true'] at ha
  obtain ⟨⟨hc, hs⟩, hform⟩ := ha
  obtain ⟨f, pan, st1, pre, hf, _, hsteps, hpre, hcalls, hviews, _⟩ := percall_iter inp st hc hform
  obtain ⟨f1, f2, f3, f4, f5⟩ := fresh_iter inp.sh inp.w pan f hf hc hs inp.k st1
  simp only [freshOk, hcalls, percall_head hsteps hpre, hviews, Bool.true_and, Bool.and_eq_true, List.all_eq_true,
    beq_iff_eq]
  exact ⟨⟨⟨⟨⟨f1, nodup_of _ f2⟩, nodup_of _ f3⟩, nodup_of _ f4⟩, f5⟩, viewsOf_length _ _⟩

/-- `onceOk` of a phase started in any state -/
theorem once_phase (inp : Input) (st : St) (ha : onceApplies inp = true) :
    onceOk inp (phaseObs inp st) = true := by
  simp only [onceApplies, Bool.and_eq_true, bne_iff_ne, ne_eq] at ha
  obtain ⟨hfa, hform⟩ := ha
  rcases phase_steps inp st (fun c => onceCreateOk inp.sh inp.w c = true) (fun s => onceCallOk s = true)
    (fun h => by rcases h with h | h; exact absurd h hform; rw [hfa] at h; cases h)
    (fun _ _ rf s => facSpec_once inp.sh inp.w rf _ s)
    (fun _ s => createSpec_once inp.sh inp.w _ s hfa _) with ⟨hf, _⟩ | ⟨_, c, calls, hsteps, hc, _, hcalls⟩
  · exact absurd hf hform
  · simp only [onceOk, hsteps, hc, Bool.true_and, List.all_eq_true]
    exact hcalls

/-- the steps of a run whose registration is accepted -/
theorem run_steps (inp : Input) (hreg : registerOk inp.sh = true) :
    (run inp).map (·.steps) = some (phaseObs inp (initSt inp.sh inp.w)).steps := by
  cases hr : run inp with
  | some obs => rw [(run_eq_phase hr).2]; rfl
  | none =>
    unfold run runSt at hr
    simp only [hreg, Bool.not_true, Bool.false_eq_true, if_false, Option.map_eq_none_iff] at hr
    split at hr
    · cases hr
    · split at hr <;> cases hr

theorem fresh_run {inp : Input} {obs : Obs} (h : run inp = some obs) (ha : freshApplies inp = true) :
    freshOk inp obs = true := by
  rw [(run_eq_phase h).2]; exact fresh_phase inp _ ha

theorem once_run {inp : Input} {obs : Obs} (h : run inp = some obs) (ha : onceApplies inp = true) :
    onceOk inp obs = true := by
  rw [(run_eq_phase h).2]; exact once_phase inp _ ha

end Pandora.Proofs.C18
