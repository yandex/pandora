/-
C03 — proofs about the pool's bookkeeping `awaitRun` (`Pandora.Model.C03Await`): an invariant of every run (results
in any order, any number of them), and termination with everything awaited for every complete set of results.
-/
import Pandora.Model.C03Await

namespace Pandora.Proofs.C03Await
open Pandora.Model.C03Await

def b2n (b : Bool) : Nat := if b then 1 else 0

/-- holds in every state `awaitRun` can be in -/
structure AInv (s : ASt) : Prop where
  /-- `toWait` counts the channels that are still open -/
  wait : s.toWait = b2n s.provOpen + b2n s.aggrOpen + b2n s.startOpen + b2n s.runOpen
  /-- the run results are closed (and the run context cancelled) exactly when the start result is in and every started
  instance has been awaited -/
  closed : s.runOpen = false ↔ (s.startOpen = false ∧ s.started ≤ (s.awaited : Int))
  /-- `runCancel()` is called once, at that moment -/
  cancels : s.runCancels = if s.runOpen then 0 else 1
  /-- until the start result arrives the number of started instances is "undefined" (-1) -/
  undef : s.startOpen = true → s.started = -1
  nonneg : s.startOpen = false → 0 ≤ s.started

theorem init_inv : AInv ainit := by
  refine ⟨by decide, ?_, by decide, fun _ => rfl, fun h => by simp [ainit] at h⟩
  simp [ainit]

theorem checkAll_inv {s : ASt} (hw : s.toWait = b2n s.provOpen + b2n s.aggrOpen + b2n s.startOpen + b2n s.runOpen)
    (ho : s.runOpen = true) (hc : s.runCancels = 0) (hu : s.startOpen = true → s.started = -1)
    (hn : s.startOpen = false → 0 ≤ s.started) : AInv (checkAll s) := by
  unfold checkAll
  split
  · rename_i h
    simp only [Bool.and_eq_true, Bool.not_eq_true', decide_eq_true_eq] at h
    refine ⟨?_, ?_, ?_, ?_, ?_⟩
    · simp only [hw, ho, b2n]; simp
    · simp [h.1, h.2]
    · simp [hc]
    · intro h'; simp [h.1] at h'
    · intro _; exact hn h.1
  · rename_i h
    simp only [Bool.and_eq_true, Bool.not_eq_true', decide_eq_true_eq, not_and] at h
    refine ⟨hw, ?_, by simp [ho, hc], hu, hn⟩
    simp only [ho, Bool.true_eq_false, false_iff, not_and]
    exact h

theorem step_inv {s s' : ASt} {r : Res} (hi : AInv s) (h : astep s r = some s') : AInv s' := by
  obtain ⟨hw, hcl, hca, hu, hn⟩ := hi
  unfold astep at h
  split at h
  · -- provider
    split at h
    · rename_i hp
      simp only [Option.some.injEq] at h
      subst h
      refine ⟨?_, hcl, hca, hu, hn⟩
      simp only [hw, hp, b2n]; simp <;> omega
    · cases h
  · split at h
    · rename_i hp
      simp only [Option.some.injEq] at h
      subst h
      refine ⟨?_, hcl, hca, hu, hn⟩
      simp only [hw, hp, b2n]; simp <;> omega
    · cases h
  · -- start
    split at h
    · rename_i hp
      simp only [Option.some.injEq] at h
      subst h
      have hro : s.runOpen = true := by
        cases hr : s.runOpen with
        | true => rfl
        | false => have := (hcl.mp hr).1; rw [hp] at this; cases this
      apply checkAll_inv
      · simp only [hw, hp, hro, b2n]; simp
      · exact hro
      · simp [hca, hro]
      · intro h'; cases h'
      · intro _; exact Int.natCast_nonneg _
    · cases h
  · -- run
    split at h
    · rename_i hp
      simp only [Option.some.injEq] at h
      subst h
      apply checkAll_inv
      · split <;> simp only [hw]
      · split <;> exact hp
      · split <;> simp [hca, hp]
      · split <;> exact hu
      · split <;> exact hn
    · cases h

theorem run_inv : ∀ (rs : List Res) (s s' : ASt), AInv s → arun s rs = some s' → AInv s'
  | [], s, s', hi, h => by simp only [arun, Option.some.injEq] at h; exact h ▸ hi
  | r :: rs, s, s', hi, h => by
    simp only [arun] at h
    split at h
    · rename_i s1 hs1; exact run_inv rs s1 s' (step_inv hi hs1) h
    · cases h

theorem reach_inv {rs : List Res} {s : ASt} (h : arun ainit rs = some s) : AInv s := run_inv rs ainit s init_inv h

/-- the loop is over exactly when all four kinds of results are in -/
theorem over_iff {s : ASt} (hi : AInv s) :
    s.over = true ↔ (s.provOpen = false ∧ s.aggrOpen = false ∧ s.startOpen = false ∧ s.runOpen = false) := by
  have hw := hi.wait
  unfold ASt.over
  cases hp : s.provOpen <;> cases ha : s.aggrOpen <;> cases hs : s.startOpen <;> cases hr : s.runOpen <;>
    simp [hp, ha, hs, hr, b2n] at hw ⊢ <;> omega

/-! ### every complete set of results, in any order, ends the loop with everything awaited -/

def cnt (c : Chan) (rs : List Res) : Nat := rs.countP (fun r => r.chan == c)

theorem cnt_cons (c : Chan) (r : Res) (rs : List Res) : cnt c (r :: rs) = cnt c rs + (if r.chan = c then 1 else 0) := by
  unfold cnt
  rw [List.countP_cons]
  by_cases h : r.chan = c <;> simp [h]

/-- what is still to come fits the state: one result per open channel (none for a closed one), the start result
announces `n` instances, and exactly the results of the instances not yet awaited -/
structure Rem (n : Nat) (s : ASt) (rs : List Res) : Prop where
  prov : cnt .provider rs = b2n s.provOpen
  aggr : cnt .aggregator rs = b2n s.aggrOpen
  start : cnt .start rs = b2n s.startOpen
  startN : ∀ r ∈ rs, r.chan = .start → r.started = n
  known : s.startOpen = false → s.started = (n : Int)
  runs : s.awaited + cnt .run rs = n

theorem complete_ends (n : Nat) : ∀ (rs : List Res) (s : ASt), AInv s → Rem n s rs →
    ∃ s', arun s rs = some s' ∧ s'.over = true ∧ s'.awaited = n ∧ s'.started = (n : Int)
  | [], s, hi, hr => by
    refine ⟨s, rfl, ?_, ?_, ?_⟩
    · have h1 := hr.prov; have h2 := hr.aggr; have h3 := hr.start
      simp only [cnt, List.countP_nil] at h1 h2 h3
      have hp : s.provOpen = false := by cases h : s.provOpen <;> simp [h, b2n] at h1 ⊢
      have ha : s.aggrOpen = false := by cases h : s.aggrOpen <;> simp [h, b2n] at h2 ⊢
      have hs : s.startOpen = false := by cases h : s.startOpen <;> simp [h, b2n] at h3 ⊢
      have hk := hr.known hs
      have hrn := hr.runs
      simp only [cnt, List.countP_nil, Nat.add_zero] at hrn
      have hro : s.runOpen = false := hi.closed.mpr ⟨hs, by rw [hk, hrn]; exact Int.le_refl _⟩
      exact (over_iff hi).mpr ⟨hp, ha, hs, hro⟩
    · have := hr.runs; simpa [cnt] using this
    · have h3 := hr.start
      simp only [cnt, List.countP_nil] at h3
      have hs : s.startOpen = false := by cases h : s.startOpen <;> simp [h, b2n] at h3 ⊢
      exact hr.known hs
  | r :: rs, s, hi, hr => by
    obtain ⟨hp, ha, hs, hsn, hk, hru⟩ := hr
    rw [cnt_cons] at hp ha hs hru
    have hsn' : ∀ q ∈ rs, q.chan = .start → q.started = n := fun q hq => hsn q (List.mem_cons_of_mem _ hq)
    cases hc : r.chan with
    | provider =>
      simp only [hc, if_true, reduceCtorEq, if_false, Nat.add_zero] at hp ha hs hru
      have hpo : s.provOpen = true := by cases h : s.provOpen <;> simp [h, b2n] at hp ⊢
      have hst : astep s r = some { s with provOpen := false, toWait := s.toWait - 1, errs := bump r.badRun s.errs } := by
        simp [astep, hc, hpo]
      have hi' := step_inv hi hst
      have hcnt : cnt .provider rs = 0 := by simp [hpo, b2n] at hp; omega
      obtain ⟨s', h1, h2⟩ := complete_ends n rs _ hi' ⟨by simp [hcnt, b2n], ha, hs, hsn', hk, hru⟩
      exact ⟨s', by simp only [arun, hst]; exact h1, h2⟩
    | aggregator =>
      simp only [hc, if_true, reduceCtorEq, if_false, Nat.add_zero] at hp ha hs hru
      have hao : s.aggrOpen = true := by cases h : s.aggrOpen <;> simp [h, b2n] at ha ⊢
      have hst : astep s r = some { s with aggrOpen := false, toWait := s.toWait - 1, errs := bump r.badRun s.errs } := by
        simp [astep, hc, hao]
      have hi' := step_inv hi hst
      have hcnt : cnt .aggregator rs = 0 := by simp [hao, b2n] at ha; omega
      obtain ⟨s', h1, h2⟩ := complete_ends n rs _ hi' ⟨hp, by simp [hcnt, b2n], hs, hsn', hk, hru⟩
      exact ⟨s', by simp only [arun, hst]; exact h1, h2⟩
    | start =>
      simp only [hc, if_true, reduceCtorEq, if_false, Nat.add_zero] at hp ha hs hru
      have hso : s.startOpen = true := by cases h : s.startOpen <;> simp [h, b2n] at hs ⊢
      have hrn : r.started = n := hsn r (List.mem_cons_self ..) hc
      have hst : astep s r = some (checkAll { s with startOpen := false, toWait := s.toWait - 1, started := r.started, errs := bump r.badStart s.errs }) := by simp [astep, hc, hso]
      have hi' := step_inv hi hst
      have hcnt : cnt .start rs = 0 := by simp [hso, b2n] at hs; omega
      have hrem : Rem n (checkAll { s with startOpen := false, toWait := s.toWait - 1, started := r.started, errs := bump r.badStart s.errs }) rs := by
        unfold checkAll
        split
        · exact ⟨hp, ha, by simp [hcnt, b2n], hsn', fun _ => by simp [hrn], hru⟩
        · exact ⟨hp, ha, by simp [hcnt, b2n], hsn', fun _ => by simp [hrn], hru⟩
      obtain ⟨s', h1, h2⟩ := complete_ends n rs _ hi' hrem
      exact ⟨s', by simp only [arun, hst]; exact h1, h2⟩
    | run =>
      simp only [hc, if_true, reduceCtorEq, if_false, Nat.add_zero] at hp ha hs hru
      -- the run channel cannot be closed yet: one more result is due
      have hro : s.runOpen = true := by
        cases h : s.runOpen with
        | true => rfl
        | false =>
          obtain ⟨h1, h2⟩ := hi.closed.mp h
          have := hk h1
          rw [this] at h2
          omega
      cases hst : astep s r with
      | none => simp [astep, hc, hro] at hst
      | some s1 =>
        have hi' := step_inv hi hst
        have hrem : Rem n s1 rs := by
          simp only [astep, hc, hro, if_true, Option.some.injEq] at hst
          subst hst
          unfold checkAll
          split <;> split <;>
            exact ⟨hp, ha, hs, hsn', hk, by simp only []; omega⟩
        obtain ⟨s', h1, h2⟩ := complete_ends n rs s1 hi' hrem
        exact ⟨s', by simp only [arun, hst]; exact h1, h2⟩

/-- a complete set of results for a pool that started `n` instances -/
structure Complete (n : Nat) (rs : List Res) : Prop where
  prov : cnt .provider rs = 1
  aggr : cnt .aggregator rs = 1
  start : cnt .start rs = 1
  startN : ∀ r ∈ rs, r.chan = .start → r.started = n
  runs : cnt .run rs = n

theorem complete_from_init {n : Nat} {rs : List Res} (h : Complete n rs) :
    ∃ s, arun ainit rs = some s ∧ s.over = true ∧ s.awaited = n ∧ s.started = (n : Int) :=
  complete_ends n rs ainit init_inv
    ⟨by simp [h.prov, ainit, b2n], by simp [h.aggr, ainit, b2n], by simp [h.start, ainit, b2n], h.startN,
     fun hh => by simp [ainit] at hh, by simp [ainit, h.runs]⟩

/-- the start of further instances is cancelled only for out-of-ammo results -/
theorem startCancels_le : ∀ (rs : List Res) (s s' : ASt), arun s rs = some s' →
    s'.startCancels ≤ s.startCancels + rs.countP (fun r => r.chan == .run && r.outOfAmmo)
  | [], s, s', h => by simp only [arun, Option.some.injEq] at h; subst h; simp
  | r :: rs, s, s', h => by
    simp only [arun] at h
    split at h
    · rename_i s1 hs1
      have ih := startCancels_le rs s1 s' h
      have h1 : s1.startCancels ≤ s.startCancels + (if (r.chan == .run && r.outOfAmmo) = true then 1 else 0) := by
        unfold astep at hs1
        split at hs1
        · split at hs1
          · simp only [Option.some.injEq] at hs1; subst hs1; simp
          · cases hs1
        · split at hs1
          · simp only [Option.some.injEq] at hs1; subst hs1; simp
          · cases hs1
        · split at hs1
          · simp only [Option.some.injEq] at hs1; subst hs1; unfold checkAll; split <;> simp
          · cases hs1
        · rename_i hc
          split at hs1
          · simp only [Option.some.injEq] at hs1
            subst hs1
            unfold checkAll bump
            cases r.outOfAmmo <;> simp [hc] <;> (repeat' split) <;> simp <;> omega
          · cases hs1
      rw [List.countP_cons]
      omega
    · cases h

/-! ### the bookkeeping counts run results and learns `started` from the start result -/

theorem checkAll_awaited (s : ASt) : (checkAll s).awaited = s.awaited := by
  unfold checkAll; split <;> rfl

theorem checkAll_started (s : ASt) : (checkAll s).started = s.started := by
  unfold checkAll; split <;> rfl

theorem checkAll_startOpen (s : ASt) : (checkAll s).startOpen = s.startOpen := by
  unfold checkAll; split <;> rfl

/-- one awaited instance per run result received -/
theorem awaited_count : ∀ (rs : List Res) (s s' : ASt), arun s rs = some s' → s'.awaited = s.awaited + cnt .run rs
  | [], s, s', h => by simp only [arun, Option.some.injEq] at h; subst h; simp [cnt]
  | r :: rs, s, s', h => by
    simp only [arun] at h
    split at h
    · rename_i s1 hs1
      have ih := awaited_count rs s1 s' h
      rw [ih, cnt_cons]
      unfold astep at hs1
      split at hs1 <;> split at hs1 <;> (try cases hs1) <;> rename_i hc ho
      · simp [hc]
      · simp [hc]
      · simp [hc, checkAll_awaited]
      · simp only [hc, checkAll_awaited, if_true]
        split <;> simp <;> omega
    · cases h

/-- the number of started instances the bookkeeping works with is the one of the start result -/
theorem started_from_start_result (n : Nat) : ∀ (rs : List Res) (s s' : ASt), arun s rs = some s' →
    (∀ r ∈ rs, r.chan = .start → r.started = n) → (s.startOpen = false → s.started = (n : Int)) →
    s'.startOpen = false → s'.started = (n : Int)
  | [], s, s', h, _, hk, ho => by simp only [arun, Option.some.injEq] at h; subst h; exact hk ho
  | r :: rs, s, s', h, hn, hk, ho => by
    simp only [arun] at h
    split at h
    · rename_i s1 hs1
      refine started_from_start_result n rs s1 s' h (fun r' hr' => hn r' (List.mem_cons_of_mem _ hr')) ?_ ho
      unfold astep at hs1
      split at hs1 <;> split at hs1 <;> (try cases hs1) <;> rename_i hc hop
      · exact hk
      · exact hk
      · intro _
        rw [checkAll_started]
        have := hn r (List.mem_cons_self) hc
        simp [this]
      · rw [checkAll_startOpen, checkAll_started]
        split <;> exact hk
    · cases h

end Pandora.Proofs.C03Await
