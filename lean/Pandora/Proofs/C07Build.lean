/-
C07 — `BuildRequest` is a pure function of the decoded entry (reference level, Pandora.Model.C07Build).
-/
import Pandora.Model.C07Build

namespace Pandora.Proofs.C07
open Pandora.Model.C07

/-- `h` extends `h0`: the cells of `h0` (the entry's) are still there, unchanged -/
def Ext (h0 h : BHeap) : Prop := ∃ t, h = h0 ++ t

theorem Ext.refl (h0 : BHeap) : Ext h0 h0 := ⟨[], by simp⟩

theorem Ext.push {h0 h : BHeap} (hx : Ext h0 h) (c : BCell) : Ext h0 (h ++ [c]) := by
  obtain ⟨t, rfl⟩ := hx; exact ⟨t ++ [c], by simp⟩

theorem set_append_ge (h0 t : BHeap) (a : Nat) (c : BCell) (ha : h0.length ≤ a) :
    (h0 ++ t).set a c = h0 ++ t.set (a - h0.length) c := by
  induction h0 generalizing a with
  | nil => simp
  | cons x xs ih =>
    cases a with
    | zero => simp at ha
    | succ a' =>
      simp only [List.length_cons, Nat.add_le_add_iff_right] at ha
      simp only [List.cons_append, List.set_cons_succ, List.length_cons, Nat.add_sub_add_right]
      rw [ih a' ha]

theorem Ext.set {h0 h : BHeap} (hx : Ext h0 h) (a : Nat) (c : BCell) (ha : h0.length ≤ a) : Ext h0 (h.set a c) := by
  obtain ⟨t, rfl⟩ := hx; exact ⟨_, set_append_ge h0 t a c ha⟩

theorem Ext.len {h0 h : BHeap} (hx : Ext h0 h) : h0.length ≤ h.length := by
  obtain ⟨t, rfl⟩ := hx; simp

theorem Ext.get {h0 h : BHeap} (hx : Ext h0 h) {a : Nat} {c : BCell} (hc : h0[a]? = some c) : h[a]? = some c := by
  obtain ⟨t, rfl⟩ := hx
  have hlt : a < h0.length := by
    rcases Nat.lt_or_ge a h0.length with h | h
    · exact h
    · rw [List.getElem?_eq_none h] at hc; cases hc
  rw [List.getElem?_append_left hlt]; exact hc

/-- the value lists of a map are defined exactly when every address in it holds a slice … -/
theorem bSlices_isSome {h : BHeap} : ∀ {m : List (Bytes × Nat)},
    (bSlices h m).isSome = true ↔ ∀ ka ∈ m, ∃ vs, h[ka.2]? = some (.slice vs)
  | [] => by simp [bSlices]
  | (k, a) :: m => by
    rw [bSlices, List.forall_mem_cons, ← @bSlices_isSome h m]
    cases h[a]? with
    | none => simp
    | some c => cases c <;> simp

/-- … and depend on those cells only -/
theorem bSlices_congr {h h' : BHeap} : ∀ m : List (Bytes × Nat), (∀ ka ∈ m, h'[ka.2]? = h[ka.2]?) →
    bSlices h' m = bSlices h m
  | [], _ => rfl
  | (k, a) :: m, hm => by
    simp only [bSlices, hm (k, a) (by simp), bSlices_congr m fun x hx => hm x (List.mem_cons_of_mem _ hx)]

/-- the value lists of a map of `h0` are the same in every extension -/
theorem bSlices_ext {h0 h : BHeap} (hx : Ext h0 h) (m : List (Bytes × Nat)) (hs : (bSlices h0 m).isSome = true) :
    bSlices h m = bSlices h0 m :=
  bSlices_congr m fun ka hka => by
    obtain ⟨vs, hv⟩ := bSlices_isSome.mp hs ka hka
    rw [hv, hx.get hv]

/-- the `Host` value of the entry's map is the same in every extension -/
theorem bHostHdr_ext {h0 h : BHeap} (hx : Ext h0 h) (m : List (Bytes × Nat)) (hs : (bSlices h0 m).isSome = true) :
    bHostHdr h m = bHostHdr h0 m := by
  unfold bHostHdr
  cases hf : m.find? (fun kv => kv.1 == hostKey) with
  | none => rfl
  | some ka =>
    obtain ⟨vs, hv⟩ := bSlices_isSome.mp hs ka (List.mem_of_find?_eq_some hf)
    simp only [hx.get hv, hv]

/-- the request built on ANY extension of the entry's heap looks as the entry says -/
theorem bObs_build_fresh (e : BEntry) (h0 h : BHeap) (hok : entryOK .fresh e h0) (hx : Ext h0 h) :
    bObs (bBuild .fresh e h).1 (bBuild .fresh e h).2 = bExpect e h0 ∧ (bExpect e h0).isSome = true := by
  obtain ⟨m, hm, hs, _⟩ := hok
  -- the filtered map still points at slices of `h0` only
  have hfs : (bSlices h0 (m.filter fun kv => kv.1 != hostKey)).isSome = true :=
    bSlices_isSome.mpr fun ka hka => bSlices_isSome.mp hs ka (List.mem_filter.mp hka).1
  obtain ⟨r, hr⟩ := Option.isSome_iff_exists.mp hfs
  have hsl : bSlices (h ++ [BCell.url e.urlVal.1 e.urlVal.2.1 e.urlVal.2.2] ++ [BCell.hmap (m.filter fun kv => kv.1 != hostKey)]) _ = _ :=
    (bSlices_ext ((hx.push _).push _) _ hfs).trans hr
  constructor
  · simp only [bBuild, hx.get hm, bExpect, hm, hr, Option.map_some, bObs]
    simpa [bHostHdr_ext hx m hs] using hsl
  · simp [bExpect, hm, hr]

/-- field- and map-level operations on a request whose URL and header map were allocated by the build never touch a cell
of the entry -/
theorem bMut_ext {h0 h : BHeap} (r : BReq) (mu : BMut) (hx : Ext h0 h) (hu : h0.length ≤ r.url) (hh : h0.length ≤ r.hdr)
    (hg : gunClass mu = true) :
    Ext h0 (bMut r h mu).2 ∧ (bMut r h mu).1.url = r.url ∧ (bMut r h mu).1.hdr = r.hdr := by
  cases mu with
  | setScheme v => simp only [bMut]; split <;> simp_all [Ext.set]
  | setUrlHost v => simp only [bMut]; split <;> simp_all [Ext.set]
  | setPath v => simp only [bMut]; split <;> simp_all [Ext.set]
  | setHost v => simp_all [bMut]
  | setMethod v => simp_all [bMut]
  | setBody v => simp_all [bMut]
  | hdrSet k v => simp only [bMut]; split <;> simp_all [Ext.set, Ext.push]
  | hdrAdd k v => simp only [bMut]; split <;> simp_all [Ext.set, Ext.push]
  | hdrDel k => simp only [bMut]; split <;> simp_all [Ext.set]
  | elemWrite k i v => simp [gunClass] at hg

theorem bMuts_ext {h0 : BHeap} : ∀ (ms : List BMut) (r : BReq) (h : BHeap), Ext h0 h → h0.length ≤ r.url → h0.length ≤ r.hdr →
    (∀ m ∈ ms, gunClass m = true) → Ext h0 (bMuts r h ms).2
  | [], _, _, hx, _, _, _ => hx
  | m :: ms, r, h, hx, hu, hh, hg => by
    obtain ⟨h1, h2, h3⟩ := bMut_ext r m hx hu hh (hg m (by simp))
    simp only [bMuts]
    exact bMuts_ext ms _ _ h1 (h2 ▸ hu) (h3 ▸ hh) (fun m' hm' => hg m' (by simp [hm']))

theorem bBuild_fresh_addrs (e : BEntry) (h : BHeap) :
    (bBuild .fresh e h).1.url = h.length ∧ (bBuild .fresh e h).1.hdr = h.length + 1 ∧
    ∃ c1 c2, (bBuild .fresh e h).2 = h ++ [c1] ++ [c2] := by
  refine ⟨rfl, ?_, BCell.url e.urlVal.1 e.urlVal.2.1 e.urlVal.2.2,
    BCell.hmap ((match h[e.hdr]? with | some (.hmap m) => m | _ => []).filter fun kv => kv.1 != hostKey), rfl⟩
  simp [bBuild]

/-- however often the entry is built from and whatever the owners of the requests do to them at field / map level, every
request looks as the entry says -/
theorem bRounds_fresh (e : BEntry) (h0 : BHeap) (hok : entryOK .fresh e h0) :
    ∀ (rounds : List (List BMut)) (h : BHeap), Ext h0 h → (∀ ms ∈ rounds, ∀ m ∈ ms, gunClass m = true) →
      ∀ ob ∈ bRounds .fresh e h rounds, ob = bExpect e h0
  | [], _, _, _, ob, hob => by simp [bRounds] at hob
  | ms :: rest, h, hx, hg, ob, hob => by
    simp only [bRounds, List.mem_cons] at hob
    rcases hob with rfl | hob
    · exact (bObs_build_fresh e h0 h hok hx).1
    · obtain ⟨hu, hh, c1, c2, hb⟩ := bBuild_fresh_addrs e h
      have hx2 : Ext h0 (bBuild .fresh e h).2 := by rw [hb]; exact (hx.push _).push _
      have hl := hx.len
      have hx3 := bMuts_ext ms (bBuild .fresh e h).1 (bBuild .fresh e h).2 hx2 (by rw [hu]; exact hl) (by rw [hh]; omega)
        (hg ms (by simp))
      exact bRounds_fresh e h0 hok rest _ hx3 (fun ms' hm' => hg ms' (by simp [hm'])) ob hob

end Pandora.Proofs.C07
