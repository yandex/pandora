/-
C07 — provider level: wrap-around (`cycleTake`), limit (`deliver`), request materialisation, the verdict function.
-/
import Pandora.Proofs.C07Raw

namespace Pandora.Proofs.C07
open Pandora.Model.C07 Pandora.Spec.C07

theorem deliver_eof {α : Type} (xs : List α) (k : Nat) (pre : Bool) :
    deliver (xs, Stop.eof) k pre = if xs.isEmpty then ([], .err .noammo) else (cycleTake xs k, .eof) := by
  simp [deliver]

/-! ### cycleTake -/

theorem flatten_replicate_length {α : Type} (xs : List α) (k : Nat) :
    ((List.replicate k xs).flatten).length = k * xs.length := by
  induction k with
  | zero => simp
  | succ k ih => simp [List.replicate_succ, ih, Nat.succ_mul, Nat.add_comm]

theorem flatten_replicate_get {α : Type} (xs : List α) :
    ∀ (k i : Nat), i < k * xs.length → ((List.replicate k xs).flatten)[i]? = xs[i % xs.length]? := by
  intro k
  induction k with
  | zero => intro i hi; simp at hi
  | succ k ih =>
    intro i hi
    simp only [List.replicate_succ, List.flatten_cons]
    by_cases hlt : i < xs.length
    · rw [List.getElem?_append_left hlt, Nat.mod_eq_of_lt hlt]
    · have hge : xs.length ≤ i := Nat.le_of_not_lt hlt
      rw [List.getElem?_append_right hge, ih (i - xs.length) (by rw [Nat.succ_mul] at hi; omega)]
      congr 1
      conv => rhs; rw [← Nat.sub_add_cancel hge, Nat.add_mod_right]

theorem cycleTake_length {α : Type} (xs : List α) (hx : xs ≠ []) (k : Nat) : (cycleTake xs k).length = k := by
  unfold cycleTake
  rw [List.length_take, flatten_replicate_length]
  have : 0 < xs.length := List.length_pos_iff.mpr hx
  have : k ≤ k * xs.length := Nat.le_mul_of_pos_right k this
  omega

/-- position `i` of the delivered sequence is entry `i mod n` -/
theorem cycleTake_get {α : Type} (xs : List α) (hx : xs ≠ []) (k i : Nat) (hi : i < k) :
    (cycleTake xs k)[i]? = xs[i % xs.length]? := by
  unfold cycleTake
  rw [List.getElem?_take_of_lt hi]
  apply flatten_replicate_get xs
  have : 0 < xs.length := List.length_pos_iff.mpr hx
  have : k ≤ k * xs.length := Nat.le_mul_of_pos_right k this
  omega

theorem cycleTake_map {α β : Type} (g : α → β) (xs : List α) (k : Nat) :
    (cycleTake xs k).map g = cycleTake (xs.map g) k := by
  simp [cycleTake, List.map_take, List.map_flatten, List.map_replicate]

theorem cycleTake_nil {α : Type} (k : Nat) : cycleTake ([] : List α) k = [] := by
  simp [cycleTake]

/-- the delivery under a larger limit extends the delivery under a smaller one -/
theorem cycleTake_prefix {α : Type} (xs : List α) (k k' : Nat) (hk : k ≤ k') :
    (cycleTake xs k').take k = cycleTake xs k := by
  by_cases hx : xs = []
  · subst hx; simp [cycleTake_nil]
  · apply List.ext_getElem?
    intro i
    by_cases hi : i < k
    · rw [List.getElem?_take_of_lt hi, cycleTake_get xs hx k' i (by omega), cycleTake_get xs hx k i hi]
    · have h1 : ((cycleTake xs k').take k).length ≤ i := by
        rw [List.length_take, cycleTake_length xs hx]; omega
      have h2 : (cycleTake xs k).length ≤ i := by rw [cycleTake_length xs hx]; omega
      rw [List.getElem?_eq_none h1, List.getElem?_eq_none h2]

/-- what is handed out when the pass ended at end of file: the pass, cycled (nothing when it is empty) -/
theorem cycle_fst {α : Type} (xs : List α) (k : Nat) :
    (if xs.isEmpty then (([] : List α), Stop.err .noammo) else (cycleTake xs k, .eof)).1 = cycleTake xs k := by
  split
  · rename_i he; rw [List.isEmpty_iff.mp he, cycleTake_nil]
  · rfl

/-! ### BuildRequest on the expected ammo -/

theorem allSome_map_some {α : Type} (xs : List α) : allSome (xs.map some) = some xs := by
  induction xs with
  | nil => rfl
  | cons a r ih => simp [allSome, ih]

theorem buildReq_known (m u b t : Bytes) (h : Hdrs) (hu : (parseURL u).isSome = true) :
    buildReq { method := m, url := u, body := b, tag := t, hdrs := h } =
      some (mkReq m (targetParts u).2 (targetParts u).1 b t h) := by
  obtain ⟨p, hp⟩ := Option.isSome_iff_exists.mp hu
  obtain ⟨host, path⟩ := p
  simp [buildReq, targetParts, hp, mkReq]

theorem parseURL_of_uriOK {u : Bytes} (hu : uriOK u = true) : parseURL u = some ([], u) := by
  simp [parseURL, hu]

theorem targetParts_of_uriOK {u : Bytes} (hu : uriOK u = true) : targetParts u = ([], u) := by
  simp [targetParts, parseURL_of_uriOK hu]

theorem expAmmo_buildReq (f : Fmt) (hf : f ≠ .raw) (cfg : Hdrs) : ∀ (items : List Item) (h : Hdrs), targetsKnown items = true →
    ((expAmmo f h items).map (Ammo.withCfg cfg)).map buildReq = (expReqs f cfg h items).map some
  | [], _, _ => rfl
  | .hdr k v :: r, h, hk => by
    simp only [expAmmo, expReqs]
    exact expAmmo_buildReq f hf cfg r _ (by simpa [targetsKnown] using hk)
  | .req u t b :: r, h, hk => by
    simp only [targetsKnown, List.all_cons, Bool.and_eq_true] at hk
    have ih := expAmmo_buildReq f hf cfg r h (by simpa [targetsKnown] using hk.2)
    simp only [expAmmo, expReqs, List.map_cons, ih]
    congr 1
    simp only [Ammo.withCfg]
    rw [buildReq_known _ _ _ _ _ hk.1]
    by_cases hp : f = .uripost
    · simp [hp]
    · simp [hp]
  | .frame t fr :: r, h, hk => by
    simp only [expAmmo, expReqs]
    exact expAmmo_buildReq f hf cfg r _ (by simpa [targetsKnown] using hk)

/-! ### the `headers` option never overrides the file -/

theorem hget_append_of_some (h t : Hdrs) (k v : Bytes) (hk : hget h k = some v) : hget (h ++ t) k = some v := by
  induction h with
  | nil => simp [hget] at hk
  | cons x r ih =>
    obtain ⟨k', v'⟩ := x
    simp only [hget, List.cons_append] at hk ⊢
    split
    · rename_i he; simpa [he] using hk
    · rename_i he; simp only [he, if_false] at hk; exact ih hk

/-- a key the file defined keeps the file's value -/
theorem mergeCfg_keeps (cfg h : Hdrs) (k v : Bytes) (hk : hget h k = some v) : hget (mergeCfg h cfg) k = some v := by
  unfold mergeCfg
  induction cfg generalizing h with
  | nil => simpa using hk
  | cons kv r ih =>
    simp only [List.foldl_cons]
    apply ih
    split
    · exact hk
    · exact hget_append_of_some _ _ _ _ hk

theorem mergeCfg_nil (h : Hdrs) : mergeCfg h [] = h := rfl

theorem withCfg_nil (a : Ammo) : Ammo.withCfg [] a = a := rfl

theorem map_withCfg_nil (as : List Ammo) : as.map (Ammo.withCfg []) = as := by
  induction as with
  | nil => rfl
  | cons a r ih => simp [withCfg_nil, ih]

/-! ### the verdict function accepts exactly-equal observations -/

theorem diff_refl : ∀ (xs : List String) (i : Nat) (prev : Option String), diff i xs xs prev = .same
  | [], _, _ => by simp [diff]
  | x :: xs, i, prev => by
    rw [diff]
    simp only [beq_self_eq_true, if_true]
    exact diff_refl xs (i + 1) (some x)

theorem judge_refl (xs : List String) (e : String) : judge xs e xs e = "ok" := by
  unfold judge
  rw [diff_refl]
  simp

/-- if the decoder model delivered exactly the expected ammo, its observation passes the Spec -/
theorem modelObs_ok (f : Fmt) (hf : f ≠ .raw) (cfg : Hdrs) (items : List Item) (k : Nat) (hk : targetsKnown items = true)
    (res : List Ammo × Stop)
    (hres : res = if (expAmmo f [] items).isEmpty then ([], .err .noammo) else (cycleTake (expAmmo f [] items) k, .eof)) :
    ∃ e rs, modelObs (withCfgRes cfg res) = some (e, rs) ∧
      judge (expected ((expReqs f cfg [] items).map reqStr) k) (expectedErr ((expReqs f cfg [] items).map reqStr)) rs e = "ok" := by
  have hmap := expAmmo_buildReq f hf cfg items [] hk
  have hempty : (expAmmo f [] items).isEmpty = ((expReqs f cfg [] items).map reqStr).isEmpty := by
    have := congrArg List.length hmap
    simp only [List.length_map] at this
    cases h1 : expAmmo f [] items <;> cases h2 : expReqs f cfg [] items <;> simp [h1, h2] at this ⊢
  by_cases hE : (expAmmo f [] items).isEmpty = true
  · have hE' := hE; rw [hempty] at hE'
    rw [if_pos hE] at hres
    refine ⟨"noammo", [], by subst hres; rfl, ?_⟩
    have : (expReqs f cfg [] items).map reqStr = [] := List.isEmpty_iff.mp hE'
    rw [this]
    simp [expected, expectedErr, cycleTake_nil, judge_refl]
  · have hE' := hE; rw [hempty] at hE'
    rw [if_neg hE] at hres
    refine ⟨"ok", (cycleTake (expReqs f cfg [] items) k).map reqStr, ?_, ?_⟩
    · subst hres
      simp only [modelObs, withCfgRes, cycleTake_map, hmap]
      rw [← cycleTake_map, allSome_map_some]
      simp [stopName, cycleTake_map]
    · have : expectedErr ((expReqs f cfg [] items).map reqStr) = "ok" := by
        simp only [expectedErr]; simp only [Bool.not_eq_true] at hE'; simp [hE']
      rw [this, expected, cycleTake_map]
      exact judge_refl _ _

/-! ### http/json -/

theorem cut_recompose (sep : UInt8) (s : Bytes) :
    s = (cut sep s).1 ++ (if (cut sep s).2.2 then sep :: (cut sep s).2.1 else []) ∧ sep ∉ (cut sep s).1 := by
  induction s with
  | nil => simp [cut]
  | cons b r ih =>
    unfold cut
    by_cases hb : b = sep
    · simp [hb]
    · simp only [hb, if_false]
      refine ⟨?_, ?_⟩
      · rw [List.cons_append, ← ih.1]
      · simp only [List.mem_cons, not_or]
        exact ⟨fun e => hb e.symm, ih.2⟩

theorem hostOK_noSlash (host : Bytes) (h : hostOK host = true) : (47 : UInt8) ∉ host := by
  simp only [hostOK, Bool.and_eq_true, Bool.not_eq_true', Bool.or_eq_true, List.all_eq_true] at h
  obtain ⟨⟨_, hname⟩, hport⟩ := h
  have hr := (cut_recompose COLON host).1
  intro hm
  rw [hr] at hm
  rcases List.mem_append.mp hm with hm | hm
  · have := hname _ hm; simp [isHostByte] at this
  · by_cases hf : (cut COLON host).2.2 = true
    · rw [if_pos hf] at hm
      rcases hport with hp | hp
      · rw [hf] at hp; simp at hp
      · simp only [List.mem_cons] at hm
        rcases hm with hm | hm
        · simp [COLON] at hm
        · have := hp.2 _ hm; simp [isDigit] at this
    · rw [if_neg hf] at hm; simp at hm

theorem uriOK_shape {u : Bytes} (h : uriOK u = true) : ∃ r, u = 47 :: r := by
  unfold uriOK at h
  split at h
  · simp at h
  · exact ⟨_, rfl⟩
  · simp at h

theorem parseURL_http (host uri : Bytes) (hh : host.isEmpty = true ∨ hostOK host = true) (hu : uriOK uri = true) :
    parseURL (httpPrefix ++ host ++ uri) = some (host, uri) := by
  obtain ⟨r, hr⟩ := uriOK_shape hu
  have hns : (47 : UInt8) ∉ host := by
    rcases hh with hh | hh
    · rw [List.isEmpty_iff.mp hh]; simp
    · exact hostOK_noSlash host hh
  have hnot : uriOK (httpPrefix ++ host ++ uri) = false := by
    simp [httpPrefix, uriOK]
  have hpre : httpPrefix.isPrefixOf (httpPrefix ++ host ++ uri) = true := by
    simp [List.append_assoc]
  have hdrop : (httpPrefix ++ host ++ uri).drop httpPrefix.length = host ++ 47 :: r := by
    rw [List.append_assoc, List.drop_left, hr]
  unfold parseURL
  simp only [hnot, Bool.false_eq_true, if_false, hpre, if_true, hdrop, cut_append_sep 47 host r hns]
  rw [← hr]
  have : (host.isEmpty || hostOK host) = true := by
    rcases hh with hh | hh <;> simp [hh]
  simp [this, hu]

theorem entity_buildReq (cfg : Hdrs) (e : Entity) (hk : entityKnown e = true) :
    ∃ a, entityAmmo e = .ok a ∧ buildReq (a.withCfg cfg) = some (entityReq cfg e.host e.method e.uri e.tag e.body e.headers) := by
  simp only [entityKnown, Bool.and_eq_true, Bool.or_eq_true] at hk
  obtain ⟨⟨⟨hu, hh⟩, hm⟩, _⟩ := hk
  refine ⟨{ method := e.method, url := httpPrefix ++ e.host ++ e.uri, body := e.body, tag := e.tag,
             hdrs := e.headers.foldl (fun h kv => hset h kv.1 kv.2) [] }, by simp [entityAmmo, hm], ?_⟩
  simp only [Ammo.withCfg, buildReq, parseURL_http e.host e.uri hh hu, entityReq, mkReq]
  rfl


theorem jsonPass_known (cfg : Hdrs) : ∀ (ents : List Entity), ents.all entityKnown = true →
    ∃ as, jsonPass ents = (as, .eof) ∧ as.length = ents.length ∧
      (as.map (Ammo.withCfg cfg)).map buildReq = ents.map (fun e => some (entityReq cfg e.host e.method e.uri e.tag e.body e.headers))
  | [], _ => ⟨[], rfl, rfl, rfl⟩
  | e :: r, hk => by
    simp only [List.all_cons, Bool.and_eq_true] at hk
    obtain ⟨as, h1, h2, h3⟩ := jsonPass_known cfg r hk.2
    obtain ⟨a, ha, hb⟩ := entity_buildReq cfg e hk.1
    refine ⟨a :: as, ?_, by simp [h2], by simp [hb, h3]⟩
    simp [jsonPass, ha, h1]

end Pandora.Proofs.C07
