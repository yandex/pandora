/-
C03 — the pool over a composite profile at the granularity of the composite's lock sections
(`Pandora.Model.C03Comp`) refines the pool at the granularity of atomic schedule operations (`Pandora.Model.C03Fine`),
hence the coarse pool (`Pandora.Model.C03`): whatever the interleaving of reader sections, writer sections, retries and
the other operations of any number of instances,

* the answer a concluding section of `Next()` hands to the loop is the answer of the atomic token counter at that
  moment (`ok` iff a token was left, and then exactly one is taken) — no token is lost when a drained part is dropped,
  "finished" is said only when nothing is left in ANY part;
* a section that does not conclude (reader section that goes on to the writer section, writer section that retries)
  leaves the number of tokens alone.

The invariant that carries it: a caller between its two sections that saw `len(s.scheds) = seen` finds at most `seen`
parts later, and if it still finds `seen` parts the current part is the drained one it saw (`WaitOk`).
-/
import Pandora.Model.C03Comp
import Pandora.Proofs.C03Fine

namespace Pandora.Proofs.C03Comp
open Pandora.Model.C03 Pandora.Model.C03Fine Pandora.Model.C03Comp Pandora.Proofs.C03

/-! ### the sections on the list of parts -/

/-- what a caller between its sections may rely on -/
def WaitOk (p : List Nat) (seen : Nat) : Prop :=
  p.length ≤ seen ∧ (p.length = seen → ∃ r, p = 0 :: r) ∧ 1 ≤ p.length ∧ 2 ≤ seen

/-- how the parts change in a section: the current part loses a token (it had one), or nothing changes, or drained
parts are dropped (never the last one) -/
def Evolves (p p' : List Nat) : Prop :=
  (p'.length = p.length ∧ ∀ r, p = 0 :: r → p' = p) ∨ (p'.length < p.length ∧ 1 ≤ p'.length)

theorem evolves_refl (p : List Nat) : Evolves p p := .inl ⟨rfl, fun _ _ => rfl⟩

theorem waitOk_evolves {p p' : List Nat} {seen : Nat} (h : WaitOk p seen) (e : Evolves p p') : WaitOk p' seen := by
  obtain ⟨h1, h2, h3, h4⟩ := h
  rcases e with ⟨el, ez⟩ | ⟨el, e1⟩
  · refine ⟨by omega, ?_, by omega, h4⟩
    intro hl
    obtain ⟨r, hr⟩ := h2 (by omega)
    exact ⟨r, by rw [ez r hr]; exact hr⟩
  · exact ⟨by omega, fun hl => by omega, e1, h4⟩

theorem rsec_ret_true {p p' : List Nat} (h : rsec p = (p', .ret true)) : tot p' + 1 = tot p ∧ Evolves p p' := by
  match p with
  | [] => simp [rsec] at h
  | (n + 1) :: r =>
    simp only [rsec, Prod.mk.injEq, and_true] at h
    subst h
    exact ⟨by simp only [tot]; omega, .inl ⟨rfl, fun r' hr => by cases hr⟩⟩
  | [0] => simp [rsec] at h
  | 0 :: b :: r => simp [rsec] at h

theorem rsec_ret_false {p p' : List Nat} (h : rsec p = (p', .ret false)) : p' = p ∧ tot p = 0 := by
  match p with
  | [] => simp [rsec] at h
  | (n + 1) :: r => simp [rsec] at h
  | [0] =>
    simp only [rsec, Prod.mk.injEq, and_true] at h
    exact ⟨h.symm, rfl⟩
  | 0 :: b :: r => simp [rsec] at h

theorem rsec_wait {p p' : List Nat} {seen : Nat} (h : rsec p = (p', .wait seen)) : p' = p ∧ WaitOk p seen := by
  match p with
  | [] => simp [rsec] at h
  | (n + 1) :: r => simp [rsec] at h
  | [0] => simp [rsec] at h
  | 0 :: b :: r =>
    simp only [rsec, Prod.mk.injEq, SecOut.wait.injEq] at h
    obtain ⟨h1, h2⟩ := h
    subst h1 h2
    exact ⟨rfl, by simp only [List.length_cons]; omega, fun _ => ⟨_, rfl⟩, by simp only [List.length_cons]; omega, by omega⟩

theorem rsec_no_retry {p p' : List Nat} : rsec p ≠ (p', .retry) := by
  match p with
  | [] => simp [rsec]
  | (n + 1) :: r => simp [rsec]
  | [0] => simp [rsec]
  | 0 :: b :: r => simp [rsec]

theorem rsec_no_panic {p p' : List Nat} (hp : 1 ≤ p.length) : rsec p ≠ (p', .panic) := by
  match p, hp with
  | (n + 1) :: r, _ => simp [rsec]
  | [0], _ => simp [rsec]
  | 0 :: b :: r, _ => simp [rsec]

/-- the shape of the parts a waiting caller finds -/
theorem waitOk_cases {p : List Nat} {seen : Nat} (h : WaitOk p seen) :
    (p.length < seen ∧ ∃ a r, p = a :: r) ∨ (p.length = seen ∧ ∃ b r, p = 0 :: b :: r) := by
  obtain ⟨h1, h2, h3, h4⟩ := h
  by_cases hl : p.length < seen
  · left
    refine ⟨hl, ?_⟩
    match p, h3 with
    | a :: r, _ => exact ⟨a, r, rfl⟩
  · right
    have he : p.length = seen := by omega
    obtain ⟨r, hr⟩ := h2 he
    subst hr
    match r with
    | [] => simp only [List.length_cons, List.length_nil] at he; omega
    | b :: r' => exact ⟨he, b, r', rfl⟩

theorem wsec_ret_true {p p' : List Nat} {seen : Nat} (hw : WaitOk p seen) (h : wsec p seen = (p', .ret true)) :
    tot p' + 1 = tot p ∧ Evolves p p' := by
  rcases waitOk_cases hw with ⟨hl, a, r, rfl⟩ | ⟨hl, b, r, rfl⟩
  · simp only [wsec, hl, if_true] at h
    match a, r with
    | n + 1, r =>
      simp only [Prod.mk.injEq, and_true] at h
      subst h
      exact ⟨by simp only [tot]; omega, .inl ⟨rfl, fun r' hr => by cases hr⟩⟩
    | 0, [] => simp at h
    | 0, b :: r => simp at h
  · have hn : ¬ (0 :: b :: r).length < seen := by omega
    simp only [wsec, hn, if_false] at h
    match b with
    | n + 1 =>
      simp only [Prod.mk.injEq, and_true] at h
      subst h
      exact ⟨by simp only [tot]; omega, .inr ⟨by simp only [List.length_cons]; omega, by simp only [List.length_cons]; omega⟩⟩
    | 0 => simp at h

theorem wsec_ret_false {p p' : List Nat} {seen : Nat} (hw : WaitOk p seen) (h : wsec p seen = (p', .ret false)) :
    p' = p ∧ tot p = 0 := by
  rcases waitOk_cases hw with ⟨hl, a, r, rfl⟩ | ⟨hl, b, r, rfl⟩
  · simp only [wsec, hl, if_true] at h
    match a, r with
    | n + 1, r => simp at h
    | 0, [] =>
      simp only [Prod.mk.injEq, and_true] at h
      exact ⟨h.symm, rfl⟩
    | 0, b :: r => simp at h
  · have hn : ¬ (0 :: b :: r).length < seen := by omega
    simp only [wsec, hn, if_false] at h
    match b with
    | n + 1 => simp at h
    | 0 => simp at h

theorem wsec_retry {p p' : List Nat} {seen : Nat} (hw : WaitOk p seen) (h : wsec p seen = (p', .retry)) :
    tot p' = tot p ∧ Evolves p p' := by
  rcases waitOk_cases hw with ⟨hl, a, r, rfl⟩ | ⟨hl, b, r, rfl⟩
  · simp only [wsec, hl, if_true] at h
    match a, r with
    | n + 1, r => simp at h
    | 0, [] => simp at h
    | 0, b :: r =>
      simp only [Prod.mk.injEq, and_true] at h
      subst h
      exact ⟨rfl, evolves_refl _⟩
  · have hn : ¬ (0 :: b :: r).length < seen := by omega
    simp only [wsec, hn, if_false] at h
    match b with
    | n + 1 => simp at h
    | 0 =>
      simp only [Prod.mk.injEq, and_true] at h
      subst h
      exact ⟨by simp only [tot]; omega, .inr ⟨by simp only [List.length_cons]; omega, by simp only [List.length_cons]; omega⟩⟩

/-- a writer section of a caller that may rely on `WaitOk` never panics and never asks for another writer section -/
theorem wsec_total {p : List Nat} {seen : Nat} (hw : WaitOk p seen) :
    ∃ p' o, wsec p seen = (p', o) ∧ (o = .ret true ∨ o = .ret false ∨ o = .retry) := by
  rcases waitOk_cases hw with ⟨hl, a, r, rfl⟩ | ⟨hl, b, r, rfl⟩
  · simp only [wsec, hl, if_true]
    match a, r with
    | n + 1, r => exact ⟨_, _, rfl, .inl rfl⟩
    | 0, [] => exact ⟨_, _, rfl, .inr (.inl rfl)⟩
    | 0, b :: r => exact ⟨_, _, rfl, .inr (.inr rfl)⟩
  · have hn : ¬ (0 :: b :: r).length < seen := by omega
    simp only [wsec, hn, if_false]
    match b with
    | n + 1 => exact ⟨_, _, rfl, .inl rfl⟩
    | 0 => exact ⟨_, _, rfl, .inr (.inr rfl)⟩

/-! ### the invariant of the pool over composite profiles -/

structure CInv (c : Cfg) (s : CSt) : Prop where
  /-- the pool's token counter IS the number of tokens left in the parts of the shared profile … -/
  shared : s.f.base.shared = tot s.sp
  /-- … and of each instance's own profile -/
  own : s.f.base.own = s.op.map tot
  /-- every caller between its sections may rely on `WaitOk` -/
  wait : ∀ i seen, s.w[i]? = some (some seen) → WaitOk (s.prof c i) seen
  /-- one entry per instance in both lists -/
  lens : s.op.length = s.w.length

theorem tot_getD (l : List (List Nat)) (i : Nat) : (l.map tot)[i]?.getD 0 = tot (l[i]?.getD []) := by
  rw [List.getElem?_map]
  cases l[i]? <;> rfl

theorem left_eq {c : Cfg} {s : CSt} (hI : CInv c s) (i : Nat) : s.f.base.left c i = tot (s.prof c i) := by
  unfold St.left CSt.prof
  split
  · rw [hI.own, tot_getD]
  · exact hI.shared

theorem map_set_tot (l : List (List Nat)) (i : Nat) (p : List Nat) : (l.set i p).map tot = (l.map tot).set i (tot p) := by
  apply List.ext_getElem?
  intro k
  simp only [List.getElem?_map, List.getElem?_set, List.length_map]
  by_cases hk : i = k
  · subst hk
    by_cases hi : i < l.length <;> simp [hi]
  · simp [hk]

theorem set_same_tot (l : List (List Nat)) (i : Nat) : (l.set i (l[i]?.getD [])).map tot = l.map tot := by
  apply List.ext_getElem?
  intro k
  simp only [List.getElem?_map, List.getElem?_set]
  by_cases hk : i = k
  · subst hk
    by_cases hi : i < l.length
    · simp [hi]
    · simp [hi]
  · simp [hk]

theorem setProf_sp (c : Cfg) (s : CSt) (i : Nat) (p : List Nat) :
    (s.setProf c i p).sp = if c.perInstance then s.sp else p := by
  unfold CSt.setProf; split <;> rfl

theorem setProf_op (c : Cfg) (s : CSt) (i : Nat) (p : List Nat) :
    (s.setProf c i p).op = if c.perInstance then s.op.set i p else s.op := by
  unfold CSt.setProf; split <;> rfl

theorem setProf_f (c : Cfg) (s : CSt) (i : Nat) (p : List Nat) : (s.setProf c i p).f = s.f := by
  unfold CSt.setProf; split <;> rfl

theorem setProf_w (c : Cfg) (s : CSt) (i : Nat) (p : List Nat) : (s.setProf c i p).w = s.w := by
  unfold CSt.setProf; split <;> rfl

theorem prof_of {c : Cfg} {s s' : CSt} (h1 : s'.sp = s.sp) (h2 : s'.op = s.op) (j : Nat) : s'.prof c j = s.prof c j := by
  unfold CSt.prof; rw [h1, h2]

/-- after instance `i`'s profile went from `prof i` to `p` (as a section does it), another instance's profile has
evolved accordingly -/
theorem evolves_other {c : Cfg} {s : CSt} {i j : Nat} {p : List Nat} (hij : j ≠ i) (he : Evolves (s.prof c i) p) :
    Evolves (s.prof c j) ((s.setProf c i p).prof c j) := by
  unfold CSt.prof at he ⊢
  rw [setProf_sp, setProf_op]
  cases hp : c.perInstance with
  | true =>
    simp only [if_true]
    rw [List.getElem?_set_ne (Ne.symm hij)]
    exact evolves_refl _
  | false =>
    simp only [hp, Bool.false_eq_true, if_false] at he ⊢
    exact he

theorem prof_self {c : Cfg} {s : CSt} {i : Nat} {p : List Nat} (hi : c.perInstance = true → i < s.op.length) :
    (s.setProf c i p).prof c i = p := by
  unfold CSt.prof
  rw [setProf_sp, setProf_op]
  cases hp : c.perInstance with
  | true =>
    simp only [if_true]
    rw [List.getElem?_set_self (hi hp)]
    rfl
  | false => simp only [Bool.false_eq_true, if_false]

theorem set_getD_self (l : List Nat) (i : Nat) : l.set i (l[i]?.getD 0) = l := by
  apply List.ext_getElem?
  intro k
  rw [List.getElem?_set]
  by_cases hk : i = k
  · subst hk
    by_cases hi : i < l.length
    · simp [hi]
    · simp [hi]
  · simp [hk]

/-- the token counters after instance `i`'s profile went from `prof i` to `p` with `d` tokens taken -/
theorem counters_after {c : Cfg} {s : CSt} (hI : CInv c s) {i : Nat} {p : List Nat} {sh : Nat} {ow : List Nat}
    (d : Nat) (hd : tot p + d = tot (s.prof c i))
    (hsh : sh = if c.perInstance then s.f.base.shared else s.f.base.shared - d)
    (how : ow = if c.perInstance then s.f.base.own.set i (s.f.base.own[i]?.getD 0 - d) else s.f.base.own) :
    sh = tot (s.setProf c i p).sp ∧ ow = (s.setProf c i p).op.map tot := by
  rw [setProf_sp, setProf_op]
  have hl := left_eq hI i
  unfold St.left at hl
  unfold CSt.prof at hd hl
  cases hpi : c.perInstance with
  | true =>
    simp only [hpi, if_true] at hd hl hsh how ⊢
    refine ⟨by rw [hsh]; exact hI.shared, ?_⟩
    rw [how, map_set_tot, ← hI.own, hl]
    congr 1
    omega
  | false =>
    simp only [hpi, Bool.false_eq_true, if_false] at hd hl hsh how ⊢
    refine ⟨by rw [hsh, hI.shared]; omega, by rw [how]; exact hI.own⟩

/-! ### a concluding section is the atomic access of the fine pool -/

theorem conclude_spec {c : Cfg} {s s' : CSt} {i : Nat} {p : List Nat} {ok : Bool} (hI : CInv c s)
    (hpend : s.f.pend[i]? = some .idle)
    (hok : ok = true → tot p + 1 = tot (s.prof c i))
    (hno : ok = false → p = s.prof c i ∧ tot (s.prof c i) = 0)
    (hev : Evolves (s.prof c i) p)
    (h : conclude c s i p ok = some s') :
    fstep c s.f (.inc i) = some s'.f ∧ CInv c s' := by
  unfold conclude at h
  cases hs : step c s.f.base (if ok = true then Ev.tokOk i else Ev.tokEnd i) with
  | none => rw [hs] at h; cases h
  | some b =>
    rw [hs] at h
    simp only [Option.map_some, Option.some.injEq] at h
    subst h
    have hl := left_eq hI i
    have hdec : decide (0 < s.f.base.left c i) = ok := by
      cases ok with
      | true => have := hok rfl; simp only [decide_eq_true_eq]; omega
      | false => have := (hno rfl).2; simp only [decide_eq_false_iff_not]; omega
    refine ⟨?_, ?_⟩
    · simp only [fstep, hpend, if_true, hdec, hs, Option.map_some]
    · -- the invariant
      have hwait : ∀ j seen, (s.w.set i none)[j]? = some (some seen) →
          WaitOk ((s.setProf c i p).prof c j) seen := by
        intro j seen hj
        by_cases hji : j = i
        · subst hji
          rw [List.getElem?_set] at hj
          split at hj
          · split at hj <;> cases hj
          · rename_i hne; exact absurd rfl hne
        · rw [List.getElem?_set_ne (Ne.symm hji)] at hj
          exact waitOk_evolves (hI.wait j seen hj) (evolves_other hji hev)
      cases ok with
      | true =>
        simp only [if_true] at hs
        obtain ⟨_, h2, h3⟩ := step_tokOk hs
        obtain ⟨hsh, how⟩ := counters_after hI (p := p) (i := i) (sh := b.shared) (ow := b.own) 1 (hok rfl) h2 h3
        exact ⟨hsh, how, hwait, by simp [setProf_op]; split <;> simp [hI.lens]⟩
      | false =>
        simp only [Bool.false_eq_true, if_false] at hs
        obtain ⟨_, h2, h3⟩ := step_tokEnd hs
        obtain ⟨hsh, how⟩ := counters_after hI (p := p) (i := i) (sh := b.shared) (ow := b.own) 0 (by rw [(hno rfl).1]; rfl)
          (by rw [h2]; split <;> rfl) (by rw [h3]; split <;> simp [set_getD_self])
        exact ⟨hsh, how, hwait, by simp [setProf_op]; split <;> simp [hI.lens]⟩

/-- a section that does not conclude (`wait`, `retry`): the fine pool does not move, the invariant stays -/
theorem stutter_spec {c : Cfg} {s : CSt} {i : Nat} {p : List Nat} {wi : Option Nat} (hI : CInv c s)
    (hlen : c.perInstance = true → i < s.op.length)
    (htot : tot p = tot (s.prof c i)) (hev : Evolves (s.prof c i) p)
    (hw : ∀ seen, wi = some seen → WaitOk p seen) :
    CInv c { (s.setProf c i p) with w := s.w.set i wi } := by
  obtain ⟨hsh, how⟩ := counters_after hI (p := p) (i := i) (sh := s.f.base.shared) (ow := s.f.base.own) 0 (by omega)
    (by split <;> rfl) (by split <;> simp [set_getD_self])
  refine ⟨by simpa [setProf_f] using hsh, by simpa [setProf_f] using how, ?_,
    by simp [setProf_op]; split <;> simp [hI.lens]⟩
  intro j seen hj
  show WaitOk ((s.setProf c i p).prof c j) seen
  by_cases hji : j = i
  · subst hji
    simp only at hj
    rw [List.getElem?_set] at hj
    split at hj
    · split at hj
      · simp only [Option.some.injEq] at hj
        rw [prof_self hlen]
        exact hw seen hj
      · cases hj
    · rename_i hne; exact absurd rfl hne
  · simp only at hj
    rw [List.getElem?_set_ne (Ne.symm hji)] at hj
    exact waitOk_evolves (hI.wait j seen hj) (evolves_other hji hev)

/-! ### every step of the pool over composite profiles is a step of the fine pool, or none -/

theorem inst_lt_of_w {c : Cfg} {s : CSt} (hI : CInv c s) {i : Nat} {x : Option Nat} (h : s.w[i]? = some x) :
    c.perInstance = true → i < s.op.length := fun _ => by rw [hI.lens]; exact lt_of_get h

/-- a step that only moves the fine pool's `pend` / `base` and leaves the profiles alone keeps the invariant as long as
the token counters stay -/
theorem cinv_same_profiles {c : Cfg} {s s' : CSt} (hI : CInv c s) (hsp : s'.sp = s.sp) (hop : s'.op = s.op) (hw : s'.w = s.w)
    (hsh : s'.f.base.shared = s.f.base.shared) (how : s'.f.base.own = s.f.base.own) : CInv c s' :=
  ⟨by rw [hsh, hsp]; exact hI.shared, by rw [how, hop]; exact hI.own,
   fun j seen hj => by rw [prof_of hsp hop]; exact hI.wait j seen (hw ▸ hj), by rw [hop, hw]; exact hI.lens⟩

/-- what a step of the pool over composite profiles is for the fine pool, when it is one: a section that concludes a
`Next()` is the atomic access `inc`, the reader section of `Left()` the atomic access `load` -/
def feOf : CEv → FEv
  | .rsec i => .inc i
  | .wsec i => .inc i
  | .nextRet i ok => .nextRet i ok
  | .lsec i => .load i
  | .leftRet i l => .leftRet i l
  | .other e => .other e

theorem cstep_spec {c : Cfg} {parts : List Nat} (hparts : tot parts = c.tokens) {s s' : CSt} {e : CEv} (hI : CInv c s)
    (h : cstep c parts s e = some s') : (s'.f = s.f ∨ fstep c s.f (feOf e) = some s'.f) ∧ CInv c s' := by
  cases e with
  | rsec i =>
    simp only [cstep] at h
    split at h
    · rename_i hg
      obtain ⟨hpend, hwi, _⟩ := hg
      generalize hr : rsec (s.prof c i) = r at h
      obtain ⟨p, o⟩ := r
      cases o with
      | ret ok =>
        simp only at h
        cases ok with
        | true =>
          obtain ⟨h1, h2⟩ := rsec_ret_true hr
          obtain ⟨hf, hI'⟩ := conclude_spec hI hpend (fun _ => h1) (fun hx => by cases hx) h2 h
          exact ⟨.inr hf, hI'⟩
        | false =>
          obtain ⟨h1, h2⟩ := rsec_ret_false hr
          obtain ⟨hf, hI'⟩ := conclude_spec hI hpend (fun hx => by cases hx) (fun _ => ⟨h1, h2⟩) (h1 ▸ evolves_refl _) h
          exact ⟨.inr hf, hI'⟩
      | wait seen =>
        simp only [Option.some.injEq] at h
        subst h
        obtain ⟨h1, h2⟩ := rsec_wait hr
        subst h1
        exact ⟨.inl (setProf_f _ _ _ _), stutter_spec hI (inst_lt_of_w hI hwi) rfl (evolves_refl _)
          (fun sn hsn => by cases hsn; exact h2)⟩
      | retry => simp only at h; cases h
      | panic => simp only at h; cases h
    · cases h
  | wsec i =>
    simp only [cstep] at h
    split at h
    · rename_i seen hwi
      split at h
      · rename_i hpend
        have hw := hI.wait i seen hwi
        generalize hr : wsec (s.prof c i) seen = r at h
        obtain ⟨p, o⟩ := r
        cases o with
        | ret ok =>
          simp only at h
          cases ok with
          | true =>
            obtain ⟨h1, h2⟩ := wsec_ret_true hw hr
            obtain ⟨hf, hI'⟩ := conclude_spec hI hpend (fun _ => h1) (fun hx => by cases hx) h2 h
            exact ⟨.inr hf, hI'⟩
          | false =>
            obtain ⟨h1, h2⟩ := wsec_ret_false hw hr
            obtain ⟨hf, hI'⟩ := conclude_spec hI hpend (fun hx => by cases hx) (fun _ => ⟨h1, h2⟩) (h1 ▸ evolves_refl _) h
            exact ⟨.inr hf, hI'⟩
        | retry =>
          simp only [Option.some.injEq] at h
          subst h
          obtain ⟨h1, h2⟩ := wsec_retry hw hr
          exact ⟨.inl (setProf_f _ _ _ _), stutter_spec hI (inst_lt_of_w hI hwi) h1 h2 (fun sn hsn => by cases hsn)⟩
        | wait sn => simp only at h; cases h
        | panic => simp only at h; cases h
      · cases h
    · cases h
  | nextRet i ok =>
    simp only [cstep] at h
    split at h
    · rename_i hg
      simp only [Option.some.injEq] at h
      subst h
      exact ⟨.inr (by simp only [feOf, fstep, hg, if_true]), cinv_same_profiles hI rfl rfl rfl rfl rfl⟩
    · cases h
  | lsec i =>
    simp only [cstep] at h
    split at h
    · rename_i hg
      have hl : compLeft (s.prof c i) = s.f.base.left c i := (left_eq hI i).symm
      rw [hl] at h
      cases hs : step c s.f.base (.chk i (s.f.base.left c i)) with
      | none => rw [hs] at h; cases h
      | some b =>
        rw [hs] at h
        simp only [Option.map_some, Option.some.injEq] at h
        subst h
        obtain ⟨k1, k2⟩ := step_keeps hs (fun _ => nofun) (fun _ => nofun)
        exact ⟨.inr (by simp only [feOf, fstep, hg.1, if_true, hs, Option.map_some]),
          cinv_same_profiles hI rfl rfl rfl k1 k2⟩
    · cases h
  | leftRet i l =>
    simp only [cstep] at h
    split at h
    · rename_i hg
      simp only [Option.some.injEq] at h
      subst h
      exact ⟨.inr (by simp only [feOf, fstep, hg, if_true]), cinv_same_profiles hI rfl rfl rfl rfl rfl⟩
    · cases h
  | other e =>
    have key : ∀ e', (∀ i, e' ≠ .tokOk i) → (∀ i, e' ≠ .start i) → (∀ i, e' ≠ .tokEnd i) → (∀ i l, e' ≠ .chk i l) →
        (if s.f.pend[evInst e']? = some Pend.idle ∧ s.w[evInst e']? = some none then
          (step c s.f.base e').map (fun b => { s with f := { s.f with base := b } }) else none) = some s' →
        (s'.f = s.f ∨ fstep c s.f (.other e') = some s'.f) ∧ CInv c s' := by
      intro e' n1 n2 n3 n4 h'
      split at h'
      · rename_i hg
        cases hs : step c s.f.base e' with
        | none => rw [hs] at h'; cases h'
        | some b =>
          rw [hs] at h'
          simp only [Option.map_some, Option.some.injEq] at h'
          subst h'
          obtain ⟨k1, k2⟩ := step_keeps hs n1 n2
          refine ⟨.inr ?_, cinv_same_profiles hI rfl rfl rfl k1 k2⟩
          cases e' with
          | chk i l => exact absurd rfl (n4 i l)
          | tokOk i => exact absurd rfl (n1 i)
          | tokEnd i => exact absurd rfl (n3 i)
          | start i => exact absurd rfl (n2 i)
          | _ => simp only [fstep, hg.1, if_true, hs, Option.map_some]
      · cases h'
    cases e with
    | chk i l => simp only [cstep] at h; cases h
    | tokOk i => simp only [cstep] at h; cases h
    | tokEnd i => simp only [cstep] at h; cases h
    | start i =>
      simp only [cstep] at h
      split at h
      · rename_i hg
        cases hs : step c s.f.base (.start i) with
        | none => rw [hs] at h; cases h
        | some b =>
          rw [hs] at h
          simp only [Option.map_some, Option.some.injEq] at h
          subst h
          obtain ⟨k1, k2⟩ := step_start hs
          refine ⟨.inr (by simp only [feOf, fstep, evInst, hg.1, if_true, hs, Option.map_some]), ?_⟩
          refine ⟨by simp only [k1]; exact hI.shared, ?_, ?_, by simp [hI.lens]⟩
          · simp only [k2, map_set_tot, hparts, hI.own]
          · intro j seen hj
            simp only at hj
            have hji : j ≠ i := by
              intro hx; subst hx; rw [hg.2] at hj; cases hj
            have := hI.wait j seen hj
            unfold CSt.prof at this ⊢
            simp only
            rw [List.getElem?_set_ne (Ne.symm hji)]
            exact this
      · cases h
    | _ => exact key _ (fun _ => nofun) (fun _ => nofun) (fun _ => nofun) (fun _ _ => nofun) (by simpa only [cstep] using h)

theorem cinit_inv (c : Cfg) (parts : List Nat) (hparts : tot parts = c.tokens) : CInv c (cinitWith c parts) := by
  refine ⟨hparts.symm, ?_, ?_, by simp [cinitWith, cinit]⟩
  · simp only [cinitWith, cinit, finit, init, List.map_replicate]
    rfl
  · intro i seen hi
    simp only [cinitWith, cinit] at hi
    rw [List.getElem?_replicate] at hi
    split at hi <;> cases hi

/-- **refinement**: every run of the pool over composite profiles — any interleaving of reader sections, writer
sections, retries, returns and the other operations of any number of instances — ends in a state whose fine part is
reached by a run of the fine pool (atomic token counter) that is not longer; the invariant holds at the end -/
theorem comp_refines {c : Cfg} {parts : List Nat} (hparts : tot parts = c.tokens) :
    ∀ (evs : List CEv) (s0 s : CSt), CInv c s0 → crun c parts s0 evs = some s →
      (∃ fevs : List FEv, frun c s0.f fevs = some s.f ∧ fevs.length ≤ evs.length) ∧ CInv c s
  | [], s0, s, hI, h => by
    simp only [crun, Option.some.injEq] at h
    subst h
    exact ⟨⟨[], rfl, Nat.le_refl _⟩, hI⟩
  | e :: es, s0, s, hI, h => by
    simp only [crun] at h
    split at h
    · rename_i s1 hs1
      obtain ⟨hf, hI1⟩ := cstep_spec hparts hI hs1
      obtain ⟨⟨fevs, hr, hl⟩, hIs⟩ := comp_refines hparts es s1 s hI1 h
      refine ⟨?_, hIs⟩
      rcases hf with hb | hfe
      · exact ⟨fevs, by rw [← hb]; exact hr, by simp only [List.length_cons]; omega⟩
      · refine ⟨feOf e :: fevs, ?_, by simp only [List.length_cons]; omega⟩
        simp only [frun, hfe]
        exact hr
    · cases h

/-- the invariant at the end of a run from the initial state -/
theorem comp_inv {c : Cfg} {parts : List Nat} (hparts : tot parts = c.tokens) {evs : List CEv} {s : CSt}
    (h : crun c parts (cinitWith c parts) evs = some s) : CInv c s :=
  (comp_refines hparts evs _ s (cinit_inv c parts hparts) h).2

theorem comp_reaches {c : Cfg} {parts : List Nat} (hparts : tot parts = c.tokens) {evs : List CEv} {s : CSt}
    (h : crun c parts (cinitWith c parts) evs = some s) : ∃ fevs : List FEv, frun c (finit c) fevs = some s.f :=
  let ⟨⟨fevs, hr, _⟩, _⟩ := comp_refines hparts evs _ s (cinit_inv c parts hparts) h
  ⟨fevs, hr⟩

/-- what the atomic access of the fine pool leaves in `pend`: the answer of the token counter -/
theorem fstep_inc_pend {c : Cfg} {f f' : FSt} {i : Nat} (h : fstep c f (.inc i) = some f') :
    f'.pend[i]? = some (.drew (decide (0 < f.base.left c i))) := by
  simp only [fstep] at h
  split at h
  · rename_i hp
    cases hs : step c f.base (if decide (0 < f.base.left c i) = true then Ev.tokOk i else Ev.tokEnd i) with
    | none => rw [hs] at h; cases h
    | some b =>
      rw [hs] at h
      simp only [Option.map_some, Option.some.injEq] at h
      subst h
      exact List.getElem?_set_self (lt_of_get hp)
  · cases h

/-- a section of `Next()` (reader or writer) either does not conclude (the fine pool does not move) or hands the loop
exactly the answer of the pool's token counter: `ok` iff a token is left in SOME part -/
theorem section_answer {c : Cfg} {parts : List Nat} (hparts : tot parts = c.tokens) {s s' : CSt} (hI : CInv c s) {i : Nat}
    {e : CEv} (he : e = .rsec i ∨ e = .wsec i) (h : cstep c parts s e = some s') :
    s'.f = s.f ∨ s'.f.pend[i]? = some (.drew (decide (0 < tot (s.prof c i)))) := by
  obtain ⟨hf, _⟩ := cstep_spec hparts hI h
  rcases hf with hb | hfe
  · exact .inl hb
  · right
    have : feOf e = .inc i := by rcases he with rfl | rfl <;> rfl
    rw [this] at hfe
    rw [← left_eq hI i]
    exact fstep_inc_pend hfe

end Pandora.Proofs.C03Comp
