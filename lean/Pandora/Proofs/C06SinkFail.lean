/-
C06 helper lemmas: invariant of the failing-sink transition system (Model/C06SinkFail.lean).
-/
import Pandora.Model.C06SinkFail

namespace Pandora.Proofs.C06SinkFail
open Pandora.Model.C06SinkFail

/-- what holds of every reachable state -/
structure Inv (kind : Kind) (st : St) : Prop where
  fw : st.failed = st.werr
  sf : st.serr = true → st.failed = true
  live : st.phase ≠ .returned → st.checkedAfterFail = false ∧ st.err = false ∧ st.serr = false ∧ st.closes = 0 ∧
           st.failedInLastFlush = false
  done : st.phase = .returned → st.closes = 1 ∧ st.err = st.checkedAfterFail
  wac : st.writeAfterClose = false
  last : st.failedInLastFlush = true → st.failed = true ∧ st.err = false
  /-- jsonlines: a rejected write that `Run` does not report was the very last flush of the bufio layer -/
  json : kind = .jsonlines → st.phase = .returned → st.failed = true → st.err = false → st.failedInLastFlush = true

theorem inv_init (kind : Kind) : Inv kind {} := by
  refine ⟨rfl, ?_, ?_, ?_, rfl, ?_, ?_⟩ <;> simp

/-- the facts about a helper's result that the invariant needs -/
structure Keeps (st st' : St) : Prop where
  phase : st'.phase = st.phase
  closes : st'.closes = st.closes
  err : st'.err = st.err
  lastF : st'.failedInLastFlush = st.failedInLastFlush
  fw : st.failed = st.werr → st'.failed = st'.werr
  mono : st.failed = true → st'.failed = true
  wac : st.closes = 0 → st'.writeAfterClose = st.writeAfterClose

theorem keeps_refl (st : St) : Keeps st st := ⟨rfl, rfl, rfl, rfl, id, id, fun _ => rfl⟩

theorem keeps_trans {a b c : St} (h1 : Keeps a b) (h2 : Keeps b c) : Keeps a c :=
  ⟨h2.phase.trans h1.phase, h2.closes.trans h1.closes, h2.err.trans h1.err, h2.lastF.trans h1.lastF,
   fun h => h2.fw (h1.fw h), fun h => h2.mono (h1.mono h),
   fun h => (h2.wac (h1.closes.trans h)).trans (h1.wac h)⟩

theorem bflush_keeps (st : St) :
    Keeps st (bflush st).1 ∧ (bflush st).2 = !(bflush st).1.werr ∧ (bflush st).1.serr = st.serr ∧
    (bflush st).1.checkedAfterFail = st.checkedAfterFail := by
  unfold bflush
  split
  · rename_i h; exact ⟨keeps_refl st, by simp [h], rfl, rfl⟩
  · split
    · rename_i h _; exact ⟨keeps_refl st, by simpa using h, rfl, rfl⟩
    · split
      · refine ⟨⟨rfl, rfl, rfl, rfl, fun _ => rfl, fun _ => rfl, ?_⟩, rfl, rfl, rfl⟩
        intro hc; simp [hc]
      · rename_i h _ _
        refine ⟨⟨rfl, rfl, rfl, rfl, id, id, ?_⟩, by simpa using h, rfl, rfl⟩
        intro hc; simp [hc]

theorem bwrite_keeps (st : St) (k : Nat) (spill : Bool) :
    Keeps st (bwrite st k spill).1 ∧ (bwrite st k spill).2 = !(bwrite st k spill).1.werr ∧
    (bwrite st k spill).1.serr = st.serr ∧ (bwrite st k spill).1.checkedAfterFail = st.checkedAfterFail := by
  unfold bwrite
  split
  · rename_i h; exact ⟨keeps_refl st, by simp [h], rfl, rfl⟩
  · rename_i h
    split
    · obtain ⟨b1, b2, b3, b4⟩ := bflush_keeps st
      dsimp only
      split
      · rename_i hok
        rw [b2] at hok
        refine ⟨{ b1 with }, ?_, b3, b4⟩
        simpa using hok
      · exact ⟨b1, b2, b3, b4⟩
    · refine ⟨{ keeps_refl st with }, by simpa using h, rfl, rfl⟩

theorem checked_keeps (st : St) : Keeps st (checked st) := { keeps_refl st with }

/-- `eflush`: the stream part succeeds iff no failure is visible at that moment; afterwards the ghost says so -/
theorem eflush_keeps (st : St) (spill : Bool) (hfw : st.failed = st.werr) (hsf : st.serr = true → st.failed = true) :
    Keeps st (eflush st spill).1 ∧
    ((eflush st spill).2 = true → (eflush st spill).1.serr = st.serr ∧ st.failed = false ∧
        (eflush st spill).1.checkedAfterFail = st.checkedAfterFail) ∧
    ((eflush st spill).2 = false → (eflush st spill).1.serr = true ∧ (eflush st spill).1.failed = true ∧
        (eflush st spill).1.checkedAfterFail = true) := by
  unfold eflush
  by_cases hs : st.serr = true
  · simp only [hs, if_true]
    obtain ⟨b1, _, b3, b4⟩ := bflush_keeps (checked st)
    have hf := hsf hs
    refine ⟨keeps_trans (checked_keeps st) b1, by simp, fun _ => ⟨?_, ?_, ?_⟩⟩
    · rw [b3]; exact hs
    · exact b1.mono hf
    · rw [b4]; simp [checked, hf]
  · have hs' : st.serr = false := by simpa using hs
    simp only [hs', Bool.false_eq_true, if_false]
    obtain ⟨w1, w2, w3, w4⟩ := bwrite_keeps st st.sbuf spill
    -- `w`: the writer's answer; all that is used of it is `w1 … w4`
    generalize bwrite st st.sbuf spill = w at w1 w2 w3 w4 ⊢
    have hfw' : w.1.failed = w.1.werr := w1.fw hfw
    cases hw : w.2 with
    | true =>
      simp only [if_true]
      have hfail : w.1.failed = false := by rw [hfw']; rw [w2] at hw; simpa using hw
      have hpre : st.failed = false := by
        cases h : st.failed with
        | false => rfl
        | true => have := w1.mono h; rw [hfail] at this; cases this
      obtain ⟨b1, _, b3, b4⟩ := bflush_keeps (checked { w.1 with sbuf := 0 })
      have km : Keeps st (checked { w.1 with sbuf := 0 }) :=
        { w1 with }
      refine ⟨keeps_trans km b1, fun _ => ⟨(b3.trans w3).trans hs', hpre, ?_⟩, fun h => by simp at h⟩
      rw [b4]; show (w.1.checkedAfterFail || w.1.failed) = _
      rw [w4, hfail]; simp
    | false =>
      simp only [Bool.false_eq_true, if_false]
      have hfail : w.1.failed = true := by rw [hfw']; rw [w2] at hw; simpa using hw
      obtain ⟨b1, _, b3, b4⟩ := bflush_keeps (checked { w.1 with serr := true })
      have km : Keeps st (checked { w.1 with serr := true }) :=
        { w1 with }
      refine ⟨keeps_trans km b1, fun h => by simp at h, fun _ => ⟨b3, b1.mono hfail, ?_⟩⟩
      rw [b4]; show (w.1.checkedAfterFail || w.1.failed) = true
      rw [hfail]; simp

/-- the return path (deferred flush and close) from a state that has not returned yet -/
theorem ret_inv (kind : Kind) (st : St) (errArg spill : Bool)
    (hfw : st.failed = st.werr) (hsf : st.serr = true → st.failed = true)
    (hc : st.closes = 0) (hwac : st.writeAfterClose = false)
    (he : errArg = st.checkedAfterFail) (hef : errArg = true → st.failed = true) :
    Inv kind (ret kind st errArg spill) := by
  cases kind with
  | phout =>
    obtain ⟨b1, _, b3, b4⟩ := bflush_keeps st
    unfold ret
    refine ⟨b1.fw hfw, ?_, ?_, ?_, ?_, ?_, fun hk => by cases hk⟩
    · intro h; exact b1.mono (hsf (b3 ▸ h))
    · intro h; exact absurd rfl h
    · intro _; exact ⟨by show (bflush st).1.closes + 1 = 1; rw [b1.closes, hc], by show errArg = _; rw [b4]; exact he⟩
    · show (bflush st).1.writeAfterClose = false
      rw [b1.wac hc]; exact hwac
    · intro h
      have h' : (!st.failed && (bflush st).1.failed) = true := h
      simp only [Bool.and_eq_true, Bool.not_eq_true'] at h'
      refine ⟨h'.2, ?_⟩
      show errArg = false
      cases hx : errArg with
      | false => rfl
      | true => have := hef hx; rw [h'.1] at this; cases this
  | jsonlines =>
    obtain ⟨k1, k2, k3⟩ := eflush_keeps st spill hfw hsf
    unfold ret
    refine ⟨k1.fw hfw, ?_, ?_, ?_, ?_, ?_, ?_⟩
    · intro h
      show (eflush st spill).1.failed = true
      cases hr : (eflush st spill).2 with
      | true => exact k1.mono (hsf ((k2 hr).1 ▸ h))
      | false => exact (k3 hr).2.1
    · intro h; exact absurd rfl h
    · intro _
      refine ⟨by show (eflush st spill).1.closes + 1 = 1; rw [k1.closes, hc], ?_⟩
      show (errArg || !(eflush st spill).2) = (eflush st spill).1.checkedAfterFail
      cases hr : (eflush st spill).2 with
      | true => rw [(k2 hr).2.2, he]; simp
      | false => rw [(k3 hr).2.2]; simp
    · show (eflush st spill).1.writeAfterClose = false
      rw [k1.wac hc]; exact hwac
    · intro h
      have h' : (!st.failed && (eflush st spill).1.failed && (eflush st spill).2) = true := h
      simp only [Bool.and_eq_true, Bool.not_eq_true'] at h'
      refine ⟨h'.1.2, ?_⟩
      show (errArg || !(eflush st spill).2) = false
      rw [h'.2]
      cases hx : errArg with
      | false => rfl
      | true => have := hef hx; rw [h'.1.1] at this; cases this
    · intro _ _ hf he'
      have hf' : (eflush st spill).1.failed = true := hf
      have he'' : (errArg || !(eflush st spill).2) = false := he'
      simp only [Bool.or_eq_false_iff, Bool.not_eq_false'] at he''
      have hpre := (k2 he''.2).2.1
      show (!st.failed && (eflush st spill).1.failed && (eflush st spill).2) = true
      rw [hpre, hf', he''.2]; rfl

theorem inv_ite {kind : Kind} {c : Bool} {a b : St} (ha : c = true → Inv kind a) (hb : c = false → Inv kind b) :
    Inv kind (if c then a else b) := by
  cases c
  · simpa using hb rfl
  · simpa using ha rfl

/-- after a write of the buffered writer with answer `r` (all the invariant reads of it is in `w1 … w4`): go on, or
return the error -/
theorem write_inv (kind : Kind) {st : St} (spill : Bool) (h : Inv kind st) (hp : st.phase ≠ .returned) (r : St × Bool)
    (w1 : Keeps st r.1) (w2 : r.2 = !r.1.werr) (w3 : r.1.serr = st.serr)
    (w4 : r.1.checkedAfterFail = st.checkedAfterFail) :
    Inv kind (if r.2 then checked r.1 else ret kind (checked r.1) true spill) := by
  obtain ⟨l1, l2, l3, l4, l5⟩ := h.live hp
  have hfw : r.1.failed = r.1.werr := w1.fw h.fw
  apply inv_ite
  · intro hw
    have hfail : r.1.failed = false := by rw [hfw]; rw [w2] at hw; simpa using hw
    refine ⟨hfw, ?_, ?_, ?_, ?_, ?_, ?_⟩
    · intro hs; have : st.serr = true := w3 ▸ hs; rw [l3] at this; cases this
    · intro _
      refine ⟨?_, w1.err.trans l2, w3.trans l3, w1.closes.trans l4, w1.lastF.trans l5⟩
      show (r.1.checkedAfterFail || r.1.failed) = false
      rw [w4, hfail]; simpa using l1
    · intro hr; exact absurd (hr.symm.trans w1.phase) (fun e => hp e.symm)
    · exact (w1.wac l4).trans h.wac
    · intro hl; have : st.failedInLastFlush = true := (w1.lastF ▸ hl); rw [l5] at this; cases this
    · intro _ hr; exact absurd (hr.symm.trans w1.phase) (fun e => hp e.symm)
  · intro hw
    have hfail : r.1.failed = true := by rw [hfw]; rw [w2] at hw; simpa using hw
    refine ret_inv _ _ _ _ hfw (fun _ => hfail) (w1.closes.trans l4) ((w1.wac l4).trans h.wac) ?_ (fun _ => hfail)
    show true = (r.1.checkedAfterFail || r.1.failed)
    rw [hfail]; simp

/-- `handle`, then either go on or return its error -/
theorem handle_inv (kind : Kind) (st : St) (spill : Bool) (h : Inv kind st) (hp : st.phase ≠ .returned) :
    Inv kind (if (handle kind st spill).2 then (handle kind st spill).1 else ret kind (handle kind st spill).1 true spill) := by
  cases kind with
  | jsonlines =>
    have hok : (handle .jsonlines st spill).2 = true := by simp [handle, (h.live hp).2.2.1]
    rw [if_pos hok]
    exact { h with }
  | phout =>
    obtain ⟨w1, w2, w3, w4⟩ := bwrite_keeps { st with q := st.q - 1 } 1 spill
    exact write_inv .phout spill h hp _ { w1 with } w2 w3 w4

theorem inv_step (kind : Kind) {st : St} (h : Inv kind st) (e : Ev) : Inv kind (step kind st e) := by
  cases e with
  | report | sinkBreaks | cancel => exact { h with }
  | seeCancel =>
    simp only [step]
    split
    · split
      · rename_i hp _
        have hl := h.live (by rw [hp]; decide)
        exact { h with
          live := fun _ => hl
          done := fun hr => nomatch hr
          json := fun _ hr => nomatch hr }
      · exact h
    · exact h
  | recv spill =>
    simp only [step]
    split
    · rename_i hp
      split
      · exact h
      · exact handle_inv kind st spill h (by rw [hp]; decide)
    · exact h
  | drain spill =>
    simp only [step]
    split
    · rename_i hp
      have hne : st.phase ≠ .returned := by rw [hp]; decide
      obtain ⟨l1, l2, l3, l4, l5⟩ := h.live hne
      split
      · exact ret_inv kind st false spill h.fw h.sf l4 h.wac (by rw [l1]) (fun hx => by cases hx)
      · exact handle_inv kind st spill h hne
    · exact h
  | tick spill =>
    simp only [step]
    split
    · rename_i hp
      have hne : st.phase ≠ .returned := by rw [hp]; decide
      obtain ⟨l1, l2, l3, l4, l5⟩ := h.live hne
      cases kind with
      | phout =>
        obtain ⟨b1, _, b3, b4⟩ := bflush_keeps st
        simp only
        refine ⟨b1.fw h.fw, ?_, ?_, ?_, (b1.wac l4).trans h.wac, ?_, fun hk => by cases hk⟩
        · intro hs; rw [b3, l3] at hs; cases hs
        · intro _; exact ⟨b4.trans l1, b1.err.trans l2, b3.trans l3, b1.closes.trans l4, b1.lastF.trans l5⟩
        · intro hr; exact absurd (hr.symm.trans b1.phase) (fun e => hne e.symm)
        · intro hl; rw [b1.lastF, l5] at hl; cases hl
      | jsonlines =>
        simp only
        split
        · obtain ⟨k1, k2, k3⟩ := eflush_keeps st spill h.fw h.sf
          apply inv_ite
          · intro hr
            obtain ⟨r1, r2, r3⟩ := k2 hr
            refine ⟨k1.fw h.fw, ?_, ?_, ?_, (k1.wac l4).trans h.wac, ?_,
              fun _ hx => absurd (Eq.symm (Eq.trans (Eq.symm hx) k1.phase)) hne⟩
            · intro hs
              have : (eflush st spill).1.serr = true := hs
              rw [r1, l3] at this; cases this
            · intro _; exact ⟨r3.trans l1, k1.err.trans l2, r1.trans l3, k1.closes.trans l4, k1.lastF.trans l5⟩
            · intro hx; exact absurd (Eq.symm (hx.symm.trans k1.phase)) hne
            · intro hl
              have : (eflush st spill).1.failedInLastFlush = true := hl
              rw [k1.lastF, l5] at this; cases this
          · intro hr
            obtain ⟨r1, r2, r3⟩ := k3 hr
            apply ret_inv
            · exact k1.fw h.fw
            · intro _; exact r2
            · exact k1.closes.trans l4
            · exact (k1.wac l4).trans h.wac
            · exact r3.symm
            · intro _; exact r2
        · exact { h with }
    · exact h

theorem inv_run (kind : Kind) (tr : List Ev) {st : St} (h : Inv kind st) : Inv kind (run kind st tr) := by
  induction tr generalizing st with
  | nil => exact h
  | cons e es ih => exact ih (inv_step kind h e)

/-- jsonlines: a failure that was there before the return path began makes the final stream flush fail -/
theorem json_pre_failed (st : St) (spill : Bool) (hfw : st.failed = st.werr) (hsf : st.serr = true → st.failed = true)
    (hf : st.failed = true) : (eflush st spill).2 = false := by
  obtain ⟨_, k2, _⟩ := eflush_keeps st spill hfw hsf
  cases hr : (eflush st spill).2 with
  | false => rfl
  | true => have := (k2 hr).2.1; rw [hf] at this; cases this

end Pandora.Proofs.C06SinkFail
