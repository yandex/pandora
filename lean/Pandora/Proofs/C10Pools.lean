/-
C10 — objects that come out of a `sync.Pool`: the sample at setter level and netsample's recycling pool; the ammo objects
of the grpc/json provider.
-/
import Pandora.Proofs.C10

namespace Pandora.Proofs.C10
open Pandora.Model.C10 Pandora.Spec.C10

/-! ### setter level -/

theorem applyOps_append (s : Sample) (a b : List SampleOp) : applyOps s (a ++ b) = applyOps (applyOps s a) b := by
  simp [applyOps, List.foldl_append]

/-- the tag block leaves `httpTag` on the sample and touches nothing else -/
theorem applyOps_tagOps (cfg : AutoTagCfg) (t path : String) (i p n : Nat) :
    applyOps { tags := t, id := i, proto := p, net := n } (tagOps cfg t path) =
      { tags := httpTag cfg t path, id := i, proto := p, net := n } := by
  unfold tagOps httpTag
  split
  · simp only [List.cons_append, List.nil_append, applyOps, List.foldl_cons, List.foldl_nil, applyOp]
    split <;> rfl
  · simp only [List.nil_append, applyOps, List.foldl_cons, List.foldl_nil, applyOp]
    split <;> rfl

/-- `BaseGun.Shoot` as a sequence of setter calls on a freshly acquired sample -/
theorem shootHttp_as_ops (cfg : AutoTagCfg) (s : HttpShot) (hc : s.connectHook = none) :
    (shootHttp cfg s).reports = [applyOps (fresh s.ammoTag) (httpOps cfg s)] := by
  unfold shootHttp httpOps
  rw [hc]
  by_cases hi : s.invalid = true
  · simp [hi, applyOps, applyOp, fresh]
  · have hi' : s.invalid = false := by simpa using hi
    simp only [hi', Bool.false_eq_true, if_false]
    have h0 : applyOps (fresh s.ammoTag) (SampleOp.setID s.id :: (tagOps cfg s.ammoTag s.path ++ outcomeOps s.outcome))
        = applyOps { tags := httpTag cfg s.ammoTag s.path, id := s.id, proto := 0, net := 0 } (outcomeOps s.outcome) := by
      have : applyOps (fresh s.ammoTag) (SampleOp.setID s.id :: (tagOps cfg s.ammoTag s.path ++ outcomeOps s.outcome))
          = applyOps { tags := s.ammoTag, id := s.id, proto := 0, net := 0 } (tagOps cfg s.ammoTag s.path ++ outcomeOps s.outcome) := by
        simp [applyOps, applyOp, fresh]
      rw [this, applyOps_append, applyOps_tagOps]
    rw [h0]
    cases s.outcome with
    | doErr e => simp [outcomeOps, applyOps, applyOp]
    | response st b => cases b <;> simp [outcomeOps, applyOps, applyOp]
    | doPanic => simp [outcomeOps, applyOps]

/-! ### the recycling pool -/

theorem runRecycling_acquire (choose : List Sample → Option Nat) (pool : List Sample)
    (reqs : List (String × List SampleOp)) :
    runRecycling acquire choose pool reqs = reqs.map fun r => applyOps (fresh r.1) r.2 := by
  induction reqs generalizing pool with
  | nil => simp [runRecycling]
  | cons r rest ih =>
    obtain ⟨tag, ops⟩ := r
    simp [runRecycling, acquire, ih]

/-! ### pooled ammo objects -/

/-- `decodeAmmo` overwrites the whole object: what the pooled object carried does not matter -/
theorem deliver_ignores_pooled (p q : AmmoObj) (e : Entry) : deliver p e = deliver q e := by
  unfold deliver AmmoObj.reset
  split <;> rfl

/-- whatever the pool holds and whichever object it hands out, every line is delivered as if decoded into a new object -/
theorem runAmmoPool_deliver (choose : List AmmoObj → Option Nat) (pool : List AmmoObj) (ents : List Entry) :
    runAmmoPool deliver choose pool ents = ents.map (deliver {}) := by
  induction ents generalizing pool with
  | nil => simp [runAmmoPool]
  | cons e rest ih =>
    simp only [runAmmoPool, List.map_cons]
    rw [ih, deliver_ignores_pooled _ {}]

/-- the tag an entry's sample must carry: the line's own `tag`, nothing when it has none or cannot be decoded -/
def entryTag (e : Entry) : String := if e.decodable then e.tag.getD "" else ""

theorem deliver_tag (p : AmmoObj) (e : Entry) : (deliver p e).tag = entryTag e := by
  unfold deliver entryTag AmmoObj.reset decodeFresh
  split <;> rfl

theorem deliver_invalid (p : AmmoObj) (e : Entry) : (deliver p e).invalid = !e.decodable := by
  unfold deliver AmmoObj.reset
  split <;> simp_all

theorem shootAmmo_tags (l : List AmmoObj) : (shootAmmo l).map (·.tags) = l.map (·.tag) := by
  induction l with
  | nil => simp [shootAmmo]
  | cons a rest ih =>
    simp only [shootAmmo, List.flatMap_cons, List.map_append, List.map_cons] at ih ⊢
    rw [ih]
    simp [shootGrpc]

theorem shootAmmo_length (l : List AmmoObj) : (shootAmmo l).length = l.length := by
  have := congrArg List.length (shootAmmo_tags l)
  simpa using this

end Pandora.Proofs.C10
