/-
C17 — what a decoded struct holds (defaults), validation, the discard_overflow default.
-/
import Pandora.Proofs.C17

namespace Pandora.Proofs.C17
open Pandora.Model.C17

/-! ## the fields of a decoded struct -/

def Fields.toList : Fields → List (FInfo × Schema)
  | .nil => []
  | .cons f s rest => (f, s) :: Fields.toList rest

/-- what decoding does with one field: the key is looked up; no key → the default stays -/
def fieldResult (fl : Flags) (env : Env) (kvs : List (Str × Val)) (f : FInfo) (s : Schema) : R :=
  match (if f.settable then findKey kvs f.key else none) with
  | none => keep false s
  | some (_, v) => decode fl env s v

/-- one field of `decodeFlat`, by the result of that field -/
theorem decodeFlat_cons_field (fl : Flags) (env : Env) (f : FInfo) (s : Schema) (rest : Fields) (kvs : List (Str × Val)) :
    (decodeFlat fl env (.cons f s rest) kvs).vals =
      (f.name, (fieldResult fl env kvs f s).val) :: (decodeFlat fl env rest kvs).vals ∧
    (decodeFlat fl env (.cons f s rest) kvs).vfail =
      (tagsFail f.tags (fieldResult fl env kvs f s).val || childVfail f s (fieldResult fl env kvs f s) ||
        (decodeFlat fl env rest kvs).vfail) := by
  rw [decodeFlat_cons]
  unfold fieldResult
  generalize (if f.settable = true then findKey kvs f.key else none) = o
  cases o with
  | none => simp
  | some kv => cases kv; simp

theorem decodeFlat_vals (fl : Flags) (env : Env) : ∀ (fs : Fields) (kvs : List (Str × Val)),
    (decodeFlat fl env fs kvs).vals =
      (Fields.toList fs).map fun p => (p.1.name, (fieldResult fl env kvs p.1 p.2).val)
  | .nil, _ => by simp [decodeFlat, Fields.toList]
  | .cons f s rest, kvs => by
    simp [Fields.toList, (decodeFlat_cons_field fl env f s rest kvs).1, decodeFlat_vals fl env rest kvs]

theorem decodeFlat_vfail (fl : Flags) (env : Env) : ∀ (fs : Fields) (kvs : List (Str × Val)),
    (decodeFlat fl env fs kvs).vfail =
      (Fields.toList fs).any fun p =>
        tagsFail p.1.tags (fieldResult fl env kvs p.1 p.2).val || childVfail p.1 p.2 (fieldResult fl env kvs p.1 p.2)
  | .nil, _ => by simp [decodeFlat, Fields.toList]
  | .cons f s rest, kvs => by
    simp [Fields.toList, (decodeFlat_cons_field fl env f s rest kvs).2, decodeFlat_vfail fl env rest kvs]

theorem fieldIn_toList : ∀ {fs : Fields} {f : FInfo} {s : Schema}, FieldIn f s fs → (f, s) ∈ Fields.toList fs
  | _, _, _, .head f s rest => by simp [Fields.toList]
  | _, _, _, .tail f s g t rest h => by simp [Fields.toList, fieldIn_toList h]

theorem keepFields_vals (zero : Bool) : ∀ (fs : Fields),
    (keepFields zero fs).vals = (Fields.toList fs).map fun p => (p.1.name, (keep zero p.2).val)
  | .nil => by simp [keepFields, Fields.toList]
  | .cons f s rest => by
    have ih := keepFields_vals zero rest
    simp [keepFields, Fields.toList, ih]

/-! ## validation -/

theorem vfail_of_field (fl : Flags) (env : Env) (fs : Fields) (kvs : List (Str × Val)) (f : FInfo) (s : Schema)
    (hin : FieldIn f s fs)
    (h : tagsFail f.tags (fieldResult fl env kvs f s).val = true ∨ childVfail f s (fieldResult fl env kvs f s) = true) :
    (decodeFlat fl env fs kvs).vfail = true := by
  rw [decodeFlat_vfail, List.any_eq_true]
  refine ⟨(f, s), fieldIn_toList hin, ?_⟩
  rcases h with h | h <;> simp [h]

theorem rejected_of_vfail (fl : Flags) (env : Env) (s : Schema) (cfg : Val) (h : (decode fl env s cfg).vfail = true) :
    (decodeAndValidate fl env s cfg).rejected = true := by
  unfold decodeAndValidate
  generalize decode fl env s cfg = r at h
  have : settle r ≠ [] := by
    unfold settle
    cases he : r.errs with
    | nil => simp [h]
    | cons x xs => simp
  cases hs : settle r with
  | nil => exact absurd hs this
  | cons x xs => simp [Outcome.rejected, hs]

/-! ## the discard_overflow default -/

/-- a pool mapping without the key: after `readConfig`'s loop the struct field with that key gets the inserted value -/
theorem findKey_defaulted (pk : List (Str × Val)) (key : Str) (b : Val) (h : ∀ e ∈ pk, e.1 ≠ key) :
    findKey (pk ++ [(key, b)]) key = some (key, b) := by
  have hno : pk.find? (fun kv => kv.1 == key) = none := List.find?_eq_none.mpr fun x hx => by simpa using h x hx
  simp [findKey, List.find?_append, hno]

end Pandora.Proofs.C17
