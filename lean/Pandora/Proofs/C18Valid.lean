/-
C18 — validation of the decoded configuration: what a world in which EVERY fillConf fails (the configuration is
invalid) resp. NO fillConf fails (it is valid) does to a phase started in any state.
-/
import Pandora.Proofs.C18Ext
import Pandora.Spec.C18Valid

namespace Pandora.Proofs.C18
open Pandora.Model.C18 Pandora.Spec.C18

theorem resFill_conv_fill (pan : Bool) (i : Nat) : resFill ⟨evs, conv pan (.fill i)⟩ = true := by
  cases pan <;> simp [conv, resFill]

theorem resFill_conv_ctor (pan : Bool) (i : Nat) : resFill ⟨evs, conv pan (.ctor i)⟩ = false := by
  cases pan <;> simp [conv, resFill]

theorem resFill_conv_fact (pan : Bool) (i : Nat) : resFill ⟨evs, conv pan (.fact i)⟩ = false := by
  cases pan <;> simp [conv, resFill]

/-- every fillConf fails: what gets a configuration fails in fillConf -/
theorem callErr_allfail (sh : Shape) (w : World) (vf : Bool) (st : St)
    (hf : w.hasFill = true) (ha : ∀ i, w.fillFault i = true) : callErr sh w true vf st = some (.fill st.fills) := by
  simp [callErr, getFails, fillFails, hf, ha]

/-- no fillConf fails: no failure is fillConf's -/
theorem callErr_nofail {sh : Shape} {w : World} {doGet vf : Bool} {st : St} (hn : ∀ i, w.fillFault i = false) {e : Err}
    (h : callErr sh w doGet vf st = some e) (i : Nat) : e ≠ .fill i := by
  have hg : getFails w doGet st = false := by simp [getFails, fillFails, hn]
  unfold callErr at h
  simp only [hg, Bool.false_eq_true, if_false] at h
  split at h
  · cases h; simp
  · split at h
    · cases h; simp
    · simp at h

theorem callSpec_allfail (sh : Shape) (w : World) (vf pan : Bool) (st : St)
    (hf : w.hasFill = true) (ha : ∀ i, w.fillFault i = true) :
    resFill (callSpec sh w true vf pan st).2.2 = true := by
  rw [callSpec_fail pan (callErr_allfail sh w vf st hf ha)]
  exact resFill_conv_fill pan _

theorem callSpec_nofail (sh : Shape) (w : World) (doGet vf pan : Bool) (st : St)
    (hn : ∀ i, w.fillFault i = false) :
    resFill (callSpec sh w doGet vf pan st).2.2 = false := by
  cases he : callErr sh w doGet vf st with
  | none => rw [callSpec_ok pan he]; rfl
  | some e =>
    rw [callSpec_fail pan he]
    cases e with
    | fill i => exact absurd rfl (callErr_nofail hn he i)
    | ctor i => exact resFill_conv_ctor pan _
    | fact i => exact resFill_conv_fact pan _

theorem facSpec_nofill (sh : Shape) (w : World) (rf : RegFac) (pan : Bool) (st : St) :
    resFill (facSpec sh w rf pan st).2.2 = false := by
  unfold facSpec
  by_cases hff : factFails sh w st.facts = true
  · simp only [hff, if_true]; exact resFill_conv_fact pan _
  · simp only [hff, Bool.false_eq_true, if_false]; rfl

/-- every fillConf fails: a factory constructor's `NewFactory` ends with fillConf's error -/
theorem createSpec_allfail (sh : Shape) (w : World) (n : Nat) (st : St)
    (hf : w.hasFill = true) (ha : ∀ i, w.fillFault i = true) (hfa : sh.factory = true) :
    (createSpec sh w n st).2.2.2 = .error (.fill st.fills) := by
  simp [createSpec, hfa, callErr_allfail sh w false st hf ha]

/-- no fillConf fails: `NewFactory` does not end with fillConf's error -/
theorem createSpec_nofail (sh : Shape) (w : World) (n : Nat) (st : St) (hn : ∀ i, w.fillFault i = false) (e : Err)
    (he : (createSpec sh w n st).2.2.2 = .error e) : ∀ i, e ≠ .fill i := by
  unfold createSpec at he
  by_cases hfa : sh.factory = true
  · simp only [hfa, Bool.not_true, Bool.false_eq_true, if_false] at he
    cases hce : callErr sh w true false st with
    | none => simp [hce] at he
    | some e' =>
      simp only [hce, Except.error.injEq] at he
      subst he
      exact callErr_nofail hn hce
  · simp only [hfa, Bool.not_false, if_true, fillFails, hn, Bool.and_false, Bool.false_eq_true, if_false] at he
    by_cases hc : sh.cfg = .none <;> simp [hc] at he

/-- **the configuration is invalid** (every fillConf invocation fails, the constructor takes a config): every
operation of the phase is the creation of a factory from a component constructor (which needs no configuration) or
ends with fillConf's error -/
theorem allfail_phase (inp : Input) (st : St) (hf : inp.w.hasFill = true) (ha : ∀ i, inp.w.fillFault i = true)
    (hc : inp.sh.cfg ≠ .none) :
    ∀ s ∈ (phaseObs inp st).steps, isMade s = true ∨ resFill s = true := by
  intro s hs
  by_cases hper : inp.form = .component ∨ inp.sh.factory = false
  · -- every call gets its own configuration
    obtain ⟨f, pan, st1, pre, hf', _, hsteps, hpre, _⟩ := percall_iter inp st hc hper
    rw [hsteps, List.mem_append] at hs
    rcases hs with hs | hs
    · rcases hpre with ⟨_, rfl⟩ | ⟨_, rfl⟩
      · cases hs
      · rw [List.mem_singleton.mp hs]; exact .inl rfl
    · exact .inr ((iter_inv f (fun _ => True) (fun s => resFill s = true) (fun s _ => ⟨trivial, by
        rw [(tri_step (hf' s)).2.2]; exact callSpec_allfail inp.sh inp.w _ pan s hf ha⟩) inp.k st1 trivial).2 s hs)
  · -- a factory from a factory constructor: the creation itself fails
    have hfa : inp.sh.factory = true := by
      cases h : inp.sh.factory
      · exact absurd (.inr h) hper
      · rfl
    obtain ⟨_, _, _, q4⟩ := quad_proj (create_eq inp.sh inp.w inp.form.numOut (st0 st) rfl)
    rw [createSpec_allfail inp.sh inp.w inp.form.numOut (st0 st) hf ha hfa] at q4
    rcases phase_cases inp st with ⟨hf', _⟩ | ⟨_, _, _, ⟨e, he, hsteps⟩ | ⟨fac, hfac, _⟩⟩
    · exact absurd (.inl hf') hper
    · rw [hsteps, List.mem_singleton] at hs
      rw [q4] at he
      cases he
      rw [hs]; exact .inr rfl
    · rw [q4] at hfac; cases hfac

/-- **the configuration is valid** (no fillConf invocation fails): no operation of the phase ends with fillConf's error -/
theorem nofail_phase (inp : Input) (st : St) (hn' : ∀ i, inp.w.fillFault i = false) :
    ∀ s ∈ (phaseObs inp st).steps, resFill s = false :=
  phase_all inp st (fun s => resFill s = false) (fun doGet vf pan s => callSpec_nofail inp.sh inp.w doGet vf pan s hn')
    (facSpec_nofill inp.sh inp.w) (fun _ => rfl) (fun s e he => by
      have := createSpec_nofail inp.sh inp.w inp.form.numOut s hn' e he
      cases e with
      | fill i => exact absurd rfl (this i)
      | ctor i => rfl
      | fact i => rfl)

/-- the rule looks at what the products are built from, and that does not depend on the fault plan -/
theorem ruleHolds_validating (r : Rule) (inp : Input) : ruleHolds r (validating r inp) = ruleHolds r inp := by
  simp [ruleHolds, validating, withFill, expected, defaults]

/-- a step that is `made` or ends with an error yields no product -/
theorem products_nil {steps : List Step} (h : ∀ s ∈ steps, isMade s = true ∨ resFill s = true) : products steps = [] := by
  simp only [products, List.filterMap_eq_nil_iff]
  intro s hs
  rcases h s hs with h | h
  · simp only [isMade, beq_iff_eq] at h; simp [product?, h]
  · unfold resFill at h
    unfold product?
    split <;> simp_all

/-- validation of one creation started in a state in which a shared default configuration (if any) is what it must be -/
theorem validate_phase (r : Rule) (hr : r.field ≠ markField) (inp : Input) (st : St)
    (hB : SharedOk (validating r inp).sh (validating r inp).w st.heap) :
    validProductsOk r inp (phaseObs (validating r inp) st) = true ∧
    validAcceptedOk r inp (phaseObs (validating r inp) st) = true ∧
    invalidRefusedOk r inp (phaseObs (validating r inp) st) = true := by
  cases hv : ruleHolds r inp with
  | true =>
    have hnf : ∀ i, (validating r inp).w.fillFault i = false := by intro i; simp [validating, hv]
    have h2 := nofail_phase (validating r inp) st hnf
    refine ⟨?_, ?_, by simp [invalidRefusedOk, hv]⟩
    · simp only [validProductsOk, Bool.or_eq_true, beq_iff_eq, List.all_eq_true]
      by_cases hc : inp.sh.cfg = .none
      · exact .inl hc
      · refine .inr fun p hp => ?_
        have hseen := (config_phase (validating r inp) st hB p hp).2 hc r.field hr
        have hexp : expected (validating r inp).sh (validating r inp).w = expected inp.sh (withFill inp).w := by
          simp [expected, validating, withFill, defaults]
        simp only [ruleHolds, Bool.or_eq_true, beq_iff_eq, hc, false_or] at hv
        rw [hexp] at hseen
        simpa [Rule.ok, hseen] using hv
    · simp only [validAcceptedOk, hv, Bool.not_true, Bool.false_or, List.all_eq_true, Bool.not_eq_true']
      exact h2
  | false =>
    have hc : inp.sh.cfg ≠ .none := by
      intro hc; simp [ruleHolds, hc] at hv
    have haf : ∀ i, (validating r inp).w.fillFault i = true := by intro i; simp [validating, hv]
    have h3 := allfail_phase (validating r inp) st rfl haf hc
    have hnil := products_nil h3
    refine ⟨by simp [validProductsOk, hnil], by simp [validAcceptedOk, hv], ?_⟩
    simp only [invalidRefusedOk, hv, Bool.false_or, Bool.and_eq_true, List.all_eq_true, Bool.or_eq_true, hnil,
      List.isEmpty_nil, and_true]
    exact h3

end Pandora.Proofs.C18
