/-
C18 — further Spec clauses of a phase started in any state: the invocation structure of every operation for EVERY
shape (`structOk`), configuration and errors, and the per-call structure without the exclusion of a shared default
configuration (`percallOk`).
-/
import Pandora.Proofs.C18Run

set_option linter.unusedSimpArgs false

namespace Pandora.Proofs.C18
open Pandora.Model.C18 Pandora.Spec.C18

/-! ### `structOk` -/

theorem fillFailed_congr (evs : List Ev) (r r' : Res) : fillFailed ⟨evs, r⟩ = fillFailed ⟨evs, r'⟩ := rfl

theorem struct_phase (inp : Input) (st : St) : structOk inp (phaseObs inp st) = true := by
  -- every operation: its kinds, and no configuration identity when the constructor takes none
  have hps := phase_steps inp st
    (fun c => c.evs.map kindOf = createKindsBy fillFailed inp c ∧ (inp.sh.cfg = .none → noAddr c = true))
    (fun s => s.evs.map kindOf = callKindsBy fillFailed inp s ∧ (inp.sh.cfg = .none → noAddr s = true))
    (fun hform doGet s hd => ⟨callSpec_callKinds inp doGet _ s hd hform, callSpec_noAddr inp.sh inp.w doGet _ _ s⟩)
    (fun hf hfa rf s => ⟨by rw [facSpec_kinds]; simp [callKindsBy, reconfigures, hf, hfa],
      fun _ => facSpec_noAddr inp.sh inp.w rf _ s⟩)
    (fun _ s => ⟨createSpec_kinds inp.sh inp.w _ s _, createSpec_noAddr inp.sh inp.w _ s _⟩)
  generalize phaseObs inp st = obs at hps
  have hfin : (∀ s ∈ obs.steps, inp.sh.cfg = .none → noAddr s = true) →
      (inp.sh.cfg != .none || obs.steps.all noAddr) = true := by
    intro hh
    by_cases hc : inp.sh.cfg = .none
    · simp only [Bool.or_eq_true, List.all_eq_true]; exact .inr fun s hs => hh s hs hc
    · simp [hc]
  simp only [structOk, structOkBy, Bool.and_eq_true, List.all_eq_true, beq_iff_eq]
  rcases hps with ⟨hf, _, hall⟩ | ⟨hf, c, calls, hst, hc, _, hcalls⟩
  · refine ⟨⟨by simp [hf], fun s hs => (hall s (by simpa [callsOf, hf] using hs)).1⟩, hfin fun s hs => (hall s hs).2⟩
  · rw [callsOf_ne _ hf, hst]
    refine ⟨⟨by simp [hc.1], fun s hs => (hcalls s hs).1⟩, ?_⟩
    rw [← hst]
    refine hfin fun s hs => ?_
    rw [hst, List.mem_cons] at hs
    rcases hs with rfl | hs
    · exact hc.2
    · exact (hcalls s hs).2

theorem struct_run {inp : Input} {obs : Obs} (h : run inp = some obs) : structOk inp obs = true := by
  rw [(run_eq_phase h).2]; exact struct_phase inp _

/-! ### config and errors of a phase started in any state -/

theorem config_phase (inp : Input) (st : St) (hB : SharedOk inp.sh inp.w st.heap) :
    ∀ p ∈ products (phaseObs inp st).steps, SeenOk inp.sh inp.w p.seen := by
  intro p hp
  simp only [products, List.mem_filterMap] at hp
  obtain ⟨s, hs, hsp⟩ := hp
  have hres := product?_some hsp
  -- the invariant of the k calls: the shared default configuration (if any), resp. what a factory constructor captured,
  -- stays what it must be
  have hiter : ∀ (f : St → St × Step) (I : St → Prop) (st1 : St), I st1 →
      (∀ st, I st → I (f st).1 ∧ ∀ p, (f st).2.res = .ok p → SeenOk inp.sh inp.w p.seen) →
      s ∈ (iter f inp.k st1).2 → SeenOk inp.sh inp.w p.seen :=
    fun f I st1 h1 hstep hs => (iter_inv f I (fun s => ∀ p, s.res = .ok p → SeenOk inp.sh inp.w p.seen) hstep
      inp.k st1 h1).2 s hs p hres
  rcases phase_cases inp st with ⟨_, hsteps, _⟩ | ⟨_, hn, _, ⟨e, _, hsteps⟩ | ⟨fac, hfac, hsteps, _⟩⟩
  · rw [hsteps] at hs
    exact hiter _ (fun st => SharedOk inp.sh inp.w st.heap) (st0 st) hB (fun st hI => by
      obtain ⟨t1, _, t3⟩ := tri_step (step_regNew inp.sh inp.w st)
      rw [t1, t3]
      exact callSpec_config inp.sh inp.w true inp.sh.factory false st (.inl rfl) hI) hs
  · rw [hsteps, List.mem_singleton] at hs
    rw [hs] at hres; cases hres
  · rw [hsteps, List.mem_cons] at hs
    rcases hs with rfl | hs
    · cases hres
    obtain ⟨q1, _, _, q4⟩ := quad_proj (create_eq inp.sh inp.w inp.form.numOut (st0 st) rfl)
    rw [q4] at hfac
    have hok := createSpec_facOk inp.sh inp.w _ (st0 st) fac hfac
    obtain ⟨c1, c2⟩ := createSpec_config inp.sh inp.w inp.form.numOut (st0 st) hB
    rcases callFac_cases inp.sh inp.w _ hn fac hok with ⟨hfa, doGet, hdg, h⟩ | ⟨_, rf, hrf, h⟩
    · have hd : doGet = true ∨ inp.sh.cfg = .none := by
        by_cases hc : inp.sh.cfg = .none
        · exact .inr hc
        · exact .inl (hdg.mpr hc)
      exact hiter _ (fun st => SharedOk inp.sh inp.w st.heap) _ (by rw [q1]; exact c1 hfa) (fun st hI => by
        obtain ⟨t1, _, t3⟩ := tri_step (h st)
        rw [t1, t3]
        exact callSpec_config inp.sh inp.w doGet false _ st hd hI) hs
    · exact hiter _ (fun st => SeenOk inp.sh inp.w (seenOf inp.sh.cfg rf.cell rf.copy st.heap)) _
        (by rw [q1]; exact c2 rf (by rcases hrf with rfl | rfl; exact .inl hfac; exact .inr hfac)) (fun st hI => by
          obtain ⟨t1, _, t3⟩ := tri_step (h st)
          rw [t1, t3]
          exact facSpec_config inp.sh inp.w rf _ st hI) hs

theorem errors_phase (inp : Input) (st : St) : errorsOk inp (phaseObs inp st) = true := by
  rcases phase_steps inp st (fun c => stepErrOk false c = true)
    (fun s => stepErrOk (inp.form == .facNoErr) s = true ∧ isMade s = false)
    (fun _ doGet s _ => callSpec_err inp.sh inp.w doGet _ _ s) (fun _ _ rf s => facSpec_err inp.sh inp.w rf _ s)
    (fun _ s => createSpec_err inp.sh inp.w _ s) with ⟨hf, hlen, hall⟩ | ⟨hf, c, calls, hst, hc, hres, hcalls⟩
  · rw [hf] at hall
    simp only [errorsOk, hf, hlen, beq_self_eq_true, Bool.true_and, List.all_eq_true, Bool.and_eq_true,
      Bool.not_eq_true']
    exact hall
  · have h1 : (isMade c || isErr c) = true ∧ (if isMade c then calls.length == inp.k else calls.isEmpty) = true := by
      rcases hres with ⟨hm, hl⟩ | ⟨⟨e, he⟩, rfl⟩
      · simp [isMade, hm, hl]
      · simp [isMade, isErr, he]
    unfold errorsOk
    rw [hst]
    cases hform : inp.form with
    | component => exact absurd hform hf
    | facNoErr | facErr =>
      rw [hform] at hcalls
      simp only [hc, h1.1, h1.2, Bool.true_and, List.all_eq_true, Bool.and_eq_true, Bool.not_eq_true']
      exact hcalls

/-! ### the per-call structure, shared default configuration included -/

theorem percall_phase (inp : Input) (st : St) (ha : percallApplies inp = true) :
    percallOk inp (phaseObs inp st) = true := by
  simp only [percallApplies, Bool.and_eq_true, bne_iff_ne, ne_eq, Bool.or_eq_true, beq_iff_eq,
    Bool.not_eq_true'] at ha
  obtain ⟨f, pan, st1, pre, hf, _, hsteps, hpre, hcalls, _⟩ := percall_iter inp st ha.1 ha.2
  simp only [percallOk, hcalls, percall_head hsteps hpre, Bool.true_and, List.all_eq_true]
  exact freshCall_iter inp.sh inp.w pan f hf ha.1 inp.k st1

theorem percall_run {inp : Input} {obs : Obs} (h : run inp = some obs) (ha : percallApplies inp = true) :
    percallOk inp obs = true := by
  rw [(run_eq_phase h).2]; exact percall_phase inp _ ha

end Pandora.Proofs.C18
