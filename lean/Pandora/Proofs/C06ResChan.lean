/-
C06 helper lemmas: a channel with blocking sends loses no result (Model/C06ResChan.lean).
-/
import Pandora.Model.C06ResChan

namespace Pandora.Proofs.C06ResChan
open Pandora.Model.C06ResChan

def CInv (st : St) : Prop :=
  st.received + st.buffered + st.blocked + st.lost = st.sent ∧ st.buffered ≤ st.cap ∧
  (st.blocked > 0 → st.buffered = st.cap)

theorem cinv_init (cap : Nat) : CInv { cap := cap } := by simp [CInv]

theorem cinv_step (b : Bool) {st : St} (h : CInv st) (e : Ev) : CInv (step b st e) := by
  obtain ⟨h1, h2, h3⟩ := h
  cases e with
  | send =>
    simp only [step]
    split
    · refine ⟨by simp; omega, by simp; omega, ?_⟩
      intro hb; simp at hb; have := h3 hb; omega
    · cases b
      · refine ⟨by simp; omega, by simpa using h2, ?_⟩
        intro hb; simp at hb; simpa using h3 hb
      · refine ⟨by simp; omega, by simpa using h2, ?_⟩
        intro _; simp; omega
  | recv =>
    simp only [step]
    split
    · split
      · refine ⟨by simp; omega, by simpa using h2, ?_⟩
        intro hb; simp at hb; simp; exact h3 (by omega)
      · refine ⟨by simp; omega, by simp; omega, ?_⟩
        intro hb; simp at hb; omega
    · split
      · refine ⟨by simp; omega, by simpa using h2, ?_⟩
        intro hb; simp at hb; simp; exact h3 (by omega)
      · exact ⟨h1, h2, h3⟩

theorem cinv_run (b : Bool) (tr : List Ev) {st : St} (h : CInv st) : CInv (run b st tr) := by
  induction tr generalizing st with
  | nil => exact h
  | cons e es ih => exact ih (cinv_step b h e)

/-- the capacity is fixed, and a blocking send loses nothing -/
theorem fixed_step (st : St) (e : Ev) : (step true st e).cap = st.cap ∧ (step true st e).lost = st.lost := by
  cases e <;> simp only [step, if_true] <;> (repeat' split) <;> exact ⟨rfl, rfl⟩

theorem fixed_run (tr : List Ev) (st : St) : (run true st tr).cap = st.cap ∧ (run true st tr).lost = st.lost := by
  induction tr generalizing st with
  | nil => exact ⟨rfl, rfl⟩
  | cons e es ih => exact ⟨(ih _).1.trans (fixed_step st e).1, (ih _).2.trans (fixed_step st e).2⟩

/-- `n` non-blocking sends without a receive: what does not fit into the buffer is lost -/
theorem sends_lost (n : Nat) (st : St) (h : st.buffered ≤ st.cap) :
    (run false st (List.replicate n .send)).lost = st.lost + (st.buffered + n - st.cap) := by
  induction n generalizing st with
  | zero => simp only [List.replicate, run]; omega
  | succ n ih =>
    simp only [List.replicate, run, step, Bool.false_eq_true, if_false]
    split
    · rw [ih _ (by simp only; omega)]; simp only; omega
    · rw [ih _ (by simpa using h)]; simp only; omega

end Pandora.Proofs.C06ResChan
