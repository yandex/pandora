/-
C02 — the DESCRIBED model (`Model/C02Big.lean`: a finite part is a token count and a function from the token index to
its offset) IS the list model on the expanded offsets `(List.range n).map off`.

Same route as `Proofs/C02Huge.lean`: `BLeaf.expand` is a homomorphism of schedule objects onto the list leaf
(`bleafHom`), a `Sem` pulls back along it (`pullSem`), and `compSem` / `sumSem` / `newComposite_sem` / `seq_refines`
are generic in the children, so every described tree refines the flat spec of its expansion (`bbuild_ok`).

Second half: the factory model (`Model/C02Fac.lean`).  `facRun` on k objects, projected to the calls made to object
`j`, is `seqRun` of object `j` alone (`facRun_proj`): the produced schedules are independent objects.
-/
import Pandora.Model.C02Big
import Pandora.Model.C02Fac
import Pandora.Proofs.C02Huge

set_option linter.unusedVariables false

namespace Pandora.Proofs.C02Big
open Pandora.Model.C02 Pandora.Spec.C02 Pandora.Proofs.C02Flat Pandora.Proofs.C02Sem Pandora.Proofs.C02Huge

/-! ### described parts -/

theorem expandOffs_length (n : Nat) (off : Nat → Int) : (expandOffs n off).length = n := by
  simp [expandOffs]

theorem expandOffs_get (n : Nat) (off : Nat → Int) (k : Nat) :
    (expandOffs n off)[k]? = if k < n then some (off k) else none := by
  simp only [expandOffs, List.getElem?_map]
  by_cases h : k < n <;> simp [h]

theorem bleafHom : Hom BLeaf.expand bleafOps leafOps where
  start := by
    intro s t
    match s with
    | .fin n off dur i none => rfl
    | .fin n off dur i (some _) => rfl
    | .unl dur none => rfl
    | .unl dur (some _) => rfl
  next := by
    intro s now
    match s with
    | .fin n off dur i st =>
      simp only [bleafOps, leafOps, BLeaf.next, BLeaf.expand, Leaf.next, expandOffs_get]
      by_cases h : i < n <;> simp [h, Except.map]
    | .unl dur fi =>
      simp only [bleafOps, leafOps, BLeaf.next, BLeaf.expand, Leaf.next]
      split <;> rfl
  left := by
    intro s now
    match s with
    | .fin n off dur i st => simp [bleafOps, leafOps, BLeaf.left, BLeaf.expand, Leaf.left, expandOffs_length, Except.map]
    | .unl dur none => rfl
    | .unl dur (some f) => rfl
  once0 := by simp [bleafOps, leafOps, BLeaf.expand, expandOffs]

theorem bleaf_left_same (s : BLeaf) (now : Int) (s' : BLeaf) (l : Int) (h : bleafOps.left s now = .ok (s', l)) : s' = s := by
  cases s with
  | fin => cases h; rfl
  | unl dur fi => cases fi <;> cases h <;> rfl

theorem bleaf_next_start (s : BLeaf) (now : Int) (s1 : BLeaf) (h : bleafOps.start s now = .ok s1) :
    bleafOps.next s now = bleafOps.next s1 now := by
  cases s with
  | fin n off dur i st => cases st <;> cases h <;> rfl
  | unl dur fi => cases fi <;> cases h <;> rfl

/-- the described leaf refines the flat spec of its EXPANDED part -/
def bleafSem : Sem bleafOps := pullSem BLeaf.expand bleafHom leafSem bleaf_left_same bleaf_next_start

def blvlSem : (d : Nat) → Sem (blvlOps d)
  | 0 => bleafSem
  | d + 1 => sumSem (blvlSem d) (compSem (blvlSem d))

/-- the children of a composite node, once every described tree of depth ≤ `d` is known to be built -/
theorem bbuildList_of (now : Int) (d : Nat)
    (ih : ∀ t : BTree, t.depth ≤ d → ∃ s, bbuild now d t = .ok s ∧ (blvlSem d).U s (flat t.expand)) :
    ∀ ts : List BTree, bdepthList ts ≤ d →
      ∃ cs pss, bbuildList now d ts = .ok cs ∧ AllU (blvlSem d) cs pss ∧ pss.flatten = flatList (bexpandList ts)
  | [], _ => ⟨[], [], by rw [bbuildList]; rfl, trivial, rfl⟩
  | t :: ts, h => by
      rw [bdepthList] at h
      obtain ⟨x, hx, hUx⟩ := ih t (by omega)
      obtain ⟨xs, pss, hxs, hU, hfl⟩ := bbuildList_of now d ih ts (by omega)
      exact ⟨x :: xs, flat t.expand :: pss, by rw [bbuildList, hx, hxs]; rfl, ⟨hUx, hU⟩,
        by rw [List.flatten_cons, hfl, bexpandList, flatList]⟩

/-- **every described tree refines the flat succession of the leaf parts of its expansion** -/
theorem bbuild_ok (now : Int) : ∀ (d : Nat) (t : BTree), t.depth ≤ d →
    ∃ s, bbuild now d t = .ok s ∧ (blvlSem d).U s (flat t.expand)
  | 0, .fin n off dur, _ => ⟨BLeaf.fin n off dur 0 none, by rw [bbuild]; rfl, (rfl : [Part.fin (expandOffs n off) dur] = _)⟩
  | 0, .unl dur, _ => ⟨BLeaf.unl dur none, by rw [bbuild]; rfl, (rfl : [Part.unl dur] = _)⟩
  | 0, .comp cs, h => by simp [BTree.depth] at h
  | d + 1, .comp cs, h => by
      rw [BTree.depth] at h
      obtain ⟨kids, pss, hk, hU, hfl⟩ := bbuildList_of now d (bbuild_ok now d) cs (by omega)
      obtain ⟨s, hs, hU'⟩ := newComposite_sem (blvlSem d) now kids pss hU
      refine ⟨s, by rw [bbuild, hk]; exact hs, ?_⟩
      rw [BTree.expand, flat, ← hfl]
      exact hU'
  | d + 1, .fin n off dur, _ => by
      obtain ⟨x, hx, hU⟩ := bbuild_ok now d (.fin n off dur) (Nat.zero_le _)
      exact ⟨.inl x, by simp only [bbuild, hx]; rfl, hU⟩
  | d + 1, .unl dur, _ => by
      obtain ⟨x, hx, hU⟩ := bbuild_ok now d (.unl dur) (Nat.zero_le _)
      exact ⟨.inl x, by simp only [bbuild, hx]; rfl, hU⟩

theorem bbuildList_ok (now : Int) : ∀ (d : Nat) (ts : List BTree), bdepthList ts ≤ d →
    ∃ cs pss, bbuildList now d ts = .ok cs ∧ AllU (blvlSem d) cs pss ∧ pss.flatten = flatList (bexpandList ts) :=
  fun d => bbuildList_of now d (bbuild_ok now d)

/-! ### the factory: produced objects are independent -/

/-- `seqRun` written with `seqStep` -/
theorem seqRun_cons {σ : Type} (ops : Ops σ) (s : σ) (c : SOp × Int) (r : List (SOp × Int)) :
    seqRun ops s (c :: r) = match seqStep ops s c with
      | .ok (s', o) => o :: seqRun ops s' r
      | .error e => [.err e] := by
  obtain ⟨op, now⟩ := c
  cases op <;> simp only [seqRun, seqStep, Except.map] <;> split <;> simp_all

theorem noErr_cons_ok {j : Nat} {o : Obs} {r : List (Nat × Obs)} (h : noErr ((j, o) :: r) = true) : noErr r = true := by
  cases o <;> simp_all [noErr]

/-- **the schedules a factory produced are independent objects**: in a run without panic, what object `j` answered is
`seqRun` of that object alone on the calls made to it, whatever was done with the other objects in between -/
theorem facRun_proj {σ : Type} (ops : Ops σ) : ∀ (calls : List (Nat × SOp × Int)) (ss : List σ) (j : Nat) (s : σ),
    ss[j]? = some s → noErr (facRun ops ss calls) = true →
    projObs j (facRun ops ss calls) = seqRun ops s (projCalls j calls)
  | [], ss, j, s, _, _ => by simp [facRun, projObs, projCalls, seqRun]
  | (j', c) :: r, ss, j, s, hs, hne => by
    simp only [facRun] at hne ⊢
    cases hj' : ss[j']? with
    | none =>
      simp only [hj'] at hne ⊢
      have hjj : (j' == j) = false := by
        cases h : j' == j with
        | false => rfl
        | true => simp only [beq_iff_eq] at h; subst h; rw [hs] at hj'; cases hj'
      simp only [projCalls, List.filter_cons, hjj]
      exact facRun_proj ops r ss j s hs hne
    | some sj' =>
      simp only [hj'] at hne ⊢
      cases hst : seqStep ops sj' c with
      | error e => simp [hst, noErr] at hne
      | ok x =>
        obtain ⟨s', o⟩ := x
        simp only [hst] at hne ⊢
        have hne' := noErr_cons_ok hne
        by_cases hjj : j' = j
        · subst hjj
          rw [hs] at hj'; cases hj'
          have ih := facRun_proj ops r (ss.set j' s') j' s'
            (List.getElem?_set_self (List.getElem?_eq_some_iff.mp hs).1) hne'
          simp only [projObs, projCalls, List.filter_cons, beq_self_eq_true, if_true, List.map_cons] at ih ⊢
          rw [seqRun_cons, hst]
          simp only [ih]
        · have hb : (j' == j) = false := by simpa using hjj
          have ih := facRun_proj ops r (ss.set j' s') j s (by rw [List.getElem?_set_ne hjj]; exact hs) hne'
          simp only [projObs, projCalls, List.filter_cons, hb] at ih ⊢
          exact ih

end Pandora.Proofs.C02Big
