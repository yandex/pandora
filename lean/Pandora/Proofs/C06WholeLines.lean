/-
C06 helper lemmas: every `Write` the repaired `handle` hands to the destination is a concatenation of whole lines.
-/
import Pandora.Model.C06WholeLines

namespace Pandora.Proofs.C06WholeLines
open Pandora.Model.C06WholeLines Pandora.Model.Phout

/-- the writer's state is made of whole lines: the writes are concatenations of groups of handled lines, the buffer
is the concatenation of the lines handled since, all in order -/
def Good (handled : List Bytes) (w : W) : Prop :=
  ∃ (groups : List (List Bytes)) (pending : List Bytes),
    w.writes = groups.map List.flatten ∧ w.buf = pending.flatten ∧ groups.flatten ++ pending = handled

theorem flush_buf (w : W) : w.flush.buf = [] := by
  unfold W.flush
  split
  · rename_i h; simpa using h
  · rfl

theorem good_flush {h : List Bytes} {w : W} (g : Good h w) : Good h w.flush := by
  unfold W.flush
  split
  · exact g
  · obtain ⟨groups, pending, hw, hb, hh⟩ := g
    exact ⟨groups ++ [pending], [], by simp [hw, hb], rfl, by simp [hh]⟩

theorem handle_flush {N : Nat} {w : W} {line : Bytes} (h : N - w.buf.length < line.length) :
    handle true N w line = bufWrite N w.flush line := by simp [handle, h]

theorem handle_noflush {N : Nat} {w : W} {line : Bytes} (h : ¬ N - w.buf.length < line.length) :
    handle true N w line = bufWrite N w line := by simp [handle, h]

theorem good_handle {h : List Bytes} {w : W} (N : Nat) (line : Bytes) (g : Good h w) :
    Good (h ++ [line]) (handle true N w line) := by
  by_cases hfit : N - w.buf.length < line.length
  · -- flushed first: the buffer is empty, the line fits or goes out directly
    rw [handle_flush hfit]
    obtain ⟨groups, pending, hw, hb, hh⟩ := good_flush g
    have hbuf := flush_buf w
    unfold bufWrite
    split
    · exact ⟨groups, pending ++ [line], hw, by simp [hb], by simp [← hh]⟩
    · rw [if_pos (by simp [hbuf])]
      exact ⟨groups ++ [pending ++ [line]], [], by simp [hw, ← hb, hbuf], hbuf, by simp [← hh]⟩
  · rw [handle_noflush hfit]
    obtain ⟨groups, pending, hw, hb, hh⟩ := g
    unfold bufWrite
    rw [if_pos (Nat.le_of_not_lt hfit)]
    exact ⟨groups, pending ++ [line], hw, by simp [hb], by simp [← hh]⟩

theorem good_run (N : Nat) : ∀ (lines h : List Bytes) (w : W), Good h w →
    Good (h ++ lines) (runLines true N w lines)
  | [], h, w, g => by simpa [runLines] using g
  | l :: ls, h, w, g => by
      have := good_run N ls (h ++ [l]) _ (good_handle N l g)
      simpa [runLines] using this

end Pandora.Proofs.C06WholeLines
