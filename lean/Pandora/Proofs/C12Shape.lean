/-
C12 — token times of the REGENERATED `schedule.NewInstanceStep` (`Pandora.Gen.Schedule`, rewritten from /repo on every
check): the denotation of a `Sched` value (leaf: token k at start + f k, finish at start + D; composite: every nested
schedule starts at the finish time of the previous one — `compositeSchedule.startNext`) and the closed form of
`NewInstanceStep`.  Mathlib is imported here only through the regenerated schedule area.
-/
import Pandora.Bridge.Schedule
import Pandora.Model.C12
import Pandora.Spec.C12

namespace Pandora.Proofs.C12Shape
open Pandora Pandora.Gen.Schedule Pandora.Bridge.Schedule

mutual
/-- tokens of a schedule started at instant `s` (in order) and its finish time -/
def toks : Sched → ℤ → List ℤ × ℤ
  | .doAt D n f, s => ((List.range n.toNat).map (fun (k : ℕ) => s + f k), s + D)
  | .composite l, s => toksList l s
/-- nested schedules one after another -/
def toksList : List Sched → ℤ → List ℤ × ℤ
  | [], s => ([], s)
  | x :: xs, s => ((toks x s).1 ++ (toksList xs (toks x s).2).1, (toksList xs (toks x s).2).2)
end

theorem toks_once (n s0 : ℤ) : toks (NewOnce n) s0 = (List.replicate n.toNat s0, s0) := by
  simp [NewOnce, toks]

theorem toks_const0 (d s0 : ℤ) : toks (NewConst 0 d) s0 = ([], s0 + d) := by
  rw [NewConst_eq 0 d (le_refl 0)]
  simp [toks, Go.f2i]

theorem toksList_steps (L : List ℤ) (s d s0 : ℤ) :
    toksList (L.flatMap (fun _ => [NewConst 0 d, NewOnce s])) s0 =
      ((List.range L.length).flatMap (fun (m : ℕ) => List.replicate s.toNat (s0 + ((m : ℤ) + 1) * d)),
        s0 + (L.length : ℤ) * d) := by
  induction L generalizing s0 with
  | nil => simp [toksList]
  | cons x xs ih =>
    simp only [List.flatMap_cons, List.cons_append, List.nil_append, toksList, toks_const0, toks_once, ih,
      List.length_cons, List.range_succ_eq_map, List.flatMap_map]
    refine Prod.ext ?_ ?_
    · show _ ++ _ = _ ++ _
      congr 1
      · simp
      · apply List.flatMap_congr
        intro m _
        congr 1
        push_cast
        ring
    · show _ + _ = _ + _
      push_cast
      ring

theorem loop_length (a b s : ℤ) : (Go.loopLEInt a b s).length = if a ≤ b then ((b - a) / s).toNat + 1 else 0 := by
  unfold Go.loopLEInt
  split <;> simp

/-- `NewInstanceStep(from, to, step, d)` started at 0: `from` tokens at 0, then `step` tokens at `m·d` for every
m ≥ 1 with `from + m·step ≤ to`; it finishes at (number of steps)·d. -/
theorem instanceStep_toks_at (f t s d s0 : ℤ) :
    toks (NewInstanceStep f t s d) s0 =
      ((Model.C12.instanceStepToks f t s d).map (· + s0), s0 + Model.C12.instanceStepDur f t s d) := by
  rw [NewInstanceStep_eq]
  simp only [toks, toksList, toks_once, toksList_steps, loop_length]
  unfold Model.C12.instanceStepToks Model.C12.instanceStepDur Model.C12.stepCount
  refine Prod.ext ?_ ?_
  · simp only [List.map_append, List.map_replicate, List.map_flatMap]
    congr 1
    · simp
    · split
      · apply List.flatMap_congr
        intro m _
        congr 1
        ring
      · simp
  · split <;> simp

theorem instanceStep_toks (f t s d : ℤ) :
    toks (NewInstanceStep f t s d) 0 = (Model.C12.instanceStepToks f t s d, Model.C12.instanceStepDur f t s d) := by
  simpa using instanceStep_toks_at f t s d 0

theorem f2i_intCast (z : ℤ) : Go.f2i (z : ℝ) = z := by
  unfold Go.f2i
  split <;> simp

/-- `const` with a whole number of operations per second that divides 10⁹, for a whole number of seconds: every float64
operation of `NewConst` is exact, it emits ops·seconds tokens, token i at i·(10⁹/ops), and finishes after the duration -/
theorem toks_const_exact (k q S s0 : ℤ) (hk : 0 < k) (hq : k * q = 1000000000) :
    toks (NewConst (k : ℝ) (S * 1000000000)) s0 =
      ((List.range (k * S).toNat).map (fun (i : ℕ) => s0 + (i : ℤ) * q), s0 + S * 1000000000) := by
  have hk0 : (0 : ℝ) ≤ (k : ℝ) := by exact_mod_cast hk.le
  have hkne : (k : ℝ) ≠ 0 := by exact_mod_cast hk.ne'
  rw [NewConst_eq (k : ℝ) _ hk0]
  have hn : (k : ℝ) * secs (S * 1000000000) = ((k * S : ℤ) : ℝ) := by
    unfold secs; push_cast; field_simp
  have hq' : (1000000000 : ℝ) / (k : ℝ) = (q : ℝ) := by
    rw [div_eq_iff hkne]
    have : ((k * q : ℤ) : ℝ) = 1000000000 := by exact_mod_cast congrArg (fun z : ℤ => (z : ℝ)) hq
    push_cast at this
    linarith
  simp only [toks, hn, f2i_intCast, hq']
  refine Prod.ext ?_ rfl
  simp only
  apply List.map_congr_left
  intro i _
  have : ((i : ℤ) : ℝ) * (q : ℝ) = (((i : ℤ) * q : ℤ) : ℝ) := by push_cast; ring
  rw [this, f2i_intCast]

/-- `Go.f2i` of a non-negative ratio of integers is integer division -/
theorem f2i_div (a b : ℤ) (ha : 0 ≤ a) (hb : 0 < b) : Go.f2i ((a : ℝ) / (b : ℝ)) = a / b := by
  have hb' : (0 : ℝ) < (b : ℝ) := by exact_mod_cast hb
  have ha' : (0 : ℝ) ≤ (a : ℝ) := by exact_mod_cast ha
  unfold Go.f2i
  rw [if_pos (div_nonneg ha' hb'.le)]
  rw [Int.floor_eq_iff]
  have hm := Int.emod_add_mul_ediv a b
  have hr0 := Int.emod_nonneg a hb.ne'
  have hr1 := Int.emod_lt_of_pos a hb
  constructor
  · rw [le_div_iff₀ hb']
    have : (a / b) * b ≤ a := by nlinarith
    exact_mod_cast this
  · rw [div_lt_iff₀ hb']
    have : a < (a / b + 1) * b := by nlinarith
    exact_mod_cast this

/-- `const` with a FRACTIONAL rate m/1000 operations per second (m > 0) for `ms` milliseconds, float64 read as exact reals:
⌊m·ms/10⁶⌋ tokens, token i at ⌊i·10¹²/m⌋ ns, finish after the duration -/
theorem toks_const_frac (m ms s0 : ℤ) (hm : 0 < m) (hms : 0 ≤ ms) :
    toks (NewConst ((m : ℝ) / 1000) (ms * 1000000)) s0 =
      ((List.range ((m * ms) / 1000000).toNat).map (fun (i : ℕ) => s0 + ((i : ℤ) * 1000000000000) / m),
        s0 + ms * 1000000) := by
  have hm' : (0 : ℝ) < (m : ℝ) := by exact_mod_cast hm
  have hops : (0 : ℝ) ≤ (m : ℝ) / 1000 := by positivity
  rw [NewConst_eq _ _ hops]
  have hn : (m : ℝ) / 1000 * secs (ms * 1000000) = ((m * ms : ℤ) : ℝ) / ((1000000 : ℤ) : ℝ) := by
    unfold secs; push_cast; field_simp; ring
  have hq : ∀ i : ℕ, ((i : ℤ) : ℝ) * (1000000000 / ((m : ℝ) / 1000)) = (((i : ℤ) * 1000000000000 : ℤ) : ℝ) / (m : ℝ) := by
    intro i; push_cast; field_simp; ring
  simp only [toks, hn]
  rw [f2i_div _ _ (Int.mul_nonneg hm.le hms) (by norm_num)]
  refine Prod.ext ?_ rfl
  simp only
  apply List.map_congr_left
  intro i _
  rw [hq i, f2i_div _ _ (by positivity) hm]

mutual
/-- the regenerated schedule a part of a startup profile of the harness denotes; a nested composite is
`schedule.NewComposite` of the schedules of its parts (for no part `NewComposite` returns `NewOnce(0)` and for one part
that part itself — the same tokens and finish time as the `composite` of the list) -/
noncomputable def schedOf : Spec.C12.Part → Sched
  | .once n => NewOnce n
  | .const ops ms => NewConst (ops : ℝ) (ms * 1000000)
  | .constm mops ms => NewConst ((mops : ℝ) / 1000) (ms * 1000000)
  | .step f t st ms => NewInstanceStep f t st (ms * 1000000)
  | .comp ps => .composite (schedsOf ps)
noncomputable def schedsOf : List Spec.C12.Part → List Sched
  | [] => []
  | p :: ps => schedOf p :: schedsOf ps
end

theorem const_nonpos (ops : ℤ) (d : ℤ) (h0 : ops ≤ 0) : NewConst (ops : ℝ) d = NewConst 0 d := by
  unfold NewConst
  have hle : (ops : ℝ) ≤ 0 := by exact_mod_cast h0
  rcases lt_or_eq_of_le hle with hlt | heq
  · simp [hlt]
  · simp [heq]

mutual
/-- tokens and finish time the Spec computes for a part = those of the regenerated constructor, nested composites
included: a composite inside a composite starts where the previous part finished and hands its own finish time on -/
theorem partToks_eq : ∀ (p : Spec.C12.Part) (s0 : ℤ) (r : List ℤ × ℤ),
    Spec.C12.partToks p s0 = some r → r = toks (schedOf p) s0
  | .once n, s0, r, h => by
    simp only [Spec.C12.partToks, Option.some.injEq] at h
    subst h
    rw [schedOf, toks_once]
  | .const ops ms, s0, r, h => by
    simp only [Spec.C12.partToks] at h
    rw [schedOf]
    by_cases h0 : ops ≤ 0
    · simp only [h0, if_true, Option.some.injEq] at h
      subst h
      rw [const_nonpos ops _ h0, toks_const0]
    · simp only [h0, if_false] at h
      by_cases hex : (1000000000 % ops == 0 && ms % 1000 == 0) = true
      · simp only [hex, if_true, Option.some.injEq] at h
        subst h
        simp only [Bool.and_eq_true, beq_iff_eq] at hex
        have hk : 0 < ops := by omega
        have hq : ops * (1000000000 / ops) = 1000000000 := Int.mul_ediv_cancel' (Int.dvd_of_emod_eq_zero hex.1)
        have hS : ms * 1000000 = (ms / 1000) * 1000000000 := by
          have := Int.mul_ediv_cancel' (Int.dvd_of_emod_eq_zero hex.2)
          omega
        rw [hS, toks_const_exact ops _ (ms / 1000) s0 hk hq]
      · simp [hex] at h
  | .constm m ms, s0, r, h => by
    simp only [Spec.C12.partToks] at h
    rw [schedOf]
    by_cases h0 : m ≤ 0
    · simp [h0] at h
    · simp only [h0, if_false] at h
      by_cases hex : (m % 125 == 0 && ms % 125 == 0 && decide (0 ≤ ms) && 8000000000 % (m / 125) == 0) = true
      · simp only [hex, if_true, Option.some.injEq] at h
        subst h
        simp only [Bool.and_eq_true, beq_iff_eq, decide_eq_true_eq] at hex
        rw [toks_const_frac m ms s0 (by omega) hex.1.2]
      · simp [hex] at h
  | .step f t st ms, s0, r, h => by
    simp only [Spec.C12.partToks, Option.some.injEq] at h
    subst h
    rw [schedOf, instanceStep_toks_at]
  | .comp ps, s0, r, h => by
    simp only [Spec.C12.partToks] at h
    rw [schedOf, toks]
    exact partsToksF_eq ps s0 r h
theorem partsToksF_eq : ∀ (ps : List Spec.C12.Part) (s0 : ℤ) (r : List ℤ × ℤ),
    Spec.C12.partsToksF ps s0 = some r → r = toksList (schedsOf ps) s0
  | [], s0, r, h => by
    simp only [Spec.C12.partsToksF, Option.some.injEq] at h
    subst h
    rw [schedsOf, toksList]
  | p :: ps, s0, r, h => by
    simp only [Spec.C12.partsToksF] at h
    cases hp : Spec.C12.partToks p s0 with
    | none => simp [hp] at h
    | some r1 =>
      simp only [hp] at h
      cases hq : Spec.C12.partsToksF ps r1.2 with
      | none => simp [hq] at h
      | some r2 =>
        simp only [hq, Option.some.injEq] at h
        subst h
        have h1 := partToks_eq p s0 r1 hp
        have h2 := partsToksF_eq ps r1.2 r2 hq
        rw [schedsOf, toksList, ← h1, ← h2]
end

/-- The token times the Spec computes for a startup profile (and compares with the real schedule on every case) are
those of the composite of the REGENERATED constructors, wherever the Spec computes them at all — for flat and for
nested composites. -/
theorem partsToks_eq (ps : List Spec.C12.Part) (s0 : ℤ) (l : List ℤ) (h : Spec.C12.partsToks ps s0 = some l) :
    l = (toksList (schedsOf ps) s0).1 := by
  simp only [Spec.C12.partsToks, Option.map_eq_some_iff] at h
  obtain ⟨r, hr, rfl⟩ := h
  rw [partsToksF_eq ps s0 r hr]

/-- nesting changes nothing: a composite of composites has the tokens and the finish time of the flat sequence -/
theorem toksList_append (a b : List Sched) (s0 : ℤ) :
    toksList (a ++ b) s0 = ((toksList a s0).1 ++ (toksList b (toksList a s0).2).1, (toksList b (toksList a s0).2).2) := by
  induction a generalizing s0 with
  | nil => simp [toksList]
  | cons x xs ih => simp [toksList, ih, List.append_assoc]

theorem toks_nested (a b : List Sched) (s0 : ℤ) :
    toksList (Sched.composite a :: b) s0 = toksList (a ++ b) s0 := by
  rw [toksList_append]
  simp [toksList, toks]

end Pandora.Proofs.C12Shape
