/-
C04 — the closed world of a pool (`Model/C04PoolSim.lean`): the history of every instance is the single-instance closed
world `simHist` over the tokens that instance was handed, so everything proved of `simHist` holds per instance of a pool, under every
interleaving.  Core Lean only.
-/
import Pandora.Model.C04PoolSim
import Pandora.Proofs.C04Sim

namespace Pandora.Proofs.C04
open Pandora.Go.C04 Pandora.Model.C04

theorem upd_same {α : Type} (f : Nat → α) (i : Nat) (a : α) : upd f i a i = a := by simp [upd]

theorem upd_other {α : Type} (f : Nat → α) (i j : Nat) (a : α) (h : j ≠ i) : upd f i a j = f j := by simp [upd, h]

/-- the key invariant: what instance `i` has done after the steps `cs` is what it had done before, followed by the single-instance
closed world over the tokens it gets, started from its waiter state and its clock -/
theorem psim_hist (d : Bool) (i : Nat) (cs : List (Nat × Delays)) :
    ∀ st : PSim, (psim d st cs).hist i ++ [simLast ((psim d st cs).t i)] =
      st.hist i ++ simHist .fresh d (st.w i) (st.t i) (psimOwn i st.sched cs) (psimDelays i st.sched cs) := by
  induction cs with
  | nil =>
    intro st
    cases hs : st.sched with
    | nil => simp [psim, psimOwn, simHist]
    | cons tok rest => simp [psim, psimOwn, simHist]
  | cons c cs ih =>
    intro st
    cases hs : st.sched with
    | nil =>
      have hstep : psimStep d st c = st := by simp [psimStep, hs]
      have := ih st
      rw [hs] at this
      simp only [psim, hstep, psimOwn, psimDelays]
      cases cs with
      | nil => simpa [psim, psimOwn, psimDelays] using this
      | cons c' cs' => simpa [psimOwn, psimDelays] using this
    | cons tok rest =>
      have hstep : psimStep d st c =
          { sched := rest, w := upd st.w c.1 (waitV .fresh (st.w c.1) (simIter (st.t c.1) tok c.2).env).w,
            t := upd st.t c.1 (simNext d (waitV .fresh (st.w c.1) (simIter (st.t c.1) tok c.2).env).w (simIter (st.t c.1) tok c.2)),
            hist := upd st.hist c.1 (st.hist c.1 ++ [simIter (st.t c.1) tok c.2]) } := by
        simp [psimStep, hs]
      have := ih (psimStep d st c)
      simp only [psim]
      rw [this, hstep]
      by_cases hci : c.1 = i
      · subst hci
        simp only [upd_same, psimOwn, psimDelays, ↓reduceIte, simHist, List.append_assoc, List.singleton_append]
      · have hne : i ≠ c.1 := fun h => hci h.symm
        simp only [upd_other _ _ _ _ hne, psimOwn, psimDelays, hci, ↓reduceIte]

/-- the passes of instance `i`: the tokens paired with the steps that take them, those of `i` kept — its tokens are the
first components, its delays the last -/
theorem psimOwn_eq (i : Nat) : ∀ (sched : List Int) (cs : List (Nat × Delays)),
    psimOwn i sched cs = ((sched.zip cs).filter (fun x => x.2.1 = i)).map (·.1) ∧
    psimDelays i sched cs = ((sched.zip cs).filter (fun x => x.2.1 = i)).map (·.2.2)
  | [], _ => ⟨by simp [psimOwn], by simp [psimDelays]⟩
  | _ :: _, [] => ⟨by simp [psimOwn], by simp [psimDelays]⟩
  | tok :: rest, c :: cs => by
    obtain ⟨h1, h2⟩ := psimOwn_eq i rest cs
    by_cases hc : c.1 = i <;> simp [psimOwn, psimDelays, List.filter_cons, hc, h1, h2]

/-- an instance gets only tokens of the schedule -/
theorem psimOwn_subset (i : Nat) (sched : List Int) (cs : List (Nat × Delays)) : ∀ t ∈ psimOwn i sched cs, t ∈ sched := by
  intro t h
  rw [(psimOwn_eq i sched cs).1] at h
  obtain ⟨x, hx, rfl⟩ := List.mem_map.mp h
  exact (List.of_mem_zip (List.mem_filter.mp hx).1).1

/-- the delays of an instance's passes are delays of the steps -/
theorem psimDelays_subset (i : Nat) (sched : List Int) (cs : List (Nat × Delays)) : ∀ p ∈ psimDelays i sched cs,
    ∃ c ∈ cs, c.1 = i ∧ c.2 = p := by
  intro p h
  rw [(psimOwn_eq i sched cs).2] at h
  obtain ⟨x, hx, rfl⟩ := List.mem_map.mp h
  exact ⟨x.2, (List.of_mem_zip (List.mem_filter.mp hx).1).2, of_decide_eq_true (List.mem_filter.mp hx).2, rfl⟩

/-- one delay record per token -/
theorem psimOwn_length (i : Nat) (sched : List Int) (cs : List (Nat × Delays)) :
    (psimOwn i sched cs).length = (psimDelays i sched cs).length := by
  rw [(psimOwn_eq i sched cs).1, (psimOwn_eq i sched cs).2, List.length_map, List.length_map]

/-- the schedule the world is left with is the schedule minus one token per step -/
theorem psim_sched (d : Bool) (cs : List (Nat × Delays)) : ∀ st : PSim, (psim d st cs).sched = st.sched.drop cs.length := by
  induction cs with
  | nil => intro st; simp [psim]
  | cons c cs ih =>
    intro st
    simp only [psim]
    rw [ih]
    cases hs : st.sched with
    | nil => simp [psimStep, hs]
    | cons tok rest => simp [psimStep, hs]

/-- instance `i` gets one token per step it makes while the schedule is not empty -/
theorem psimOwn_length_eq_steps (sched : List Int) (cs : List (Nat × Delays)) (i : Nat) :
    (psimOwn i sched cs).length = ((cs.take sched.length).filter (fun c => c.1 = i)).length := by
  induction sched generalizing cs with
  | nil => simp [psimOwn]
  | cons tok rest ih =>
    cases cs with
    | nil => simp [psimOwn]
    | cons c cs =>
      simp only [psimOwn, List.length_cons, List.take_succ_cons]
      by_cases hc : c.1 = i
      · simp [hc, ih cs]
      · simp [hc, ih cs]

end Pandora.Proofs.C04
