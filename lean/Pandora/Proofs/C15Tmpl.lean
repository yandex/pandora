/-
C15 — proofs about the template cache of `TextTemplater.Apply` (Model/C15Tmpl.lean):
the statement lists of `getTemplate` / `Apply` compute the direct readings, and a cache whose entries all belong to the
text of their slot is invisible: every call renders every part from its own text and the variables only.
-/
import Pandora.Model.C15Tmpl

namespace Pandora.Proofs.C15
open Pandora.Model.C15

section
variable {τ V : Type}

theorem lookup_mem {κ β : Type} [BEq κ] [LawfulBEq κ] (l : List (κ × β)) (k : κ) (t : β) (h : l.lookup k = some t) : (k, t) ∈ l := by
  induction l with
  | nil => simp [List.lookup] at h
  | cons a r ih =>
    obtain ⟨a1, a2⟩ := a
    by_cases e : k == a1
    · simp [List.lookup, e] at h
      have : k = a1 := by simpa using e
      subst this; subst h; simp
    · simp [List.lookup, e] at h
      exact List.mem_cons_of_mem _ (ih h)

/-- **`getTemplate` as regenerated is the direct reading** (for the model's statement list) -/
theorem runGet_eq (parse : String → Option τ) (cache : TCache TKey τ) (k : TKey) (text : String) :
    runGet getCode parse cache k text = getT parse cache k text := by
  unfold runGet getT getCode
  simp only [runGOps]
  cases hl : List.lookup k cache with
  | some t => simp
  | none =>
    simp only [Option.isSome_none, Bool.false_eq_true, ↓reduceIte]
    cases hp : parse text with
    | some t => simp
    | none => simp

/-- every entry of the cache is the parsed text of its slot -/
def CacheOK (parse : String → Option τ) (txt : TKey → String) (c : TCache TKey τ) : Prop :=
  ∀ k t, (k, t) ∈ c → parse (txt k) = some t

theorem cacheOK_nil (parse : String → Option τ) (txt : TKey → String) : CacheOK parse txt [] := by
  intro k t h; simp at h

/-- on a good cache `getTemplate` returns the parse of the slot's text, and the cache stays good -/
theorem getT_ok (parse : String → Option τ) (txt : TKey → String) (c : TCache TKey τ) (k : TKey) (text : String)
    (hc : CacheOK parse txt c) (ht : text = txt k) :
    (getT parse c k text).1 = parse text ∧ CacheOK parse txt (getT parse c k text).2 := by
  unfold getT
  cases hl : List.lookup k c with
  | some t =>
    have := hc k t (lookup_mem c k t hl)
    simp [ht, this]; exact hc
  | none =>
    cases hp : parse text with
    | some t =>
      refine ⟨rfl, ?_⟩
      intro k' t' hm
      simp only [List.mem_cons, Prod.mk.injEq] at hm
      rcases hm with ⟨rfl, rfl⟩ | hm
      · rw [← ht]; exact hp
      · exact hc k' t' hm
    | none => exact ⟨rfl, hc⟩

/-- one part on a good cache: rendered on its own (the builder is left empty), and the cache stays good -/
theorem runPart_ok (parse : String → Option τ) (exec : τ → V → String × Bool) (txt : TKey → String) (site : TSite)
    (scn stp hk text : String) (vs : V) (c : TCache TKey τ)
    (hc : CacheOK parse txt c) (ht : text = txt (site.keyOf scn stp hk)) :
    ∃ c', runPart getCode parse exec { site, ops := partOps } id scn stp hk text vs "" c =
        ((renderText parse exec text vs).map (·, ""), c') ∧ CacheOK parse txt c' := by
  obtain ⟨h1, h2⟩ := getT_ok parse txt c (site.keyOf scn stp hk) text hc ht
  refine ⟨_, Prod.ext ?_ rfl, ?_⟩ <;> unfold runPart partOps <;> simp only [runAOps, id, runGet_eq] <;> rw [h1]
  · unfold renderText
    cases hp : parse text with
    | none => rfl
    | some t => cases he : (exec t vs).2 <;> simp [he]
  · cases hp : parse text with
    | none => simpa using h2
    | some t => cases he : (exec t vs).2 <;> simpa [runAOps, he] using h2

theorem runHeaders_ok (parse : String → Option τ) (exec : τ → V → String × Bool) (txt : TKey → String) (site : TSite)
    (scn stp : String) (vs : V) (hs : List (String × String)) (c : TCache TKey τ)
    (hc : CacheOK parse txt c) (ht : ∀ kv ∈ hs, kv.2 = txt (site.keyOf scn stp kv.1)) :
    ∃ c', runHeaders getCode parse exec { site, ops := partOps } id scn stp vs hs "" c =
        ((renderHeaders parse exec vs hs).map (·, ""), c') ∧ CacheOK parse txt c' := by
  induction hs generalizing c with
  | nil => exact ⟨c, rfl, hc⟩
  | cons kv r ih =>
    obtain ⟨k, v⟩ := kv
    obtain ⟨c1, e1, p2⟩ := runPart_ok parse exec txt site scn stp k v vs c hc (ht (k, v) (by simp))
    unfold runHeaders renderHeaders
    rw [e1]
    cases renderText parse exec v vs with
    | none => exact ⟨c1, rfl, p2⟩
    | some v' =>
      obtain ⟨c2, e2, i2⟩ := ih c1 p2 (fun kv h => ht kv (List.mem_cons_of_mem _ h))
      simp only [Option.map_some, e2]
      cases renderHeaders parse exec vs r with
      | none => exact ⟨c2, rfl, i2⟩
      | some r' => exact ⟨c2, rfl, i2⟩

/-- a call fits the definitions: its URL, body and every header it visits are the texts of `defs scenario step` -/
def Fits (defs : String → String → TParts) (scn stp : String) (p : TParts) : Prop :=
  p.url = (defs scn stp).url ∧ p.body = (defs scn stp).body ∧
  ∀ kv ∈ p.headers, (defs scn stp).headers.lookup kv.1 = some kv.2

/-- **`Apply` on a good cache renders every part on its own** -/
theorem runApply_ok (parse : String → Option τ) (exec : τ → V → String × Bool) (defs : String → String → TParts)
    (scn stp : String) (p : TParts) (vs : V) (c : TCache TKey τ)
    (hc : CacheOK parse (slotText applyCode defs) c) (hf : Fits defs scn stp p) :
    (runApply applyCode getCode parse exec id c scn stp p vs).1 = applyPure parse exec p vs ∧
    CacheOK parse (slotText applyCode defs) (runApply applyCode getCode parse exec id c scn stp p vs).2 := by
  obtain ⟨hu, hb, hh⟩ := hf
  have tu : p.url = slotText applyCode defs (applyCode.url.site.keyOf scn stp "") := by
    simp [slotText, applyCode, TSite.keyOf, hu]
  have th : ∀ kv ∈ p.headers, kv.2 = slotText applyCode defs (applyCode.header.site.keyOf scn stp kv.1) := by
    intro kv hm
    simp [slotText, applyCode, TSite.keyOf, hh kv hm]
  obtain ⟨c1, e1, u2⟩ := runPart_ok parse exec _ applyCode.url.site scn stp "" p.url vs c hc tu
  unfold runApply applyPure
  rw [show applyCode.url = { site := applyCode.url.site, ops := partOps } from rfl,
    show applyCode.header = { site := applyCode.header.site, ops := partOps } from rfl,
    show applyCode.body = { site := applyCode.body.site, ops := partOps } from rfl, e1]
  cases renderText parse exec p.url vs with
  | none => exact ⟨rfl, u2⟩
  | some u =>
    obtain ⟨c2, e2, h2⟩ := runHeaders_ok parse exec _ applyCode.header.site scn stp vs p.headers c1 u2 th
    simp only [Option.map_some, e2]
    cases renderHeaders parse exec vs p.headers with
    | none => exact ⟨rfl, h2⟩
    | some hs =>
      simp only [Option.map_some]
      cases hbody : p.body with
      | none => exact ⟨rfl, h2⟩
      | some b =>
        have tb : b = slotText applyCode defs (applyCode.body.site.keyOf scn stp "") := by
          have : (defs scn stp).body = some b := by rw [← hb, hbody]
          simp [slotText, applyCode, TSite.keyOf, this]
        obtain ⟨c3, e3, b2⟩ := runPart_ok parse exec _ applyCode.body.site scn stp "" b vs c2 h2 tb
        simp only [e3]
        cases renderText parse exec b vs with
        | none => exact ⟨rfl, b2⟩
        | some b' => exact ⟨rfl, b2⟩

/-- **any sequence of calls on one templater**: every call renders its parts on their own, whatever was cached before -/
theorem runApplies_ok (parse : String → Option τ) (exec : τ → V → String × Bool) (defs : String → String → TParts)
    (calls : List (String × String × TParts × V)) (c : TCache TKey τ)
    (hc : CacheOK parse (slotText applyCode defs) c)
    (hf : ∀ x ∈ calls, Fits defs x.1 x.2.1 x.2.2.1) :
    runApplies applyCode getCode parse exec id c calls = calls.map fun x => applyPure parse exec x.2.2.1 x.2.2.2 := by
  induction calls generalizing c with
  | nil => rfl
  | cons x r ih =>
    obtain ⟨scn, stp, p, vs⟩ := x
    obtain ⟨a1, a2⟩ := runApply_ok parse exec defs scn stp p vs c hc (hf (scn, stp, p, vs) (List.mem_cons_self ..))
    simp only [runApplies, List.map_cons]
    rw [a1, ih _ a2 (fun y hy => hf y (List.mem_cons_of_mem _ hy))]

end

/-! ### a concrete template library and call history (used by the examples and the counterexample of Props/C15) -/

/-- a template library for the examples: the text `bad` does not parse, the template `boom` fails after writing `par`,
every other template writes its text followed by the variables -/
def tExParse : String → Option String := fun s => if s == "bad" then none else some s
def tExExec : String → String → String × Bool := fun t v =>
  if t == "boom" then ("par", false) else (String.ofList (t.toList ++ v.toList), true)
/-- scenario `a_b` step `c` and scenario `a` step `b_c`: different slots whose joined key texts coincide -/
def tExDefs : String → String → TParts := fun scn _ =>
  if scn == "a_b" then { url := "/x", headers := [("h", "1"), ("url", "2")], body := some "B" }
  else { url := "/y", headers := [], body := none }
def tExCalls : List (String × String × TParts × String) :=
  [("a_b", "c", tExDefs "a_b" "c", "!"), ("a", "b_c", tExDefs "a" "b_c", "?"), ("a_b", "c", tExDefs "a_b" "c", "#")]

theorem tExCalls_fit : ∀ x ∈ tExCalls, Fits tExDefs x.1 x.2.1 x.2.2.1 := by
  intro x hx
  simp only [tExCalls, List.mem_cons, List.not_mem_nil, or_false] at hx
  rcases hx with rfl | rfl | rfl <;> refine ⟨rfl, rfl, ?_⟩ <;> decide

end Pandora.Proofs.C15
