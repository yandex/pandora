/-
C06 helper lemmas for the shared standard output (Model/C06Shared), the cancel of the healthy pools after a failure
(Model/C06FailCancel) and the buffered writer's non-atomic Flush (Model/C06BufRace).
-/
import Pandora.Model.C06Shared
import Pandora.Model.C06FailCancel
import Pandora.Model.C06BufRace

namespace Pandora.Proofs.C06R6

/-! ### the shared standard output -/
section Shared
open Pandora.Model.C06Shared

/-- the code: an aggregator without destination never closes the standard output, and always flushes at the end -/
def codeCfg : Cfg := { closesShared := false, finalFlush := true }

theorem ofAgg_append (j : Nat) (a b : List Line) : ofAgg j (a ++ b) = ofAgg j a ++ ofAgg j b := by
  simp [ofAgg]

theorem ofAgg_own {j : Nat} {l : List Line} (h : ∀ e ∈ l, e.1 = j) : ofAgg j l = l := by
  unfold ofAgg
  apply List.filter_eq_self.mpr
  intro e he
  simp [h e he]

theorem ofAgg_other {j k : Nat} {l : List Line} (h : ∀ e ∈ l, e.1 = j) (hk : k ≠ j) : ofAgg k l = [] := by
  unfold ofAgg
  apply List.filter_eq_nil_iff.mpr
  intro e he
  have := h e he
  simp [this]
  exact fun h' => hk h'.symm

structure Inv (st : St) : Prop where
  isOpen : st.isOpen = true
  lost : st.lost = []
  acct : ∀ j, ofAgg j st.handled = ofAgg j st.out ++ st.buf j
  own : ∀ j, ∀ e ∈ st.buf j, e.1 = j
  doneEmpty : ∀ j, st.done j = true → st.buf j = []

theorem inv_init : Inv init := ⟨rfl, rfl, fun _ => rfl, fun _ _ h => by simp [init] at h, fun _ _ => rfl⟩

theorem inv_write {st : St} (h : Inv st) (j : Nat) : Inv (st.write j) := by
  unfold St.write
  rw [if_pos h.isOpen]
  refine ⟨h.isOpen, h.lost, ?_, ?_, ?_⟩
  · intro k
    by_cases hk : k = j
    · subst hk
      simp only [setAt, if_true, List.append_nil, ofAgg_append, ofAgg_own (h.own k)]
      exact h.acct k
    · simp only [setAt, if_neg hk, ofAgg_append, ofAgg_other (h.own j) hk, List.append_nil]
      exact h.acct k
  · intro k e he
    by_cases hk : k = j
    · simp [setAt, hk] at he
    · simp only [setAt, if_neg hk] at he
      exact h.own k e he
  · intro k hd
    by_cases hk : k = j
    · simp [setAt, hk]
    · simp only [setAt, if_neg hk]
      exact h.doneEmpty k hd

theorem inv_step {st : St} (h : Inv st) (e : Ev) : Inv (step codeCfg st e) := by
  cases e with
  | handle j x =>
    simp only [step]
    by_cases hd : st.done j = true
    · rw [if_pos hd]; exact h
    · rw [if_neg hd]
      refine ⟨h.isOpen, h.lost, ?_, ?_, ?_⟩
      · intro k
        by_cases hk : k = j
        · subst hk
          have : ofAgg k [(k, x)] = [(k, x)] := ofAgg_own (by simp)
          simp only [setAt, if_true, ofAgg_append, this, h.acct k, List.append_assoc]
        · have : ofAgg k [(j, x)] = [] := ofAgg_other (j := j) (by simp) hk
          simp only [setAt, if_neg hk, ofAgg_append, this, List.append_nil]
          exact h.acct k
      · intro k e he
        by_cases hk : k = j
        · subst hk
          simp only [setAt, if_true, List.mem_append, List.mem_singleton] at he
          rcases he with he | he
          · exact h.own k e he
          · simp [he]
        · simp only [setAt, if_neg hk] at he
          exact h.own k e he
      · intro k hdk
        by_cases hk : k = j
        · subst hk; exact absurd hdk hd
        · simp only [setAt, if_neg hk]
          exact h.doneEmpty k hdk
  | flush j =>
    simp only [step]
    by_cases hd : st.done j = true
    · rw [if_pos hd]; exact h
    · rw [if_neg hd]
      exact inv_write h j
  | finish j =>
    simp only [step]
    by_cases hd : st.done j = true
    · rw [if_pos hd]; exact h
    · have hw := inv_write h j
      rw [if_neg hd]
      simp only [codeCfg, if_true]
      refine ⟨by simp [hw.isOpen], hw.lost, hw.acct, hw.own, ?_⟩
      intro k hdk
      by_cases hk : k = j
      · subst hk
        simp [St.write, h.isOpen, setAt]
      · simp only [setAt, if_neg hk] at hdk
        exact hw.doneEmpty k hdk

theorem inv_run (trace : List Ev) : ∀ {st : St}, Inv st → Inv (run codeCfg st trace) := by
  induction trace with
  | nil => intro st h; exact h
  | cons e es ih => intro st h; exact ih (inv_step h e)

end Shared

/-! ### who cancels the healthy pools -/
section FailCancel
open Pandora.Model.C06FailCancel

structure FInv (cfg : Cfg) (st : St) : Prop where
  returned : st.errsTaken = true → st.engineReturned = true
  byEngine : st.engineReturned = true → cfg.engineCancels = true → st.cancelled = true
  byCli : st.errsTaken = true → cfg.cliCancels = true → st.cancelled = true
  byRunEngine : st.runEngineDone = true → cfg.runEngineCancels = true → st.cancelled = true
  taken : st.runEngineDone = true → st.errsTaken = true

theorem finv_init (cfg : Cfg) (n : Nat) (se : Nat → Bool) : FInv cfg (init n se) :=
  ⟨by simp [init], by simp [init], by simp [init], by simp [init], by simp [init]⟩

/-- the invariant reads four flags; three events set one of them, each together with its own cancel, and a
cancelled context stays cancelled -/
theorem finv_step {cfg : Cfg} {st : St} (h : FInv cfg st) (e : Ev) : FInv cfg (step cfg st e) := by
  obtain ⟨h1, h2, h3, h4, h5⟩ := h
  have keep : ∀ {b : Bool}, st.cancelled = true → (st.cancelled || b) = true := fun hc => by rw [hc]; rfl
  have now : ∀ {b : Bool}, b = true → (st.cancelled || b) = true := fun hb => by rw [hb]; exact Bool.or_true _
  cases e <;> simp only [step] <;> split
  case engineReturns.isTrue =>
    exact ⟨fun _ => rfl, fun _ hc => now hc, fun a b => keep (h3 a b), fun a b => keep (h4 a b), h5⟩
  case takeErrs.isTrue hg =>
    simp only [Bool.and_eq_true] at hg
    exact ⟨fun _ => hg.1.2, fun a b => keep (h2 a b), fun _ hc => now hc, fun a b => keep (h4 a b), fun _ => rfl⟩
  case runEngineReturns.isTrue hg =>
    simp only [Bool.and_eq_true] at hg
    exact ⟨h1, fun a b => keep (h2 a b), fun a b => keep (h3 a b), fun _ hc => now hc, fun _ => hg.1.2⟩
  all_goals exact ⟨h1, h2, h3, h4, h5⟩

theorem finv_run {cfg : Cfg} (trace : List Ev) : ∀ {st : St}, FInv cfg st → FInv cfg (run cfg st trace) := by
  induction trace with
  | nil => intro st h; exact h
  | cons e es ih => intro st h; exact ih (finv_step h e)

/-- nobody cancels, pool 1 is healthy and its schedule goes on: it never ends, every exit is without its flush -/
structure NInv (st : St) : Prop where
  n2 : st.n = 2
  se : st.selfEnding 1 = false
  canc : st.cancelled = false
  nf : st.failed 1 = false
  ne : st.ended 1 = false
  ex : ∀ x, st.exit = some x → x = false

def noCancel : Cfg := { engineCancels := false, cliCancels := false, runEngineCancels := false }

theorem allEnded_false {st : St} (hn : st.n = 2) (he : st.ended 1 = false) : st.allEnded = false := by
  simp [St.allEnded, hn, List.range, List.range.loop, he]

theorem ninv_step {st : St} (h : NInv st) (e : Ev) (he : e ≠ .poolFails 1) : NInv (step noCancel st e) := by
  have hall := allEnded_false h.n2 h.ne
  cases e with
  | poolFails j =>
    have hj : j ≠ 1 := fun h => he (by rw [h])
    simp only [step]
    split
    · exact { h with nf := by simp [setAt, h.nf]; intro h; exact absurd h.symm hj }
    · exact h
  | poolEnds j =>
    simp only [step]
    split
    · next hcond =>
      refine { h with ne := ?_ }
      by_cases hj : j = 1
      · subst hj; simp [h.canc, h.nf, h.se] at hcond
      · simp [setAt, h.ne]; exact fun h => hj h.symm
    · exact h
  | engineReturns | takeErrs | runEngineReturns =>
    simp only [step]; split
    · exact { h with canc := by simp [h.canc, noCancel] }
    · exact h
  | timerFires =>
    simp only [step]; split
    · exact { h with ex := by intro x hx; simp [hall] at hx; exact hx }
    · exact h
  | waitReturns =>
    simp only [step]; split
    · next hcond => simp [hall] at hcond
    · exact h

theorem ninv_run (trace : List Ev) : ∀ {st : St}, NInv st → (∀ e ∈ trace, e ≠ .poolFails 1) →
    NInv (run noCancel st trace) := by
  induction trace with
  | nil => intro st h _; exact h
  | cons e es ih =>
    intro st h hne
    exact ih (ninv_step h e (hne e (by simp))) (fun e' he' => hne e' (by simp [he']))

end FailCancel

/-! ### the buffered writer -/
section BufRace
open Pandora.Model.C06BufRace

theorem seq_ok : ∀ (tr : List Ev) (st : St), Sequential tr → st.flushing = none → st.err = false →
    st.out ++ st.buf = st.written →
    (run st tr).flushing = none ∧ (run st tr).err = false ∧ (run st tr).out ++ (run st tr).buf = (run st tr).written ∧
    (run st tr).refused = st.refused
  | [], st, _, hf, he, hw => ⟨hf, he, hw, rfl⟩
  | .write x :: rest, st, hs, hf, he, hw => by
      have hs' : Sequential rest := by simpa [Sequential] using hs
      have := seq_ok rest (step st (.write x)) hs' (by simp [step, he, hf]) (by simp [step, he])
        (by simp [step, he, ← hw])
      simpa [run, step, he] using this
  | .flushEnd :: rest, st, hs, hf, he, hw => by
      have hs' : Sequential rest := by simpa [Sequential] using hs
      have hst : step st .flushEnd = st := by simp [step, hf]
      simpa [run, hst] using seq_ok rest st hs' hf he hw
  | [.flushBegin], st, hs, _, _, _ => by simp [Sequential] at hs
  | .flushBegin :: .write x :: rest, st, hs, _, _, _ => by simp [Sequential] at hs
  | .flushBegin :: .flushBegin :: rest, st, hs, _, _, _ => by simp [Sequential] at hs
  | .flushBegin :: .flushEnd :: rest, st, hs, hf, he, hw => by
      have hs' : Sequential rest := by simpa [Sequential] using hs
      by_cases hb : st.buf.isEmpty = true
      · have h1 : step st .flushBegin = st := by simp [step, he, hf, hb]
        have h2 : step st .flushEnd = st := by simp [step, hf]
        simpa [run, h1, h2] using seq_ok rest st hs' hf he hw
      · have h1 : step (step st .flushBegin) .flushEnd =
            { st with flushing := none, buf := [], out := st.out ++ st.buf } := by
          simp [step, he, hf, hb]
        have := seq_ok rest { st with flushing := none, buf := [], out := st.out ++ st.buf } hs' (by simp)
          (by simpa using he) (by simpa using hw)
        simpa [run, h1] using this

end BufRace

end Pandora.Proofs.C06R6
