/-
C15 helper lemmas about the postprocessor models (`Model/C15Post.lean`).
-/
import Pandora.Model.C15Post

namespace Pandora.Proofs.C15
open Pandora.Model.C15

/-- what a size condition `size {val, op}` states about a body of `len` bytes (the comparisons of the code are
inclusive: `lt` fails only when `val < len`) -/
def sizeHolds (op : String) (val len : Int) : Prop :=
  ((op = "eq" ∨ op = "=") ∧ val = len) ∨ ((op = "lt" ∨ op = "<") ∧ len ≤ val) ∨ ((op = "gt" ∨ op = ">") ∧ val ≤ len)

theorem sizeFails_iff (op : String) (val len : Int) : sizeFails op val len = some false ↔ sizeHolds op val len := by
  unfold sizeFails sizeHolds
  by_cases h1 : op = "eq"
  · subst h1; simp
  by_cases h2 : op = "="
  · subst h2; simp
  by_cases h3 : op = "lt"
  · subst h3; simp
  by_cases h4 : op = "<"
  · subst h4; simp
  by_cases h5 : op = "gt"
  · subst h5; simp
  by_cases h6 : op = ">"
  · subst h6; simp
  simp [h1, h2, h3, h4, h5, h6]

/-- the two clamping steps of `substr` bring an index into `[0, l]` -/
theorem clamp_range (x l : Int) (hl : 0 ≤ l) :
    let c := if (if x < 0 then 0 else x) > l then l else if x < 0 then 0 else x
    0 ≤ c ∧ c ≤ l := by
  omega

/-- and the final swap orders two indices of `[0, l]` -/
theorem swap_range {a b l : Int} (ha : 0 ≤ a ∧ a ≤ l) (hb : 0 ≤ b ∧ b ≤ l) :
    let p := if a > b then (b, a) else (a, b)
    0 ≤ p.1 ∧ p.1 ≤ p.2 ∧ p.2 ≤ l := by
  simp only
  split <;> simp only <;> omega

end Pandora.Proofs.C15
