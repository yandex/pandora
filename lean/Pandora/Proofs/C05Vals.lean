/-
C05 — value invariants of the pool model: what can sit in the result channels, what `onErrAwaited` is handed,
what `Pool.Run` can return; who may have cancelled the pool context.
-/
import Pandora.Proofs.C05Inv

namespace Pandora.Proofs.C05
open Pandora.Model.C05

/-- a value a component put on a result channel; `done` = its context's state now, `errs` = the errors on record -/
def ValOK (errs : List ErrId) (done : Bool) (r : Ret) : Prop :=
  (r = .ctx → done = true) ∧ ∀ e, r = .err e → e ∈ errs

/-- contexts only get cancelled and errors only get recorded, so a value stays good -/
theorem ValOK.mono {errs errs' : List ErrId} {d d' : Bool} {r : Ret} (h : ValOK errs d r) (hd : d = true → d' = true)
    (he : ∀ e ∈ errs, e ∈ errs') : ValOK errs' d' r :=
  ⟨fun hr => hd (h.1 hr), fun e hr => he e (h.2 e hr)⟩

/-- what a component may return is good once its error is on record -/
theorem valOK_ret {errs : List ErrId} {done : Bool} {r : Ret} (h : retAllowed done r = true) :
    ValOK (errs ++ errsOf r) done r ∧ r ≠ .ooa := by
  cases r <;> simp_all [retAllowed, ValOK, errsOf]

theorem valOK_err (errs : List ErrId) (e : ErrId) {done : Bool} : ValOK (errs ++ [e]) done (.err e) :=
  ⟨nofun, fun _ he => by cases he; simp⟩

/-- the await loop hands to `onErrAwaited` only recorded component errors -/
theorem ValOK.err_of_not_ctx {errs : List ErrId} {done : Bool} {r : Ret} (h : ValOK errs done r) (hn : r ≠ .ooa)
    (hc : r.isCtxError done = false) : ∃ e, r = .err e ∧ e ∈ errs := by
  cases r with
  | ok => cases hc
  | ctx => rw [show done = true from h.1 rfl] at hc; cases hc
  | ooa => exact absurd rfl hn
  | err e => exact ⟨e, rfl, h.2 e rfl⟩

/-- what is on the result channels and in `onErrAwaited` -/
structure ChanVals (s : State) : Prop where
  provVal : ∀ r, s.prov = .ready r → ValOK s.compErrs s.runC r ∧ r ≠ .ooa
  aggVal : ∀ r, s.agg = .ready r → ValOK s.compErrs s.runC r ∧ r ≠ .ooa
  startVal : ∀ n r, s.startRes = some (n, r) → ValOK s.compErrs s.startC r ∧ r ≠ .ooa
  bufVal : ∀ x ∈ s.buf, ValOK s.compErrs s.runC x.2
  onErrVal : ∀ w r c, s.aw = .onErr w r c → ∃ e, r = .err e ∧ e ∈ s.compErrs

/-- what `Pool.Run` has returned, and who cancelled -/
structure RetVals (s : State) : Prop where
  failVal : ∀ w c, s.main = .returned (.fail w c) → ∃ e, c = .err e ∧ e ∈ s.errsAtReturn
  atRet : ∀ e ∈ s.errsAtReturn, e ∈ s.compErrs
  poolExt : s.poolC = true → s.extC = true ∨ ∃ r, s.main = .returned r
  retCtx : s.main = .returned .ctx → s.extAtReturn = true
  retOk : s.main = .returned .ok → s.aw = .finished
  retExt : s.extAtReturn = true → s.extC = true

structure InvB (s : State) : Prop extends ChanVals s, RetVals s

theorem invB_init : InvB init := by
  refine ⟨?_, ?_⟩ <;> constructor <;> simp [init]

/-- `ChanVals` reads the five channels, the two contexts and `compErrs`: a state with the same channels, contexts
that are at least as cancelled and at least the same errors on record satisfies it too -/
theorem ChanVals.later {s : State} (h : ChanVals s) (s' : State) (hr : s.runC = true → s'.runC = true)
    (hs : s.startC = true → s'.startC = true) (he : ∀ e ∈ s.compErrs, e ∈ s'.compErrs)
    (h1 : s'.prov = s.prov := by rfl) (h2 : s'.agg = s.agg := by rfl) (h3 : s'.startRes = s.startRes := by rfl)
    (h4 : s'.buf = s.buf := by rfl) (h5 : s'.aw = s.aw := by rfl) : ChanVals s' where
  provVal r hp := ⟨(h.provVal r (h1 ▸ hp)).1.mono hr he, (h.provVal r (h1 ▸ hp)).2⟩
  aggVal r hp := ⟨(h.aggVal r (h2 ▸ hp)).1.mono hr he, (h.aggVal r (h2 ▸ hp)).2⟩
  startVal n r hp := ⟨(h.startVal n r (h3 ▸ hp)).1.mono hs he, (h.startVal n r (h3 ▸ hp)).2⟩
  bufVal x hx := (h.bufVal x (h4 ▸ hx)).mono hr he
  onErrVal w r c ha := (h.onErrVal w r c (h5 ▸ ha)).imp fun e he' => ⟨he'.1, he e he'.2⟩

/-- `Pool.Run` returns `r`: a failure carries a recorded error, the cancellation error needs the caller's cancel,
nil needs the closed `awaitErr` -/
theorem invB_mainReturn {s : State} (h : ChanVals s) (r : PRes)
    (hf : ∀ w c, r = .fail w c → ∃ e, c = .err e ∧ e ∈ s.compErrs) (hc : r = .ctx → s.extC = true)
    (hk : r = .ok → s.aw = .finished) : InvB (mainReturn s r) :=
  ⟨h.later _ (fun _ => rfl) (fun _ => rfl) (fun _ => id),
   { failVal := fun w c hm => hf w c (MainPc.returned.inj hm)
     atRet := fun _ => id
     poolExt := fun _ => .inr ⟨r, rfl⟩
     retCtx := fun hm => hc (MainPc.returned.inj hm)
     retOk := fun hm => hk (MainPc.returned.inj hm)
     retExt := id }⟩

/-- an early failure of `Pool.Run` with the new component error `e` -/
theorem invB_earlyReturn {s : State} (h : InvB s) (e : ErrId) (w : Nat) (g : Option Gun) (wr : Wrap) :
    InvB (mainReturn { s with compErrs := s.compErrs ++ [e], waitDone := w, warmGun := g } (.fail wr (.err e))) :=
  invB_mainReturn (s := { s with compErrs := s.compErrs ++ [e], waitDone := w, warmGun := g })
    (h.toChanVals.later _ id id (fun _ => List.mem_append_left _)) _
    (fun _ _ hr => by cases hr; exact ⟨e, rfl, List.mem_append_right _ List.mem_cons_self⟩) nofun nofun

/-- a state change that leaves `Pool.Run` where it is and only adds to the errors on record -/
theorem RetVals.later {s : State} (h : RetVals s) (s' : State) (he : ∀ e ∈ s.compErrs, e ∈ s'.compErrs)
    (ha : s.main = .returned .ok → s'.aw = .finished)
    (h1 : s'.main = s.main := by rfl) (h2 : s'.errsAtReturn = s.errsAtReturn := by rfl)
    (h3 : s'.poolC = s.poolC := by rfl) (h4 : s'.extC = s.extC := by rfl)
    (h5 : s'.extAtReturn = s.extAtReturn := by rfl) : RetVals s' where
  failVal w c hm := h2 ▸ h.failVal w c (h1 ▸ hm)
  atRet e hm := he e (h.atRet e (h2 ▸ hm))
  poolExt hp := h4 ▸ h1 ▸ h.poolExt (h3 ▸ hp)
  retCtx hm := h5 ▸ h.retCtx (h1 ▸ hm)
  retOk hm := ha (h1 ▸ hm)
  retExt hx := h4 ▸ h.retExt (h5 ▸ hx)

/-! ### the await goroutine -/

theorem b_finish (s : State) (h : InvB s) : InvB (finish s) := by
  unfold finish
  split
  · exact ⟨{ h.toChanVals with onErrVal := nofun }, { h.toRetVals with retOk := fun _ => rfl }⟩
  · exact h

theorem b_checkAll (s : State) (h : InvB s) : InvB (checkAll s) := by
  unfold checkAll
  repeat' split
  · exact ⟨{ h.toChanVals with }, { h.toRetVals with }⟩
  · exact ⟨{ h.toChanVals with }, { h.toRetVals with }⟩
  · exact ⟨h.toChanVals.later _ (fun _ => rfl) (fun _ => rfl) (fun _ => id), { h.toRetVals with }⟩
  · exact h

theorem b_afterErr (s : State) (chk : Bool) (h : InvB s) (hl : s.aw = .loop) : InvB (afterErr s chk) := by
  unfold afterErr
  rw [aw_loop_eta s hl]
  apply b_finish
  split
  · exact b_checkAll _ h
  · exact h

theorem invB_leaveOnErr {s : State} (h : InvB s) (w : Wrap) (r : Ret) (chk : Bool) (ha : s.aw = .onErr w r chk) :
    InvB (afterErr s chk) :=
  b_afterErr { s with aw := .loop } chk
    ⟨{ h.toChanVals with onErrVal := nofun },
     { h.toRetVals with retOk := fun hm => by have := h.retOk hm; rw [ha] at this; cases this }⟩ rfl

theorem b_handleRes (s : State) (w : Wrap) (r : Ret) (done chk : Bool) (h : InvB s) (hl : s.aw = .loop)
    (hv : r.isCtxError done = false → ∃ e, r = .err e ∧ e ∈ s.compErrs) : InvB (handleRes s w r done chk) := by
  unfold handleRes
  split
  · exact b_afterErr _ _ h hl
  · next hc =>
    exact ⟨{ h.toChanVals with onErrVal := fun _ _ _ he => by cases he; exact hv (by simpa using hc) },
           { h.toRetVals with retOk := fun hm => by have := h.retOk hm; rw [hl] at this; cases this }⟩

/-! ### the steps -/

/-- a component fails with the new error `e`: first the record, then (`hc`, `hr`) what else the step changes -/
theorem invB_record {s : State} (h : InvB s) (e : ErrId) (s' : State)
    (hc : ChanVals { s with compErrs := s.compErrs ++ [e] } → ChanVals s')
    (hr : RetVals { s with compErrs := s.compErrs ++ [e] } → RetVals s') : InvB s' :=
  ⟨hc (h.toChanVals.later _ id id fun _ => List.mem_append_left _),
   hr (h.toRetVals.later _ (fun _ => List.mem_append_left _) h.retOk)⟩

theorem step_invB (cfg : Cfg) (s : State) (c : Choice) (ha : InvA s) (h : InvB s) : InvB (step cfg s c) := by
  cases c with
  | extCancel =>
    exact ⟨h.toChanVals.later _ (fun _ => rfl) (fun _ => rfl) (fun _ => id),
      { h.toRetVals with poolExt := fun _ => .inl rfl, retExt := fun _ => rfl }⟩
  | warm o =>
    simp only [step]; split
    · next hm =>
      cases o with
      | gunFail e => exact invB_earlyReturn h e _ s.warmGun _
      | warmFail e c => exact invB_earlyReturn h e _ _ _
      | ok c =>
        exact ⟨{ h.toChanVals with },
          { h.toRetVals with
            failVal := nofun, retCtx := nofun, retOk := nofun
            poolExt := fun hp => (h.poolExt hp).imp_right fun ⟨_, hr⟩ => by rw [hm] at hr; cases hr }⟩
    · exact h
  | sched o =>
    simp only [step]; split
    · next hm =>
      cases o with
      | some e => exact invB_earlyReturn h e _ s.warmGun _
      | none =>
        exact ⟨{ h.toChanVals with provVal := fun _ => nofun, aggVal := fun _ => nofun, onErrVal := nofun },
          { h.toRetVals with
            failVal := nofun, retCtx := nofun, retOk := nofun
            poolExt := fun hp => (h.poolExt hp).imp_right fun ⟨_, hr⟩ => by rw [hm] at hr; cases hr }⟩
    · exact h
  | provRet r =>
    simp only [step, addErr_eq]; split
    · next hc =>
      exact ⟨{ h.toChanVals.later { s with compErrs := s.compErrs ++ errsOf r } id id
                (fun _ => List.mem_append_left _) with
              provVal := fun _ hr => by cases hr; exact valOK_ret hc.2 },
             h.toRetVals.later _ (fun _ => List.mem_append_left _) h.retOk⟩
    · exact h
  | aggRet r =>
    simp only [step, addErr_eq]; split
    · next hc =>
      exact ⟨{ h.toChanVals.later { s with compErrs := s.compErrs ++ errsOf r } id id
                (fun _ => List.mem_append_left _) with
              aggVal := fun _ hr => by cases hr; exact valOK_ret hc.2 },
             h.toRetVals.later _ (fun _ => List.mem_append_left _) h.retOk⟩
    · exact h
  | rpsFinished =>
    simp only [step]; split
    · exact ⟨h.toChanVals.later _ id (fun _ => rfl) (fun _ => id), { h.toRetVals with }⟩
    · exact h
  | startFirst o =>
    simp only [step]; split
    · have failed (e : ErrId) (rt : List Gun) : InvB
          { s with startPc := .done, startRes := some (0, .err e), compErrs := s.compErrs ++ [e], retired := rt } :=
        invB_record h e _
          (fun h' => { h' with startVal := fun _ _ hr => by cases hr; exact ⟨valOK_err _ e, nofun⟩ })
          (fun h' => { h' with })
      cases o with
      | schedFail e => exact failed e s.retired
      | gunFail e => exact failed e s.retired
      | bindFail e c => exact failed e _
      | ok c => exact ⟨{ h.toChanVals with }, { h.toRetVals with }⟩
    · exact h
  | startTick =>
    simp only [step]; split
    · exact ⟨{ h.toChanVals with }, { h.toRetVals with }⟩
    · exact h
  | startEnd =>
    simp only [step]; split
    · have hv : ValOK s.compErrs s.startC (if s.startC = true then .ctx else .ok) ∧
          (if s.startC = true then Ret.ctx else .ok) ≠ .ooa := by
        cases s.startC
        · exact ⟨⟨nofun, nofun⟩, nofun⟩
        · exact ⟨⟨fun _ => rfl, nofun⟩, nofun⟩
      exact ⟨{ h.toChanVals with startVal := fun _ _ hr => by cases hr; exact hv }, { h.toRetVals with }⟩
    · exact h
  | instCreate i o =>
    simp only [step]; split
    · next k hl =>
      have failed (e : ErrId) (rt : List Gun) : InvB (sendRes
          { s with live := s.live.eraseIdx i, compErrs := s.compErrs ++ [e], retired := rt } k (.err e)) := by
        rw [sendRes_live ha hl]
        exact invB_record h e _
          (fun h' => { h' with bufVal := fun x hx => (List.mem_append.1 hx).elim (h'.bufVal x)
                                    fun hx => by cases List.mem_singleton.1 hx; exact valOK_err _ e })
          (fun h' => { h' with })
      cases o with
      | schedFail e => exact failed e s.retired
      | gunFail e => exact failed e s.retired
      | bindFail e c => exact failed e _
      | ok c => exact ⟨{ h.toChanVals with }, { h.toRetVals with }⟩
    · exact h
  | instRet i r =>
    simp only [step, addErr_eq]; split
    · next k g hl =>
      split
      · exact h
      · next hg =>
        rw [sendRes_live ha hl]
        have hv : ValOK (s.compErrs ++ errsOf r) s.runC r := by
          refine ⟨fun hr => ?_, fun e hr => by simp [hr, errsOf]⟩
          cases hc : s.runC
          · exact absurd ⟨hr, hc⟩ hg
          · rfl
        exact ⟨{ h.toChanVals.later { s with compErrs := s.compErrs ++ errsOf r } id id
                  (fun _ => List.mem_append_left _) with
                bufVal := fun x hx => (List.mem_append.1 hx).elim
                  (fun hx => (h.bufVal x hx).mono id fun _ => List.mem_append_left _)
                  (fun hx => by cases List.mem_singleton.1 hx; exact hv) },
               h.toRetVals.later _ (fun _ => List.mem_append_left _) h.retOk⟩
    · exact h
  | awaitProv =>
    simp only [step]; split
    · next r hl hp =>
      exact b_handleRes _ _ _ _ _ ⟨{ h.toChanVals with provVal := fun _ => nofun }, { h.toRetVals with }⟩ hl
        ((h.provVal r hp).1.err_of_not_ctx (h.provVal r hp).2)
    · exact h
  | awaitAgg =>
    simp only [step]; split
    · next r hl hp =>
      exact b_handleRes _ _ _ _ _ ⟨{ h.toChanVals with aggVal := fun _ => nofun }, { h.toRetVals with }⟩ hl
        ((h.aggVal r hp).1.err_of_not_ctx (h.aggVal r hp).2)
    · exact h
  | awaitStart =>
    simp only [step]; split
    · next n r hl ht hp =>
      exact b_handleRes _ _ _ _ _ ⟨{ h.toChanVals with }, { h.toRetVals with }⟩ hl
        ((h.startVal n r hp).1.err_of_not_ctx (h.startVal n r hp).2)
    · exact h
  | awaitRun =>
    simp only [step]; split
    · next k r rest hl ho hb =>
      have hmem : ∀ x ∈ rest, x ∈ s.buf := fun x hx => hb ▸ List.mem_cons_of_mem _ hx
      have h1 : InvB { s with buf := rest, awaited := s.awaited + 1 } :=
        ⟨{ h.toChanVals with bufVal := fun x hx => h.bufVal x (hmem x hx) }, { h.toRetVals with }⟩
      split
      · split
        · exact b_afterErr _ _ h1 hl
        · exact b_afterErr _ _ ⟨h1.toChanVals.later _ id (fun _ => rfl) (fun _ => id), { h1.toRetVals with }⟩ hl
      · next hr =>
        exact b_handleRes _ _ _ _ _ h1 hl
          ((h.bufVal (k, r) (hb ▸ List.mem_cons_self)).err_of_not_ctx hr)
    · exact h
  | errDeliver =>
    simp only [step]; split
    · next w r chk hl hm =>
      exact invB_leaveOnErr (invB_mainReturn h.toChanVals (.fail w r)
        (fun _ _ hr => by cases hr; exact h.onErrVal _ _ _ hl) nofun nofun) w r chk hl
    · exact h
  | errSuppress =>
    simp only [step]; split
    · next w r chk hl =>
      generalize (if cfg.fixSelect = true then s.poolC else s.runC) = b
      cases b
      · exact h
      · exact invB_leaveOnErr h w r chk hl
    · exact h
  | mainCancel =>
    simp only [step]; split
    · next hc =>
      refine invB_mainReturn h.toChanVals .ctx nofun (fun _ => ?_) nofun
      exact (h.poolExt hc.2).resolve_right fun ⟨_, hr⟩ => by rw [hc.1] at hr; cases hr
    · exact h
  | mainClosed =>
    simp only [step]; split
    · next hc => exact invB_mainReturn h.toChanVals .ok nofun nofun fun _ => ha.1.closed.1 hc.2
    · exact h

theorem run_invB (cfg : Cfg) (cs : List Choice) : InvB (run cfg cs) :=
  run_induction cfg invB_init (step_invB cfg) cs

end Pandora.Proofs.C05
