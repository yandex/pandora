/-
C07 — the (repaired) uripost scanner reads back every rendered file.
-/
import Pandora.Proofs.C07Uri

namespace Pandora.Proofs.C07
open Pandora.Model.C07 Pandora.Spec.C07

/-! ### decoders that read with `ReadString('\n')` and trim the line (uripost, raw) -/

/-- one step of such a decoder: the line up to its newline (which `ReadString` returns with it) or to the end of the file,
trimmed, and the bytes that follow it, handed to `block` -/
def readTrim {ρ : Type} (block : Bytes → Bytes → ρ) (nil : ρ) : Bytes → ρ
  | [] => nil
  | b :: r => block (trimSpace (if (cut LF (b :: r)).2.2 then (cut LF (b :: r)).1 ++ [LF] else (cut LF (b :: r)).1)) (cut LF (b :: r)).2.1

theorem readTrim_line {ρ : Type} (block : Bytes → Bytes → ρ) (nil : ρ) (line R : Bytes) (hline : LF ∉ line) :
    readTrim block nil (line ++ LF :: R) = block (trimSpace (line ++ [LF])) R := by
  cases hb : line ++ LF :: R with
  | nil => simp at hb
  | cons b r => rw [readTrim, ← hb, cut_append_sep LF line R hline]; rfl

theorem readTrim_last {ρ : Type} (block : Bytes → Bytes → ρ) (nil : ρ) (line : Bytes) (hline : LF ∉ line) (hne : line ≠ []) :
    readTrim block nil line = block (trimSpace line) [] := by
  cases line with
  | nil => exact absurd rfl hne
  | cons b r => rw [readTrim, cut_no_sep LF _ hline]; rfl

section
variable {σ α : Type} {f : Fmt} {pass : Bytes → σ → List α × Stop} {block : Bytes → Bytes → σ → List α × Stop}
  {exp : σ → List Item → List α} {step : Item → σ → Bytes → List α × Stop}
  (hpass : ∀ bs h, pass bs h = readTrim (fun d R => block d R h) ([], .eof) bs)
  -- a blank line is skipped
  (hblock : ∀ R h, block [] R h = pass R h)
include hpass hblock

theorem readTrim_blanks (blanks : List Bytes) (X : Bytes) (h : σ) (hb : blanks.all padOK = true) :
    pass (renderBlanks blanks ++ X) h = pass X h := by
  induction blanks with
  | nil => rfl
  | cons p r ih =>
    simp only [List.all_cons, Bool.and_eq_true] at hb
    have hshape : renderBlanks (p :: r) ++ X = p ++ LF :: (renderBlanks r ++ X) := by simp [renderBlanks]
    rw [hshape, hpass, readTrim_line _ _ p _ (padOK_noLF hb.1),
      trimSpace_allWs _ (allWs_append (padOK_allWs hb.1) allWs_LF), hblock]
    exact ih hb.2

/-- blanks after the last newline are one more blank line -/
theorem readTrim_trail (trail : Bytes) (h : σ) (ht : padOK trail = true) : pass trail h = ([], .eof) := by
  by_cases hn : trail = []
  · subst hn; rw [hpass]; rfl
  · rw [hpass, readTrim_last _ _ trail (padOK_noLF ht) hn, trimSpace_allWs _ (padOK_allWs ht), hblock, hpass]; rfl

/-- such a decoder reads back a rendered file when the content of every entry has no white space at its ends (so that its
padded line trims to it), and the block of that content with the entry's payload behind it is the entry's step -/
theorem readTrim_render
    (hentry : ∀ it l, itemOK f it = true → itemLayOK l = true →
      LF ∉ content f it l ∧ content f it l ≠ [] ∧ spWidth (content f it l) = 0 ∧
      spWidthRev (content f it l).reverse = 0 ∧ ∀ h X, block (content f it l) (payload f it ++ X) h = step it h X)
    (hexp : ∀ h, exp h [] = [])
    (hstep : ∀ it r h X, itemOK f it = true → (∀ h', pass X h' = (exp h' r, .eof)) → step it h X = (exp h (it :: r), .eof))
    (items : List Item) (lay : Layout) (h : σ) (hi : itemsOK f items = true) (hl : layoutOK lay = true) :
    pass (render f items lay) h = (exp h items, .eof) := by
  refine pass_render (Inv := fun _ => True) (fun it l h X hit hl _ => ?_) (fun it l h hit hl hp _ => ?_)
    (fun bl X h hb _ => ⟨readTrim_blanks hpass hblock bl X h hb, trivial⟩)
    (fun t h ht _ => by rw [readTrim_trail hpass hblock t h ht, hexp]) (fun h => by rw [hpass, hexp]; rfl)
    hstep items lay h hi hl trivial
  all_goals
    obtain ⟨hLF, hne, hf, hr, hb⟩ := hentry it l hit hl
    simp only [itemLayOK, Bool.and_eq_true] at hl
    obtain ⟨⟨⟨⟨⟨⟨hpre, hpost⟩, _⟩, _⟩, _⟩, _⟩, _⟩ := hl
    have hline : LF ∉ l.pre ++ content f it l ++ l.post := by
      simp only [List.mem_append, not_or]; exact ⟨⟨padOK_noLF hpre, hLF⟩, padOK_noLF hpost⟩
  · rw [hpass, readTrim_line _ _ _ _ hline, List.append_assoc _ _ [LF],
      trimSpace_pad _ _ _ (padOK_allWs hpre) (allWs_append (padOK_allWs hpost) allWs_LF) hf hr]
    exact ⟨hb h X, trivial⟩
  · rw [hpass, readTrim_last _ _ _ hline (by simp [hne]),
      trimSpace_pad _ _ _ (padOK_allWs hpre) (padOK_allWs hpost) hf hr]
    simpa [hp] using hb h []

end

/-! ### uripost -/

/-- what `readBlock` does with the trimmed line `data`, the rest of the file being `R` -/
def upBlock (data R : Bytes) (h : Hdrs) : List Ammo × Stop :=
  match data with
  | [] => uripostPass true R h
  | c :: d =>
    if c = LBR then
      match decodeHeader (c :: d) with
      | .ok kv => uripostPass true R (hset h kv.1 kv.2)
      | .error e => ([], .err e)
    else
      match decodeURI (c :: d) with
      | .error e => ([], .err e)
      | .ok (n, uri, tag) =>
        if n < 0 then ([], .err (sizeErr uri .negsize))
        else if R.length < n.toNat then ([], .err (sizeErr uri .shortread))
        else
          let q := uripostPass true (R.drop n.toNat) h
          ({ method := postBytes, url := uri, body := R.take n.toNat, tag := tag, hdrs := h } :: q.1, q.2)

theorem upPass_readTrim (bs : Bytes) (h : Hdrs) :
    uripostPass true bs h = readTrim (fun d R => upBlock d R h) ([], .eof) bs := by
  cases bs with
  | nil => rw [uripostPass]; rfl
  | cons b r =>
    rw [uripostPass]
    simp only [Bool.not_true, Bool.and_false, Bool.false_eq_true, if_false]
    unfold upBlock readTrim
    rfl

/-! ### the request line -/

theorem natToDec_noSP (n : Nat) : SP ∉ natToDec n := fun hm =>
  (isDigit_props ((natToDec_spec n).2.1 _ hm)).2.2.2.1 rfl

theorem natToDec_noLF (n : Nat) : LF ∉ natToDec n := fun hm =>
  (isDigit_props ((natToDec_spec n).2.1 _ hm)).2.2.2.2.1 rfl

theorem natToDec_head (n : Nat) : ∃ c r, natToDec n = c :: r ∧ isDigit c = true := by
  have ⟨h1, h2, _⟩ := natToDec_spec n
  cases hd : natToDec n with
  | nil => exact absurd hd h1
  | cons c r => exact ⟨c, r, rfl, h2 c (by simp [hd])⟩

theorem splitOn_tagPart (u t : Bytes) (hu : SP ∉ u) :
    ∃ rest, splitOn SP (u ++ tagPart t) = u :: rest ∧ join SP rest = t := by
  unfold tagPart
  cases t with
  | nil => exact ⟨[], by simp [splitOn_no_sep SP u hu], rfl⟩
  | cons a r =>
    refine ⟨splitOn SP (a :: r), ?_, join_splitOn SP _⟩
    simp [splitOn_append_sep SP u (a :: r) hu]

/-- `uripost.DecodeURI` reads back `size uri [tag]`, however the size is spelled (`+`, leading zeros) -/
theorem decodeURI_render (sz : Bytes) (n : Nat) (u t : Bytes) (hs : SizeTok sz n) (hu : SP ∉ u) :
    decodeURI (sz ++ SP :: (u ++ tagPart t)) = .ok ((n : Int), u, t) := by
  obtain ⟨rest, hsp, hj⟩ := splitOn_tagPart u t hu
  unfold decodeURI
  rw [splitOn_append_sep SP _ _ hs.noSP, hsp]
  simp only [hs.val, hj]

theorem content_uripost_req (u t b : Bytes) (l : ItemLay) :
    content .uripost (.req u t b) l = sizeText l b.length ++ SP :: (u ++ tagPart t) := by
  simp [content, tagPart]

theorem reqContent_props (sz : Bytes) (n : Nat) (u t : Bytes) (hs : SizeTok sz n) (hu : targetOK u = true) (ht : tagOK t = true) :
    let c := sz ++ SP :: (u ++ tagPart t)
    LF ∉ c ∧ spWidth c = 0 ∧ spWidthRev c.reverse = 0 ∧ ∃ x r, c = x :: r ∧ x ≠ LBR := by
  intro c
  obtain ⟨x, r, hx, hx1, hx2, hx3⟩ := hs.head
  obtain ⟨c0, r0, hcr, hc1, hc2, hc3, huLF, huSP, hurev⟩ := targetOK_props hu
  obtain ⟨htLF, htrev⟩ := tagOK_props ht
  refine ⟨?_, ?_, ?_, x, r ++ SP :: (u ++ tagPart t), by simp [c, hx], hx3⟩
  · simp only [c, List.mem_append, List.mem_cons, not_or]
    exact ⟨hs.noLF, by decide, huLF, tagPart_noLF htLF⟩
  · simp only [c, hx, List.cons_append]
    exact spWidth_ascii x _ hx1 hx2
  · have h1 := rev_edge_tagPart u t hurev htrev
    have : c.reverse = (u ++ tagPart t).reverse ++ SP :: sz.reverse := by simp [c]
    rw [this]
    apply spWidthRev_append _ _ _ h1
    · intro y hy; simp at hy; subst hy; decide
    · rw [hcr]; simp

/-- the block of one request: trimmed line, then exactly `body` from the rest -/
theorem upBlock_req (sz u t b X : Bytes) (h : Hdrs) (hs : SizeTok sz b.length) (hu : targetOK u = true) (ht : tagOK t = true) :
    upBlock (sz ++ SP :: (u ++ tagPart t)) (b ++ X) h =
      ({ method := postBytes, url := u, body := b, tag := t, hdrs := h } :: (uripostPass true X h).1,
       (uripostPass true X h).2) := by
  obtain ⟨_, _, _, x, r, hxr, hx⟩ := reqContent_props sz b.length u t hs hu ht
  obtain ⟨_, _, _, _, _, _, _, huSP, _⟩ := targetOK_props hu
  have hd := decodeURI_render sz b.length u t hs huSP
  rw [hxr] at hd ⊢
  unfold upBlock
  simp only [hx, if_false, hd]
  have h1 : ¬ ((b.length : Int) < 0) := by omega
  have h2 : ¬ (b.length + X.length < b.length) := by omega
  simp [h1, h2]

theorem upBlock_hdr (k v : Bytes) (l : ItemLay) (R : Bytes) (h : Hdrs) (hk : hdrKeyOK k = true) (hv : hdrValOK v = true)
    (hl : itemLayOK l = true) :
    upBlock (content .uripost (.hdr k v) l) R h = uripostPass true R (hset h k v) := by
  simp only [itemLayOK, Bool.and_eq_true] at hl
  obtain ⟨⟨⟨⟨⟨⟨_, _⟩, h1⟩, h2⟩, h3⟩, h4⟩, _⟩ := hl
  simp only [content]
  unfold upBlock
  simp only [if_true]
  rw [decodeHeader_render k v _ _ _ _ hk hv h1 h2 h3 h4]

/-! ### one entry -/

/-- the content of an entry: one line, no white space at its ends -/
theorem contentUripost_props (it : Item) (l : ItemLay) (hit : itemOK .uripost it = true) (hl : itemLayOK l = true) :
    LF ∉ content .uripost it l ∧ content .uripost it l ≠ [] ∧ spWidth (content .uripost it l) = 0 ∧
    spWidthRev (content .uripost it l).reverse = 0 := by
  cases it with
  | hdr k v =>
    simp only [itemOK, Bool.and_eq_true] at hit
    exact hdrContent_props .uripost k v l hit.1.2 hit.2 hl
  | req u t b =>
    simp only [itemOK, Bool.and_eq_true] at hit
    obtain ⟨hLF, hf, hr, x, r, hxr, _⟩ := reqContent_props (sizeText l b.length) b.length u t (sizeText_tok l _ hit.2) hit.1.1.2 hit.1.2
    rw [content_uripost_req]
    exact ⟨hLF, by rw [hxr]; simp, hf, hr⟩
  | frame t fr => simp [itemOK] at hit

theorem upBlock_item (it : Item) (l : ItemLay) (h : Hdrs) (X : Bytes)
    (hit : itemOK .uripost it = true) (hl : itemLayOK l = true) :
    upBlock (content .uripost it l) (payload .uripost it ++ X) h = itemStep .uripost (uripostPass true) it h X := by
  cases it with
  | hdr k v =>
    simp only [itemOK, Bool.and_eq_true] at hit
    exact upBlock_hdr k v l X h hit.1.2 hit.2 hl
  | req u t b =>
    simp only [itemOK, Bool.and_eq_true] at hit
    rw [content_uripost_req]
    exact upBlock_req _ u t b X h (sizeText_tok l _ hit.2) hit.1.1.2 hit.1.2
  | frame t fr => simp [itemOK] at hit

/-! ### the whole file -/

theorem upPass_render (items : List Item) (lay : Layout) (h : Hdrs) (hi : itemsOK .uripost items = true)
    (hl : layoutOK lay = true) :
    uripostPass true (render .uripost items lay) h = (expAmmo .uripost h items, .eof) :=
  readTrim_render (step := itemStep .uripost (uripostPass true)) upPass_readTrim (fun _ _ => rfl)
    (fun it l hit hl =>
      have ⟨h1, h2, h3, h4⟩ := contentUripost_props it l hit hl
      ⟨h1, h2, h3, h4, fun h X => upBlock_item it l h X hit hl⟩)
    (fun _ => rfl) (fun it r h X _ => itemStep_exp .uripost _ it r h X) items lay h hi hl

end Pandora.Proofs.C07
