/-
C01 — the lazy start of a leaf schedule is safe under every interleaving of any number of callers (helper lemmas; the
property theorems are in `Props/C01.lean`).  Core Lean only.

`Inv g body V s`: the invariant of the small-step system of `Model/C01Conc.lean` for a `Next` of one of the two shapes
`safeLazy` recognises:
  g = false   onceEnter (|body|+1) :: body ++ [onceExit, incI, readStartRet]
  g = true    skipIfStarted (|body|+2) :: the same, with `swapStarted` as the LAST statement of the body
                (double-checked lazy start done right: the flag is published after the value it guards)
`Open g s` ("callers may go past the Once") is what makes the two cases one proof: as long as the Once is not open
nobody is past it and nothing is logged; once it is open the start is stored and is never written again.
-/
import Pandora.Model.C01Conc

namespace Pandora.Proofs.C01Conc
open Pandora.Model.C01Conc

def tail3 : List Stmt := [.onceExit, .incI, .readStartRet]

/-- `Next` from its Once on -/
def paOf (body : List Stmt) : List Stmt := Stmt.onceEnter (body.length + 1) :: (body ++ tail3)

/-- the whole `Next`: optionally a check of the started flag in front of the Once -/
def progG (g : Bool) (body : List Stmt) : List Stmt :=
  (if g then [Stmt.skipIfStarted (body.length + 2)] else []) ++ paOf body

structure BodyOK (g : Bool) (body : List Stmt) : Prop where
  stmts : ∀ c ∈ body, c = Stmt.swapStarted ∨ c = Stmt.writeStartNow
  writes : Stmt.writeStartNow ∈ body
  swaps : body.count Stmt.swapStarted ≤ 1
  last : g = true → body.getLast? = some Stmt.swapStarted

theorem safeOnce_shape (k : Nat) (rest : List Stmt) (h : safeOnce k rest = true) :
    ∃ body, Stmt.onceEnter k :: rest = paOf body ∧ body = rest.take (k - 1) ∧
      (∀ c ∈ body, c = .swapStarted ∨ c = .writeStartNow) ∧ .writeStartNow ∈ body ∧ body.count .swapStarted ≤ 1 := by
  unfold safeOnce at h
  simp only [Bool.and_eq_true, decide_eq_true_eq, List.all_eq_true, List.contains_iff_mem] at h
  obtain ⟨⟨⟨⟨hk, hall⟩, hw⟩, hc⟩, hd⟩ := h
  refine ⟨rest.take (k - 1), ?_, rfl, ?_, hw, hc⟩
  · have hlen : rest.length = (k - 1) + 3 := by
      have := congrArg List.length hd
      simp at this
      omega
    have hl : (rest.take (k - 1)).length = k - 1 := by simp [List.length_take]; omega
    unfold paOf tail3
    rw [hl, ← hd, List.take_append_drop]
    have : k - 1 + 1 = k := by omega
    rw [this]
  · intro c hcm
    have := hall c hcm
    cases c <;> simp [isBodyStmt] at this <;> simp

theorem safeLazy_shape (p : List Stmt) (h : safeLazy p = true) : ∃ g body, p = progG g body ∧ BodyOK g body := by
  unfold safeLazy at h
  match p, h with
  | .onceEnter k :: rest, h =>
    obtain ⟨body, hp, _, h1, h2, h3⟩ := safeOnce_shape k rest h
    exact ⟨false, body, by simp [progG, hp], h1, h2, h3, by simp⟩
  | .skipIfStarted g :: .onceEnter k :: rest, h =>
    simp only [Bool.and_eq_true, decide_eq_true_eq] at h
    obtain ⟨⟨hg, hs⟩, hl⟩ := h
    obtain ⟨body, hp, hb, h1, h2, h3⟩ := safeOnce_shape k rest hs
    refine ⟨true, body, ?_, h1, h2, h3, fun _ => by rw [hb]; exact hl⟩
    have hk : k = body.length + 1 := by
      unfold paOf at hp
      injection hp with hp1 _
      injection hp1
    simp only [progG, if_true, List.singleton_append, ← hp]
    rw [hg, hk]


/-- the call has passed the Once (or skipped it) -/
def Post (s : St) (j : Nat) : Prop := s.th j = [.incI, .readStartRet] ∨ s.th j = [.readStartRet] ∨ s.th j = []
/-- the call has not reached the inside of the Once -/
def Pre (g : Bool) (body : List Stmt) (s : St) (j : Nat) : Prop := s.th j = progG g body ∨ s.th j = paOf body
/-- callers may go past the Once: it is done, or (flag check in front) the flag is up -/
def Open (g : Bool) (s : St) : Prop := s.once = .done ∨ (g = true ∧ s.started = true)
/-- the callers that hold an index they have not used yet -/
def Held (s : St) (j : Nat) : Prop := s.th j = [.readStartRet]

structure Inv (g : Bool) (body : List Stmt) (V : Int → Prop) (s : St) : Prop where
  nopanic : s.panics = []
  idle : s.once = .idle → s.started = false
  running : ∀ r, s.once = .running r → ∃ pre bs, body = pre ++ bs ∧ s.th r = bs ++ tail3 ∧
      (s.started = true → Stmt.swapStarted ∉ bs) ∧ (Stmt.writeStartNow ∉ bs → ∃ v, V v ∧ s.start = some v)
  others : ∀ j, s.once ≠ .running j → Pre g body s j ∨ Post s j
  closed : ¬ Open g s → s.log = [] ∧ ∀ j, ¬ Post s j
  opened : Open g s → ∃ v, V v ∧ s.start = some v
  logstart : ∀ a ∈ s.log, a.start = s.start
  ctr0 : 0 ≤ s.ctr
  held_lt : ∀ j, Held s j → 0 ≤ s.loc j ∧ s.loc j < s.ctr
  held_ne : ∀ j k, j ≠ k → Held s j → Held s k → s.loc j ≠ s.loc k
  log_lt : ∀ a ∈ s.log, 0 ≤ a.idx ∧ a.idx < s.ctr
  log_held : ∀ a ∈ s.log, ∀ j, Held s j → a.idx ≠ s.loc j
  log_nodup : (s.log.map (·.idx)).Nodup

theorem paOf_ne_held (body : List Stmt) : paOf body ≠ [Stmt.readStartRet] := by simp [paOf]
theorem progG_ne_held (g : Bool) (body : List Stmt) : progG g body ≠ [Stmt.readStartRet] := by
  cases g <;> simp [progG, paOf]

theorem body_tail_not_post (s : St) (j : Nat) (bs : List Stmt) (h : s.th j = bs ++ tail3) : ¬ Post s j := by
  intro hp
  have hl : (s.th j).length = bs.length + 3 := by rw [h]; simp [tail3]
  rcases hp with h1 | h1 | h1 <;> rw [h1] at hl <;> simp at hl <;> omega

theorem pre_not_post (g : Bool) (body : List Stmt) (s : St) (j : Nat) (h : Pre g body s j) : ¬ Post s j := by
  intro hp
  rcases h with h | h <;> rcases hp with h1 | h1 | h1 <;> rw [h] at h1 <;> revert h1 <;> cases g <;> simp [progG, paOf]

theorem upd_same {α : Type} (f : Nat → α) (t : Nat) (x : α) : upd f t x t = x := by simp [upd]
theorem upd_other {α : Type} (f : Nat → α) (t j : Nat) (x : α) (h : j ≠ t) : upd f t x j = f j := by simp [upd, h]

/-- the invariant in a state in which nobody is past the Once yet: every caller other than the runner is still in front of
it and nothing is logged, so nobody holds an index; what is left to show is what the runner has done -/
theorem inv_closed {g : Bool} {body : List Stmt} {V : Int → Prop} {s : St} (hpan : s.panics = [])
    (hidle : s.once = .idle → s.started = false)
    (hrun : ∀ r, s.once = .running r → ∃ pre bs, body = pre ++ bs ∧ s.th r = bs ++ tail3 ∧
      (s.started = true → Stmt.swapStarted ∉ bs) ∧ (Stmt.writeStartNow ∉ bs → ∃ v, V v ∧ s.start = some v))
    (hpre : ∀ j, s.once ≠ .running j → Pre g body s j) (hlog : s.log = []) (hctr : 0 ≤ s.ctr)
    (hopen : Open g s → ∃ v, V v ∧ s.start = some v) : Inv g body V s := by
  have hnp : ∀ j, ¬ Post s j := fun j => by
    by_cases hj : s.once = .running j
    · obtain ⟨_, bs, _, h2, _, _⟩ := hrun j hj
      exact body_tail_not_post s j bs h2
    · exact pre_not_post g body s j (hpre j hj)
  have hnh : ∀ j, ¬ Held s j := fun j hj => hnp j (Or.inr (Or.inl hj))
  have hnl : ∀ a, a ∉ s.log := fun a ha => by rw [hlog] at ha; cases ha
  exact ⟨hpan, hidle, hrun, fun j hj => Or.inl (hpre j hj), fun _ => ⟨hlog, hnp⟩, hopen, fun a ha => absurd ha (hnl a),
    hctr, fun j hj => absurd hj (hnh j), fun j _ _ hj => absurd hj (hnh j), fun a ha => absurd ha (hnl a),
    fun a ha => absurd ha (hnl a), by rw [hlog]; exact List.nodup_nil⟩

theorem inv_initLazy (g : Bool) (body : List Stmt) (V : Int → Prop) : Inv g body V (initLazy (progG g body)) :=
  inv_closed rfl (fun _ => rfl) (fun r hr => by cases hr) (fun _ _ => Or.inl rfl) rfl (Int.le_refl 0)
    (fun ho => by rcases ho with ho | ⟨_, ho⟩ <;> cases ho)

theorem inv_initStarted (g : Bool) (body : List Stmt) (V : Int → Prop) (t0 : Int) (h0 : V t0) :
    Inv g body V (initStarted t0 (progG g body)) := by
  refine ⟨rfl, ?_, ?_, ?_, ?_, ?_, ?_, ?_, ?_, ?_, ?_, ?_, ?_⟩
  · intro h; simp [initStarted] at h
  · intro r hr; simp [initStarted] at hr
  · intro j _; left; left; rfl
  · intro hno; exact absurd (Or.inl rfl) hno
  · intro _; exact ⟨t0, h0, rfl⟩
  · intro a ha; simp [initStarted] at ha
  · simp [initStarted]
  · intro j hj; exact absurd hj (progG_ne_held g body)
  · intro j k _ hj; exact absurd hj (progG_ne_held g body)
  · intro a ha; simp [initStarted] at ha
  · intro a ha; simp [initStarted] at ha
  · simp [initStarted]

section stepInv
variable (g : Bool) (body : List Stmt) (V : Int → Prop) (hb : BodyOK g body)

/-- flag check in front of the Once, flag up: the runner has nothing left to do in the body (the flag goes up last) -/
theorem runner_done_of_open (hb : BodyOK g body) (pre bs : List Stmt) (hpre : body = pre ++ bs) (hg : g = true)
    (hsw : Stmt.swapStarted ∉ bs) : bs = [] := by
  cases hbs : bs with
  | nil => rfl
  | cons c bs' =>
    exfalso
    have hl := hb.last hg
    rw [hpre, List.getLast?_append] at hl
    have hne : bs.getLast? ≠ none := by rw [hbs]; simp [List.getLast?_cons]
    cases hx : bs.getLast? with
    | none => exact hne hx
    | some x =>
      rw [hx] at hl
      simp at hl
      subst hl
      exact hsw (List.mem_of_getLast? hx)

/-- A caller outside the Once moves on: it enters `Next` proper, goes past the Once because the Once is open, draws its
index or answers. Panics, flag, Once and start are not touched, so the conjuncts that read only those and the continuations
are kept here once; what the step does to counter, locals and log is the caller's to show (`i1` … `i7`: the seven index
conjuncts of the new state). -/
theorem th_update_inv (s : St) (t : Nat) (X : List Stmt) (c' : Int) (l' : Nat → Int) (lg' : List Ans)
    (h : Inv g body V s) (hnr : s.once ≠ .running t)
    (hX : X = paOf body ∨ (Open g s ∧ (X = [.incI, .readStartRet] ∨ X = [.readStartRet] ∨ X = [])))
    (hlg : ¬ Open g s → lg' = [])
    (i1 : ∀ a ∈ lg', a.start = s.start) (i2 : 0 ≤ c')
    (i3 : ∀ j, upd s.th t X j = [.readStartRet] → 0 ≤ l' j ∧ l' j < c')
    (i4 : ∀ j k, j ≠ k → upd s.th t X j = [.readStartRet] → upd s.th t X k = [.readStartRet] → l' j ≠ l' k)
    (i5 : ∀ a ∈ lg', 0 ≤ a.idx ∧ a.idx < c')
    (i6 : ∀ a ∈ lg', ∀ j, upd s.th t X j = [.readStartRet] → a.idx ≠ l' j)
    (i7 : (lg'.map (·.idx)).Nodup) :
    Inv g body V { s with ctr := c', loc := l', log := lg', th := upd s.th t X } := by
  refine ⟨h.nopanic, h.idle, ?_, ?_, ?_, h.opened, i1, i2, i3, i4, i5, i6, i7⟩
  · intro r hr
    have hrt : r ≠ t := by intro e; subst e; exact hnr hr
    obtain ⟨pre, bs, h1, h2, h3, h4⟩ := h.running r hr
    exact ⟨pre, bs, h1, by simpa [upd, hrt] using h2, h3, h4⟩
  · intro j hj
    by_cases hjt : j = t
    · subst hjt
      rcases hX with rfl | ⟨_, hX⟩
      · left; right; simp [upd]
      · right; simpa [Post, upd] using hX
    · have := h.others j hj
      simpa [Pre, Post, upd, hjt] using this
  · intro hno
    refine ⟨hlg hno, fun j => ?_⟩
    by_cases hjt : j = t
    · subst hjt
      rcases hX with rfl | ⟨ho, _⟩
      · apply pre_not_post g body _ j; right; simp [upd]
      · exact absurd ho hno
    · have := (h.closed hno).2 j
      simpa [Post, upd, hjt] using this

/-- … and nothing else: it enters `Next` proper or goes past the open Once, holding no index before or after -/
theorem th_only_inv (s : St) (t : Nat) (X : List Stmt) (h : Inv g body V s) (hnr : s.once ≠ .running t)
    (hX : X = paOf body ∨ (X = [.incI, .readStartRet] ∧ Open g s)) :
    Inv g body V { s with th := upd s.th t X } := by
  have hheld : ∀ j, upd s.th t X j = [Stmt.readStartRet] → Held s j := by
    intro j hj
    simp only [upd] at hj
    split at hj
    · rcases hX with rfl | ⟨rfl, _⟩
      · exact absurd hj (paOf_ne_held body)
      · simp at hj
    · exact hj
  exact th_update_inv g body V s t X s.ctr s.loc s.log h hnr (hX.imp id fun ⟨e, ho⟩ => ⟨ho, Or.inl e⟩)
    (fun hno => (h.closed hno).1) h.logstart h.ctr0 (fun j hj => h.held_lt j (hheld j hj))
    (fun j k hjk hj hk => h.held_ne j k hjk (hheld j hj) (hheld k hk)) h.log_lt
    (fun a ha j hj => h.log_held a ha j (hheld j hj)) h.log_nodup

/-- a caller past the Once: draw the index, read the start and answer -/
theorem post_step_inv (arg : Int) (s : St) (t : Nat) (now : Int) (h : Inv g body V s) (hp : Post s t) :
    Inv g body V (step arg s t now) := by
  have hopen : Open g s := by
    apply Classical.byContradiction
    intro hno
    exact (h.closed hno).2 t hp
  have hnr : s.once ≠ .running t := by
    intro hr
    obtain ⟨pre, bs, _, h2, _, _⟩ := h.running t hr
    exact body_tail_not_post s t bs h2 hp
  rcases hp with h1 | h2 | h3
  · -- i := s.i.Inc() - 1
    have hstep : step arg s t now = { s with ctr := s.ctr + 1, loc := upd s.loc t s.ctr, th := upd s.th t [.readStartRet] } := by
      simp [step, h1]
    rw [hstep]
    have hheld : ∀ j, upd s.th t [Stmt.readStartRet] j = [.readStartRet] → j = t ∨ (j ≠ t ∧ Held s j) := by
      intro j hj
      by_cases hjt : j = t
      · exact Or.inl hjt
      · right; simp only [upd, hjt, if_false] at hj; exact ⟨hjt, hj⟩
    have hc0 := h.ctr0
    refine th_update_inv g body V s t _ (s.ctr + 1) (upd s.loc t s.ctr) s.log h hnr (Or.inr ⟨hopen, Or.inr (Or.inl rfl)⟩)
      (fun hno => absurd hopen hno) h.logstart (by omega) ?_ ?_ ?_ ?_ h.log_nodup
    · intro j hj
      rcases hheld j hj with rfl | ⟨hne, hh⟩
      · simp [upd]; omega
      · have := h.held_lt j hh
        simp [upd, hne]; omega
    · intro j k hjk hj hk
      rcases hheld j hj with rfl | ⟨hne, hh⟩
      · rcases hheld k hk with rfl | ⟨hne', hh'⟩
        · exact absurd rfl hjk
        · have := h.held_lt k hh'
          simp [upd, hne']; omega
      · rcases hheld k hk with rfl | ⟨hne', hh'⟩
        · have := h.held_lt j hh
          simp [upd, hne]; omega
        · simpa [upd, hne, hne'] using h.held_ne j k hjk hh hh'
    · intro a ha
      have := h.log_lt a ha
      omega
    · intro a ha j hj
      rcases hheld j hj with rfl | ⟨hne, hh⟩
      · have := h.log_lt a ha
        simp [upd]; omega
      · simpa [upd, hne] using h.log_held a ha j hh
  · -- the rest of Next: read s.start, answer
    have hstep : step arg s t now = { s with log := ⟨t, s.start, s.loc t⟩ :: s.log, th := upd s.th t [] } := by
      simp [step, h2]
    rw [hstep]
    have hheld : ∀ j, upd s.th t [] j = [Stmt.readStartRet] → j ≠ t ∧ Held s j := by
      intro j hj
      simp only [upd] at hj
      split at hj
      · simp at hj
      · rename_i hne; exact ⟨hne, hj⟩
    have ht : Held s t := h2
    refine th_update_inv g body V s t _ s.ctr s.loc (⟨t, s.start, s.loc t⟩ :: s.log) h hnr
      (Or.inr ⟨hopen, Or.inr (Or.inr rfl)⟩) (fun hno => absurd hopen hno) ?_ h.ctr0
      (fun j hj => h.held_lt j (hheld j hj).2) (fun j k hjk hj hk => h.held_ne j k hjk (hheld j hj).2 (hheld k hk).2) ?_ ?_ ?_
    · intro a ha
      rcases List.mem_cons.mp ha with rfl | ha
      · rfl
      · exact h.logstart a ha
    · intro a ha
      rcases List.mem_cons.mp ha with rfl | ha
      · exact h.held_lt t ht
      · exact h.log_lt a ha
    · intro a ha j hj
      obtain ⟨hne, hh⟩ := hheld j hj
      rcases List.mem_cons.mp ha with rfl | ha
      · exact h.held_ne t j (Ne.symm hne) ht hh
      · exact h.log_held a ha j hh
    · simp only [List.map_cons, List.nodup_cons]
      refine ⟨fun hmem => ?_, h.log_nodup⟩
      obtain ⟨a, ha, hae⟩ := List.mem_map.mp hmem
      exact h.log_held a ha t ht hae
  · -- the call has returned
    have hstep : step arg s t now = s := by simp [step, h3]
    rw [hstep]; exact h

include hb in
/-- the runner of the Once performs the next statement of the body, or leaves the Once -/
theorem runner_step_inv (arg : Int) (s : St) (t : Nat) (now : Int) (hV : V now) (h : Inv g body V s)
    (ho : s.once = .running t) : Inv g body V (step arg s t now) := by
  obtain ⟨pre, bs, hpre, hthr, hsw, hwr⟩ := h.running t ho
  have hoth : ∀ j, j ≠ t → Pre g body s j ∨ Post s j := by
    intro j hj; apply h.others j; rw [ho]; intro e; injection e with e; exact hj e.symm
  cases bs with
  | nil =>
    -- `})`: the Once is done
    have hstep : step arg s t now = { s with once := .done, th := upd s.th t [.incI, .readStartRet] } := by
      simp [step, hthr, tail3]
    rw [hstep]
    have hheld : ∀ j, Held { s with once := Once.done, th := upd s.th t [.incI, .readStartRet] } j → j ≠ t ∧ Held s j := by
      intro j hj
      simp only [Held, upd] at hj
      split at hj
      · simp at hj
      · rename_i hne; exact ⟨hne, hj⟩
    refine ⟨h.nopanic, ?_, ?_, ?_, ?_, ?_, h.logstart, h.ctr0, ?_, ?_, h.log_lt, ?_, h.log_nodup⟩
    · intro h'; simp at h'
    · intro r' hr'; simp at hr'
    · intro j _
      by_cases hjt : j = t
      · subst hjt; right; left; simp [upd]
      · have := hoth j hjt
        simpa [Pre, Post, upd, hjt] using this
    · intro hno; exact absurd (Or.inl rfl) hno
    · intro _; exact hwr (by simp)
    · intro j hj; exact h.held_lt j (hheld j hj).2
    · intro j k hjk hj hk; exact h.held_ne j k hjk (hheld j hj).2 (hheld k hk).2
    · intro a ha j hj; exact h.log_held a ha j (hheld j hj).2
  | cons c bs' =>
    have hcm : c ∈ body := by rw [hpre]; simp
    -- the flag is not up yet, or there is no flag check: nobody is past the Once, nothing is logged
    have hclosed : ¬ Open g s := by
      intro hop
      rcases hop with hd | ⟨hg, hst⟩
      · rw [ho] at hd; simp at hd
      · have := runner_done_of_open g body hb pre (c :: bs') hpre hg (hsw hst)
        simp at this
    obtain ⟨hlog, hnopost⟩ := h.closed hclosed
    have hpre_all : ∀ j, j ≠ t → Pre g body s j := by
      intro j hj
      rcases hoth j hj with hp | hp
      · exact hp
      · exact absurd hp (hnopost j)
    -- the callers in front of the Once stay where they are
    have hpre' : ∀ (s' : St), s'.th = upd s.th t (bs' ++ tail3) → s'.once = .running t →
        ∀ j, s'.once ≠ .running j → Pre g body s' j := by
      intro s' hs' ho' j hj
      have hjt : j ≠ t := by intro e; subst e; exact hj ho'
      have := hpre_all j hjt
      simpa [Pre, hs', upd, hjt] using this
    rcases hb.stmts c hcm with rfl | rfl
    · -- MarkStarted
      cases hstd : s.started with
      | true => exact absurd (by simp) (hsw hstd)
      | false =>
        have hstep : step arg s t now = { s with started := true, th := upd s.th t (bs' ++ tail3) } := by
          simp [step, hthr, hstd]
        rw [hstep]
        have hnsw : Stmt.swapStarted ∉ bs' := by
          intro hmem
          have h1 : (Stmt.swapStarted :: bs').count Stmt.swapStarted ≤ body.count Stmt.swapStarted := by
            rw [hpre, List.count_append]; omega
          have h2 : 0 < bs'.count Stmt.swapStarted := List.count_pos_iff.mpr hmem
          have h3 := hb.swaps
          simp at h1
          omega
        refine inv_closed h.nopanic (fun h' => by simp [ho] at h') (fun r' hr' => ?_) (hpre' _ rfl ho) hlog h.ctr0
          (fun hop => ?_)
        · have : r' = t := by simp [ho] at hr'; exact hr'.symm
          subst this
          exact ⟨pre ++ [.swapStarted], bs', by simp [hpre], by simp [upd], fun _ => hnsw,
            fun hnw => hwr (by simp [hnw])⟩
        · rcases hop with hd | ⟨hg, _⟩
          · simp [ho] at hd
          · -- flag check in front: the flag goes up last, the clock has been stored
            have hnil : bs' = [] := runner_done_of_open g body hb (pre ++ [.swapStarted]) bs' (by simp [hpre]) hg hnsw
            exact hwr (by simp [hnil])
    · -- s.start = time.Now()
      have hstep : step arg s t now = { s with start := some now, th := upd s.th t (bs' ++ tail3) } := by
        simp [step, hthr]
      rw [hstep]
      refine inv_closed h.nopanic h.idle (fun r' hr' => ?_) (hpre' _ rfl ho) hlog h.ctr0 (fun _ => ⟨now, hV, rfl⟩)
      have : r' = t := by simp [ho] at hr'; exact hr'.symm
      subst this
      exact ⟨pre ++ [.writeStartNow], bs', by simp [hpre], by simp [upd], fun hs' hmem => hsw hs' (by simp [hmem]),
        fun _ => ⟨now, hV, rfl⟩⟩

include hb in
theorem step_inv (arg : Int) (s : St) (t : Nat) (now : Int) (hV : V now) (h : Inv g body V s) :
    Inv g body V (step arg s t now) := by
  by_cases hrun : s.once = .running t
  · exact runner_step_inv g body V hb arg s t now hV h hrun
  · rcases h.others t hrun with hp | hp
    · have hpa : s.th t = paOf body → Inv g body V (step arg s t now) := by
        intro hth
        cases ho : s.once with
        | done =>
          have hstep : step arg s t now = { s with th := upd s.th t [.incI, .readStartRet] } := by
            simp [step, hth, paOf, ho, tail3]
          rw [hstep]
          exact th_only_inv g body V s t _ h hrun (Or.inr ⟨rfl, Or.inl ho⟩)
        | running r =>
          have hstep : step arg s t now = s := by simp [step, hth, paOf, ho]
          rw [hstep]; exact h
        | idle =>
          have hst := h.idle ho
          have hclosed : ¬ Open g s := by
            intro hop
            rcases hop with hd | ⟨_, hs'⟩
            · rw [ho] at hd; simp at hd
            · rw [hst] at hs'; simp at hs'
          obtain ⟨hlog, hnopost⟩ := h.closed hclosed
          have hpre_all : ∀ j, Pre g body s j := by
            intro j
            rcases h.others j (by rw [ho]; simp) with hq | hq
            · exact hq
            · exact absurd hq (hnopost j)
          have hstep : step arg s t now = { s with once := .running t, th := upd s.th t (body ++ tail3) } := by
            simp [step, hth, paOf, ho]
          rw [hstep]
          refine inv_closed h.nopanic (fun h' => by simp at h') (fun r hr => ?_) (fun j hj => ?_) hlog h.ctr0
            (fun hop => ?_)
          · simp only [Once.running.injEq] at hr
            subst hr
            exact ⟨[], body, rfl, by simp [upd], fun h' => by simp [hst] at h', fun h' => absurd hb.writes h'⟩
          · have hjt : j ≠ t := by intro e; subst e; exact hj rfl
            have := hpre_all j
            simpa [Pre, upd, hjt] using this
          · rcases hop with hd | ⟨_, hs'⟩
            · simp at hd
            · simp [hst] at hs'
      rcases hp with hp | hp
      · cases g with
        | false => exact hpa (by simpa [progG] using hp)
        | true =>
          -- the flag check in front of the Once
          have hstep : step arg s t now =
              { s with th := upd s.th t (if s.started then [.incI, .readStartRet] else paOf body) } := by
            simp [step, hp, progG, paOf, tail3]
          rw [hstep]
          cases hst : s.started with
          | true =>
            have := th_only_inv true body V s t [.incI, .readStartRet] h hrun (Or.inr ⟨rfl, Or.inr ⟨rfl, hst⟩⟩)
            simpa [hst] using this
          | false =>
            have := th_only_inv true body V s t (paOf body) h hrun (Or.inl rfl)
            simpa [hst] using this
      · exact hpa hp
    · exact post_step_inv g body V arg s t now h hp

/-- once the Once is done, no step consults the clock, writes `start` or reopens the Once -/
theorem step_done (arg : Int) (s : St) (t : Nat) (now : Int) (h : Inv g body V s) (ho : s.once = .done) :
    (step arg s t now).once = .done ∧ (step arg s t now).start = s.start := by
  rcases h.others t (by rw [ho]; simp) with (hp | hp) | (hp | hp | hp)
  · cases g <;> simp [step, hp, progG, paOf, ho]
  · simp [step, hp, paOf, ho]
  · simp [step, hp, ho]
  · simp [step, hp, ho]
  · simp [step, hp, ho]

include hb in
theorem run_inv (arg : Int) (l : List (Nat × Int)) :
    ∀ (s : St), (∀ x ∈ l, V x.2) → Inv g body V s → Inv g body V (run arg s l) := by
  induction l with
  | nil => intro s _ h; exact h
  | cons x r ih =>
    intro s hV h
    obtain ⟨t, now⟩ := x
    simp only [run]
    exact ih _ (fun y hy => hV y (List.mem_cons_of_mem _ hy))
      (step_inv g body V hb arg s t now (hV (t, now) (List.mem_cons_self ..)) h)

end stepInv

end Pandora.Proofs.C01Conc
