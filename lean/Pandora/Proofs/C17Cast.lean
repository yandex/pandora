/-
C17 — placeholders: the scanner on `${type:name}`, resolution, and the cast by target kind.
-/
import Pandora.Proofs.C17
import Pandora.Proofs.C17Repl
import Pandora.Spec.C17

namespace Pandora.Proofs.C17
open Pandora.Model.C17 Pandora.Spec.C17

/-- a variable name / `file#key` argument the scanner passes through unchanged: non-empty, no braces, no white space -/
def PlainName (n : Str) : Prop := n ≠ [] ∧ ∀ c ∈ n, c ≠ '{' ∧ c ≠ '}' ∧ isSpaceC c = false

/-- a tag type: like a name, and without a colon -/
def PlainType (t : Str) : Prop := PlainName t ∧ ∀ c ∈ t, c ≠ ':'

theorem scan_body (xs : Str) : ∀ (body lit : Str) (acc : List Seg) (rest : Str),
    (∀ c ∈ xs, c ≠ '{' ∧ c ≠ '}') →
    scanLoop (xs ++ '}' :: rest) lit (some body) acc =
      match splitBody (xs.reverse ++ body).reverse with
      | some (ty, name) => scanLoop rest [] none (acc ++ [Seg.tag ("${".toList ++ (xs.reverse ++ body).reverse ++ ['}']) ty name])
      | none => none := by
  induction xs with
  | nil =>
    intro body lit acc rest _
    simp [scanLoop]
    rfl
  | cons c cs ih =>
    intro body lit acc rest h
    have hc := h c (by simp)
    have hcs : ∀ c ∈ cs, c ≠ '{' ∧ c ≠ '}' := fun c hm => h c (by simp [hm])
    have h1 : (c == '}') = false := by simp [hc.2]
    have h2 : (c == '{') = false := by simp [hc.1]
    simp only [List.cons_append, scanLoop, h1, h2, Bool.false_eq_true, if_false]
    rw [ih (c :: body) lit acc rest hcs]
    simp

theorem trimLeft_eq_self : ∀ (s : Str), (∀ c ∈ s, isSpaceC c = false) → trimLeft s = s
  | [], _ => rfl
  | c :: cs, h => by
    have := h c (by simp)
    simp [trimLeft, List.dropWhile, this]

theorem trim_eq_self (s : Str) (h : ∀ c ∈ s, isSpaceC c = false) : trim s = s := by
  unfold trim
  rw [trimLeft_eq_self s h, trimLeft_eq_self s.reverse (by intro c hc; exact h c (List.mem_reverse.mp hc))]
  simp

theorem splitBody_tag (ty name : Str) (ht : PlainType ty) (hn : PlainName name) :
    splitBody (ty ++ ':' :: name) = some (ty, name) := by
  unfold splitBody
  rw [cutColon_eq, cutAt_join ':' ty name [] ht.2]
  have h1 : ty.isEmpty = false := by
    cases ty with
    | nil => exact absurd rfl ht.1.1
    | cons => rfl
  have h2 : name.isEmpty = false := by
    cases name with
    | nil => exact absurd rfl hn.1
    | cons => rfl
  simp [h1, h2, trim_eq_self ty (fun c hc => (ht.1.2 c hc).2.2), trim_eq_self name (fun c hc => (hn.2 c hc).2.2)]

/-- the text of a placeholder -/
def placeholder (ty name : Str) : Str := '$' :: '{' :: (ty ++ ':' :: name ++ ['}'])

/-- the body of a placeholder has no brace -/
theorem body_no_brace (ty name : Str) (ht : PlainType ty) (hn : PlainName name) :
    ∀ c ∈ ty ++ ':' :: name, c ≠ '{' ∧ c ≠ '}' := by
  intro c hc
  rcases List.mem_append.mp hc with h | h
  · exact ⟨(ht.1.2 c h).1, (ht.1.2 c h).2.1⟩
  · rcases List.mem_cons.mp h with h | h
    · subst h; decide
    · exact ⟨(hn.2 c h).1, (hn.2 c h).2.1⟩

theorem scan_placeholder (ty name : Str) (ht : PlainType ty) (hn : PlainName name) :
    scan (placeholder ty name) = some [Seg.tag (placeholder ty name) ty name] := by
  unfold scan placeholder
  rw [scanLoop]
  have := scan_body (ty ++ ':' :: name) [] [] ([] ++ (if ([] : Str).isEmpty then [] else [Seg.lit ([] : Str).reverse])) []
    (body_no_brace ty name ht hn)
  simp only [List.append_assoc, List.cons_append] at this ⊢
  rw [this]
  simp [splitBody_tag ty name ht hn, scanLoop]

theorem resolve_placeholder (env : Env) (ty name : Str) (ht : PlainType ty) (hn : PlainName name) :
    resolve env (placeholder ty name) =
      match resolveTag env (placeholder ty name) ty name with
      | none => .failed
      | some t => .text t true := by
  unfold resolve
  rw [scan_placeholder ty name ht hn]
  simp only [hasTag, renderSeq, loneTag, List.filter]
  cases resolveTag env (placeholder ty name) ty name with
  | none => simp
  | some v =>
    have : replaceAll (placeholder ty name) (placeholder ty name) v = v :=
      replaceAll_self _ _ (by simp [placeholder])
    simp [this]

theorem plainType_env : PlainType "env".toList := by
  refine ⟨⟨by decide, ?_⟩, ?_⟩ <;> decide

theorem plainType_property : PlainType "property".toList := by
  refine ⟨⟨by decide, ?_⟩, ?_⟩ <;> decide

theorem resolveTag_env (env : Env) (text name : Str) : resolveTag env text "env".toList name = lookupEnv env name := by
  simp (config := {decide := true}) [resolveTag]

theorem resolveTag_property (env : Env) (text name : Str) : resolveTag env text "property".toList name = lookupProp env name := by
  simp (config := {decide := true}) [resolveTag]

theorem decodeScalar_lone (cast : Kind → Str → Option Val) (fl : Flags) (hfl : fl.resolveFirst = true) (env : Env)
    (k : Kind) (d : DVal) (s t : Str) (hres : resolve env s = .text t true) :
    decodeScalarWith cast fl env k d (.str s) =
      match cast k t with
      | some (.str u) =>
        if k == .dur then
          match parseDuration u with
          | some ns => { val := .int ns }
          | none => R.fail d .parse
        else decodeKind k d (.str u)
      | some w => decodeKind k d w
      | none =>
        if k == .dur then
          match parseDuration t with
          | some ns => { val := .int ns }
          | none => R.fail d .parse
        else decodeKind k d (.str t) := by
  simp only [decodeScalarWith, hfl, hres, Bool.not_true, Bool.false_and, Bool.false_eq_true, if_false, if_true]
  cases hc : cast k t with
  | none => simp; rfl
  | some w => cases w <;> simp <;> rfl

/-- what the cast stores in a float32 is within its range -/
theorem castFloat_fits (bits : Nat) (d g : Dec) (h : castFloat bits d = some g) :
    (bits != 32 || g.absLeNat maxFloat32) = true := by
  unfold castFloat at h
  by_cases h1 : d.absLtNat (floatLimit bits) = true
  · simp only [h1, Bool.not_true, Bool.false_eq_true, if_false] at h
    by_cases hb : bits = 32
    · subst hb
      by_cases h2 : d.absLeNat maxFloat32 = true
      · simp [h2] at h; subst h; simp [h2]
      · simp [h2] at h; subst h; simp [Dec.absLeNat]
    · simp [hb]
  · simp [h1] at h

theorem cast_agrees (env : Env) (k : Kind) (d : DVal) (s raw : Str) (hres : resolve env s = .text raw true) :
    (∀ w, castExpect k raw = some w → decodeScalarWith castTo repoFlags env k d (.str s) = { val := w }) ∧
    (castExpect k raw = none →
      (decodeScalarWith castTo repoFlags env k d (.str s)).errs ≠ [] ∧ (decodeScalarWith castTo repoFlags env k d (.str s)).val = d) := by
  rw [decodeScalar_lone castTo repoFlags rfl env k d s raw hres]
  cases k with
  | bool =>
    simp only [castTo, castExpect]
    cases parseBoolLit raw with
    | none => simp [decodeKind, R.fail]
    | some b => simp [decodeKind]
  | str => simp [castTo, castExpect, decodeKind]
  | int bits =>
    simp only [castTo, castExpect]
    cases parseIntLit raw with
    | none => simp [decodeKind, R.fail]
    | some i =>
      by_cases hf : intFits bits i = true <;> simp [hf, decodeKind, R.fail]
  | uint bits =>
    simp only [castTo, castExpect]
    cases parseUintLit raw with
    | none => simp [decodeKind, R.fail]
    | some n =>
      by_cases hf : uintFits bits n = true
      · have : ¬ ((n : Int) < 0) := by omega
        simp [hf, decodeKind, this]
      · simp [hf, decodeKind, R.fail]
  | float bits =>
    simp only [castTo, castExpect]
    cases parseDecLit raw with
    | none => simp [decodeKind, R.fail]
    | some f =>
      cases hc : castFloat bits f with
      | none => simp [hc, decodeKind, R.fail]
      | some g =>
        have := castFloat_fits bits f g hc
        simp [hc, decodeKind, this]
  | dur =>
    simp only [castTo, castExpect]
    cases parseIntLit raw with
    | none =>
      cases parseDuration raw with
      | none => simp [R.fail]
      | some ns => simp
    | some i =>
      by_cases hf : intFits 64 i = true
      · simp [hf, decodeKind]
      · cases parseDuration raw with
        | none => simp [hf, R.fail]
        | some ns => simp [hf]

/-! ## a resolver error -/

theorem resolve_placeholder_failed (env : Env) (ty name : Str) (ht : PlainType ty) (hn : PlainName name)
    (h : resolveTag env (placeholder ty name) ty name = none) : resolve env (placeholder ty name) = .failed := by
  rw [resolve_placeholder env ty name ht hn, h]

theorem decodeScalar_failed (cast : Kind → Str → Option Val) (fl : Flags) (env : Env) (k : Kind) (d : DVal) (s : Str)
    (hfl : fl.resolveFirst = true ∨ k ≠ .dur) (h : resolve env s = .failed) :
    decodeScalarWith cast fl env k d (.str s) = R.fail d .resolve := by
  have hcond : (!fl.resolveFirst && k == .dur) = false := by
    rcases hfl with h | h
    · simp [h]
    · have : (k == Kind.dur) = false := by simp [h]
      simp [this]
  simp only [decodeScalarWith, hcond, h, Bool.false_eq_true, if_false]

theorem injectOther_failed (env : Env) (s : Str) (h : resolve env s = .failed) : injectOther env s = .error .resolve := by
  simp [injectOther, h]

/-! ## a string where no scalar is decoded -/

theorem injectOther_lone (env : Env) (ty name raw : Str) (ht : PlainType ty) (hn : PlainName name)
    (hr : resolveTag env (placeholder ty name) ty name = some raw) :
    injectOther env (placeholder ty name) = .error .castkind := by
  simp [injectOther, resolve_placeholder env ty name ht hn, hr]

theorem injectOther_ok_of_text (env : Env) (s t : Str) (h : resolve env s = .text t false) :
    injectOther env s = .ok t := by
  simp [injectOther, h]

theorem injectOther_plain (env : Env) (s : Str) (h : resolve env s = .plain) : injectOther env s = .ok s := by
  simp [injectOther, h]

/-! ## the kind switch -/

/-- the inputs mapstructure's kind switch converts (WeaklyTypedInput = false) -/
def accepts : Kind → Val → Bool
  | .bool, .bool _ => true
  | .str, .str _ => true
  | .int _, .int _ => true
  | .int _, .float _ => true
  | .dur, .int _ => true
  | .dur, .float _ => true
  | .uint _, .int i => decide (0 ≤ i)
  | .uint _, .float d => !(d.neg && !d.isZero)
  | .float _, .int _ => true
  | .float _, .float _ => true
  | _, _ => false

theorem decodeKind_rejects (k : Kind) (d : DVal) (v : Val) (h : accepts k v = false) : decodeKind k d v = R.fail d .type := by
  cases k <;> cases v <;> simp_all [accepts, decodeKind]

theorem decodeScalar_nonstring (cast : Kind → Str → Option Val) (fl : Flags) (env : Env) (k : Kind) (d : DVal) (v : Val)
    (hs : ∀ s, v ≠ .str s) :
    decodeScalarWith cast fl env k d v =
      if fl.wholeNumbers && intKind k && fractional v then R.fail d .type
      else if fl.numberRange && !fitsKind k v then R.fail d .type else decodeKind k d v := by
  cases v <;> simp_all [decodeScalarWith]

theorem decodeScalar_plain (cast : Kind → Str → Option Val) (fl : Flags) (env : Env) (k : Kind) (d : DVal) (s : Str)
    (hk : k ≠ .dur) (h : resolve env s = .plain) : decodeScalarWith cast fl env k d (.str s) = decodeKind k d (.str s) := by
  have : (k == Kind.dur) = false := by simp [hk]
  simp [decodeScalarWith, this, h]

/-! ## truncation of a decimal -/

theorem Dec.trunc_eq (x : Dec) :
    x.trunc = if x.neg then - ((x.mant / 10 ^ x.exp : Nat) : Int) else ((x.mant / 10 ^ x.exp : Nat) : Int) := rfl

theorem Dec.trunc_nonneg_of_not_neg (x : Dec) (h : ¬ (x.neg = true ∧ x.isZero = false)) : 0 ≤ x.trunc := by
  rw [Dec.trunc_eq]
  by_cases hn : x.neg = true
  · have hz : x.isZero = true := by
      cases hz : x.isZero with
      | true => rfl
      | false => exact absurd ⟨hn, hz⟩ h
    have hm : x.mant = 0 := by simpa [Dec.isZero] using hz
    rw [if_pos hn, hm]
    simp
  · rw [if_neg hn]
    exact Int.natCast_nonneg _

theorem Dec.trunc_nonneg_not_neg (x : Dec) (hw : x.isWhole = true) (h0 : 0 ≤ x.trunc) : (x.neg && !x.isZero) = false := by
  by_cases hn : x.neg = true
  · have hq : x.mant / 10 ^ x.exp = 0 := by
      rw [Dec.trunc_eq, if_pos hn] at h0
      have := Int.natCast_nonneg (x.mant / 10 ^ x.exp)
      omega
    have hm : x.mant % 10 ^ x.exp = 0 := by simpa [Dec.isWhole] using hw
    have : x.mant = 0 := by
      have := Nat.div_add_mod x.mant (10 ^ x.exp)
      rw [hq, hm] at this
      simpa using this.symm
    simp [Dec.isZero, this]
  · simp [hn]

end Pandora.Proofs.C17
