/-
C01, step profile: the succession of the levels in time.

`compositeSchedule` (core/schedule/composite.go) as ONE consumer sees it, over the REGENERATED leaf methods
`doAtSchedule_Start/Next` of `Pandora.Gen.Schedule`: the composite keeps the list of its nested schedules; `Next` asks the
first one; when that one is exhausted (`ok = false`, it reports its finish time) `startNext` drops it, starts the following
one AT THAT FINISH TIME and asks it; a schedule that has no operation at all is skipped the same way ("Schedule without
any tokens? Okay, just retry"). Locks and the `somebodyStartedNextBeforeUs` branch only matter with several consumers
(C02); the shape of `NewComposite` for 0 and 1 nested schedules is regenerated (`compositeSmall`, `Props.C01.C01_composite_small`).

`chainAnswer` is the closed form of what call number j answers; `compDrain_eq` proves that the model produces it;
`chainAnswer_token` / `chainAnswer_finish` say what that is in the words of the property.
-/
import Pandora.Bridge.C01

set_option linter.unusedVariables false
set_option linter.unusedSimpArgs false

namespace Pandora.Proofs.C01Chain
open Pandora Pandora.Gen.Schedule Pandora.Bridge.C01

/-- one level of a profile: (duration, number of operations, offset of operation k) -/
abbrev Level := ℤ × ℤ × (ℤ → ℤ)

def fresh (l : Level) : DoAtSt := NewDoAtSchedule l.1 l.2.1 l.2.2

/-- `compositeSchedule.Next` for one consumer: `cur` is `scheds[0]`, `rest` the schedules after it (not started yet) -/
def compNext (now : ℤ) : DoAtSt → List DoAtSt → Except String ((ℤ × Bool) × DoAtSt × List DoAtSt)
  | s, [] =>
      match doAtSchedule_Next now s with
      | .error e => .error e
      | .ok (r, s') => .ok (r, s', [])
  | s, s2 :: rest =>
      match doAtSchedule_Next now s with
      | .error e => .error e
      | .ok ((tx, true), s') => .ok ((tx, true), s', s2 :: rest)
      | .ok ((tx, false), _) =>
          -- startNext(tx): scheds = scheds[1:]; scheds[0].Start(tx); then tx, ok = scheds[0].Next()
          match doAtSchedule_Start s2 tx with
          | .error e => .error e
          | .ok (_, s2') =>
              match doAtSchedule_Next now s2' with
              | .error e => .error e
              | .ok ((tx2, true), s2'') => .ok ((tx2, true), s2'', rest)
              | .ok ((_, false), s2'') => compNext now s2'' rest        -- `return s.Next()`: retry

/-- `compositeSchedule.Start`: starts the first nested schedule -/
def compStart (t0 : ℤ) (cur : DoAtSt) (rest : List DoAtSt) : Except String (DoAtSt × List DoAtSt) :=
  match doAtSchedule_Start cur t0 with
  | .error e => .error e
  | .ok (_, s) => .ok (s, rest)

def compDrain : DoAtSt → List DoAtSt → List ℤ → Except String (List (ℤ × Bool))
  | _, _, [] => .ok []
  | cur, rest, now :: nows =>
      match compNext now cur rest with
      | .error e => .error e
      | .ok (r, cur', rest') =>
          match compDrain cur' rest' nows with
          | .error e => .error e
          | .ok rs => .ok (r :: rs)

/-- what `NewComposite` builds from the levels: nothing → `NewOnce(0)`; one → that schedule itself; more → the composite -/
def compInit : List Level → DoAtSt × List DoAtSt
  | [] => (NewDoAtSchedule 0 0 (fun _ => 0), [])
  | l :: rest => (fresh l, rest.map fresh)

/-- a profile made of `levels` is told its start `t0` and asked once per clock reading in `nows` -/
def chainRun (levels : List Level) (t0 : ℤ) (nows : List ℤ) : Except String (List (ℤ × Bool)) :=
  match compStart t0 (compInit levels).1 (compInit levels).2 with
  | .error e => .error e
  | .ok (cur, rest) => compDrain cur rest nows

/-- closed form: the answer to the j-th further call when the current level `(D, n, f)` was started at `t` and has
answered `m` calls, and `rest` are the levels after it: the remaining `n − m` operations of this level, then the next
level started at `t + D`, …, finally `(finish, false)` for ever. -/
def chainAnswer (t D n : ℤ) (f : ℤ → ℤ) (m : ℤ) : List Level → ℕ → ℤ × Bool
  | [], j => if j < (n - m).toNat then (t + f (m + j), true) else (t + D, false)
  | l2 :: rest, j =>
      if j < (n - m).toNat then (t + f (m + j), true)
      else chainAnswer (t + D) l2.1 l2.2.1 l2.2.2 0 rest (j - (n - m).toNat)

theorem chainAnswer_exhausted (t D n : ℤ) (f : ℤ → ℤ) (m m' : ℤ) (hm : n ≤ m) (hm' : n ≤ m') (rest : List Level) :
    chainAnswer t D n f m rest = chainAnswer t D n f m' rest := by
  have h1 : (n - m).toNat = 0 := by omega
  have h2 : (n - m').toNat = 0 := by omega
  funext j
  cases rest <;> simp [chainAnswer, h1, h2]

theorem chainAnswer_succ (t D n : ℤ) (f : ℤ → ℤ) (m : ℤ) (hm : m < n) (rest : List Level) (j : ℕ) :
    chainAnswer t D n f (m + 1) rest j = chainAnswer t D n f m rest (j + 1) := by
  have hc : (n - m).toNat = (n - (m + 1)).toNat + 1 := by omega
  have harg : m + 1 + (j : ℤ) = m + ((j + 1 : ℕ) : ℤ) := by push_cast; ring
  cases rest with
  | nil =>
      simp only [chainAnswer, hc, harg]
      by_cases hj : j < (n - (m + 1)).toNat
      · simp [hj]
      · simp [hj]
  | cons l2 rest =>
      simp only [chainAnswer, hc, harg]
      by_cases hj : j < (n - (m + 1)).toNat
      · simp [hj]
      · have e : j + 1 - ((n - (m + 1)).toNat + 1) = j - (n - (m + 1)).toNat := by omega
        simp [hj, e]

theorem chainAnswer_zero_lt (t D n : ℤ) (f : ℤ → ℤ) (m : ℤ) (hm : m < n) (rest : List Level) :
    chainAnswer t D n f m rest 0 = (t + f m, true) := by
  have hc : 0 < (n - m).toNat := by omega
  cases rest <;> simp [chainAnswer, hc]

/-- one call of the composite: it answers `chainAnswer … 0` and is afterwards in a state of the same shape whose
answers are the old ones shifted by one -/
theorem compNext_step (now : ℤ) : ∀ (rest : List Level) (t D n : ℤ) (f : ℤ → ℤ) (m : ℕ),
    ∃ (t' D' n' : ℤ) (f' : ℤ → ℤ) (m' : ℕ) (rest' : List Level),
      compNext now (startedSt D n f t m) (rest.map fresh) =
        .ok (chainAnswer t D n f m rest 0, startedSt D' n' f' t' m', rest'.map fresh) ∧
      ∀ j, chainAnswer t' D' n' f' m' rest' j = chainAnswer t D n f m rest (j + 1) := by
  intro rest
  induction rest with
  | nil =>
      intro t D n f m
      refine ⟨t, D, n, f, m + 1, [], ?_, ?_⟩
      · simp only [List.map_nil, compNext, next_started]
        by_cases hm : n ≤ (m : ℤ)
        · have : (n - (m : ℤ)).toNat = 0 := by omega
          simp [chainAnswer, hm, this]
        · have : 0 < (n - (m : ℤ)).toNat := by omega
          simp [chainAnswer, hm, this]
      · intro j
        by_cases hm : n ≤ (m : ℤ)
        · have := chainAnswer_exhausted t D n f ((m + 1 : ℕ) : ℤ) (m : ℤ) (by push_cast; omega) hm []
          rw [this]
          have h0 : (n - (m : ℤ)).toNat = 0 := by omega
          simp [chainAnswer, h0]
        · have := chainAnswer_succ t D n f (m : ℤ) (by omega) [] j
          push_cast
          exact this
  | cons l2 rest ih =>
      intro t D n f m
      by_cases hm : n ≤ (m : ℤ)
      · -- the current level is exhausted: the next one is started at its finish time t + D
        have h0 : (n - (m : ℤ)).toNat = 0 := by omega
        by_cases hn2 : l2.2.1 ≤ 0
        · -- … and has no operation at all: retry
          obtain ⟨t', D', n', f', m', rest', hrun, hshift⟩ := ih (t + D) l2.1 l2.2.1 l2.2.2 1
          simp only [Nat.cast_one] at hrun hshift
          have e := chainAnswer_exhausted (t + D) l2.1 l2.2.1 l2.2.2 1 0 (by omega) hn2 rest
          refine ⟨t', D', n', f', m', rest', ?_, ?_⟩
          · have hn2' : l2.2.1 ≤ ((0 : ℕ) : ℤ) := by simpa using hn2
            simp only [List.map_cons, compNext, next_started, hm, if_true, fresh, start_fresh, hn2']
            rw [hrun]
            simp [chainAnswer, h0, e]
          · intro j
            rw [hshift j]
            simp [chainAnswer, h0, e]
        · -- … and hands out its operation 0
          refine ⟨t + D, l2.1, l2.2.1, l2.2.2, 1, rest, ?_, ?_⟩
          · have hn2' : ¬ l2.2.1 ≤ ((0 : ℕ) : ℤ) := by simpa using hn2
            simp only [List.map_cons, compNext, next_started, hm, if_true, fresh, start_fresh, hn2', if_false]
            have e := chainAnswer_zero_lt (t + D) l2.1 l2.2.1 l2.2.2 0 (by omega) rest
            simp [chainAnswer, h0, e]
          · intro j
            have e := chainAnswer_succ (t + D) l2.1 l2.2.1 l2.2.2 0 (by omega) rest j
            simp only [chainAnswer, h0]
            simpa using e
      · -- the current level still has an operation
        refine ⟨t, D, n, f, m + 1, l2 :: rest, ?_, ?_⟩
        · have e := chainAnswer_zero_lt t D n f (m : ℤ) (by omega) (l2 :: rest)
          simp only [List.map_cons, compNext, next_started, hm, if_false, e]
        · intro j
          have := chainAnswer_succ t D n f (m : ℤ) (by omega) (l2 :: rest) j
          push_cast
          exact this

theorem compDrain_eq : ∀ (nows : List ℤ) (rest : List Level) (t D n : ℤ) (f : ℤ → ℤ) (m : ℕ),
    compDrain (startedSt D n f t m) (rest.map fresh) nows =
      .ok ((List.range nows.length).map (chainAnswer t D n f m rest)) := by
  intro nows
  induction nows with
  | nil => intros; simp [compDrain]
  | cons now nows ih =>
      intro rest t D n f m
      obtain ⟨t', D', n', f', m', rest', hrun, hshift⟩ := compNext_step now rest t D n f m
      simp only [compDrain, hrun, ih rest' t' D' n' f' m', List.length_cons, List.range_succ_eq_map, List.map_cons,
        List.map_map]
      congr 2
      apply List.map_congr_left
      intro j _
      exact hshift j

/-- sum of the durations / of the numbers of operations of the levels -/
def totalDur : List Level → ℤ
  | [] => 0
  | l :: rest => l.1 + totalDur rest
def totalOps : List Level → ℕ
  | [] => 0
  | l :: rest => l.2.1.toNat + totalOps rest

/-- after all operations: the finish time is the start plus the sum of ALL level durations (also of levels without any
operation) -/
theorem chainAnswer_finish : ∀ (rest : List Level) (t D n : ℤ) (f : ℤ → ℤ) (m : ℤ) (j : ℕ),
    (n - m).toNat + totalOps rest ≤ j → chainAnswer t D n f m rest j = (t + D + totalDur rest, false) := by
  intro rest
  induction rest with
  | nil => intro t D n f m j hj; simp only [totalOps, Nat.add_zero] at hj; simp [chainAnswer, totalDur, Nat.not_lt.mpr hj]
  | cons l2 rest ih =>
      intro t D n f m j hj
      simp only [totalOps] at hj
      have h1 : ¬ j < (n - m).toNat := by omega
      simp only [chainAnswer, h1, if_false, totalDur]
      rw [ih (t + D) l2.1 l2.2.1 l2.2.2 0 (j - (n - m).toNat) (by simp only [Int.sub_zero]; omega)]
      congr 1; ring

theorem chainAnswer_current (rest : List Level) (t D n : ℤ) (f : ℤ → ℤ) (m : ℤ) (k : ℕ) (hk : k < (n - m).toNat) :
    chainAnswer t D n f m rest k = (t + f (m + k), true) := by
  cases rest <;> simp [chainAnswer, hk]

theorem chainAnswer_later (l2 : Level) (rest : List Level) (t D n : ℤ) (f : ℤ → ℤ) (m : ℤ) (j : ℕ) :
    chainAnswer t D n f m (l2 :: rest) ((n - m).toNat + j) = chainAnswer (t + D) l2.1 l2.2.1 l2.2.2 0 rest j := by
  simp [chainAnswer]

/-- total duration / number of operations of the levels before index `i` -/
def durBefore (levels : List Level) (i : ℕ) : ℤ := totalDur (levels.take i)
def opsBefore (levels : List Level) (i : ℕ) : ℕ := totalOps (levels.take i)

/-- **placement of every operation of every level**: with `levels = l₀ :: rest` started at `t0`, operation `k` of level `i`
is call number `opsBefore i + k` and is scheduled at `t0 + durBefore i + fᵢ k` -/
theorem chainAnswer_token : ∀ (levels : List Level) (l0 : Level) (t0 : ℤ) (i : ℕ) (hi : i < (l0 :: levels).length) (k : ℕ),
    k < ((l0 :: levels)[i]).2.1.toNat →
    chainAnswer t0 l0.1 l0.2.1 l0.2.2 0 levels (opsBefore (l0 :: levels) i + k) =
      (t0 + durBefore (l0 :: levels) i + ((l0 :: levels)[i]).2.2 k, true) := by
  intro levels
  induction levels with
  | nil =>
      intro l0 t0 i hi k hk
      have : i = 0 := by simpa using hi
      subst this
      simp only [List.getElem_cons_zero] at hk
      simp [opsBefore, durBefore, totalOps, totalDur, chainAnswer, hk]
  | cons l1 rest ih =>
      intro l0 t0 i hi k hk
      cases i with
      | zero =>
          simp only [List.getElem_cons_zero] at hk
          simp [opsBefore, durBefore, totalOps, totalDur, chainAnswer, hk]
      | succ i =>
          have hi' : i < (l1 :: rest).length := by simpa using hi
          have hk' : k < ((l1 :: rest)[i]).2.1.toNat := by simpa using hk
          have := ih l1 (t0 + l0.1) i hi' k hk'
          have e1 : opsBefore (l0 :: l1 :: rest) (i + 1) + k = (l0.2.1 - 0).toNat + (opsBefore (l1 :: rest) i + k) := by
            simp [opsBefore, totalOps]; omega
          rw [e1, chainAnswer_later, this]
          simp only [durBefore, List.take_succ_cons, totalDur, List.getElem_cons_succ]
          congr 1; ring

theorem totalDur_const : ∀ (ls : List Level) (D : ℤ), (∀ l ∈ ls, l.1 = D) → totalDur ls = (ls.length : ℤ) * D := by
  intro ls
  induction ls with
  | nil => intro D _; simp [totalDur]
  | cons l rest ih =>
      intro D h
      have h1 : l.1 = D := h l (by simp)
      have h2 := ih D (fun x hx => h x (by simp [hx]))
      simp only [totalDur, h1, h2, List.length_cons]
      push_cast; ring

theorem durBefore_const (ls : List Level) (D : ℤ) (h : ∀ l ∈ ls, l.1 = D) (i : ℕ) (hi : i ≤ ls.length) :
    durBefore ls i = (i : ℤ) * D := by
  unfold durBefore
  rw [totalDur_const (ls.take i) D (fun l hl => h l (List.mem_of_mem_take hl))]
  simp [List.length_take, Nat.min_eq_left hi]

end Pandora.Proofs.C01Chain
