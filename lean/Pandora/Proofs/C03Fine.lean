/-
C03 — the pool at the granularity of the schedule's atomic operations refines the coarse pool
(`Pandora.Model.C03Fine` → `Pandora.Model.C03`), and the coarse pool is the special case without preemption inside a
schedule call.
-/
import Pandora.Model.C03Fine
import Pandora.Proofs.C03Reach

namespace Pandora.Proofs.C03Fine
open Pandora.Model.C03 Pandora.Model.C03Fine Pandora.Proofs.C03

/-- one fine step either leaves the coarse state alone (a return) or is one coarse step -/
theorem fstep_base {c : Cfg} {s s' : FSt} {e : FEv} (h : fstep c s e = some s') :
    s'.base = s.base ∨ ∃ ev, step c s.base ev = some s'.base := by
  cases e with
  | inc i =>
    simp only [fstep] at h
    split at h
    · cases hs : step c s.base (if decide (0 < s.base.left c i) = true then Ev.tokOk i else Ev.tokEnd i) with
      | none => rw [hs] at h; cases h
      | some b =>
        rw [hs] at h
        simp only [Option.map_some, Option.some.injEq] at h
        subst h
        exact .inr ⟨_, hs⟩
    · cases h
  | nextRet i ok =>
    simp only [fstep] at h
    split at h
    · simp only [Option.some.injEq] at h; subst h; exact .inl rfl
    · cases h
  | load i =>
    simp only [fstep] at h
    split at h
    · cases hs : step c s.base (.chk i (s.base.left c i)) with
      | none => rw [hs] at h; cases h
      | some b =>
        rw [hs] at h
        simp only [Option.map_some, Option.some.injEq] at h
        subst h
        exact .inr ⟨_, hs⟩
    · cases h
  | leftRet i l =>
    simp only [fstep] at h
    split at h
    · simp only [Option.some.injEq] at h; subst h; exact .inl rfl
    · cases h
  | other ev =>
    have key : ∀ ev', (if s.pend[evInst ev']? = some Pend.idle then (step c s.base ev').map (fun b => { s with base := b })
        else none) = some s' → ∃ ev, step c s.base ev = some s'.base := by
      intro ev' h'
      split at h'
      · cases hs : step c s.base ev' with
        | none => rw [hs] at h'; cases h'
        | some b =>
          rw [hs] at h'
          simp only [Option.map_some, Option.some.injEq] at h'
          subst h'
          exact ⟨_, hs⟩
      · cases h'
    cases ev <;> simp only [fstep] at h <;> first | cases h | exact .inr (key _ h)

/-- **refinement**: every run of the fine system — any interleaving of any number of instances, with preemptions
between the atomic access of a `Next()` / `Left()` and its return — ends in a state whose coarse part is reached by a
run of the coarse system (of at most the same length) from the same coarse start -/
theorem fine_refines {c : Cfg} : ∀ (fevs : List FEv) (s0 s : FSt), frun c s0 fevs = some s →
    ∃ evs : List Ev, run c s0.base evs = some s.base ∧ evs.length ≤ fevs.length
  | [], s0, s, h => by
    simp only [frun, Option.some.injEq] at h
    subst h
    exact ⟨[], rfl, Nat.le_refl _⟩
  | e :: es, s0, s, h => by
    simp only [frun] at h
    split at h
    · rename_i s1 hs1
      obtain ⟨evs, hr, hl⟩ := fine_refines es s1 s h
      rcases fstep_base hs1 with hb | ⟨ev, hev⟩
      · exact ⟨evs, by rw [← hb]; exact hr, by simp only [List.length_cons]; omega⟩
      · refine ⟨ev :: evs, ?_, by simp only [List.length_cons]; omega⟩
        simp only [run, hev]
        exact hr
    · cases h

theorem fine_reaches {c : Cfg} {fevs : List FEv} {s : FSt} (h : frun c (finit c) fevs = some s) :
    ∃ evs : List Ev, run c (init c) evs = some s.base :=
  let ⟨evs, hr, _⟩ := fine_refines fevs (finit c) s h
  ⟨evs, hr⟩

theorem frun_append {c : Cfg} : ∀ (pre post : List FEv) (s : FSt),
    frun c s (pre ++ post) = (frun c s pre).bind (fun s1 => frun c s1 post)
  | [], _, _ => rfl
  | e :: pre, post, s => by
    simp only [List.cons_append, frun]
    cases fstep c s e with
    | none => rfl
    | some s1 => exact frun_append pre post s1

/-! ### the other direction: a coarse run is the fine run in which no call is preempted -/

/-- all instances are outside schedule calls, one entry per instance -/
def AllIdle (c : Cfg) (s : FSt) : Prop := s.pend = List.replicate c.instances .idle

theorem idle_get {c : Cfg} {s : FSt} (h : AllIdle c s) {i : Nat} (hi : i < c.instances) : s.pend[i]? = some .idle := by
  rw [h]; simp [hi]

theorem set_back {c : Cfg} (i : Nat) (p : Pend) :
    ((List.replicate c.instances Pend.idle).set i p).set i Pend.idle = List.replicate c.instances Pend.idle := by
  apply List.ext_getElem?
  intro k
  by_cases hk : i = k
  · subst hk
    by_cases hi : i < c.instances
    · rw [List.getElem?_set_self (by simp [hi])]; simp [hi]
    · rw [List.getElem?_eq_none (by simp; omega), List.getElem?_eq_none (by simp; omega)]
  · rw [List.getElem?_set_ne hk, List.getElem?_set_ne hk]

/-- the instance of an enabled coarse event exists -/
theorem step_inst_lt {c : Cfg} {s s' : St} {e : Ev} (hlen : s.pcs.length = c.instances) (h : step c s e = some s') :
    evInst e < c.instances := by
  obtain ⟨i, _, _, m⟩ := step_along h
  have hlt : i < c.instances := hlen ▸ lt_of_get m.pc
  have he := m.edge
  cases he <;> exact hlt

/-- one coarse step = the fine steps of `refine`, from and to a state without calls in progress -/
theorem refine_step {c : Cfg} {s : FSt} {b' : St} {e : Ev} (hid : AllIdle c s) (hlen : s.base.pcs.length = c.instances)
    (h : step c s.base e = some b') : frun c s (refine e) = some { base := b', pend := s.pend } := by
  have hi := step_inst_lt hlen h
  have hp := idle_get hid hi
  cases e with
  | chk i l =>
    simp only [evInst] at hi hp
    have hl : l = s.base.left c i := by
      simp only [step] at h
      split at h
      · rename_i hg; exact hg.2
      · cases h
    subst hl
    simp only [refine, frun, fstep, hp, if_true, h, Option.map_some]
    rw [hid, List.getElem?_set_self (by simp [hi])]
    simp only [if_true, set_back]
  | tokOk i =>
    simp only [evInst] at hi hp
    have hpos := (step_tokOk h).1
    simp only [refine, frun, fstep, hp, if_true, hpos, decide_true, h, Option.map_some]
    rw [hid, List.getElem?_set_self (by simp [hi])]
    simp only [if_true, set_back]
  | tokEnd i =>
    simp only [evInst] at hi hp
    have hz : ¬ 0 < s.base.left c i := by have := (step_tokEnd h).1; omega
    simp only [refine, frun, fstep, hp, if_true, hz, decide_false, Bool.false_eq_true, if_false, h, Option.map_some]
    rw [hid, List.getElem?_set_self (by simp [hi])]
    simp only [if_true, set_back]
  | _ => simp only [evInst] at hp; simp only [refine, frun, fstep, evInst, hp, if_true, h, Option.map_some]

/-- every coarse run from a reachable-shaped state is a fine run (each schedule call run without preemption) -/
theorem coarse_is_fine {c : Cfg} : ∀ (evs : List Ev) (s : FSt) (b' : St), AllIdle c s → InvA c s.base →
    run c s.base evs = some b' → frun c s (evs.flatMap refine) = some { base := b', pend := s.pend }
  | [], s, b', _, _, h => by
    simp only [run, Option.some.injEq] at h
    subst h
    rfl
  | e :: es, s, b', hid, hA, h => by
    simp only [run] at h
    split at h
    · rename_i b1 hs1
      have h1 := refine_step hid hA.len hs1
      have ih := coarse_is_fine es { base := b1, pend := s.pend } b' hid (step_invA hA hs1) h
      simp only [List.flatMap_cons, frun_append, h1, Option.bind_some]
      exact ih
    · cases h

end Pandora.Proofs.C03Fine
