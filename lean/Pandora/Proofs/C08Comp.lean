/-
C08: helpers for the composition with C15's regenerated `config.SpreadNames` (gen area `c15scen`, imported
read-only): C08's `gcdList` is C15's, and the regenerated effective weight over a natural number.
-/
import Pandora.Model.C08Pick
import Pandora.Bridge.C15Scen

namespace Pandora.Proofs.C08
open Pandora.Model.C08

theorem gcdList_eq_c15 (l : List Nat) : gcdList l = Spec.C15.gcdList l := by
  induction l with
  | nil => rfl
  | cons a l ih => simp only [gcdList, List.foldr, Spec.C15.gcdList] at ih ⊢; rw [ih]

theorem effWeight_cast (w : Nat) : Gen.C15Scen.spreadEffWeight (w : Int) = (((if w = 0 then 1 else w : Nat)) : Int) := by
  unfold Gen.C15Scen.spreadEffWeight
  by_cases h : w = 0
  · subst h; rfl
  · have : ¬ ((w : Int) = 0) := by omega
    rw [if_neg this]
    simp [h]

end Pandora.Proofs.C08
