/-
C15 helper lemmas: the Go GCD loop computes Nat.gcd (and terminates within the fuel a+b+1);
GCDM over a list of positive weights is the gcd of the list.
-/
import Pandora.Model.C15
import Pandora.Spec.C15

namespace Pandora.Proofs.C15
open Pandora.Model.C15 Pandora.Spec.C15

theorem gcdLoop_nat : ∀ (fuel a b : Nat), a + b < fuel →
    ∃ x y : Nat, gcdLoop fuel (a : Int) (b : Int) = some ((x : Int), (y : Int)) ∧
      (x = 0 ∨ y = 0) ∧ Nat.gcd x y = Nat.gcd a b
  | 0, a, b, h => by omega
  | f + 1, a, b, h => by
    unfold gcdLoop
    by_cases hpos : (a : Int) > 0 ∧ (b : Int) > 0
    · have ha : 0 < a := by omega
      have hb : 0 < b := by omega
      rw [if_pos hpos]
      by_cases hge : (a : Int) ≥ (b : Int)
      · rw [if_pos hge]
        have hmod : Int.tmod (a : Int) (b : Int) = ((a % b : Nat) : Int) := (Int.ofNat_tmod a b).symm
        rw [hmod]
        have hlt : a % b < b := Nat.mod_lt _ hb
        have hle : b ≤ a := by omega
        obtain ⟨x, y, h1, h2, h3⟩ := gcdLoop_nat f (a % b) b (by omega)
        refine ⟨x, y, h1, h2, ?_⟩
        rw [h3, Nat.gcd_comm a b]
        exact (Nat.gcd_rec b a).symm
      · rw [if_neg hge]
        have hmod : Int.tmod (b : Int) (a : Int) = ((b % a : Nat) : Int) := (Int.ofNat_tmod b a).symm
        rw [hmod]
        have hlt : b % a < a := Nat.mod_lt _ ha
        have hle : a < b := by omega
        obtain ⟨x, y, h1, h2, h3⟩ := gcdLoop_nat f a (b % a) (by omega)
        refine ⟨x, y, h1, h2, ?_⟩
        rw [h3, Nat.gcd_comm a (b % a)]
        exact (Nat.gcd_rec a b).symm
    · rw [if_neg hpos]
      refine ⟨a, b, rfl, ?_, rfl⟩
      omega

theorem GCD_nat (a b : Nat) (ha : 0 < a) (_hb : 0 < b) : GCD (a : Int) (b : Int) = some ((Nat.gcd a b : Nat) : Int) := by
  unfold GCD
  obtain ⟨x, y, h1, h2, h3⟩ := gcdLoop_nat ((a : Int).toNat + (b : Int).toNat + 1) a b (by simp)
  rw [h1]
  simp only [Option.map_some]
  congr 1
  have hg : 0 < Nat.gcd a b := Nat.gcd_pos_of_pos_left b ha
  rcases h2 with h0 | h0
  · subst h0
    simp at h3
    subst h3
    split <;> omega
  · subst h0
    simp at h3
    subst h3
    split <;> omega


theorem gcdList_pos : ∀ (l : List Nat), (∀ w ∈ l, 0 < w) → l ≠ [] → 0 < gcdList l
  | [], _, h => absurd rfl h
  | w :: ws, hp, _ => by
    simp only [gcdList]
    exact Nat.gcd_pos_of_pos_left _ (hp w (by simp))

theorem gcdList_append_single (l : List Nat) (a : Nat) : gcdList (l ++ [a]) = Nat.gcd a (gcdList l) := by
  induction l with
  | nil => simp [gcdList]
  | cons w ws ih =>
    simp only [List.cons_append, gcdList, ih]
    rw [← Nat.gcd_assoc, Nat.gcd_comm w a, Nat.gcd_assoc]

theorem gcdList_reverse (l : List Nat) : gcdList l.reverse = gcdList l := by
  induction l with
  | nil => rfl
  | cons w ws ih => rw [List.reverse_cons, gcdList_append_single, ih]; rfl

theorem gcdList_dvd : ∀ (l : List Nat) (w : Nat), w ∈ l → gcdList l ∣ w
  | [], _, h => by simp at h
  | x :: xs, w, h => by
    simp only [gcdList]
    rcases List.mem_cons.mp h with h | h
    · subst h; exact Nat.gcd_dvd_left _ _
    · exact Nat.dvd_trans (Nat.gcd_dvd_right _ _) (gcdList_dvd xs w h)

theorem gcdmRev_cons2 (x y : Int) (rest : List Int) :
    gcdmRev (x :: y :: rest) =
      match GCD y x with
      | none => none
      | some res =>
        if rest.isEmpty then some res
        else match gcdmRev (y :: rest) with
          | none => none
          | some g => GCD g res := by
  conv => lhs; unfold gcdmRev
  rfl

/-- `GCDM` on the reversed list: the Go recursion on prefixes -/
theorem gcdmRev_nat : ∀ (l : List Nat), (∀ w ∈ l, 0 < w) → 2 ≤ l.length →
    gcdmRev (l.map fun (w : Nat) => (w : Int)) = some ((gcdList l : Nat) : Int)
  | [], _, h => by simp at h
  | [_], _, h => by simp at h
  | x :: y :: rest, hp, _ => by
    have hx : 0 < x := hp x (by simp)
    have hy : 0 < y := hp y (by simp)
    simp only [List.map_cons]
    rw [gcdmRev_cons2, GCD_nat y x hy hx]
    cases rest with
    | nil =>
      simp [gcdList, Nat.gcd_comm]
    | cons z zs =>
      have ih := gcdmRev_nat (y :: z :: zs) (fun w hw => hp w (List.mem_cons_of_mem _ hw)) (by simp)
      simp only [List.map_cons] at ih
      simp only [List.map_cons, List.isEmpty_cons, Bool.false_eq_true, if_false]
      rw [ih]
      have hg : 0 < gcdList (y :: z :: zs) :=
        gcdList_pos _ (fun w hw => hp w (List.mem_cons_of_mem _ hw)) (by simp)
      have hr : 0 < Nat.gcd y x := Nat.gcd_pos_of_pos_left _ hy
      show GCD _ _ = _
      rw [GCD_nat _ _ hg hr]
      congr 2
      -- gcd (G) (gcd y x) = gcd x G   with G ∣ y
      have hd : gcdList (y :: z :: zs) ∣ y := Nat.gcd_dvd_left _ _
      show Nat.gcd (gcdList (y :: z :: zs)) (Nat.gcd y x) = Nat.gcd x (gcdList (y :: z :: zs))
      rw [← Nat.gcd_assoc, Nat.gcd_eq_left hd, Nat.gcd_comm]

theorem GCDM_nat (ws : List Nat) (hp : ∀ w ∈ ws, 0 < w) (h2 : 2 ≤ ws.length) :
    GCDM (ws.map fun (w : Nat) => (w : Int)) = some ((gcdList ws : Nat) : Int) := by
  unfold GCDM
  rw [← List.map_reverse, gcdmRev_nat ws.reverse (by simpa using hp) (by simpa using h2), gcdList_reverse]

end Pandora.Proofs.C15
