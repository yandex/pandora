/-
C08: helper lemmas for Props/C08.lean — the Spec's `expected` is the models' bound, prefixes of the cyclic file,
schedules.
-/
import Pandora.Proofs.C08Conc
import Pandora.Drv.C08

namespace Pandora.Proofs.C08
open Pandora.Model.C08

theorem cycTake_range (n m : Nat) (hn : 0 < n) : cycTake (List.range n) m = cycl n m := by
  induction m with
  | zero => simp [cycl, cycTake_zero]
  | succ m ih =>
    have h : (List.range n)[m % (List.range n).length]? = some (m % n) := by
      simp [Nat.mod_lt _ hn]
    rw [cycTake_succ _ m _ h, ih]
    simp [cycl, List.range_succ]

/-- `runFuel_spec` for the file 0 … n-1 without a filter: what `Model.C08.run` computes -/
theorem runFuel_range (inp : Input) (n T : Nat) (hn : 0 < n)
    (hT : target inp.b.limit inp.b.passes n inp.cancelAt = some T) :
    runFuel inp (List.range n) (fun _ => true) (fuelFor T n n)
      = some ⟨cycl n T, kindEnd inp.kind inp.cancelAt T, true⟩ := by
  have h := runFuel_spec inp (List.range n) (fun _ => true) T
  rw [filter_const_true, List.length_range] at h
  rw [h hn hn (fun _ => rfl) (tgt_of_target _ _ _ _ _ hn hT), cycTake_range n T hn]

theorem expected_eq_target (l p n : Nat) (hn : 0 < n) : Spec.C08.expected l p n = target l p n none := by
  unfold Spec.C08.expected target
  cases l with
  | zero =>
    cases p with
    | zero => simp
    | succ p => simp [minPlus]
  | succ l =>
    cases p with
    | zero => simp [minPlus]
    | succ p =>
      have : (p + 1) * n ≠ 0 := Nat.ne_of_gt (Nat.mul_pos (by omega) hn)
      simp [minPlus, this]

theorem expected_of_atBound (b : Bounds) (n k : Nat) (hn : 0 < n) (h : AtBound b n k) :
    Spec.C08.expected b.limit b.passes n = some k := by
  obtain ⟨⟨h1, h2⟩, h3⟩ := h
  unfold Spec.C08.expected
  cases hl : b.limit with
  | zero =>
    cases hp : b.passes with
    | zero => rcases h3 with ⟨h0, _⟩ | ⟨h0, _⟩ <;> omega
    | succ p =>
      rcases h3 with ⟨h0, _⟩ | ⟨_, h0⟩
      · omega
      · simp [h0, hp]
  | succ l =>
    cases hp : b.passes with
    | zero =>
      rcases h3 with ⟨_, h0⟩ | ⟨h0, _⟩
      · simp [h0, hl]
      · omega
    | succ p =>
      simp only [Option.some.injEq]
      rw [hl] at h1 h3; rw [hp] at h2 h3
      rcases h3 with ⟨_, h0⟩ | ⟨_, h0⟩ <;> rcases h1 with h1 | h1 <;> rcases h2 with h2 | h2 <;> omega

theorem atBound_of_expected (b : Bounds) (n m : Nat) (hn : 0 < n) (h : Spec.C08.expected b.limit b.passes n = some m) :
    AtBound b n m := by
  rw [expected_eq_target _ _ _ hn] at h
  exact atBound_of_target b n m hn h

/-- a cell with a cap stops at what the Spec wants of it -/
theorem target_cap (limit passes n cap fileN : Nat) (hn : 0 < n) (hcap : 0 < cap) :
    target limit passes n (some cap) = some (Spec.C08.want { limit, passes, n, cap, fileN }) := by
  have hc : cap ≠ 0 := by omega
  cases hE : Spec.C08.expected limit passes n with
  | none =>
    have h0 := hE
    rw [expected_eq_target _ _ _ hn, target_none_iff ⟨limit, passes⟩] at h0
    simp only [Spec.C08.want, hE, target]
    exact if_pos h0
  | some m =>
    simp only [Spec.C08.want, hE, if_neg hc]
    exact target_cancel _ _ _ _ _ (by rw [← expected_eq_target _ _ _ hn]; exact hE)

/-- the Spec accepts the observation of an outcome that delivered what the cell wants, with the sink closed and `Run` = nil
— or Canceled, when the cap was reached (the harness did cancel) -/
theorem holds_obsOf (c : Spec.C08.Cell) (o : Outcome Nat) (hl : o.delivered.length = Spec.C08.want c)
    (hs : o.sinkClosed = true) (hr : o.run = .nil ∨ (o.run = .canceled ∧ 0 < c.cap ∧ c.cap ≤ Spec.C08.want c)) :
    Spec.C08.holds c (Drv.C08.obsOf c.cap 0 (some o)) = true := by
  have hsp : ∀ ob : Spec.C08.Obs, ob.ops = 0 → Spec.C08.spinOk c ob = true := by
    intro ob h; unfold Spec.C08.spinOk; split <;> simp [h]
  have hcut : o.run = .nil ∨ (0 < c.cap ∧ c.cap ≤ Spec.C08.want c) := hr.imp id (·.2)
  have hrun : o.run = .nil ∨ o.run = .canceled := hr.imp id (·.1)
  rcases hrun with h | h <;>
    simp_all [Spec.C08.holds, Spec.C08.countOk, Spec.C08.wantCut, Spec.C08.returnsOk, Spec.C08.runOk, Spec.C08.endOk,
      Drv.C08.obsOf, Drv.C08.classOf]

/-- the Spec holds of `Model.C08.run` for every drain cell with a cap: cut or not, bounded or not -/
theorem holds_run (k : Kind) (preload : Bool) (limit passes n cap : Nat) (hn : 0 < n) (hcap : 0 < cap) :
    Spec.C08.holds { limit, passes, n, cap }
      (Drv.C08.obsOf cap 0 (run ⟨k, preload, ⟨limit, passes⟩, some cap⟩ n)) = true := by
  have hT := target_cap limit passes n cap 0 hn hcap
  unfold run
  simp only [hT]
  rw [runFuel_range _ n _ hn hT]
  exact holds_obsOf _ _ (length_cycl _ _) rfl
    ((kindEnd_cases k (tgt_of_target _ _ _ _ _ hn hT)).imp id fun h => ⟨h.1, hcap, Nat.le_of_eq (Option.some.inj h.2)⟩)

theorem Below.le_expected {b : Bounds} {n k m : Nat} (h : Below b n k) (hn : 0 < n)
    (hm : Spec.C08.expected b.limit b.passes n = some m) : k ≤ m := by
  obtain ⟨_, h3⟩ := atBound_of_expected b n m hn hm
  obtain ⟨h1, h2⟩ := h
  rcases h3 with ⟨h0, h4⟩ | ⟨h0, h4⟩
  · rcases h1 with h1 | h1 <;> omega
  · rcases h2 with h2 | h2 <;> omega

end Pandora.Proofs.C08
