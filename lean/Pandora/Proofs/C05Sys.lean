/-
C05 — invariants of the goroutine system of `Engine.Run` (`Pandora.Model.C05.Sys`) and the case analyses of
`cli.awaitPandoraTermination` (`Pandora.Model.C05.Cli`).
-/
import Pandora.Model.C05Cli

namespace Pandora.Proofs.C05.Sys
open Pandora.Model.C05 Pandora.Model.C05.Sys

/-! ### list facts -/

theorem countP_set_gain {α : Type} (p : α → Bool) (y : α) (hy : p y = true) (l : List α) (i : Nat) (x : α)
    (h : l[i]? = some x) (hx : p x = false) : (l.set i y).countP p = l.countP p + 1 := by
  obtain ⟨hi, rfl⟩ := List.getElem?_eq_some_iff.1 h
  simp [List.countP_set hi, hx, hy]

theorem countP_set_same {α : Type} (p : α → Bool) (y : α) (l : List α) (i : Nat) (x : α)
    (h : l[i]? = some x) (hx : p x = p y) : (l.set i y).countP p = l.countP p := by
  obtain ⟨hi, rfl⟩ := List.getElem?_eq_some_iff.1 h
  rw [List.countP_set hi, hx]
  split
  · next hy =>
    have : 0 < l.countP p := List.countP_pos_iff.2 ⟨_, List.getElem_mem hi, hx ▸ hy⟩
    omega
  · rfl

theorem mem_set_cases {α : Type} (l : List α) (i : Nat) (y x : α) (h : x ∈ l.set i y) : x = y ∨ x ∈ l := by
  rcases List.mem_or_eq_of_mem_set h with h | h
  · exact Or.inr h
  · exact Or.inl h

theorem getElem?_set_cases {α : Type} (l : List α) (i j : Nat) (y x : α) (h : (l.set i y)[j]? = some x) :
    (j = i ∧ x = y) ∨ (j ≠ i ∧ l[j]? = some x) := by
  rw [List.getElem?_set] at h
  split at h
  · next e =>
    split at h
    · exact .inl ⟨e.symm, (Option.some.inj h).symm⟩
    · cases h
  · next e => exact .inr ⟨fun e' => e e'.symm, h⟩

/-! ### the invariant -/

structure Inv (n : Nat) (s : EState) : Prop where
  len : s.pools.length = n
  awaited : s.awaited = s.pools.countP PoolG.isTaken
  chanSome : ∀ (i : Nat) (r : PRes), s.chan = some (i, r) → s.pools[i]? = some (PoolG.sent r)
  chanUniq : ∀ (i : Nat) (r : PRes) (j : Nat) (r' : PRes), s.chan = some (i, r) → s.pools[j]? = some (PoolG.sent r') → j = i
  chanNone : s.chan = none → ∀ (j : Nat) (r' : PRes), s.pools[j]? ≠ some (PoolG.sent r')
  okTaken : (s.result = none ∨ s.result = some ERes.ok) → ∀ (j : Nat) (r : PRes), s.pools[j]? = some (PoolG.taken r) → r = PRes.ok
  running : s.result = none → s.awaited < n
  resOk : s.result = some ERes.ok → s.awaited = n
  ctxNone : s.result = none → s.ctxDone = s.extC
  ctxSome : s.result.isSome = true → s.ctxDone = true
  retCtx : s.result = some ERes.ctx → s.extAtReturn = true
  retFail : ∀ (i : Nat) (r : PRes), s.result = some (ERes.fail i r) → s.pools[i]? = some (PoolG.taken r) ∧ r ≠ PRes.ok ∧ s.extAtReturn = false
  extMono : s.extAtReturn = true → s.extC = true

theorem inv_init (n : Nat) : Inv n (einit n) := by
  unfold einit
  by_cases hn : n = 0
  · subst hn
    constructor <;> simp [ret]
  · simp only [hn, if_false]
    have hc : (List.replicate n PoolG.running).countP PoolG.isTaken = 0 := by
      rw [List.countP_eq_zero]
      intro x hx
      rw [List.eq_of_mem_replicate hx]
      simp [PoolG.isTaken]
    have hrun : ∀ (j : Nat) (x : PoolG), (List.replicate n PoolG.running)[j]? = some x → x = .running :=
      fun j x h => List.eq_of_mem_replicate (List.mem_of_getElem? h)
    exact ⟨by simp, by simp [hc], fun _ _ => nofun, fun _ _ _ _ => nofun, fun _ j _ h => (nomatch hrun j _ h),
      fun _ j _ h => (nomatch hrun j _ h), fun _ => Nat.pos_of_ne_zero hn, nofun, fun _ => rfl, nofun, nofun,
      fun _ _ => nofun, nofun⟩

/-- a pool goroutine moves between states that are neither in the channel nor read by the main loop: the
bookkeeping of the channel and of the loop does not notice -/
theorem Inv.set_pool {n : Nat} {s : EState} (h : Inv n s) (i : Nat) (x y : PoolG) (hp : s.pools[i]? = some x)
    (hx : ∀ r, x ≠ .sent r ∧ x ≠ .taken r) (hy : ∀ r, y ≠ .sent r ∧ y ≠ .taken r) :
    Inv n { s with pools := s.pools.set i y } := by
  have hold : ∀ j z, z ≠ y → (s.pools.set i y)[j]? = some z → s.pools[j]? = some z := fun j z hz hj =>
    (getElem?_set_cases _ _ _ _ _ hj).elim (fun hj => absurd hj.2 hz) (·.2)
  have hnew : ∀ j z, s.pools[j]? = some z → z ≠ x → (s.pools.set i y)[j]? = some z := fun j z hj hz => by
    rw [List.getElem?_set_ne (fun e => hz (by rw [e, hj] at hp; exact Option.some.inj hp))]; exact hj
  have htaken : PoolG.isTaken x = PoolG.isTaken y := by
    cases x <;> cases y <;> first | rfl | exact absurd rfl (hx _).2 | exact absurd rfl (hy _).2
  exact { h with
    len := by rw [List.length_set]; exact h.len
    awaited := by rw [countP_set_same _ _ _ _ _ hp htaken]; exact h.awaited
    chanSome := fun j r hc => hnew j _ (h.chanSome j r hc) (hx r).1.symm
    chanUniq := fun j r k r' hc hk => h.chanUniq j r k r' hc (hold k _ (hy r').1.symm hk)
    chanNone := fun hc k r' hk => h.chanNone hc k r' (hold k _ (hy r').1.symm hk)
    okTaken := fun hr k r hk => h.okTaken hr k r (hold k _ (hy r).2.symm hk)
    retFail := fun j r hr => ⟨hnew j _ (h.retFail j r hr).1 (hx r).2.symm, (h.retFail j r hr).2⟩ }

theorem inv_step (cfg : EngCfg) (n : Nat) (s : EState) (c : EChoice) (h : Inv n s) : Inv n (estep cfg s c) := by
  cases c with
  | extCancel => exact { h with ctxNone := fun _ => rfl, ctxSome := fun _ => rfl, extMono := fun _ => rfl }
  | poolRet i r =>
    simp only [estep]
    split
    · next hp => exact h.set_pool i _ _ hp (fun _ => ⟨nofun, nofun⟩) (fun _ => ⟨nofun, nofun⟩)
    · exact h
  | send i =>
    simp only [estep]
    split
    · next r hp hc =>
      have hi : i < s.pools.length := (List.getElem?_eq_some_iff.1 hp).1
      have hold : ∀ j z, z ≠ PoolG.sent r → (s.pools.set i (.sent r))[j]? = some z → s.pools[j]? = some z :=
        fun j z hz hj => (getElem?_set_cases _ _ _ _ _ hj).elim (fun hj => absurd hj.2 hz) (·.2)
      exact { h with
        len := by rw [List.length_set]; exact h.len
        awaited := by rw [countP_set_same _ (.sent r) _ _ _ hp rfl]; exact h.awaited
        chanSome := fun _ _ hc' => by cases hc'; exact List.getElem?_set_self hi
        chanUniq := fun _ _ j r'' hc' hj => by
          cases hc'
          exact (getElem?_set_cases _ _ _ _ _ hj).elim (·.1) fun hj => absurd hj.2 (h.chanNone hc j r'')
        chanNone := nofun
        okTaken := fun hr j r' hj => h.okTaken hr j r' (hold j (.taken r') nofun hj)
        retFail := fun j r' hr => by
          obtain ⟨h1, h2⟩ := h.retFail j r' hr
          refine ⟨?_, h2⟩
          rw [List.getElem?_set_ne fun e => by rw [← e, hp] at h1; cases h1]
          exact h1 }
    · exact h
  | suppress i =>
    simp only [estep]
    split
    · next r hp =>
      split
      · exact h.set_pool i _ _ hp (fun _ => ⟨nofun, nofun⟩) (fun _ => ⟨nofun, nofun⟩)
      · exact h
    · exact h
  | recv =>
    simp only [estep]
    split
    · next i r hres hc =>
      have hsent := h.chanSome i r hc
      have hi : i < s.pools.length := (List.getElem?_eq_some_iff.1 hsent).1
      -- what all four continuations of the read share: the pools, the loop counter, the empty channel
      have hlen : (s.pools.set i (.taken r)).length = n := by rw [List.length_set]; exact h.len
      have hcnt : s.awaited + 1 = (s.pools.set i (.taken r)).countP PoolG.isTaken := by
        rw [countP_set_gain PoolG.isTaken (.taken r) rfl s.pools i (.sent r) hsent rfl, h.awaited]
      have hNoSent : ∀ (j : Nat) (r' : PRes), (s.pools.set i (.taken r))[j]? ≠ some (.sent r') := fun j r' hj =>
        (getElem?_set_cases _ _ _ _ _ hj).elim (fun he => nomatch he.2) fun he => he.1 (h.chanUniq i r j r' hc he.2)
      by_cases hr : r = .ok
      · subst hr
        simp only [if_true]
        have hTaken : ∀ (j : Nat) (r' : PRes), (s.pools.set i (.taken .ok))[j]? = some (.taken r') → r' = .ok :=
          fun j r' hj => (getElem?_set_cases _ _ _ _ _ hj).elim (fun he => by cases he.2; rfl)
            fun he => h.okTaken (.inl hres) j r' he.2
        split
        · next hfull =>
          exact ⟨hlen, hcnt, fun _ _ => nofun, fun _ _ _ _ => nofun, fun _ => hNoSent, fun _ => hTaken,
            nofun, fun _ => hlen ▸ hfull, nofun, fun _ => rfl, nofun, fun _ _ => nofun, id⟩
        · next hfull =>
          have hlt := h.running hres
          have hno : ∀ x, s.result ≠ some x := fun x hx => by rw [hres] at hx; cases hx
          exact ⟨hlen, hcnt, fun _ _ => nofun, fun _ _ _ _ => nofun, fun _ => hNoSent, fun _ => hTaken,
            fun _ => Nat.lt_of_le_of_ne hlt (hlen ▸ hfull), fun he => absurd he (hno _), h.ctxNone,
            fun he => (by rw [hres] at he; cases he), fun he => absurd he (hno _), fun _ _ he => absurd he (hno _),
            h.extMono⟩
      · simp only [hr, if_false]
        have hnot : ¬ (some ERes.ctx = none ∨ some ERes.ctx = some ERes.ok) := by rintro (he | he) <;> cases he
        split
        · next hctx =>
          have hext : s.extC = true := by rw [← h.ctxNone hres]; exact hctx
          exact ⟨hlen, hcnt, fun _ _ => nofun, fun _ _ _ _ => nofun, fun _ => hNoSent, fun he => absurd he hnot,
            nofun, nofun, nofun, fun _ => rfl, fun _ => hext, fun _ _ => nofun, fun _ => hext⟩
        · next hctx =>
          have hext : s.extC = false := by rw [← h.ctxNone hres]; simpa using hctx
          exact ⟨hlen, hcnt, fun _ _ => nofun, fun _ _ _ _ => nofun, fun _ => hNoSent,
            fun he => (by rcases he with he | he <;> cases he),
            nofun, nofun, nofun, fun _ => rfl, nofun,
            fun _ _ he => (by cases he; exact ⟨List.getElem?_set_self hi, hr, hext⟩),
            fun hx => (by rw [hext] at hx; cases hx)⟩
    · exact h
  | mainCtx =>
    simp only [estep]
    split
    · next hres =>
      split
      · next hctx =>
        have hext : s.extC = true := by rw [← h.ctxNone hres]; exact hctx.2
        exact { h with
          okTaken := fun hc' => by rcases hc' with hc' | hc' <;> cases hc'
          running := nofun, resOk := nofun, ctxNone := nofun, ctxSome := fun _ => rfl
          retCtx := fun _ => hext, retFail := nofun, extMono := fun _ => hext }
      · exact h
    · exact h

theorem run_inv (cfg : EngCfg) (n : Nat) (cs : List EChoice) : Inv n (erun cfg n cs) := by
  unfold erun
  have : ∀ (cs : List EChoice) (s : EState), Inv n s → Inv n (cs.foldl (estep cfg) s) := by
    intro cs
    induction cs with
    | nil => intro s h; exact h
    | cons c cs ih => intro s h; exact ih _ (inv_step cfg n s c h)
  exact this cs _ (inv_init n)

end Pandora.Proofs.C05.Sys

namespace Pandora.Proofs.C05.Cli
open Pandora.Model.C05.Cli

theorem awaitTasks_no_exit0 (l : List Ev) : Act.exit 0 ∉ awaitTasks l := by
  fun_cases awaitTasks l <;> simp

theorem afterSignal_no_exit0 (l : List Ev) : Act.exit 0 ∉ afterSignal l := by
  fun_cases afterSignal l
  · simp
  · simp
  · next b rest => fun_cases awaitTasksSig rest <;> simp
  · simp

theorem awaitTasks_exit (l : List Ev) : Act.exit 1 ∈ awaitTasks l → Act.waited ∈ awaitTasks l ∨ Ev.timeout ∈ l := by
  fun_cases awaitTasks l <;> simp

theorem awaitTasksSig_exit (l : List Ev) :
    Act.exit 1 ∈ awaitTasksSig l → Act.waited ∈ awaitTasksSig l ∨ Ev.timeout ∈ l ∨ 1 ≤ l.countP isSig := by
  fun_cases awaitTasksSig l <;> simp [isSig]

theorem afterSignal_exit (l : List Ev) :
    Act.exit 1 ∈ afterSignal l → Act.waited ∈ afterSignal l ∨ Ev.timeout ∈ l ∨ 1 ≤ l.countP isSig := by
  fun_cases afterSignal l
  · simp
  · simp [isSig]
  · next b rest =>
    intro h
    rcases awaitTasksSig_exit rest (by simpa using h) with h | h | h
    · exact .inl (by simp [h])
    · exact .inr (.inl (by simp [h]))
    · exact .inr (.inr (by rw [List.countP_cons_of_neg (by exact Bool.false_ne_true)]; exact h))
  · simp

end Pandora.Proofs.C05.Cli
