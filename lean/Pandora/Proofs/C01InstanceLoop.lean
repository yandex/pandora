/-
C01 — composition schedule → Waiter → instance loop over C04's model.

C04 proves "no request is fired before its scheduled time" for ANY token sequence the environment hands to the Waiter
(`Model.C04.runLoop` over a history of passes whose `env.tok` is free; `Bridge.Waiter` ties `Wait`, `IsFinished`, the pass
of `instance.Run` to the current source).  C01 proves which instants the REGENERATED schedule hands out.  Here the two
are put together into one closed system: the token of every pass is what the regenerated `doAtSchedule` methods answer
when they are called where `instance.Run` / `Waiter` call them — `Left()` at the loop head (`IsFinished`), `Next()` inside
`Wait` unless the context is already done at its entry `select` — and the theorems say which operations of the profile
are acted on, in which order, and not before which instant.
-/
import Pandora.Bridge.C01
import Pandora.Bridge.Waiter
import Pandora.Proofs.C04

set_option linter.unusedVariables false
set_option linter.unusedSimpArgs false

namespace Pandora.Proofs.C01R6Wait
open Pandora Pandora.Gen.Schedule Pandora.Bridge.C01 Pandora.Model.C04 Pandora.Proofs.C04 Pandora.Go.C04

/-- The passes of the loop of `instance.Run` as the Waiter sees them when its schedule is the regenerated leaf in state
`s`: from each record of the history only what the WORLD decides is kept (context done at the loop head — read from
`it.finished` —, ammo available, context done at `Wait`'s entry, clock readings, timer outcome, instants); `finished` is
the regenerated `IsFinished` of the regenerated `Left()`, `env.tok` is the regenerated `Next()` (called with the clock
reading `env.pick`), which is NOT called when the context is done at `Wait`'s entry.  `Except.error` = a panic. -/
def feed : DoAtSt → List Iter → Except String (List Iter)
  | _, [] => .ok []
  | s, it :: rest =>
    match doAtSchedule_Left s with
    | .error e => .error e
    | .ok (left, s) =>
      if Gen.Waiter.IsFinished it.finished left then .ok [{ it with finished := true }]
      else if !it.ammoOk then .ok [{ it with finished := false }]
      else if it.env.ctxDone then
        match feed s rest with
        | .error e => .error e
        | .ok rs => .ok ({ it with finished := false, env := { it.env with tok := none } } :: rs)
      else
        match doAtSchedule_Next it.env.pick s with
        | .error e => .error e
        | .ok (r, s) =>
          match feed s rest with
          | .error e => .error e
          | .ok rs =>
            .ok ({ it with finished := false, env := { it.env with tok := if r.2 then some r.1 else none } } :: rs)

/-- scheduled instants of the actions (Shoot or Report of a discarded sample) of a run, in the order they happen -/
def evToks (evs : List Ev) : List ℤ := evs.filterMap (fun ev => ev.iter.env.tok)

/-- the instants of operations m, m+1, …, n−1 of a leaf started at `t0` -/
def profToks (n : ℤ) (f : ℤ → ℤ) (t0 : ℤ) (m : ℕ) : List ℤ :=
  (List.range' m (n.toNat - m)).map (fun (k : ℕ) => t0 + f (k : ℤ))

theorem profToks_cons (n : ℤ) (f : ℤ → ℤ) (t0 : ℤ) (m : ℕ) (h : (m : ℤ) < n) :
    profToks n f t0 m = (t0 + f (m : ℤ)) :: profToks n f t0 (m + 1) := by
  unfold profToks
  have e : n.toNat - m = (n.toNat - (m + 1)) + 1 := by omega
  rw [e, List.range'_succ]
  simp

/-- every action happens at an instant ≥ the scheduled time of its token (what Props/C04 states as `C04_no_early`, taken
from `Proofs/C04` so that Props/C04 is not a dependency of C01's build) -/
theorem no_early (d : Bool) : ∀ (h : List Iter) (w : Waiter), ClockOK w h →
    ∀ ev ∈ (runLoop .fresh d w h).1, ∃ next, ev.iter.env.tok = some next ∧ next ≤ ev.iter.env.ret :=
  fun h w hc => runLoop_no_early .fresh d w h hc

theorem evToks_actOf (d : Bool) (w' : Waiter) (it : Iter) (evs : List Ev) (t : ℤ) (h : it.env.tok = some t) :
    evToks (actOf d w' it :: evs) = t :: evToks evs := by
  simp [evToks, List.filterMap_cons, h]

/-- `IsFinished` over the regenerated `Left()` of a started leaf: the context is done, or nothing is left -/
theorem isFinished_left (fin : Bool) (n : ℤ) (m : ℕ) :
    isFinished fin (if n - (m : ℤ) < 0 then 0 else n - (m : ℤ)) = (fin || decide (n ≤ (m : ℤ))) := by
  cases fin
  · by_cases h1 : n - (m : ℤ) < 0
    · have : n ≤ (m : ℤ) := by omega
      simp [isFinished, h1, this]
    · by_cases h2 : n ≤ (m : ℤ)
      · have : n - (m : ℤ) = 0 := by omega
        simp [isFinished, h1, h2, this]
      · have : ¬ n - (m : ℤ) = 0 := by omega
        simp [isFinished, h1, h2, this]
  · rfl

/-- what `feed` makes of one pass of a started leaf that has handed out `m` operations -/
theorem feed_started_cons (D n : ℤ) (f : ℤ → ℤ) (t0 : ℤ) (m : ℕ) (it : Iter) (rest : List Iter) :
    feed (startedSt D n f t0 m) (it :: rest) =
      if (it.finished || decide (n ≤ (m : ℤ))) then .ok [{ it with finished := true }]
      else if !it.ammoOk then .ok [{ it with finished := false }]
      else if it.env.ctxDone then
        match feed (startedSt D n f t0 m) rest with
        | .error e => .error e
        | .ok rs => .ok ({ it with finished := false, env := { it.env with tok := none } } :: rs)
      else
        match feed (startedSt D n f t0 (m + 1)) rest with
        | .error e => .error e
        | .ok rs => .ok ({ it with finished := false, env := { it.env with tok := some (t0 + f (m : ℤ)) } } :: rs) := by
  simp only [feed, left_started, Bridge.Waiter.IsFinished_eq, isFinished_left, next_started]
  by_cases h1 : (it.finished || decide (n ≤ (m : ℤ))) = true
  · simp only [h1, if_true]
  · have hnm : ¬ n ≤ (m : ℤ) := by simp at h1; omega
    simp only [h1, hnm, if_false, if_true]

/-- **which operations are acted on**: a leaf `doAt D n f` started at `t0` that has handed out `m` operations, under one
instance loop with ANY world history `h`: the regenerated methods never panic, and the scheduled instants of the
actions, in the order the actions happen, are a SUBSEQUENCE of `t0 + f m, t0 + f (m+1), …, t0 + f (n−1)` — operations
are acted on in profile order, each at most once, none beyond the count `n`; the `(start + D, false)` answer is never even
requested (the loop asks `Left()` first). -/
theorem feed_started (d : Bool) (D n : ℤ) (f : ℤ → ℤ) (t0 : ℤ) : ∀ (h : List Iter) (m : ℕ),
    ∃ h', feed (startedSt D n f t0 m) h = .ok h' ∧
      ∀ w : Waiter, (evToks (runLoop .fresh d w h').1).Sublist (profToks n f t0 m) := by
  intro h
  induction h with
  | nil => intro m; exact ⟨[], rfl, fun w => List.nil_sublist _⟩
  | cons it rest ih =>
    intro m
    rw [feed_started_cons]
    by_cases hfin : (it.finished || decide (n ≤ (m : ℤ))) = true
    · refine ⟨_, if_pos hfin, fun w => ?_⟩
      rw [runLoop_events_stop _ _ _ _ _ (Or.inl rfl)]; exact List.nil_sublist _
    · rw [if_neg hfin]
      -- not finished: the context is not done at the head and something is left
      have hmn : (m : ℤ) < n := by simp at hfin; omega
      by_cases ha : (!it.ammoOk) = true
      · refine ⟨_, if_pos ha, fun w => ?_⟩
        rw [runLoop_events_stop _ _ _ _ _ (Or.inr (by simpa using ha))]; exact List.nil_sublist _
      · rw [if_neg ha]
        have ha' : it.ammoOk = true := by simpa using ha
        by_cases hcd : it.env.ctxDone = true
        · -- `Wait` returns at its entry: `Next` is not called, no action
          obtain ⟨rs, hrs, hsub⟩ := ih m
          refine ⟨{ it with finished := false, env := { it.env with tok := none } } :: rs, by rw [if_pos hcd, hrs],
            fun w => ?_⟩
          rw [runLoop_events_skip .fresh d w { it with finished := false, env := { it.env with tok := none } } rs rfl ha'
            (by simp [waitV, hcd])]
          exact hsub _
        · obtain ⟨rs, hrs, hsub⟩ := ih (m + 1)
          refine ⟨{ it with finished := false, env := { it.env with tok := some (t0 + f (m : ℤ)) } } :: rs,
            by rw [if_neg hcd, hrs], fun w => ?_⟩
          rw [profToks_cons n f t0 m hmn]
          cases hk : (waitV .fresh w { it.env with tok := some (t0 + f (m : ℤ)) }).ok with
          | true =>
            rw [runLoop_events_ok .fresh d w { it with finished := false, env := { it.env with tok := some _ } } rs rfl ha'
              hk, evToks_actOf _ _ _ _ _ rfl]
            exact List.Sublist.cons_cons _ (hsub _)
          | false =>
            rw [runLoop_events_skip .fresh d w { it with finished := false, env := { it.env with tok := some _ } } rs rfl
              ha' hk]
            exact List.Sublist.cons _ (hsub _)

/-- a world in which nothing interferes: the context is never done, ammo is always there, every timer fires -/
def CalmIter (it : Iter) : Prop :=
  it.finished = false ∧ it.ammoOk = true ∧ it.env.ctxDone = false ∧ it.env.timerWins = true

/-- **all of them, when nothing interferes**: in a calm world with at least `n − m` passes, EVERY remaining operation is
acted on, in order: the scheduled instants of the actions are exactly `t0 + f m, …, t0 + f (n−1)`; with one pass more the
loop ends by itself (`Left() == 0`). -/
theorem feed_started_calm (d : Bool) (D n : ℤ) (f : ℤ → ℤ) (t0 : ℤ) : ∀ (h : List Iter) (m : ℕ),
    (∀ it ∈ h, CalmIter it) → n.toNat - m ≤ h.length →
    ∃ h', feed (startedSt D n f t0 m) h = .ok h' ∧
      ∀ w : Waiter, evToks (runLoop .fresh d w h').1 = profToks n f t0 m ∧
        (n.toNat - m < h.length → (runLoop .fresh d w h').2 = Exit.loopEnd) := by
  intro h
  induction h with
  | nil =>
      intro m _ hlen
      have : n.toNat - m = 0 := by simpa using hlen
      exact ⟨[], rfl, fun w => ⟨by simp [runLoop, evToks, profToks, this], fun hl => by simp at hl⟩⟩
  | cons it rest ih =>
    intro m hcalm hlen
    obtain ⟨c1, c2, c3, c4⟩ := hcalm it List.mem_cons_self
    rw [feed_started_cons]
    by_cases hmn : (m : ℤ) < n
    · have hlen' : n.toNat - (m + 1) ≤ rest.length := by simp at hlen; omega
      obtain ⟨rs, hrs, hall⟩ := ih (m + 1) (fun x hx => hcalm x (List.mem_cons_of_mem _ hx)) hlen'
      refine ⟨{ it with finished := false, env := { it.env with tok := some (t0 + f (m : ℤ)) } } :: rs,
        by rw [if_neg (by simpa [c1] using hmn), if_neg (by simp [c2]), if_neg (by simp [c3]), hrs], fun w => ?_⟩
      have hk := waitV_ok_of_token .fresh w { it.env with tok := some (t0 + f (m : ℤ)) } _ c3 rfl c4
      obtain ⟨hall1, hall2⟩ := hall (waitV .fresh w { it.env with tok := some (t0 + f (m : ℤ)) }).w
      rw [runLoop_cons_ok .fresh d w { it with finished := false, env := { it.env with tok := some _ } } rs rfl c2 hk,
        profToks_cons n f t0 m hmn, evToks_actOf _ _ _ _ _ rfl, hall1]
      exact ⟨rfl, fun hl => hall2 (by simp at hl; omega)⟩
    · have h0 : n.toNat - m = 0 := by omega
      refine ⟨_, if_pos (by simpa [c1] using hmn), fun w => ?_⟩
      simp [runLoop, evToks, profToks, h0]

end Pandora.Proofs.C01R6Wait
