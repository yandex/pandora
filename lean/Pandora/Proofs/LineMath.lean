/-
Real-analysis core of C01 for the `line` profile (exact arithmetic).
rate(x) = a·x + b on [0, s];  cum(x) = a·x²/2 + b·x;  the k-th operation is at
x_k = (√(2ak + b²) − b)/a, the unique (hence earliest) point where cum = k.
-/
import Pandora.Go.Real
import Mathlib.Tactic.NormNum
import Mathlib.Tactic.Positivity

namespace Pandora.Proofs.LineMath
open Real

/-- cumulative number of operations of the linear rate `a·x+b` after `x` seconds -/
noncomputable def cum (a b x : ℝ) : ℝ := a * x ^ 2 / 2 + b * x

/-- the instant of the k-th operation as the code computes it (seconds) -/
noncomputable def xk (a b k : ℝ) : ℝ := (Real.sqrt (2 * a * k + b ^ 2) - b) / a

structure Cfg (a b s : ℝ) : Prop where
  s_pos : 0 < s
  a_ne : a ≠ 0
  b_nonneg : 0 ≤ b
  end_nonneg : 0 ≤ a * s + b        -- the rate at the end (`to`) is non-negative

variable {a b s k : ℝ}

theorem cum_zero (a b : ℝ) : cum a b 0 = 0 := by unfold cum; ring

theorem cum_nonneg {a b x : ℝ} (ha : 0 ≤ a) (hb : 0 ≤ b) (hx : 0 ≤ x) : 0 ≤ cum a b x :=
  add_nonneg (div_nonneg (mul_nonneg ha (sq_nonneg x)) zero_le_two) (mul_nonneg hb hx)

theorem cum_total (a b s : ℝ) : cum a b s = (b + (a * s + b)) / 2 * s := by
  unfold cum; ring

/-- why the radicand: at the instant where the integral is `k` it is the square of the rate -/
theorem two_a_cum (a b x : ℝ) : 2 * a * cum a b x + b ^ 2 = (a * x + b) ^ 2 := by
  unfold cum; ring

theorem radicand_ge_end_sq_of_neg (ha : a < 0) (hk : k ≤ cum a b s) : (a * s + b) ^ 2 ≤ 2 * a * k + b ^ 2 := by
  have := mul_le_mul_of_nonpos_left hk (by linarith : 2 * a ≤ 0)
  linarith [two_a_cum a b s]

theorem radicand_le_end_sq_of_pos (ha : 0 < a) (hk : k ≤ cum a b s) : 2 * a * k + b ^ 2 ≤ (a * s + b) ^ 2 := by
  have := mul_le_mul_of_nonneg_left hk (by linarith : 0 ≤ 2 * a)
  linarith [two_a_cum a b s]

theorem radicand_nonneg (h : Cfg a b s) (hk0 : 0 ≤ k) (hk : k ≤ cum a b s) : 0 ≤ 2 * a * k + b ^ 2 := by
  rcases lt_or_gt_of_ne h.a_ne with ha | ha
  · exact (sq_nonneg _).trans (radicand_ge_end_sq_of_neg ha hk)
  · exact add_nonneg (mul_nonneg (mul_nonneg zero_le_two ha.le) hk0) (sq_nonneg b)

/-- an increasing line: the rate at x_k lies between the rates at the two ends -/
theorem sqrt_radicand_of_pos (h : Cfg a b s) (ha : 0 < a) (hk0 : 0 ≤ k) (hk : k ≤ cum a b s) :
    b ≤ Real.sqrt (2 * a * k + b ^ 2) ∧ Real.sqrt (2 * a * k + b ^ 2) ≤ a * s + b := by
  have h1 := Real.sqrt_le_sqrt (le_add_of_nonneg_left (a := b ^ 2) (mul_nonneg (mul_nonneg zero_le_two ha.le) hk0))
  have h2 := Real.sqrt_le_sqrt (radicand_le_end_sq_of_pos ha hk)
  rw [Real.sqrt_sq h.b_nonneg] at h1
  rw [Real.sqrt_sq h.end_nonneg] at h2
  exact ⟨h1, h2⟩

/-- a decreasing line: the same, the other way round -/
theorem sqrt_radicand_of_neg (h : Cfg a b s) (ha : a < 0) (hk0 : 0 ≤ k) (hk : k ≤ cum a b s) :
    a * s + b ≤ Real.sqrt (2 * a * k + b ^ 2) ∧ Real.sqrt (2 * a * k + b ^ 2) ≤ b := by
  have h1 := Real.sqrt_le_sqrt (radicand_ge_end_sq_of_neg ha hk)
  have h2 := Real.sqrt_le_sqrt (add_le_of_nonpos_left (a := b ^ 2)
    (mul_nonpos_of_nonpos_of_nonneg (by linarith : 2 * a ≤ 0) hk0))
  rw [Real.sqrt_sq h.end_nonneg] at h1
  rw [Real.sqrt_sq h.b_nonneg] at h2
  exact ⟨h1, h2⟩

/-- the integral reaches exactly k at x_k -/
theorem cum_xk (h : Cfg a b s) (hk0 : 0 ≤ k) (hk : k ≤ cum a b s) : cum a b (xk a b k) = k := by
  have hs : Real.sqrt (2 * a * k + b ^ 2) ^ 2 = 2 * a * k + b ^ 2 := Real.sq_sqrt (radicand_nonneg h hk0 hk)
  have ha := h.a_ne
  have key : ∀ r : ℝ, cum a b ((r - b) / a) = (r ^ 2 - b ^ 2) / (2 * a) := by
    intro r; unfold cum; field_simp; ring
  unfold xk
  rw [key, hs]
  field_simp
  ring

theorem xk_mem (h : Cfg a b s) (hk0 : 0 ≤ k) (hk : k ≤ cum a b s) : 0 ≤ xk a b k ∧ xk a b k ≤ s := by
  unfold xk
  rcases lt_or_gt_of_ne h.a_ne with ha | ha
  · obtain ⟨h1, h2⟩ := sqrt_radicand_of_neg h ha hk0 hk
    exact ⟨div_nonneg_of_nonpos (sub_nonpos.mpr h2) ha.le, (div_le_iff_of_neg ha).mpr (by linarith)⟩
  · obtain ⟨h1, h2⟩ := sqrt_radicand_of_pos h ha hk0 hk
    exact ⟨div_nonneg (sub_nonneg.mpr h1) ha.le, (div_le_iff₀ ha).mpr (by linarith)⟩

/-- the rate is non-negative on [0, s]: it is a weighted mean of the two end rates (a flat line included) -/
theorem rate_nonneg (hs : 0 < s) (hb : 0 ≤ b) (he : 0 ≤ a * s + b) {y : ℝ} (hy0 : 0 ≤ y) (hys : y ≤ s) :
    0 ≤ a * y + b := by
  have e : s * (a * y + b) = b * (s - y) + (a * s + b) * y := by ring
  have : 0 ≤ s * (a * y + b) := e ▸ add_nonneg (mul_nonneg hb (sub_nonneg.mpr hys)) (mul_nonneg he hy0)
  exact (mul_nonneg_iff_of_pos_left hs).mp this

/-- so the integral does not decrease on [0, s] -/
theorem cum_mono (hs : 0 < s) (hb : 0 ≤ b) (he : 0 ≤ a * s + b) {x y : ℝ} (hx0 : 0 ≤ x) (hxy : x ≤ y) (hys : y ≤ s) :
    cum a b x ≤ cum a b y := by
  have hd : cum a b y - cum a b x = (y - x) * ((a * x + b) + (a * y + b)) / 2 := by unfold cum; ring
  have := div_nonneg (mul_nonneg (sub_nonneg.mpr hxy) (add_nonneg (rate_nonneg hs hb he hx0 (hxy.trans hys))
    (rate_nonneg hs hb he (hx0.trans hxy) hys))) zero_le_two
  linarith only [hd, this]

/-- cum is strictly increasing on [0, s]: nothing earlier than x_k reaches k. The increment is (x − y) times the mean of
the two rates, which are non-negative and, the slope not being zero, different. -/
theorem cum_lt_of_lt (h : Cfg a b s) {x y : ℝ} (hy0 : 0 ≤ y) (hyx : y < x) (hxs : x ≤ s) :
    cum a b y < cum a b x := by
  have hry := rate_nonneg h.s_pos h.b_nonneg h.end_nonneg hy0 (hyx.le.trans hxs)
  have hrx := rate_nonneg h.s_pos h.b_nonneg h.end_nonneg (hy0.trans hyx.le) hxs
  have hd : cum a b x - cum a b y = (x - y) * ((a * x + b) + (a * y + b)) / 2 := by unfold cum; ring
  have hpos : 0 < (a * x + b) + (a * y + b) := by
    rcases lt_or_gt_of_ne h.a_ne with ha | ha
    · have := mul_pos_of_neg_of_neg ha (sub_neg.mpr hyx)
      linarith only [this, hrx]
    · have := mul_pos ha (sub_pos.mpr hyx)
      linarith only [this, hry]
  have : 0 < (x - y) * ((a * x + b) + (a * y + b)) / 2 := div_pos (mul_pos (sub_pos.mpr hyx) hpos) two_pos
  linarith only [hd, this]

/-- `x` is the earliest instant in [0,s] at which the integral reaches `k` -/
def Earliest (a b s k x : ℝ) : Prop :=
  0 ≤ x ∧ x ≤ s ∧ cum a b x = k ∧ ∀ y, 0 ≤ y → y < x → cum a b y < k

theorem earliest_xk (h : Cfg a b s) (hk0 : 0 ≤ k) (hk : k ≤ cum a b s) : Earliest a b s k (xk a b k) := by
  obtain ⟨h0, hs⟩ := xk_mem h hk0 hk
  refine ⟨h0, hs, cum_xk h hk0 hk, fun y hy0 hyx => ?_⟩
  have := cum_lt_of_lt h hy0 hyx hs
  rwa [cum_xk h hk0 hk] at this

/-- uniqueness: any earliest instant is x_k (so the statement does not depend on the formula) -/
theorem earliest_unique (h : Cfg a b s) {x x' : ℝ} (hx : Earliest a b s k x) (hx' : Earliest a b s k x') : x = x' := by
  rcases lt_trichotomy x x' with hlt | heq | hgt
  · have := hx'.2.2.2 x hx.1 hlt; rw [hx.2.2.1] at this; exact absurd this (lt_irrefl _)
  · exact heq
  · have := hx.2.2.2 x' hx'.1 hgt; rw [hx'.2.2.1] at this; exact absurd this (lt_irrefl _)

/-- the instant of the k-th operation in the cancellation-free (conjugate) form: `2k / (√(2ak+b²) + b)` -/
noncomputable def xk2 (a b k : ℝ) : ℝ := 2 * k / (Real.sqrt (2 * a * k + b ^ 2) + b)

/-- the integral reaches exactly k at the conjugate form, whatever the sign of the slope (zero included), as long as the
root exists and the denominator does not vanish: (r + b)² = 2(ak + br + b²) for r² = 2ak + b² -/
theorem cum_xk2 (hR : 0 ≤ 2 * a * k + b ^ 2) (hz : Real.sqrt (2 * a * k + b ^ 2) + b ≠ 0) : cum a b (xk2 a b k) = k := by
  have hX : xk2 a b k * (Real.sqrt (2 * a * k + b ^ 2) + b) = 2 * k := div_mul_cancel₀ _ hz
  have e : (Real.sqrt (2 * a * k + b ^ 2) + b) ^ 2 = 2 * (a * k + b * Real.sqrt (2 * a * k + b ^ 2) + b ^ 2) := by
    rw [add_sq, Real.sq_sqrt hR]; ring
  apply mul_right_cancel₀ (pow_ne_zero 2 hz)
  have : cum a b (xk2 a b k) * (Real.sqrt (2 * a * k + b ^ 2) + b) ^ 2 =
      a * (xk2 a b k * (Real.sqrt (2 * a * k + b ^ 2) + b)) ^ 2 / 2 +
        b * (xk2 a b k * (Real.sqrt (2 * a * k + b ^ 2) + b)) * (Real.sqrt (2 * a * k + b ^ 2) + b) := by
    unfold cum; ring
  rw [this, hX, e]; ring

/-- both closed forms denote the same instant wherever the profile has an operation -/
theorem xk2_eq_xk (h : Cfg a b s) (hk0 : 0 ≤ k) (hk : k ≤ cum a b s) : xk2 a b k = xk a b k := by
  have hs : Real.sqrt (2 * a * k + b ^ 2) ^ 2 = 2 * a * k + b ^ 2 := Real.sq_sqrt (radicand_nonneg h hk0 hk)
  have hr0 : 0 ≤ Real.sqrt (2 * a * k + b ^ 2) := Real.sqrt_nonneg _
  have hb := h.b_nonneg
  unfold xk2 xk
  by_cases hz : Real.sqrt (2 * a * k + b ^ 2) + b = 0
  · -- both vanish: 2k/0 = 0 = (0 − 0)/a
    have hr : Real.sqrt (2 * a * k + b ^ 2) = 0 := by linarith only [hz, hr0, hb]
    have hb0 : b = 0 := by linarith only [hz, hr0, hb]
    rw [hz, hr, hb0]; simp
  · -- (√R − b)(√R + b) = R − b² = 2ak
    rw [div_eq_div_iff hz h.a_ne, ← sub_eq_zero]
    have e : 2 * k * a - (Real.sqrt (2 * a * k + b ^ 2) - b) * (Real.sqrt (2 * a * k + b ^ 2) + b) =
        2 * a * k + b ^ 2 - Real.sqrt (2 * a * k + b ^ 2) ^ 2 := by ring
    rw [e, hs, sub_self]

/-- x₀ = 0 -/
theorem xk_zero (h : Cfg a b s) : xk a b 0 = 0 := by
  unfold xk
  have : Real.sqrt (2 * a * 0 + b ^ 2) = b := by
    rw [mul_zero, zero_add]; exact Real.sqrt_sq h.b_nonneg
  rw [this]; simp

end Pandora.Proofs.LineMath
