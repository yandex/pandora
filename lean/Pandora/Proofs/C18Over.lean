/-
C18 — the config decoder on structured options (Model/C18Over): with ZeroFields = false it IS "the registered
defaults overlaid by the user's settings", field by field, for every configuration, every settings and every field
(unbounded map keys / list indices); with ZeroFields = true it is not.
-/
import Pandora.Model.C18Over

namespace Pandora.Proofs.C18Over
open Pandora.Model.C18 Pandora.Model.C18Over

theorem scalar_overlay (d : Int) (u : Opt Int) : decScalar false d u = (setScalar u).getD d := by
  cases u <;> simp [decScalar, setScalar]

theorem arr_overlay (dv : Int) (i : Nat) (u : Opt (List (Option Int))) :
    decArrAt false dv i u = (setArrAt i u).getD dv := by
  cases u with
  | absent => simp [decArrAt, setArrAt]
  | null => simp [decArrAt, setArrAt]
  | val xs =>
    simp only [decArrAt, setArrAt]
    cases h : xs[i]? with
    | none => simp
    | some o => cases o <;> simp

theorem lookup_append_getD (k : Nat) (es d : List (Nat × Int)) :
    mapGet (es ++ d) k = (List.lookup k es).getD (mapGet d k) := by
  induction es with
  | nil => simp [mapGet]
  | cons e es ih =>
    obtain ⟨k', v⟩ := e
    by_cases hk : k = k'
    · subst hk; simp [mapGet, List.lookup]
    · have : (k == k') = false := by simpa using hk
      simp only [mapGet, List.cons_append, List.lookup, this] at ih ⊢
      exact ih

theorem list_getD_mapIdx (base : List Int) (xs : List (Option Int)) (i : Nat) :
    (xs.mapIdx fun j x => decElem false base j x).getD i 0 =
      (match xs[i]? with
       | some (some v) => v
       | some none => base.getD i 0
       | none => 0) := by
  simp only [List.getD_eq_getElem?_getD, List.getElem?_mapIdx]
  cases h : xs[i]? with
  | none => simp
  | some o => cases o <;> simp [decElem, List.getD_eq_getElem?_getD]

/-- the decoder of core/config (ZeroFields = false) overlays: every field of the decoded configuration is the user's
value where the settings name the field and the default's value otherwise -/
theorem overlay (d : OCfg) (u : OSet) (f : Nat) : sem (decode false d u) f = overlaid d u f := by
  unfold overlaid sem semSet decode
  by_cases h1 : f = 1
  · simp [h1, scalar_overlay]
  by_cases h2 : f = 2
  · simp [h2, scalar_overlay]
  by_cases h3 : f = 3
  · simp [h3, scalar_overlay]
  by_cases h8 : f = 8
  · simp [h8, arr_overlay]
  by_cases h9 : f = 9
  · simp [h9, arr_overlay]
  by_cases h10 : f = 10
  · simp [h10, arr_overlay]
  by_cases h11 : f = 11
  · subst h11
    cases hp : u.p with
    | absent => simp [decPtr]; rfl
    | null => simp [decPtr]
    | val xy => obtain ⟨x, y⟩ := xy; simp [decPtr]
  by_cases h12 : f = 12
  · subst h12
    cases hp : u.p with
    | absent => simp [decPtr]
    | null => simp [decPtr]
    | val xy => obtain ⟨x, y⟩ := xy; cases x <;> simp [decPtr]
  by_cases h13 : f = 13
  · subst h13
    cases hp : u.p with
    | absent => simp [decPtr]
    | null => simp [decPtr]
    | val xy => obtain ⟨x, y⟩ := xy; cases y <;> simp [decPtr]
  by_cases h14 : f = 14
  · subst h14
    cases hl : u.l with
    | absent => simp [decList]
    | null => simp [decList]
    | val xs => simp [decList]
  simp only [h1, h2, h3, h8, h9, h10, h11, h12, h13, h14, if_false]
  by_cases h20 : 20 ≤ f
  · simp only [h20, if_true]
    by_cases he : f % 2 = 0
    · simp only [he, if_true]
      cases hm : u.m with
      | absent => simp [decMap]
      | null => simp [decMap]
      | val es => simp [decMap, lookup_append_getD]
    · simp only [he, if_false]
      cases hl : u.l with
      | absent => simp [decList]
      | null => simp [decList]
      | val xs =>
        simp only [decList, Option.getD_some, list_getD_mapIdx]
        cases hx : xs[(f - 21) / 2]? with
        | none => simp
        | some o => cases o <;> simp
  · simp [h20]

theorem get_flat (fs : List Nat) (c : OCfg) (f : Nat) (hf : f ∈ fs) : Cfg.get (flat fs c) f = sem c f := by
  induction fs with
  | nil => cases hf
  | cons g gs ih =>
    by_cases hg : f = g
    · subst hg; simp [flat, Cfg.get]
    · have hb : (f == g) = false := by simpa using hg
      have : f ∈ gs := by
        cases hf with
        | head => exact absurd rfl hg
        | tail _ h => exact h
      simpa [flat, Cfg.get, List.lookup, hb] using ih this

/-- a list of `(key, value)` for the listed keys that have a value: looking a key up gives its value iff it is listed -/
theorem lookup_filterMap (g : Nat → Option Int) (fs : List Nat) (f : Nat) :
    List.lookup f (fs.filterMap fun k => (g k).map fun v => (k, v)) = if f ∈ fs then g f else none := by
  induction fs with
  | nil => rfl
  | cons k ks ih =>
    by_cases hk : f = k
    · subst hk
      cases h : g f <;> simp [h, ih]
    · have hb : (f == k) = false := by simpa using hk
      cases h : g k <;> simp [List.lookup, h, ih, hk, hb]

theorem lookup_flatSet (fs : List Nat) (u : OSet) (f : Nat) (hf : f ∈ fs) :
    List.lookup f (flatSet fs u) = semSet u f := by
  rw [flatSet, lookup_filterMap, if_pos hf]

theorem get_append (a b : Cfg) (f : Nat) : Cfg.get (a ++ b) f = (List.lookup f a).getD (Cfg.get b f) := by
  induction a with
  | nil => simp [Cfg.get]
  | cons e es ih =>
    obtain ⟨k, v⟩ := e
    by_cases hk : f = k
    · subst hk; simp [Cfg.get, List.lookup]
    · have : (f == k) = false := by simpa using hk
      simp only [Cfg.get, List.cons_append, List.lookup, this] at ih ⊢
      exact ih

/-- the finite `Cfg`s a driver case hands to `Model.C18.run` say the same: looking a listed field up in the flattened
settings laid over the flattened defaults gives the decoded configuration's value of the field -/
theorem flat_overlay (fs : List Nat) (d : OCfg) (u : OSet) (f : Nat) (hf : f ∈ fs) :
    Cfg.get (flatSet fs u ++ flat fs d) f = sem (decode false d u) f := by
  rw [get_append, lookup_flatSet fs u f hf, get_flat fs d f hf, overlay]; rfl

end Pandora.Proofs.C18Over
