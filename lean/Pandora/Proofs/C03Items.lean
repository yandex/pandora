/-
C03 — the ammo-item invariant: every acquired item is held by exactly one instance until it is released, is released
exactly once, and every `Shoot`/`Release` touches an item that is held at that moment.  For ANY number of instances
and ANY trace.  Items are numbered in acquisition order; `cur[i]` is the local variable `ammo` of instance `i`.
-/
import Pandora.Proofs.C03

namespace Pandora.Proofs.C03
open Pandora.Model.C03

structure InvI (c : Cfg) (s : St) : Prop where
  pcsLen : s.pcs.length = c.instances
  curLen : s.cur.length = c.instances
  relsLen : s.rels.length = s.acquired
  /-- an instance between Acquire and Release holds an item that has not been released -/
  holder : ∀ (i : Nat) (p : Pc), s.pcs[i]? = some p → p.holds = true →
    ∃ k : Nat, s.cur[i]? = some (some k) ∧ s.rels[k]? = some 0
  nonholder : ∀ (i : Nat) (p : Pc), s.pcs[i]? = some p → p.holds = false → s.cur[i]? = some none
  /-- no item is held by two instances -/
  inj : ∀ (i j k : Nat), s.cur[i]? = some (some k) → s.cur[j]? = some (some k) → i = j
  /-- an item has been released once, or not at all and then some instance holds it -/
  relsOk : ∀ (k v : Nat), s.rels[k]? = some v → (v = 0 ∧ ∃ i : Nat, s.cur[i]? = some (some k)) ∨ v = 1
  good : s.badUse = false

theorem init_invI (c : Cfg) : InvI c (init c) := by
  refine ⟨by simp [init], by simp [init], by simp [init], ?_, ?_, ?_, ?_, rfl⟩
  · intro i p h hp
    simp only [init] at h
    rw [List.getElem?_replicate] at h
    split at h
    · cases h; simp [Pc.holds] at hp
    · cases h
  · intro i p h _
    simp only [init] at h ⊢
    rw [List.getElem?_replicate] at h ⊢
    split at h
    · rename_i hlt; simp [hlt]
    · cases h
  · intro i j k h
    simp only [init] at h
    rw [List.getElem?_replicate] at h
    split at h <;> cases h
  · intro k v h
    simp [init] at h

/-- whoever holds item `k` in its local variable, the item is unreleased -/
theorem cur_held {c : Cfg} {s : St} (hi : InvI c s) {i k : Nat} (h : s.cur[i]? = some (some k)) :
    s.rels[k]? = some 0 := by
  have hlt : i < s.pcs.length := by
    have := lt_of_get h; rw [hi.curLen] at this; rw [hi.pcsLen]; exact this
  have hp : s.pcs[i]? = some s.pcs[i] := List.getElem?_eq_getElem hlt
  cases hh : s.pcs[i].holds with
  | true =>
    obtain ⟨k', h1, h2⟩ := hi.holder i _ hp hh
    rw [h] at h1
    have : k = k' := by injection h1 with h1; injection h1
    rw [this]; exact h2
  | false =>
    have := hi.nonholder i _ hp hh
    rw [h] at this; cases this

/-- a move of instance `i` that keeps its local variable, the items and the counters alone -/
theorem invI_move {c : Cfg} {s : St} (hi : InvI c s) {i : Nat} {old new : Pc} (h : s.pcs[i]? = some old)
    (s' : St) (hpcs : s'.pcs = s.pcs.set i new) (hcur : s'.cur = s.cur) (hrels : s'.rels = s.rels)
    (hacq : s'.acquired = s.acquired) (hbad : s'.badUse = false) (hholds : new.holds = old.holds) : InvI c s' := by
  refine ⟨by rw [hpcs, List.length_set]; exact hi.pcsLen, by rw [hcur]; exact hi.curLen,
    by rw [hrels, hacq]; exact hi.relsLen, ?_, ?_, by rw [hcur]; exact hi.inj, by rw [hcur, hrels]; exact hi.relsOk, hbad⟩
  · intro j p hj hp
    rw [hpcs, pcs_after h j] at hj
    rw [hcur, hrels]
    by_cases hji : j = i
    · simp only [hji, if_true, Option.some.injEq] at hj
      subst hj
      rw [hji]; exact hi.holder i old h (by rw [← hholds]; exact hp)
    · simp only [hji, if_false] at hj; exact hi.holder j p hj hp
  · intro j p hj hp
    rw [hpcs, pcs_after h j] at hj
    rw [hcur]
    by_cases hji : j = i
    · simp only [hji, if_true, Option.some.injEq] at hj
      subst hj
      rw [hji]; exact hi.nonholder i old h (by rw [← hholds]; exact hp)
    · simp only [hji, if_false] at hj; exact hi.nonholder j p hj hp

theorem invI_acq {c : Cfg} {s : St} (hi : InvI c s) {i : Nat} (h : s.pcs[i]? = some Pc.acquire)
    (s' : St) (hpcs : s'.pcs = s.pcs.set i .wait) (hcur : s'.cur = s.cur.set i (some s.acquired))
    (hrels : s'.rels = s.rels ++ [0]) (hacq : s'.acquired = s.acquired + 1) (hbad : s'.badUse = s.badUse) :
    InvI c s' := by
  have hilt : i < s.cur.length := by
    have := lt_of_get h; rw [hi.pcsLen] at this; rw [hi.curLen]; exact this
  have hnone : s.cur[i]? = some none := hi.nonholder i _ h rfl
  have hfresh : ∀ j : Nat, s.cur[j]? ≠ some (some s.acquired) := by
    intro j hj
    have := lt_of_get (cur_held hi hj)
    rw [hi.relsLen] at this; omega
  have hrelsOld : ∀ (k v : Nat), s.rels[k]? = some v → (s.rels ++ [0])[k]? = some v := by
    intro k v hk
    rw [List.getElem?_append_left (lt_of_get hk)]; exact hk
  refine ⟨by rw [hpcs, List.length_set]; exact hi.pcsLen, by rw [hcur, List.length_set]; exact hi.curLen,
    by rw [hrels, hacq]; simp [hi.relsLen], ?_, ?_, ?_, ?_, by rw [hbad]; exact hi.good⟩
  · intro j p hj hp
    rw [hpcs, pcs_after h j] at hj
    rw [hcur, hrels]
    by_cases hji : j = i
    · refine ⟨s.acquired, ?_, ?_⟩
      · rw [hji]; exact List.getElem?_set_self hilt
      · rw [← hi.relsLen]; simp
    · simp only [hji, if_false] at hj
      obtain ⟨k, h1, h2⟩ := hi.holder j p hj hp
      exact ⟨k, by rw [List.getElem?_set_ne (Ne.symm hji)]; exact h1, hrelsOld k 0 h2⟩
  · intro j p hj hp
    rw [hpcs, pcs_after h j] at hj
    rw [hcur]
    by_cases hji : j = i
    · simp only [hji, if_true, Option.some.injEq] at hj
      subst hj; simp [Pc.holds] at hp
    · simp only [hji, if_false] at hj
      rw [List.getElem?_set_ne (Ne.symm hji)]; exact hi.nonholder j p hj hp
  · intro a b k ha hb
    rw [hcur] at ha hb
    by_cases hai : a = i
    · by_cases hbi : b = i
      · rw [hai, hbi]
      · rw [hai, List.getElem?_set_self hilt] at ha
        rw [List.getElem?_set_ne (Ne.symm hbi)] at hb
        have : s.acquired = k := by injection ha with ha; injection ha
        rw [← this] at hb
        exact absurd hb (hfresh b)
    · rw [List.getElem?_set_ne (Ne.symm hai)] at ha
      by_cases hbi : b = i
      · rw [hbi, List.getElem?_set_self hilt] at hb
        have : s.acquired = k := by injection hb with hb; injection hb
        rw [← this] at ha
        exact absurd ha (hfresh a)
      · rw [List.getElem?_set_ne (Ne.symm hbi)] at hb
        exact hi.inj a b k ha hb
  · intro k v hk
    rw [hrels] at hk
    rw [hcur]
    by_cases hkl : k < s.rels.length
    · rw [List.getElem?_append_left hkl] at hk
      rcases hi.relsOk k v hk with ⟨hv, j, hj⟩ | hv
      · left
        refine ⟨hv, j, ?_⟩
        have hji : j ≠ i := by
          intro hji; rw [hji, hnone] at hj; cases hj
        rw [List.getElem?_set_ne (Ne.symm hji)]; exact hj
      · exact Or.inr hv
    · have hge : s.rels.length ≤ k := by omega
      rw [List.getElem?_append_right hge] at hk
      have hk0 : k - s.rels.length = 0 := by
        rcases Nat.eq_zero_or_pos (k - s.rels.length) with h0 | h0
        · exact h0
        · rw [List.getElem?_eq_none (by simp; omega)] at hk; cases hk
      rw [hk0] at hk
      simp at hk
      left
      refine ⟨hk.symm, i, ?_⟩
      have : k = s.acquired := by rw [← hi.relsLen]; omega
      rw [this]; exact List.getElem?_set_self hilt

theorem invI_rel {c : Cfg} {s : St} (hi : InvI c s) {i k : Nat} (h : s.pcs[i]? = some Pc.release)
    (hk : s.cur[i]? = some (some k))
    (s' : St) (hpcs : s'.pcs = s.pcs.set i .check) (hcur : s'.cur = s.cur.set i none)
    (hrels : s'.rels = s.rels.set k (s.rels[k]?.getD 0 + 1)) (hacq : s'.acquired = s.acquired)
    (hbad : s'.badUse = (s.badUse || !s.heldItem k)) : InvI c s' := by
  have hilt : i < s.cur.length := lt_of_get hk
  have hk0 : s.rels[k]? = some 0 := cur_held hi hk
  have hklt : k < s.rels.length := lt_of_get hk0
  refine ⟨by rw [hpcs, List.length_set]; exact hi.pcsLen, by rw [hcur, List.length_set]; exact hi.curLen,
    by rw [hrels, hacq, List.length_set]; exact hi.relsLen, ?_, ?_, ?_, ?_, ?_⟩
  · intro j p hj hp
    rw [hpcs, pcs_after h j] at hj
    rw [hcur, hrels]
    by_cases hji : j = i
    · simp only [hji, if_true, Option.some.injEq] at hj
      subst hj; simp [Pc.holds] at hp
    · simp only [hji, if_false] at hj
      obtain ⟨k', h1, h2⟩ := hi.holder j p hj hp
      have hkk : k ≠ k' := by
        intro hkk; rw [← hkk] at h1; exact hji (hi.inj j i k h1 hk)
      exact ⟨k', by rw [List.getElem?_set_ne (Ne.symm hji)]; exact h1,
        by rw [List.getElem?_set_ne hkk]; exact h2⟩
  · intro j p hj hp
    rw [hpcs, pcs_after h j] at hj
    rw [hcur]
    by_cases hji : j = i
    · rw [hji]; exact List.getElem?_set_self hilt
    · simp only [hji, if_false] at hj
      rw [List.getElem?_set_ne (Ne.symm hji)]; exact hi.nonholder j p hj hp
  · intro a b x ha hb
    rw [hcur] at ha hb
    have hai : a ≠ i := by
      intro hai; rw [hai, List.getElem?_set_self hilt] at ha; cases ha
    have hbi : b ≠ i := by
      intro hbi; rw [hbi, List.getElem?_set_self hilt] at hb; cases hb
    rw [List.getElem?_set_ne (Ne.symm hai)] at ha
    rw [List.getElem?_set_ne (Ne.symm hbi)] at hb
    exact hi.inj a b x ha hb
  · intro k' v hv
    rw [hrels] at hv
    rw [hcur]
    by_cases hkk : k = k'
    · rw [← hkk, List.getElem?_set_self hklt, hk0] at hv
      simp at hv
      exact Or.inr hv.symm
    · rw [List.getElem?_set_ne hkk] at hv
      rcases hi.relsOk k' v hv with ⟨hv0, j, hj⟩ | hv1
      · left
        refine ⟨hv0, j, ?_⟩
        have hji : j ≠ i := by
          intro hji; rw [hji, hk] at hj
          have : k = k' := by injection hj with hj; injection hj
          exact hkk this
        rw [List.getElem?_set_ne (Ne.symm hji)]; exact hj
      · exact Or.inr hv1
  · rw [hbad, hi.good]
    simp [St.heldItem, hk0]

theorem step_invI {c : Cfg} {s s' : St} {e : Ev} (hi : InvI c s) (hs : step c s e = some s') : InvI c s' := by
  obtain ⟨i, old, new, m⟩ := step_along hs
  have he := m.edge
  cases he with
  | acq => exact invI_acq hi m.pc _ m.pcs m.cur m.rels m.acquired m.badUse
  | rel => exact invI_rel hi m.pc m.guard _ m.pcs m.cur m.rels m.acquired m.badUse
  | shoot i k =>
    refine invI_move hi m.pc _ m.pcs m.cur m.rels m.acquired ?_ rfl
    have hk : s.cur[i]? = some (some k) := m.guard
    have hb : s'.badUse = (s.badUse || !s.heldItem k) := m.badUse
    simp [hb, hi.good, St.heldItem, cur_held hi hk]
  | _ => exact invI_move hi m.pc _ m.pcs m.cur m.rels m.acquired (m.badUse.trans hi.good) rfl

/-- at the end of the pool no instance holds anything, so every item has been released exactly once -/
theorem all_released {c : Cfg} {s : St} (hi : InvI c s) (ht : s.terminal = true) (k : Nat) (hk : k < s.acquired) :
    s.rels[k]? = some 1 := by
  have hlt : k < s.rels.length := by rw [hi.relsLen]; exact hk
  have hv : s.rels[k]? = some s.rels[k] := List.getElem?_eq_getElem hlt
  rcases hi.relsOk k _ hv with ⟨_, i, hcur⟩ | h1
  · -- some instance still holds it: impossible at the end
    exfalso
    have hilt : i < s.pcs.length := by
      have := lt_of_get hcur; rw [hi.curLen] at this; rw [hi.pcsLen]; exact this
    have hp : s.pcs[i]? = some s.pcs[i] := List.getElem?_eq_getElem hilt
    unfold St.terminal at ht
    rw [List.all_eq_true] at ht
    have := ht s.pcs[i] (List.getElem_mem hilt)
    have hnh : s.pcs[i].holds = false := by
      simp at this
      rcases this with h | h <;> rw [h] <;> rfl
    have := hi.nonholder i _ hp hnh
    rw [hcur] at this; cases this
  · rw [hv, h1]

end Pandora.Proofs.C03
