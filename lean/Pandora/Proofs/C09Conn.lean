/-
C09 — helper lemmas about the connection model (`connStep` / `connRun` / `gunConns` of Pandora.Model.C09):
invariants of the per-gun idle pools and the decomposition of the global count into per-gun counts.
-/
import Pandora.Model.C09

namespace Pandora.Proofs.C09
open Pandora.Model.C09

/-! ## counting idle connections -/

theorem count_set (l : List Bool) (g : Nat) (b : Bool) (hg : g < l.length) :
    (l.set g b).count true + (if l.getD g false then 1 else 0) = l.count true + (if b then 1 else 0) := by
  induction l generalizing g with
  | nil => simp at hg
  | cons a t ih =>
    cases g with
    | zero => cases a <;> cases b <;> simp
    | succ g' =>
      have hg' : g' < t.length := by simpa using hg
      have := ih g' hg'
      simp only [List.set_cons_succ, List.count_cons, List.getD_cons_succ]
      simp only [List.getD_eq_getElem?_getD] at this ⊢
      omega

/-! ## the run keeps the number of guns -/

theorem connStep_length (ka : Bool) (st : List Bool × Nat) (f : Flight) :
    (connStep ka st f).1.length = st.1.length := by
  unfold connStep
  split <;> simp

theorem connRunFrom_length (ka : Bool) (st : List Bool × Nat) (fs : List Flight) :
    (connRunFrom ka st fs).1.length = st.1.length := by
  induction fs generalizing st with
  | nil => rfl
  | cons f fs ih =>
    simp only [connRunFrom, List.foldl_cons] at ih ⊢
    rw [ih, connStep_length]

theorem connRunFrom_cons (ka : Bool) (st : List Bool × Nat) (f : Flight) (fs : List Flight) :
    connRunFrom ka st (f :: fs) = connRunFrom ka (connStep ka st f) fs := rfl

/-! ## keep-alive: connections = idle connections held + requests that asked to close -/

/-- one event: the connection it dials is paid for by the idle connection it did not find -/
theorem connStep_account (st : List Bool × Nat) (f : Flight) (hf : f.gun < st.1.length) :
    (connStep true st f).2 + st.1.count true =
      st.2 + (connStep true st f).1.count true + (if f.arrived && f.close then 1 else 0) := by
  have hc := count_set st.1 f.gun (true && !f.close) hf
  simp only [connStep] at hc ⊢
  generalize f.arrived = a, f.close = c, st.1.getD f.gun false = i at hc ⊢
  cases a
  · simp
  · cases c <;> cases i <;> simp at hc ⊢ <;> omega

theorem connRunFrom_keepalive (st : List Bool × Nat) (fs : List Flight) (hg : ∀ f ∈ fs, f.gun < st.1.length) :
    (connRunFrom true st fs).2 + st.1.count true =
      st.2 + (connRunFrom true st fs).1.count true + countClosing fs := by
  induction fs generalizing st with
  | nil => simp [connRunFrom, countClosing]
  | cons f fs ih =>
    have h1 := connStep_account st f (hg f List.mem_cons_self)
    have h2 := ih (connStep true st f) (fun f' hf' => by rw [connStep_length]; exact hg f' (List.mem_cons_of_mem _ hf'))
    rw [connRunFrom_cons]
    simp only [countClosing]
    omega

/-! ## no keep-alive: no connection is ever idle, every arriving request dials -/

theorem connRunFrom_no_keepalive (st : List Bool × Nat) (fs : List Flight) (hidle : st.1.count true = 0) :
    (connRunFrom false st fs).2 = st.2 + countArrived fs ∧ (connRunFrom false st fs).1.count true = 0 := by
  induction fs generalizing st with
  | nil => simp [connRunFrom, countArrived, hidle]
  | cons f fs ih =>
    rw [connRunFrom_cons]
    simp only [countArrived]
    by_cases ha : f.arrived = true
    · have hget : st.1.getD f.gun false = false := by
        rw [List.getD_eq_getElem?_getD]
        cases hq : st.1[f.gun]? with
        | none => rfl
        | some b =>
          cases b with
          | false => rfl
          | true =>
            have hm : true ∈ st.1 := List.mem_of_getElem? hq
            have : 0 < st.1.count true := List.count_pos_iff.mpr hm
            omega
      have hidle' : ((st.1.set f.gun false)).count true = 0 := by
        by_cases hlt : f.gun < st.1.length
        · have := count_set st.1 f.gun false hlt
          simp only [hget, Bool.false_eq_true, if_false] at this
          omega
        · rw [List.set_eq_of_length_le (by omega)]; exact hidle
      have := ih (connStep false st f) (by simpa [connStep, ha] using hidle')
      simp only [connStep, ha, Bool.not_true, Bool.false_eq_true, if_false, Bool.false_and, hget, if_true] at this ⊢
      refine ⟨by omega, this.2⟩
    · have ha' : f.arrived = false := by simpa using ha
      have := ih st hidle
      simp only [connStep, ha', Bool.not_false, if_true, Bool.false_eq_true, if_false] at this ⊢
      refine ⟨by omega, this.2⟩

/-! ## decomposition into per-gun runs -/

def sumRange (n : Nat) (F : Nat → Nat) : Nat := ((List.range n).map F).sum

theorem sumRange_succ (n : Nat) (F : Nat → Nat) : sumRange (n + 1) F = sumRange n F + F n := by
  simp [sumRange, List.range_succ]

theorem sumRange_congr (n : Nat) (F G : Nat → Nat) (h : ∀ i, i < n → F i = G i) : sumRange n F = sumRange n G := by
  induction n with
  | zero => rfl
  | succ n ih =>
    rw [sumRange_succ, sumRange_succ, ih (fun i hi => h i (by omega)), h n (by omega)]

/-- two functions that differ at one index `g < n` only -/
theorem sumRange_update (n g d : Nat) (F F' : Nat → Nat) (hg : g < n) (hne : ∀ i, i ≠ g → F i = F' i)
    (heq : F g = d + F' g) : sumRange n F = d + sumRange n F' := by
  induction n with
  | zero => omega
  | succ n ih =>
    rw [sumRange_succ, sumRange_succ]
    by_cases hgn : g = n
    · subst hgn
      rw [sumRange_congr g F F' (fun i hi => hne i (by omega)), heq]
      omega
    · rw [ih (by omega), hne n (fun e => hgn e.symm)]
      omega

/-- the flights of gun `g`, in order -/
def flightsOf (g : Nat) (fs : List Flight) : List Flight := fs.filter (fun f => f.gun == g)

theorem connRunFrom_decompose (ka : Bool) (st : List Bool × Nat) (fs : List Flight)
    (hg : ∀ f ∈ fs, f.gun < st.1.length) :
    (connRunFrom ka st fs).2 =
      st.2 + sumRange st.1.length (fun g => gunConns ka (st.1.getD g false) (flightsOf g fs)) := by
  induction fs generalizing st with
  | nil =>
    have hz : ∀ n, sumRange n (fun _ => 0) = 0 := by
      intro n; induction n with
      | zero => rfl
      | succ n ih => rw [sumRange_succ, ih]
    simp [connRunFrom, flightsOf, gunConns, hz]
  | cons f fs ih =>
    have hf : f.gun < st.1.length := hg f List.mem_cons_self
    have hrest : ∀ f' ∈ fs, f'.gun < (connStep ka st f).1.length := by
      intro f' hf'
      rw [connStep_length]
      exact hg f' (List.mem_cons_of_mem _ hf')
    rw [connRunFrom_cons, ih _ hrest, connStep_length]
    by_cases ha : f.arrived = true
    · -- the step changes gun f.gun only
      have hupd := sumRange_update st.1.length f.gun (if st.1.getD f.gun false then 0 else 1)
        (fun g => gunConns ka (st.1.getD g false) (flightsOf g (f :: fs)))
        (fun g => gunConns ka ((connStep ka st f).1.getD g false) (flightsOf g fs)) hf
        (by
          intro i hi
          have hne : (f.gun == i) = false := by simpa using fun e => hi e.symm
          simp only [flightsOf, List.filter_cons, hne, Bool.false_eq_true, if_false, connStep, ha, Bool.not_true]
          congr 1
          simp only [List.getD_eq_getElem?_getD]
          rw [List.getElem?_set_ne (fun e => hi e.symm)])
        (by
          simp only [flightsOf, List.filter_cons, beq_self_eq_true, if_true, gunConns, ha, Bool.not_true,
            Bool.false_eq_true, if_false, connStep]
          congr 2
          simp only [List.getD_eq_getElem?_getD]
          rw [List.getElem?_set_self hf]
          rfl)
      rw [hupd]
      simp only [connStep, ha, Bool.not_true, Bool.false_eq_true, if_false]
      omega
    · have ha' : f.arrived = false := by simpa using ha
      have hsame : (connStep ka st f) = st := by simp [connStep, ha']
      rw [hsame]
      congr 1
      apply sumRange_congr
      intro i _
      simp only [flightsOf, List.filter_cons]
      by_cases hi : (f.gun == i) = true
      · simp [hi, gunConns, ha']
      · simp [hi]

theorem count_true_replicate_false (n : Nat) : (List.replicate n false).count true = 0 := by
  induction n with
  | zero => rfl
  | succ n ih => simp [List.replicate_succ, ih]

theorem countClosing_zero (fs : List Flight) (hc : ∀ f ∈ fs, f.close = false) : countClosing fs = 0 := by
  induction fs with
  | nil => rfl
  | cons f fs ih =>
    simp only [countClosing, hc f List.mem_cons_self, Bool.and_false, Bool.false_eq_true, if_false, Nat.zero_add]
    exact ih (fun f' h' => hc f' (List.mem_cons_of_mem _ h'))

theorem getD_replicate_false (n g : Nat) : (List.replicate n false).getD g false = false := by
  simp only [List.getD_eq_getElem?_getD, List.getElem?_replicate]
  split <;> rfl

/-- one gun, keep-alive, nobody asks to close: at most one connection -/
theorem gunConns_keepalive_le_one (idle : Bool) (fs : List Flight) (hc : ∀ f ∈ fs, f.close = false) :
    gunConns true idle fs ≤ 1 ∧ (idle = true → gunConns true idle fs = 0) := by
  induction fs generalizing idle with
  | nil => simp [gunConns]
  | cons f fs ih =>
    have hcf : f.close = false := hc f List.mem_cons_self
    have hrest : ∀ f' ∈ fs, f'.close = false := fun f' h' => hc f' (List.mem_cons_of_mem _ h')
    simp only [gunConns]
    by_cases ha : f.arrived = true
    · simp only [ha, Bool.not_true, Bool.false_eq_true, if_false, hcf, Bool.not_false, Bool.and_self]
      have := (ih true hrest).2 rfl
      rw [this]
      cases idle <;> simp
    · have ha' : f.arrived = false := by simpa using ha
      simp only [ha', Bool.not_false, if_true]
      exact ih idle hrest

/-! ## shared clients: several guns on one transport -/

theorem getD_set_true (l : List Bool) (i j : Nat) :
    (l.set i true).getD j false = ((decide (i = j) && decide (i < l.length)) || l.getD j false) := by
  simp only [List.getD_eq_getElem?_getD, List.getElem?_set]
  by_cases h : i = j
  · subst h
    by_cases hl : i < l.length
    · simp [hl]
    · simp [hl]
  · simp [h]

/-- **Merging guns onto shared transports never costs connections** (keep-alive, nobody asks to close, one request at a
time): a simulation between the run of the guns `st` and the run of the clients `st'` they are mapped to by `φ` — whenever a
gun holds an idle connection, so does its client. -/
theorem connRunFrom_merge (φ : Nat → Nat) (st st' : List Bool × Nat) (fs : List Flight)
    (hg : ∀ f ∈ fs, f.gun < st.1.length) (hφ : ∀ f ∈ fs, φ f.gun < st'.1.length)
    (hc : ∀ f ∈ fs, f.close = false)
    (hR : ∀ g, st.1.getD g false = true → st'.1.getD (φ g) false = true)
    (hle : st'.2 ≤ st.2) :
    (connRunFrom true st' (fs.map fun f => { f with gun := φ f.gun })).2 ≤ (connRunFrom true st fs).2 := by
  induction fs generalizing st st' with
  | nil => simpa [connRunFrom] using hle
  | cons f fs ih =>
    have hf' : φ f.gun < st'.1.length := hφ f List.mem_cons_self
    have hcf : f.close = false := hc f List.mem_cons_self
    rw [List.map_cons, connRunFrom_cons, connRunFrom_cons]
    by_cases ha : f.arrived = true
    · -- both pools take the connection back; the client dials only if the gun does
      have e1 : connStep true st f = (st.1.set f.gun true, st.2 + if st.1.getD f.gun false then 0 else 1) := by
        simp [connStep, ha, hcf]
      have e2 : connStep true st' { f with gun := φ f.gun } =
          (st'.1.set (φ f.gun) true, st'.2 + if st'.1.getD (φ f.gun) false then 0 else 1) := by
        simp [connStep, ha, hcf]
      rw [e1, e2]
      refine ih _ _ (fun f' h' => by simpa using hg f' (List.mem_cons_of_mem _ h'))
        (fun f' h' => by simpa using hφ f' (List.mem_cons_of_mem _ h')) (fun f' h' => hc f' (List.mem_cons_of_mem _ h')) ?_ ?_
      · intro g h
        rw [getD_set_true] at h ⊢
        by_cases hgf : f.gun = g
        · subst hgf; simp [hf']
        · rw [decide_eq_false hgf, Bool.false_and, Bool.false_or] at h
          rw [hR g h, Bool.or_true]
      · show st'.2 + _ ≤ st.2 + _
        cases hid : st.1.getD f.gun false
        · cases st'.1.getD (φ f.gun) false <;> simp <;> omega
        · rw [hR f.gun hid]; simp; omega
    · have ha' : f.arrived = false := by simpa using ha
      have e1 : connStep true st f = st := by simp [connStep, ha']
      have e2 : connStep true st' { f with gun := φ f.gun } = st' := by simp [connStep, ha']
      rw [e1, e2]
      exact ih _ _ (fun f' h' => hg f' (List.mem_cons_of_mem _ h')) (fun f' h' => hφ f' (List.mem_cons_of_mem _ h'))
        (fun f' h' => hc f' (List.mem_cons_of_mem _ h')) hR hle

/-! ## time: the pool with idle expiry and lost answers -/

theorem tconnStep_length (t : Transport) (st : List Bool × Nat) (f : TFlight) :
    (tconnStep t st f).1.length = st.1.length := by
  unfold tconnStep
  split <;> simp

theorem tconnRunFrom_cons (t : Transport) (st : List Bool × Nat) (f : TFlight) (fs : List TFlight) :
    tconnRunFrom t st (f :: fs) = tconnRunFrom t (tconnStep t st f) fs := rfl

theorem tconnRunFrom_length (t : Transport) (st : List Bool × Nat) (fs : List TFlight) :
    (tconnRunFrom t st fs).1.length = st.1.length := by
  induction fs generalizing st with
  | nil => rfl
  | cons f fs ih => rw [tconnRunFrom_cons, ih, tconnStep_length]

/-- a quiet step — the pause stays below the idle timeout and the answer comes in time — is the untimed step -/
theorem tconnStep_quiet (t : Transport) (st : List Bool × Nat) (f : TFlight)
    (he : idleExpired t f.pause = false) (hl : responseLost t f.delay = false) :
    tconnStep t st f = connStep (keeps t) st f.untimed := by
  simp [tconnStep, connStep, TFlight.untimed, he, hl]

/-- **refinement**: a run without expiry and without lost answers is the untimed run of the same flights -/
theorem tconnRunFrom_quiet (t : Transport) (st : List Bool × Nat) (fs : List TFlight)
    (hq : ∀ f ∈ fs, idleExpired t f.pause = false ∧ responseLost t f.delay = false) :
    tconnRunFrom t st fs = connRunFrom (keeps t) st (fs.map TFlight.untimed) := by
  induction fs generalizing st with
  | nil => rfl
  | cons f fs ih =>
    rw [tconnRunFrom_cons, List.map_cons, connRunFrom_cons,
      tconnStep_quiet t st f (hq f List.mem_cons_self).1 (hq f List.mem_cons_self).2]
    exact ih _ (fun f' h' => hq f' (List.mem_cons_of_mem _ h'))

/-- two transports that treat every flight of a run alike give the same run -/
theorem tconnRunFrom_congr (t t' : Transport) (fs : List TFlight)
    (h : ∀ f ∈ fs, ∀ st, tconnStep t st f = tconnStep t' st f) (st : List Bool × Nat) :
    tconnRunFrom t st fs = tconnRunFrom t' st fs := by
  induction fs generalizing st with
  | nil => rfl
  | cons f fs ih =>
    rw [tconnRunFrom_cons, tconnRunFrom_cons, h f List.mem_cons_self st]
    exact ih (fun f' h' => h f' (List.mem_cons_of_mem _ h')) _

/-- one event with time: besides a request that asks to close, an expired idle connection or a lost answer pays -/
theorem tconnStep_account (t : Transport) (st : List Bool × Nat) (f : TFlight) (hf : f.gun < st.1.length)
    (hk : keeps t = true) :
    (tconnStep t st f).2 + st.1.count true ≤
      st.2 + (tconnStep t st f).1.count true + (if f.arrived && f.close then 1 else 0) +
        (if f.arrived && idleExpired t f.pause then 1 else 0) + (if f.arrived && responseLost t f.delay then 1 else 0) := by
  have hc := count_set st.1 f.gun (keeps t && !f.close && !responseLost t f.delay) hf
  simp only [tconnStep, hk, Bool.true_and] at hc ⊢
  generalize f.arrived = a, f.close = c, st.1.getD f.gun false = i, idleExpired t f.pause = e,
    responseLost t f.delay = l at hc ⊢
  cases a
  · simp
  · cases c <;> cases i <;> cases e <;> cases l <;> simp at hc ⊢ <;> omega

/-- the general account: connections + idle connections held before = connections before + idle connections held after
+ what was given up on the way; every arriving request gives up at most one connection, and only for one of four
reasons: the transport keeps none, the request asked to close, the idle connection expired, the answer was lost -/
theorem tconnRunFrom_bound (t : Transport) (st : List Bool × Nat) (fs : List TFlight)
    (hg : ∀ f ∈ fs, f.gun < st.1.length) (hk : keeps t = true) :
    (tconnRunFrom t st fs).2 + st.1.count true ≤
      st.2 + (tconnRunFrom t st fs).1.count true +
        countClosing (fs.map TFlight.untimed) + countExpired t fs + countLost t fs := by
  induction fs generalizing st with
  | nil => simp [tconnRunFrom, countClosing, countExpired, countLost]
  | cons f fs ih =>
    have h1 := tconnStep_account t st f (hg f List.mem_cons_self) hk
    have h2 := ih (tconnStep t st f) (fun f' hf' => by rw [tconnStep_length]; exact hg f' (List.mem_cons_of_mem _ hf'))
    rw [tconnRunFrom_cons]
    simp only [List.map_cons, countClosing, countExpired, countLost, TFlight.untimed]
    omega

theorem countClosing_map_untimed_zero (fs : List TFlight) (hc : ∀ f ∈ fs, f.close = false) :
    countClosing (fs.map TFlight.untimed) = 0 :=
  countClosing_zero _ (List.forall_mem_map.mpr hc)

end Pandora.Proofs.C09
