/-
C06 helper lemmas: the atomic drop counter counts every dropped sample (Model/C06DropCount.lean).
-/
import Pandora.Model.C06DropCount

namespace Pandora.Proofs.C06DropCount
open Pandora.Model.C06DropCount

/-- after `n` completed `dropSample` calls the counter is `n`; exactly the first of them saw `dropped == 1` -/
def CInv (n : Nat) (st : St) : Prop := st.c = n ∧ st.done = n ∧ st.first = (if n = 0 then 0 else 1)

theorem cinv_init : CInv 0 {} := ⟨rfl, rfl, rfl⟩

theorem inc_step {n : Nat} {st : St} (h : CInv n st) (t : Nat) : CInv (n + 1) (step .inc st t) := by
  obtain ⟨h1, h2, h3⟩ := h
  simp only [step, CInv]
  refine ⟨by omega, by omega, ?_⟩
  rw [h3, h1]
  by_cases hd : n = 0 <;> simp [hd]

theorem inc_run (sched : List Nat) {n : Nat} {st : St} (h : CInv n st) :
    CInv (n + sched.length) (run .inc st sched) := by
  induction sched generalizing n st with
  | nil => exact h
  | cons t ts ih =>
    have := ih (inc_step h t)
    rwa [Nat.add_assoc, Nat.add_comm 1] at this

end Pandora.Proofs.C06DropCount
