/-
C08: the transition system with I/O faults (`Model.C08Fault.FSys`) — what survives a fault at any point.
Core Lean only.
-/
import Pandora.Proofs.C08Conc
import Pandora.Model.C08Fault

namespace Pandora.Proofs.C08
open Pandora.Model.C08

/-- the deferred cleanup of every kind closes the sink on every path -/
theorem finishOf_closes (k : Kind) (r : RunRes) (cl : CloseOut) : (finishOf k r cl).closesSink = true := by
  unfold finishOf finishHttp finishPlain
  cases k <;> cases cl <;> simp [Kind.isHttp]

/-- Close is called exactly when there is one -/
theorem finishOf_calls (k : Kind) (r : RunRes) (cl : CloseOut) : (finishOf k r cl).callsClose = decide (cl ≠ .absent) := by
  unfold finishOf finishHttp finishPlain
  cases k <;> cases cl <;> simp [Kind.isHttp]

/-- what `Run` hands to its caller is the loop's own result unless Close failed (http family) -/
theorem finalClass_keep (k : Kind) (r : RunRes) (cl : CloseOut) (h : cl ≠ .fails ∨ k.isHttp = false) :
    finalClass k r cl = if r = .errOther then none else some r := by
  unfold finalClass finishOf finishHttp finishPlain
  cases k <;> cases cl <;> simp_all [Kind.isHttp]

/-- … and a Close that fails is always reported by the http family, whatever the loop's result -/
theorem finalClass_fails (k : Kind) (r : RunRes) (h : k.isHttp = true) : finalClass k r .fails = none := by
  unfold finalClass finishOf finishHttp
  simp only [h, if_true]
  by_cases hr : r = .nil <;> simp [hr]

/-- so a result that reaches the caller as it is is the loop's own, no I/O error, and Close did not fail in the http family -/
theorem finalClass_eq_some {k : Kind} {r x : RunRes} {cl : CloseOut} (h : finalClass k r cl = some x) :
    r = x ∧ r ≠ .errOther ∧ (cl ≠ .fails ∨ k.isHttp = false) := by
  by_cases hc : cl ≠ .fails ∨ k.isHttp = false
  · rw [finalClass_keep k r cl hc] at h
    split at h
    · cases h
    · rename_i hr
      exact ⟨Option.some.inj h, hr, hc⟩
  · have h1 : cl = .fails := by cases cl <;> simp_all
    have h2 : k.isHttp = true := by cases hk : k.isHttp <;> simp_all
    rw [h1, finalClass_fails k r h2] at h
    cases h

/-- after a fault: the loop has ended with an error, the sink is closed, nothing is on offer; what was sent is
still a prefix of the cyclic file within the bounds -/
structure FaultInv (inp : Input) (n cap : Nat) (s : Sys) : Prop where
  seq : s.acquired ++ s.buf = cycl n s.sent
  below : Below inp.b n s.sent
  bufcap : s.buf.length ≤ cap
  res : s.result = some .errOther
  closed : s.closed = true
  noOffer : s.offering = none
  ended : s.ended ≠ [] → s.closed = true ∧ s.buf = []

def FInv (inp : Input) (n cap : Nat) (f : FSys) : Prop :=
  if f.faulted then FaultInv inp n cap f.s else SysInv inp n cap f.s

theorem fInv_init (inp : Input) (n cap : Nat) (hn : 0 < n) : FInv inp n cap (FSys.init inp n) := by
  simp only [FInv, FSys.init]
  exact sysInv_init inp n cap hn

/-- transitions of the underlying system from a faulted state: only consumers and the context move -/
theorem faultInv_next (inp : Input) (n cap cons : Nat) (s s' : Sys) (l : Label)
    (hi : FaultInv inp n cap s) (h : s.next inp n cap cons l = some s') : FaultInv inp n cap s' := by
  have hres := hi.res
  have hoff := hi.noOffer
  cases l with
  | prod => simp [Sys.next, hres] at h
  | push => simp [Sys.next, hoff] at h
  | hand c => simp [Sys.next, hoff] at h
  | done => simp [Sys.next, hres] at h
  | recv c =>
    obtain ⟨i, rest, hb, _, _, rfl⟩ := next_recv_some h
    have hsent : (Sys.sent { s with buf := rest, log := s.log ++ [(c, i)] }) = s.sent := by
      simp [Sys.sent, hb]; omega
    refine ⟨?_, ?_, ?_, hi.res, hi.closed, hi.noOffer, ?_⟩
    · rw [hsent, ← hi.seq]; simp [Sys.acquired, hb]
    · rw [hsent]; exact hi.below
    · have := hi.bufcap; simp [hb] at this; simp; omega
    · intro he
      have := (hi.ended he).2
      simp [hb] at this
  | eoa c =>
    obtain ⟨hcl, hbuf, _, _, rfl⟩ := next_eoa_some h
    exact ⟨hi.seq, hi.below, hi.bufcap, hi.res, hi.closed, hi.noOffer, fun _ => ⟨hcl, hbuf⟩⟩
  | cancel =>
    simp only [Sys.next] at h
    cases h
    exact ⟨hi.seq, hi.below, hi.bufcap, hi.res, hi.closed, hi.noOffer, hi.ended⟩

theorem fInv_next (inp : Input) (n cap cons : Nat) (hn : 0 < n) (f f' : FSys) (l : FLabel)
    (hi : FInv inp n cap f) (h : f.next inp n cap cons l = some f') : FInv inp n cap f' := by
  cases l with
  | sys l =>
    simp only [FSys.next, Option.map_eq_some_iff] at h
    obtain ⟨s', hs', rfl⟩ := h
    unfold FInv at hi ⊢
    by_cases hf : f.faulted = true
    · simp only [hf, if_true] at hi ⊢
      exact faultInv_next inp n cap cons f.s s' l hi hs'
    · simp only [hf] at hi ⊢
      exact sysInv_next inp n cap cons hn f.s s' l hi hs'
  | ioerr =>
    simp only [FSys.next] at h
    split at h
    · rename_i hc
      cases h
      unfold FInv at hi ⊢
      by_cases hf : f.faulted = true
      · -- a faulted system has returned: the label is not enabled
        simp only [hf, if_true] at hi
        have := hi.res
        simp [this] at hc
      · simp only [hf] at hi
        simp only [if_true]
        have hres : f.s.result = none := by simpa using hc.1
        obtain ⟨hcl, _, _⟩ := hi.running hres
        refine ⟨hi.seq, hi.below, hi.bufcap, rfl, finishOf_closes _ _ _, by simpa using hc.2.1, ?_⟩
        intro he
        have := hi.ended he
        simp [hcl] at this
    · cases h

theorem frun_append (inp : Input) (n cap cons : Nat) (f : FSys) (a b : List FLabel) :
    f.run inp n cap cons (a ++ b) = (f.run inp n cap cons a).run inp n cap cons b := by
  simp [FSys.run, List.foldl_append]

theorem fInv_run (inp : Input) (n cap cons : Nat) (hn : 0 < n) (ls : List FLabel) (f : FSys)
    (hi : FInv inp n cap f) : FInv inp n cap (f.run inp n cap cons ls) := by
  induction ls generalizing f with
  | nil => exact hi
  | cons l ls ih =>
    simp only [FSys.run, List.foldl_cons]
    cases hs : f.next inp n cap cons l with
    | none => simpa [FSys.run] using ih f hi
    | some f' => simpa [FSys.run] using ih f' (fInv_next inp n cap cons hn f f' l hi hs)

theorem fInv_reach (inp : Input) (n cons : Nat) (hn : 0 < n) (ls : List FLabel) :
    FInv inp n inp.kind.chanCap (freach inp n cons ls) :=
  fInv_run inp n _ cons hn ls _ (fInv_init inp n _ hn)

/-- a schedule without fault labels is a schedule of the fault-free system -/
theorem frun_sys (inp : Input) (n cap cons : Nat) (ls : List Label) (f : FSys) :
    f.run inp n cap cons (ls.map FLabel.sys) = { f with s := f.s.run inp n cap cons ls } := by
  induction ls generalizing f with
  | nil => rfl
  | cons l ls ih =>
    simp only [List.map_cons, FSys.run, List.foldl_cons, Sys.run]
    cases hs : f.s.next inp n cap cons l with
    | none =>
      have : f.next inp n cap cons (.sys l) = none := by simp [FSys.next, hs]
      simp only [this, Option.getD_none]
      simpa [FSys.run, Sys.run] using ih f
    | some s' =>
      have : f.next inp n cap cons (.sys l) = some { f with s := s' } := by simp [FSys.next, hs]
      simp only [this, Option.getD_some]
      simpa [FSys.run, Sys.run] using ih { f with s := s' }

/-- the `faulted` flag tells exactly whether the loop ended with an I/O error -/
theorem faulted_iff (inp : Input) (n cons : Nat) (hn : 0 < n) (ls : List FLabel) :
    (freach inp n cons ls).faulted = true ↔ (freach inp n cons ls).s.result = some .errOther := by
  have hi := fInv_reach inp n cons hn ls
  unfold FInv at hi
  constructor
  · intro hf
    simp only [hf, if_true] at hi
    exact hi.res
  · intro hr
    by_cases hf : (freach inp n cons ls).faulted = true
    · exact hf
    · simp only [hf] at hi
      obtain ⟨_, _, h3⟩ := hi.returned _ hr
      rcases h3 with ⟨h3, _⟩ | ⟨_, h3 | h3⟩
      · cases h3
      · cases h3
      · unfold doneResOf at h3; split at h3 <;> cases h3

end Pandora.Proofs.C08
