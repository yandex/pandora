/-
C12 — the engine layer (`Model/C12Engine`): n pools + the await loop of `Engine.Run` as one transition system.  For all
interleavings: every pool stays a reachable state of the single-pool layer; the engine's loop state is what the sequential
loop `engSeq` (= the regenerated `engineRun`, Bridge/C12Startup) computes from what it has received; and the run of a
pool is cancelled only if the caller cancelled, a pool failed, or all pools had finished by themselves.  Core Lean only.
-/
import Pandora.Model.C12Engine
import Pandora.Proofs.C12Pool

namespace Pandora.Proofs.C12
open Pandora.Model.C04 Pandora.Model.C12 Pandora.Proofs.C04 Pandora.Go.C12

/-! ### who sets `sawRunCancelled` in a pool -/

theorem checkAll_base (p : PSt) : (checkAll p).base = p.base := by
  unfold checkAll
  split <;> rfl

theorem rps_sawRun (c : Cfg) (s : St) : (step c s .rpsFinished).sawRunCancelled = s.sawRunCancelled := by
  show (if c.perInstance || !anyInstance s then s else _).sawRunCancelled = _
  split <;> rfl

theorem ammoRes_sawRun (c : Cfg) (s : St) : (step c s .outOfAmmoResult).sawRunCancelled = s.sawRunCancelled := by
  show (if !s.ammoOut then s else _).sawRunCancelled = _
  split <;> rfl

/-- the start loop's own events leave the run alone -/
theorem step_loop_sawRun (c : Cfg) (s : St) (ev : Event) (hne : ev ≠ .runCancel) (hl : isLoopEvent ev = true) :
    (step c s ev).sawRunCancelled = s.sawRunCancelled := by
  rcases loop_event_cases c s ev hl with rfl | ⟨b, hb, hs⟩
  · exact absurd rfl hne
  · rw [hb]; exact hs.kept.sawRunCancelled

theorem acts_startOnly_sawRun (c : Cfg) (acts : List PoolAct) (s : St) (h : ∀ a ∈ acts, a = PoolAct.cancel Ctx.start) :
    (acts.foldl (applyAct c) s).sawRunCancelled = s.sawRunCancelled := by
  induction acts generalizing s with
  | nil => rfl
  | cons a rest ih =>
    simp only [List.foldl_cons]
    rw [ih _ (fun x hx => h x (List.mem_cons_of_mem _ hx))]
    have ha := h a (List.mem_cons_self ..)
    subst ha
    exact ammoRes_sawRun c s

theorem onRunResult_noReport (a sf : Bool) (ce : Ctx → Bool)
    (h : (onRunResult a sf ce).contains PoolAct.reportErr = false) :
    ∀ x ∈ onRunResult a sf ce, x = PoolAct.cancel Ctx.start := by
  unfold onRunResult at h ⊢
  cases a <;> cases sf <;> cases hce : ce Ctx.run <;> simp_all

theorem onStartResult_noReport (ce : Ctx → Bool)
    (h : (onStartResult ce).contains PoolAct.reportErr = false) :
    ∀ x ∈ onStartResult ce, x = PoolAct.cancel Ctx.start := by
  unfold onStartResult at h ⊢
  cases hce : ce Ctx.start <;> simp_all

theorem onOtherResult_noReport (ce : Ctx → Bool)
    (h : (onOtherResult ce).contains PoolAct.reportErr = false) :
    ∀ x ∈ onOtherResult ce, x = PoolAct.cancel Ctx.start := by
  unfold onOtherResult at h ⊢
  cases hce : ce Ctx.run <;> simp_all

/-- a step of a pool other than the run cancel from outside marks the run as cancelled only by reporting an error -/
theorem poolStep_sawRun (c : Cfg) (p : PSt) (ev : PEvent) (hne : ev ≠ .loop .runCancel)
    (h : (poolStep c p ev).base.sawRunCancelled = true) :
    p.base.sawRunCancelled = true ∨ reportsErr p ev = true := by
  cases ev with
  | loop ev' =>
    left
    have hne' : ev' ≠ .runCancel := fun hx => hne (by rw [hx])
    simp only [poolStep] at h
    by_cases hl : isLoopEvent ev' = true
    · simp only [hl, Bool.not_true, Bool.false_eq_true, if_false] at h
      rwa [step_loop_sawRun c p.base ev' hne' hl] at h
    · simp only [hl, Bool.not_false, if_true] at h
      exact h
  | iter id it e ne =>
    left
    simp only [poolStep] at h
    split at h
    · exact h
    · split at h
      · split at h
        · rwa [rps_sawRun] at h
        · exact h
      · simp only [leave] at h
        split at h
        · rwa [rps_sawRun] at h
        · exact h
  | panic id =>
    left
    simp only [poolStep] at h
    split at h
    · exact h
    · exact h
  | recvRun i =>
    simp only [poolStep] at h
    cases hp : p.pending[i]? with
    | none =>
      left
      simpa [hp] using h
    | some x =>
      obtain ⟨id, k⟩ := x
      simp only [hp, checkAll_base] at h
      by_cases hr : reportsErr p (.recvRun i) = true
      · exact Or.inr hr
      · left
        have hr' : (onRunResult (k == .exit .ammoEnd) p.aw.startFinished
            (fun _ => k == .exit .scheduleEnd || k == .exit .cancelled)).contains PoolAct.reportErr = false := by
          simpa [reportsErr, hp] using hr
        rwa [acts_startOnly_sawRun c _ _ (onRunResult_noReport _ _ _ hr')] at h
  | recvStart =>
    simp only [poolStep] at h
    by_cases hg : (p.base.phase != .done || p.aw.startFinished) = true
    · left
      simpa [hg] using h
    · have hg' : (p.base.phase != .done || p.aw.startFinished) = false := by simpa using hg
      simp only [hg', Bool.false_eq_true, if_false, checkAll_base] at h
      by_cases hr : reportsErr p .recvStart = true
      · exact Or.inr hr
      · left
        have hr' : (onStartResult (fun _ => p.base.ret != .create)).contains PoolAct.reportErr = false := by
          simpa [reportsErr, hg'] using hr
        rwa [acts_startOnly_sawRun c _ _ (onStartResult_noReport _ hr')] at h

  | recvOther ce =>
    simp only [poolStep] at h
    by_cases hr : reportsErr p (.recvOther ce) = true
    · exact Or.inr hr
    · left
      have hr' : (onOtherResult (fun _ => ce)).contains PoolAct.reportErr = false := by
        simpa [reportsErr] using hr
      rwa [acts_startOnly_sawRun c _ _ (onOtherResult_noReport _ hr')] at h

/-- once the pool has found everything finished it stays so -/
theorem poolStep_cancelled_mono (c : Cfg) (p : PSt) (ev : PEvent) (h : p.poolCancelled = true) :
    (poolStep c p ev).poolCancelled = true := by
  cases ev with
  | loop ev' =>
    simp only [poolStep]
    split <;> exact h
  | iter id it e ne =>
    simp only [poolStep]
    split
    · exact h
    · split
      · exact h
      · exact h
  | panic id =>
    simp only [poolStep]
    split <;> exact h
  | recvRun i =>
    simp only [poolStep]
    split
    · exact h
    · unfold checkAll
      split
      · rfl
      · exact h
  | recvStart =>
    simp only [poolStep]
    split
    · exact h
    · unfold checkAll
      split
      · rfl
      · exact h
  | recvOther ce => exact h

/-! ### the sequential loop of `Engine.Run`, one reception at a time -/

theorem engSeq_append_of_none (n : Int) (l l' : List EngEv) (i : Int) (h : (engSeq n i l).ret = none) :
    engSeq n i (l ++ l') = engSeq n (engSeq n i l).awaited l' := by
  induction l generalizing i with
  | nil =>
    simp only [engSeq] at h ⊢
    by_cases hlt : i < n
    · simp [hlt]
    · simp [hlt] at h
  | cons ev rest ih =>
    simp only [engSeq, List.cons_append] at h ⊢
    by_cases hlt : i < n
    · simp only [hlt, if_true] at h ⊢
      cases ev with
      | result errNil =>
        cases errNil with
        | false => simp at h
        | true =>
          simp only [Bool.not_true, Bool.false_eq_true, if_false] at h ⊢
          exact ih (i + 1) h
      | ctxDone => simp at h
    · simp [hlt] at h

theorem engSeq_nil_none (n i : Int) (h : (engSeq n i []).ret = none) : i < n ∧ (engSeq n i []).awaited = i := by
  simp only [engSeq] at h ⊢
  by_cases hlt : i < n
  · simp [hlt]
  · simp [hlt] at h

/-- one reception while the loop is still waiting (so `i < n`) -/
theorem engSeq_one (n i : Int) (hlt : i < n) (ev : EngEv) :
    engSeq n i [ev] = match ev with
      | .result true => (if i + 1 < n then { awaited := i + 1, ret := none } else { awaited := i + 1, ret := some .ok })
      | .result false => { awaited := i, ret := some .failed }
      | .ctxDone => { awaited := i, ret := some .cancelled } := by
  cases ev with
  | result b => cases b <;> simp [engSeq, hlt]
  | ctxDone => simp [engSeq, hlt]

/-! ### counting the awaited pools -/

def cntUpTo (f : Nat → Bool) : Nat → Nat
  | 0 => 0
  | m + 1 => cntUpTo f m + (if f m then 1 else 0)

theorem cntUpTo_le (f : Nat → Bool) (m : Nat) : cntUpTo f m ≤ m := by
  induction m with
  | zero => simp [cntUpTo]
  | succ m ih => simp only [cntUpTo]; split <;> omega

theorem cntUpTo_full (f : Nat → Bool) (m : Nat) (h : cntUpTo f m = m) : ∀ j, j < m → f j = true := by
  induction m with
  | zero => intro j hj; omega
  | succ m ih =>
    simp only [cntUpTo] at h
    have hle := cntUpTo_le f m
    by_cases hf : f m = true
    · simp only [hf, if_true] at h
      intro j hj
      by_cases hjm : j = m
      · rw [hjm]; exact hf
      · exact ih (by omega) j (by omega)
    · simp only [hf, Bool.false_eq_true, if_false] at h
      omega

theorem cntUpTo_congr (f g : Nat → Bool) (m : Nat) (h : ∀ j, j < m → f j = g j) : cntUpTo f m = cntUpTo g m := by
  induction m with
  | zero => rfl
  | succ m ih =>
    simp only [cntUpTo]
    rw [ih (fun j hj => h j (by omega)), h m (by omega)]

theorem cntUpTo_set (f g : Nat → Bool) (j m : Nat) (hj : f j = false) (hgj : g j = true)
    (hg : ∀ k, k ≠ j → g k = f k) :
    cntUpTo g m = cntUpTo f m + (if j < m then 1 else 0) := by
  induction m with
  | zero => simp [cntUpTo]
  | succ m ih =>
    simp only [cntUpTo, ih]
    by_cases hjm : j = m
    · subst hjm
      simp [hj, hgj]
    · rw [hg m (fun hx => hjm hx.symm)]
      by_cases hlt : j < m
      · have : j < m + 1 := by omega
        simp [hlt, this]; omega
      · have : ¬ j < m + 1 := by omega
        simp [hlt, this]

/-! ### the invariant of the engine layer -/

structure EInv (c : Nat → Cfg) (toks : Nat → List Int) (e : ESt) : Prop where
  /-- every pool is a reachable state of the single-pool layer -/
  reach : ∀ j, ∃ pevs, (e.pool j).p = poolRun (c j) (PSt.init (toks j)) pevs
  /-- the loop state is what the sequential loop computes from what it has received -/
  src : e.eng = engSeq e.n 0 e.recvd
  retOk : ∀ j, j < e.n → (e.pool j).ret = some true → (e.pool j).p.poolCancelled = true
  retErr : (∃ j, j < e.n ∧ (e.pool j).ret = some false) →
    e.callerCancelled = true ∨ ∃ k, k < e.n ∧ (e.pool k).failed = true
  cnt : e.eng.ret ≠ some .failed → e.eng.awaited = (cntUpTo (fun j => (e.pool j).awaited) e.n : Int)
  waiting : e.eng.ret = none → e.eng.awaited < e.n
  awaitedTrue : ∀ j, j < e.n → (e.pool j).awaited = true → (e.pool j).ret = some true ∨ e.eng.ret = some .failed
  okAll : e.eng.ret = some .ok → e.eng.awaited = e.n
  failedR : e.eng.ret = some .failed → ∃ j, j < e.n ∧ (e.pool j).ret = some false
  cancelledR : e.eng.ret = some .cancelled → e.callerCancelled = true
  saw : ∀ j, j < e.n → (e.pool j).p.base.sawRunCancelled = true → (e.pool j).failed = true ∨ e.ctxDone = true

theorem engSeq_zero_nil (n : Nat) :
    (0 < n → engSeq (n : Int) 0 [] = { awaited := 0, ret := none }) ∧
      (n = 0 → engSeq (n : Int) 0 [] = { awaited := 0, ret := some .ok }) := by
  constructor
  · intro h
    have : (0 : Int) < (n : Int) := by omega
    simp only [engSeq, this, if_true]
  · intro h
    subst h
    simp [engSeq]

theorem EInv.init (c : Nat → Cfg) (toks : Nat → List Int) (n : Nat) : EInv c toks (ESt.init n toks) := by
  have hc : ∀ m, cntUpTo (fun _ => false) m = 0 := by
    intro m
    induction m with
    | zero => rfl
    | succ m ih => simp [cntUpTo, ih]
  have heng : (ESt.init n toks).eng = engSeq (n : Int) 0 [] := rfl
  refine ⟨fun j => ⟨[], rfl⟩, rfl, ?_, ?_, ?_, ?_, ?_, ?_, ?_, ?_, ?_⟩
  · intro j _ h; simp [ESt.init] at h
  · rintro ⟨j, _, h⟩; simp [ESt.init] at h
  · intro _
    rw [heng]
    show _ = ((cntUpTo (fun _ => false) n : Nat) : Int)
    rw [hc]
    rcases Nat.eq_zero_or_pos n with h0 | hpos
    · rw [(engSeq_zero_nil n).2 h0]; rfl
    · rw [(engSeq_zero_nil n).1 hpos]; rfl
  · intro h
    rw [heng] at h ⊢
    show _ < (n : Int)
    rcases Nat.eq_zero_or_pos n with h0 | hpos
    · rw [(engSeq_zero_nil n).2 h0] at h; simp at h
    · rw [(engSeq_zero_nil n).1 hpos]; show (0 : Int) < n; omega
  · intro j _ h; simp [ESt.init] at h
  · intro h
    rw [heng] at h ⊢
    show _ = (n : Int)
    rcases Nat.eq_zero_or_pos n with h0 | hpos
    · rw [(engSeq_zero_nil n).2 h0]; show (0 : Int) = n; omega
    · rw [(engSeq_zero_nil n).1 hpos] at h; simp at h
  · intro h
    rw [heng] at h
    rcases Nat.eq_zero_or_pos n with h0 | hpos
    · rw [(engSeq_zero_nil n).2 h0] at h; simp at h
    · rw [(engSeq_zero_nil n).1 hpos] at h; simp at h
  · intro h
    rw [heng] at h
    rcases Nat.eq_zero_or_pos n with h0 | hpos
    · rw [(engSeq_zero_nil n).2 h0] at h; simp at h
    · rw [(engSeq_zero_nil n).1 hpos] at h; simp at h
  · intro j _ h; simp [ESt.init, PSt.init, St.init] at h

theorem poolRun_snoc (c : Cfg) (p : PSt) (evs : List PEvent) (ev : PEvent) :
    poolRun c p (evs ++ [ev]) = poolStep c (poolRun c p evs) ev := by
  simp [poolRun, List.foldl_append]

/-- the engine's context becoming done (everything else as in `e`): every pool gets the run cancel -/
theorem cancelAll_inv (c : Nat → Cfg) (toks : Nat → List Int) (e : ESt) (h : EInv c toks e) (hd : e.ctxDone = true) :
    EInv c toks (cancelAll c e) := by
  refine ⟨fun j => ?_, h.src, fun j hj hr => ?_, h.retErr, h.cnt, h.waiting, h.awaitedTrue, h.okAll, h.failedR,
    h.cancelledR, fun j _ _ => Or.inr hd⟩
  · obtain ⟨pevs, hp⟩ := h.reach j
    refine ⟨pevs ++ [.loop .runCancel], ?_⟩
    rw [poolRun_snoc, ← hp]
    rfl
  · exact poolStep_cancelled_mono (c j) _ _ (h.retOk j hj hr)

theorem setPool_same (f : Nat → EPool) (j : Nat) (q : EPool) : setPool f j q j = q := by simp [setPool]
theorem setPool_ne (f : Nat → EPool) (j k : Nat) (q : EPool) (h : k ≠ j) : setPool f j q k = f k := by simp [setPool, h]

/-- Every conjunct of `EInv` reads the pools pointwise.  A step that replaces pool `j` by `q'` and leaves the engine
loop alone keeps the invariant if `q'` is reached by one more pool event, keeps the awaited flag, a result already there
and a `failed` flag already up, and satisfies the clauses about its own result and its own run cancel. -/
theorem setPool_inv (c : Nat → Cfg) (toks : Nat → List Int) (e : ESt) (h : EInv c toks e) (j : Nat) (q' : EPool)
    (hreach : ∃ pevs, q'.p = poolRun (c j) (PSt.init (toks j)) pevs)
    (haw : q'.awaited = (e.pool j).awaited)
    (hret : ∀ r, (e.pool j).ret = some r → q'.ret = some r)
    (hfail : (e.pool j).failed = true → q'.failed = true)
    (hretOk : q'.ret = some true → q'.p.poolCancelled = true)
    (hretErr : q'.ret = some false →
      (e.pool j).ret = some false ∨ e.callerCancelled = true ∨ ∃ k, k < e.n ∧ (e.pool k).failed = true)
    (hsaw : q'.p.base.sawRunCancelled = true → (e.pool j).p.base.sawRunCancelled = true ∨ q'.failed = true) :
    EInv c toks { e with pool := setPool e.pool j q' } := by
  -- pool `k` after the step: `q'` or as before
  have hk : ∀ k, (k = j ∧ setPool e.pool j q' k = q') ∨ setPool e.pool j q' k = e.pool k := by
    intro k
    by_cases hkj : k = j
    · exact .inl ⟨hkj, by rw [hkj, setPool_same]⟩
    · exact .inr (setPool_ne _ _ _ _ hkj)
  have hretk : ∀ k r, (e.pool k).ret = some r → (setPool e.pool j q' k).ret = some r := by
    intro k r hr
    rcases hk k with ⟨rfl, hq⟩ | hq <;> rw [hq]
    · exact hret r hr
    · exact hr
  have hfailk : ∀ k, (e.pool k).failed = true → (setPool e.pool j q' k).failed = true := by
    intro k hf
    rcases hk k with ⟨rfl, hq⟩ | hq <;> rw [hq]
    · exact hfail hf
    · exact hf
  have hawk : ∀ k, (setPool e.pool j q' k).awaited = (e.pool k).awaited := by
    intro k
    rcases hk k with ⟨rfl, hq⟩ | hq <;> rw [hq]
    exact haw
  have hcause : e.callerCancelled = true ∨ (∃ k, k < e.n ∧ (e.pool k).failed = true) →
      e.callerCancelled = true ∨ ∃ k, k < e.n ∧ (setPool e.pool j q' k).failed = true :=
    Or.imp_right fun ⟨k, hk, hf⟩ => ⟨k, hk, hfailk k hf⟩
  refine ⟨fun k => ?_, h.src, fun k hkn hr => ?_, fun ⟨k, hkn, hr⟩ => ?_, fun hne => ?_, h.waiting, fun k hkn ha => ?_,
    h.okAll, fun hf => ?_, h.cancelledR, fun k hkn hs => ?_⟩
  · show ∃ pevs, (setPool e.pool j q' k).p = _
    rcases hk k with ⟨rfl, hq⟩ | hq <;> rw [hq]
    · exact hreach
    · exact h.reach k
  · change (setPool e.pool j q' k).ret = some true at hr
    show (setPool e.pool j q' k).p.poolCancelled = true
    rcases hk k with ⟨rfl, hq⟩ | hq <;> rw [hq] at hr ⊢
    · exact hretOk hr
    · exact h.retOk k hkn hr
  · change (setPool e.pool j q' k).ret = some false at hr
    refine hcause ?_
    rcases hk k with ⟨rfl, hq⟩ | hq <;> rw [hq] at hr
    · rcases hretErr hr with hr0 | hc
      · exact h.retErr ⟨k, hkn, hr0⟩
      · exact hc
    · exact h.retErr ⟨k, hkn, hr⟩
  · show e.eng.awaited = ((cntUpTo (fun k => (setPool e.pool j q' k).awaited) e.n : Nat) : Int)
    rw [cntUpTo_congr _ (fun k => (e.pool k).awaited) e.n (fun k _ => hawk k)]
    exact h.cnt hne
  · exact (h.awaitedTrue k hkn ((hawk k).symm.trans ha)).imp_left (hretk k _)
  · obtain ⟨k, hkn, hr⟩ := h.failedR hf
    exact ⟨k, hkn, hretk k _ hr⟩
  · change (setPool e.pool j q' k).p.base.sawRunCancelled = true at hs
    show (setPool e.pool j q' k).failed = true ∨ _
    rcases hk k with ⟨rfl, hq⟩ | hq <;> rw [hq] at hs ⊢
    · rcases hsaw hs with ho | hn
      · exact (h.saw k hkn ho).imp_left hfail
      · exact .inl hn
    · exact h.saw k hkn hs

/-- a pool whose `Run` has not returned while the engine's context is done: the caller cancelled or a pool failed -/
theorem ctxDone_cause (c : Nat → Cfg) (toks : Nat → List Int) (e : ESt) (h : EInv c toks e) (j : Nat) (hj : j < e.n)
    (hnone : (e.pool j).ret = none) (hd : e.ctxDone = true) :
    e.callerCancelled = true ∨ ∃ k, k < e.n ∧ (e.pool k).failed = true := by
  simp only [ESt.ctxDone, Bool.or_eq_true] at hd
  rcases hd with hc | hret
  · exact .inl hc
  · -- `Engine.Run` has returned: how?
    simp only [ESt.returned] at hret
    cases hres : e.eng.ret with
    | none => rw [hres] at hret; cases hret
    | some r =>
      cases r with
      | ok =>
        -- then every pool had returned already
        have hall := h.okAll hres
        have hcnt := h.cnt (by rw [hres]; simp)
        have hfull : cntUpTo (fun k => (e.pool k).awaited) e.n = e.n := by omega
        rcases h.awaitedTrue j hj (cntUpTo_full _ _ hfull j hj) with hr1 | hr1
        · rw [hnone] at hr1; cases hr1
        · rw [hres] at hr1; cases hr1
      | failed => exact h.retErr (h.failedR hres)
      | cancelled => exact .inl (h.cancelledR hres)

/-- the await loop of `Engine.Run`, still waiting, receives the result `b` of pool `j` -/
theorem recvResult_inv (c : Nat → Cfg) (toks : Nat → List Int) (e : ESt) (h : EInv c toks e) (j : Nat) (b : Bool)
    (hj : j < e.n) (hnone : e.eng.ret = none) (hna : (e.pool j).awaited = false) (hret : (e.pool j).ret = some b) :
    EInv c toks { e with pool := setPool e.pool j ({ e.pool j with awaited := true } : EPool),
                         eng := engSeq e.n e.eng.awaited [.result b], recvd := e.recvd ++ [.result b] } := by
  have hi : e.eng.awaited < (e.n : Int) := h.waiting hnone
  have hsrc0 : (engSeq (e.n : Int) 0 e.recvd).ret = none := by rw [← h.src]; exact hnone
  have hsrc : engSeq (e.n : Int) e.eng.awaited [.result b] = engSeq (e.n : Int) 0 (e.recvd ++ [.result b]) := by
    rw [engSeq_append_of_none _ _ _ _ hsrc0, ← h.src]
  have hcnt0 := h.cnt (by rw [hnone]; simp)
  have hcnt1 : cntUpTo (fun k => (setPool e.pool j ({ e.pool j with awaited := true } : EPool) k).awaited) e.n =
      cntUpTo (fun k => (e.pool k).awaited) e.n + 1 := by
    rw [cntUpTo_set (fun k => (e.pool k).awaited) _ j e.n hna (by simp [setPool])
      (fun k hk => by simp [setPool, hk])]
    simp [hj]
  -- only the awaited flag of pool `j` moves
  have hq : ∀ k, (setPool e.pool j ({ e.pool j with awaited := true } : EPool) k).p = (e.pool k).p ∧
      (setPool e.pool j ({ e.pool j with awaited := true } : EPool) k).ret = (e.pool k).ret ∧
      (setPool e.pool j ({ e.pool j with awaited := true } : EPool) k).failed = (e.pool k).failed := by
    intro k
    by_cases hk : k = j
    · subst hk; rw [setPool_same]; exact ⟨rfl, rfl, rfl⟩
    · rw [setPool_ne _ _ _ _ hk]; exact ⟨rfl, rfl, rfl⟩
  have hpk := fun k => (hq k).1
  have hrk := fun k => (hq k).2.1
  have hfk := fun k => (hq k).2.2
  have hone := engSeq_one (e.n : Int) e.eng.awaited hi (.result b)
  refine ⟨fun k => ?_, hsrc, fun k hk hr => ?_, fun hex => ?_, fun hne => ?_, fun hw => ?_, fun k hk ha => ?_,
    fun hok => ?_, fun hf => ?_, fun hc => ?_, fun k hk hs => ?_⟩
  · show ∃ pevs, (setPool e.pool j _ k).p = _
    rw [hpk k]; exact h.reach k
  · show (setPool e.pool j _ k).p.poolCancelled = true
    rw [hpk k]
    exact h.retOk k hk (by rw [← hrk k]; exact hr)
  · obtain ⟨k, hk, hr⟩ := hex
    rcases h.retErr ⟨k, hk, by rw [← hrk k]; exact hr⟩ with hc | ⟨k', hk', hf⟩
    · exact Or.inl hc
    · exact Or.inr ⟨k', hk', by show (setPool e.pool j _ k').failed = true; rw [hfk k']; exact hf⟩
  · show (engSeq (e.n : Int) e.eng.awaited [.result b]).awaited = ((cntUpTo _ e.n : Nat) : Int)
    rw [hcnt1, hone]
    cases b with
    | true => simp only; split <;> (simp only; omega)
    | false => exact absurd (by rw [hone]) hne
  · show (engSeq (e.n : Int) e.eng.awaited [.result b]).awaited < (e.n : Int)
    have hw' : (engSeq (e.n : Int) e.eng.awaited [.result b]).ret = none := hw
    rw [hone] at hw' ⊢
    cases b with
    | true =>
      simp only at hw' ⊢
      split at hw'
      · rename_i hlt; simp only [hlt, if_true]
      · cases hw'
    | false => cases hw'
  · have ha' : (setPool e.pool j ({ e.pool j with awaited := true } : EPool) k).awaited = true := ha
    show (setPool e.pool j _ k).ret = some true ∨ (engSeq (e.n : Int) e.eng.awaited [.result b]).ret = some .failed
    rw [hrk k]
    by_cases hkj : k = j
    · subst hkj
      cases b with
      | true => exact Or.inl hret
      | false => right; rw [hone]
    · rw [setPool_ne _ _ _ _ hkj] at ha'
      rcases h.awaitedTrue k hk ha' with hr | hr
      · exact Or.inl hr
      · rw [hnone] at hr; cases hr
  · show (engSeq (e.n : Int) e.eng.awaited [.result b]).awaited = (e.n : Int)
    have hok' : (engSeq (e.n : Int) e.eng.awaited [.result b]).ret = some .ok := hok
    rw [hone] at hok' ⊢
    cases b with
    | true =>
      simp only at hok' ⊢
      split at hok'
      · cases hok'
      · rename_i hlt; simp only [hlt, if_false]; omega
    | false => cases hok'
  · have hf' : (engSeq (e.n : Int) e.eng.awaited [.result b]).ret = some .failed := hf
    rw [hone] at hf'
    cases b with
    | true =>
      simp only at hf'
      split at hf' <;> cases hf'
    | false => exact ⟨j, hj, by show (setPool e.pool j _ j).ret = _; rw [hrk j]; exact hret⟩
  · have hc' : (engSeq (e.n : Int) e.eng.awaited [.result b]).ret = some .cancelled := hc
    rw [hone] at hc'
    cases b with
    | true =>
      simp only at hc'
      split at hc' <;> cases hc'
    | false => cases hc'
  · have hs' : (setPool e.pool j ({ e.pool j with awaited := true } : EPool) k).p.base.sawRunCancelled = true := hs
    rw [hpk k] at hs'
    show (setPool e.pool j _ k).failed = true ∨ _
    rw [hfk k]
    rcases h.saw k hk hs' with hf | hd
    · exact Or.inl hf
    · right
      simp only [ESt.ctxDone, ESt.returned, hnone, Option.isSome_none, Bool.or_false] at hd
      simp only [ESt.ctxDone, hd, Bool.true_or]

/-- the await loop of `Engine.Run`, still waiting, takes its `ctx.Done()` case (the caller has cancelled) -/
theorem seesCancel_inv (c : Nat → Cfg) (toks : Nat → List Int) (e : ESt) (h : EInv c toks e)
    (hnone : e.eng.ret = none) (hcc : e.callerCancelled = true) :
    EInv c toks { e with eng := engSeq e.n e.eng.awaited [.ctxDone], recvd := e.recvd ++ [.ctxDone] } := by
  have hi : e.eng.awaited < (e.n : Int) := h.waiting hnone
  have hsrc0 : (engSeq (e.n : Int) 0 e.recvd).ret = none := by rw [← h.src]; exact hnone
  have hsrc : engSeq (e.n : Int) e.eng.awaited [.ctxDone] = engSeq (e.n : Int) 0 (e.recvd ++ [.ctxDone]) := by
    rw [engSeq_append_of_none _ _ _ _ hsrc0, ← h.src]
  have hone : engSeq (e.n : Int) e.eng.awaited [.ctxDone] = { awaited := e.eng.awaited, ret := some .cancelled } :=
    engSeq_one (e.n : Int) e.eng.awaited hi .ctxDone
  refine ⟨h.reach, hsrc, h.retOk, h.retErr, fun _ => ?_, fun hw => ?_, fun k hk ha => ?_, fun hok => ?_, fun hf => ?_,
    fun _ => hcc, fun k hk hs => ?_⟩
  · show (engSeq (e.n : Int) e.eng.awaited [.ctxDone]).awaited = _
    rw [hone]
    exact h.cnt (by rw [hnone]; simp)
  · have hw' : (engSeq (e.n : Int) e.eng.awaited [.ctxDone]).ret = none := hw
    rw [hone] at hw'; cases hw'
  · rcases h.awaitedTrue k hk ha with hr | hr
    · exact Or.inl hr
    · rw [hnone] at hr; cases hr
  · have hok' : (engSeq (e.n : Int) e.eng.awaited [.ctxDone]).ret = some .ok := hok
    rw [hone] at hok'; cases hok'
  · have hf' : (engSeq (e.n : Int) e.eng.awaited [.ctxDone]).ret = some .failed := hf
    rw [hone] at hf'; cases hf'
  · right
    simp only [ESt.ctxDone, hcc, Bool.true_or]

theorem engRecv_returned_inv (c : Nat → Cfg) (toks : Nat → List Int) (e' : ESt) (h : EInv c toks e') :
    EInv c toks (if e'.returned then cancelAll c e' else e') := by
  by_cases hr : e'.returned = true
  · rw [if_pos hr]
    exact cancelAll_inv c toks e' h (by simp [ESt.ctxDone, hr])
  · rw [if_neg hr]
    exact h

theorem estep_inv (c : Nat → Cfg) (toks : Nat → List Int) (e : ESt) (ev : EEvent) (h : EInv c toks e) :
    EInv c toks (estep c e ev) := by
  cases ev with
  | pool j pev =>
    simp only [estep]
    by_cases hg : (decide (e.n ≤ j) || pev == .loop .runCancel) = true
    · rw [if_pos hg]; exact h
    · rw [if_neg hg]
      simp only [Bool.or_eq_true, decide_eq_true_eq, beq_iff_eq, not_or] at hg
      obtain ⟨hjn, hne⟩ := hg
      refine setPool_inv c toks e h j _ ?_ rfl (fun _ hr => hr) (fun hf => by simp [hf]) (fun hr => ?_)
        (fun hr => .inl hr) (fun hs => ?_)
      · obtain ⟨pevs, hp⟩ := h.reach j
        exact ⟨pevs ++ [pev], by rw [poolRun_snoc, ← hp]⟩
      · exact poolStep_cancelled_mono (c j) _ pev (h.retOk j (by omega) hr)
      · exact (poolStep_sawRun (c j) _ pev hne hs).imp_right fun hr => by simp [hr]
  | callerCancel =>
    simp only [estep]
    apply cancelAll_inv
    · exact ⟨h.reach, h.src, h.retOk, fun _ => Or.inl rfl, h.cnt, h.waiting, h.awaitedTrue, h.okAll, h.failedR,
        fun _ => rfl, fun _ _ _ => Or.inr (by simp [ESt.ctxDone])⟩
    · simp [ESt.ctxDone]
  | poolReturn j b =>
    simp only [estep]
    by_cases hg : (decide (e.n ≤ j) || (e.pool j).ret.isSome) = true
    · rw [if_pos hg]; exact h
    · rw [if_neg hg]
      simp only [Bool.or_eq_true, decide_eq_true_eq, not_or, Bool.not_eq_true, Option.isSome_eq_false_iff,
        Option.isNone_iff_eq_none] at hg
      obtain ⟨hj, hnone⟩ := hg
      cases b with
      | true =>
        simp only [if_true]
        by_cases hc : (e.pool j).p.poolCancelled = true
        · rw [if_pos hc]
          exact setPool_inv c toks e h j _ (h.reach j) rfl (fun r hr => by rw [hnone] at hr; cases hr) (fun hf => hf)
            (fun _ => hc) (fun hr => by cases hr) (fun hs => .inl hs)
        · rw [if_neg hc]; exact h
      | false =>
        simp only [Bool.false_eq_true, if_false]
        by_cases hc : ((e.pool j).failed || e.ctxDone) = true
        · rw [if_pos hc]
          refine setPool_inv c toks e h j _ (h.reach j) rfl (fun r hr => by rw [hnone] at hr; cases hr) (fun hf => hf)
            (fun hr => by cases hr) (fun _ => .inr ?_) (fun hs => .inl hs)
          rcases (by simpa using hc : (e.pool j).failed = true ∨ e.ctxDone = true) with hf | hd
          · exact .inr ⟨j, by omega, hf⟩
          · exact ctxDone_cause c toks e h j (by omega) hnone hd
        · rw [if_neg hc]; exact h
  | engineRecv j =>
    simp only [estep]
    by_cases hg : (decide (e.n ≤ j) || e.returned || (e.pool j).awaited) = true
    · rw [if_pos hg]; exact h
    · rw [if_neg hg]
      simp only [Bool.or_eq_true, decide_eq_true_eq, not_or, Bool.not_eq_true] at hg
      obtain ⟨⟨hj, hret⟩, hna⟩ := hg
      have hnone : e.eng.ret = none := by
        simp only [ESt.returned] at hret
        cases hr : e.eng.ret with
        | none => rfl
        | some r => rw [hr] at hret; cases hret
      cases hb : (e.pool j).ret with
      | none => exact h
      | some b =>
        simp only [engRecv]
        have key := recvResult_inv c toks e h j b (by omega) hnone hna hb
        have heq : ({ e.pool j with awaited := true } : EPool) =
            { p := (e.pool j).p, failed := (e.pool j).failed, ret := some b, awaited := true } := by
          show EPool.mk _ _ _ _ = _
          rw [hb]
        rw [heq] at key
        exact engRecv_returned_inv c toks _ key
  | engineSeesCancel =>
    simp only [estep]
    by_cases hg : (!e.callerCancelled || e.returned) = true
    · rw [if_pos hg]; exact h
    · rw [if_neg hg]
      simp only [Bool.or_eq_true, Bool.not_eq_true', not_or, Bool.not_eq_false, Bool.not_eq_true] at hg
      obtain ⟨hcc, hret⟩ := hg
      have hnone : e.eng.ret = none := by
        simp only [ESt.returned] at hret
        cases hr : e.eng.ret with
        | none => rfl
        | some r => rw [hr] at hret; cases hret
      simp only [engRecv]
      exact engRecv_returned_inv c toks _ (seesCancel_inv c toks e h hnone hcc)

theorem estep_n (c : Nat → Cfg) (e : ESt) (ev : EEvent) : (estep c e ev).n = e.n := by
  cases ev with
  | pool j pev => simp only [estep]; split <;> rfl
  | callerCancel => rfl
  | poolReturn j b =>
    simp only [estep]
    split
    · rfl
    · split
      · split <;> rfl
      · split <;> rfl
  | engineRecv j =>
    simp only [estep]
    split
    · rfl
    · split
      · rfl
      · simp only [engRecv]; split <;> rfl
  | engineSeesCancel =>
    simp only [estep]
    split
    · rfl
    · simp only [engRecv]; split <;> rfl

theorem erun_n (c : Nat → Cfg) (e : ESt) (evs : List EEvent) : (erun c e evs).n = e.n := by
  induction evs generalizing e with
  | nil => rfl
  | cons ev rest ih =>
    show (erun c (estep c e ev) rest).n = e.n
    rw [ih, estep_n]

theorem erun_inv (c : Nat → Cfg) (toks : Nat → List Int) (e : ESt) (evs : List EEvent) (h : EInv c toks e) :
    EInv c toks (erun c e evs) := by
  induction evs generalizing e with
  | nil => exact h
  | cons ev rest ih => exact ih (estep c e ev) (estep_inv c toks e ev h)

/-- why the run of pool `j` was cancelled: the caller, a pool that failed, or everything of every pool had finished -/
theorem cancel_cause (c : Nat → Cfg) (toks : Nat → List Int) (e : ESt) (h : EInv c toks e) (j : Nat) (hj : j < e.n)
    (hs : (e.pool j).p.base.sawRunCancelled = true) :
    e.callerCancelled = true ∨ (∃ k, k < e.n ∧ (e.pool k).failed = true) ∨
      (∀ k, k < e.n → (e.pool k).ret = some true ∧ (e.pool k).p.poolCancelled = true) := by
  rcases h.saw j hj hs with hf | hd
  · exact Or.inr (Or.inl ⟨j, hj, hf⟩)
  · simp only [ESt.ctxDone, Bool.or_eq_true] at hd
    rcases hd with hc | hret
    · exact Or.inl hc
    · simp only [ESt.returned] at hret
      cases hres : e.eng.ret with
      | none => rw [hres] at hret; cases hret
      | some r =>
        cases r with
        | ok =>
          right; right
          have hall := h.okAll hres
          have hcnt := h.cnt (by rw [hres]; simp)
          have hfull : cntUpTo (fun k => (e.pool k).awaited) e.n = e.n := by omega
          intro k hk
          have haw := cntUpTo_full _ _ hfull k hk
          rcases h.awaitedTrue k hk haw with hr1 | hr1
          · exact ⟨hr1, h.retOk k hk hr1⟩
          · rw [hres] at hr1; cases hr1
        | failed =>
          rcases h.retErr (h.failedR hres) with hc | hf
          · exact Or.inl hc
          · exact Or.inr (Or.inl hf)
        | cancelled => exact Or.inl (h.cancelledR hres)

end Pandora.Proofs.C12
