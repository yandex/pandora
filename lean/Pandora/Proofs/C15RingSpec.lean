/-
C15 helper lemmas: the executable judge `Spec.C15.ringOK` (what the correspondence run applies to the deliveries of the
REAL provider) holds of the deliveries of the model's ring — cyclic delivery of a ring in which scenario i stands
`w_i / gcd(w)` times is periodic, has the right counts in every period and cross-multiplied proportional counts over
every whole number of periods. The feed of `Provider.Run` with `passes` / `limit` is a prefix of that delivery.
-/
import Pandora.Proofs.C15Ring

namespace Pandora.Proofs.C15
open Pandora.Model.C15 Pandora.Spec.C15

/-- the first `n` deliveries of a ring -/
def cycle {α} (R : List α) (n : Nat) : List α := (List.range n).filterMap (deliver R)

theorem deliver_pos {α} (R : List α) (hP : 0 < R.length) (k : Nat) :
    deliver R k = some (R[k % R.length]'(Nat.mod_lt _ hP)) := by
  unfold deliver
  have : (R.length == 0) = false := by simpa using Nat.ne_of_gt hP
  simp [this]

theorem deliver_map {α β} (f : α → β) (R : List α) (k : Nat) : deliver (R.map f) k = (deliver R k).map f := by
  unfold deliver
  by_cases h : R.length = 0
  · simp [h]
  · simp [h]

theorem cycle_map {α β} (f : α → β) (R : List α) (n : Nat) : (cycle R n).map f = cycle (R.map f) n := by
  unfold cycle
  rw [List.map_filterMap]
  congr 1
  funext k
  rw [deliver_map]

theorem cycle_succ {α} (R : List α) (n : Nat) : cycle R (n + 1) = cycle R n ++ (deliver R n).toList := by
  unfold cycle
  rw [List.range_succ, List.filterMap_append]
  cases h : deliver R n <;> simp [h]

theorem cycle_length {α} (R : List α) (hP : 0 < R.length) : ∀ n, (cycle R n).length = n
  | 0 => by simp [cycle]
  | n + 1 => by
    rw [cycle_succ, List.length_append, cycle_length R hP n, deliver_pos R hP]
    simp

/-! ### `Provider.Run` with `passes` / `limit` -/

/-- `feedCount` never exceeds what the consumer takes, nor the option that is set -/
theorem feedCount_le (period p l n : Nat) :
    feedCount period p l n ≤ n ∧ (p ≠ 0 → feedCount period p l n ≤ p * period) ∧
      (l ≠ 0 → feedCount period p l n ≤ l) := by
  simp only [feedCount, beq_iff_eq]
  split <;> split <;> omega

/-- and it is the largest such number: a counter below `n` and below the options that are set is below `feedCount` -/
theorem lt_feedCount (period p l n k : Nat) (hn : k < n) (hp : p = 0 ∨ k < p * period) (hl : l = 0 ∨ k < l) :
    k < feedCount period p l n := by
  simp only [feedCount, beq_iff_eq]
  split <;> split <;> omega

/-- the loop of `Provider.Run` started at counter `k` delivers up to counter `feedCount … (k + fuel)` -/
theorem feedLoop_eq {α} (ring : List α) (hne : ring.length ≠ 0) (p l : Nat) : ∀ (fuel k : Nat),
    feedLoop ring p l fuel k =
      (List.range' k (feedCount ring.length p l (k + fuel) - k)).filterMap (deliver ring)
  | 0, k => by
    rw [feedLoop, Nat.add_zero, Nat.sub_eq_zero_of_le (feedCount_le ring.length p l k).1]; rfl
  | fuel + 1, k => by
    have hc := feedCount_le ring.length p l (k + (fuel + 1))
    rw [feedLoop]
    simp only [Bool.and_eq_true, bne_iff_ne, ne_eq, decide_eq_true_eq, ge_iff_le,
      Nat.le_div_iff_mul_le (Nat.pos_of_ne_zero hne)]
    by_cases hp : p ≠ 0 ∧ p * ring.length ≤ k
    · rw [if_pos hp, Nat.sub_eq_zero_of_le (Nat.le_trans (hc.2.1 hp.1) hp.2)]; rfl
    by_cases hl : l ≠ 0 ∧ l ≤ k
    · rw [if_neg hp, if_pos hl, Nat.sub_eq_zero_of_le (Nat.le_trans (hc.2.2 hl.1) hl.2)]; rfl
    have hlt : k % ring.length < ring.length := Nat.mod_lt _ (Nat.pos_of_ne_zero hne)
    have hk : k < feedCount ring.length p l (k + (fuel + 1)) :=
      lt_feedCount _ p l _ k (by omega) (by omega) (by omega)
    rw [if_neg hp, if_neg hl, List.getElem?_eq_getElem hlt, feedLoop_eq ring hne p l fuel (k + 1),
      show k + 1 + fuel = k + (fuel + 1) by omega,
      show feedCount ring.length p l (k + (fuel + 1)) - k = (feedCount ring.length p l (k + (fuel + 1)) - (k + 1)) + 1 by omega,
      List.range'_succ, List.filterMap_cons, deliver_pos ring (Nat.pos_of_ne_zero hne)]

/-- a consumer taking at most `n` ammo receives the first `feedCount` deliveries of the endless feed -/
theorem feed_eq {α} (ring : List α) (hne : ring.length ≠ 0) (p l n : Nat) :
    feed ring p l n = cycle ring (feedCount ring.length p l n) := by
  rw [feed, if_neg (by simpa using hne), feedLoop_eq ring hne, cycle, List.range_eq_range', Nat.zero_add, Nat.sub_zero]

theorem cycle_getElem? {α} (R : List α) (hP : 0 < R.length) : ∀ (n i : Nat),
    (cycle R n)[i]? = if i < n then deliver R i else none
  | 0, i => by simp [cycle]
  | n + 1, i => by
    rw [cycle_succ]
    by_cases h : i < n
    · rw [List.getElem?_append_left (by rw [cycle_length R hP]; exact h), cycle_getElem? R hP n i]
      simp [h, Nat.lt_succ_of_lt h]
    · rw [List.getElem?_append_right (by rw [cycle_length R hP]; omega), cycle_length R hP]
      by_cases e : i = n
      · subst e
        simp [deliver_pos R hP]
      · have h1 : ¬ i < n + 1 := by omega
        have h2 : i - n ≠ 0 := by omega
        rw [deliver_pos R hP]
        simp [h1]
        omega

theorem cycle_take {α} (R : List α) (hP : 0 < R.length) (n j : Nat) (hj : j ≤ n) : (cycle R n).take j = cycle R j := by
  apply List.ext_getElem?
  intro i
  rw [List.getElem?_take, cycle_getElem? R hP, cycle_getElem? R hP]
  by_cases h : i < j
  · have : i < n := by omega
    simp [h, this]
  · simp [h]

theorem cycle_period {α} (R : List α) (hP : 0 < R.length) : cycle R R.length = R := by
  apply List.ext_getElem?
  intro i
  rw [cycle_getElem? R hP]
  by_cases h : i < R.length
  · rw [if_pos h, deliver_pos R hP, List.getElem?_eq_getElem h]
    simp [Nat.mod_eq_of_lt h]
  · rw [if_neg h]
    exact (List.getElem?_eq_none (by omega)).symm

theorem cycle_add_period {α} (R : List α) (hP : 0 < R.length) (m : Nat) :
    cycle R ((m + 1) * R.length) = cycle R (m * R.length) ++ R := by
  apply List.ext_getElem?
  intro i
  rw [cycle_getElem? R hP]
  have hlen : (cycle R (m * R.length)).length = m * R.length := cycle_length R hP _
  by_cases h : i < m * R.length
  · rw [List.getElem?_append_left (by rw [hlen]; exact h), cycle_getElem? R hP]
    have : i < (m + 1) * R.length := by rw [Nat.succ_mul]; omega
    simp [h, this]
  · rw [List.getElem?_append_right (by rw [hlen]; omega), hlen]
    by_cases h2 : i < (m + 1) * R.length
    · rw [if_pos h2, deliver_pos R hP]
      have hlt : i - m * R.length < R.length := by rw [Nat.succ_mul] at h2; omega
      rw [List.getElem?_eq_getElem hlt]
      congr 1
      have e : i = (i - m * R.length) + R.length * m := by rw [Nat.mul_comm R.length m]; omega
      have : i % R.length = i - m * R.length := by
        conv => lhs; rw [e]
        rw [Nat.add_mul_mod_self_left, Nat.mod_eq_of_lt hlt]
      simp [this]
    · rw [if_neg h2]
      rw [Nat.succ_mul] at h2
      exact (List.getElem?_eq_none (by omega)).symm

theorem cycle_pass {α} (R : List α) (hP : 0 < R.length) (n j : Nat) (hj : (j + 1) * R.length ≤ n) :
    ((cycle R n).drop (j * R.length)).take R.length = R := by
  apply List.ext_getElem?
  intro i
  rw [List.getElem?_take]
  by_cases h : i < R.length
  · rw [if_pos h, List.getElem?_drop, cycle_getElem? R hP]
    have hlt : j * R.length + i < n := by rw [Nat.succ_mul] at hj; omega
    rw [if_pos hlt, deliver_pos R hP, List.getElem?_eq_getElem h]
    have : (j * R.length + i) % R.length = i := by
      rw [Nat.add_comm, Nat.mul_comm, Nat.add_mul_mod_self_left, Nat.mod_eq_of_lt h]
    simp [this]
  · rw [if_neg h]
    exact (List.getElem?_eq_none (by omega)).symm

theorem count_append {α} [BEq α] (a : α) (l1 l2 : List α) : count a (l1 ++ l2) = count a l1 + count a l2 := by
  simp [count, List.filter_append]

theorem count_cycle_whole {α} [BEq α] (a : α) (R : List α) (hP : 0 < R.length) : ∀ m,
    count a (cycle R (m * R.length)) = m * count a R
  | 0 => by simp [cycle, count]
  | m + 1 => by
    rw [cycle_add_period R hP, count_append, count_cycle_whole a R hP m, Nat.succ_mul]

/-! ### the ring of names -/

/-- the names of the ring: scenario i stands `c i` times in a row -/
def ringNames (c : ScenarioCfg → Nat) (scs : List ScenarioCfg) : List (List Char) :=
  scs.flatMap fun sc => List.replicate (c sc) sc.name

theorem ringNames_length (c : ScenarioCfg → Nat) : ∀ scs, (ringNames c scs).length = (scs.map c).foldl (· + ·) 0
  | [] => rfl
  | sc :: rest => by
    have gen : ∀ (l : List Nat) (a : Nat), l.foldl (· + ·) a = a + l.foldl (· + ·) 0 := by
      intro l
      induction l with
      | nil => intro a; simp
      | cons x xs ih => intro a; simp only [List.foldl_cons]; rw [ih (a + x), ih (0 + x)]; omega
    simp only [ringNames, List.flatMap_cons, List.length_append, List.length_replicate, List.map_cons, List.foldl_cons]
    rw [gen _ (0 + c sc)]
    have := ringNames_length c rest
    simp only [ringNames] at this
    omega

theorem count_ringNames_zero (c : ScenarioCfg → Nat) (n : List Char) : ∀ (scs : List ScenarioCfg),
    n ∉ scs.map (·.name) → count n (ringNames c scs) = 0
  | [], _ => rfl
  | x :: xs, h => by
    have hx : ¬ x.name = n := fun e => h (by simp [e])
    have ih := count_ringNames_zero c n xs (fun hm => h (by simp at hm ⊢; exact Or.inr hm))
    have : ringNames c (x :: xs) = List.replicate (c x) x.name ++ ringNames c xs := by simp [ringNames]
    rw [this, count_append, ih]
    have hb : (x.name == n) = false := by simpa using hx
    simp [count, hb]

theorem count_ringNames (c : ScenarioCfg → Nat) : ∀ (scs : List ScenarioCfg), (scs.map (·.name)).Nodup →
    ∀ sc ∈ scs, count sc.name (ringNames c scs) = c sc
  | [], _, sc, hm => by simp at hm
  | x :: xs, hnd, sc, hm => by
    rw [List.map_cons, List.nodup_cons] at hnd
    have : ringNames c (x :: xs) = List.replicate (c x) x.name ++ ringNames c xs := by simp [ringNames]
    rw [this, count_append]
    rcases List.mem_cons.mp hm with e | e
    · subst e
      rw [count_ringNames_zero c sc.name xs hnd.1]
      simp [count]
    · have hne : ¬ x.name = sc.name := by
        intro heq
        exact hnd.1 (heq ▸ List.mem_map.mpr ⟨sc, e, rfl⟩)
      have hb : (x.name == sc.name) = false := by simpa using hne
      rw [count_ringNames c xs hnd.2 sc e]
      simp [count, hb]

theorem ring_names_eq {ρ} (F : ScenarioCfg → Scenario ρ) (hF : ∀ x, (F x).name = x.name) (c : ScenarioCfg → Nat) :
    ∀ scs : List ScenarioCfg, (scs.flatMap fun sc => List.replicate (c sc) (F sc)).map (·.name) = ringNames c scs
  | [] => rfl
  | x :: xs => by
    have ih := ring_names_eq F hF c xs
    simp only [ringNames] at ih ⊢
    simp [List.flatMap_cons, List.map_append, ih, hF]

theorem sub_mod_period (k P : Nat) (h : P ≤ k) : (k - P) % P = k % P := by
  have e : k = (k - P) + P := by omega
  conv => rhs; rw [e]
  exact (Nat.add_mod_right _ _).symm

/-- `ringOK` holds of the cyclic delivery of a ring of names with per-period counts `w / g` -/
theorem ringOK_cycle (scs : List ScenarioCfg) (hnd : (scs.map (·.name)).Nodup) (hw : ∀ sc ∈ scs, 0 ≤ sc.weight) (n : Nat) :
    let w := effW scs.length
    let g := gcdList (scs.map w)
    ringOK (scs.map (·.name)) (scs.map (·.weight)) (cycle (ringNames (fun sc => w sc / g) scs) n) = true := by
  intro w g
  unfold ringOK
  rw [effWeights_eq scs]
  simp only []
  have hper : ((scs.map w).map (· / g)).foldl (· + ·) 0 = (ringNames (fun sc => w sc / g) scs).length := by
    rw [ringNames_length, List.map_map]; rfl
  rw [hper]
  by_cases hne : scs = []
  · subst hne
    simp [gcdList, cycle, ringNames, deliver]
  · obtain ⟨s0, hs0⟩ := List.exists_mem_of_ne_nil scs hne
    have hdvd : ∀ sc ∈ scs, g ∣ w sc := fun sc hsc => gcdList_dvd _ _ (List.mem_map.mpr ⟨sc, hsc, rfl⟩)
    have hwpos : ∀ sc ∈ scs, 0 < w sc := fun sc hsc => effW_pos _ sc (hw sc hsc)
    have hgpos : 0 < g := Nat.pos_of_dvd_of_pos (hdvd s0 hs0) (hwpos s0 hs0)
    have hcpos : ∀ sc ∈ scs, 0 < w sc / g := fun sc hsc =>
      Nat.div_pos (Nat.le_of_dvd (hwpos sc hsc) (hdvd sc hsc)) hgpos
    have hcount : ∀ sc ∈ scs, count sc.name (ringNames (fun sc => w sc / g) scs) = w sc / g :=
      count_ringNames (fun sc => w sc / g) scs hnd
    have hzip : (scs.map (·.name)).zip (scs.map w) = scs.map fun sc => (sc.name, w sc) :=
      List.zip_map'
    obtain ⟨R, hR⟩ : ∃ R, R = ringNames (fun sc => w sc / g) scs := ⟨_, rfl⟩
    rw [← hR] at hcount ⊢
    have hP : 0 < R.length := by
      have hc := hcount s0 hs0
      have hpos := hcpos s0 hs0
      cases R with
      | nil => simp [count] at hc; omega
      | cons _ _ => simp
    have hg0 : (g == 0) = false := by simpa using Nat.ne_of_gt hgpos
    have hP0 : (R.length == 0) = false := by simpa using Nat.ne_of_gt hP
    have hlen : (cycle R n).length = n := cycle_length R hP n
    rw [hg0, hP0, hlen, hzip]
    simp only [Bool.or_false, Bool.false_eq_true, if_false, Bool.and_eq_true]
    refine ⟨?_, ?_⟩
    · -- counts in every complete pass
      rw [List.all_eq_true]
      intro j hj
      rw [List.mem_range] at hj
      have hpass : (j + 1) * R.length ≤ n := (Nat.le_div_iff_mul_le hP).mp hj
      rw [cycle_pass R hP n j hpass]
      rw [List.all_eq_true]
      intro p hp
      obtain ⟨sc, hsc, rfl⟩ := List.mem_map.mp hp
      simp only []
      rw [hcount sc hsc]
      exact beq_self_eq_true _
    · -- cross-multiplied proportionality over whole periods
      rw [cycle_take R hP n _ (Nat.div_mul_le_self n R.length)]
      rw [List.all_eq_true]
      intro pi hpi
      obtain ⟨si, hsi, rfl⟩ := List.mem_map.mp hpi
      rw [List.all_eq_true]
      intro pj hpj
      obtain ⟨sj, hsj, rfl⟩ := List.mem_map.mp hpj
      simp only []
      rw [count_cycle_whole si.name R hP, count_cycle_whole sj.name R hP, hcount si hsi, hcount sj hsj]
      have := cross_mul g (w si) (w sj) (hdvd si hsi) (hdvd sj hsj)
      simp only [beq_iff_eq]
      rw [Nat.mul_assoc, Nat.mul_assoc, this]

end Pandora.Proofs.C15
