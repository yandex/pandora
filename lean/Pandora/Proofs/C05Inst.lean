/-
C05 — lemmas about the instance loop (`Model.C05.Inst`): how an instance can end, ammo accounting, token accounting,
termination.  All by induction over the pass list with the state generalised.
-/
import Pandora.Model.C05Inst

namespace Pandora.Proofs.C05Inst
open Pandora.Model.C05 Pandora.Model.C05.Inst

/-- bookkeeping invariant of the loop, relative to the tokens `n` the schedule had at the start -/
structure Inv (n : Nat) (s : St) : Prop where
  balanced : s.rel = s.acq
  tokens : s.taken + s.left ≤ n
  fired : s.shots + s.disc ≤ s.taken
  /-- an ammo is acquired beyond the tokens taken only in the pass that finds the schedule finished or the context done -/
  ammo : s.acq ≤ s.taken ∨ (s.acq = s.taken + 1 ∧ (s.ctx = true ∨ s.left = 0))

theorem pass_mono (d : Bool) (s : St) (p : Pass) : s.ctx = true → (pass d s p).1.ctx = true := by
  intro h
  simp [pass, isFinished, h]

/-- one pass: what each way out means -/
theorem pass_spec (d : Bool) (s : St) (p : Pass) :
    (∀ s', pass d s p = (s', some .ok) → s'.left = 0 ∧ s'.ctx = false ∧ s'.acq = s.acq) ∧
    (∀ s', pass d s p = (s', some .ooa) → p.ammoOk = false ∧ s'.ctx = false ∧ s'.left ≠ 0 ∧ s'.acq = s.acq) ∧
    (∀ s', pass d s p = (s', some .ctx) → s'.ctx = true) ∧
    (∀ s' e, pass d s p = (s', some (.err e)) → p.panics = some e ∧ s'.shots = s.shots + 1) := by
  fun_cases pass d s p <;> simp_all [isFinished] <;> grind

theorem not_finished {c : Bool} {l : Nat} (h : ¬ isFinished c l = true) : c = false ∧ l ≠ 0 := by
  cases c <;> simp_all [isFinished]

theorem pass_inv (d : Bool) (n : Nat) (s : St) (p : Pass) (h : Inv n s) : Inv n (pass d s p).1 := by
  obtain ⟨h1, h2, h3, h4⟩ := h
  -- inside the loop body no ammo is held: the last pass released it and saw neither a done context nor an empty schedule
  have hle : ¬ isFinished (s.ctx || p.cancel1) (s.left - p.stolen) = true → s.acq ≤ s.taken := fun hf => by
    obtain ⟨hc, hl⟩ := not_finished hf
    rcases h4 with h4 | ⟨_, h4 | h4⟩
    · exact h4
    · simp [h4] at hc
    · omega
  fun_cases pass d s p
  case case1 | case2 =>
    exact ⟨h1, by simp; omega, h3, h4.imp_right (And.imp_right (Or.imp (by simp_all) (by simp; omega)))⟩
  case case3 hf _ _ | case4 hf _ _ _ =>
    have := hle hf
    exact ⟨by simp [h1], by simp; omega, h3, by simp; omega⟩
  case case5 hf _ _ h0 _ | case6 hf _ _ h0 _ _ | case7 hf _ _ h0 _ _ =>
    have := hle hf
    exact ⟨by simp [h1], by simp at h0 ⊢; omega, by simp; omega, .inl (by simp; omega)⟩

theorem run_inv (d : Bool) (n : Nat) (ps : List Pass) (s : St) (h : Inv n s) : Inv n (loop d s ps).1 := by
  fun_induction loop d s ps
  · exact h
  · next s p _ _ _ heq => have := pass_inv d n s p h; rw [heq] at this; exact this
  · next s p _ _ heq ih => have := pass_inv d n s p h; rw [heq] at this; exact ih this

/-- how `Run` can end, over the whole loop -/
theorem run_spec (d : Bool) (ps : List Pass) (s s' : St) :
    (loop d s ps = (s', some .ok) → s'.left = 0 ∧ s'.ctx = false) ∧
    (loop d s ps = (s', some .ooa) → (∃ p ∈ ps, p.ammoOk = false) ∧ s'.ctx = false ∧ s'.left ≠ 0) ∧
    (loop d s ps = (s', some .ctx) → s'.ctx = true) ∧
    (∀ e, loop d s ps = (s', some (.err e)) → ∃ p ∈ ps, p.panics = some e) := by
  fun_induction loop d s ps
  · exact ⟨nofun, nofun, nofun, fun _ => nofun⟩
  · next s p ps s1 r heq =>
    obtain ⟨h1, h2, h3, h4⟩ := pass_spec d s p
    refine ⟨fun h => ?_, fun h => ?_, fun h => ?_, fun e h => ?_⟩ <;> cases h
    · exact ⟨(h1 _ heq).1, (h1 _ heq).2.1⟩
    · exact ⟨⟨p, by simp, (h2 _ heq).1⟩, (h2 _ heq).2.1, (h2 _ heq).2.2.1⟩
    · exact h3 _ heq
    · exact ⟨p, by simp, (h4 _ _ heq).1⟩
  · next s p ps s1 heq ih =>
    obtain ⟨i1, i2, i3, i4⟩ := ih
    exact ⟨i1, fun h => (i2 h).imp_left fun ⟨q, hq, hq'⟩ => ⟨q, List.mem_cons_of_mem _ hq, hq'⟩, i3,
      fun e h => (i4 e h).imp fun q hq => ⟨List.mem_cons_of_mem _ hq.1, hq.2⟩⟩

/-- ranking function of the loop: a pass that does not return takes a token, or leaves nothing to come back for -/
def rank (s : St) : Nat := if s.ctx = true ∨ s.left = 0 then 0 else s.left

theorem rank_zero {s : St} (h : s.ctx = true ∨ s.left = 0) : rank s = 0 := if_pos h

theorem rank_le (s : St) : rank s ≤ s.left := by unfold rank; split <;> omega

theorem rank_of_not_finished {s : St} {c : Bool} {k : Nat} (hf : ¬ isFinished (s.ctx || c) (s.left - k) = true) :
    rank s = s.left ∧ 0 < s.left := by
  obtain ⟨hc, hl⟩ := not_finished hf
  cases h : s.ctx
  · exact ⟨if_neg (by simp [h]; omega), by omega⟩
  · simp [h] at hc

theorem pass_rank (d : Bool) (s : St) (p : Pass) : (pass d s p).2 = none → rank (pass d s p).1 < rank s := by
  fun_cases pass d s p
  case case1 | case2 => nofun
  case case3 hf _ _ | case5 hf _ _ _ _ =>
    exact fun _ => by rw [rank_zero (.inl rfl), (rank_of_not_finished hf).1]; exact (rank_of_not_finished hf).2
  case case4 hf _ _ _ =>
    exact fun _ => by rw [rank_zero (.inr rfl), (rank_of_not_finished hf).1]; exact (rank_of_not_finished hf).2
  case case6 hf _ _ _ _ _ | case7 hf _ _ _ _ _ =>
    refine fun _ => Nat.lt_of_le_of_lt (rank_le _) ?_
    have := rank_of_not_finished hf
    simp only [this.1]; omega

theorem run_terminates (d : Bool) (ps : List Pass) (s : St) (h : rank s < ps.length) : (loop d s ps).2.isSome = true := by
  fun_induction loop d s ps
  · cases h
  · rfl
  · next s p ps s1 heq ih =>
    have := pass_rank d s p
    rw [heq] at this
    have : rank s1 < rank s := this rfl
    simp only [List.length_cons] at h
    exact ih (by omega)

theorem pass_quiet (d : Bool) (s : St) (p : Pass) (hq : p.quiet) (h : s.acq = s.taken ∧ s.ctx = false) :
    (pass d s p).1.acq = (pass d s p).1.taken ∧ ((pass d s p).2 = none → (pass d s p).1.ctx = false) := by
  obtain ⟨q1, q2, q3, q4, q5, q6⟩ := hq
  fun_cases pass d s p <;> simp_all [isFinished] <;> omega

theorem run_quiet (d : Bool) (ps : List Pass) (s : St) (hq : ∀ p ∈ ps, p.quiet) (h : s.acq = s.taken ∧ s.ctx = false) :
    (loop d s ps).1.acq = (loop d s ps).1.taken := by
  fun_induction loop d s ps
  · exact h.1
  · next s p ps s1 r heq => exact (heq ▸ pass_quiet d s p (hq p List.mem_cons_self) h).1
  · next s p ps s1 heq ih =>
    have hp := pass_quiet d s p (hq p List.mem_cons_self) h
    rw [heq] at hp
    exact ih (fun q hq' => hq q (List.mem_cons_of_mem _ hq')) ⟨hp.1, hp.2 rfl⟩

end Pandora.Proofs.C05Inst
