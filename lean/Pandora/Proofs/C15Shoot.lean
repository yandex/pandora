/-
C15 helper lemmas about the step loop of the scenario gun.
-/
import Pandora.Model.C15

namespace Pandora.Proofs.C15
open Pandora.Model.C15

variable {Req Resp : Type}

def stepTag (scName : String) (st : Step ReqDef) : String := scName ++ "." ++ st.req.name

/-- events a successful step appends -/
def okEvents (scName : String) (st : Step ReqDef) (r : Req) (c : Int) : List (Ev Req) :=
  [.request r, .sample (stepTag scName st) c false] ++ (if st.sleep > 0 then [.pause st.sleep] else [])

theorem setKey_setKey {β} (k : String) (v1 v2 : β) : ∀ (l : List (String × β)),
    setKey k v2 (setKey k v1 l) = setKey k v2 l
  | [] => by simp [setKey]
  | (k', v') :: rest => by
    by_cases h : k' == k
    · simp [setKey, h]
    · simp [setKey, h, setKey_setKey k v1 v2 rest]

/-- the value stored under `request.<name>` for an executed step -/
def recVal (r : StepRec) : Val :=
  .map ([("preprocessor", .map r.pre)] ++ match r.post with
    | some p => [("postprocessor", .map p)]
    | none => [])

def preOnly (pv : List (String × Val)) : Val := .map [("preprocessor", .map pv)]

/-- the preprocessor stage of a step (a step without preprocessor yields no variables) -/
def preStage (w : World Req Resp) (source : Val) (st : Step ReqDef) (rv : List (String × Val)) (it : Iter) :
    Outcome (List (String × Val) × Iter) :=
  match st.req.pre with
  | none => .ok ([], it)
  | some m => runPre w.fn (tree source (setKey st.req.name (.map []) rv)) st.req.iter m [] it

/-! ### the five ways through `shootStep` -/

/-- the state after `reportErr`: one failed sample -/
def failed (scName : String) (st : Step ReqDef) (g : GState Req) : GState Req :=
  { g with log := g.log ++ [.sample (failTag (stepTag scName st)) 0 true] }

/-- the state once the preprocessor has yielded `pv`: the templater is handed the tree, the step has a record -/
def afterPre (source : Val) (st : Step ReqDef) (rv pv : List (String × Val)) (it' : Iter) (g : GState Req) : GState Req :=
  { g with iter := it', seen := g.seen ++ [tree source (setKey st.req.name (preOnly pv) rv)],
           recs := g.recs ++ [{ name := st.req.name, pre := pv, post := none }] }

/-- the state once the request has been sent -/
def afterSend (req : Req) (g : GState Req) : GState Req :=
  { g with hist := g.hist ++ [req], log := g.log ++ [.request req] }

/-- **`shootStep` stage by stage**: the preprocessor fails; or it yields `pv` and the templater fails; or that yields
`req` and the transport fails; or that yields `resp` and a postprocessor fails; or all four stages succeed. Each
failure leaves the state reached so far plus one failed sample. -/
theorem shootStep_cases (w : World Req Resp) (source : Val) (scName : String) (st : Step ReqDef)
    (rv : List (String × Val)) (g : GState Req) (b : Bool) (rv' : List (String × Val)) (g' : GState Req)
    (h : shootStep w source scName st rv g = some (b, rv', g')) :
    (∃ e, preStage w source st rv g.iter = .err e ∧ b = false ∧ g' = failed scName st g) ∨
    ∃ pv it', preStage w source st rv g.iter = .ok (pv, it') ∧
      ((w.render st.req (tree source (setKey st.req.name (preOnly pv) rv)) = none ∧ b = false ∧
          g' = failed scName st (afterPre source st rv pv it' g)) ∨
       ∃ req, w.render st.req (tree source (setKey st.req.name (preOnly pv) rv)) = some req ∧
        ((w.target (g.hist ++ [req]) = none ∧ b = false ∧
            g' = failed scName st (afterSend req (afterPre source st rv pv it' g))) ∨
         ∃ resp, w.target (g.hist ++ [req]) = some resp ∧
          ((runPosts w resp st.req.posts [] = none ∧ b = false ∧
              g' = failed scName st (afterSend req (afterPre source st rv pv it' g))) ∨
           ∃ postv, runPosts w resp st.req.posts [] = some postv ∧ b = true ∧
              rv' = setKey st.req.name (recVal { name := st.req.name, pre := pv, post := some postv }) rv ∧
              g' = { afterSend req (afterPre source st rv pv it' g) with
                      log := g.log ++ okEvents scName st req (w.code resp),
                      recs := g.recs ++ [{ name := st.req.name, pre := pv, post := some postv }] }))) := by
  unfold shootStep at h
  simp only [setKey_setKey] at h
  unfold preStage
  split at h
  · cases h
  · rename_i e hp
    cases h
    exact Or.inl ⟨e, hp, rfl, rfl⟩
  · rename_i pv it' hp
    refine Or.inr ⟨pv, it', hp, ?_⟩
    split at h
    · rename_i hr
      cases h
      exact Or.inl ⟨hr, rfl, rfl⟩
    · rename_i req hr
      refine Or.inr ⟨req, hr, ?_⟩
      split at h
      · rename_i ht
        cases h
        exact Or.inl ⟨ht, rfl, rfl⟩
      · rename_i resp ht
        refine Or.inr ⟨resp, ht, ?_⟩
        split at h
        · rename_i hpo
          cases h
          exact Or.inl ⟨hpo, rfl, rfl⟩
        · rename_i postv hpo
          cases h
          refine Or.inr ⟨postv, hpo, rfl, rfl, ?_⟩
          simp [afterSend, afterPre, preOnly, okEvents, stepTag, List.append_assoc]


/-- what one call of `shootStep` does to the log -/
theorem shootStep_log (w : World Req Resp) (source : Val) (scName : String) (st : Step ReqDef)
    (rv : List (String × Val)) (g : GState Req) (b : Bool) (rv' : List (String × Val)) (g' : GState Req)
    (h : shootStep w source scName st rv g = some (b, rv', g')) :
    (b = true → ∃ r c, g'.log = g.log ++ okEvents scName st r c) ∧
    (b = false → ∃ pre : List (Ev Req), (pre = [] ∨ ∃ r, pre = [.request r]) ∧
        g'.log = g.log ++ pre ++ [.sample (failTag (stepTag scName st)) 0 true]) := by
  rcases shootStep_cases w source scName st rv g b rv' g' h with
    ⟨_, _, rfl, rfl⟩ | ⟨pv, it', _, ⟨_, rfl, rfl⟩ | ⟨req, _, ⟨_, rfl, rfl⟩ | ⟨resp, _, ⟨_, rfl, rfl⟩ | ⟨postv, _, rfl, _, rfl⟩⟩⟩⟩
  · exact ⟨nofun, fun _ => ⟨[], Or.inl rfl, by simp [failed]⟩⟩
  · exact ⟨nofun, fun _ => ⟨[], Or.inl rfl, by simp [failed, afterPre]⟩⟩
  · exact ⟨nofun, fun _ => ⟨[.request req], Or.inr ⟨_, rfl⟩, by simp [failed, afterSend, afterPre]⟩⟩
  · exact ⟨nofun, fun _ => ⟨[.request req], Or.inr ⟨_, rfl⟩, by simp [failed, afterSend, afterPre]⟩⟩
  · exact ⟨fun _ => ⟨req, w.code resp, rfl⟩, nofun⟩


/-- one turn of the step loop: the head step failed and the shot is over, or it succeeded and the loop goes on -/
theorem shootLoop_step (w : World Req Resp) (source : Val) (scName : String) (st : Step ReqDef)
    (rest : List (Step ReqDef)) (rv : List (String × Val)) (g : GState Req) (b : Bool) (g' : GState Req)
    (h : shootLoop w source scName (st :: rest) rv g = some (b, g')) :
    (b = false ∧ ∃ rv1, shootStep w source scName st rv g = some (false, rv1, g')) ∨
    ∃ rv1 g1, shootStep w source scName st rv g = some (true, rv1, g1) ∧
      shootLoop w source scName rest rv1 g1 = some (b, g') := by
  simp only [shootLoop] at h
  split at h
  · cases h
  · rename_i rv1 _ hstep
    cases h
    exact Or.inl ⟨rfl, rv1, hstep⟩
  · rename_i rv1 g1 hstep
    exact Or.inr ⟨rv1, g1, hstep, h⟩

/-- events of a run of successful steps -/
def okRun (scName : String) : List (Step ReqDef) → List (Req × Int) → List (Ev Req)
  | st :: steps, (r, c) :: rcs => okEvents scName st r c ++ okRun scName steps rcs
  | _, _ => []

theorem shootLoop_log (w : World Req Resp) (source : Val) (scName : String) :
    ∀ (steps : List (Step ReqDef)) (rv : List (String × Val)) (g : GState Req) (b : Bool) (g' : GState Req),
      shootLoop w source scName steps rv g = some (b, g') →
      (b = true → ∃ rcs : List (Req × Int), rcs.length = steps.length ∧ g'.log = g.log ++ okRun scName steps rcs) ∧
      (b = false → ∃ (i : Nat) (hi : i < steps.length) (rcs : List (Req × Int)) (pre : List (Ev Req)),
          rcs.length = i ∧ (pre = [] ∨ ∃ r, pre = [.request r]) ∧
          g'.log = g.log ++ okRun scName (steps.take i) rcs ++ pre ++
            [.sample (failTag (stepTag scName steps[i])) 0 true])
  | [], rv, g, b, g', h => by
    simp only [shootLoop] at h
    cases h
    exact ⟨fun _ => ⟨[], rfl, by simp [okRun]⟩, by simp⟩
  | st :: rest, rv, g, b, g', h => by
    rcases shootLoop_step w source scName st rest rv g b g' h with ⟨rfl, rv1, hstep⟩ | ⟨rv1, g1, hstep, h⟩
    · obtain ⟨pre, hpre, hlog⟩ := (shootStep_log w source scName st rv g false rv1 g' hstep).2 rfl
      exact ⟨nofun, fun _ => ⟨0, by simp, [], pre, rfl, hpre, by simp [okRun, hlog]⟩⟩
    · obtain ⟨r, c, hlog1⟩ := (shootStep_log w source scName st rv g true rv1 g1 hstep).1 rfl
      obtain ⟨iht, ihf⟩ := shootLoop_log w source scName rest rv1 g1 b g' h
      constructor
      · intro hb
        obtain ⟨rcs, hlen, hlog⟩ := iht hb
        exact ⟨(r, c) :: rcs, by simp [hlen], by simp [okRun, hlog, hlog1, List.append_assoc]⟩
      · intro hb
        obtain ⟨i, hi, rcs, pre, hlen, hpre, hlog⟩ := ihf hb
        exact ⟨i + 1, by simp; omega, (r, c) :: rcs, pre, by simp [hlen], hpre,
          by simp [okRun, hlog, hlog1, List.append_assoc]⟩

/-! ### every executed step is reported exactly once (seed C15-r6-1: a second, failed report of a step that succeeded) -/

def isSample : Ev Req → Bool
  | .sample _ _ _ => true
  | _ => false

def isFailedSample : Ev Req → Bool
  | .sample _ _ true => true
  | _ => false

theorem okEvents_samples (scName : String) (st : Step ReqDef) (r : Req) (c : Int) :
    (okEvents scName st r c).countP isSample = 1 ∧ (okEvents scName st r c).countP isFailedSample = 0 := by
  unfold okEvents
  by_cases h : st.sleep > 0 <;> simp [h, isSample, isFailedSample, List.countP_cons]

theorem okRun_samples (scName : String) : ∀ (steps : List (Step ReqDef)) (rcs : List (Req × Int)),
    rcs.length = steps.length →
    (okRun scName steps rcs).countP isSample = steps.length ∧ (okRun scName steps rcs).countP isFailedSample = 0
  | [], [], _ => by simp [okRun]
  | [], _ :: _, h => by simp at h
  | _ :: _, [], h => by simp at h
  | st :: steps, (r, c) :: rcs, h => by
    have ih := okRun_samples scName steps rcs (by simpa using h)
    have h1 := okEvents_samples scName st r c
    simp only [okRun, List.countP_append, h1.1, h1.2, ih.1, ih.2, List.length_cons]
    exact ⟨by omega, trivial⟩

/-! ### variable flow -/

theorem getKey_setKey_same {β} (k : String) (v : β) : ∀ (l : List (String × β)), getKey k (setKey k v l) = some v
  | [] => by simp [setKey, getKey]
  | (k', v') :: rest => by
    by_cases h : k' == k
    · simp [setKey, getKey, h]
    · have ih := getKey_setKey_same k v rest
      simp only [getKey] at ih
      simp [setKey, getKey, h, ih]

theorem getKey_setKey_other {β} (k k2 : String) (v : β) (hne : (k == k2) = false) :
    ∀ (l : List (String × β)), getKey k2 (setKey k v l) = getKey k2 l
  | [] => by simp [setKey, getKey, List.find?, hne]
  | (k', v') :: rest => by
    have ih := getKey_setKey_other k k2 v hne rest
    simp only [getKey] at ih
    by_cases h : k' == k
    · have hk : k' = k := by simpa using h
      subst hk
      simp [setKey, getKey, List.find?, hne]
    · by_cases h2 : k' == k2
      · simp [setKey, getKey, h, List.find?, h2]
      · simp [setKey, getKey, h, List.find?, h2, ih]

/-- `requestVars` after the given steps -/
def rvOf (recs : List StepRec) : List (String × Val) :=
  recs.foldl (fun rv r => setKey r.name (recVal r) rv) []

theorem rvOf_snoc (recs : List StepRec) (r : StepRec) : rvOf (recs ++ [r]) = setKey r.name (recVal r) (rvOf recs) := by
  simp [rvOf, List.foldl_append]

/-- the trees the templater is given, step by step -/
def expSeen (source : Val) : List StepRec → List StepRec → List (List (String × Val))
  | _, [] => []
  | done, r :: rest => tree source (setKey r.name (preOnly r.pre) (rvOf done)) :: expSeen source (done ++ [r]) rest

theorem expSeen_append (source : Val) : ∀ (rs done : List StepRec) (r : StepRec),
    expSeen source done (rs ++ [r]) =
      expSeen source done rs ++ [tree source (setKey r.name (preOnly r.pre) (rvOf (done ++ rs)))]
  | [], done, r => by simp [expSeen]
  | x :: xs, done, r => by
    simp [expSeen, expSeen_append source xs (done ++ [x]) r, List.append_assoc]

theorem shootStep_ghost (w : World Req Resp) (source : Val) (scName : String) (st : Step ReqDef)
    (rv : List (String × Val)) (g : GState Req) (b : Bool) (rv' : List (String × Val)) (g' : GState Req)
    (h : shootStep w source scName st rv g = some (b, rv', g')) :
    (b = false ∧ g'.seen = g.seen ∧ g'.recs = g.recs) ∨
    (∃ pv, g'.seen = g.seen ++ [tree source (setKey st.req.name (preOnly pv) rv)] ∧
      ((b = false ∧ g'.recs = g.recs ++ [{ name := st.req.name, pre := pv, post := none }]) ∨
       (b = true ∧ ∃ postv, g'.recs = g.recs ++ [{ name := st.req.name, pre := pv, post := some postv }] ∧
          rv' = setKey st.req.name (recVal { name := st.req.name, pre := pv, post := some postv }) rv))) := by
  rcases shootStep_cases w source scName st rv g b rv' g' h with
    ⟨_, _, rfl, rfl⟩ | ⟨pv, it', _, ⟨_, rfl, rfl⟩ | ⟨req, _, ⟨_, rfl, rfl⟩ | ⟨resp, _, ⟨_, rfl, rfl⟩ | ⟨postv, _, rfl, rfl, rfl⟩⟩⟩⟩
  · exact Or.inl ⟨rfl, rfl, rfl⟩
  · exact Or.inr ⟨pv, rfl, Or.inl ⟨rfl, rfl⟩⟩
  · exact Or.inr ⟨pv, rfl, Or.inl ⟨rfl, rfl⟩⟩
  · exact Or.inr ⟨pv, rfl, Or.inl ⟨rfl, rfl⟩⟩
  · exact Or.inr ⟨pv, rfl, Or.inr ⟨rfl, postv, rfl, rfl⟩⟩

theorem shootLoop_ghost (w : World Req Resp) (source : Val) (scName : String) :
    ∀ (steps : List (Step ReqDef)) (rv : List (String × Val)) (g : GState Req) (b : Bool) (g' : GState Req)
      (R : List StepRec),
      shootLoop w source scName steps rv g = some (b, g') → rv = rvOf R →
      ∃ R' : List StepRec, g'.recs = g.recs ++ R' ∧ g'.seen = g.seen ++ expSeen source R R' ∧
        R'.map (·.name) = (steps.take R'.length).map (·.req.name) ∧
        (∀ r ∈ R'.dropLast, r.post.isSome) ∧ (b = true → R'.length = steps.length ∧ ∀ r ∈ R', r.post.isSome)
  | [], rv, g, b, g', R, h, _ => by
    simp only [shootLoop] at h
    cases h
    exact ⟨[], by simp, by simp [expSeen], by simp, by simp, by simp⟩
  | st :: rest, rv, g, b, g', R, h, hrv => by
    rcases shootLoop_step w source scName st rest rv g b g' h with ⟨rfl, rv1, hstep⟩ | ⟨rv1, g1, hstep, h⟩
    · rcases shootStep_ghost w source scName st rv g false rv1 g' hstep with ⟨_, hs, hr⟩ | ⟨pv, hs, hrest⟩
      · exact ⟨[], by simp [hr], by simp [hs, expSeen], by simp, by simp, by simp⟩
      · rcases hrest with ⟨_, hr⟩ | ⟨hb, _⟩
        · exact ⟨[{ name := st.req.name, pre := pv, post := none }], hr, by simp [hs, expSeen, hrv], by simp, by simp,
            by simp⟩
        · cases hb
    · rcases shootStep_ghost w source scName st rv g true rv1 g1 hstep with ⟨hb, _, _⟩ | ⟨pv, hs, hrest⟩
      · cases hb
      · rcases hrest with ⟨hb, _⟩ | ⟨_, postv, hr, hrv1⟩
        · cases hb
        · let r : StepRec := { name := st.req.name, pre := pv, post := some postv }
          have hrv1' : rv1 = rvOf (R ++ [r]) := by rw [rvOf_snoc, ← hrv]; exact hrv1
          obtain ⟨R', hR', hS', hN', hP', hB'⟩ := shootLoop_ghost w source scName rest rv1 g1 b g' (R ++ [r]) h hrv1'
          refine ⟨r :: R', by simp [hR', hr, r], ?_, ?_, ?_, ?_⟩
          · simp [hS', hs, expSeen, hrv, r]
          · simp [hN', r]
          · intro x hx
            cases R' with
            | nil => simp at hx
            | cons y ys =>
              rw [List.dropLast_cons_cons] at hx
              rcases List.mem_cons.mp hx with e | e
              · subst e; rfl
              · exact hP' x e
          · intro hb
            obtain ⟨hl, hall⟩ := hB' hb
            refine ⟨by simp [hl], ?_⟩
            intro x hx
            rcases List.mem_cons.mp hx with e | e
            · subst e; rfl
            · exact hall x e

/-- the record that `request.<n>` shows: the LAST executed step of that name -/
def lastRec (n : String) (R : List StepRec) : Option StepRec := R.reverse.find? (·.name == n)

theorem getKey_rvOf_rev (n : String) : ∀ (L : List StepRec),
    getKey n (rvOf L.reverse) = (L.find? (·.name == n)).map recVal
  | [] => by simp [rvOf, getKey]
  | r :: L => by
    rw [List.reverse_cons, rvOf_snoc, List.find?_cons]
    by_cases h : r.name == n
    · have e : r.name = n := by simpa using h
      rw [h]
      subst e
      simp [getKey_setKey_same]
    · have hf : (r.name == n) = false := by simpa using h
      rw [hf, getKey_setKey_other r.name n _ hf, getKey_rvOf_rev n L]

theorem getKey_rvOf (n : String) (R : List StepRec) : getKey n (rvOf R) = (lastRec n R).map recVal := by
  have := getKey_rvOf_rev n R.reverse
  rwa [List.reverse_reverse] at this

/-! ### why a step succeeds or fails -/

/-- all four stages of a step succeed: preprocessor, templating, transport, extractors / assertions -/
def StepSucceeds (w : World Req Resp) (source : Val) (st : Step ReqDef) (rv : List (String × Val)) (g : GState Req) : Prop :=
  ∃ pv it' req resp postv,
    preStage w source st rv g.iter = .ok (pv, it') ∧
    w.render st.req (tree source (setKey st.req.name (preOnly pv) rv)) = some req ∧
    w.target (g.hist ++ [req]) = some resp ∧
    runPosts w resp st.req.posts [] = some postv

theorem shootStep_outcome (w : World Req Resp) (source : Val) (scName : String) (st : Step ReqDef)
    (rv : List (String × Val)) (g : GState Req) (b : Bool) (rv' : List (String × Val)) (g' : GState Req)
    (h : shootStep w source scName st rv g = some (b, rv', g')) :
    (b = true ↔ StepSucceeds w source st rv g) := by
  -- the stages are functions: whichever of them failed, `StepSucceeds` would need it to have succeeded
  rcases shootStep_cases w source scName st rv g b rv' g' h with
    ⟨e, hp, rfl, _⟩ | ⟨pv, it', hp, ⟨hr, rfl, _⟩ | ⟨req, hr, ⟨ht, rfl, _⟩ | ⟨resp, ht, ⟨hpo, rfl, _⟩ | ⟨postv, hpo, rfl, _⟩⟩⟩⟩
  · exact ⟨nofun, fun ⟨_, _, _, _, _, h1, _⟩ => nomatch hp.symm.trans h1⟩
  · exact ⟨nofun, fun ⟨_, _, _, _, _, h1, h2, _⟩ => by cases hp.symm.trans h1; exact nomatch hr.symm.trans h2⟩
  · exact ⟨nofun, fun ⟨_, _, _, _, _, h1, h2, h3, _⟩ => by
      cases hp.symm.trans h1; cases hr.symm.trans h2; exact nomatch ht.symm.trans h3⟩
  · exact ⟨nofun, fun ⟨_, _, _, _, _, h1, h2, h3, h4⟩ => by
      cases hp.symm.trans h1; cases hr.symm.trans h2; cases ht.symm.trans h3; exact nomatch hpo.symm.trans h4⟩
  · exact ⟨fun _ => ⟨pv, it', req, resp, postv, hp, hr, ht, hpo⟩, fun _ => rfl⟩

end Pandora.Proofs.C15
