/-
C06 helper lemmas: the moment `Run` returns, for EVERY schedule (no assumption on where the cancel is or on
late Report calls): what the state is at that moment, and that nothing that happens afterwards changes the
result.
-/
import Pandora.Proofs.C06Queue

namespace Pandora.Proofs.C06Queue
open Pandora.Model.AggQueue

variable {β : Type}

/-- the phase changes only in two ways: running → draining (seeCancel) and draining → returned (drain on an
empty queue) -/
theorem phase_step (cfg : Cfg) (st : St β) (e : Ev) :
    (step cfg st e).phase = st.phase ∨
    (e = .seeCancel ∧ st.phase = .running ∧ (step cfg st e).phase = .draining) ∨
    (e = .drain ∧ st.phase = .draining ∧ st.q = [] ∧ (step cfg st e).phase = .returned) := by
  cases e with
  | seeCancel =>
    simp only [step]; split
    · next hph =>
      split
      · exact Or.inr (Or.inl ⟨trivial, hph, rfl⟩)
      · exact Or.inl rfl
    · exact Or.inl rfl
  | drain =>
    simp only [step]; split
    · exact Or.inl rfl
    · next hph hq => exact Or.inr (Or.inr ⟨trivial, hph, hq, rfl⟩)
    · exact Or.inl rfl
  | cancel => exact Or.inl rfl
  | _ => left; simp only [step]; (repeat' split) <;> rfl

/-- the step that makes `Run` return is the drain loop's `default:` on an empty queue -/
theorem return_step {cfg : Cfg} {st : St β} {e : Ev} (h0 : st.phase ≠ .returned)
    (h1 : (step cfg st e).phase = .returned) : e = .drain ∧ st.phase = .draining ∧ st.q = [] := by
  rcases phase_step cfg st e with h | ⟨_, _, h⟩ | ⟨he, hph, hq, _⟩
  · rw [h] at h1; exact absurd h1 h0
  · rw [h] at h1; cases h1
  · exact ⟨he, hph, hq⟩

/-- the state right after the returning step -/
theorem at_return {cfg : Cfg} {progs : Nat → List β} {st : St β} (inv : Inv cfg progs st)
    (hph : st.phase = .draining) (hq : st.q = []) :
    (step cfg st .drain).out = accepted st.log ∧ (step cfg st .drain).log = st.log ∧
    (step cfg st .drain).buf = [] ∧ (step cfg st .drain).q = [] ∧ (step cfg st .drain).closed = true ∧
    (step cfg st .drain).err = retErr cfg st.dropped.length ∧ (step cfg st .drain).dropped = rejected st.log ∧
    (step cfg st .drain).pending = st.pending := by
  have hflow := inv.flow
  rw [hq, List.append_nil] at hflow
  simp only [step, hph, hq]
  refine ⟨by simpa [St.flush] using hflow, by simp [St.flush], by simp [St.flush], by simp [St.flush, hq], trivial, ?_,
    by simpa [St.flush] using inv.drops, by simp [St.flush]⟩
  rw [← inv.count]
  simp only [retErr]
  cases cfg.kind <;> rfl

/-- after `Run` has returned nothing changes the sink, the error, the closed flag (late Report calls only
fill the queue or the drop counter that nobody reads any more) -/
theorem stable_step (cfg : Cfg) {st : St β} (e : Ev) (h : st.phase = .returned) (hb : st.buf = []) :
    (step cfg st e).phase = .returned ∧ (step cfg st e).out = st.out ∧ (step cfg st e).err = st.err ∧
    (step cfg st e).closed = st.closed ∧ (step cfg st e).buf = [] := by
  cases e with
  | report r => simp only [step]; (repeat' split) <;> exact ⟨h, rfl, rfl, rfl, hb⟩
  | spill k =>
    simp only [step]; split
    · exact ⟨h, rfl, rfl, rfl, hb⟩
    · next hk => exact absurd (Or.inr (by simp [hb])) hk
  -- the aggregator's own steps are guarded by a phase other than `returned`
  | _ => simp [step, h, hb]

theorem stable_run (cfg : Cfg) (evs : List Ev) {st : St β} (h : st.phase = .returned) (hb : st.buf = []) :
    (run cfg st evs).phase = .returned ∧ (run cfg st evs).out = st.out ∧ (run cfg st evs).err = st.err ∧
    (run cfg st evs).closed = st.closed ∧ (run cfg st evs).buf = [] := by
  induction evs generalizing st with
  | nil => exact ⟨h, rfl, rfl, rfl, hb⟩
  | cons e es ih =>
    obtain ⟨h1, h2, h3, h4, h5⟩ := stable_step cfg e h hb
    obtain ⟨i1, i2, i3, i4, i5⟩ := ih h1 h5
    exact ⟨i1, i2.trans h2, i3.trans h3, i4.trans h4, i5⟩

theorem log_run (cfg : Cfg) (evs : List Ev) (st : St β) : st.log <+: (run cfg st evs).log := by
  induction evs generalizing st with
  | nil => exact List.prefix_refl _
  | cons e es ih => exact (step_ghost cfg st e).log.trans (ih _)

theorem run_append (cfg : Cfg) (a b : List Ev) (st : St β) :
    run cfg st (a ++ b) = run cfg (run cfg st a) b := by
  induction a generalizing st with
  | nil => rfl
  | cons e es ih => simp [run, ih]

/-- without a `cancel` event the context stays as it is -/
theorem cancelled_of_nocancel (cfg : Cfg) (l : List Ev) (s : St β) (h : ∀ e ∈ l, e ≠ .cancel) :
    (run cfg s l).cancelled = s.cancelled := by
  induction l generalizing s with
  | nil => rfl
  | cons e es ih =>
    rw [run, ih _ (fun x hx => h x (by simp [hx]))]
    exact (step_ghost cfg s e).cancelled.resolve_right (h e (by simp))

/-- every schedule that ends with `Run` returned splits at the returning step -/
theorem return_split (cfg : Cfg) (sched : List Ev) (st : St β) (h0 : st.phase ≠ .returned)
    (h : (run cfg st sched).phase = .returned) :
    ∃ pre post, sched = pre ++ .drain :: post ∧ (run cfg st pre).phase = .draining ∧ (run cfg st pre).q = [] := by
  induction sched generalizing st with
  | nil => exact absurd h h0
  | cons e es ih =>
    by_cases h1 : (step cfg st e).phase = .returned
    · obtain ⟨he, hph, hq⟩ := return_step h0 h1
      exact ⟨[], es, by simp [he], hph, hq⟩
    · obtain ⟨pre, post, hs, hp, hq⟩ := ih (step cfg st e) h1 h
      exact ⟨e :: pre, post, by simp [hs], hp, hq⟩

end Pandora.Proofs.C06Queue
