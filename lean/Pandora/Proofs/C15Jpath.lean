/-
C15 — `var/jsonpath`: the statement list of `Process` computes the direct reading `varJsonpath`
(Model/C15Jpath.lean), for every decoder, every path resolver, every mapping and body.
-/
import Pandora.Model.C15Jpath

namespace Pandora.Proofs.C15
open Pandora.Model.C15

section
variable {β J V : Type}

/-- the entries that resolve -/
def jResolved (get : String → J → Option V) (d : J) : List (String × String) → List (String × V)
  | [] => []
  | (k, path) :: r =>
    match get path d with
    | some v => (k, v) :: jResolved get d r
    | none => jResolved get d r

def jAnyFail (get : String → J → Option V) (d : J) : List (String × String) → Bool
  | [] => false
  | (_, path) :: r => (get path d).isNone || jAnyFail get d r

theorem runJLoop_eq (get : String → J → Option V) (d : J) (m : List (String × String)) (e : Bool) (res : List (String × V)) :
    runJLoop get jsonpathCode.loop m { data := some d, err := e, result := res } =
      { data := some d, err := e || jAnyFail get d m, result := res ++ jResolved get d m } := by
  induction m generalizing e res with
  | nil => simp [runJLoop, jAnyFail, jResolved]
  | cons kp r ih =>
    obtain ⟨k, path⟩ := kp
    simp only [runJLoop, jsonpathCode, runJLoopOps, jAnyFail, jResolved]
    cases hg : get path d with
    | some v =>
      simp only [Bool.false_eq_true, ↓reduceIte, Option.isNone_some, Bool.false_or]
      have := ih e (res ++ [(k, v)])
      simp only [jsonpathCode] at this
      rw [this]; simp
    | none =>
      simp only [↓reduceIte, Option.isNone_none, Bool.true_or, Bool.or_true]
      have := ih true res
      simp only [jsonpathCode] at this
      rw [this]; simp

theorem resolveAll_eq (get : String → J → Option V) (d : J) (m : List (String × String)) :
    resolveAll get d m = bif jAnyFail get d m then none else some (jResolved get d m) := by
  induction m with
  | nil => simp [resolveAll, jAnyFail, jResolved]
  | cons kp r ih =>
    obtain ⟨k, path⟩ := kp
    simp only [resolveAll, jAnyFail, jResolved]
    cases get path d with
    | none => simp
    | some v =>
      rw [ih]
      cases jAnyFail get d r <;> simp

/-- **`Process` as regenerated is the direct reading** -/
theorem runJsonpath_eq (decode : β → Option J) (get : String → J → Option V) (mapping : List (String × String)) (body : β) :
    runJsonpath decode get jsonpathCode mapping body = varJsonpath decode get mapping body := by
  unfold runJsonpath varJsonpath
  simp only [jsonpathCode, runJOps]
  cases hm : mapping.isEmpty with
  | true => simp
  | false =>
    simp only [Bool.false_eq_true, ↓reduceIte]
    cases hd : decode body with
    | none => simp
    | some d =>
      simp only []
      have := runJLoop_eq get d mapping false ([] : List (String × V))
      simp only [jsonpathCode] at this
      rw [this, resolveAll_eq]
      cases jAnyFail get d mapping <;> simp

/-- the extractor succeeds exactly when the mapping is empty, or the body decodes and every path resolves -/
theorem varJsonpath_ok_iff (decode : β → Option J) (get : String → J → Option V) (mapping : List (String × String)) (body : β) :
    (varJsonpath decode get mapping body).isSome = true ↔
      (mapping = [] ∨ ∃ d, decode body = some d ∧ ∀ kp ∈ mapping, (get kp.2 d).isSome = true) := by
  unfold varJsonpath
  cases mapping with
  | nil => simp
  | cons kp r =>
    simp only [List.isEmpty_cons, Bool.false_eq_true, ↓reduceIte, reduceCtorEq, false_or]
    cases hd : decode body with
    | none => simp
    | some d =>
      simp only [Option.some.injEq, exists_eq_left']
      rw [resolveAll_eq]
      have key : ∀ m : List (String × String), jAnyFail get d m = false ↔ ∀ kp ∈ m, (get kp.2 d).isSome = true := by
        intro m
        induction m with
        | nil => simp [jAnyFail]
        | cons a t ih =>
          obtain ⟨k, p⟩ := a
          simp only [jAnyFail, Bool.or_eq_false_iff, ih, List.mem_cons, forall_eq_or_imp]
          cases get p d <;> simp
      cases hf : jAnyFail get d (kp :: r) with
      | true =>
        simp only [cond_true, Option.isSome_none, Bool.false_eq_true, false_iff]
        intro h
        have := (key (kp :: r)).2 h
        rw [hf] at this; cases this
      | false =>
        simp only [cond_false, Option.isSome_some, true_iff]
        exact (key (kp :: r)).1 hf

end

end Pandora.Proofs.C15
