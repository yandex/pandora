/-
C11 — helper lemmas for the closure / modifier / hand-over-site theorems of `Props/C11.lean`.
-/
import Pandora.Proofs.C11Exec
import Pandora.Model.C11Modifiers
import Pandora.Spec.C11

namespace Pandora.Proofs.C11
open Pandora.Model.C11 Pandora.Go Pandora.Spec.C11

/-! ### chains without `substr` keep no state -/

def Modifier.pure : Modifier → Bool
  | .substr _ _ => false
  | _ => true

theorem stepMod_pure (m : Modifier) (s : List Char) (h : Modifier.pure m = true) :
    ∃ r, stepMod m s = some (r, m) := by
  cases m with
  | lower => exact ⟨_, rfl⟩
  | upper => exact ⟨_, rfl⟩
  | replace o n => exact ⟨_, rfl⟩
  | substr a b => simp [Modifier.pure] at h

theorem stepChain_pure : ∀ (ms : List Modifier) (s : List Char), ms.all Modifier.pure = true →
    ∃ r, stepChain ms s = some (r, ms) := by
  intro ms
  induction ms with
  | nil => intro s _; exact ⟨s, rfl⟩
  | cons m ms ih =>
    intro s h
    simp only [List.all_cons, Bool.and_eq_true] at h
    obtain ⟨r, hr⟩ := stepMod_pure m s h.1
    obtain ⟨r', hr'⟩ := ih r h.2
    exact ⟨r', by simp [stepChain, hr, hr']⟩

theorem extractCached_pure (ms : List Modifier) (h : ms.all Modifier.pure = true) :
    ∀ vals : List (List Char), extractCached ms vals = extractFresh ms vals := by
  intro vals
  induction vals with
  | nil => rfl
  | cons v vs ih =>
    obtain ⟨r, hr⟩ := stepChain_pure ms v h
    simp only [extractCached, hr, extractFresh, List.map_cons, applyChain, Option.map_some]
    rw [ih]
    rfl

/-! ### hand-over words -/

/-- the programs built from hand-over words contain no ordinary access: the discipline check does not depend on the
thread that runs them -/
def OOp.noAcc : OOp → Bool
  | .acc _ => false
  | _ => true

theorem progOkB_thread (cls : Nat → Class) (t t' : Nat) : ∀ (ops : List OOp) (O : List Nat),
    ops.all OOp.noAcc = true → progOkB cls t O ops = progOkB cls t' O ops := by
  intro ops
  induction ops with
  | nil => intro O _; rfl
  | cons op rest ih =>
    intro O h
    simp only [List.all_cons, Bool.and_eq_true] at h
    cases op with
    | acc op0 => simp [OOp.noAcc] at h
    | own op0 => simp only [progOkB]; rw [ih O h.2]
    | take l => simp only [progOkB]; exact ih _ h.2
    | give l => simp only [progOkB]; rw [ih _ h.2]

theorem siteOps_noAcc (w : String) : (siteOps w).all OOp.noAcc = true := by
  simp only [siteOps, List.all_cons, OOp.noAcc, Bool.true_and, List.all_eq_true, List.mem_filterMap]
  intro op ⟨c, _, hc⟩
  split at hc
  · cases hc; rfl
  · split at hc
    · cases hc; rfl
    · cases hc

end Pandora.Proofs.C11
