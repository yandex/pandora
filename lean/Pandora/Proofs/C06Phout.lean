/-
C06 helper lemmas about the phout line: the shift loop of `appendTimestamp` in closed form, the
shape of an encoded line, the round trip through `decode`, and a file of such lines. Core only.
-/
import Pandora.Proofs.C06Decimal

namespace Pandora.Proofs.C06
open Pandora.Model.Phout

/-! ## the shift loop -/

theorem getD_at (a : Bytes) (y : UInt8) (t : Bytes) (d : UInt8) : (a ++ y :: t).getD a.length d = y := by
  induction a with
  | nil => simp
  | cons b r ih => simp

theorem set_at (a : Bytes) (y : UInt8) (t : Bytes) (v : UInt8) : (a ++ y :: t).set a.length v = a ++ v :: t := by
  induction a with
  | nil => simp
  | cons b r ih => simp [ih]

theorem set_at1 (a : Bytes) (y x : UInt8) (t : Bytes) (v : UInt8) :
    (a ++ y :: x :: t).set (a.length + 1) v = a ++ y :: v :: t := by
  induction a with
  | nil => simp
  | cons b r ih => simp [ih]

/-- the loop copies every byte of `r` one place to the right, the byte `x` behind `r` is overwritten
and the first byte of `r` stays duplicated at `p.length` -/
theorem shiftLoop_spec (p : Bytes) : ∀ (k : Nat) (r : Bytes) (x : UInt8) (s : Bytes), r.length = k →
    shiftLoop p.length k (p ++ r ++ x :: s) = p ++ (r.headD x) :: r ++ s := by
  intro k
  induction k with
  | zero =>
    intro r x s h
    have : r = [] := List.length_eq_zero_iff.mp h
    subst this
    simp [shiftLoop]
  | succ k ih =>
    intro r x s h
    have hne : r ≠ [] := by intro e; subst e; simp at h
    obtain ⟨r', y, rfl⟩ : ∃ r' y, r = r' ++ [y] := ⟨r.dropLast, r.getLast hne, (List.dropLast_concat_getLast hne).symm⟩
    have hk : r'.length = k := by simpa using h
    have hlen : (p ++ r').length = p.length + k := by simp [hk]
    have e1 : p ++ (r' ++ [y]) ++ x :: s = (p ++ r') ++ y :: x :: s := by simp
    simp only [shiftLoop]
    rw [e1, ← hlen, getD_at, set_at1]
    have e2 : (p ++ r') ++ y :: y :: s = p ++ r' ++ y :: (y :: s) := by simp
    rw [e2, ih r' y (y :: s) hk]
    cases r' with
    | nil => simp
    | cons a t => simp

/-- the dot goes in front of the last three bytes -/
theorem insertDot_append (p : Bytes) (a b c : UInt8) :
    insertDot (p ++ [a, b, c]) = some (p ++ DOT :: [a, b, c]) := by
  have hlen : ((p ++ [a, b, c]).length : Int) - ((3 : Nat) : Int) = (p.length : Int) := by
    rw [List.length_append]; show ((p.length + 3 : Nat) : Int) - ((3 : Nat) : Int) = _
    rw [Int.natCast_add, Int.add_sub_cancel]
  have hk : (p ++ [a, b, c] ++ [0]).length - 1 - p.length = 3 := by simp
  unfold insertDot dotFromEnd
  simp only [hlen, Int.toNat_natCast, hk]
  rw [if_neg (Int.not_lt.mpr (Int.natCast_nonneg _))]
  have e : p ++ [a, b, c] ++ [0] = p ++ [a, b, c] ++ (0 : UInt8) :: [] := rfl
  rw [e, shiftLoop_spec p 3 [a, b, c] 0 [] rfl]
  simp only [List.headD_cons, List.append_nil]
  exact congrArg some (set_at p a [a, b, c] DOT)

/-- `appendTimestamp`'s dot insertion in closed form -/
theorem insertDot_eq (d : Bytes) :
    insertDot d = if d.length < 3 then none
                  else some (d.take (d.length - 3) ++ DOT :: d.drop (d.length - 3)) := by
  by_cases h : d.length < 3
  · rw [if_pos h]
    unfold insertDot dotFromEnd
    exact if_pos (by omega)
  · rw [if_neg h]
    have hd : d = d.take (d.length - 3) ++ d.drop (d.length - 3) := (List.take_append_drop _ _).symm
    generalize d.take (d.length - 3) = p at hd ⊢
    have hrl : (d.drop (d.length - 3)).length = 3 := by rw [List.length_drop]; omega
    generalize d.drop (d.length - 3) = r at hd hrl ⊢
    match r, hrl with
    | [a, b, c], _ => rw [hd]; exact insertDot_append p a b c

/-! ## the timestamp -/

theorem intBytes_of_nonneg {i : Int} (h : 0 ≤ i) : intBytes i = natDigits i.toNat := by
  unfold intBytes
  have : ¬ i < 0 := by omega
  simp [this]

/-- seconds and milliseconds of a non-negative timestamp, as natural numbers -/
theorem ms_split {ms : Int} (h : 0 ≤ ms) :
    (ms / 1000).toNat = ms.toNat / 1000 ∧ (ms % 1000).toNat = ms.toNat % 1000 := by
  obtain ⟨n, rfl⟩ := Int.eq_ofNat_of_zero_le h
  exact ⟨rfl, rfl⟩

/-- timestamps of at least one second: `<seconds>.<3 digit milliseconds>` -/
theorem appendTimestamp_ge1000 {ms : Int} (h : 1000 ≤ ms) :
    appendTimestamp ms = some (natDigits (ms.toNat / 1000) ++ DOT :: pad3 (ms.toNat % 1000)) := by
  unfold appendTimestamp
  rw [intBytes_of_nonneg (by omega), insertDot_eq]
  have hn : 1000 ≤ ms.toNat := by omega
  rw [natDigits_split3 hn]
  have hl : ¬ (natDigits (ms.toNat / 1000) ++ pad3 (ms.toNat % 1000)).length < 3 := by
    simp [pad3_length]
  simp only [hl, if_false]
  have e : (natDigits (ms.toNat / 1000) ++ pad3 (ms.toNat % 1000)).length - 3 = (natDigits (ms.toNat / 1000)).length := by
    simp [pad3_length]
  rw [e]
  simp

/-- 0 … 99 ms after the epoch: the loop indexes `dst[-1]` -/
theorem appendTimestamp_small {ms : Int} (h0 : 0 ≤ ms) (h : ms < 100) : appendTimestamp ms = none := by
  unfold appendTimestamp
  rw [intBytes_of_nonneg h0, insertDot_eq]
  have := natDigits_length_lt100 (n := ms.toNat) (by omega)
  simp [this]

/-- 100 … 999 ms after the epoch: no seconds part at all -/
theorem appendTimestamp_subsecond {ms : Int} (h0 : 100 ≤ ms) (h : ms < 1000) :
    appendTimestamp ms = some (DOT :: natDigits ms.toNat) := by
  unfold appendTimestamp
  rw [intBytes_of_nonneg (by omega), insertDot_eq]
  have := natDigits_length_100_999 (n := ms.toNat) (by omega) (by omega)
  simp [this]

/-! ## the line -/

theorem parseTimestamp_ok {ms : Int} (h : 1000 ≤ ms) :
    parseTimestamp (natDigits (ms.toNat / 1000) ++ DOT :: pad3 (ms.toNat % 1000)) = some ms := by
  unfold parseTimestamp
  have hk : ms.toNat % 1000 < 1000 := Nat.mod_lt _ (by decide)
  have h1 : DOT ∉ natDigits (ms.toNat / 1000) := notin_of_digits (natDigits_isDigit _) (by decide)
  have h2 : DOT ∉ pad3 (ms.toNat % 1000) := notin_of_digits (pad3_isDigit hk) (by decide)
  rw [splitOn_append_sep _ h1, splitOn_nosep h2]
  simp only [pad3_length, if_true, parseNat_natDigits, parseNat_pad3 hk]
  obtain ⟨n, rfl⟩ := Int.eq_ofNat_of_zero_le (Int.le_trans (by decide) h)
  show some (((n / 1000 * 1000 + n % 1000 : Nat) : Int)) = some (n : Int)
  rw [Nat.div_add_mod']

theorem idSigned_roundtrip {id : Nat} (h : id < 18446744073709551616) :
    (idSigned id % 18446744073709551616).toNat = id := by
  unfold idSigned
  rw [Nat.mod_eq_of_lt h]
  have e : ((id : Int) % 18446744073709551616).toNat = id := by
    have hlt : (id : Int) < 18446744073709551616 := Int.ofNat_lt.mpr h
    rw [Int.emod_eq_of_lt (Int.natCast_nonneg _) hlt]; rfl
  split
  · exact e
  · rw [Int.sub_emod_right]; exact e

theorem parseTagId_ok (tag : Bytes) (id : Nat) (h : id < 18446744073709551616) :
    parseTagId (tag ++ HASH :: intBytes (idSigned id)) true = some (tag, id) := by
  unfold parseTagId
  simp only [if_true]
  rw [splitLast_append _ (hash_notin_intBytes _)]
  simp [parseInt_intBytes, idSigned_roundtrip h]

/-- the tokens of a body -/
def tokens (s : Sample) (withId : Bool) : List Bytes :=
  (s.tag ++ idPart s withId) :: s.fields.map intBytes

theorem fieldsPart_eq (s : Sample) : fieldsPart s = (s.fields.map intBytes).flatMap (fun t => TAB :: t) := by
  unfold fieldsPart
  simp [List.flatMap_map]

/-- the id part holds the hash sign and a printed integer -/
theorem notin_idPart {c : UInt8} (s : Sample) (withId : Bool) (hh : c ≠ HASH) (hi : ∀ i, c ∉ intBytes i) :
    c ∉ idPart s withId := by
  unfold idPart
  cases withId
  · simp
  · simp only [if_true, List.mem_cons, not_or]
    exact ⟨hh, hi _⟩

theorem tokens_tabfree (s : Sample) (withId : Bool) (ht : TAB ∉ s.tag) : ∀ t ∈ tokens s withId, TAB ∉ t := by
  intro t h
  unfold tokens at h
  simp only [List.mem_cons, List.mem_map] at h
  rcases h with h | ⟨v, _, rfl⟩
  · subst h
    simp only [List.mem_append, not_or]
    exact ⟨ht, notin_idPart s withId (by decide) tab_notin_intBytes⟩
  · exact tab_notin_intBytes v

/-- body with an abstract timestamp text -/
theorem body_tokens (ts : Bytes) (s : Sample) (withId : Bool) :
    ts ++ TAB :: s.tag ++ idPart s withId ++ fieldsPart s = ts ++ (tokens s withId).flatMap (fun t => TAB :: t) := by
  unfold tokens
  rw [fieldsPart_eq]
  simp

theorem encodeBody_ge1000 (s : Sample) (withId : Bool) (h : 1000 ≤ s.ms) :
    encodeBody s withId = some (natDigits (s.ms.toNat / 1000) ++ DOT :: pad3 (s.ms.toNat % 1000)
        ++ TAB :: s.tag ++ idPart s withId ++ fieldsPart s) := by
  unfold encodeBody
  rw [appendTimestamp_ge1000 h]
  simp

/-- the timestamp text holds digits and the dot -/
theorem notin_tsText {c : UInt8} (hd : ¬ IsDigit c) (hdot : c ≠ DOT) (n k : Nat) (hk : k < 1000) :
    c ∉ natDigits n ++ DOT :: pad3 k := by
  simp only [List.mem_append, List.mem_cons, not_or]
  exact ⟨notin_of_digits (natDigits_isDigit _) hd, hdot, notin_of_digits (pad3_isDigit hk) hd⟩

theorem splitOn_body (ts : Bytes) (s : Sample) (withId : Bool) (hts : TAB ∉ ts) (ht : TAB ∉ s.tag) :
    splitOn TAB (ts ++ TAB :: s.tag ++ idPart s withId ++ fieldsPart s) = ts :: tokens s withId := by
  rw [body_tokens, splitOn_tokens ts _ hts (tokens_tabfree s withId ht)]

theorem decodeBody_ok (s : Sample) (withId : Bool) (h : 1000 ≤ s.ms) (ht : TAB ∉ s.tag)
    (hid : s.id < 18446744073709551616) :
    decodeBody (natDigits (s.ms.toNat / 1000) ++ DOT :: pad3 (s.ms.toNat % 1000)
        ++ TAB :: s.tag ++ idPart s withId ++ fieldsPart s) withId
      = some (if withId then s else { s with id := 0 }) := by
  unfold decodeBody
  have hk : s.ms.toNat % 1000 < 1000 := by omega
  rw [splitOn_body _ s withId (notin_tsText (by decide) (by decide) _ _ hk) ht]
  simp only [tokens, Sample.fields, List.map_cons, List.map_nil, parseTimestamp_ok h, parseInt_intBytes]
  cases withId
  · simp [idPart, parseTagId]
  · simp only [idPart, if_true, parseTagId_ok s.tag s.id hid]
    simp

theorem body_lffree (s : Sample) (withId : Bool) (hl : LF ∉ s.tag) (ts : Bytes) (hts : LF ∉ ts) :
    LF ∉ ts ++ TAB :: s.tag ++ idPart s withId ++ fieldsPart s := by
  simp only [List.mem_append, List.mem_cons, not_or, List.append_assoc, List.cons_append]
  refine ⟨hts, by decide, hl, notin_idPart s withId (by decide) lf_notin_intBytes, ?_⟩
  unfold fieldsPart
  simp only [List.mem_flatMap, List.mem_cons, not_exists, not_and, not_or]
  intro v _
  exact ⟨by decide, lf_notin_intBytes v⟩

/-! ## a file of lines -/

/-- any line encoder whose lines contain no LF: the concatenation of the terminated lines splits back into
exactly those lines, nothing after the last LF -/
theorem fileLines_of_lines (bodies : List Bytes) (h : ∀ b ∈ bodies, LF ∉ b) :
    fileLines (bodies.flatMap (fun b => b ++ [LF])) = some bodies := by
  unfold fileLines
  rw [splitOn_terminated _ h]
  simp only [List.getLast?_append, List.getLast?_singleton, Option.some_or, List.dropLast_concat]

end Pandora.Proofs.C06
