/-
C05 — `Engine.Run` over several pools: helper lemmas for the composition of the engine loop (`engRun`) with the
pool model, and the engine's `sync.WaitGroup`.
-/
import Pandora.Model.C05Pool

namespace Pandora.Proofs.C05
open Pandora.Model.C05

/-! ### pigeonhole: `n` distinct pool ids below `n` are all of them -/

theorem nodup_covers (n : Nat) (l : List Nat) (hn : l.Nodup) (hb : ∀ x ∈ l, x < n) (hl : l.length = n) :
    ∀ i, i < n → i ∈ l := by
  intro i hi
  refine Classical.byContradiction fun hni => ?_
  have := (List.nodup_cons.2 ⟨hni, hn⟩).length_le_of_subset (l₂ := List.range n) fun x hx =>
    List.mem_range.2 ((List.mem_cons.1 hx).elim (· ▸ hi) (hb x))
  simp at this
  omega

/-! ### the results `Engine.Run` consumes -/

/-- the pool a result event comes from -/
def EEv.poolId : EEv → Option Nat
  | .pool id _ _ => some id
  | .ctxDone => none

/-- how `Engine.Run` over `n` pools ends: nil after `n` nil results; the cancellation error when the context was seen
done (in the select, or in the check after a pool failure); else the first pool failure -/
theorem engRun_some (n : Nat) (evs : List EEv) (res : ERes) (h : engRun n evs = some res) :
    (res = .ok ∧ n ≤ evs.length ∧ ∀ e ∈ evs.take n, ∃ id d, e = .pool id .ok d) ∨
    (res = .ctx ∧ (.ctxDone ∈ evs ∨ ∃ id r, r ≠ .ok ∧ .pool id r true ∈ evs)) ∨
    (∃ id r, res = .fail id r ∧ r ≠ .ok ∧ .pool id r false ∈ evs) := by
  induction n generalizing evs with
  | zero => exact .inl ⟨by simpa [engRun] using h.symm, Nat.zero_le _, nofun⟩
  | succ n ih =>
    cases evs with
    | nil => simp [engRun] at h
    | cons e tl =>
      cases e with
      | ctxDone => exact .inr (.inl ⟨by simpa [engRun] using h.symm, .inl List.mem_cons_self⟩)
      | pool id r d =>
        simp only [engRun] at h
        split at h
        · next hr =>
          refine (ih tl h).imp (fun ⟨h1, h2, h3⟩ => ⟨h1, Nat.succ_le_succ h2, fun e he => ?_⟩)
            (Or.imp (fun ⟨h1, h2⟩ => ⟨h1, h2.imp (List.mem_cons_of_mem _) fun ⟨i, r', h3, h4⟩ => ⟨i, r', h3, List.mem_cons_of_mem _ h4⟩⟩)
              fun ⟨i, r', h1, h2, h3⟩ => ⟨i, r', h1, h2, List.mem_cons_of_mem _ h3⟩)
          rcases List.mem_cons.1 he with rfl | he
          · exact ⟨id, d, by rw [hr]⟩
          · exact h3 e he
        · next hr =>
          cases d
          · exact .inr (.inr ⟨id, r, by simpa using h.symm, hr, List.mem_cons_self⟩)
          · exact .inr (.inl ⟨by simpa using h.symm, .inr ⟨id, r, hr, List.mem_cons_self⟩⟩)

/-- if `Engine.Run` over `n` pools returns nil it has consumed `n` nil results -/
theorem engRun_ok_take (n : Nat) (evs : List EEv) (h : engRun n evs = some .ok) :
    n ≤ evs.length ∧ ∀ e ∈ evs.take n, ∃ id d, e = .pool id .ok d := by
  rcases engRun_some n evs _ h with ⟨_, h⟩ | ⟨h, _⟩ | ⟨_, _, h, _⟩
  · exact h
  · cases h
  · cases h

theorem filterMap_poolId_length (l : List EEv) (h : ∀ e ∈ l, ∃ id d, e = .pool id .ok d) :
    (l.filterMap EEv.poolId).length = l.length := by
  induction l with
  | nil => rfl
  | cons e l ih =>
    obtain ⟨id, d, he⟩ := h e List.mem_cons_self
    subst he
    simp only [List.filterMap_cons, EEv.poolId, List.length_cons]
    rw [ih (fun e he => h e (List.mem_cons_of_mem _ he))]

/-- a nil result of `Engine.Run` over `n` pools that each send at most one result: EVERY pool's result was consumed,
and it was nil -/
theorem engRun_ok_all (n : Nat) (evs : List EEv) (hlt : ∀ id r d, EEv.pool id r d ∈ evs → id < n)
    (hnd : (evs.filterMap EEv.poolId).Nodup) (h : engRun n evs = some .ok) :
    ∀ i, i < n → ∃ d, EEv.pool i .ok d ∈ evs := by
  obtain ⟨hlen, htake⟩ := engRun_ok_take n evs h
  let ids := (evs.take n).filterMap EEv.poolId
  have hsub : ids.Sublist (evs.filterMap EEv.poolId) := (List.take_sublist n evs).filterMap _
  have hnd' : ids.Nodup := hsub.nodup hnd
  have hlen' : ids.length = n := by
    rw [filterMap_poolId_length _ htake, List.length_take]
    omega
  have hb : ∀ x ∈ ids, x < n := by
    intro x hx
    obtain ⟨e, he, hxe⟩ := List.mem_filterMap.1 hx
    obtain ⟨id, d, hed⟩ := htake e he
    subst hed
    simp only [EEv.poolId, Option.some.injEq] at hxe
    subst hxe
    exact hlt id .ok d (List.mem_of_mem_take he)
  intro i hi
  have hmem := nodup_covers n ids hnd' hb hlen' i hi
  obtain ⟨e, he, hie⟩ := List.mem_filterMap.1 hmem
  obtain ⟨id, d, hed⟩ := htake e he
  subst hed
  simp only [EEv.poolId, Option.some.injEq] at hie
  subst hie
  exact ⟨d, List.mem_of_mem_take he⟩

/-- whenever `Engine.Run` looks at its context after a pool failed, the context is done -/
def EngCancelled (evs : List EEv) : Prop := ∀ id r d, EEv.pool id r d ∈ evs → r ≠ .ok → d = true

/-! ### the engine's `sync.WaitGroup`: `Add(1)` per pool, `Done` = the pool's `onWaitDone` -/

/-- `Done` calls so far over all pools -/
def waitDoneSum : List State → Nat
  | [] => 0
  | s :: r => s.waitDone + waitDoneSum r

/-- the counter `Engine.Wait` blocks on; `none`: more `Done` than `Add` — "sync: negative WaitGroup counter" panic -/
def wgCounter (ss : List State) : Option Nat :=
  if waitDoneSum ss ≤ ss.length then some (ss.length - waitDoneSum ss) else none

theorem waitDoneSum_bounds (ss : List State) (h : ∀ s ∈ ss, s.waitDone ≤ 1) :
    waitDoneSum ss ≤ ss.length ∧ ((∀ s ∈ ss, s.waitDone = 1) → waitDoneSum ss = ss.length) := by
  induction ss with
  | nil => exact ⟨Nat.le_refl 0, fun _ => rfl⟩
  | cons s r ih =>
    obtain ⟨h2, h3⟩ := ih fun t ht => h t (List.mem_cons_of_mem _ ht)
    have h1 := h s List.mem_cons_self
    refine ⟨by simp [waitDoneSum]; omega, fun he => ?_⟩
    have := he s List.mem_cons_self
    have := h3 fun t ht => he t (List.mem_cons_of_mem _ ht)
    simp [waitDoneSum]; omega

end Pandora.Proofs.C05
