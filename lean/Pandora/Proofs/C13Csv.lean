/-
C13, lemmas about the rows of a csv variable source (Model/C13Csv.lean).
-/
import Pandora.Model.C13Csv
import Pandora.Proofs.C13Cfg

namespace Pandora.Proofs.C13
open Pandora.Model.C13

/-- with the test in front of `record[i]` every record gives a row, one assignment per configured column -/
theorem csvRowFrom_guarded (record : List Bytes) (fields : List Bytes) (i : Nat) :
    ∃ row, csvRowFrom true record fields i = .ok row ∧ row.length = fields.length := by
  induction fields generalizing i with
  | nil => exact ⟨[], by simp [csvRowFrom]⟩
  | cons f fs ih =>
    obtain ⟨rest, hrest, hlen⟩ := ih (i + 1)
    by_cases h : i ≥ record.length
    · refine ⟨(if f = [] then itoaBytes i else f, []) :: rest, ?_, by simp [hlen]⟩
      simp [csvRowFrom, h, hrest, Res.bind]
    · have hlt : i < record.length := by omega
      refine ⟨(if f = [] then itoaBytes i else f, record[i]) :: rest, ?_, by simp [hlen]⟩
      have hidx : indexC record (i : Int) = .ok record[i] := by
        simp [indexC, List.getElem?_eq_getElem hlt]
      simp [csvRowFrom, h, hidx, hrest, Res.bind]

/-- number of rows: one per record, but for an ignored first one -/
def csvRowCount (n : Nat) (ign : Bool) : Nat := if ign then n - 1 else n

theorem csvRows_guarded (records : List (List Bytes)) (fields : List Bytes) (ign : Bool) :
    ∃ rows, csvRows true records fields ign = .ok rows ∧ rows.length = csvRowCount records.length ign := by
  induction records generalizing fields ign with
  | nil => exact ⟨[], by simp [csvRows], by cases ign <;> simp [csvRowCount]⟩
  | cons r more ih =>
    cases ign with
    | true =>
      obtain ⟨rows, h, hl⟩ := ih (csvCols fields r) false
      exact ⟨rows, by simp [csvRows, h], by simp [csvRowCount] at hl ⊢; exact hl⟩
    | false =>
      obtain ⟨rows, h, hl⟩ := ih (csvCols fields r) false
      obtain ⟨row, hr, _⟩ := csvRowFrom_guarded r (csvCols fields r) 0
      refine ⟨row :: rows, ?_, ?_⟩
      · simp [csvRows, h, hr, Res.bind]
      · simp [csvRowCount] at hl ⊢; exact hl

/-- a record shorter than the configured columns makes the unguarded loop panic -/
theorem csvRowFrom_unguarded_short (record fields : List Bytes) (i : Nat) (hf : fields ≠ []) (h : record.length ≤ i) :
    (csvRowFrom false record fields i).isPanic = true := by
  cases fields with
  | nil => exact absurd rfl hf
  | cons f fs =>
    have hidx : indexC record (i : Int) = .panic "index out of range" := by
      have : record[i]? = none := List.getElem?_eq_none (by omega)
      simp [indexC, this]
    simp [csvRowFrom, hidx, Res.bind, Res.isPanic]

end Pandora.Proofs.C13
