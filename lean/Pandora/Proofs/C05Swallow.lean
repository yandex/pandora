/-
C05 — error accounting for the repaired `onErrAwaited` (`cfg.fixSelect`): as long as the caller has not
cancelled, every component error is either still on its way to `onErrAwaited` or has made `Pool.Run` fail.
-/
import Pandora.Proofs.C05Vals

namespace Pandora.Proofs.C05
open Pandora.Model.C05

def Ret.isErr : Ret → Bool
  | .err _ => true
  | _ => false

def compHasErr : Comp → Bool
  | .ready (.err _) => true
  | _ => false

def startHasErr : Option (Nat × Ret) → Bool
  | some (_, .err _) => true
  | _ => false

def awOnErr : AwPc → Bool
  | .onErr _ _ _ => true
  | _ => false

def mainFailed : MainPc → Bool
  | .returned (.fail _ _) => true
  | _ => false

def IsFail : PRes → Bool
  | .fail _ _ => true
  | _ => false

/-- some component error has been returned and not yet been through `onErrAwaited` -/
def PendingErr (s : State) : Prop :=
  compHasErr s.prov = true ∨ compHasErr s.agg = true ∨ (startHasErr s.startRes = true ∧ s.startTaken = false) ∨
  s.buf.any (fun x => Ret.isErr x.2) = true ∨ awOnErr s.aw = true

/-- the accounting: a recorded component error has made `Pool.Run` fail, or is still on its way -/
def Acc (s : State) : Prop :=
  s.extC = true ∨ s.compErrs = [] ∨ mainFailed s.main = true ∨ (mainRunning s.main = true ∧ PendingErr s)

/-- what `Pool.Run` returned when an error was on record and the caller had not cancelled -/
def RetFail (s : State) : Prop :=
  ∀ r, s.main = .returned r → s.extAtReturn = false → s.errsAtReturn ≠ [] → IsFail r = true

structure InvX (s : State) : Prop where
  acc : Acc s
  atRet : RetFail s

theorem invX_init : InvX init := ⟨.inr (.inl rfl), nofun⟩

/-- a pending error accounts for everything, unless `Pool.Run` has returned nil -/
theorem acc_of_pending {s : State} (hc : s.main = .returned .ctx → s.extC = true) (hk : s.main ≠ .returned .ok)
    (hp : PendingErr s) : Acc s := by
  cases hm : s.main with
  | returned r =>
    cases r with
    | ok => exact absurd hm hk
    | ctx => exact .inl (hc hm)
    | fail w c => exact .inr (.inr (.inl (by rw [hm]; rfl)))
  | _ => exact .inr (.inr (.inr ⟨by rw [hm]; rfl, hp⟩))

theorem invX_failed {s : State} {w : Wrap} {c : Ret} (hm : s.main = .returned (.fail w c)) : InvX s :=
  ⟨.inr (.inr (.inl (by rw [hm]; rfl))), fun r hr _ _ => by rw [hm] at hr; cases hr; rfl⟩

/-- a nil result of `Pool.Run` comes after the await loop has ended: nothing can be pending then -/
theorem not_returned_ok {s : State} (ha : InvA s) (hb : InvB s)
    (h : s.prov ≠ .taken ∨ s.agg ≠ .taken ∨ s.startTaken = false ∨ s.live ≠ [] ∨ s.buf ≠ [] ∨ s.aw ≠ .finished) :
    s.main ≠ .returned .ok := by
  intro hm
  have hf := hb.retOk hm
  obtain ⟨h1, h2, h3, _, h5, h6⟩ := ha.1.all_taken hf
  rcases h with h | h | h | h | h | h
  · exact h h1
  · exact h h2
  · rw [h3] at h; cases h
  · exact h h5
  · exact h h6
  · exact h hf

theorem not_pending_of_finished {s : State} (ha : InvA s) (hf : s.aw = .finished) : ¬ PendingErr s := by
  obtain ⟨h1, h2, h3, _, _, h6⟩ := ha.1.all_taken hf
  simp [PendingErr, h1, h2, h3, h6, hf, compHasErr, awOnErr]

theorem not_pending_of_off {s : State} (ha : InvA s) (hf : s.aw = .off) : ¬ PendingErr s := by
  obtain ⟨h1, h2, _, _, h5, h6, _⟩ := ha.1.pre hf
  simp [PendingErr, h1, h2, h5, h6, hf, compHasErr, awOnErr, startHasErr]

/-- the accounting survives a change that leaves `Pool.Run` and the record alone and loses no pending error -/
theorem InvX.later {s : State} (h : InvX s) (s' : State) (hp : PendingErr s → PendingErr s')
    (h1 : s'.extC = s.extC := by rfl) (h2 : s'.compErrs = s.compErrs := by rfl) (h3 : s'.main = s.main := by rfl)
    (h4 : s'.extAtReturn = s.extAtReturn := by rfl) (h5 : s'.errsAtReturn = s.errsAtReturn := by rfl) : InvX s' := by
  refine ⟨?_, ?_⟩
  · unfold Acc; rw [h1, h2, h3]; exact h.acc.imp_right (Or.imp_right (Or.imp_right (And.imp_right hp)))
  · unfold RetFail; rw [h3, h4, h5]; exact h.atRet

theorem pending_of_same {a b : State} (h : Same a b) (haw : awOnErr b.aw = true → awOnErr a.aw = true) :
    PendingErr b → PendingErr a := by
  unfold PendingErr
  rw [h.prov, h.agg, h.startRes, h.startTaken, h.buf]
  exact Or.imp_right (Or.imp_right (Or.imp_right (Or.imp_right haw)))

theorem x_afterErr (s : State) (chk : Bool) (h : InvX s) (hl : s.aw = .loop) : InvX (afterErr s chk) :=
  have hs := same_afterErr s chk
  h.later _ (pending_of_same hs (by rw [hl]; nofun)) hs.extC hs.compErrs hs.main hs.extAtReturn hs.errsAtReturn

theorem compHasErr_ready (r : Ret) : compHasErr (.ready r) = Ret.isErr r := by cases r <;> rfl

/-- a result that is not an error leaves the accounting alone (`h`); an error moves into `onErrAwaited` -/
theorem x_handleRes (s : State) (w : Wrap) (r : Ret) (done chk : Bool) (hl : s.aw = .loop)
    (hc : s.main = .returned .ctx → s.extC = true) (hk : s.main ≠ .returned .ok) (hat : RetFail s)
    (h : Ret.isErr r = false → InvX s) : InvX (handleRes s w r done chk) := by
  unfold handleRes
  split
  · next hi => exact x_afterErr _ _ (h (by cases r <;> first | rfl | cases hi)) hl
  · exact ⟨acc_of_pending hc hk (.inr (.inr (.inr (.inr rfl)))), hat⟩

/-! ### the steps -/

theorem step_invX (cfg : Cfg) (hfix : cfg.fixSelect = true) (s : State) (c : Choice) (ha : InvA s) (hb : InvB s)
    (h : InvX s) : InvX (step cfg s c) := by
  have hctx : s.main = .returned .ctx → s.extC = true := fun hm => hb.retExt (hb.retCtx hm)
  have hnok := not_returned_ok ha hb
  have hloop : s.aw = .loop → s.main ≠ .returned .ok := fun hl =>
    hnok (.inr (.inr (.inr (.inr (.inr (by rw [hl]; nofun))))))
  cases c with
  | extCancel => exact ⟨.inl rfl, h.atRet⟩
  | warm o =>
    simp only [step]; split
    · next hm =>
      cases o with
      | gunFail e => exact invX_failed rfl
      | warmFail e c => exact invX_failed rfl
      | ok c =>
        refine ⟨h.acc.imp_right (Or.imp_right (Or.imp ?_ (And.imp_left fun _ => rfl))), nofun⟩
        intro hf; rw [hm] at hf; cases hf
    · exact h
  | sched o =>
    simp only [step]; split
    · next hm =>
      cases o with
      | some e => exact invX_failed rfl
      | none =>
        refine ⟨h.acc.imp_right (Or.imp_right (Or.imp ?_ ?_)), nofun⟩
        · intro hf; rw [hm] at hf; cases hf
        · exact fun hp => absurd hp.2 (not_pending_of_off ha (ha.1.pre2 (.inr hm)).1)
    · exact h
  | provRet r =>
    simp only [step, addErr_eq]; split
    · next hc =>
      rcases errsOf_cases r with ⟨e, rfl⟩ | he
      · exact ⟨acc_of_pending hctx (hnok (.inl (by rw [hc.1]; nofun))) (.inl rfl), h.atRet⟩
      · rw [he, List.append_nil]
        exact h.later _ (Or.imp_left fun hp => by rw [hc.1] at hp; cases hp)
    · exact h
  | aggRet r =>
    simp only [step, addErr_eq]; split
    · next hc =>
      rcases errsOf_cases r with ⟨e, rfl⟩ | he
      · exact ⟨acc_of_pending hctx (hnok (.inr (.inl (by rw [hc.1]; nofun)))) (.inr (.inl rfl)),
          h.atRet⟩
      · rw [he, List.append_nil]
        exact h.later _ (Or.imp_right (Or.imp_left fun hp => by rw [hc.1] at hp; cases hp))
    · exact h
  | rpsFinished | startTick =>
    simp only [step]; split
    · exact ⟨h.acc, h.atRet⟩
    · exact h
  | startFirst o =>
    simp only [step]; split
    · next hs =>
      have ht := (ha.1.start_pending (by rw [hs]; nofun)).2
      have failed (e : ErrId) (rt : List Gun) : InvX
          { s with startPc := .done, startRes := some (0, .err e), compErrs := s.compErrs ++ [e], retired := rt } :=
        ⟨acc_of_pending hctx (hnok (.inr (.inr (.inl ht)))) (.inr (.inr (.inl ⟨rfl, ht⟩))), h.atRet⟩
      cases o with
      | schedFail e => exact failed e s.retired
      | gunFail e => exact failed e s.retired
      | bindFail e c => exact failed e _
      | ok c => exact ⟨h.acc, h.atRet⟩
    · exact h
  | startEnd =>
    simp only [step]; split
    · next hs =>
      have hr : s.startRes = none :=
        (ha.1.start_pending fun hd => by rw [hd] at hs; rcases hs with hs | hs | hs <;> cases hs).1
      exact h.later _ (Or.imp_right (Or.imp_right (Or.imp_left fun hp => by rw [hr] at hp; cases hp.1)))
    · exact h
  | instCreate i o =>
    simp only [step]; split
    · next k hl =>
      have hne := (getElem?_facts _ _ _ hl).2
      have failed (e : ErrId) (rt : List Gun) : InvX (sendRes
          { s with live := s.live.eraseIdx i, compErrs := s.compErrs ++ [e], retired := rt } k (.err e)) := by
        rw [sendRes_live ha hl]
        exact ⟨acc_of_pending hctx (hnok (.inr (.inr (.inr (.inl hne)))))
          (.inr (.inr (.inr (.inl (by simp [Ret.isErr]))))), h.atRet⟩
      cases o with
      | schedFail e => exact failed e s.retired
      | gunFail e => exact failed e s.retired
      | bindFail e c => exact failed e _
      | ok c => exact ⟨h.acc, h.atRet⟩
    · exact h
  | instRet i r =>
    simp only [step, addErr_eq]; split
    · next k g hl =>
      have hne := (getElem?_facts _ _ _ hl).2
      split
      · exact h
      · rw [sendRes_live ha hl]
        rcases errsOf_cases r with ⟨e, rfl⟩ | he
        · exact ⟨acc_of_pending hctx (hnok (.inr (.inr (.inr (.inl hne)))))
            (.inr (.inr (.inr (.inl (by simp [Ret.isErr]))))), h.atRet⟩
        · rw [he, List.append_nil]
          exact h.later _ (Or.imp_right (Or.imp_right (Or.imp_right (Or.imp_left fun hp => by
            simp only [List.any_append, Bool.or_eq_true]; exact .inl hp))))
    · exact h
  | awaitProv =>
    simp only [step]; split
    · next r hl hp =>
      exact x_handleRes _ _ _ _ _ hl hctx (hloop hl) h.atRet fun hr =>
        h.later _ (Or.imp_left fun hh => by rw [hp, compHasErr_ready, hr] at hh; cases hh)
    · exact h
  | awaitAgg =>
    simp only [step]; split
    · next r hl hp =>
      exact x_handleRes _ _ _ _ _ hl hctx (hloop hl) h.atRet fun hr =>
        h.later _ (Or.imp_right (Or.imp_left fun hh => by rw [hp, compHasErr_ready, hr] at hh; cases hh))
    · exact h
  | awaitStart =>
    simp only [step]; split
    · next n r hl ht hp =>
      refine x_handleRes _ _ _ _ _ hl hctx (hloop hl) h.atRet fun hr => ?_
      refine h.later _ (Or.imp_right (Or.imp_right (Or.imp_left fun hh => ?_)))
      rw [hp] at hh
      cases r with
      | err e => cases hr
      | _ => cases hh.1
    · exact h
  | awaitRun =>
    simp only [step]; split
    · next k r rest hl ho hb' =>
      have h1 : Ret.isErr r = false → InvX { s with buf := rest, awaited := s.awaited + 1 } := fun hr =>
        h.later _ (Or.imp_right (Or.imp_right (Or.imp_right (Or.imp_left fun hh => by
          rw [hb', List.any_cons, hr, Bool.false_or] at hh; exact hh))))
      split
      · next hr =>
        subst hr
        split
        · exact x_afterErr _ _ (h1 rfl) hl
        · exact x_afterErr _ _ ⟨(h1 rfl).acc, (h1 rfl).atRet⟩ hl
      · exact x_handleRes _ _ _ _ _ hl hctx (hloop hl) h.atRet h1
    · exact h
  | errDeliver =>
    simp only [step]; split
    · next w r chk hl hm => exact invX_failed (same_afterErr _ _).main
    · exact h
  | errSuppress =>
    -- the repaired select: suppression needs the POOL context, which only the caller or the return of `Pool.Run` cancels
    simp only [step, hfix, if_true]; split
    · next w r chk hl =>
      split
      · next hp =>
        have hs := same_afterErr s chk
        obtain ⟨e, _, he⟩ := hb.onErrVal w r chk hl
        refine ⟨?_, fun r' hr => h.atRet r' (hs.main ▸ hr) |> (hs.extAtReturn ▸ hs.errsAtReturn ▸ ·)⟩
        unfold Acc
        rw [hs.extC, hs.compErrs, hs.main]
        rcases hb.poolExt hp with hx | ⟨r', hr⟩
        · exact .inl hx
        · rcases h.acc with hx | hx | hx | hx
          · exact .inl hx
          · rw [hx] at he; cases he
          · exact .inr (.inr (.inl hx))
          · rw [hr] at hx; cases hx.1
      · exact h
    · exact h
  | mainCancel =>
    simp only [step]; split
    · next hc =>
      have hx : s.extC = true := (hb.poolExt hc.2).resolve_right fun ⟨_, hr⟩ => by rw [hc.1] at hr; cases hr
      exact ⟨.inl hx, fun _ _ hf => by rw [show s.extC = _ from hf] at hx; cases hx⟩
    · exact h
  | mainClosed =>
    simp only [step]; split
    · next hc =>
      have hnp := not_pending_of_finished ha (ha.1.closed.1 hc.2)
      have hacc : s.extC = true ∨ s.compErrs = [] := by
        rcases h.acc with hx | hx | hx | hx
        · exact .inl hx
        · exact .inr hx
        · rw [hc.1] at hx; cases hx
        · exact absurd hx.2 hnp
      refine ⟨hacc.imp_right .inl, fun _ _ hf he => ?_⟩
      rcases hacc with hx | hx
      · rw [show s.extC = _ from hf] at hx; cases hx
      · exact absurd hx he
    · exact h

theorem run_invX (cfg : Cfg) (hfix : cfg.fixSelect = true) (cs : List Choice) : InvX (run cfg cs) :=
  (run_induction (P := fun s => InvB s ∧ InvX s) cfg ⟨invB_init, invX_init⟩
    (fun s c ha h => ⟨step_invB cfg s c ha h.1, step_invX cfg hfix s c ha h.1 h.2⟩) cs).2

end Pandora.Proofs.C05
