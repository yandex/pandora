/-
C20 — the reading loop over pooled objects handed out by an arbitrary `sync.Pool` oracle
(`Model/C20Pool.lean`) simulates the loop of `Model/C20Feed.lean`, whatever the oracle returns.
-/
import Pandora.Model.C20Pool
import Pandora.Proofs.C20Feed

namespace Pandora.Proofs.C20R6
open Pandora.Model.C20

def isBad : Raw → Bool
  | .bad => true
  | _ => false

def liftAction (inv : Bool) : Action → ActionO
  | .stop s => .stop s
  | .skip => .skip
  | .deliver e => .deliver { e := e, invalid := inv }

/-- the loop body on the object `Get` returned does what the loop body of `C20Feed` does, for EVERY content of that object
(and every `pooled` of `Model/C20Feed.lean`); the delivered object carries the invalid flag exactly for an undecodable line -/
theorem actionO_eq (cfg : ProvCfg) (got : Obj) (pooled : Entry) (r : Raw) :
    actionO cfg got r = liftAction (isBad r) (action cfg pooled r) := by
  cases r with
  | long => rfl
  | bad =>
    by_cases hc : cfg.coe = true
    · by_cases hch : isChosen "" cfg.chosen = true <;>
        simp [actionO, action, liftAction, isBad, Obj.reset, Obj.invalidate, invalidEntry, zeroEntry, hc, hch]
    · simp [actionO, action, liftAction, hc]
  | line l =>
    by_cases hch : isChosen (unmarshalInto zeroEntry l).tag cfg.chosen = true <;>
      simp [actionO, action, liftAction, isBad, Obj.reset, decodeAmmo, resetAmmo, hch]

theorem scanPassO_sim (cfg : ProvCfg) (pool : Nat → Obj) : ∀ (raws : List Raw) (g n : Nat) (pooled : Entry),
    (scanPassO cfg pool raws g n).1.map (·.e) = (scanPass cfg raws pooled n).1 ∧
    (scanPassO cfg pool raws g n).2.2.1 = (scanPass cfg raws pooled n).2.1 ∧
    (scanPassO cfg pool raws g n).2.2.2 = (scanPass cfg raws pooled n).2.2
  | [], g, n, pooled => by simp [scanPassO, scanPass]
  | r :: rs, g, n, pooled => by
    unfold scanPassO scanPass
    by_cases hl : isLong r = true
    · simp [hl]
    · simp only [hl, Bool.false_eq_true, if_false]
      by_cases hlim : (cfg.limit != 0 && decide (n ≥ cfg.limit)) = true
      · simp [hlim]
      · simp only [hlim, Bool.false_eq_true, if_false]
        rw [actionO_eq cfg (pool g) pooled r]
        cases h : action cfg pooled r with
        | stop s => simp [liftAction]
        | skip =>
          simp only [liftAction]
          exact scanPassO_sim cfg pool rs (g + 1) n pooled
        | deliver e =>
          simp only [liftAction]
          obtain ⟨h1, h2, h3⟩ := scanPassO_sim cfg pool rs (g + 1) (n + 1) e
          exact ⟨by simp [h1], h2, h3⟩

/-- an object the loop delivers with the invalid flag set holds nothing -/
theorem actionO_deliver_inv (cfg : ProvCfg) (got : Obj) (r : Raw) (a : Obj) (h : actionO cfg got r = .deliver a)
    (hi : a.invalid = true) : a.e = zeroEntry := by
  cases r with
  | long => simp [actionO] at h
  | bad =>
    simp only [actionO] at h
    split at h
    · split at h
      · injection h with h; subst h; rfl
      · cases h
    · cases h
  | line l =>
    simp only [actionO] at h
    split at h
    · injection h with h; subst h; simp [Obj.reset] at hi
    · cases h

theorem scanPassO_inv (cfg : ProvCfg) (pool : Nat → Obj) : ∀ (raws : List Raw) (g n : Nat),
    ∀ o ∈ (scanPassO cfg pool raws g n).1, o.invalid = true → o.e = zeroEntry
  | [], g, n => by simp [scanPassO]
  | r :: rs, g, n => by
    unfold scanPassO
    by_cases hl : isLong r = true
    · simp [hl]
    · simp only [hl, Bool.false_eq_true, if_false]
      by_cases hlim : (cfg.limit != 0 && decide (n ≥ cfg.limit)) = true
      · simp [hlim]
      · simp only [hlim, Bool.false_eq_true, if_false]
        cases h : actionO cfg (pool g) r with
        | stop s => simp
        | skip => exact scanPassO_inv cfg pool rs (g + 1) n
        | deliver a =>
          intro o ho hi
          simp only [List.mem_cons] at ho
          rcases ho with rfl | ho
          · exact actionO_deliver_inv cfg (pool g) r _ h hi
          · exact scanPassO_inv cfg pool rs (g + 1) (n + 1) o ho hi

theorem runPassesO_sim (cfg : ProvCfg) (pool : Nat → Obj) (raws : List Raw) : ∀ (fuel passNum g n : Nat) (pooled : Entry),
    (runPassesO cfg pool raws fuel passNum g n).1.map (·.e) = (runPasses cfg raws fuel passNum pooled n).1 ∧
    (runPassesO cfg pool raws fuel passNum g n).2 = (runPasses cfg raws fuel passNum pooled n).2
  | 0, _, _, _, _ => by simp [runPassesO, runPasses]
  | fuel + 1, passNum, g, n, pooled => by
    obtain ⟨h1, h2, h3⟩ := scanPassO_sim cfg pool raws g n pooled
    unfold runPassesO runPasses
    simp only [h2, h3]
    by_cases hst : ((scanPass cfg raws pooled n).2.2 != Stop.none) = true
    · simp only [hst, if_true]; exact ⟨h1, trivial⟩
    · simp only [hst, Bool.false_eq_true, if_false]
      by_cases hlim : (cfg.limit != 0 && decide ((scanPass cfg raws pooled n).2.1 ≥ cfg.limit)) = true
      · simp only [hlim, if_true]; exact ⟨h1, trivial⟩
      · simp only [hlim, Bool.false_eq_true, if_false]
        by_cases hp : (cfg.passes != 0 && decide (passNum + 1 ≥ cfg.passes)) = true
        · simp only [hp, if_true]; exact ⟨h1, trivial⟩
        · simp only [hp, Bool.false_eq_true, if_false]
          by_cases hz : ((scanPass cfg raws pooled n).2.1 == 0) = true
          · simp only [hz, if_true]; exact ⟨h1, trivial⟩
          · simp only [hz, Bool.false_eq_true, if_false]
            obtain ⟨r1, r2⟩ := runPassesO_sim cfg pool raws fuel (passNum + 1) (scanPassO cfg pool raws g n).2.1
              (scanPass cfg raws pooled n).2.1 ((scanPass cfg raws pooled n).1.getLast?.getD pooled)
            exact ⟨by simp [h1, r1], r2⟩

theorem runPassesO_inv (cfg : ProvCfg) (pool : Nat → Obj) (raws : List Raw) : ∀ (fuel passNum g n : Nat),
    ∀ o ∈ (runPassesO cfg pool raws fuel passNum g n).1, o.invalid = true → o.e = zeroEntry
  | 0, _, _, _ => by simp [runPassesO]
  | fuel + 1, passNum, g, n => by
    have hs := scanPassO_inv cfg pool raws g n
    unfold runPassesO
    simp only
    split
    · exact hs
    · split
      · exact hs
      · split
        · exact hs
        · split
          · exact hs
          · intro o ho hi
            simp only [List.mem_append] at ho
            rcases ho with ho | ho
            · exact hs o ho hi
            · exact runPassesO_inv cfg pool raws fuel (passNum + 1) _ _ o ho hi

theorem shootEntry_zero (tmo : Nat) : shootEntry tmo zeroEntry = { calls := [], samples := [sampleText "" 0] } := by
  simp [shootEntry, zeroEntry, lookupMethod, methodTable, svc]

/-- on an object that holds nothing when flagged, the gun's early return for an invalid ammo and its ordinary path
(method lookup of the empty call fails) report the same -/
theorem shootObj_eq (tmo : Nat) (o : Obj) (h : o.invalid = true → o.e = zeroEntry) : shootObj tmo o = shootEntry tmo o.e := by
  unfold shootObj
  by_cases hi : o.invalid = true
  · rw [if_pos hi, h hi, shootEntry_zero]; rfl
  · rw [if_neg hi]

end Pandora.Proofs.C20R6
