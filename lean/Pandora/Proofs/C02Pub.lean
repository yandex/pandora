/-
C02 — publication safety of a starting unlimited leaf (see `Model/C02Pub.lean`).
-/
import Pandora.Model.C02Pub

namespace Pandora.Proofs.C02R6
open Pandora.Model.C02.Pub

/-- the invariant of the source's orders: writer = [finish, flag], reader = [flag, finish] -/
def PubInv (v : Int) (st : USt) : Prop :=
  ((st.w = [.storeFinish, .storeStarted] ∧ st.sh.started = false) ∨
   (st.w = [.storeStarted] ∧ st.sh.finish = v ∧ st.sh.started = false) ∨
   (st.w = [] ∧ st.sh.finish = v)) ∧
  ((st.r = [.loadStarted, .loadFinish] ∧ st.seenStarted = none ∧ st.seenFinish = none) ∨
   (st.r = [.loadFinish] ∧ st.seenFinish = none ∧ ∃ b, st.seenStarted = some b ∧ (b = true → st.sh.finish = v)) ∨
   (st.r = [] ∧ ∃ b x, st.seenStarted = some b ∧ st.seenFinish = some x ∧ (b = true → x = v)))

theorem pub_step (v : Int) (st : USt) (b : Bool) (h : PubInv v st) : PubInv v (ustep v st b) := by
  obtain ⟨sh, w, r, ss, sf⟩ := st
  obtain ⟨st0, fin⟩ := sh
  obtain ⟨hw, hr⟩ := h
  simp only at hw hr
  cases b with
  | true =>
    rcases hw with ⟨rfl, rfl⟩ | ⟨rfl, rfl, rfl⟩ | ⟨rfl, rfl⟩
    · refine ⟨Or.inr (Or.inl ⟨rfl, rfl, rfl⟩), ?_⟩
      rcases hr with ⟨rfl, rfl, rfl⟩ | ⟨rfl, rfl, b, rfl, hb⟩ | ⟨rfl, b, x, rfl, rfl, hb⟩
      · exact Or.inl ⟨rfl, rfl, rfl⟩
      · exact Or.inr (Or.inl ⟨rfl, rfl, b, rfl, fun _ => rfl⟩)
      · exact Or.inr (Or.inr ⟨rfl, b, x, rfl, rfl, hb⟩)
    · refine ⟨Or.inr (Or.inr ⟨rfl, rfl⟩), ?_⟩
      rcases hr with ⟨rfl, rfl, rfl⟩ | ⟨rfl, rfl, b, rfl, hb⟩ | ⟨rfl, b, x, rfl, rfl, hb⟩
      · exact Or.inl ⟨rfl, rfl, rfl⟩
      · exact Or.inr (Or.inl ⟨rfl, rfl, b, rfl, fun _ => rfl⟩)
      · exact Or.inr (Or.inr ⟨rfl, b, x, rfl, rfl, hb⟩)
    · exact ⟨Or.inr (Or.inr ⟨rfl, rfl⟩), hr⟩
  | false =>
    rcases hr with ⟨rfl, rfl, rfl⟩ | ⟨rfl, rfl, b, rfl, hb⟩ | ⟨rfl, b, x, rfl, rfl, hb⟩
    · refine ⟨hw, Or.inr (Or.inl ⟨rfl, rfl, st0, rfl, ?_⟩)⟩
      intro hst
      rcases hw with ⟨_, h2⟩ | ⟨_, _, h2⟩ | ⟨_, h2⟩
      · rw [h2] at hst; cases hst
      · rw [h2] at hst; cases hst
      · exact h2
    · exact ⟨hw, Or.inr (Or.inr ⟨rfl, b, fin, rfl, rfl, hb⟩)⟩
    · exact ⟨hw, Or.inr (Or.inr ⟨rfl, b, x, rfl, rfl, hb⟩)⟩

theorem pub_run (v : Int) : ∀ (sched : List Bool) (st : USt), PubInv v st → PubInv v (urun v st sched)
  | [], _, h => h
  | b :: rest, st, h => pub_run v rest (ustep v st b) (pub_step v st b h)

/-- **with the orders of the source every interleaving of a starting caller and a `Left` shows `Left` a pair it could
have read atomically**: a raised flag comes with the finish time stored by the starting caller -/
theorem publish_safe (f0 v : Int) (sched : List Bool) (s : Bool) (f : Int)
    (hs : (urun v (uinit f0 [.storeFinish, .storeStarted] [.loadStarted, .loadFinish]) sched).seenStarted = some s)
    (hf : (urun v (uinit f0 [.storeFinish, .storeStarted] [.loadStarted, .loadFinish]) sched).seenFinish = some f) :
    s = true → f = v := by
  have h := pub_run v sched (uinit f0 [.storeFinish, .storeStarted] [.loadStarted, .loadFinish])
    ⟨Or.inl ⟨rfl, rfl⟩, Or.inl ⟨rfl, rfl, rfl⟩⟩
  rcases h.2 with ⟨_, h1, _⟩ | ⟨_, h1, _⟩ | ⟨_, b, x, hb, hx, hbx⟩
  · rw [h1] at hs; cases hs
  · rw [h1] at hf; cases hf
  · rw [hb] at hs; rw [hx] at hf
    cases hs; cases hf
    exact hbx

/-- … so what `Left` answers is what an ATOMIC `Left` answers before the start (-1) or after it -/
theorem left_atomic (f0 v : Int) (sched : List Bool) (s : Bool) (f now : Int)
    (hs : (urun v (uinit f0 [.storeFinish, .storeStarted] [.loadStarted, .loadFinish]) sched).seenStarted = some s)
    (hf : (urun v (uinit f0 [.storeFinish, .storeStarted] [.loadStarted, .loadFinish]) sched).seenFinish = some f) :
    leftOfView s f now = leftOfView false f0 now ∨ leftOfView s f now = leftOfView true v now := by
  cases s with
  | false => left; simp [leftOfView]
  | true => right; rw [publish_safe f0 v sched true f hs hf rfl]

end Pandora.Proofs.C02R6
