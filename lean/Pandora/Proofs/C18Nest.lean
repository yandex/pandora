/-
C18 — nested plugins (Model/C18Nest): the composition of the outer creation and the nested registration is consistent.
-/
import Pandora.Proofs.C18Ext
import Pandora.Model.C18Nest

namespace Pandora.Proofs.C18
open Pandora.Model.C18 Pandora.Spec.C18 Pandora.Model.C18Nest

/-- the first k of k + j operations are the k operations -/
theorem iter_take (f : St → St × Step) : ∀ (k j : Nat) (st : St), ((iter f (k + j) st).2).take k = (iter f k st).2 := by
  intro k
  induction k with
  | zero => intro j st; simp [iter]
  | succ k ih =>
    intro j st
    have : k + 1 + j = (k + j) + 1 := by omega
    rw [this]
    simp only [iter, List.take_succ_cons]
    rw [ih]

/-- the nested creations the outer plan looked at ARE the nested creations that happen: the i-th step of the nested
run of `n ≤ b` creations is the i-th step of the run of `b` creations -/
theorem innerSteps_prefix (inner0 : Input) (n b : Nat) (hle : n ≤ b) (io : Obs) (h : run (nestInner inner0 n) = some io) :
    io.steps = (innerSteps inner0 b).take n := by
  obtain ⟨hr, rfl⟩ := run_eq_phase h
  obtain ⟨j, rfl⟩ : ∃ j, b = n + j := ⟨b - n, by omega⟩
  simp only [innerSteps, run_steps (nestInner inner0 (n + j)) hr, Option.getD_some]
  exact (iter_take _ n j _).symm

/-! ### an operation invokes fillConf at most once, a creation of k calls at most k + 1 times -/

theorem countP_fill_kinds (evs : List Ev) : evs.countP isFillEv = (evs.map kindOf).count K.f := by
  induction evs with
  | nil => rfl
  | cons e evs ih =>
    cases e <;> simp [List.countP_cons, isFillEv, kindOf, ih]

theorem getKinds_fill (sh : Shape) (w : World) : (getKinds sh w).count K.f ≤ 1 := by
  unfold getKinds
  split <;> split <;> simp

theorem callKinds_fill (ff : Step → Bool) (inp : Input) (s : Step) : (callKindsBy ff inp s).count K.f ≤ 1 := by
  unfold callKindsBy
  have := getKinds_fill inp.sh inp.w
  split
  · split
    · simpa using this
    · split <;> simp [List.count_append] <;> omega
  · split <;> simp

theorem createKinds_fill (ff : Step → Bool) (inp : Input) (s : Step) : (createKindsBy ff inp s).count K.f ≤ 1 := by
  unfold createKindsBy
  have := getKinds_fill inp.sh inp.w
  split
  · split
    · simpa using this
    · simp [List.count_append]; omega
  · split <;> simp

theorem sum_le_length {α : Type} (f : α → Nat) (l : List α) (h : ∀ a ∈ l, f a ≤ 1) : (l.map f).sum ≤ l.length := by
  induction l with
  | nil => simp
  | cons a l ih =>
    simp only [List.map_cons, List.sum_cons, List.length_cons]
    have h1 := h a (by simp)
    have h2 := ih (fun b hb => h b (by simp [hb]))
    omega

/-- every step of an observation that satisfies `structOk` invokes fillConf at most once -/
theorem struct_fill_le_one (inp : Input) (obs : Obs) (h : structOk inp obs = true) :
    ∀ s ∈ obs.steps, s.evs.countP isFillEv ≤ 1 := by
  simp only [structOk, structOkBy, Bool.and_eq_true, Bool.or_eq_true, beq_iff_eq, List.all_eq_true] at h
  obtain ⟨⟨h1, h2⟩, _⟩ := h
  intro s hs
  rw [countP_fill_kinds]
  by_cases hf : inp.form = .component
  · have := h2 s (by simpa [callsOf, hf] using hs)
    rw [this]; exact callKinds_fill _ _ _
  · rcases h1 with h1 | h1
    · exact absurd h1 hf
    · cases hst : obs.steps with
      | nil => rw [hst] at hs; simp at hs
      | cons c calls =>
        rw [hst] at hs h1
        simp only [List.head?_cons, beq_iff_eq] at h1
        simp only [List.mem_cons] at hs
        rcases hs with rfl | hs
        · rw [h1]; exact createKinds_fill _ _ _
        · have hcalls : callsOf inp obs = calls := by
            rw [callsOf_ne _ hf, hst]; rfl
          have := h2 s (by rw [hcalls]; exact hs)
          rw [this]; exact callKinds_fill _ _ _

/-- an observation that satisfies `errorsOk` has at most k + 1 steps -/
theorem errors_length (inp : Input) (obs : Obs) (h : errorsOk inp obs = true) : obs.steps.length ≤ inp.k + 1 := by
  unfold errorsOk at h
  cases hf : inp.form with
  | component =>
    simp only [hf, Bool.and_eq_true, beq_iff_eq] at h
    omega
  | facNoErr | facErr =>
    simp only [hf] at h
    cases hst : obs.steps with
    | nil => simp
    | cons c calls =>
      rw [hst] at h
      simp only [Bool.and_eq_true] at h
      obtain ⟨⟨_, h3⟩, _⟩ := h
      by_cases hm : isMade c = true
      · simp only [hm, if_true, beq_iff_eq] at h3; simp [h3]
      · simp only [hm, Bool.false_eq_true, if_false, List.isEmpty_iff] at h3; simp [h3]

end Pandora.Proofs.C18
