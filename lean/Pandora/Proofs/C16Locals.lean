/-
Proofs C16: `locals` blocks, expression evaluation, and gohcl's conversion to the types of the HCL structs.

* `envGet_mergeMaps`   what `mergeMaps(to, from)` leaves under a key: the LAST entry of `from` with that key, otherwise
                        what `to` had;
* `evalLocals_append`  `decodeLocals` processes the blocks left to right;
* `eval_inline`        evaluating an expression under the locals = evaluating, under NO locals, the expression with
                        every defined local written out as a literal.
-/
import Pandora.Model.C16Locals

namespace Pandora.Proofs.C16
open Pandora.Go Pandora.Model.C16

/-! ### environments -/

theorem envGet_nil (k : String) : envGet [] k = none := rfl

theorem envGet_cons (p : String × V) (env : Env) (k : String) :
    envGet (p :: env) k = if p.1 == k then some p.2 else envGet env k := by
  unfold envGet
  simp only [List.find?]
  split <;> simp_all

theorem envGet_envSet (env : Env) (k k' : String) (v : V) :
    envGet (envSet env k v) k' = if k == k' then some v else envGet env k' := by
  induction env with
  | nil => simp [envSet, envGet_cons, envGet_nil]
  | cons p rest ih =>
    obtain ⟨a, b⟩ := p
    by_cases h : a = k
    · subst h
      by_cases h2 : a = k' <;> simp [envSet, envGet_cons, h2]
    · by_cases h3 : a = k'
      · subst h3
        simp [envSet, envGet_cons, h, Ne.symm h]
      · simp [envSet, envGet_cons, h, h3, ih]

theorem envGet_append_single (env : Env) (p : String × V) (k : String) :
    envGet (env ++ [p]) k = match envGet env k with
      | some v => some v
      | none => if p.1 == k then some p.2 else none := by
  induction env with
  | nil => simp [envGet_cons, envGet_nil]
  | cons q rest ih =>
    simp only [List.cons_append, envGet_cons]
    by_cases h : (q.1 == k) = true
    · simp [h]
    · simp only [h, ih]
      simp

/-- `mergeMaps(to, from)[k]` = the last `from` entry under `k`, otherwise `to[k]` -/
theorem envGet_mergeMaps (src dst : Env) (k : String) :
    envGet (mergeMaps dst src) k = match envGet src.reverse k with
      | some v => some v
      | none => envGet dst k := by
  induction src generalizing dst with
  | nil => simp [mergeMaps, envGet_nil]
  | cons p rest ih =>
    have hstep : mergeMaps dst (p :: rest) = mergeMaps (envSet dst p.1 p.2) rest := by
      simp [mergeMaps, List.foldl]
    rw [hstep, ih, List.reverse_cons, envGet_append_single, envGet_envSet]
    cases envGet rest.reverse k with
    | some v => rfl
    | none =>
      by_cases h : (p.1 == k) = true
      · simp [h]
      · simp [h]

/-! ### the structural equality test -/

mutual
theorem beqV_refl : ∀ v : V, beqV v v = true
  | .null => by simp [beqV]
  | .str s => by simp [beqV]
  | .int i => by simp [beqV]
  | .bool b => by simp [beqV]
  | .seq xs => by simp [beqV, beqVL_refl xs]
  | .map kvs => by simp [beqV, beqVM_refl kvs]
theorem beqVL_refl : ∀ xs : List V, beqVL xs xs = true
  | [] => by simp [beqVL]
  | x :: xs => by simp [beqVL, beqV_refl x, beqVL_refl xs]
theorem beqVM_refl : ∀ kvs : List (String × V), beqVM kvs kvs = true
  | [] => by simp [beqVM]
  | (k, x) :: rest => by simp [beqVM, beqV_refl x, beqVM_refl rest]
end

mutual
theorem eq_of_beqV : ∀ a b : V, beqV a b = true → a = b
  | .seq xs, b, h => by
    cases b with
    | seq ys => exact congrArg V.seq (eq_of_beqVL xs ys (by simpa [beqV] using h))
    | _ => simp [beqV] at h
  | .map xs, b, h => by
    cases b with
    | map ys => exact congrArg V.map (eq_of_beqVM xs ys (by simpa [beqV] using h))
    | _ => simp [beqV] at h
  | .null, b, h | .str _, b, h | .int _, b, h | .bool _, b, h => by cases b <;> simp_all [beqV]
theorem eq_of_beqVL : ∀ xs ys : List V, beqVL xs ys = true → xs = ys
  | [], [], _ => rfl
  | x :: xs, y :: ys, h => by
    simp only [beqVL, Bool.and_eq_true] at h
    rw [eq_of_beqV x y h.1, eq_of_beqVL xs ys h.2]
  | [], _ :: _, h | _ :: _, [], h => by simp [beqVL] at h
theorem eq_of_beqVM : ∀ xs ys : List (String × V), beqVM xs ys = true → xs = ys
  | [], [], _ => rfl
  | (k, x) :: xs, (k', y) :: ys, h => by
    simp only [beqVM, Bool.and_eq_true, beq_iff_eq] at h
    rw [h.1.1, eq_of_beqV x y h.1.2, eq_of_beqVM xs ys h.2]
  | [], _ :: _, h | _ :: _, [], h => by simp [beqVM] at h
end

/-- equality of value trees is decided by `beqV`: a statement `a = b` between closed trees can be left to the kernel
(`decide +kernel`), where `rfl` would have the elaborator evaluate both sides first -/
instance : DecidableEq V := fun a b =>
  decidable_of_iff (beqV a b = true) ⟨eq_of_beqV a b, fun h => h ▸ beqV_refl a⟩

theorem beqOV_refl (o : Option V) : beqOV o o = true := by
  cases o <;> simp [beqOV, beqV_refl]

theorem ne_of_beqOV_false {a b : Option V} (h : beqOV a b = false) : a ≠ b := by
  intro hab
  subst hab
  simp [beqOV_refl] at h

/-! ### `decodeLocals` -/

theorem evalLocals_append_list (fns : List (String × String)) (bs cs : List (List (String × E))) (vars : Env) :
    evalLocals fns vars (bs ++ cs) = (evalLocals fns vars bs).bind fun e => evalLocals fns e cs := by
  induction bs generalizing vars with
  | nil => simp [evalLocals]
  | cons b0 rest ih =>
    simp only [List.cons_append, evalLocals]
    cases localsStep fns vars b0 with
    | none => simp
    | some v => simp [ih]

theorem evalLocals_append (fns : List (String × String)) (bs : List (List (String × E))) (b : List (String × E))
    (vars : Env) :
    evalLocals fns vars (bs ++ [b]) = (evalLocals fns vars bs).bind fun e => localsStep fns e b := by
  rw [evalLocals_append_list]
  congr 1
  funext e
  simp only [evalLocals]
  cases localsStep fns e b <;> rfl

/-! ### literals -/

mutual
theorem eval_quote (fns : List (String × String)) (env : Env) : ∀ v : V, evalE fns env (quote v) = some v
  | .null => by simp [quote, evalE]
  | .str s => by simp [quote, evalE]
  | .int i => by simp [quote, evalE]
  | .bool b => by simp [quote, evalE]
  | .seq xs => by simp [quote, evalE, eval_quoteL fns env xs]
  | .map kvs => by simp [quote, evalE, eval_quoteM fns env kvs]
theorem eval_quoteL (fns : List (String × String)) (env : Env) : ∀ xs : List V, evalL fns env (quoteL xs) = some xs
  | [] => by simp [quoteL, evalL]
  | x :: xs => by simp [quoteL, evalL, eval_quote fns env x, eval_quoteL fns env xs]
theorem eval_quoteM (fns : List (String × String)) (env : Env) :
    ∀ kvs : List (String × V), evalM fns env (quoteM kvs) = some kvs
  | [] => by simp [quoteM, evalM]
  | (k, x) :: rest => by simp [quoteM, evalM, eval_quote fns env x, eval_quoteM fns env rest]
end

theorem isStrLit_quote (v : V) : isStrLit (quote v) = true → ∃ s, v = .str s := by
  cases v <;> simp [quote, isStrLit]

/-! ### locals are conveniences: writing their values out does not change the evaluated description -/

theorem inlineL_length (env : Env) : ∀ xs : List E, (inlineEL env xs).length = xs.length
  | [] => by simp [inlineEL]
  | x :: xs => by simp [inlineEL, inlineL_length env xs]

/-- the single-part template rule gives the same value for a part and for its inlined form -/
theorem tmpl_single (fns : List (String × String)) (env : Env) (p : E) (v : V)
    (hp : evalE fns env p = some v) :
    (if isStrLit (inlineE env p) then (tmplStr v).map V.str else some v) =
    (if isStrLit p then (tmplStr v).map V.str else some v) := by
  cases p with
  | loc n =>
    simp only [evalE] at hp
    have hi : inlineE env (.loc n) = quote v := by simp [inlineE, hp]
    rw [hi]
    have hl : isStrLit (E.loc n) = false := rfl
    rw [hl]
    by_cases hq : isStrLit (quote v) = true
    · obtain ⟨s, hs⟩ := isStrLit_quote v hq
      subst hs
      simp [quote, isStrLit, tmplStr]
    · rw [if_neg hq]
      simp
  | _ => simp [inlineE, isStrLit]

mutual
theorem eval_inline (fns : List (String × String)) (env : Env) :
    ∀ e : E, evalE fns [] (inlineE env e) = evalE fns env e
  | .null => by simp [inlineE, evalE]
  | .str s => by simp [inlineE, evalE]
  | .int i => by simp [inlineE, evalE]
  | .bool b => by simp [inlineE, evalE]
  | .seq xs => by simp [inlineE, evalE, eval_inlineL fns env xs]
  | .map kvs => by simp [inlineE, evalE, eval_inlineM fns env kvs]
  | .loc n => by
    simp only [inlineE]
    cases h : envGet env n with
    | none => simp [evalE, h, envGet_nil]
    | some v => simp [evalE, h, eval_quote]
  | .call f args => by simp [inlineE, evalE, eval_inlineL fns env args]
  | .idx e k => by simp [inlineE, evalE, eval_inline fns env e, eval_inline fns env k]
  | .tmpl ps => by
    simp only [inlineE, evalE, eval_inlineL fns env ps]
    cases hvs : evalL fns env ps with
    | none => simp
    | some vs =>
      simp only [Option.bind_some]
      match ps, vs, hvs with
      | [], vs, _ => simp [inlineEL]
      | [p], [], hvs =>
        simp only [evalL] at hvs
        cases h1 : evalE fns env p <;> simp [h1] at hvs
      | [p], [v], hvs =>
        have hp : evalE fns env p = some v := by
          simp only [evalL] at hvs
          cases h1 : evalE fns env p with
          | none => simp [h1] at hvs
          | some w => simp [h1] at hvs; rw [hvs]
        simp only [inlineEL]
        exact tmpl_single fns env p v hp
      | [p], _ :: _ :: _, hvs =>
        simp only [evalL] at hvs
        cases h1 : evalE fns env p <;> simp [h1] at hvs
      | _ :: _ :: _, vs, _ => simp [inlineEL]
theorem eval_inlineL (fns : List (String × String)) (env : Env) :
    ∀ xs : List E, evalL fns [] (inlineEL env xs) = evalL fns env xs
  | [] => by simp [inlineEL, evalL]
  | x :: xs => by simp [inlineEL, evalL, eval_inline fns env x, eval_inlineL fns env xs]
theorem eval_inlineM (fns : List (String × String)) (env : Env) :
    ∀ kvs : List (String × E), evalM fns [] (inlineEM env kvs) = evalM fns env kvs
  | [] => by simp [inlineEM, evalM]
  | (k, x) :: rest => by simp [inlineEM, evalM, eval_inline fns env x, eval_inlineM fns env rest]
end

/-! ### the conversion to the types of the HCL structs is idempotent

what `gohcl.DecodeBody` stores is in converted form: converting it again changes nothing -/

theorem strsConv_idem : ∀ (xs : List V) (ss : List String), strsConv xs = some ss → strsConv (ss.map V.str) = some ss
  | [], ss, h => by simp [strsConv] at h; subst h; simp [strsConv]
  | x :: r, ss, h => by
    simp only [strsConv] at h
    cases hx : primStr x with
    | none => simp [hx] at h
    | some s =>
      simp only [hx, Option.bind_some] at h
      cases hr : strsConv r with
      | none => simp [hr] at h
      | some rs =>
        simp only [hr, Option.map_some, Option.some.injEq] at h
        subst h
        simp [strsConv, primStr, strsConv_idem r rs hr]

theorem mapStrVals_idem : ∀ (kvs kvs' : List (String × V)), mapStrVals kvs = some kvs' → mapStrVals kvs' = some kvs'
  | [], kvs', h => by simp [mapStrVals] at h; subst h; simp [mapStrVals]
  | (k, x) :: rest, kvs', h => by
    simp only [mapStrVals] at h
    cases hx : primStr x with
    | none => simp [hx] at h
    | some s =>
      simp only [hx, Option.bind_some] at h
      cases hr : mapStrVals rest with
      | none => simp [hr] at h
      | some rs =>
        simp only [hr, Option.map_some, Option.some.injEq] at h
        subst h
        simp [mapStrVals, primStr, mapStrVals_idem rest rs hr]

theorem coerceLeaf_idem (l : C16Leaf) (v w : V) (h : coerceLeaf l v = some w) : coerceLeaf l w = some w := by
  cases l <;> cases v <;> simp [coerceLeaf, primStr] at h <;> (try subst h) <;> (try simp [coerceLeaf, primStr])
  · obtain ⟨a, ha, hw⟩ := h
    subst hw
    simp [strsConv_idem _ _ ha]
  · obtain ⟨a, ha, hw⟩ := h
    subst hw
    simp [mapStrVals_idem _ _ ha]

/-- a leaf conversion keeps null null and makes nothing null -/
theorem coerceLeaf_null (l : C16Leaf) (v w : V) (h : coerceLeaf l v = some w) : isNullV w = isNullV v := by
  cases l <;> cases v <;> simp [coerceLeaf, primStr] at h <;> (try subst h) <;> (try simp [isNullV])
  all_goals (obtain ⟨a, _, hw⟩ := h; subst hw; simp)

theorem coerceV_leaf (T : Tables) (l : C16Leaf) (v : V) : coerceV T (.leaf l) v = coerceLeaf l v := by
  cases v <;> simp [coerceV]
  cases l <;> simp [coerceLeaf]

theorem written_cons (p : String × V) (fs : List (String × V)) (k : String) :
    written (p :: fs) k = ((p.1 == k && !isNullV p.2) || written fs k) := by
  simp [written]

theorem coerceV_leaf_idem (T : Tables) (l : C16Leaf) (v w : V) (h : coerceV T (.leaf l) v = some w) :
    coerceV T (.leaf l) w = some w ∧ isNullV w = isNullV v := by
  rw [coerceV_leaf] at h ⊢
  exact ⟨coerceLeaf_idem l v w h, coerceLeaf_null l v w h⟩

mutual
theorem coerceV_idem (T : Tables) :
    ∀ (v : V) (ty : C16HTy) (w : V), coerceV T ty v = some w → coerceV T ty w = some w ∧ isNullV w = isNullV v
  | .null, ty, w, h => by
    cases ty <;> simp [coerceV] at h <;> subst h <;> simp [coerceV]
  | .str _, ty, w, h | .int _, ty, w, h | .bool _, ty, w, h => by
    cases ty with
    | leaf l => exact coerceV_leaf_idem T l _ w h
    | _ => simp [coerceV] at h
  | .seq xs, ty, w, h => by
    cases ty with
    | leaf l => exact coerceV_leaf_idem T l _ w h
    | struct s => simp [coerceV] at h
    | structList s =>
      simp only [coerceV] at h
      cases hx : coerceXs T s xs with
      | none => simp [hx] at h
      | some xs' =>
        simp only [hx, Option.map_some, Option.some.injEq] at h
        subst h
        simp [coerceV, coerceXs_idem T s xs xs' hx, isNullV]
  | .map fs, ty, w, h => by
    cases ty with
    | leaf l => exact coerceV_leaf_idem T l _ w h
    | structList s => simp [coerceV] at h
    | struct s =>
      simp only [coerceV] at h
      by_cases hr : requiredOK T s fs = true
      · rw [if_pos hr] at h
        cases hx : coerceFs T s fs with
        | none => simp [hx] at h
        | some fs' =>
          simp only [hx, Option.map_some, Option.some.injEq] at h
          subst h
          obtain ⟨h1, h2⟩ := coerceFs_idem T s fs fs' hx
          have hr' : requiredOK T s fs' = true := by
            unfold requiredOK at hr ⊢
            simpa [h2] using hr
          simp [coerceV, hr', h1, isNullV]
      · rw [if_neg hr] at h
        cases h
theorem coerceFs_idem (T : Tables) (s : String) :
    ∀ (fs fs' : List (String × V)), coerceFs T s fs = some fs' →
      coerceFs T s fs' = some fs' ∧ ∀ k, written fs' k = written fs k
  | [], fs', h => by
    simp [coerceFs] at h
    subst h
    simp [coerceFs]
  | (k, x) :: rest, fs', h => by
    simp only [coerceFs] at h
    cases hf : findH T s k with
    | none => simp [hf] at h
    | some f =>
      simp only [hf] at h
      cases hx : coerceV T f.ty x with
      | none => simp [hx] at h
      | some y =>
        cases hr : coerceFs T s rest with
        | none => simp [hx, hr] at h
        | some ys =>
          simp only [hx, hr, Option.some.injEq] at h
          subst h
          obtain ⟨hy1, hy2⟩ := coerceV_idem T x f.ty y hx
          obtain ⟨hr1, hr2⟩ := coerceFs_idem T s rest ys hr
          refine ⟨by simp [coerceFs, hf, hy1, hr1], ?_⟩
          intro k'
          rw [written_cons, written_cons, hr2 k', hy2]
theorem coerceXs_idem (T : Tables) (s : String) :
    ∀ (xs xs' : List V), coerceXs T s xs = some xs' → coerceXs T s xs' = some xs'
  | [], xs', h => by
    simp [coerceXs] at h
    subst h
    simp [coerceXs]
  | x :: rest, xs', h => by
    simp only [coerceXs] at h
    cases hx : coerceV T (.struct s) x with
    | none => simp [hx] at h
    | some y =>
      cases hr : coerceXs T s rest with
      | none => simp [hx, hr] at h
      | some ys =>
        simp only [hx, hr, Option.some.injEq] at h
        subst h
        simp [coerceXs, (coerceV_idem T x (.struct s) y hx).1, coerceXs_idem T s rest ys hr]
end

end Pandora.Proofs.C16
