/-
C16 helper lemmas for `Model/C16Src.lean`: the extension switch of `ReadAmmoConfig` and the `locals` blocks that
`PartialContent` takes out of the body.
-/
import Pandora.Model.C16Src

namespace Pandora.Proofs.C16
open Pandora.Model.C16

/-- a `HasSuffix` case whose literal is suffix-incomparable with `ext` matches no name that ends with `ext` -/
theorem caseMatches_incomparable (c : ExtCase) (ext name : List Char) (hk : c.1 = "HasSuffix")
    (hi : suffixIncomparable c.2.1.toList ext = true) (hs : ext <:+ name) : caseMatches name c = false := by
  unfold caseMatches
  simp only [hk, beq_self_eq_true, if_true]
  cases hm : c.2.1.toList.isSuffixOf name with
  | false => rfl
  | true =>
    have h1 : c.2.1.toList <:+ name := List.isSuffixOf_iff_suffix.mp hm
    unfold suffixIncomparable at hi
    rcases List.suffix_or_suffix_of_suffix h1 hs with h | h
    · have := List.isSuffixOf_iff_suffix.mpr h
      simp [this] at hi
    · have := List.isSuffixOf_iff_suffix.mpr h
      simp [this] at hi

/-- the switch on a table with `extSelects`: every name ending with `ext` runs `parser` -/
theorem frontEndOf_of_extSelects (cases : List ExtCase) (ext parser : String)
    (h : extSelects cases ext parser = true) (name : List Char) (hs : ext.toList <:+ name) :
    frontEndOf cases name = routeOf parser := by
  induction cases with
  | nil => simp [extSelects] at h
  | cons c rest ih =>
    unfold extSelects at h
    by_cases hc : (c.1 == "HasSuffix" && c.2.1 == ext) = true
    · rw [if_pos hc] at h
      simp only [Bool.and_eq_true, beq_iff_eq] at hc
      have hm : caseMatches name c = true := by
        unfold caseMatches
        simp only [hc.1, beq_self_eq_true, if_true, hc.2]
        exact List.isSuffixOf_iff_suffix.mpr hs
      unfold frontEndOf
      rw [List.find?_cons, hm]
      simp only [beq_iff_eq] at h
      simp [h]
    · rw [if_neg hc] at h
      simp only [Bool.and_eq_true, beq_iff_eq] at h
      obtain ⟨⟨hk, hi⟩, hr⟩ := h
      have hm : caseMatches name c = false := caseMatches_incomparable c ext.toList name hk hi hs
      have := ih hr
      unfold frontEndOf at this ⊢
      rw [List.find?_cons, hm]
      exact this

/-- `strings.ToLower` (or whatever is done to the name, character by character) distributes over the base name and
the extension -/
theorem suffix_of_mapped (lc : Char → Char) (s e ext : List Char) (he : e.map lc = ext) :
    ext <:+ (s ++ e).map lc := by
  rw [List.map_append, he]
  exact List.suffix_append _ _

/-! ### `splitLocals` -/

/-- under the strict reading an accepted file has only plain `locals` blocks, and all of them are evaluated -/
theorem splitLocals_strict (s : HclSrc) (f : HclFile) (h : splitLocals true s = some f) :
    s.blocks.all LBlock.plain = true ∧ f = s.allLocals := by
  unfold splitLocals at h
  by_cases hp : s.blocks.all LBlock.plain = true
  · simp only [hp, Bool.not_true, Bool.and_false] at h
    simp only [Bool.false_eq_true, if_false, Option.some.injEq] at h
    refine ⟨hp, ?_⟩
    rw [← h, List.filter_eq_self.mpr (List.all_eq_true.mp hp)]
    rfl
  · simp only [Bool.not_eq_true] at hp
    simp [hp] at h

/-- a file without labelled blocks is split the same way under both readings -/
theorem splitLocals_plain (strict : Bool) (s : HclSrc) (hp : s.blocks.all LBlock.plain = true) :
    splitLocals strict s = some s.allLocals := by
  unfold splitLocals
  simp only [hp, Bool.not_true, Bool.and_false, Bool.false_eq_true, if_false]
  rw [List.filter_eq_self.mpr (List.all_eq_true.mp hp)]
  rfl

end Pandora.Proofs.C16
