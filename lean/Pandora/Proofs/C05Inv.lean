/-
C05 — structural invariants of the pool model (`Pandora.Model.C05Pool`), for every code variant `cfg`.
-/
import Pandora.Proofs.C05Ops

namespace Pandora.Proofs.C05
open Pandora.Model.C05

/-- number of results the await loop has not consumed yet: what `toWait` must equal -/
def cnt (s : State) : Nat :=
  (if s.prov = .taken then 0 else 1) + (if s.agg = .taken then 0 else 1) +
  (if s.startTaken then 0 else 1) + (if s.runResOpen then 1 else 0)

def AwBusy (s : State) : Prop := s.aw = .loop ∨ ∃ w r c, s.aw = .onErr w r c

structure InvW (s : State) : Prop where
  ctx1 : s.poolC = true → s.runC = true
  ctx2 : s.runC = true → s.startC = true
  retCancel : ∀ r, s.main = .returned r → s.poolC = true
  pre : s.aw = .off → s.prov = .idle ∧ s.agg = .idle ∧ s.startPc = .idle ∧ s.live = [] ∧ s.buf = [] ∧
          s.startRes = none ∧ s.startTaken = false ∧ s.runResOpen = false ∧ s.closedErr = false ∧
          s.spawned = 0 ∧ s.awaited = 0 ∧ s.toWait = 0 ∧ s.retired = []
  pre2 : (s.main = .init ∨ s.main = .warmed) → s.aw = .off ∧ s.waitDone = 0
  on : s.aw ≠ .off → s.prov ≠ .idle ∧ s.agg ≠ .idle ∧ s.startPc ≠ .idle ∧ s.main ≠ .init ∧ s.main ≠ .warmed
  wd0 : AwBusy s → s.waitDone = 0
  wd1 : s.aw = .finished → s.waitDone = 1
  wd2 : s.waitDone ≤ 1
  toWait : s.aw ≠ .off → s.toWait = cnt s
  fin : s.aw = .finished → s.toWait = 0
  closed : s.closedErr = true ↔ s.aw = .finished
  startDone : s.startPc = .done ↔ s.startRes.isSome = true
  startRes : ∀ n r, s.startRes = some (n, r) → n = s.spawned
  taken : s.startTaken = true → s.startRes.isSome = true ∧ s.startedInstances = s.spawned
  first0 : s.startPc = .waiting true → s.spawned = 0
  count : s.spawned = s.awaited + s.buf.length + s.live.length
  closedRun : s.aw ≠ .off → s.runResOpen = false → s.startTaken = true ∧ s.live = [] ∧ s.buf = []
  onErrChk : ∀ w r, s.aw = .onErr w r true → s.runResOpen = true
  nopanic : s.panicked = false

/-- `checkAllInstancesAreFinished` has nothing left to do -/
def ChkDone (s : State) : Prop := s.startTaken = true → s.runResOpen = true → s.awaited < s.spawned

/-- the await goroutine is at a point where no call of `checkAllInstancesAreFinished` is pending -/
def AwNoChk (s : State) : Prop := s.aw = .loop ∨ ∃ w r, s.aw = .onErr w r false

/-- the invariant between two steps: `InvW`, "the await loop is only entered with `toWait > 0`", and no pending check -/
abbrev InvA (s : State) : Prop := InvW s ∧ (s.aw = .loop → 0 < s.toWait) ∧ (AwNoChk s → ChkDone s)

theorem invA_init : InvA init := by
  refine ⟨?_, ?_, ?_⟩
  · constructor <;> simp [init, AwBusy, cnt]
  · simp [init]
  · simp [init, ChkDone]


/-! ### what the invariant says about a state, used by several steps -/

theorem InvW.aw_on (h : InvW s) (hp : s.prov ≠ .idle ∨ s.startPc ≠ .idle ∨ s.live ≠ []) : s.aw ≠ .off := by
  intro ha
  obtain ⟨h1, _, h3, h4, _⟩ := h.pre ha
  rcases hp with hp | hp | hp
  · exact hp h1
  · exact hp h3
  · exact hp h4

/-- instance goroutines exist only while `runRes` is open: their send cannot panic -/
theorem InvW.open_of_live (h : InvW s) (hl : s.live ≠ []) : s.runResOpen = true := by
  cases ho : s.runResOpen with
  | true => rfl
  | false => exact absurd (h.closedRun (h.aw_on (.inr (.inr hl))) ho).2.1 hl

/-- before `startInstances` has sent its result nothing was started, taken or counted -/
theorem InvW.start_pending (h : InvW s) (hd : s.startPc ≠ .done) : s.startRes = none ∧ s.startTaken = false := by
  have h1 : s.startRes = none := by
    cases hr : s.startRes with
    | none => rfl
    | some x => exact absurd (h.startDone.2 (by simp [hr])) hd
  refine ⟨h1, ?_⟩
  cases ht : s.startTaken with
  | false => rfl
  | true => have := (h.taken ht).1; simp [h1] at this

/-- once the await loop has ended every result was taken, `runRes` was closed, and nothing is left to send -/
theorem InvW.all_taken (h : InvW s) (hf : s.aw = .finished) :
    s.prov = .taken ∧ s.agg = .taken ∧ s.startTaken = true ∧ s.runResOpen = false ∧ s.live = [] ∧ s.buf = [] := by
  have hne : s.aw ≠ .off := by rw [hf]; nofun
  have htw := h.toWait hne
  rw [h.fin hf] at htw
  have hc : s.prov = .taken ∧ s.agg = .taken ∧ s.startTaken = true ∧ s.runResOpen = false := by
    simp only [cnt] at htw
    refine ⟨?_, ?_, ?_, ?_⟩ <;> grind
  exact ⟨hc.1, hc.2.1, hc.2.2.1, hc.2.2.2, (h.closedRun hne hc.2.2.2).2⟩

/-! ### the operations of the model -/

theorem invA_addErr {s : State} (h : InvA s) (r : Ret) : InvA (addErr s r) := by
  cases r <;> exact ⟨{ h.1 with }, h.2⟩

theorem invA_mainReturn {s : State} (h : InvA s) (r : PRes) : InvA (mainReturn s r) :=
  ⟨{ h.1 with
      ctx1 := fun _ => rfl, ctx2 := fun _ => rfl, retCancel := fun _ _ => rfl
      pre2 := by rintro (hm | hm) <;> cases hm
      on := fun ha => by
        obtain ⟨h1, h2, h3, _⟩ := h.1.on ha
        exact ⟨h1, h2, h3, nofun, nofun⟩ }, h.2⟩

/-- `Pool.Run` fails before `runAsync` has started anything; `w` is the new number of `onWaitDone` calls -/
theorem invA_earlyReturn {s : State} (h : InvA s) (hm : s.main = .init ∨ s.main = .warmed) (w : Nat) (hw : w ≤ 1)
    (ce : List ErrId) (g : Option Gun) (r : PRes) :
    InvA (mainReturn { s with compErrs := ce, waitDone := w, warmGun := g } r) := by
  have hoff : s.aw = .off := (h.1.pre2 hm).1
  have hbusy : ¬ AwBusy s := by rintro (hb | ⟨_, _, _, hb⟩) <;> rw [hoff] at hb <;> cases hb
  exact ⟨{ h.1 with
      ctx1 := fun _ => rfl, ctx2 := fun _ => rfl, retCancel := fun _ _ => rfl
      pre2 := by rintro (hm | hm) <;> cases hm
      on := fun ha => absurd hoff ha
      wd0 := fun hb => absurd hb hbusy
      wd1 := fun hf => by rw [show s.aw = _ from hf] at hoff; cases hoff
      wd2 := hw }, h.2⟩

/-- `startInstances` sends its result `(n, r)`, `n` the number of instances it has started -/
theorem invA_startResult {s : State} (h : InvA s) (hi : s.startPc ≠ .idle) (hd : s.startPc ≠ .done) (n : Nat)
    (hn : n = s.spawned) (r : Ret) (ce : List ErrId) (rt : List Gun) :
    InvA { s with startPc := .done, startRes := some (n, r), compErrs := ce, retired := rt } := by
  have hon := h.1.aw_on (.inr (.inl hi))
  have ht := (h.1.start_pending hd).2
  exact ⟨{ h.1 with
      pre := fun ha => absurd ha hon
      on := fun ha => by
        obtain ⟨h1, h2, _, h4⟩ := h.1.on ha
        exact ⟨h1, h2, nofun, h4⟩
      startDone := ⟨fun _ => rfl, fun _ => rfl⟩
      startRes := fun _ _ he => by cases he; exact hn
      taken := fun hk => by rw [show s.startTaken = _ from hk] at ht; cases ht
      first0 := nofun }, h.2⟩

/-- `startInstances` starts one more instance goroutine -/
theorem invA_spawn {s : State} (h : InvA s) (hi : s.startPc ≠ .idle) (hd : s.startPc ≠ .done) (n : Nat)
    (hn : n = s.spawned + 1) (x : Inst) :
    InvA { s with startPc := nextWait s, spawned := n, live := s.live ++ [x] } := by
  have hon := h.1.aw_on (.inr (.inl hi))
  obtain ⟨hr, ht⟩ := h.1.start_pending hd
  have hk : ¬ s.startTaken = true := by simp [ht]
  exact ⟨{ h.1 with
      pre := fun ha => absurd ha hon
      on := fun ha => by
        obtain ⟨h1, h2, _, h4⟩ := h.1.on ha
        exact ⟨h1, h2, (nextWait_ne s).1, h4⟩
      startDone := ⟨fun he => absurd he (nextWait_ne s).2.1, fun he => by simp [hr] at he⟩
      startRes := fun _ _ he => by simp [hr] at he
      taken := fun hk' => absurd hk' hk
      first0 := fun he => absurd he (nextWait_ne s).2.2
      count := by have := h.1.count; simp only [List.length_append, List.length_singleton]; omega
      closedRun := fun ha ho => absurd (h.1.closedRun ha ho).1 hk }, h.2.1, fun _ hk' => absurd hk' hk⟩

/-- the send of an ending instance goroutine does not panic -/
theorem sendRes_live {s : State} (h : InvA s) {i : Nat} {x : Inst} (hl : s.live[i]? = some x) (ce : List ErrId)
    (rt : List Gun) (id : Nat) (r : Ret) :
    sendRes { s with live := s.live.eraseIdx i, compErrs := ce, retired := rt } id r =
      { s with live := s.live.eraseIdx i, compErrs := ce, retired := rt, buf := s.buf ++ [(id, r)] } := by
  simp [sendRes, h.1.open_of_live (getElem?_facts _ _ _ hl).2]

/-- an instance goroutine ends: it leaves `live` and its result goes into `runRes` -/
theorem invA_sendRes {s : State} (h : InvA s) (i : Nat) (x : Inst) (hl : s.live[i]? = some x) (ce : List ErrId)
    (rt : List Gun) (id : Nat) (r : Ret) :
    InvA (sendRes { s with live := s.live.eraseIdx i, compErrs := ce, retired := rt } id r) := by
  obtain ⟨hlen, hne⟩ := getElem?_facts _ _ _ hl
  have ho := h.1.open_of_live hne
  rw [sendRes_live h hl]
  exact ⟨{ h.1 with
      pre := fun ha => absurd ha (h.1.aw_on (.inr (.inr hne)))
      count := by have := h.1.count; simp only [List.length_append, List.length_singleton]; omega
      closedRun := fun _ hc => by rw [show s.runResOpen = _ from hc] at ho; cases ho }, h.2⟩

/-! ### the await goroutine -/

theorem w_finish (s : State) (h : InvW s) (hc : AwNoChk s → ChkDone s) : InvA (finish s) := by
  unfold finish
  split
  · next hf =>
    obtain ⟨hl, h0⟩ := hf
    have hne : s.aw ≠ .off := by rw [hl]; nofun
    have hon := h.on hne
    refine ⟨{ h with
      pre := nofun
      pre2 := fun hm => hm.elim (absurd · hon.2.2.2.1) (absurd · hon.2.2.2.2)
      on := fun _ => hon
      wd0 := by rintro (hb | ⟨_, _, _, hb⟩) <;> cases hb
      wd1 := fun _ => by rw [h.wd0 (.inl hl)]
      wd2 := by rw [h.wd0 (.inl hl)]; exact Nat.le_refl 1
      toWait := fun _ => h.toWait hne
      fin := fun _ => h0
      closed := ⟨fun _ => rfl, fun _ => rfl⟩
      closedRun := fun _ => h.closedRun hne
      onErrChk := nofun }, nofun, ?_⟩
    rintro (hb | ⟨_, _, hb⟩) <;> cases hb
  · next hf => exact ⟨h, fun hl => Nat.pos_of_ne_zero fun h0 => hf ⟨hl, h0⟩, hc⟩

/-- when the guard of `checkAllInstancesAreFinished` holds every started instance was awaited, so `runRes` is
empty and no sender is left: the close neither panics nor loses a result -/
theorem w_checkAll (s : State) (h : InvW s) (hl : s.aw = .loop) (ho : s.runResOpen = true) :
    InvW (checkAll s) ∧ ChkDone (checkAll s) := by
  have hne : s.aw ≠ .off := by rw [hl]; nofun
  unfold checkAll
  split
  · next hg =>
    obtain ⟨ht, hle⟩ := hg
    have hcount := h.count
    rw [(h.taken ht).2] at hle
    have hb : s.buf = [] := List.eq_nil_of_length_eq_zero (by omega)
    have hv : s.live = [] := List.eq_nil_of_length_eq_zero (by omega)
    rw [if_neg (by rw [ho]; nofun), if_neg (not_not_intro hb)]
    refine ⟨{ h with
      ctx1 := fun _ => rfl, ctx2 := fun _ => rfl
      pre := fun ha => absurd ha hne
      toWait := fun _ => by have := h.toWait hne; simp [cnt, ho] at this ⊢; omega
      fin := fun hf => by rw [show s.aw = _ from hf] at hl; cases hl
      closedRun := fun _ _ => ⟨ht, hv, hb⟩
      onErrChk := fun _ _ he => by rw [show s.aw = _ from he] at hl; cases hl }, nofun⟩
  · next hg =>
    refine ⟨h, fun ht _ => ?_⟩
    have := (h.taken ht).2
    exact Nat.lt_of_not_le fun hle => hg ⟨ht, by omega⟩

theorem w_afterErr (s : State) (chk : Bool) (h : InvW s) (hl : s.aw = .loop)
    (ho : chk = true → s.runResOpen = true) (hc : chk = false → ChkDone s) : InvA (afterErr s chk) := by
  unfold afterErr
  rw [aw_loop_eta s hl]
  split
  · next hk =>
    have := w_checkAll _ h hl (ho hk)
    exact w_finish _ this.1 (fun _ => this.2)
  · next hk => exact w_finish _ h (fun _ => hc (by simpa using hk))

/-- the await goroutine moves on inside its loop (to `a`, neither `off` nor `finished`): only its program counter changes -/
theorem InvW.busy_aw {s : State} (h : InvW s) (hb : AwBusy s) (a : AwPc) (ha : a ≠ .off) (hf : a ≠ .finished)
    (hk : ∀ w r, a = .onErr w r true → s.runResOpen = true) : InvW { s with aw := a } := by
  have hne : s.aw ≠ .off := by rcases hb with hb | ⟨_, _, _, hb⟩ <;> rw [hb] <;> nofun
  have hnf : s.aw ≠ .finished := by rcases hb with hb | ⟨_, _, _, hb⟩ <;> rw [hb] <;> nofun
  have hon := h.on hne
  exact { h with
    pre := fun he => absurd he ha
    pre2 := fun hm => hm.elim (absurd · hon.2.2.2.1) (absurd · hon.2.2.2.2)
    on := fun _ => hon
    wd0 := fun _ => h.wd0 hb
    wd1 := fun he => absurd he hf
    toWait := fun _ => h.toWait hne
    fin := fun he => absurd he hf
    closed := ⟨fun hc => absurd (h.closed.1 hc) hnf, fun he => absurd he hf⟩
    closedRun := fun _ => h.closedRun hne
    onErrChk := hk }

/-- the await goroutine leaves `onErrAwaited` -/
theorem invA_leaveOnErr {s : State} (h : InvA s) (w : Wrap) (r : Ret) (chk : Bool) (ha : s.aw = .onErr w r chk) :
    InvA (afterErr s chk) :=
  w_afterErr { s with aw := .loop } chk (h.1.busy_aw (.inr ⟨w, r, chk, ha⟩) _ nofun nofun nofun) rfl
    (fun hc => h.1.onErrChk w r (hc ▸ ha)) (fun hc => h.2.2 (.inr ⟨w, r, hc ▸ ha⟩))

theorem w_handleRes (s : State) (w : Wrap) (r : Ret) (done chk : Bool) (h : InvW s) (hl : s.aw = .loop)
    (ho : chk = true → s.runResOpen = true) (hc : chk = false → ChkDone s) : InvA (handleRes s w r done chk) := by
  unfold handleRes
  split
  · exact w_afterErr _ _ h hl ho hc
  · refine ⟨h.busy_aw (.inl hl) _ nofun nofun fun _ _ he => ho (AwPc.onErr.inj he).2.2, nofun, ?_⟩
    rintro (hb | ⟨_, _, hb⟩)
    · cases hb
    · exact hc (AwPc.onErr.inj hb).2.2

/-! ### the steps -/

theorem step_invA (cfg : Cfg) (s : State) (c : Choice) (h : InvA s) : InvA (step cfg s c) := by
  cases c with
  | extCancel =>
    exact ⟨{ h.1 with ctx1 := fun _ => rfl, ctx2 := fun _ => rfl, retCancel := fun _ _ => rfl }, h.2⟩
  | warm o =>
    simp only [step]; split
    · next hm =>
      have h0 : s.waitDone = 0 := (h.1.pre2 (.inl hm)).2
      cases o with
      | gunFail e => exact invA_earlyReturn h (.inl hm) _ (by omega) _ s.warmGun _
      | warmFail e c => exact invA_earlyReturn h (.inl hm) _ (by omega) _ _ _
      | ok c =>
        exact ⟨{ h.1 with
          retCancel := nofun
          pre2 := fun _ => h.1.pre2 (.inl hm)
          on := fun ha => absurd (h.1.pre2 (.inl hm)).1 ha }, h.2⟩
    · exact h
  | sched o =>
    simp only [step]; split
    · next hm =>
      obtain ⟨hoff, h0⟩ := h.1.pre2 (.inr hm)
      cases o with
      | some e => exact invA_earlyReturn h (.inr hm) _ (by split <;> omega) _ s.warmGun _
      | none =>
        -- `runAsync` starts everything at once; before it all counters and channels are at their initial values
        obtain ⟨_, _, _, hv, hb, hr, ht, _, hc, hsp, haw, _⟩ := h.1.pre hoff
        dsimp only
        have hk : ¬ s.startTaken = true := by simp [ht]
        refine ⟨{ h.1 with
          retCancel := nofun
          pre := nofun
          pre2 := by rintro (hm | hm) <;> cases hm
          on := fun _ => ⟨nofun, nofun, by split <;> nofun, nofun, nofun⟩
          wd0 := fun _ => h0
          wd1 := nofun
          toWait := fun _ => by simp [cnt, ht]
          fin := nofun
          closed := ⟨fun he => (by simp [hc] at he), nofun⟩
          startDone := ⟨fun he => (by split at he <;> cases he), fun he => (by simp [hr] at he)⟩
          first0 := fun _ => hsp
          closedRun := fun _ => nofun
          onErrChk := fun _ _ _ => rfl }, fun _ => Nat.zero_lt_succ _, fun _ hk' => absurd hk' hk⟩
    · exact h
  | provRet r =>
    simp only [step]; split
    · next hc =>
      have hne := h.1.aw_on (.inl (by rw [hc.1]; nofun))
      refine invA_addErr (s := { s with prov := .ready r }) ⟨{ h.1 with
        pre := fun ha => absurd ha hne
        on := fun ha => ⟨nofun, (h.1.on ha).2⟩
        toWait := fun ha => by have := h.1.toWait ha; simpa [cnt, hc.1] using this }, h.2⟩ r
    · exact h
  | aggRet r =>
    simp only [step]; split
    · next hc =>
      have hne : s.aw ≠ .off := fun ha => by rw [(h.1.pre ha).2.1] at hc; cases hc.1
      refine invA_addErr (s := { s with agg := .ready r }) ⟨{ h.1 with
        pre := fun ha => absurd ha hne
        on := fun ha => ⟨(h.1.on ha).1, nofun, (h.1.on ha).2.2⟩
        toWait := fun ha => by have := h.1.toWait ha; simpa [cnt, hc.1] using this }, h.2⟩ r
    · exact h
  | rpsFinished =>
    simp only [step]; split
    · exact ⟨{ h.1 with ctx2 := fun _ => rfl }, h.2⟩
    · exact h
  | startFirst o =>
    simp only [step]; split
    · next hs =>
      have hi : s.startPc ≠ .idle := by rw [hs]; nofun
      have hd : s.startPc ≠ .done := by rw [hs]; nofun
      have h0 := (h.1.first0 hs).symm
      cases o with
      | schedFail e => exact invA_startResult h hi hd 0 h0 _ _ s.retired
      | gunFail e => exact invA_startResult h hi hd 0 h0 _ _ s.retired
      | bindFail e c => exact invA_startResult h hi hd 0 h0 _ _ _
      | ok c => exact invA_spawn h hi hd 1 (by omega) _
    · exact h
  | startTick =>
    simp only [step]; split
    · next hs => exact invA_spawn h (by rw [hs]; nofun) (by rw [hs]; nofun) _ rfl _
    · exact h
  | startEnd =>
    simp only [step]; split
    · next hs =>
      refine invA_startResult h ?_ ?_ _ rfl _ s.compErrs s.retired <;>
        (intro he; rw [he] at hs; rcases hs with hs | hs | hs <;> cases hs)
    · exact h
  | instCreate i o =>
    simp only [step]; split
    · next id hl =>
      cases o with
      | schedFail e => exact invA_sendRes h i _ hl _ s.retired _ _
      | gunFail e => exact invA_sendRes h i _ hl _ s.retired _ _
      | bindFail e c => exact invA_sendRes h i _ hl _ _ _ _
      | ok c =>
        obtain ⟨_, hne⟩ := getElem?_facts _ _ _ hl
        have ho := h.1.open_of_live hne
        exact ⟨{ h.1 with
          pre := fun ha => absurd ha (h.1.aw_on (.inr (.inr hne)))
          count := by rw [List.length_set]; exact h.1.count
          closedRun := fun _ hc => by rw [show s.runResOpen = _ from hc] at ho; cases ho }, h.2⟩
    · exact h
  | instRet i r =>
    simp only [step]; split
    · next id g hl =>
      split
      · exact h
      · cases r <;> exact invA_sendRes h i _ hl _ _ _ _
    · exact h
  | awaitProv =>
    simp only [step]; split
    · next r hl hp =>
      have hne : s.aw ≠ .off := by rw [hl]; nofun
      refine w_handleRes _ _ _ _ _ { h.1 with
        pre := fun ha => absurd ha hne
        on := fun ha => ⟨nofun, (h.1.on ha).2⟩
        toWait := fun ha => by have := h.1.toWait ha; simp [cnt, hp] at this ⊢; omega
        fin := fun hf => by rw [show s.aw = _ from hf] at hl; cases hl } hl nofun (fun _ => h.2.2 (.inl hl))
    · exact h
  | awaitAgg =>
    simp only [step]; split
    · next r hl hp =>
      have hne : s.aw ≠ .off := by rw [hl]; nofun
      refine w_handleRes _ _ _ _ _ { h.1 with
        pre := fun ha => absurd ha hne
        on := fun ha => ⟨(h.1.on ha).1, nofun, (h.1.on ha).2.2⟩
        toWait := fun ha => by have := h.1.toWait ha; simp [cnt, hp] at this ⊢; omega
        fin := fun hf => by rw [show s.aw = _ from hf] at hl; cases hl } hl nofun (fun _ => h.2.2 (.inl hl))
    · exact h
  | awaitStart =>
    simp only [step]; split
    · next n r hl ht hr =>
      have hne : s.aw ≠ .off := by rw [hl]; nofun
      have ho : s.runResOpen = true := by
        cases ho : s.runResOpen with
        | true => rfl
        | false => have := (h.1.closedRun hne ho).1; rw [ht] at this; cases this
      refine w_handleRes _ _ _ _ _ { h.1 with
        pre := fun ha => absurd ha hne
        toWait := fun ha => by have := h.1.toWait ha; simp [cnt, ht] at this ⊢; omega
        fin := fun hf => by rw [show s.aw = _ from hf] at hl; cases hl
        taken := fun _ => ⟨by simp [hr], h.1.startRes n r hr⟩
        closedRun := fun _ hc => by rw [show s.runResOpen = _ from hc] at ho; cases ho } hl (fun _ => ho) nofun
    · exact h
  | awaitRun =>
    simp only [step]; split
    · next id r rest hl ho hb =>
      have hne : s.aw ≠ .off := by rw [hl]; nofun
      have h1 : InvW { s with buf := rest, awaited := s.awaited + 1 } := { h.1 with
        pre := fun ha => absurd ha hne
        count := by have := h.1.count; simp only [hb, List.length_cons] at this ⊢; omega
        closedRun := fun _ hc => by rw [show s.runResOpen = _ from hc] at ho; cases ho }
      split
      · split
        · exact w_afterErr _ _ h1 hl (fun _ => ho) nofun
        · exact w_afterErr _ _ { h1 with ctx2 := fun _ => rfl } hl (fun _ => ho) nofun
      · exact w_handleRes _ _ _ _ _ h1 hl (fun _ => ho) nofun
    · exact h
  | errDeliver =>
    simp only [step]; split
    · next w r chk ha hm =>
      exact invA_leaveOnErr (invA_mainReturn h _) w r chk ha
    · exact h
  | errSuppress =>
    simp only [step]; split
    · next w r chk ha =>
      generalize (if cfg.fixSelect = true then s.poolC else s.runC) = b
      cases b
      · exact h
      · exact invA_leaveOnErr h w r chk ha
    · exact h
  | mainCancel | mainClosed =>
    simp only [step]; split
    · exact invA_mainReturn h _
    · exact h

/-- what every step preserves (given `InvA`) holds in every reachable state -/
theorem run_induction {P : State → Prop} (cfg : Cfg) (h0 : P init)
    (hs : ∀ s c, InvA s → P s → P (step cfg s c)) (cs : List Choice) : P (run cfg cs) := by
  suffices ∀ s, InvA s → P s → P (cs.foldl (step cfg) s) from this _ invA_init h0
  induction cs with
  | nil => exact fun _ _ h => h
  | cons c cs ih => exact fun s ha h => ih _ (step_invA cfg s c ha) (hs s c ha h)

theorem run_invA (cfg : Cfg) (cs : List Choice) : InvA (run cfg cs) :=
  run_induction cfg invA_init (fun s c ha _ => step_invA cfg s c ha) cs

end Pandora.Proofs.C05
