/-
C02 — the run-length-encoded model (`Model/C02Huge.lean`) IS the list model on the expanded offsets.

`Hom f a b`: `f` maps the states of object `a` to states of object `b` and commutes with Start/Next/Left.  A `Sem`
(what refining the flat spec means, `Proofs/C02Sem.lean`) pulls back along a homomorphism (`pullSem`); the run leaf
maps onto the list leaf by `HLeaf.expand` (`hleafHom`), so the run leaf refines the flat spec of its expanded part, and
because `compSem` / `sumSem` / `newComposite_sem` / `seq_refines` are generic in the children, every run tree does
(`hbuild_ok`).
-/
import Pandora.Model.C02Huge
import Pandora.Proofs.C02Sem

set_option linter.unusedVariables false

namespace Pandora.Proofs.C02Huge
open Pandora.Model.C02 Pandora.Spec.C02 Pandora.Proofs.C02Flat Pandora.Proofs.C02Sem

/-! ### runs -/

theorem runsExpand_length : ∀ rs : List Run, (runsExpand rs).length = runsLen rs
  | [] => rfl
  | r :: rs => by simp [runsExpand, runsLen, runsExpand_length rs]

theorem runsExpand_get : ∀ (rs : List Run) (k : Nat), (runsExpand rs)[k]? = runsAt rs k
  | [], k => by simp [runsExpand, runsAt]
  | r :: rs, k => by
    simp only [runsExpand, runsAt]
    by_cases hk : k < r.count
    · rw [List.getElem?_append_left (by simpa using hk)]
      simp [hk]
    · rw [List.getElem?_append_right (by simpa using Nat.le_of_not_lt hk)]
      simp [hk, runsExpand_get rs]

/-- one run of `n` offsets 0 is `once(n)` -/
theorem runsExpand_nil : runsExpand [] = [] := rfl

theorem runsExpand_once (n : Nat) : runsExpand [⟨0, 0, n⟩] = List.replicate n 0 := by
  simp only [runsExpand, List.append_nil]
  apply List.ext_getElem
  · simp
  · intro i h1 h2
    simp [Run.nth]

/-! ### homomorphisms of schedule objects -/

structure Hom {α β : Type} (f : α → β) (a : Ops α) (b : Ops β) : Prop where
  start : ∀ s t, (a.start s t).map f = b.start (f s) t
  next : ∀ s now, (a.next s now).map (fun x => (f x.1, x.2)) = b.next (f s) now
  left : ∀ s now, (a.left s now).map (fun x => (f x.1, x.2)) = b.left (f s) now
  once0 : f a.once0 = b.once0

theorem map_ok {ε α β : Type} {f : α → β} {x : Except ε α} {y : β} (h : x.map f = .ok y) : ∃ x', x = .ok x' ∧ f x' = y := by
  cases x with
  | error e => cases h
  | ok x' => exact ⟨x', rfl, by simpa [Except.map] using h⟩

theorem map_err {ε α β : Type} {f : α → β} {x : Except ε α} {e : ε} (h : x.map f = .error e) : x = .error e := by
  cases x with
  | error e' => simpa [Except.map] using h
  | ok x' => cases h

/-- a `Sem` pulls back along a homomorphism, for objects whose `Left` does not change them and whose implicit start by
`Next` is their `Start` (true of leaves) -/
def pullSem {α β : Type} {a : Ops α} {b : Ops β} (f : α → β) (hom : Hom f a b) (sb : Sem b)
    (hleft : ∀ s now s' l, a.left s now = .ok (s', l) → s' = s)
    (hnext : ∀ s now s1, a.start s now = .ok s1 → a.next s now = a.next s1 now) : Sem a where
  R s segs clk := sb.R (f s) segs clk
  U s parts := sb.U (f s) parts
  R_ne h := sb.R_ne h
  U_ne h := sb.U_ne h
  R_mono h hle := sb.R_mono h hle
  next_R := by
    intro s segs clk h now hle
    obtain ⟨sb', hb, hR⟩ := sb.next_R h now hle
    have hh := hom.next s now
    rw [hb] at hh
    obtain ⟨x, hx, hfx⟩ := map_ok hh
    obtain ⟨s', tx, ok⟩ := x
    simp only [Prod.mk.injEq] at hfx
    obtain ⟨h1, h2, h3⟩ := hfx
    exact ⟨s', by rw [hx, h2, h3], by rw [h1]; exact hR⟩
  left_R := by
    intro s segs clk h now hle
    obtain ⟨sb', hb, hR⟩ := sb.left_R h now hle
    have hh := hom.left s now
    rw [hb] at hh
    obtain ⟨x, hx, hfx⟩ := map_ok hh
    obtain ⟨s', l⟩ := x
    simp only [Prod.mk.injEq] at hfx
    obtain ⟨h1, h2⟩ := hfx
    exact ⟨s', by rw [hx, h2], by rw [h1]; exact hR⟩
  start_R := by
    intro s segs clk h t
    have hh := hom.start s t
    rw [sb.start_R h t] at hh
    exact map_err hh
  start_U := by
    intro s parts h t
    obtain ⟨sb', hb, hR⟩ := sb.start_U h t
    have hh := hom.start s t
    rw [hb] at hh
    obtain ⟨s', hx, hfx⟩ := map_ok hh
    exact ⟨s', hx, fun clk => by rw [hfx]; exact hR clk⟩
  next_U := by
    intro s parts h now
    obtain ⟨sb', hb, _⟩ := sb.start_U h now
    have hh := hom.start s now
    rw [hb] at hh
    obtain ⟨s1, hx, _⟩ := map_ok hh
    exact ⟨s1, hx, hnext s now s1 hx⟩
  left_U := by
    intro s parts h now
    have hb := sb.left_U h now
    have hh := hom.left s now
    rw [hb] at hh
    obtain ⟨x, hx, hfx⟩ := map_ok hh
    obtain ⟨s', l⟩ := x
    simp only [Prod.mk.injEq] at hfx
    have hs : s' = s := hleft s now s' l hx
    rw [hx, hs, hfx.2]
  once0_U := by
    show sb.U (f a.once0) _
    rw [hom.once0]
    exact sb.once0_U

/-! ### the run leaf -/

theorem hleafHom : Hom HLeaf.expand hleafOps leafOps where
  start := by
    intro s t
    match s with
    | .fin runs dur i none => rfl
    | .fin runs dur i (some _) => rfl
    | .unl dur none => rfl
    | .unl dur (some _) => rfl
  next := by
    intro s now
    match s with
    | .fin runs dur i st =>
      simp only [hleafOps, leafOps, HLeaf.next, HLeaf.expand, Leaf.next, runsExpand_get]
      cases runsAt runs i <;> rfl
    | .unl dur fi =>
      simp only [hleafOps, leafOps, HLeaf.next, HLeaf.expand, Leaf.next]
      split <;> rfl
  left := by
    intro s now
    match s with
    | .fin runs dur i st => simp [hleafOps, leafOps, HLeaf.left, HLeaf.expand, Leaf.left, runsExpand_length, Except.map]
    | .unl dur none => rfl
    | .unl dur (some f) => rfl
  once0 := rfl

theorem hleaf_left_same (s : HLeaf) (now : Int) (s' : HLeaf) (l : Int) (h : hleafOps.left s now = .ok (s', l)) : s' = s := by
  cases s with
  | fin => cases h; rfl
  | unl dur fi => cases fi <;> cases h <;> rfl

theorem hleaf_next_start (s : HLeaf) (now : Int) (s1 : HLeaf) (h : hleafOps.start s now = .ok s1) :
    hleafOps.next s now = hleafOps.next s1 now := by
  cases s with
  | fin runs dur i st => cases st <;> cases h <;> rfl
  | unl dur fi => cases fi <;> cases h <;> rfl

/-- the run leaf refines the flat spec of its EXPANDED part -/
def hleafSem : Sem hleafOps := pullSem HLeaf.expand hleafHom leafSem hleaf_left_same hleaf_next_start

def hlvlSem : (d : Nat) → Sem (hlvlOps d)
  | 0 => hleafSem
  | d + 1 => sumSem (hlvlSem d) (compSem (hlvlSem d))

/-! ### run trees -/

mutual
theorem hexpand_depth : ∀ t : HTree, t.expand.depth = t.depth
  | .fin runs dur => by simp [HTree.expand, Tree.depth, HTree.depth]
  | .unl dur => by simp [HTree.expand, Tree.depth, HTree.depth]
  | .comp cs => by simp [HTree.expand, Tree.depth, HTree.depth, hexpandList_depth cs]
theorem hexpandList_depth : ∀ ts : List HTree, depthList (hexpandList ts) = hdepthList ts
  | [] => by simp [hexpandList, depthList, hdepthList]
  | t :: ts => by simp [hexpandList, depthList, hdepthList, hexpand_depth t, hexpandList_depth ts]
end

/-- the children of a composite node, once every run tree of depth ≤ `d` is known to be built -/
theorem hbuildList_of (now : Int) (d : Nat)
    (ih : ∀ t : HTree, t.depth ≤ d → ∃ s, hbuild now d t = .ok s ∧ (hlvlSem d).U s (flat t.expand)) :
    ∀ ts : List HTree, hdepthList ts ≤ d →
      ∃ cs pss, hbuildList now d ts = .ok cs ∧ AllU (hlvlSem d) cs pss ∧ pss.flatten = flatList (hexpandList ts)
  | [], _ => ⟨[], [], by rw [hbuildList]; rfl, trivial, rfl⟩
  | t :: ts, h => by
      rw [hdepthList] at h
      obtain ⟨x, hx, hUx⟩ := ih t (by omega)
      obtain ⟨xs, pss, hxs, hU, hfl⟩ := hbuildList_of now d ih ts (by omega)
      exact ⟨x :: xs, flat t.expand :: pss, by rw [hbuildList, hx, hxs]; rfl, ⟨hUx, hU⟩,
        by rw [List.flatten_cons, hfl, hexpandList, flatList]⟩

/-- **every run tree refines the flat succession of the leaf parts of its expansion** -/
theorem hbuild_ok (now : Int) : ∀ (d : Nat) (t : HTree), t.depth ≤ d →
    ∃ s, hbuild now d t = .ok s ∧ (hlvlSem d).U s (flat t.expand)
  | 0, .fin runs dur, _ => ⟨HLeaf.fin runs dur 0 none, by rw [hbuild]; rfl, (rfl : [Part.fin (runsExpand runs) dur] = _)⟩
  | 0, .unl dur, _ => ⟨HLeaf.unl dur none, by rw [hbuild]; rfl, (rfl : [Part.unl dur] = _)⟩
  | 0, .comp cs, h => by simp [HTree.depth] at h
  | d + 1, .comp cs, h => by
      rw [HTree.depth] at h
      obtain ⟨kids, pss, hk, hU, hfl⟩ := hbuildList_of now d (hbuild_ok now d) cs (by omega)
      obtain ⟨s, hs, hU'⟩ := newComposite_sem (hlvlSem d) now kids pss hU
      refine ⟨s, by rw [hbuild, hk]; exact hs, ?_⟩
      rw [HTree.expand, flat, ← hfl]
      exact hU'
  | d + 1, .fin runs dur, _ => by
      obtain ⟨x, hx, hU⟩ := hbuild_ok now d (.fin runs dur) (Nat.zero_le _)
      exact ⟨.inl x, by simp only [hbuild, hx]; rfl, hU⟩
  | d + 1, .unl dur, _ => by
      obtain ⟨x, hx, hU⟩ := hbuild_ok now d (.unl dur) (Nat.zero_le _)
      exact ⟨.inl x, by simp only [hbuild, hx]; rfl, hU⟩

theorem hbuildList_ok (now : Int) : ∀ (d : Nat) (ts : List HTree), hdepthList ts ≤ d →
    ∃ cs pss, hbuildList now d ts = .ok cs ∧ AllU (hlvlSem d) cs pss ∧ pss.flatten = flatList (hexpandList ts) :=
  fun d => hbuildList_of now d (hbuild_ok now d)

/-- `instance_step` with huge steps: the run tree stands for `instanceStepTree` -/
theorem hinstanceStepLoop_expand (to step : Nat) (dur : Int) : ∀ (fuel i : Nat),
    hexpandList (hinstanceStepLoop to step dur fuel i) = instanceStepLoop to step dur fuel i
  | 0, _ => rfl
  | fuel + 1, i => by
    simp only [hinstanceStepLoop, instanceStepLoop]
    split
    · simp [hexpandList, HTree.expand, runsExpand_once, runsExpand_nil, hinstanceStepLoop_expand to step dur fuel]
    · rfl

theorem hinstanceStepTree_expand (frm to step : Nat) (dur : Int) :
    (hinstanceStepTree frm to step dur).expand = instanceStepTree frm to step dur := by
  simp [hinstanceStepTree, instanceStepTree, HTree.expand, hexpandList, runsExpand_once, hinstanceStepLoop_expand]

end Pandora.Proofs.C02Huge
