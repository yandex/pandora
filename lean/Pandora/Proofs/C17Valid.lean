/-
C17 — the repo's own validations (`endpoint`, `url-path`, `min-time`, `max-time`) against what the documentation
demands of the values (`Spec.C17.demand`).
-/
import Pandora.Proofs.C17Cast
import Pandora.Spec.C17

namespace Pandora.Proofs.C17
open Pandora.Model.C17 Pandora.Spec.C17

/-! ## ports -/

theorem allDigits_head (c : Char) (r : Str) (h : allDigits (c :: r) = true) : isDigitC c = true := by
  simp [allDigits] at h
  exact h.1

theorem atoi_allDigits (p : Str) (h : allDigits p = true) : atoi p = some (digitsVal p 0 : Int) := by
  cases p with
  | nil => simp [allDigits] at h
  | cons c r =>
    have hd := allDigits_head c r h
    have h1 : c ≠ '-' := by intro e; subst e; revert hd; decide
    have h2 : c ≠ '+' := by intro e; subst e; revert hd; decide
    unfold atoi
    split
    · next heq => cases heq; exact absurd rfl h1
    · next heq => cases heq; exact absurd rfl h2
    · simp [h]

theorem atoi_other (c : Char) (r : Str) (h1 : c ≠ '-') (h2 : c ≠ '+') :
    atoi (c :: r) = if allDigits (c :: r) then some (digitsVal (c :: r) 0 : Int) else none := by
  unfold atoi
  split
  · next heq => cases heq; exact absurd rfl h1
  · next heq => cases heq; exact absurd rfl h2
  · rfl

theorem isPort_digits (p : Str) (hd : allDigits p = true) :
    isPort p = (decide ((0 : Int) < digitsVal p 0) && decide ((digitsVal p 0 : Int) < 65536)) := by
  unfold isPort
  rw [atoi_allDigits p hd]

/-- apart from a decimal only `+` and a decimal passes `isPort` -/
theorem isPort_nondigits (p : Str) (hd : allDigits p = false) (h : isPort p = true) :
    ∃ r, p = '+' :: r ∧ allDigits r = true := by
  cases p with
  | nil => simp [isPort, atoi, allDigits] at h
  | cons c r =>
    by_cases h1 : c = '-'
    · subst h1
      cases ha : allDigits r <;> simp [isPort, atoi, ha] at h
      omega
    · by_cases h2 : c = '+'
      · subst h2
        refine ⟨r, rfl, ?_⟩
        cases ha : allDigits r
        · simp [isPort, atoi, ha] at h
        · rfl
      · simp [isPort, atoi_other c r h1 h2, hd] at h

theorem isPort_of_class (p : Str) (b : Bool) (h : portClass p = some b) : isPort p = b := by
  unfold portClass at h
  cases hd : allDigits p with
  | true =>
    rw [isPort_digits p hd]
    simp only [hd, if_true] at h
    split at h
    · next hz => cases h; simp at hz ⊢; omega
    · next hz => split at h <;> cases h; simp at hz ⊢; omega
  | false =>
    simp only [hd, Bool.false_eq_true, if_false] at h
    cases hP : isPort p with
    | false => split at h <;> (try split at h) <;> cases h <;> rfl
    | true =>
      obtain ⟨r, rfl, hr⟩ := isPort_nondigits p hd hP
      simp [hr] at h
/-! ## host:port -/

/-- a text without `:` has no last colon -/
theorem cutLastColon_none (s : Str) (h : ∀ c ∈ s, c ≠ ':') : cutLastColon s = none := by
  unfold cutLastColon
  rw [cutColon_eq, cutAt_none ':' s.reverse [] (fun c hc => h c (List.mem_reverse.mp hc))]

/-- the last colon of `host:port` when the port has none -/
theorem cutLastColon_join (host port : Str) (h : ∀ c ∈ port, c ≠ ':') :
    cutLastColon (host ++ ':' :: port) = some (host, port) := by
  unfold cutLastColon
  have : (host ++ ':' :: port).reverse = port.reverse ++ ':' :: host.reverse := by simp
  rw [this, cutColon_eq, cutAt_join ':' port.reverse _ [] (fun c hc => h c (List.mem_reverse.mp hc))]
  simp

/-- what `cutLastColon` returns: the text is `host:port` and the port has no colon -/
theorem cutLastColon_some (s host port : Str) (h : cutLastColon s = some (host, port)) :
    s = host ++ ':' :: port ∧ ∀ c ∈ port, c ≠ ':' := by
  unfold cutLastColon at h
  split at h
  · simp at h
  · next pr hr heq =>
    simp only [Option.some.injEq, Prod.mk.injEq] at h
    rcases cutAt_some ':' s.reverse [] pr hr (cutColon_eq _ _ ▸ heq) with ⟨p', hp, hx, hno⟩
    simp only [List.reverse_nil, List.nil_append] at hp
    subst hp
    have : s = (pr ++ ':' :: hr).reverse := by rw [← hx]; simp
    refine ⟨?_, ?_⟩
    · rw [this, ← h.1, ← h.2]; simp
    · intro c hc
      rw [← h.2] at hc
      exact hno c (List.mem_reverse.mp hc)

/-- whatever `net.SplitHostPort` makes of the host, the port it returns is the text after the last colon -/
theorem splitHostPort_port (s h p host port : Str) (hc : cutLastColon s = some (host, port))
    (hs : splitHostPort s = some (h, p)) : p = port := by
  unfold splitHostPort at hs
  rw [hc] at hs
  simp only at hs
  split at hs
  · split at hs
    · simp at hs
    · split at hs
      · split at hs
        · simp at hs
        · simp only [Option.some.injEq, Prod.mk.injEq] at hs; exact hs.2.symm
      · simp at hs
  · split at hs
    · simp at hs
    · split at hs
      · simp at hs
      · simp only [Option.some.injEq, Prod.mk.injEq] at hs; exact hs.2.symm

theorem splitHostPort_none_of_no_colon (s : Str) (h : ∀ c ∈ s, c ≠ ':') : splitHostPort s = none := by
  unfold splitHostPort
  rw [cutLastColon_none s h]

theorem contains_false_of (s : Str) (x : Char) (h : ∀ c ∈ s, c ≠ x) : s.contains x = false := by
  rw [List.contains_eq_any_beq, List.any_eq_false]
  intro c hc
  simp only [beq_iff_eq]
  exact fun e => h c hc e.symm

/-- a plain host (no `:`, `[`, `]`) and a port without them: `net.SplitHostPort` returns the two parts -/
theorem splitHostPort_plain (host port : Str)
    (hh : ∀ c ∈ host, c ≠ ':' ∧ c ≠ '[' ∧ c ≠ ']') (hp : ∀ c ∈ port, c ≠ ':' ∧ c ≠ '[' ∧ c ≠ ']') :
    splitHostPort (host ++ ':' :: port) = some (host, port) := by
  have hall : ∀ c ∈ host ++ ':' :: port, c ≠ '[' ∧ c ≠ ']' := by
    intro c hc
    simp only [List.mem_append, List.mem_cons] at hc
    rcases hc with hc | rfl | hc
    · exact (hh c hc).2
    · decide
    · exact (hp c hc).2
  unfold splitHostPort
  rw [cutLastColon_join host port (fun c hc => (hp c hc).1)]
  simp only
  split
  · next r heq =>
    have := (hall '[' (by rw [heq]; simp)).1
    exact absurd rfl this
  · rw [contains_false_of host ':' (fun c hc => (hh c hc).1),
      contains_false_of _ '[' (fun c hc => (hall c hc).1), contains_false_of _ ']' (fun c hc => (hall c hc).2)]
    simp

/-! ## hosts -/

theorem hostLabel_label (l : Str) (h : hostLabelOk l = true) : labelOk l = true ∧ l ≠ [] := by
  cases l with
  | nil => simp [hostLabelOk] at h
  | cons c r =>
    simp only [hostLabelOk, Bool.and_eq_true, List.all_eq_true, Bool.or_eq_true, beq_iff_eq] at h
    refine ⟨?_, by simp⟩
    simp only [labelOk, Bool.and_eq_true, Bool.or_eq_true, beq_iff_eq, List.all_eq_true]
    refine ⟨Or.inl h.1.1.1, ?_⟩
    intro x hx
    rcases h.1.1.2 x hx with h' | h'
    · exact Or.inl (Or.inl h')
    · exact Or.inr h'

theorem isHostName_of_simple (h : Str) (hs : simpleHost h = true) : isHostName h = true := by
  simp only [simpleHost, Bool.and_eq_true, List.all_eq_true] at hs
  have hl := hs.2
  unfold isHostName
  have hlast : ((splitDots h).getLast? == some []) = false := by
    cases hg : (splitDots h).getLast? with
    | none => rfl
    | some x =>
      have hm : x ∈ splitDots h := List.mem_of_getLast? hg
      have := (hostLabel_label x (hl x hm)).2
      cases x with
      | nil => exact absurd rfl this
      | cons a b => rfl
  simp only [hlast, Bool.false_and, Bool.false_eq_true, if_false, List.all_eq_true]
  intro l hm
  exact (hostLabel_label l (hl l hm)).1

theorem simple_chars (h : Str) (hs : simpleHost h = true) : ∀ c ∈ h, c ≠ ':' ∧ c ≠ '[' ∧ c ≠ ']' := by
  simp only [simpleHost, Bool.and_eq_true, List.all_eq_true, Bool.or_eq_true, beq_iff_eq] at hs
  intro c hc
  have := hs.1.2 c hc
  refine ⟨?_, ?_, ?_⟩ <;> (intro e; subst e; revert this; decide)

theorem digits_chars (p : Str) (hp : allDigits p = true) : ∀ c ∈ p, c ≠ ':' ∧ c ≠ '[' ∧ c ≠ ']' := by
  simp only [allDigits, Bool.and_eq_true, List.all_eq_true] at hp
  intro c hc
  have := hp.2 c hc
  refine ⟨?_, ?_, ?_⟩ <;> (intro e; subst e; revert this; decide)

theorem class_true_digits (p : Str) (h : portClass p = some true) : allDigits p = true := by
  unfold portClass at h
  by_cases hd : allDigits p = true
  · exact hd
  · simp only [hd, Bool.false_eq_true, if_false] at h
    split at h
    · split at h <;> simp at h
    · simp at h

/-! ## `endpoint` -/

/-- **The `endpoint` validation does what the documentation says**: every text that certainly is no `host:port` /
`:port` with a port 1 … 65535 fails it — in particular `:port` forms with a bad port, whatever the host —, every
`host:port` / `:port` with a plain host name or dotted quad and a decimal port passes it. -/
theorem endpoint_demand (s : Str) (b : Bool) (h : endpointDemand s = some b) : endpointOk s = b := by
  unfold endpointDemand at h
  cases hc : cutLastColon s with
  | none =>
    rw [hc] at h
    simp only [Option.some.injEq] at h
    subst h
    unfold endpointOk splitHostPort
    rw [hc]
    rfl
  | some hp =>
    obtain ⟨host, port⟩ := hp
    rw [hc] at h
    simp only at h
    have hjoin := cutLastColon_some s host port hc
    cases hpc : portClass port with
    | none => rw [hpc] at h; simp at h
    | some pb =>
      rw [hpc] at h
      cases pb with
      | false =>
        simp only [Option.some.injEq] at h
        subst h
        have hport := isPort_of_class port false hpc
        unfold endpointOk
        cases hsp : splitHostPort s with
        | none => rfl
        | some hp' =>
          obtain ⟨h', p'⟩ := hp'
          have := splitHostPort_port s h' p' host port hc hsp
          subst this
          simp [endpointShape, hport]
      | true =>
        simp only at h
        by_cases hh : (host.isEmpty || simpleHost host) = true
        · simp only [hh, if_true, Option.some.injEq] at h
          subst h
          have hport := isPort_of_class port true hpc
          have hpd := digits_chars port (class_true_digits port hpc)
          have hhost : ∀ c ∈ host, c ≠ ':' ∧ c ≠ '[' ∧ c ≠ ']' := by
            simp only [Bool.or_eq_true, List.isEmpty_iff] at hh
            rcases hh with rfl | hs
            · simp
            · exact simple_chars host hs
          unfold endpointOk
          rw [hjoin.1, splitHostPort_plain host port hhost hpd]
          simp only [endpointShape, hport, Bool.and_true, Bool.true_and]
          simp only [Bool.or_eq_true, List.isEmpty_iff] at hh ⊢
          rcases hh with rfl | hs
          · exact Or.inl rfl
          · refine Or.inr ?_
            have hnc : host.contains ':' = false := by
              rw [Bool.eq_false_iff]
              intro hc
              rw [List.contains_iff_mem] at hc
              exact (simple_chars host hs ':' hc).1 rfl
            simp only [isHost, hnc, Bool.false_eq_true, if_false]
            exact isHostName_of_simple host hs
        · simp [hh] at h

/-! ## `url-path` -/

theorem splitSlashes_ne_nil : ∀ (s : Str), splitSlashes s ≠ []
  | [] => by simp [splitSlashes]
  | c :: cs => by
    unfold splitSlashes
    split
    · simp
    · split <;> simp

def segOk (seg : Str) : Bool := !seg.isEmpty && seg.all pathCharOk

theorem urlPathLoop_spec : ∀ (r : Str),
    urlPathLoop r true = (splitSlashes r).all segOk ∧
    urlPathLoop r false = (match splitSlashes r with
      | l :: ls => l.all pathCharOk && ls.all segOk
      | [] => true)
  | [] => by simp [urlPathLoop, splitSlashes, segOk]
  | c :: cs => by
    have ih := urlPathLoop_spec cs
    by_cases hc : c = '/'
    · subst hc
      simp [urlPathLoop, splitSlashes, segOk, ih.1]
    · have hb : (c == '/') = false := by simp [hc]
      cases hs : splitSlashes cs with
      | nil => exact absurd hs (splitSlashes_ne_nil cs)
      | cons l ls =>
        have ih2 := ih.2
        rw [hs] at ih2
        simp only at ih2
        simp only [urlPathLoop, splitSlashes, hb, Bool.false_eq_true, if_false, hs, ih2, List.all_cons, segOk]
        simp [Bool.and_assoc]

/-- **`url-path` is the language of the regular expression** `^(/[a-zA-Z0-9._~!$&'()*+,;=:@%-]+)+$`: a `/`, then
non-empty segments of those characters separated by single slashes -/
theorem urlPath_demand (s : Str) : urlPathOk s = urlPathDemand s := by
  unfold urlPathOk urlPathDemand
  split
  · next r => rw [(urlPathLoop_spec r).1]; rfl
  · next hne =>
    split
    · next r => exact absurd rfl (hne r)
    · rfl

/-! ## literals: the base-0 grammar extends plain decimal -/

theorem digit_facts (c : Char) (h : isDigitC c = true) : (c == '_') = false ∧ digitVal c = some (c.toNat - 48) ∧ c.toNat - 48 < 10 := by
  simp only [isDigitC, Bool.and_eq_true, decide_eq_true_eq] at h
  refine ⟨?_, ?_, by omega⟩
  · cases hc : c == '_' with
    | false => rfl
    | true =>
      have : c = '_' := by simpa using hc
      subst this
      exact absurd h (by decide)
  · simp [digitVal, isDigitC, h.1, h.2]

theorem digitsBase_decimal : ∀ (s : Str) (acc : Nat), s.all isDigitC = true → digitsBase 10 s acc = some (digitsVal s acc)
  | [], acc, _ => rfl
  | c :: cs, acc, h => by
    simp only [List.all_cons, Bool.and_eq_true] at h
    rcases digit_facts c h.1 with ⟨h1, h2, h3⟩
    simp only [digitsBase, h1, Bool.false_eq_true, if_false, h2, h3, if_true, digitsVal]
    exact digitsBase_decimal cs _ h.2

theorem no_underscore (s : Str) (h : s.all isDigitC = true) : s.contains '_' = false := by
  apply contains_false_of
  intro c hc e
  subst e
  have := List.all_eq_true.mp h _ hc
  exact absurd this (by decide)

/-- a plain decimal (no sign, no leading zero) is read by `ParseUint(s, 0, _)` / `ParseInt(s, 0, _)` as that number -/
theorem parseUintLit_decimal (s : Str) (n : Nat) (h : decimalNat s = some n) : parseUintLit s = some n := by
  cases s with
  | nil => simp [decimalNat] at h
  | cons c r =>
    by_cases hz : c = '0'
    · subst hz
      cases r with
      | nil =>
        simp only [decimalNat, Option.some.injEq] at h
        subst h
        decide
      | cons d r' => simp [decimalNat] at h
    · have hne : (c == '0') = false := by simp [hz]
      have hd : allDigits (c :: r) = true ∧ n = digitsVal (c :: r) 0 := by
        by_cases ha : allDigits (c :: r) = true <;> simp [decimalNat, hz, ha] at h
        exact ⟨ha, h.symm⟩
      have hall : (c :: r).all isDigitC = true := by
        have := hd.1
        simp only [allDigits, Bool.and_eq_true] at this
        exact this.2
      unfold parseUintLit
      split
      · next heq => cases heq
      · next rest heq => cases heq; exact absurd rfl hz
      · rw [digitsBase_decimal _ 0 hall, no_underscore _ hall, hd.2]
        simp

/-! ## every documented constraint -/

theorem decide_lt_not_le (a b : Int) : decide (a < b) = !decide (b ≤ a) := by
  by_cases h : b ≤ a
  · have : ¬ a < b := by omega
    simp [h, this]
  · have : a < b := by omega
    simp [h, this]

theorem demand_tagFail (t : VTag) (v : DVal) (b : Bool) (h : demand t v = some b) : tagFail t v = !b := by
  cases t with
  | required =>
    simp only [demand, Option.some.injEq] at h
    subst h; simp [tagFail]
  | min n =>
    cases v <;> simp only [demand, Option.some.injEq, reduceCtorEq] at h
    · subst h; simp only [tagFail]; exact decide_lt_not_le _ _
    · subst h; simp only [tagFail]; exact decide_lt_not_le _ _
    · subst h; simp [tagFail]
  | minTime ns =>
    cases v <;> simp only [demand, Option.some.injEq, reduceCtorEq] at h
    subst h; simp [tagFail, boundShape]
  | maxTime ns =>
    cases v <;> simp only [demand, Option.some.injEq, reduceCtorEq] at h
    subst h; simp [tagFail, boundShape]
  | endpoint =>
    cases v <;> simp only [demand, reduceCtorEq] at h
    simp [tagFail, endpoint_demand _ b h]
  | urlPath =>
    cases v <;> simp only [demand, Option.some.injEq, reduceCtorEq] at h
    subst h; simp [tagFail, urlPath_demand]
  | oneOf alts =>
    cases v <;> simp only [demand, Option.some.injEq, reduceCtorEq] at h
    subst h; simp [tagFail]
  | dive => simp [demand] at h
  | omitempty => simp [demand] at h
  | other t => simp [demand] at h

theorem demandAll_tagsFail (ts : List VTag) (v : DVal) :
    (demandAll ts v = some false → tagsFail ts v = true) ∧ (demandAll ts v = some true → tagsFail ts v = false) := by
  induction ts with
  | nil => simp [demandAll, tagsFail]
  | cons t r ih =>
    have gen : ∀ (hne : t ≠ .omitempty) (hnd : t ≠ .dive),
        demandAll (t :: r) v = (match demand t v, demandAll r v with
          | some false, _ => some false
          | _, some false => some false
          | some true, some true => some true
          | _, _ => none) ∧ tagsFail (t :: r) v = (tagFail t v || tagsFail r v) := by
      intro hne hnd
      cases t <;> first | exact absurd rfl hne | exact absurd rfl hnd | exact ⟨rfl, rfl⟩
    by_cases ho : t = .omitempty
    · subst ho
      by_cases hz : v.isZero = true
      · simp [demandAll, tagsFail, hz]
      · simp only [demandAll, tagsFail, hz, Bool.false_eq_true, if_false]
        exact ih
    · by_cases hd : t = .dive
      · subst hd
        simp only [demandAll, tagsFail, tagFail, Bool.false_or]
        exact ih
      · rcases gen ho hd with ⟨h1, h2⟩
        rw [h1, h2]
        cases hdt : demand t v with
        | none =>
          cases hdr : demandAll r v with
          | none => simp
          | some br =>
            cases br with
            | false => simp [ih.1 hdr]
            | true => simp
        | some bt =>
          have hf := demand_tagFail t v bt hdt
          cases bt with
          | false => simp [hf]
          | true =>
            cases hdr : demandAll r v with
            | none => simp
            | some br =>
              cases br with
              | false => simp [ih.1 hdr]
              | true => simp [hf, ih.2 hdr]

end Pandora.Proofs.C17
