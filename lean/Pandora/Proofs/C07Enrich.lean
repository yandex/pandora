import Pandora.Spec.C07

/-! C07 — the `headers` option on the request of a raw frame (`enrichF`): helper lemmas. -/
namespace Pandora.Proofs.C07
open Pandora.Model.C07 Pandora.Spec.C07

theorem any_of_lookup (l : List (Bytes × List Bytes)) (k : Bytes) (vs : List Bytes) (h : l.lookup k = some vs) :
    l.any (fun x => x.1 == k) = true := by
  induction l with
  | nil => simp at h
  | cons x r ih =>
    obtain ⟨k', v'⟩ := x
    by_cases hk : k = k'
    · subst hk; simp
    · have hne : (k == k') = false := by simpa using hk
      rw [List.lookup_cons, hne] at h
      simp [ih h]

theorem lookup_insert_other (kv : Bytes × List Bytes) (l : List (Bytes × List Bytes)) (k : Bytes) (hk : k ≠ kv.1) :
    (insertHdrF kv l).lookup k = l.lookup k := by
  obtain ⟨kk, vv⟩ := kv
  have hne := beq_eq_false_iff_ne.mpr hk
  induction l with
  | nil => simp [insertHdrF, List.lookup_cons, hne]
  | cons x r ih =>
    unfold insertHdrF
    split
    · rw [List.lookup_cons, hne]
    · rw [List.lookup_cons, List.lookup_cons, ih]

theorem lookup_insert_self (kv : Bytes × List Bytes) (l : List (Bytes × List Bytes))
    (h : l.any (fun x => x.1 == kv.1) = false) : (insertHdrF kv l).lookup kv.1 = some kv.2 := by
  obtain ⟨kk, vv⟩ := kv
  induction l with
  | nil => simp [insertHdrF]
  | cons x r ih =>
    simp only [List.any_cons, Bool.or_eq_false_iff, beq_eq_false_iff_ne] at h
    unfold insertHdrF
    split
    · simp
    · rw [List.lookup_cons, beq_eq_false_iff_ne.mpr (Ne.symm h.1), ih h.2]

/-- one entry of the option leaves the request alone, names the Host of a request that had none, or inserts one header under
a key the request did not carry -/
theorem enrichStep_cases (r : FReq) (kv : Bytes × Bytes) :
    enrichStep r kv = r ∨ (r.host = [] ∧ enrichStep r kv = { r with host := kv.2 }) ∨
      (r.hdrs.any (fun x => x.1 == canonKey kv.1) = false ∧
        enrichStep r kv = { r with hdrs := insertHdrF (canonKey kv.1, [kv.2]) r.hdrs }) := by
  unfold enrichStep
  by_cases h1 : r.hdrs.any (fun x => x.1 == canonKey kv.1) = true
  · simp [h1]
  by_cases h2 : (canonKey kv.1 == hostKey) = true
  · by_cases h3 : r.host = [] <;> simp [h1, h2, h3]
  · simp [h1, h2]

/-- what every entry of the option preserves, the whole option preserves -/
theorem enrichF_preserves {P : FReq → Prop} (hstep : ∀ r kv, P r → P (enrichStep r kv)) :
    ∀ (cfg : Hdrs) (r : FReq), P r → P (enrichF cfg r)
  | [], _, h => h
  | kv :: rest, r, h => enrichF_preserves hstep rest _ (hstep r kv h)

theorem enrichF_core (cfg : Hdrs) (r : FReq) :
    (enrichF cfg r).method = r.method ∧ (enrichF cfg r).uri = r.uri ∧ (enrichF cfg r).body = r.body :=
  enrichF_preserves (P := fun x => x.method = r.method ∧ x.uri = r.uri ∧ x.body = r.body)
    (fun x kv h => by rcases enrichStep_cases x kv with e | ⟨_, e⟩ | ⟨_, e⟩ <;> rw [e] <;> exact h) cfg r ⟨rfl, rfl, rfl⟩

theorem enrichF_keeps (cfg : Hdrs) (r : FReq) (k : Bytes) (vs : List Bytes) (h : r.hdrs.lookup k = some vs) :
    (enrichF cfg r).hdrs.lookup k = some vs :=
  enrichF_preserves (P := fun x => x.hdrs.lookup k = some vs) (fun x kv hx => by
    rcases enrichStep_cases x kv with e | ⟨_, e⟩ | ⟨hany, e⟩ <;> rw [e]
    · exact hx
    · exact hx
    · -- the inserted key is not `k`, which the request carries
      have hne : k ≠ canonKey kv.1 := fun ek => by
        subst ek; rw [any_of_lookup x.hdrs _ vs hx] at hany; cases hany
      rw [lookup_insert_other _ _ _ hne]; exact hx) cfg r h

theorem enrichF_host (cfg : Hdrs) (r : FReq) (h : r.host ≠ []) : (enrichF cfg r).host = r.host :=
  enrichF_preserves (P := fun x => x.host = r.host) (fun x kv hx => by
    rcases enrichStep_cases x kv with e | ⟨e0, _⟩ | ⟨_, e⟩
    · rw [e]; exact hx
    · exact absurd (hx ▸ e0) h
    · rw [e]; exact hx) cfg r rfl

end Pandora.Proofs.C07
