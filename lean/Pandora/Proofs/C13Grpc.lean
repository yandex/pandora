/-
C13 — lemmas about the pooled grpc/json provider (`Model/C13Grpc.lean`).
-/
import Pandora.Model.C13Grpc
import Pandora.Proofs.C13Ammo

namespace Pandora.Proofs.C13
open Pandora.Model.C13

/-! ### the end of a round of the outer loop -/

/-- a round of the outer loop stops with the end of the data or an error value … -/
theorem grpcPassEnd_stop {fixed : Bool} {limit passes passNum ammoNum : Nat} {scanErr : Bool} {e : End}
    (h : grpcPassEnd fixed limit passes passNum ammoNum scanErr = .stop e) : e = .ok ∨ ∃ c, e = .err c := by
  unfold grpcPassEnd at h
  by_cases h1 : scanErr = true
  · rw [if_pos h1] at h; cases h; exact .inr ⟨_, rfl⟩
  by_cases h2 : limit ≠ 0 ∧ ammoNum ≥ limit
  · rw [if_neg h1, if_pos h2] at h; cases h; exact .inl rfl
  by_cases h3 : passes ≠ 0 ∧ passNum ≥ passes
  · rw [if_neg h1, if_neg h2, if_pos h3] at h; cases h; exact .inl rfl
  by_cases h4 : fixed = true ∧ ammoNum = 0
  · rw [if_neg h1, if_neg h2, if_neg h3, if_pos h4] at h; cases h; exact .inr ⟨_, rfl⟩
  · rw [if_neg h1, if_neg h2, if_neg h3, if_neg h4] at h; cases h

/-- … and the repaired one goes round again only below both limits and after something was delivered -/
theorem grpcPassEnd_again {limit passes passNum ammoNum : Nat} {scanErr : Bool}
    (h : grpcPassEnd true limit passes passNum ammoNum scanErr = .again) :
    (limit = 0 ∨ ammoNum < limit) ∧ (passes = 0 ∨ passNum < passes) ∧ 0 < ammoNum := by
  unfold grpcPassEnd at h
  by_cases h1 : scanErr = true
  · rw [if_pos h1] at h; cases h
  by_cases h2 : limit ≠ 0 ∧ ammoNum ≥ limit
  · rw [if_neg h1, if_pos h2] at h; cases h
  by_cases h3 : passes ≠ 0 ∧ passNum ≥ passes
  · rw [if_neg h1, if_neg h2, if_pos h3] at h; cases h
  by_cases h4 : ammoNum = 0
  · rw [if_neg h1, if_neg h2, if_neg h3, if_pos ⟨rfl, h4⟩] at h; cases h
  · exact ⟨by omega, by omega, by omega⟩

theorem GRunP.prepend_out (es : List GObj) (r : GRunP) : (r.prepend es).out = es ++ r.out := rfl
theorem GRunP.prepend_end (es : List GObj) (r : GRunP) : (r.prepend es).end_ = r.end_ := rfl

theorem End.returned_ne_fuel {e : End} (h : e = .ok ∨ ∃ c, e = .err c) : e ≠ .fuel := by
  rcases h with rfl | ⟨c, rfl⟩ <;> exact End.noConfusion

/-! ### the pool is invisible: with `Reset` on both paths of `decodeAmmo` the object handed back does not depend on the
object taken from the pool -/

theorem gDecodeAmmo_fixed (parsed : Option GFields) (am : GObj) :
    gDecodeAmmo true parsed am =
      match parsed with
      | some f => (⟨f, 0, false⟩, false)
      | none => (⟨GFields.zero, 0, false⟩, true) := by
  cases parsed <;> rfl

/-- `gScan` is `gBody` iterated over the scanner's tokens -/
theorem gScan_step (fixed coe : Bool) (json : Bytes → Option GFields) (chosen : Bytes → Bool) (limit : Nat) (pool : Nat → GObj)
    (l : Bytes) (rest : List Bytes) (gets ammoNum : Nat) :
    gScan fixed coe json chosen limit pool (l :: rest) gets ammoNum =
      if l.length ≥ maxToken then ⟨[], .tooLong, gets, ammoNum⟩
      else if limit ≠ 0 ∧ ammoNum ≥ limit then ⟨[], .limit, gets, ammoNum⟩
      else match gBody fixed coe chosen (json (dropCR l)) (pool gets) ammoNum with
        | none => ⟨[], .decodeErr, gets + 1, ammoNum⟩
        | some (none, n') => gScan fixed coe json chosen limit pool rest (gets + 1) n'
        | some (some a, n') => (gScan fixed coe json chosen limit pool rest (gets + 1) n').cons a := by
  rw [gScan, gBody]
  cases gDecodeAmmo fixed (json (dropCR l)) (pool gets) with
  | mk a err =>
    cases hs : err && !coe
    · cases hc : !chosen (if err = true then gInvalidate a else a).f.tag <;> simp only [hs, hc, Bool.false_eq_true, if_false, if_true]
    · simp only [hs, if_true]

section
variable (coe : Bool) (json : Bytes → Option GFields) (chosen : Bytes → Bool) (limit passes : Nat)

/-- the repaired scan loop without its pool: what a line is delivered as is `gLineObj` of the line -/
theorem gBody_fixed (l : Bytes) (pooled : GObj) (n : Nat) :
    gBody true coe chosen (json (dropCR l)) pooled n =
      match gLineObj coe json l with
      | none => none
      | some a => if !chosen a.f.tag then some (none, n) else some (some a, n + 1) := by
  rw [gBody, gDecodeAmmo_fixed, gLineObj]
  cases json (dropCR l) with
  | some f => rfl
  | none => cases coe <;> rfl

theorem gScan_pure (pool : Nat → GObj)
    (lines : List Bytes) : ∀ gets ammoNum,
    gScan true coe json chosen limit pool lines gets ammoNum = gScanPure coe json chosen limit lines gets ammoNum := by
  induction lines with
  | nil => intro g n; rfl
  | cons l rest ih =>
    intro g n
    rw [gScan_step, gScanPure, gBody_fixed]
    cases gLineObj coe json l with
    | none => rfl
    | some a => cases hc : !chosen a.f.tag <;> simp only [hc, Bool.false_eq_true, if_false, if_true, ih]

theorem gStart_pure (pool : Nat → GObj) (lines : List Bytes) : ∀ fuel passNum gets ammoNum,
    gStart true coe json chosen limit passes pool lines fuel passNum gets ammoNum =
      gStartPure coe json chosen limit passes lines fuel passNum gets ammoNum := by
  intro fuel
  induction fuel with
  | zero => intro pn g n; rfl
  | succ fuel ih => intro pn g n; simp only [gStart, gStartPure, gScan_pure, ih]

/-! ### one line of a pass, one pass of `Provider.start` -/

/-- what a pass does with its first line: it ends there having sent nothing, or it goes on to the other lines - with the line's
object sent first and counted, when the filter lets it through -/
theorem gScanPure_cons_cases (l : Bytes) (rest : List Bytes) (g n : Nat) :
    (∃ e g', gScanPure coe json chosen limit (l :: rest) g n = ⟨[], e, g', n⟩ ∧
      (l.length ≥ maxToken ∨ (limit ≠ 0 ∧ n ≥ limit) ∨ gLineObj coe json l = none)) ∨
    (l.length < maxToken ∧ (limit = 0 ∨ n < limit) ∧ ∃ a, gLineObj coe json l = some a ∧
      ((chosen a.f.tag = false ∧
        gScanPure coe json chosen limit (l :: rest) g n = gScanPure coe json chosen limit rest (g + 1) n) ∨
       (chosen a.f.tag = true ∧
        gScanPure coe json chosen limit (l :: rest) g n = (gScanPure coe json chosen limit rest (g + 1) (n + 1)).cons a))) := by
  rw [gScanPure]
  by_cases h1 : l.length ≥ maxToken
  · rw [if_pos h1]; exact .inl ⟨_, _, rfl, .inl h1⟩
  by_cases h2 : limit ≠ 0 ∧ n ≥ limit
  · rw [if_neg h1, if_pos h2]; exact .inl ⟨_, _, rfl, .inr (.inl h2)⟩
  rw [if_neg h1, if_neg h2]
  cases ha : gLineObj coe json l with
  | none => exact .inl ⟨_, _, rfl, .inr (.inr rfl)⟩
  | some a =>
    refine .inr ⟨by omega, by omega, a, rfl, ?_⟩
    dsimp only
    cases hc : chosen a.f.tag
    · exact .inl ⟨rfl, rfl⟩
    · exact .inr ⟨rfl, rfl⟩

/-- one round of `Provider.start`: it returns what the pass has sent, with the end of the data or an error value, or it goes
round again (the test of `grpcPassEnd` having said so) -/
theorem gStartPure_succ_cases (lines : List Bytes) (fuel passNum gets ammoNum : Nat) :
    let s := gScanPure coe json chosen limit lines gets ammoNum
    let r := gStartPure coe json chosen limit passes lines (fuel + 1) passNum gets ammoNum
    (r.out = s.out ∧ (r.end_ = .ok ∨ ∃ c, r.end_ = .err c)) ∨
    (grpcPassEnd true limit passes (passNum + 1) s.ammoNum (s.end_ == .tooLong) = .again ∧
      r = (gStartPure coe json chosen limit passes lines fuel (passNum + 1) s.gets s.ammoNum).prepend s.out) := by
  intro s r
  have hr : r = match s.end_ with
      | .decodeErr => ⟨s.out, .err "other"⟩
      | e =>
        match grpcPassEnd true limit passes (passNum + 1) s.ammoNum (e == .tooLong) with
        | .stop en => ⟨s.out, en⟩
        | .again => (gStartPure coe json chosen limit passes lines fuel (passNum + 1) s.gets s.ammoNum).prepend s.out := rfl
  have key : ∀ b, s.end_ ≠ .decodeErr → b = (s.end_ == .tooLong) →
      r = (match grpcPassEnd true limit passes (passNum + 1) s.ammoNum b with
        | .stop en => ⟨s.out, en⟩
        | .again => (gStartPure coe json chosen limit passes lines fuel (passNum + 1) s.gets s.ammoNum).prepend s.out) := by
    intro b hne hb; subst hb; rw [hr]
    cases hs : s.end_ with
    | decodeErr => exact absurd hs hne
    | _ => rfl
  by_cases hd : s.end_ = .decodeErr
  · rw [hd] at hr; exact .inl ⟨by rw [hr], .inr ⟨_, by rw [hr]⟩⟩
  · have := key _ hd rfl
    cases hpe : grpcPassEnd true limit passes (passNum + 1) s.ammoNum (s.end_ == .tooLong) with
    | stop en => rw [hpe] at this; exact .inl ⟨by rw [this], by rw [this]; exact grpcPassEnd_stop hpe⟩
    | again => rw [hpe] at this; exact .inr ⟨rfl, this⟩

/-! ### what is delivered: every object sent to the sink is what its own line says -/

theorem gScanPure_mem (lines : List Bytes) : ∀ gets ammoNum o, o ∈ (gScanPure coe json chosen limit lines gets ammoNum).out →
      ∃ l ∈ lines, gLineObj coe json l = some o ∧ chosen o.f.tag = true := by
  induction lines with
  | nil => intro g n o h; cases h
  | cons l rest ih =>
    intro g n o h
    have hrest : ∀ g n, o ∈ (gScanPure coe json chosen limit rest g n).out →
        ∃ l' ∈ l :: rest, gLineObj coe json l' = some o ∧ chosen o.f.tag = true := fun g n h =>
      (ih g n o h).imp fun l' h' => ⟨List.mem_cons_of_mem _ h'.1, h'.2⟩
    rcases gScanPure_cons_cases coe json chosen limit l rest g n with ⟨e, g', hs, _⟩ | ⟨_, _, a, ha, ⟨_, hs⟩ | ⟨hc, hs⟩⟩
    · rw [hs] at h; cases h
    · rw [hs] at h; exact hrest _ _ h
    · rw [hs] at h
      rcases List.mem_cons.mp h with rfl | h
      · exact ⟨l, List.mem_cons_self, ha, hc⟩
      · exact hrest _ _ h

theorem gStartPure_mem (lines : List Bytes) : ∀ fuel passNum gets ammoNum o,
      o ∈ (gStartPure coe json chosen limit passes lines fuel passNum gets ammoNum).out →
      ∃ l ∈ lines, gLineObj coe json l = some o ∧ chosen o.f.tag = true := by
  intro fuel
  induction fuel with
  | zero => intro pn g n o h; cases h
  | succ fuel ih =>
    intro pn g n o h
    rcases gStartPure_succ_cases coe json chosen limit passes lines fuel pn g n with ⟨ho, _⟩ | ⟨_, hr⟩
    · rw [ho] at h; exact gScanPure_mem coe json chosen limit lines _ _ o h
    · rw [hr, GRunP.prepend_out, List.mem_append] at h
      rcases h with h | h
      · exact gScanPure_mem coe json chosen limit lines _ _ o h
      · exact ih _ _ _ o h

/-! ### one pass without limit and without chosen cases is the line model `grpcLines` -/

def gView (o : GObj) : GEntry := if o.isInvalid then .invalid else .valid o.f.tag

def gEndOf : GScanEnd → End
  | .eof => .ok
  | .limit => .ok
  | .tooLong => .err "toolong"
  | .decodeErr => .err "other"

theorem gScanPure_grpcLines (lines : List Bytes) : ∀ gets ammoNum,
    let s := gScanPure coe json (fun _ => true) 0 lines gets ammoNum
    grpcLines coe (fun l => (json l).map (·.tag)) lines = ⟨s.out.map gView, gEndOf s.end_⟩ := by
  induction lines with
  | nil => intro g n; simp [gScanPure, grpcLines, gEndOf]
  | cons l rest ih =>
    intro g n
    simp only
    rw [gScanPure, grpcLines]
    split
    · simp [gEndOf]
    · simp only [ne_eq, not_true_eq_false, false_and, if_false]
      cases hj : json (dropCR l) with
      | some f =>
        have := ih (g + 1) (n + 1)
        simp only at this
        simp [gLineObj, hj, GScan.cons, GRun.cons, this, gView]
      | none =>
        cases coe with
        | false => simp [gLineObj, hj, gEndOf]
        | true =>
          have := ih (g + 1) (n + 1)
          simp only at this
          simp [gLineObj, hj, GScan.cons, GRun.cons, this, gView]

/-! ### termination of `Provider.start` -/

theorem gScanPure_mono (lines : List Bytes) : ∀ gets ammoNum, ammoNum ≤ (gScanPure coe json chosen limit lines gets ammoNum).ammoNum := by
  induction lines with
  | nil => intro g n; exact Nat.le_refl n
  | cons l rest ih =>
    intro g n
    rcases gScanPure_cons_cases coe json chosen limit l rest g n with ⟨e, g', hs, _⟩ | ⟨_, _, a, _, ⟨_, hs⟩ | ⟨_, hs⟩⟩ <;> rw [hs]
    · exact Nat.le_refl n
    · exact ih _ _
    · exact Nat.le_of_succ_le (ih (g + 1) (n + 1))

theorem gReaches_cons (l : Bytes) (rest : List Bytes) :
    gReaches coe json chosen (l :: rest) = true ↔
      l.length < maxToken ∧ ∃ a, gLineObj coe json l = some a ∧ (chosen a.f.tag = true ∨ gReaches coe json chosen rest = true) := by
  rw [gReaches]
  by_cases h1 : l.length ≥ maxToken
  · rw [if_pos h1]; exact ⟨Bool.noConfusion, fun h => by omega⟩
  rw [if_neg h1]
  cases gLineObj coe json l with
  | none => exact ⟨Bool.noConfusion, fun ⟨_, _, h, _⟩ => (by cases h)⟩
  | some a =>
    dsimp only
    cases hc : chosen a.f.tag
    · exact ⟨fun h => ⟨by omega, a, rfl, .inr h⟩, fun ⟨_, b, hb, h⟩ => by cases hb; rw [hc] at h; exact h.resolve_left (by simp)⟩
    · exact ⟨fun _ => ⟨by omega, a, rfl, .inl hc⟩, fun _ => rfl⟩

/-- a pass that delivers something reaches a line it delivers -/
theorem gScanPure_delivers_reaches (lines : List Bytes) : ∀ gets ammoNum, ammoNum < (gScanPure coe json chosen limit lines gets ammoNum).ammoNum →
      gReaches coe json chosen lines = true := by
  induction lines with
  | nil => intro g n h; exact absurd h (Nat.lt_irrefl n)
  | cons l rest ih =>
    intro g n h
    rw [gReaches_cons]
    rcases gScanPure_cons_cases coe json chosen limit l rest g n with ⟨e, g', hs, _⟩ | ⟨hl, _, a, ha, ⟨_, hs⟩ | ⟨hc, _⟩⟩
    · rw [hs] at h; exact absurd h (Nat.lt_irrefl n)
    · rw [hs] at h; exact ⟨hl, a, ha, .inr (ih _ _ h)⟩
    · exact ⟨hl, a, ha, .inl hc⟩

/-- a pass that reaches a line it delivers, started below the limit, delivers it -/
theorem gScanPure_reaches_delivers (lines : List Bytes) (hr : gReaches coe json chosen lines = true) : ∀ gets ammoNum, (limit = 0 ∨ ammoNum < limit) →
      ammoNum < (gScanPure coe json chosen limit lines gets ammoNum).ammoNum := by
  induction lines with
  | nil => cases hr
  | cons l rest ih =>
    intro g n hn
    obtain ⟨hl, b, hb, hreach⟩ := (gReaches_cons coe json chosen l rest).mp hr
    rcases gScanPure_cons_cases coe json chosen limit l rest g n with ⟨e, g', _, hstop⟩ | ⟨_, _, a, ha, ⟨hc, hs⟩ | ⟨_, hs⟩⟩
    · rcases hstop with h | h | h
      · omega
      · omega
      · rw [h] at hb; cases hb
    · rw [hs]
      rw [ha] at hb; cases hb
      exact ih (hreach.resolve_left (by rw [hc]; simp)) _ _ hn
    · rw [hs]
      exact gScanPure_mono coe json chosen limit rest (g + 1) (n + 1)

/-- with a pass limit: `passes - passNum` more passes are enough -/
theorem gStartPure_passes (lines : List Bytes) : ∀ fuel passNum gets ammoNum, passNum < passes → passes - passNum ≤ fuel →
      (gStartPure coe json chosen limit passes lines fuel passNum gets ammoNum).end_ ≠ .fuel := by
  intro fuel
  induction fuel with
  | zero => intro pn g n h1 h2; omega
  | succ fuel ih =>
    intro pn g n h1 h2
    rcases gStartPure_succ_cases coe json chosen limit passes lines fuel pn g n with ⟨_, he⟩ | ⟨hag, hr⟩
    · exact End.returned_ne_fuel he
    · rw [hr, GRunP.prepend_end]
      have := (grpcPassEnd_again hag).2.1
      exact ih _ _ _ (by omega) (by omega)

/-- with an ammo limit, once a pass reaches a line it delivers: `limit - ammoNum` more passes are enough -/
theorem gStartPure_limit (lines : List Bytes) (hr : gReaches coe json chosen lines = true) : ∀ fuel passNum gets ammoNum,
      ammoNum < limit → limit - ammoNum ≤ fuel →
      (gStartPure coe json chosen limit passes lines fuel passNum gets ammoNum).end_ ≠ .fuel := by
  intro fuel
  induction fuel with
  | zero => intro pn g n h1 h2; omega
  | succ fuel ih =>
    intro pn g n h1 h2
    have hd := gScanPure_reaches_delivers coe json chosen limit lines hr g n (Or.inr h1)
    rcases gStartPure_succ_cases coe json chosen limit passes lines fuel pn g n with ⟨_, he⟩ | ⟨hag, hr'⟩
    · exact End.returned_ne_fuel he
    · rw [hr', GRunP.prepend_end]
      have := (grpcPassEnd_again hag).1
      exact ih _ _ _ (by omega) (by omega)

/-- `Provider.start` returns: end of data, an error value, or (only if the bound on the passes was too small) `fuel` -/
theorem gStartPure_end (lines : List Bytes) : ∀ fuel passNum gets ammoNum,
    let e := (gStartPure coe json chosen limit passes lines fuel passNum gets ammoNum).end_
    e = .fuel ∨ e = .ok ∨ ∃ c, e = .err c := by
  intro fuel
  induction fuel with
  | zero => intro pn g n; exact .inl rfl
  | succ fuel ih =>
    intro pn g n
    rcases gStartPure_succ_cases coe json chosen limit passes lines fuel pn g n with ⟨_, he⟩ | ⟨_, hr⟩
    · exact .inr he
    · rw [hr]; exact ih _ _ _

end

end Pandora.Proofs.C13
