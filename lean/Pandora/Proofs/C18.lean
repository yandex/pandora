/-
Helper lemmas for C18 (generic facts about `iter`, the heap and `Cfg.get`; per-operation facts).
-/
import Pandora.Spec.C18

set_option linter.unusedSimpArgs false

namespace Pandora.Proofs.C18
open Pandora.Model.C18 Pandora.Spec.C18

/-! ### configuration values -/

theorem get_cons_ne {k f : Nat} {v : Int} {c : Cfg} (h : f ≠ k) : Cfg.get ((k, v) :: c) f = Cfg.get c f := by
  unfold Cfg.get
  simp [List.lookup]
  have : (f == k) = false := by simp [h]
  rw [this]

theorem get_append (u c : Cfg) (f : Nat) :
    Cfg.get (u ++ c) f = match List.lookup f u with | some v => v | none => Cfg.get c f := by
  induction u with
  | nil => simp [Cfg.get]
  | cons a u ih =>
    obtain ⟨k, v⟩ := a
    by_cases h : f = k
    · subst h; simp [Cfg.get, List.lookup]
    · have hb : (f == k) = false := by simp [h]
      simp only [List.cons_append, Cfg.get, List.lookup, hb] at ih ⊢
      exact ih

/-! ### iteration -/

theorem iter_length (f : St → St × Step) : ∀ k st, (iter f k st).2.length = k := by
  intro k; induction k with
  | zero => intro st; rfl
  | succ k ih => intro st; simp [iter, ih]

/-- an invariant of the state and a property of every produced step -/
theorem iter_inv (f : St → St × Step) (I : St → Prop) (P : Step → Prop)
    (hstep : ∀ st, I st → I (f st).1 ∧ P (f st).2) :
    ∀ k st, I st → I (iter f k st).1 ∧ ∀ s ∈ (iter f k st).2, P s := by
  intro k; induction k with
  | zero => intro st h; exact ⟨h, by simp [iter]⟩
  | succ k ih =>
    intro st h
    have h1 := hstep st h
    have h2 := ih (f st).1 h1.1
    refine ⟨h2.1, ?_⟩
    intro s hs
    simp only [iter, List.mem_cons] at hs
    rcases hs with rfl | hs
    · exact h1.2
    · exact h2.2 s hs

/-- keys (fresh identities) taken by successive steps lie between the frontiers before and after, in strictly
increasing order -/
theorem iter_keys (f : St → St × Step) (key : Step → Option Nat)
    (hstep : ∀ st, st.next ≤ (f st).1.next ∧ ∀ c, key (f st).2 = some c → st.next ≤ c ∧ c < (f st).1.next) :
    ∀ k st, st.next ≤ (iter f k st).1.next ∧
      (∀ s ∈ (iter f k st).2, ∀ c, key s = some c → st.next ≤ c ∧ c < (iter f k st).1.next) ∧
      ((iter f k st).2.filterMap key).Pairwise (· < ·) := by
  intro k; induction k with
  | zero => intro st; simp [iter]
  | succ k ih =>
    intro st
    obtain ⟨h2, h3⟩ := hstep st
    obtain ⟨i1, i2, i3⟩ := ih (f st).1
    refine ⟨Nat.le_trans h2 i1, fun s hs c hc => ?_, ?_⟩
    · simp only [iter, List.mem_cons] at hs
      rcases hs with rfl | hs
      · exact ⟨(h3 c hc).1, Nat.lt_of_lt_of_le (h3 c hc).2 i1⟩
      · exact ⟨Nat.le_trans h2 (i2 s hs c hc).1, (i2 s hs c hc).2⟩
    · simp only [iter, List.filterMap_cons]
      cases hk : key (f st).2 with
      | none => exact i3
      | some c0 =>
        refine List.pairwise_cons.mpr ⟨fun c hc => ?_, i3⟩
        obtain ⟨s, hs, hsc⟩ := List.mem_filterMap.mp hc
        exact Nat.lt_of_lt_of_le (h3 c0 hk).2 (i2 s hs c hsc).1

theorem pairwise_lt_nodup {l : List Nat} (h : l.Pairwise (· < ·)) : l.Nodup := by
  unfold List.Nodup
  exact h.imp (fun hab => Nat.ne_of_lt hab)

/-- cells below the allocation frontier are not touched by later steps -/
theorem iter_frame (f : St → St × Step)
    (hstep : ∀ st, st.next ≤ (f st).1.next ∧ ∀ c, c < st.next → (f st).1.heap c = st.heap c) :
    ∀ k st c, c < st.next → (iter f k st).1.heap c = st.heap c := by
  intro k; induction k with
  | zero => intro st c _; rfl
  | succ k ih =>
    intro st c hc
    obtain ⟨h2, h3⟩ := hstep st
    simp only [iter]
    rw [ih (f st).1 c (Nat.lt_of_lt_of_le hc h2), h3 c hc]

/-- isolation: every product that holds a cell below the frontier reads its own serial number at the end -/
theorem iter_views (f : St → St × Step)
    (hstep : ∀ st, st.next ≤ (f st).1.next ∧ (∀ c, c < st.next → (f st).1.heap c = st.heap c) ∧
      ∀ p c, (f st).2.res = .ok p → p.cell = some c →
        c < (f st).1.next ∧ ((f st).1.heap c).get markField = p.serial) :
    ∀ k st, ∀ v ∈ viewsOf (iter f k st).1.heap (iter f k st).2, (v.1 : Int) = v.2 := by
  intro k; induction k with
  | zero => intro st v hv; simp [iter, viewsOf] at hv
  | succ k ih =>
    intro st v hv
    obtain ⟨_, _, h4⟩ := hstep st
    have hfr := iter_frame f (fun st => ⟨(hstep st).1, (hstep st).2.1⟩) k (f st).1
    simp only [iter, viewsOf, List.filterMap_cons] at hv
    split at hv
    · exact ih (f st).1 v hv
    · rename_i b hb
      simp only [List.mem_cons] at hv
      rcases hv with rfl | hv
      · -- the head step's own view
        revert hb
        split
        · rename_i serial c seen hres
          intro hb
          simp only [Option.some.injEq] at hb
          subst hb
          obtain ⟨hlt, hm⟩ := h4 ⟨serial, some c, seen⟩ c hres rfl
          simp only
          rw [hfr c hlt, hm]
        · intro hb; simp at hb
      · exact ih (f st).1 v hv

/-! ### the primitives, as equations -/

/-- the config identity `Get` works on -/
def cellOf (sh : Shape) (next : Nat) : Option Nat :=
  if sh.cfg = .none then none else some (if sh.dflt = .shared then 0 else next)

def fillEvs (sh : Shape) (w : World) (fills next : Nat) : List Ev :=
  if w.hasFill then [Ev.fill fills (cellOf sh next) (!w.fillFault fills)] else []

def dfltEvs (sh : Shape) : List Ev :=
  if sh.cfg = .none ∨ sh.dflt = .absent then [] else [Ev.dflt]

/-- content of a config right after `defaultConfigContainer.new` -/
def baseCfg (sh : Shape) (w : World) (heap : Nat → Cfg) : Cfg :=
  match sh.dflt with
  | .absent | .nilPtr => []
  | .fresh => w.dflt
  | .shared => heap 0

def getHeap (sh : Shape) (w : World) (heap : Nat → Cfg) (fills next : Nat) : Nat → Cfg :=
  match cellOf sh next with
  | none => heap
  | some c => upd heap c ((if w.hasFill && !w.fillFault fills then w.user else []) ++ baseCfg sh w heap)

def fillFails (w : World) (fills : Nat) : Bool := w.hasFill && w.fillFault fills

theorem upd_self (h : Nat → Cfg) (c : Nat) : upd h c (h c) = h := by
  funext i; unfold upd; split <;> simp_all

@[simp] theorem upd_same (h : Nat → Cfg) (c : Nat) (v : Cfg) : upd h c v c = v := by simp [upd]

theorem upd_ne (h : Nat → Cfg) {c i : Nat} (v : Cfg) (hne : i ≠ c) : upd h c v i = h i := by simp [upd, hne]

@[simp] theorem upd_upd (h : Nat → Cfg) (c : Nat) (v v' : Cfg) : upd (upd h c v) c v' = upd h c v' := by
  funext i; unfold upd; split <;> rfl

theorem dcGet_proj (sh : Shape) (w : World) (st : St) :
    (dcGet sh w st).1.log = fillEvs sh w st.fills st.next ++ dfltEvs sh ++ st.log ∧
    (dcGet sh w st).2 = (if fillFails w st.fills then .error (.fill st.fills) else .ok (cellOf sh st.next)) ∧
    (dcGet sh w st).1.fills = st.fills + (if w.hasFill then 1 else 0) ∧
    (dcGet sh w st).1.ctors = st.ctors ∧ (dcGet sh w st).1.facts = st.facts ∧
    (dcGet sh w st).1.next = (if sh.cfg = .none ∨ sh.dflt = .shared then st.next else st.next + 1) ∧
    (dcGet sh w st).1.heap = getHeap sh w st.heap st.fills st.next := by
  obtain ⟨factory, cfg, ctorErr, factErr, iface, dflt⟩ := sh
  by_cases h1 : w.hasFill = true <;> by_cases h2 : w.fillFault st.fills = true <;>
  cases cfg <;> cases dflt <;>
  simp [dcGet, dcNew, cellOf, fillEvs, dfltEvs, fillFails, getHeap, baseCfg, upd_self, upd_same, upd_upd, h1, h2]

def seenOf (kind : CfgKind) (conf : Option Nat) (copy : Cfg) (heap : Nat → Cfg) : Cfg :=
  match kind, conf with
  | .ptr, some c => heap c
  | .struct, some c => heap c
  | _, _ => copy

def markHeap (kind : CfgKind) (serial : Nat) (conf : Option Nat) (heap : Nat → Cfg) : Nat → Cfg :=
  match kind, conf with
  | .ptr, some c => upd heap c ((markField, (serial : Int)) :: heap c)
  | _, _ => heap

theorem produce_eq (kind : CfgKind) (serial : Nat) (conf : Option Nat) (copy : Cfg) (st : St) :
    produce kind serial conf copy st =
      ({ st with heap := markHeap kind serial conf st.heap },
       ⟨serial, if kind = .ptr then conf else none, seenOf kind conf copy st.heap⟩) := by
  cases kind <;> cases conf <;> simp [produce, markHeap, seenOf]

def ctorFails (sh : Shape) (w : World) (ctors : Nat) : Bool := sh.ctorErr && w.ctorFault ctors
def factFails (sh : Shape) (w : World) (facts : Nat) : Bool := sh.factErr && w.factFault facts

theorem pluginCtor_eq (sh : Shape) (w : World) (conf : Option Nat) (st : St) :
    pluginCtor sh w conf st =
      if ctorFails sh w st.ctors then
        ({ st with ctors := st.ctors + 1, log := .ctor st.ctors (shownConf sh conf) false :: st.log }, .error (.ctor st.ctors))
      else
        ({ st with ctors := st.ctors + 1, log := .ctor st.ctors (shownConf sh conf) true :: st.log,
                   heap := markHeap sh.cfg st.ctors conf st.heap },
         .ok ⟨st.ctors, if sh.cfg = .ptr then conf else none, seenOf sh.cfg conf [] st.heap⟩) := by
  unfold pluginCtor ctorFails
  split <;> simp [produce_eq]

theorem regFacCall_eq (sh : Shape) (w : World) (rf : RegFac) (st : St) :
    regFacCall sh w rf st =
      if factFails sh w st.facts then
        ({ st with facts := st.facts + 1, log := .fact st.facts false :: st.log }, .error (.fact st.facts))
      else
        ({ st with facts := st.facts + 1, log := .fact st.facts true :: st.log,
                   heap := markHeap sh.cfg st.facts rf.cell st.heap },
         .ok ⟨st.facts, if sh.cfg = .ptr then rf.cell else none, seenOf sh.cfg rf.cell rf.copy st.heap⟩) := by
  unfold regFacCall factFails
  split <;> simp [produce_eq]

/-- what the registered factory constructor captures -/
def capture (sh : Shape) (conf : Option Nat) (heap : Nat → Cfg) : RegFac :=
  match sh.cfg, conf with
  | .ptr, some c => ⟨some c, []⟩
  | .struct, some c => ⟨none, heap c⟩
  | _, _ => ⟨none, []⟩

theorem factoryCtor_eq (sh : Shape) (w : World) (conf : Option Nat) (st : St) :
    factoryCtor sh w conf st =
      if ctorFails sh w st.ctors then
        ({ st with ctors := st.ctors + 1, log := .ctor st.ctors (shownConf sh conf) false :: st.log }, .error (.ctor st.ctors))
      else
        ({ st with ctors := st.ctors + 1, log := .ctor st.ctors (shownConf sh conf) true :: st.log },
         .ok (capture sh conf st.heap)) := by
  unfold factoryCtor ctorFails capture
  split <;> rfl

theorem findSome?_cons_or {α β : Type} (f : α → Option β) (a : α) (l : List α) :
    (a :: l).findSome? f = (f a).or (l.findSome? f) := by
  cases h : f a <;> simp [List.findSome?_cons, h]

/-! ### one call, in explicit form -/

@[simp] theorem dfltEvs_reverse (sh : Shape) : (dfltEvs sh).reverse = dfltEvs sh := by
  unfold dfltEvs; split <;> rfl

@[simp] theorem fillEvs_reverse (sh : Shape) (w : World) (a b : Nat) : (fillEvs sh w a b).reverse = fillEvs sh w a b := by
  unfold fillEvs; split <;> rfl

def conv (pan : Bool) (e : Err) : Res := if pan then .panic e else .err e

def nextG (sh : Shape) (doGet : Bool) (next : Nat) : Nat :=
  if doGet = false ∨ sh.cfg = .none ∨ sh.dflt = .shared then next else next + 1

/-! One call is described by `callSpec`: it (optionally, `doGet`) gets a config, calls the registered constructor and,
for a factory constructor (`viaFactory`), calls the factory it returned once.  The description is given by components:
the invocations of user code, the first of them that fails, the heap, the frontier. -/

/-- `Get`'s invocations of user code -/
def getEvs (sh : Shape) (w : World) (doGet : Bool) (st : St) : List Ev :=
  if doGet then dfltEvs sh ++ fillEvs sh w st.fills st.next else []

def getCell (sh : Shape) (doGet : Bool) (st : St) : Option Nat := if doGet then cellOf sh st.next else none

def getFails (w : World) (doGet : Bool) (st : St) : Bool := doGet && fillFails w st.fills

/-- the heap after `Get` -/
def heapG (sh : Shape) (w : World) (doGet : Bool) (st : St) : Nat → Cfg :=
  if doGet then getHeap sh w st.heap st.fills st.next else st.heap

/-- what follows `Get` unless fillConf failed: the constructor, then — through a factory constructor that succeeded —
one call of the factory it returned -/
def ctorEvs (sh : Shape) (w : World) (doGet viaFactory : Bool) (st : St) : List Ev :=
  if getFails w doGet st then [] else
    .ctor st.ctors (shownConf sh (getCell sh doGet st)) (!ctorFails sh w st.ctors) ::
      (if viaFactory && !ctorFails sh w st.ctors then [.fact st.facts (!factFails sh w st.facts)] else [])

def callEvs (sh : Shape) (w : World) (doGet viaFactory : Bool) (st : St) : List Ev :=
  getEvs sh w doGet st ++ ctorEvs sh w doGet viaFactory st

/-- the failing invocation of a call, if there is one -/
def callErr (sh : Shape) (w : World) (doGet viaFactory : Bool) (st : St) : Option Err :=
  if getFails w doGet st then some (.fill st.fills)
  else if ctorFails sh w st.ctors then some (.ctor st.ctors)
  else if viaFactory && factFails sh w st.facts then some (.fact st.facts)
  else none

/-- invocation index of the function that builds the product -/
def serialOf (viaFactory : Bool) (st : St) : Nat := if viaFactory then st.facts else st.ctors

/-- final heap, final frontier, step.  A factory constructor captures what a component constructor would have been
built from (`capture_shown`, `seenOf_capture`, `markHeap_capture`), so the product has one form for both. -/
def callSpec (sh : Shape) (w : World) (doGet viaFactory pan : Bool) (st : St) : (Nat → Cfg) × Nat × Step :=
  match callErr sh w doGet viaFactory st with
  | some e => (heapG sh w doGet st, nextG sh doGet st.next, ⟨callEvs sh w doGet viaFactory st, conv pan e⟩)
  | none =>
    (markHeap sh.cfg (serialOf viaFactory st) (getCell sh doGet st) (heapG sh w doGet st), nextG sh doGet st.next,
      ⟨callEvs sh w doGet viaFactory st,
       .ok ⟨serialOf viaFactory st, shownConf sh (getCell sh doGet st),
            seenOf sh.cfg (getCell sh doGet st) [] (heapG sh w doGet st)⟩⟩)

theorem callSpec_next (sh : Shape) (w : World) (doGet vf pan : Bool) (st : St) :
    (callSpec sh w doGet vf pan st).2.1 = nextG sh doGet st.next := by
  unfold callSpec; split <;> rfl

theorem callSpec_evs (sh : Shape) (w : World) (doGet vf pan : Bool) (st : St) :
    (callSpec sh w doGet vf pan st).2.2.evs = callEvs sh w doGet vf st := by
  unfold callSpec; split <;> rfl

/-- a failed call: the error (as a panic iff `pan`), the heap as `Get` left it -/
theorem callSpec_fail {sh : Shape} {w : World} {doGet vf : Bool} {st : St} {e : Err} (pan : Bool)
    (h : callErr sh w doGet vf st = some e) :
    callSpec sh w doGet vf pan st =
      (heapG sh w doGet st, nextG sh doGet st.next, ⟨callEvs sh w doGet vf st, conv pan e⟩) := by
  simp only [callSpec, h]

theorem callSpec_ok {sh : Shape} {w : World} {doGet vf : Bool} {st : St} (pan : Bool)
    (h : callErr sh w doGet vf st = none) :
    callSpec sh w doGet vf pan st =
      (markHeap sh.cfg (serialOf vf st) (getCell sh doGet st) (heapG sh w doGet st), nextG sh doGet st.next,
        ⟨callEvs sh w doGet vf st,
         .ok ⟨serialOf vf st, shownConf sh (getCell sh doGet st),
              seenOf sh.cfg (getCell sh doGet st) [] (heapG sh w doGet st)⟩⟩) := by
  simp only [callSpec, h]

theorem capture_shown (sh : Shape) (cell : Option Nat) (heap : Nat → Cfg) :
    (if sh.cfg = .ptr then (capture sh cell heap).cell else none) = shownConf sh cell := by
  unfold capture shownConf; cases sh.cfg <;> cases cell <;> rfl

theorem seenOf_capture (sh : Shape) (cell : Option Nat) (heap : Nat → Cfg) :
    seenOf sh.cfg (capture sh cell heap).cell (capture sh cell heap).copy heap = seenOf sh.cfg cell [] heap := by
  unfold capture seenOf; cases sh.cfg <;> cases cell <;> rfl

theorem markHeap_capture (sh : Shape) (s : Nat) (cell : Option Nat) (heap heap' : Nat → Cfg) :
    markHeap sh.cfg s (capture sh cell heap).cell heap' = markHeap sh.cfg s cell heap' := by
  unfold capture markHeap; cases sh.cfg <;> cases cell <;> rfl

/-- state and step of an operation, as the triple `callSpec` speaks about -/
def tri (r : St × Step) : (Nat → Cfg) × Nat × Step := (r.1.heap, r.1.next, r.2)

theorem nextG_get (sh : Shape) (next : Nat) :
    (if sh.cfg = .none ∨ sh.dflt = .shared then next else next + 1) = nextG sh true next := by
  simp [nextG]

theorem step_regNew (sh : Shape) (w : World) (st : St) :
    tri (step (regNew sh w) st) = callSpec sh w true sh.factory false st := by
  obtain ⟨g1, g2, g3, g4, g5, g6, g7⟩ := dcGet_proj sh w { st with log := [] }
  simp only [nextG_get] at g6
  simp only [tri, step, regNew, g2, callSpec, callErr, callEvs, getEvs, ctorEvs, getCell, getFails, heapG, serialOf,
    if_true, Bool.true_and]
  by_cases hf : fillFails w st.fills = true
  · simp [hf, g1, g6, g7, conv]
  · simp only [hf, newPlugin]
    by_cases hcf : ctorFails sh w st.ctors = true <;> by_cases hfa : sh.factory = true
    · simp [hcf, hfa, factoryCtor_eq, g1, g4, g6, g7, conv, toRes]
    · simp [hcf, hfa, pluginCtor_eq, g1, g4, g6, g7, conv, toRes]
    · by_cases hff : factFails sh w st.facts = true
      · simp [hcf, hfa, hff, factoryCtor_eq, regFacCall_eq, g1, g4, g5, g6, g7, conv, toRes]
      · simp [hcf, hfa, hff, factoryCtor_eq, regFacCall_eq, g1, g4, g5, g6, g7, toRes, capture_shown, seenOf_capture,
          markHeap_capture]
    · simp [hcf, hfa, pluginCtor_eq, g1, g4, g6, g7, toRes, shownConf]

theorem ctorFails_err {sh : Shape} {w : World} {i : Nat} (h : ctorFails sh w i = true) : sh.ctorErr = true := by
  simp [ctorFails] at h; exact h.1

theorem factFails_err {sh : Shape} {w : World} {i : Nat} (h : factFails sh w i = true) : sh.factErr = true := by
  simp [factFails] at h; exact h.1

theorem step_wrapPlugin (sh : Shape) (w : World) (n : Nat) (hn : n = 1 ∨ n = 2) (st : St) (hc : sh.cfg ≠ .none) :
    tri (step (callFac sh w (.wrapPlugin n)) st) = callSpec sh w true false (n == 1) st := by
  obtain ⟨g1, g2, g3, g4, g5, g6, g7⟩ := dcGet_proj sh w { st with log := [] }
  simp only [nextG_get] at g6
  simp only [tri, step, callFac, hc, if_false, g2, callSpec, callErr, callEvs, getEvs, ctorEvs, getCell, getFails, heapG,
    serialOf, if_true, Bool.true_and]
  by_cases hf : fillFails w st.fills = true
  · rcases hn with rfl | rfl <;> simp [hf, g1, g6, g7, conv]
  · by_cases hcf : ctorFails sh w st.ctors = true
    · have := ctorFails_err hcf
      rcases hn with rfl | rfl <;>
        simp [hf, hcf, pluginCtor_eq, g1, g4, g6, g7, conv, convertOut, outLen, this]
    · simp [hf, hcf, pluginCtor_eq, g1, g4, g6, g7, convertOut, shownConf]

/-- a constructor without a config is called directly: no `Get` -/
theorem step_noGet (sh : Shape) (w : World) (n : Nat) (fac : Fac) (st : St)
    (hfac : fac = .direct ∧ outLen sh.ctorErr = n ∨ fac = .wrapPlugin n ∧ sh.cfg = .none ∧ (n = 1 ∨ n = 2)) :
    tri (step (callFac sh w fac) st) = callSpec sh w false false (n == 1) st := by
  simp only [callSpec, callErr, callEvs, getEvs, ctorEvs, getCell, getFails, heapG, serialOf]
  by_cases hcf : ctorFails sh w st.ctors = true
  · have := ctorFails_err hcf
    rcases hfac with ⟨rfl, rfl⟩ | ⟨rfl, hc, rfl | rfl⟩ <;>
      simp [tri, step, callFac, hcf, pluginCtor_eq, conv, toRes, convertOut, nextG, outLen, this, *]
  · rcases hfac with ⟨rfl, rfl⟩ | ⟨rfl, hc, _⟩ <;>
      simp [tri, step, callFac, hcf, pluginCtor_eq, toRes, convertOut, nextG, shownConf, *]

/-- explicit description of one call of a factory made from a factory constructor -/
def facSpec (sh : Shape) (w : World) (rf : RegFac) (pan : Bool) (st : St) : (Nat → Cfg) × Nat × Step :=
  if factFails sh w st.facts then (st.heap, st.next, ⟨[.fact st.facts false], conv pan (.fact st.facts)⟩)
  else
    (markHeap sh.cfg st.facts rf.cell st.heap, st.next,
      ⟨[.fact st.facts true],
       .ok ⟨st.facts, if sh.cfg = .ptr then rf.cell else none, seenOf sh.cfg rf.cell rf.copy st.heap⟩⟩)

theorem step_wrapFactory (sh : Shape) (w : World) (rf : RegFac) (n : Nat) (hn : n = 1 ∨ n = 2) (st : St) :
    tri (step (callFac sh w (.wrapFactory rf n)) st) = facSpec sh w rf (n == 1) st := by
  simp only [tri, step, callFac, facSpec]
  by_cases hff : factFails sh w st.facts = true
  · have := factFails_err hff
    rcases hn with rfl | rfl <;> simp [hff, regFacCall_eq, conv, convertOut, outLen, this]
  · simp [hff, regFacCall_eq, convertOut]

theorem step_directFactory (sh : Shape) (w : World) (rf : RegFac) (n : Nat) (hn : outLen sh.factErr = n) (st : St) :
    tri (step (callFac sh w (.directFactory rf)) st) = facSpec sh w rf (n == 1) st := by
  simp only [tri, step, callFac, facSpec]
  by_cases hff : factFails sh w st.facts = true
  · have := factFails_err hff
    subst hn
    simp [hff, regFacCall_eq, conv, toRes, outLen, this]
  · simp [hff, regFacCall_eq, toRes]

/-! ### what a call shows: the kinds of its invocations, the configuration identities, the failing invocation -/

theorem dfltEvs_kinds (sh : Shape) :
    (dfltEvs sh).map kindOf = (if sh.cfg = .none ∨ sh.dflt = .absent then [] else [K.d]) := by
  unfold dfltEvs; split <;> simp [kindOf]

theorem fillEvs_kinds (sh : Shape) (w : World) (a b : Nat) :
    (fillEvs sh w a b).map kindOf = (if w.hasFill then [K.f] else []) := by
  unfold fillEvs; split <;> simp [kindOf]

theorem callEvs_kinds (sh : Shape) (w : World) (doGet vf : Bool) (st : St) :
    (callEvs sh w doGet vf st).map kindOf =
      (if doGet then getKinds sh w else []) ++
        (if getFails w doGet st then [] else K.c :: (if vf && !ctorFails sh w st.ctors then [K.r] else [])) := by
  unfold callEvs getEvs ctorEvs getKinds
  cases doGet <;> cases getFails w _ st <;> cases (vf && !ctorFails sh w st.ctors) <;>
    simp [dfltEvs_kinds, fillEvs_kinds, kindOf]

/-- the Spec counts invocations kind by kind -/
theorem countP_kind (l : List Ev) :
    l.countP isDflt = (l.map kindOf).count .d ∧ l.countP isFill = (l.map kindOf).count .f ∧
    l.countP isCtor = (l.map kindOf).count .c ∧ l.countP isFact = (l.map kindOf).count .r := by
  induction l with
  | nil => simp
  | cons e l ih =>
    obtain ⟨i1, i2, i3, i4⟩ := ih
    cases e <;> simp [List.countP_cons, kindOf, isDflt, isFill, isCtor, isFact, i1, i2, i3, i4]

theorem callEvs_counts (sh : Shape) (w : World) (doGet vf : Bool) (st : St) :
    (callEvs sh w doGet vf st).countP isDflt = (if doGet = false ∨ sh.cfg = .none ∨ sh.dflt = .absent then 0 else 1) ∧
    (callEvs sh w doGet vf st).countP isFill = (if doGet && w.hasFill then 1 else 0) ∧
    (callEvs sh w doGet vf st).countP isCtor = (if getFails w doGet st then 0 else 1) ∧
    (callEvs sh w doGet vf st).countP isFact =
      (if getFails w doGet st then 0 else if vf && !ctorFails sh w st.ctors then 1 else 0) := by
  simp only [countP_kind, callEvs_kinds, getKinds]
  by_cases hd : sh.cfg = .none ∨ sh.dflt = .absent <;>
    cases doGet <;> cases w.hasFill <;> cases getFails w _ st <;> cases (vf && !ctorFails sh w st.ctors) <;> simp [hd]

@[simp] theorem fillAddr_dflt (sh : Shape) : List.findSome? fillAddrEv (dfltEvs sh) = none := by
  unfold dfltEvs; split <;> simp [fillAddrEv]

@[simp] theorem ctorConf_dflt (sh : Shape) : List.findSome? ctorConfEv (dfltEvs sh) = none := by
  unfold dfltEvs; split <;> simp [ctorConfEv]

theorem any_dfltEvs (sh : Shape) (p : Ev → Bool) (hp : p .dflt = false) : (dfltEvs sh).any p = false := by
  unfold dfltEvs; split <;> simp [hp]

section
variable {sh : Shape} {w : World} {doGet vf : Bool} {st : St} {s : Step} (h : s.evs = callEvs sh w doGet vf st)
include h

theorem callEvs_fillFailed : fillFailed s = getFails w doGet st := by
  unfold fillFailed; rw [h]
  unfold callEvs getEvs ctorEvs getFails fillFails fillEvs
  cases doGet <;> cases w.hasFill <;> cases w.fillFault st.fills <;> cases (vf && !ctorFails sh w st.ctors) <;>
    simp [any_dfltEvs]

theorem callEvs_ctorFailed : ctorFailed s = (!getFails w doGet st && ctorFails sh w st.ctors) := by
  unfold ctorFailed; rw [h]
  unfold callEvs getEvs ctorEvs getFails fillFails fillEvs
  cases doGet <;> cases w.hasFill <;> cases w.fillFault st.fills <;> cases (vf && !ctorFails sh w st.ctors) <;>
    simp [any_dfltEvs]

theorem callEvs_fillAddr : fillAddr? s = if doGet && w.hasFill then cellOf sh st.next else none := by
  unfold fillAddr?; rw [h]
  unfold callEvs getEvs ctorEvs fillEvs
  cases doGet <;> cases w.hasFill <;> cases getFails w _ st <;> cases (vf && !ctorFails sh w st.ctors) <;>
    simp [findSome?_cons_or, fillAddrEv]

theorem callEvs_ctorConf : ctorConf? s = if getFails w doGet st then none else shownConf sh (getCell sh doGet st) := by
  unfold ctorConf?; rw [h]
  unfold callEvs getEvs ctorEvs fillEvs
  cases doGet <;> cases w.hasFill <;> cases getFails w _ st <;> cases (vf && !ctorFails sh w st.ctors) <;>
    simp [findSome?_cons_or, ctorConfEv]

end

theorem filterMap_dfltEvs (sh : Shape) : (dfltEvs sh).filterMap evFail = [] := by
  unfold dfltEvs; split <;> simp [evFail]

/-- the only failing invocation of a call is the one `callErr` names … -/
theorem callEvs_fails (sh : Shape) (w : World) (doGet vf : Bool) (st : St) :
    (callEvs sh w doGet vf st).filterMap evFail = (callErr sh w doGet vf st).toList := by
  unfold callEvs getEvs ctorEvs callErr getFails fillFails fillEvs
  cases doGet <;> cases w.hasFill <;> cases w.fillFault st.fills <;> cases ctorFails sh w st.ctors <;> cases vf <;>
    cases factFails sh w st.facts <;> simp [filterMap_dfltEvs, evFail]

/-- … and it is the last one -/
theorem callEvs_last {sh : Shape} {w : World} {doGet vf : Bool} {st : St} {e : Err}
    (h : callErr sh w doGet vf st = some e) : (callEvs sh w doGet vf st).getLast?.bind evFail = some e := by
  revert h
  unfold callEvs getEvs ctorEvs callErr getFails fillFails fillEvs
  cases doGet <;> cases w.hasFill <;> cases w.fillFault st.fills <;> cases ctorFails sh w st.ctors <;> cases vf <;>
    cases factFails sh w st.facts <;> simp [List.getLast?_append, evFail]

theorem callErr_none {sh : Shape} {w : World} {doGet vf : Bool} {st : St} (h : callErr sh w doGet vf st = none) :
    getFails w doGet st = false ∧ ctorFails sh w st.ctors = false := by
  unfold callErr at h
  cases hg : getFails w doGet st <;> cases hc : ctorFails sh w st.ctors <;> simp [hg, hc] at h ⊢

/-! ### C18_errors, per step -/

/-- the error clause of a step whose failing invocations are exactly `err`, the last one -/
theorem stepErrOk_intro (pan : Bool) (evs : List Ev) (res : Res) (err : Option Err)
    (h1 : evs.filterMap evFail = err.toList)
    (h2 : ∀ e, err = some e → evs.getLast?.bind evFail = some e ∧ res = conv pan e)
    (h3 : err = none → res = .made ∨ ∃ p, res = .ok p) : stepErrOk pan ⟨evs, res⟩ = true := by
  unfold stepErrOk
  cases err with
  | none => rcases h3 rfl with h | ⟨p, h⟩ <;> simp [h1, h]
  | some e => obtain ⟨a, b⟩ := h2 e rfl; cases pan <;> simp [h1, a, b, conv]

@[simp] theorem conv_ne_ok (pan : Bool) (e : Err) (p : Product) : (conv pan e = .ok p) = False := by
  cases pan <;> simp [conv]

theorem isMade_conv (evs : List Ev) (pan : Bool) (e : Err) : isMade ⟨evs, conv pan e⟩ = false := by
  cases pan <;> simp [isMade, conv]

theorem callSpec_err (sh : Shape) (w : World) (doGet vf pan : Bool) (st : St) :
    stepErrOk pan (callSpec sh w doGet vf pan st).2.2 = true ∧ isMade (callSpec sh w doGet vf pan st).2.2 = false := by
  cases he : callErr sh w doGet vf st with
  | some e =>
    rw [callSpec_fail pan he]
    exact ⟨stepErrOk_intro pan _ _ (some e) (by rw [callEvs_fails, he])
      (fun e' h => by cases h; exact ⟨callEvs_last he, rfl⟩) (by simp), isMade_conv _ _ _⟩
  | none =>
    rw [callSpec_ok pan he]
    exact ⟨stepErrOk_intro pan _ _ none (by rw [callEvs_fails, he]) (by simp) (fun _ => .inr ⟨_, rfl⟩), by simp [isMade]⟩

theorem facSpec_err (sh : Shape) (w : World) (rf : RegFac) (pan : Bool) (st : St) :
    stepErrOk pan (facSpec sh w rf pan st).2.2 = true ∧ isMade (facSpec sh w rf pan st).2.2 = false := by
  unfold facSpec
  by_cases hff : factFails sh w st.facts = true
  · simp only [hff, if_true]
    exact ⟨stepErrOk_intro pan _ _ (some (.fact st.facts)) (by simp [evFail]) (by simp [evFail]) (by simp),
      isMade_conv _ _ _⟩
  · simp only [hff]
    exact ⟨stepErrOk_intro pan _ _ none (by simp [evFail]) (by simp) (fun _ => .inr ⟨_, rfl⟩), by simp [isMade]⟩

/-! ### creation of a factory, in explicit form -/

/-- for a factory constructor, creation is the `Get` + constructor part of a call: same invocations, same failure;
what the constructor captured goes into the factory handed out -/
def createSpec (sh : Shape) (w : World) (n : Nat) (st : St) : (Nat → Cfg) × Nat × List Ev × Except Err Fac :=
  if !sh.factory then
    if sh.cfg = .none then
      (st.heap, st.next, fillEvs sh w st.fills st.next,
        if fillFails w st.fills then .error (.fill st.fills)
        else .ok (if sh.iface && (outLen sh.ctorErr == n) then .direct else .wrapPlugin n))
    else (st.heap, st.next, [], .ok (.wrapPlugin n))
  else
    (heapG sh w true st, nextG sh true st.next, callEvs sh w true false st,
      match callErr sh w true false st with
      | some e => .error e
      | none =>
        .ok (if sh.iface && (outLen sh.factErr == n) then .directFactory (capture sh (cellOf sh st.next) (heapG sh w true st))
             else .wrapFactory (capture sh (cellOf sh st.next) (heapG sh w true st)) n))

def quad (r : St × Except Err Fac) : (Nat → Cfg) × Nat × List Ev × Except Err Fac :=
  (r.1.heap, r.1.next, r.1.log.reverse, r.2)

theorem dfltEvs_none {sh : Shape} (h : sh.cfg = .none) : dfltEvs sh = [] := by simp [dfltEvs, h]
theorem cellOf_none {sh : Shape} (h : sh.cfg = .none) (n : Nat) : cellOf sh n = none := by simp [cellOf, h]
theorem getHeap_none {sh : Shape} (h : sh.cfg = .none) (w : World) (heap : Nat → Cfg) (a b : Nat) :
    getHeap sh w heap a b = heap := by simp [getHeap, cellOf, h]

theorem create_eq (sh : Shape) (w : World) (n : Nat) (st : St) (hl : st.log = []) :
    quad (regNewFactory sh w n st) = createSpec sh w n st := by
  obtain ⟨g1, g2, g3, g4, g5, g6, g7⟩ := dcGet_proj sh w st
  simp only [nextG_get] at g6
  rw [hl] at g1
  by_cases hfa : sh.factory = true
  · -- factory constructor
    simp only [createSpec, hfa, Bool.not_true, Bool.false_eq_true, if_false, callErr, callEvs, getEvs, ctorEvs, getCell,
      getFails, heapG, if_true, Bool.true_and]
    by_cases hc : sh.cfg = .none
    · simp only [quad, regNewFactory, hc, if_true, g2]
      by_cases hf : fillFails w st.fills = true
      · simp [hf, g1, g6, g7, hc]
      · simp only [hf, ctorNewFactory, hfa, Bool.not_true]
        by_cases hcf : ctorFails sh w st.ctors = true
        · simp [hcf, factoryCtor_eq, g1, g4, g6, g7, hc, cellOf_none hc]
        · by_cases hty : (sh.iface && (outLen sh.factErr == n)) = true
          · simp [hcf, hty, factoryCtor_eq, g1, g4, g6, g7, hc, cellOf_none hc]
          · simp [hcf, hty, factoryCtor_eq, g1, g4, g6, g7, hc, cellOf_none hc]
    · simp only [quad, regNewFactory, hc, if_false, ctorNewFactory, hfa, Bool.not_true, if_true, g2]
      by_cases hf : fillFails w st.fills = true
      · simp [hf, g1, g6, g7]
      · by_cases hcf : ctorFails sh w st.ctors = true
        · simp [hf, hcf, factoryCtor_eq, g1, g4, g6, g7]
        · by_cases hty : (sh.iface && (outLen sh.factErr == n)) = true
          · simp [hf, hcf, hty, factoryCtor_eq, g1, g4, g6, g7]
          · simp [hf, hcf, hty, factoryCtor_eq, g1, g4, g6, g7]
  · -- component constructor
    by_cases hc : sh.cfg = .none
    · simp only [quad, regNewFactory, hc, if_true, g2, createSpec, hfa]
      by_cases hf : fillFails w st.fills = true
      · simp [hf, g1, g6, g7, hc, dfltEvs_none hc, getHeap_none hc, nextG]
      · by_cases hty : (sh.iface && (outLen sh.ctorErr == n)) = true
        · simp [hf, hty, ctorNewFactory, hfa, g1, g6, g7, hc, dfltEvs_none hc, getHeap_none hc, nextG]
        · simp [hf, hty, ctorNewFactory, hfa, g1, g6, g7, hc, dfltEvs_none hc, getHeap_none hc, nextG]
    · simp [quad, regNewFactory, hc, ctorNewFactory, hfa, createSpec, hl]

/-- a factory from a component constructor with a config: nothing happens at creation -/
theorem createSpec_plain {sh : Shape} (w : World) (n : Nat) (st : St) (hfa : sh.factory = false) (hc : sh.cfg ≠ .none) :
    createSpec sh w n st = (st.heap, st.next, [], .ok (.wrapPlugin n)) := by
  simp [createSpec, hfa, hc]

/-- heap and frontier after a creation: only a factory constructor gets a config -/
theorem createSpec_heap (sh : Shape) (w : World) (n : Nat) (st : St) :
    (createSpec sh w n st).1 = if sh.factory then heapG sh w true st else st.heap := by
  unfold createSpec
  cases sh.factory
  · simp only [Bool.not_false, if_true]; split <;> rfl
  · rfl

theorem createSpec_next (sh : Shape) (w : World) (n : Nat) (st : St) :
    (createSpec sh w n st).2.1 = if sh.factory then nextG sh true st.next else st.next := by
  unfold createSpec
  cases sh.factory
  · simp only [Bool.not_false, if_true]; split <;> rfl
  · rfl

/-! ### what `NewFactory` can hand out -/

def FacOk (sh : Shape) (n : Nat) : Fac → Prop
  | .direct => sh.factory = false ∧ sh.cfg = .none ∧ outLen sh.ctorErr = n
  | .wrapPlugin m => sh.factory = false ∧ m = n
  | .directFactory _ => sh.factory = true ∧ outLen sh.factErr = n
  | .wrapFactory _ m => sh.factory = true ∧ m = n

theorem createSpec_facOk (sh : Shape) (w : World) (n : Nat) (st : St) (fac : Fac)
    (h : (createSpec sh w n st).2.2.2 = .ok fac) : FacOk sh n fac := by
  unfold createSpec at h
  by_cases hfa : sh.factory = true
  · simp only [hfa, Bool.not_true, Bool.false_eq_true, if_false] at h
    cases he : callErr sh w true false st with
    | some e => simp [he] at h
    | none =>
      simp only [he, Except.ok.injEq] at h
      subst h
      split
      · rename_i hty; simp only [Bool.and_eq_true, beq_iff_eq] at hty; exact ⟨hfa, hty.2⟩
      · exact ⟨hfa, rfl⟩
  · simp only [Bool.not_eq_true] at hfa
    simp only [hfa, Bool.not_false, if_true] at h
    by_cases hc : sh.cfg = .none
    · simp only [hc, if_true] at h
      split at h
      · simp at h
      · simp only [Except.ok.injEq] at h
        subst h
        split
        · rename_i hty; simp only [Bool.and_eq_true, beq_iff_eq] at hty; exact ⟨hfa, hc, hty.2⟩
        · exact ⟨hfa, rfl⟩
    · simp only [hc, if_false, Except.ok.injEq] at h
      subst h
      exact ⟨hfa, rfl⟩

theorem tri_step {r : St × Step} {x : (Nat → Cfg) × Nat × Step} (h : tri r = x) :
    r.1.heap = x.1 ∧ r.1.next = x.2.1 ∧ r.2 = x.2.2 := by
  subst h; exact ⟨rfl, rfl, rfl⟩

/-- every call of a factory handed out is a `callSpec` or a `facSpec` -/
theorem callFac_cases (sh : Shape) (w : World) (n : Nat) (hn : n = 1 ∨ n = 2) (fac : Fac) (hok : FacOk sh n fac) :
    (sh.factory = false ∧ ∃ doGet, (doGet = true ↔ sh.cfg ≠ .none) ∧
        ∀ st, tri (step (callFac sh w fac) st) = callSpec sh w doGet false (n == 1) st) ∨
    (sh.factory = true ∧ ∃ rf, (fac = .directFactory rf ∨ fac = .wrapFactory rf n) ∧
        ∀ st, tri (step (callFac sh w fac) st) = facSpec sh w rf (n == 1) st) := by
  cases fac with
  | direct =>
    obtain ⟨h1, h2, h3⟩ := hok
    exact .inl ⟨h1, false, by simp [h2], fun st => step_noGet sh w n _ st (.inl ⟨rfl, h3⟩)⟩
  | wrapPlugin m =>
    obtain ⟨h1, rfl⟩ := hok
    by_cases hc : sh.cfg = .none
    · exact .inl ⟨h1, false, by simp [hc], fun st => step_noGet sh w m _ st (.inr ⟨rfl, hc, hn⟩)⟩
    · exact .inl ⟨h1, true, by simp [hc], fun st => step_wrapPlugin sh w m hn st hc⟩
  | directFactory rf =>
    obtain ⟨h1, h2⟩ := hok
    exact .inr ⟨h1, rf, .inl rfl, step_directFactory sh w rf n h2⟩
  | wrapFactory rf m =>
    obtain ⟨h1, rfl⟩ := hok
    exact .inr ⟨h1, rf, .inr rfl, step_wrapFactory sh w rf m hn⟩

/-! ### the creation step -/

/-- the result of a creation step -/
def resOf : Except Err Fac → Res
  | .error e => .err e
  | .ok _ => .made

/-- an error is the error result (never a panic), nothing failing otherwise -/
theorem createSpec_err (sh : Shape) (w : World) (n : Nat) (st : St) :
    stepErrOk false ⟨(createSpec sh w n st).2.2.1, resOf (createSpec sh w n st).2.2.2⟩ = true := by
  unfold createSpec
  by_cases hfa : sh.factory = true
  · simp only [hfa, Bool.not_true, Bool.false_eq_true, if_false]
    cases he : callErr sh w true false st with
    | some e =>
      exact stepErrOk_intro false _ _ (some e) (by rw [callEvs_fails, he])
        (fun e' h => by cases h; exact ⟨callEvs_last he, rfl⟩) (by simp)
    | none => exact stepErrOk_intro false _ _ none (by rw [callEvs_fails, he]) (by simp) (fun _ => .inl rfl)
  · by_cases hc : sh.cfg = .none
    · cases h1 : w.hasFill <;> cases h2 : w.fillFault st.fills <;>
        simp [hfa, hc, stepErrOk, fillEvs, fillFails, evFail, resOf, h1, h2]
    · simp [hfa, hc, stepErrOk, resOf]

theorem initSt_log (sh : Shape) (w : World) : (initSt sh w).log = [] := by
  unfold initSt; split <;> rfl

theorem quad_proj {r : St × Except Err Fac} {x : (Nat → Cfg) × Nat × List Ev × Except Err Fac} (h : quad r = x) :
    r.1.heap = x.1 ∧ r.1.next = x.2.1 ∧ r.1.log.reverse = x.2.2.1 ∧ r.2 = x.2.2.2 := by
  subst h; exact ⟨rfl, rfl, rfl, rfl⟩

/-! ### C18_config -/

/-- two configurations agree on every field but `Mark` -/
def Agree (c e : Cfg) : Prop := ∀ f, f ≠ markField → c.get f = e.get f

/-- what a product must have been built from -/
def SeenOk (sh : Shape) (w : World) (seen : Cfg) : Prop :=
  (sh.cfg = .none → seen = []) ∧ (sh.cfg ≠ .none → Agree seen (expected sh w))

/-- invariant of the one config object owned by a `shared` default-config function -/
def SharedOk (sh : Shape) (w : World) (heap : Nat → Cfg) : Prop :=
  sh.dflt = .shared → ∀ f, f ≠ markField →
    (heap 0).get f = w.dflt.get f ∨ (w.hasFill = true ∧ (heap 0).get f = (w.user ++ w.dflt).get f)

theorem agree_mark {c e : Cfg} (s : Int) (h : Agree c e) : Agree ((markField, s) :: c) e := by
  intro f hf; rw [get_cons_ne hf]; exact h f hf

theorem initSt_shared (sh : Shape) (w : World) : SharedOk sh w (initSt sh w).heap := by
  intro hs f _
  simp [initSt, hs]

theorem markHeap_shared (sh : Shape) (w : World) (kind : CfgKind) (s : Nat) (conf : Option Nat) (heap : Nat → Cfg)
    (h : SharedOk sh w heap) : SharedOk sh w (markHeap kind s conf heap) := by
  intro hs f hf
  have := h hs f hf
  unfold markHeap
  split
  · rename_i c
    by_cases hc : c = 0
    · subst hc; simp only [upd_same]; rw [get_cons_ne hf]; exact this
    · rw [upd_ne _ _ (Ne.symm hc)]; exact this
  · exact this

theorem getHeap_cell (sh : Shape) (w : World) (heap : Nat → Cfg) (a b c : Nat) (hc : cellOf sh b = some c) :
    getHeap sh w heap a b c = (if w.hasFill && !w.fillFault a then w.user else []) ++ baseCfg sh w heap := by
  simp [getHeap, hc]

theorem cellOf_shared {sh : Shape} {b c : Nat} (hs : sh.dflt = .shared) (hc : cellOf sh b = some c) : c = 0 := by
  unfold cellOf at hc
  split at hc
  · simp at hc
  · simp [hs] at hc; exact hc.symm

/-- filling a shared default configuration again with the same settings gives the same fields -/
theorem refill {w : World} {c : Cfg} {f : Nat}
    (hb : c.get f = w.dflt.get f ∨ (w.hasFill = true ∧ c.get f = (w.user ++ w.dflt).get f)) :
    (w.user ++ c).get f = (w.user ++ w.dflt).get f := by
  rw [get_append, get_append]
  cases hl : List.lookup f w.user with
  | some v => rfl
  | none =>
    rcases hb with hb | hb
    · exact hb
    · rw [hb.2, get_append, hl]

theorem getHeap_agree (sh : Shape) (w : World) (heap : Nat → Cfg) (a b c : Nat) (hB : SharedOk sh w heap)
    (hf : fillFails w a = false) (hc : cellOf sh b = some c) :
    Agree (getHeap sh w heap a b c) (expected sh w) := by
  rw [getHeap_cell sh w heap a b c hc]
  have hfill : (w.hasFill && !w.fillFault a) = w.hasFill := by
    unfold fillFails at hf
    cases h1 : w.hasFill <;> simp_all
  rw [hfill]
  intro f hfm
  cases hd : sh.dflt with
  | absent => simp [baseCfg, expected, defaults, hd]
  | nilPtr => simp [baseCfg, expected, defaults, hd]
  | fresh => simp [baseCfg, expected, defaults, hd]
  | shared =>
    have hb := hB hd f hfm
    simp only [baseCfg, expected, defaults, hd]
    cases h1 : w.hasFill with
    | false =>
      simp only [h1, Bool.false_eq_true, if_false, List.nil_append] at hb ⊢
      rcases hb with hb | hb
      · exact hb
      · exact absurd hb.1 (by simp)
    | true => exact refill hb

theorem getHeap_shared (sh : Shape) (w : World) (heap : Nat → Cfg) (a b : Nat) (hB : SharedOk sh w heap) :
    SharedOk sh w (getHeap sh w heap a b) := by
  intro hs f hfm
  cases hc : cellOf sh b with
  | none => simp only [getHeap, hc]; exact hB hs f hfm
  | some c =>
    have h0 := cellOf_shared hs hc
    subst h0
    rw [getHeap_cell sh w heap a b 0 hc]
    have hb := hB hs f hfm
    simp only [baseCfg, hs]
    by_cases hfl : (w.hasFill && !w.fillFault a) = true
    · simp only [hfl, if_true]
      have h1 : w.hasFill = true := by simp at hfl; exact hfl.1
      exact .inr ⟨h1, refill hb⟩
    · simp only [hfl, Bool.false_eq_true, if_false, List.nil_append]
      exact hb

theorem seenOk_nil (sh : Shape) (w : World) (hc : sh.cfg = .none) : SeenOk sh w [] :=
  ⟨fun _ => rfl, fun h => absurd hc h⟩

theorem heapG_shared (sh : Shape) (w : World) (doGet : Bool) (st : St) (hB : SharedOk sh w st.heap) :
    SharedOk sh w (heapG sh w doGet st) := by
  unfold heapG; cases doGet
  · exact hB
  · exact getHeap_shared sh w _ _ _ hB

/-- the config the constructor is called with, after a `Get` in which fillConf did not fail -/
theorem get_seen (sh : Shape) (w : World) (doGet : Bool) (st : St) (hd : doGet = true ∨ sh.cfg = .none)
    (hB : SharedOk sh w st.heap) (hf : getFails w doGet st = false) :
    SeenOk sh w (seenOf sh.cfg (getCell sh doGet st) [] (heapG sh w doGet st)) := by
  by_cases hc : sh.cfg = .none
  · have : seenOf sh.cfg (getCell sh doGet st) [] (heapG sh w doGet st) = [] := by simp [seenOf, hc]
    rw [this]; exact seenOk_nil sh w hc
  · have hdg : doGet = true := by rcases hd with h | h; exact h; exact absurd h hc
    subst hdg
    obtain ⟨c, hcell⟩ : ∃ c, cellOf sh st.next = some c := by simp [cellOf, hc]
    have ha := getHeap_agree sh w st.heap st.fills st.next c hB (by simpa [getFails] using hf) hcell
    refine ⟨fun h => absurd h hc, fun _ => ?_⟩
    simp only [getCell, heapG, ↓reduceIte, hcell]
    cases hk : sh.cfg with
    | none => exact absurd hk hc
    | struct => simpa [seenOf] using ha
    | ptr => simpa [seenOf] using ha

theorem callSpec_config (sh : Shape) (w : World) (doGet vf pan : Bool) (st : St)
    (hd : doGet = true ∨ sh.cfg = .none) (hB : SharedOk sh w st.heap) :
    SharedOk sh w (callSpec sh w doGet vf pan st).1 ∧
    ∀ p, (callSpec sh w doGet vf pan st).2.2.res = .ok p → SeenOk sh w p.seen := by
  have hBG := heapG_shared sh w doGet st hB
  cases he : callErr sh w doGet vf st with
  | some e => rw [callSpec_fail pan he]; exact ⟨hBG, by simp⟩
  | none =>
    rw [callSpec_ok pan he]
    refine ⟨markHeap_shared sh w _ _ _ _ hBG, fun p hp => ?_⟩
    simp only [Res.ok.injEq] at hp
    subst hp
    exact get_seen sh w doGet st hd hB (callErr_none he).1

theorem createSpec_rf {sh : Shape} {w : World} {n : Nat} {st : St} {rf : RegFac}
    (h : (createSpec sh w n st).2.2.2 = .ok (.directFactory rf) ∨ (createSpec sh w n st).2.2.2 = .ok (.wrapFactory rf n)) :
    sh.factory = true ∧ callErr sh w true false st = none ∧ rf = capture sh (cellOf sh st.next) (heapG sh w true st) := by
  unfold createSpec at h
  by_cases hfa : sh.factory = true
  · simp only [hfa, Bool.not_true, Bool.false_eq_true, if_false] at h
    cases he : callErr sh w true false st with
    | some e => simp [he] at h
    | none =>
      refine ⟨hfa, rfl, ?_⟩
      simp only [he] at h
      split at h <;> rcases h with h | h <;> simp at h
      · exact h.symm
      · exact h.symm
  · simp only [Bool.not_eq_true] at hfa
    by_cases hc : sh.cfg = .none
    · by_cases hf : fillFails w st.fills = true
      · simp [hfa, hc, hf] at h
      · by_cases hty : (sh.iface && (outLen sh.ctorErr == n)) = true <;> simp [hfa, hc, hf, hty] at h
    · simp [hfa, hc] at h

theorem createSpec_config (sh : Shape) (w : World) (n : Nat) (st : St) (hB : SharedOk sh w st.heap) :
    (sh.factory = false → SharedOk sh w (createSpec sh w n st).1) ∧
    ∀ rf, ((createSpec sh w n st).2.2.2 = .ok (.directFactory rf) ∨ (createSpec sh w n st).2.2.2 = .ok (.wrapFactory rf n)) →
      SeenOk sh w (seenOf sh.cfg rf.cell rf.copy (createSpec sh w n st).1) := by
  rw [createSpec_heap]
  refine ⟨fun hfa => by rw [hfa]; exact hB, fun rf hrf => ?_⟩
  obtain ⟨hfa, he, rfl⟩ := createSpec_rf hrf
  rw [hfa, if_pos rfl, seenOf_capture]
  exact get_seen sh w true st (.inl rfl) hB (callErr_none he).1

theorem facSpec_config (sh : Shape) (w : World) (rf : RegFac) (pan : Bool) (st : St)
    (hI : SeenOk sh w (seenOf sh.cfg rf.cell rf.copy st.heap)) :
    SeenOk sh w (seenOf sh.cfg rf.cell rf.copy (facSpec sh w rf pan st).1) ∧
    ∀ p, (facSpec sh w rf pan st).2.2.res = .ok p → SeenOk sh w p.seen := by
  unfold facSpec
  by_cases hff : factFails sh w st.facts = true
  · simp only [hff, if_true]
    exact ⟨hI, by cases pan <;> simp [conv]⟩
  · simp only [hff, Bool.false_eq_true, if_false]
    refine ⟨?_, ?_⟩
    · cases hk : sh.cfg with
      | none => simpa [seenOf, markHeap, hk] using hI
      | struct => simpa [seenOf, markHeap, hk] using hI
      | ptr =>
        cases hcell : rf.cell with
        | none => simpa [seenOf, markHeap, hk, hcell] using hI
        | some c =>
          simp only [seenOf, markHeap, upd_same]
          simp only [seenOf, hk, hcell] at hI
          refine ⟨fun h => by simp [hk] at h, fun _ => agree_mark _ (hI.2 (by simp [hk]))⟩
    · intro p hp
      simp only [Res.ok.injEq] at hp
      subst hp
      exact hI

theorem config_component (sh : Shape) (w : World) (k : Nat) :
    ∀ s ∈ (iter (step (regNew sh w)) k (initSt sh w)).2, ∀ p, s.res = .ok p → SeenOk sh w p.seen := by
  have := iter_inv (step (regNew sh w)) (fun st => SharedOk sh w st.heap)
    (fun s => ∀ p, s.res = .ok p → SeenOk sh w p.seen)
    (fun st hI => by
      obtain ⟨t1, _, t3⟩ := tri_step (step_regNew sh w st)
      rw [t1, t3]
      exact callSpec_config sh w true sh.factory false st (.inl rfl) hI) k (initSt sh w) (initSt_shared sh w)
  exact this.2

/-! ### C18_once -/

theorem createSpec_evs {sh : Shape} (w : World) (n : Nat) (st : St) (hfa : sh.factory = true) :
    (createSpec sh w n st).2.2.1 = callEvs sh w true false st := by
  simp [createSpec, hfa]

theorem createSpec_once (sh : Shape) (w : World) (n : Nat) (st : St) (hfa : sh.factory = true) (r : Res) :
    onceCreateOk sh w ⟨(createSpec sh w n st).2.2.1, r⟩ = true := by
  have hev : (⟨(createSpec sh w n st).2.2.1, r⟩ : Step).evs = callEvs sh w true false st := createSpec_evs w n st hfa
  obtain ⟨c1, c2, c3, c4⟩ := callEvs_counts sh w true false st
  unfold onceCreateOk
  rw [callEvs_fillFailed hev, hev, c1, c2, c3, c4]
  by_cases hd : sh.cfg = .none ∨ sh.dflt = .absent <;> simp [hd]

theorem facSpec_once (sh : Shape) (w : World) (rf : RegFac) (pan : Bool) (st : St) :
    onceCallOk (facSpec sh w rf pan st).2.2 = true := by
  unfold facSpec
  by_cases hff : factFails sh w st.facts = true <;> simp [hff, onceCallOk, isFact, List.countP_cons]

/-! ### C18_fresh -/

theorem get_cons_self (k : Nat) (v : Int) (c : Cfg) : Cfg.get ((k, v) :: c) k = v := by
  simp [Cfg.get, List.lookup]

theorem nextG_fresh {sh : Shape} (hc : sh.cfg ≠ .none) (hs : sh.dflt ≠ .shared) (n : Nat) : nextG sh true n = n + 1 := by
  simp [nextG, hc, hs]

theorem upd_lt (h : Nat → Cfg) {c i : Nat} (v : Cfg) (hlt : i < c) : upd h c v i = h i :=
  upd_ne h v (Nat.ne_of_lt hlt)

@[simp] theorem product?_conv (evs : List Ev) (pan : Bool) (e : Err) : product? ⟨evs, conv pan e⟩ = none := by
  cases pan <;> simp [conv, product?]

@[simp] theorem product?_ok (evs : List Ev) (p : Product) : product? ⟨evs, .ok p⟩ = some p := rfl

theorem product?_some {s : Step} {p : Product} (h : product? s = some p) : s.res = .ok p := by
  unfold product? at h
  split at h
  · cases h; assumption
  · cases h

/-- the configuration a product holds: the one the constructor was called with -/
theorem callSpec_prodCell (sh : Shape) (w : World) (doGet vf pan : Bool) (st : St) :
    prodCell? (callSpec sh w doGet vf pan st).2.2 =
      if (callErr sh w doGet vf st).isNone then shownConf sh (getCell sh doGet st) else none := by
  cases he : callErr sh w doGet vf st with
  | some e => simp [callSpec_fail pan he, prodCell?]
  | none => simp [callSpec_ok pan he, prodCell?]

/-- one call that gets a config has the per-call structure the Spec asks for, clause by clause -/
theorem callSpec_freshCall_any (sh : Shape) (w : World) (vf pan : Bool) (st : St)
    (hc : sh.cfg ≠ .none) (hvf : vf = sh.factory) :
    freshCallOk sh w (callSpec sh w true vf pan st).2.2 = true := by
  have hev := callSpec_evs sh w true vf pan st
  obtain ⟨c1, c2, c3, c4⟩ := callEvs_counts sh w true vf st
  obtain ⟨c, hcell⟩ : ∃ c, cellOf sh st.next = some c := by simp [cellOf, hc]
  unfold freshCallOk
  rw [callEvs_fillFailed hev, callEvs_ctorFailed hev, callEvs_fillAddr hev, callEvs_ctorConf hev, callSpec_prodCell,
    hev, c1, c2, c3, c4]
  subst hvf
  simp only [getCell, ↓reduceIte, hcell, Bool.and_eq_true]
  refine ⟨⟨⟨⟨⟨⟨?_, ?_⟩, ?_⟩, ?_⟩, ?_⟩, ?_⟩, ?_⟩
  · simp [hc]
  · simp
  · cases w.hasFill <;> simp
  · simp
  · cases getFails w true st <;> simp
  · unfold shownConf
    by_cases hp : sh.cfg = .ptr <;> cases getFails w true st <;> cases w.hasFill <;> simp [hp]
  · cases he : callErr sh w true sh.factory st with
    | some e => simp [callSpec_fail pan he]
    | none => simp [(callErr_none he).1]

/-! ### configuration identities and the heap -/

theorem shownConf_some {sh : Shape} {cell : Option Nat} {c : Nat} (h : shownConf sh cell = some c) :
    sh.cfg = .ptr ∧ cell = some c := by
  unfold shownConf at h
  split at h
  · exact ⟨by assumption, h⟩
  · simp at h

/-- every configuration identity a call shows is the one `Get` worked on -/
theorem callSpec_cells (sh : Shape) (w : World) (doGet vf pan : Bool) (st : St) (c : Nat)
    (h : fillAddr? (callSpec sh w doGet vf pan st).2.2 = some c ∨ ctorConf? (callSpec sh w doGet vf pan st).2.2 = some c ∨
      prodCell? (callSpec sh w doGet vf pan st).2.2 = some c) : getCell sh doGet st = some c := by
  have hev := callSpec_evs sh w doGet vf pan st
  rw [callEvs_fillAddr hev, callEvs_ctorConf hev, callSpec_prodCell] at h
  rcases h with h | h | h <;> split at h
  · cases doGet <;> simp_all [getCell]
  · simp at h
  · simp at h
  · exact (shownConf_some h).2
  · exact (shownConf_some h).2
  · simp at h

theorem cellOf_eq {sh : Shape} (hs : sh.dflt ≠ .shared) {n c : Nat} (h : cellOf sh n = some c) : c = n := by
  unfold cellOf at h
  split at h
  · simp at h
  · simpa [hs] using h.symm

theorem getCell_eq {sh : Shape} (hs : sh.dflt ≠ .shared) {doGet : Bool} {st : St} {c : Nat}
    (h : getCell sh doGet st = some c) : c = st.next := by
  unfold getCell at h
  split at h
  · exact cellOf_eq hs h
  · simp at h

theorem markHeap_ne (kind : CfgKind) (s : Nat) {conf : Option Nat} (heap : Nat → Cfg) {c : Nat} (h : conf ≠ some c) :
    markHeap kind s conf heap c = heap c := by
  unfold markHeap
  split
  · rename_i c'; exact upd_ne _ _ (fun hcc => h (by rw [hcc]))
  · rfl

/-- a pointer-holding product reads its own serial number right after it was built -/
theorem markHeap_get {sh : Shape} {cell : Option Nat} {c : Nat} (s : Nat) (heap : Nat → Cfg)
    (h : shownConf sh cell = some c) : (markHeap sh.cfg s cell heap c).get markField = s := by
  obtain ⟨hp, rfl⟩ := shownConf_some h
  simp [markHeap, hp, get_cons_self]

theorem heapG_lt {sh : Shape} (w : World) (doGet : Bool) (st : St) (hs : sh.dflt ≠ .shared) {c : Nat} (hc : c < st.next) :
    heapG sh w doGet st c = st.heap c := by
  cases doGet
  · rfl
  · show getHeap sh w st.heap st.fills st.next c = st.heap c
    unfold getHeap
    cases hcell : cellOf sh st.next with
    | none => rfl
    | some c' => rw [cellOf_eq hs hcell]; exact upd_lt _ _ hc

theorem nextG_le (sh : Shape) (doGet : Bool) (n : Nat) : n ≤ nextG sh doGet n := by
  unfold nextG; split <;> omega

theorem callSpec_next_le (sh : Shape) (w : World) (doGet vf pan : Bool) (st : St) :
    st.next ≤ (callSpec sh w doGet vf pan st).2.1 := by
  rw [callSpec_next]; exact nextG_le _ _ _

/-- unless the default-config function shares one object, a call touches nothing below the frontier -/
theorem callSpec_frame (sh : Shape) (w : World) (doGet vf pan : Bool) (st : St) (hs : sh.dflt ≠ .shared) :
    st.next ≤ (callSpec sh w doGet vf pan st).2.1 ∧
    ∀ c, c < st.next → (callSpec sh w doGet vf pan st).1 c = st.heap c := by
  refine ⟨callSpec_next_le _ _ _ _ _ _, fun c hc => ?_⟩
  cases he : callErr sh w doGet vf st with
  | some e => rw [callSpec_fail pan he]; exact heapG_lt w doGet st hs hc
  | none =>
    rw [callSpec_ok pan he]
    exact (markHeap_ne _ _ _ (fun h => by have := getCell_eq hs h; omega)).trans (heapG_lt w doGet st hs hc)

/-- allocation facts of one reconfiguring call: the three identities a step can show are the fresh cell, nothing
below the frontier is touched, a pointer-holding product reads its own serial number -/
theorem callSpec_alloc {sh : Shape} {w : World} {vf pan : Bool} {st : St} {r : St × Step}
    (h : tri r = callSpec sh w true vf pan st) (hc : sh.cfg ≠ .none) (hs : sh.dflt ≠ .shared) :
    r.1.next = st.next + 1 ∧
    (∀ c, fillAddr? r.2 = some c → c = st.next) ∧
    (∀ c, ctorConf? r.2 = some c → c = st.next) ∧
    (∀ c, prodCell? r.2 = some c → c = st.next) ∧
    (∀ c, c < st.next → r.1.heap c = st.heap c) ∧
    (∀ p, r.2.res = .ok p → ∀ c, p.cell = some c → (r.1.heap c).get markField = p.serial) := by
  obtain ⟨t1, t2, t3⟩ := tri_step h
  rw [t1, t2, t3]
  have hcell := fun c h => getCell_eq hs (callSpec_cells sh w true vf pan st c h)
  refine ⟨by rw [callSpec_next, nextG_fresh hc hs], fun c h => hcell c (.inl h), fun c h => hcell c (.inr (.inl h)),
    fun c h => hcell c (.inr (.inr h)), (callSpec_frame sh w true vf pan st hs).2, fun p hp c hpc => ?_⟩
  cases he : callErr sh w true vf st with
  | some e => simp [callSpec_fail pan he] at hp
  | none =>
    rw [callSpec_ok pan he] at hp ⊢
    simp only [Res.ok.injEq] at hp
    subst hp
    exact markHeap_get _ _ hpc

theorem viewsOf_length (heap : Nat → Cfg) (steps : List Step) :
    (viewsOf heap steps).length = (steps.filterMap prodCell?).length := by
  induction steps with
  | nil => rfl
  | cons s l ih =>
    obtain ⟨evs, res⟩ := s
    simp only [viewsOf, List.filterMap_cons] at ih ⊢
    cases res with
    | ok p =>
      obtain ⟨serial, cell, seen⟩ := p
      cases cell <;> simp [prodCell?, product?, ih]
    | made => simp [prodCell?, product?, ih]
    | err e => simp [prodCell?, product?, ih]
    | panic e => simp [prodCell?, product?, ih]

/-- k successive calls that get a config: each has the per-call structure -/
theorem freshCall_iter (sh : Shape) (w : World) (pan : Bool) (f : St → St × Step)
    (hf : ∀ st, tri (f st) = callSpec sh w true sh.factory pan st) (hc : sh.cfg ≠ .none) (k : Nat) (st : St) :
    ∀ s ∈ (iter f k st).2, freshCallOk sh w s = true :=
  (iter_inv f (fun _ => True) (fun s => freshCallOk sh w s = true) (fun st _ => ⟨trivial, by
    rw [(tri_step (hf st)).2.2]; exact callSpec_freshCall_any sh w _ pan st hc rfl⟩) k st trivial).2

/-- k successive reconfiguring calls -/
theorem fresh_iter (sh : Shape) (w : World) (pan : Bool) (f : St → St × Step)
    (hf : ∀ st, tri (f st) = callSpec sh w true sh.factory pan st)
    (hc : sh.cfg ≠ .none) (hs : sh.dflt ≠ .shared) (k : Nat) (st : St) :
    (∀ s ∈ (iter f k st).2, freshCallOk sh w s = true) ∧
    ((iter f k st).2.filterMap fillAddr?).Nodup ∧
    ((iter f k st).2.filterMap ctorConf?).Nodup ∧
    ((iter f k st).2.filterMap prodCell?).Nodup ∧
    ∀ v ∈ viewsOf (iter f k st).1.heap (iter f k st).2, (v.1 : Int) = v.2 := by
  have hall := fun st => callSpec_alloc (hf st) hc hs
  have hkey : ∀ key : Step → Option Nat, (∀ st c, key (f st).2 = some c → c = st.next) →
      ((iter f k st).2.filterMap key).Nodup := fun key hk =>
    pairwise_lt_nodup (iter_keys f key (fun st => ⟨by rw [(hall st).1]; omega, fun c hcc => by
      have := hk st c hcc; rw [(hall st).1]; omega⟩) k st).2.2
  refine ⟨freshCall_iter sh w pan f hf hc k st, hkey _ (fun st => (hall st).2.1), hkey _ (fun st => (hall st).2.2.1),
    hkey _ (fun st => (hall st).2.2.2.1), ?_⟩
  exact iter_views f (fun st => ⟨by rw [(hall st).1]; omega, (hall st).2.2.2.2.1,
    fun p c hp hcell => ⟨by
      have : prodCell? (f st).2 = some c := by simp [prodCell?, product?, hp, hcell]
      have := (hall st).2.2.2.1 c this
      rw [(hall st).1]; omega, (hall st).2.2.2.2.2 p hp c hcell⟩⟩) k st

/-! ### the invocation structure of an operation (C18_struct) -/

/-- one `callSpec` step: `Get`'s invocations (if it runs `Get`), then the constructor unless fillConf failed, then —
for a factory constructor whose constructor call succeeded — the factory it returned -/
theorem callSpec_kinds (sh : Shape) (w : World) (doGet vf pan : Bool) (st : St) :
    (callSpec sh w doGet vf pan st).2.2.evs.map kindOf =
      (if doGet then getKinds sh w else []) ++
        (if fillFailed (callSpec sh w doGet vf pan st).2.2 then []
         else K.c :: (if vf && !ctorFailed (callSpec sh w doGet vf pan st).2.2 then [K.r] else [])) := by
  have hev := callSpec_evs sh w doGet vf pan st
  rw [callEvs_fillFailed hev, callEvs_ctorFailed hev, hev, callEvs_kinds]
  cases getFails w doGet st <;> simp

/-- … which is the sequence the Spec prescribes for a call (`doGet` = the requested form configures anew; without `Get`
it is a component constructor called alone) -/
theorem callSpec_callKinds (inp : Input) (doGet pan : Bool) (st : St) (hd : doGet = reconfigures inp)
    (hform : inp.form = .component ∨ inp.sh.factory = false) :
    (callSpec inp.sh inp.w doGet (doGet && inp.sh.factory) pan st).2.2.evs.map kindOf =
      callKindsBy fillFailed inp (callSpec inp.sh inp.w doGet (doGet && inp.sh.factory) pan st).2.2 := by
  rw [callSpec_kinds]
  unfold callKindsBy
  rw [← hd]
  cases doGet
  · have hfa : inp.sh.factory = false := by
      rcases hform with hf | hf
      · simp [reconfigures, hf] at hd
      · exact hf
    have := callEvs_fillFailed (callSpec_evs inp.sh inp.w false false pan st)
    simp [hfa, this, getFails]
  · simp

theorem facSpec_kinds (sh : Shape) (w : World) (rf : RegFac) (pan : Bool) (st : St) :
    (facSpec sh w rf pan st).2.2.evs.map kindOf = [K.r] := by
  unfold facSpec
  by_cases hff : factFails sh w st.facts = true <;> simp [hff, kindOf]

/-- the creation step (`r`: whatever result it is given) -/
theorem createSpec_kinds (sh : Shape) (w : World) (n : Nat) (st : St) (r : Res) :
    (createSpec sh w n st).2.2.1.map kindOf =
      (if sh.factory then
        getKinds sh w ++ (if fillFailed ⟨(createSpec sh w n st).2.2.1, r⟩ then [] else [K.c])
       else if sh.cfg = .none && w.hasFill then [K.f] else []) := by
  cases hfa : sh.factory
  · by_cases hc : sh.cfg = .none <;> simp [createSpec, hfa, hc, fillEvs_kinds]
  · have hev : (⟨(createSpec sh w n st).2.2.1, r⟩ : Step).evs = callEvs sh w true false st := createSpec_evs w n st hfa
    rw [callEvs_fillFailed hev, createSpec_evs w n st hfa, callEvs_kinds]
    simp

/-- a step that shows no configuration identity -/
theorem noAddr_of {s : Step} (h1 : fillAddr? s = none) (h2 : ctorConf? s = none) : noAddr s = true := by
  unfold noAddr
  simp only [List.all_eq_true, Bool.and_eq_true, Option.isNone_iff_eq_none]
  exact fun e he => ⟨List.findSome?_eq_none_iff.mp h1 e he, List.findSome?_eq_none_iff.mp h2 e he⟩

theorem shownConf_none {sh : Shape} (hc : sh.cfg = .none) (cell : Option Nat) : shownConf sh cell = none := by
  simp [shownConf, hc]

/-- a constructor without a config never sees one -/
theorem callEvs_noAddr {sh : Shape} {w : World} {doGet vf : Bool} {st : St} {s : Step}
    (h : s.evs = callEvs sh w doGet vf st) (hc : sh.cfg = .none) : noAddr s = true :=
  noAddr_of (by rw [callEvs_fillAddr h, cellOf_none hc]; simp) (by rw [callEvs_ctorConf h, shownConf_none hc]; simp)

theorem callSpec_noAddr (sh : Shape) (w : World) (doGet vf pan : Bool) (st : St) (hc : sh.cfg = .none) :
    noAddr (callSpec sh w doGet vf pan st).2.2 = true :=
  callEvs_noAddr (callSpec_evs sh w doGet vf pan st) hc

theorem facSpec_noAddr (sh : Shape) (w : World) (rf : RegFac) (pan : Bool) (st : St) :
    noAddr (facSpec sh w rf pan st).2.2 = true := by
  unfold facSpec
  by_cases hff : factFails sh w st.facts = true <;> simp [hff, noAddr, fillAddrEv, ctorConfEv]

theorem createSpec_noAddr (sh : Shape) (w : World) (n : Nat) (st : St) (r : Res) (hc : sh.cfg = .none) :
    noAddr ⟨(createSpec sh w n st).2.2.1, r⟩ = true := by
  cases hfa : sh.factory
  · cases h1 : w.hasFill <;> simp [createSpec, hfa, hc, noAddr, fillEvs, h1, fillAddrEv, ctorConfEv, cellOf_none hc]
  · exact callEvs_noAddr (createSpec_evs w n st hfa) hc

/-! ### the creation of a factory: what is captured, frontier, frame -/

theorem createSpec_next_le (sh : Shape) (w : World) (n : Nat) (st : St) :
    st.next ≤ (createSpec sh w n st).2.1 := by
  rw [createSpec_next]
  split
  · exact nextG_le _ _ _
  · exact Nat.le_refl _

theorem createSpec_frame (sh : Shape) (w : World) (n : Nat) (st : St) (hs : sh.dflt ≠ .shared) :
    st.next ≤ (createSpec sh w n st).2.1 ∧
    (∀ c, c < st.next → (createSpec sh w n st).1 c = st.heap c) ∧
    (∀ rf, ((createSpec sh w n st).2.2.2 = .ok (.directFactory rf) ∨ (createSpec sh w n st).2.2.2 = .ok (.wrapFactory rf n)) →
      ∀ c, rf.cell = some c → st.next ≤ c ∧ c < (createSpec sh w n st).2.1) := by
  refine ⟨createSpec_next_le sh w n st, fun c hc => ?_, fun rf hrf c hcell => ?_⟩
  · rw [createSpec_heap]
    split
    · exact heapG_lt w true st hs hc
    · rfl
  · obtain ⟨hfa, _, rfl⟩ := createSpec_rf hrf
    -- a captured pointer is the fresh cell
    have hcf : sh.cfg = .ptr ∧ cellOf sh st.next = some c := by
      revert hcell; unfold capture; cases sh.cfg <;> cases cellOf sh st.next <;> simp
    rw [createSpec_next, hfa, cellOf_eq hs hcf.2, if_pos rfl, nextG_fresh (by simp [hcf.1]) hs]
    omega

theorem facSpec_frame (sh : Shape) (w : World) (rf : RegFac) (pan : Bool) (st : St) :
    (facSpec sh w rf pan st).2.1 = st.next ∧
    ∀ c, rf.cell ≠ some c → (facSpec sh w rf pan st).1 c = st.heap c := by
  unfold facSpec
  split
  · exact ⟨rfl, fun _ _ => rfl⟩
  · exact ⟨rfl, fun c hc => markHeap_ne _ _ _ hc⟩

/-- allocation facts of the creation of a factory from a factory constructor -/
theorem createSpec_alloc (sh : Shape) (w : World) (n : Nat) (st : St) (r : Res)
    (hc : sh.cfg ≠ .none) (hs : sh.dflt ≠ .shared) (hfa : sh.factory = true) :
    (createSpec sh w n st).2.1 = st.next + 1 ∧
    (∀ c, fillAddr? ⟨(createSpec sh w n st).2.2.1, r⟩ = some c → c = st.next) ∧
    (∀ c, ctorConf? ⟨(createSpec sh w n st).2.2.1, r⟩ = some c → c = st.next) := by
  have hev : (⟨(createSpec sh w n st).2.2.1, r⟩ : Step).evs = callEvs sh w true false st := createSpec_evs w n st hfa
  rw [callEvs_fillAddr hev, callEvs_ctorConf hev]
  refine ⟨by rw [createSpec_next, hfa, if_pos rfl, nextG_fresh hc hs], fun c h => ?_, fun c h => ?_⟩ <;> split at h
  · exact cellOf_eq hs h
  · simp at h
  · simp at h
  · exact getCell_eq hs (shownConf_some h).2

end Pandora.Proofs.C18
