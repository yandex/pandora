/-
C05 — termination of the background work once the pool context is cancelled: a ranking function that every
effective step decreases, and deadlock freedom using only steps that MUST happen (engine steps, and returns of
goroutines whose context is cancelled).
-/
import Pandora.Proofs.C05Inv

namespace Pandora.Proofs.C05
open Pandora.Model.C05

def compRank : Comp → Nat
  | .idle => 0 | .running => 4 | .ready _ => 2 | .taken => 0

def startRank (s : State) : Nat :=
  match s.startPc with
  | .idle => 0 | .waiting _ => 12 | .exiting => 5 | .done => if s.startTaken then 0 else 2

def instRank (i : Inst) : Nat :=
  match i.gun with
  | none => 5
  | some _ => 4

def liveRank : List Inst → Nat
  | [] => 0
  | i :: r => instRank i + liveRank r

def awRank : AwPc → Nat
  | .off => 0 | .loop => 1 | .onErr _ _ _ => 2 | .finished => 0

def mainRank : MainPc → Nat
  | .init => 40 | .warmed => 30 | .selecting => 1 | .returned _ => 0

/-- ranking function: outstanding work of all goroutines of the pool -/
def mu (s : State) : Nat :=
  mainRank s.main + compRank s.prov + compRank s.agg + startRank s + liveRank s.live + 2 * s.buf.length +
  awRank s.aw + (if s.runResOpen then 1 else 0) + (if s.extC then 0 else 1)

theorem liveRank_append (l : List Inst) (x : Inst) : liveRank (l ++ [x]) = liveRank l + instRank x := by
  induction l with
  | nil => simp [liveRank]
  | cons a l ih => simp [liveRank, ih]; omega

theorem liveRank_eraseIdx (l : List Inst) (i : Nat) (x : Inst) (h : l[i]? = some x) :
    liveRank (l.eraseIdx i) + instRank x = liveRank l := by
  induction l generalizing i with
  | nil => simp at h
  | cons a l ih =>
    cases i with
    | zero => simp at h; subst h; simp [liveRank]; omega
    | succ i => simp at h; simp [liveRank]; have := ih i h; omega

theorem liveRank_set (l : List Inst) (i : Nat) (x y : Inst) (h : l[i]? = some x) :
    liveRank (l.set i y) + instRank x = liveRank l + instRank y := by
  induction l generalizing i with
  | nil => simp at h
  | cons a l ih =>
    cases i with
    | zero => simp at h; subst h; simp [liveRank]; omega
    | succ i => simp at h; simp [liveRank]; have := ih i h; omega

theorem mu_finish (s : State) : mu (finish s) ≤ mu s := by
  unfold finish
  split
  · next h => simp only [mu, h.1, awRank, startRank.eq_def]; omega
  · exact Nat.le_refl _

theorem mu_checkAll (s : State) : mu (checkAll s) ≤ mu s := by
  unfold checkAll
  repeat' split
  · exact Nat.le_refl _
  · exact Nat.le_refl _
  · next _ ho _ =>
    rw [Bool.not_eq_false] at ho
    simp only [mu, ho, startRank.eq_def, Bool.false_eq_true, ↓reduceIte]; omega
  · exact Nat.le_refl _

theorem mu_afterErr (s : State) (chk : Bool) : mu (afterErr s chk) ≤ mu { s with aw := .loop } := by
  unfold afterErr
  refine Nat.le_trans (mu_finish _) ?_
  split
  · exact mu_checkAll _
  · exact Nat.le_refl _

theorem mu_handleRes (s : State) (w : Wrap) (r : Ret) (done chk : Bool) (hl : s.aw = .loop) :
    mu (handleRes s w r done chk) ≤ mu s + 1 := by
  unfold handleRes
  split
  · rw [← aw_loop_eta s hl]; exact Nat.le_succ_of_le (mu_afterErr _ _)
  · simp only [mu, hl, awRank, startRank.eq_def]; omega

theorem cancelAll_eta (s : State) (h1 : s.poolC = true) (h2 : s.runC = true) (h3 : s.startC = true)
    (h4 : s.extC = true) : cancelAll { s with extC := true } = s := by
  cases s; simp only [cancelAll] at *; subst h1 h2 h3 h4; rfl

theorem startC_eta (s : State) (h3 : s.startC = true) : { s with startC := true } = s := by
  cases s; simp only at *; subst h3; rfl

/-- `step` either leaves the state alone or decreases `mu` -/
def Dec (cfg : Cfg) (s : State) (c : Choice) : Prop := step cfg s c = s ∨ mu (step cfg s c) < mu s

/-- once the run context is cancelled (all instances finished, `Pool.Run` returned, or the caller cancelled),
EVERY effective step decreases the ranking function: each summand of `mu` reads its own part of the state, and a
step moves one goroutine forward -/
theorem mu_step (cfg : Cfg) (s : State) (c : Choice) (ha : InvA s) (hp : s.runC = true)
    (hx : s.extC = true → s.poolC = true) : Dec cfg s c := by
  have hsc : s.startC = true := ha.1.ctx2 hp
  unfold Dec
  cases c with
  | extCancel =>
    simp only [step, cancelAll]
    cases he : s.extC
    · right; simp only [mu, he, startRank.eq_def, Bool.false_eq_true, ↓reduceIte]; omega
    · left; exact cancelAll_eta s (hx he) hp hsc he
  | warm o =>
    simp only [step, mainReturn, cancelAll]; split
    · next hm => right; cases o <;> (simp only [mu, hm, mainRank, startRank.eq_def]; omega)
    · left; rfl
  | sched o =>
    simp only [step, mainReturn, cancelAll]; split
    · next hm =>
      right
      cases o with
      | some e => simp only [mu, hm, mainRank, startRank.eq_def]; omega
      | none =>
        obtain ⟨h1, h2, h3, h4, h5, _, _, h8, _⟩ := ha.1.pre (ha.1.pre2 (.inr hm)).1
        simp only [mu, hm, h1, h2, h3, h4, h5, h8, (ha.1.pre2 (.inr hm)).1, hsc, mainRank, compRank, startRank.eq_def, awRank,
          liveRank, if_true]
        simp
    · left; rfl
  | provRet r | aggRet r =>
    simp only [step, addErr_eq]; split
    · next hc => right; simp only [mu, hc.1, compRank, startRank.eq_def]; omega
    · left; rfl
  | rpsFinished =>
    simp only [step]; split
    · left; exact startC_eta s hsc
    · left; rfl
  | startFirst o =>
    simp only [step]; split
    · next hs =>
      right
      cases o with
      | ok c => simp only [mu, hs, nextWait, hsc, startRank.eq_def, liveRank_append, instRank, if_true]; omega
      | _ => simp only [mu, hs, startRank.eq_def]; split <;> omega
    · left; rfl
  | startTick =>
    simp only [step]; split
    · next hs => right; simp only [mu, hs, nextWait, hsc, startRank.eq_def, liveRank_append, instRank, if_true]; omega
    · left; rfl
  | startEnd =>
    simp only [step]; split
    · next hs =>
      right
      rcases hs with hs | hs | hs <;> (simp only [mu, hs, startRank.eq_def]; split <;> omega)
    · left; rfl
  | instCreate i o =>
    simp only [step]; split
    · next k hl =>
      right
      have h1 := liveRank_eraseIdx _ _ _ hl
      have e5 : instRank ⟨k, none⟩ = 5 := rfl
      cases o with
      | ok c =>
        have h2 := liveRank_set _ _ _ ⟨k, some ⟨c, 0⟩⟩ hl
        have e4 : instRank ⟨k, some ⟨c, 0⟩⟩ = 4 := rfl
        simp only [mu, startRank.eq_def]; omega
      | _ =>
        dsimp only
        rw [sendRes_live ha hl]
        simp only [mu, startRank.eq_def, List.length_append, List.length_singleton]; omega
    · left; rfl
  | instRet i r =>
    simp only [step, addErr_eq]; split
    · next k g hl =>
      split
      · left; rfl
      · right
        have h1 := liveRank_eraseIdx _ _ _ hl
        have e4 : instRank ⟨k, some g⟩ = 4 := rfl
        rw [sendRes_live ha hl]
        simp only [mu, startRank.eq_def, List.length_append, List.length_singleton]; omega
    · left; rfl
  | awaitProv | awaitAgg =>
    simp only [step]; split
    · next r hl hr =>
      right
      refine Nat.lt_of_le_of_lt (mu_handleRes _ _ _ _ _ hl) ?_
      simp only [mu, hr, compRank, startRank.eq_def]; omega
    · left; rfl
  | awaitStart =>
    simp only [step]; split
    · next n r hl ht hr =>
      right
      refine Nat.lt_of_le_of_lt (mu_handleRes _ _ _ _ _ hl) ?_
      have hd : s.startPc = .done := ha.1.startDone.2 (by simp [hr])
      simp only [mu, hd, ht, startRank.eq_def]; simp; omega
    · left; rfl
  | awaitRun =>
    simp only [step]; split
    · next k r rest hl ho hb =>
      right
      split
      · refine Nat.lt_of_le_of_lt (mu_afterErr _ _) ?_
        split <;> (simp only [mu, hl, hb, awRank, startRank.eq_def, List.length_cons]; omega)
      · refine Nat.lt_of_le_of_lt (mu_handleRes _ _ _ _ _ hl) ?_
        simp only [mu, hb, startRank.eq_def, List.length_cons]; omega
    · left; rfl
  | errDeliver =>
    simp only [step, mainReturn, cancelAll]; split
    · next w r chk hl hm =>
      right
      refine Nat.lt_of_le_of_lt (mu_afterErr _ _) ?_
      simp only [mu, hl, hm, awRank, mainRank, startRank.eq_def]; omega
    · left; rfl
  | errSuppress =>
    simp only [step]; split
    · next w r chk hl =>
      generalize (if cfg.fixSelect = true then s.poolC else s.runC) = b
      cases b
      · left; rfl
      · right
        refine Nat.lt_of_le_of_lt (mu_afterErr _ _) ?_
        simp only [mu, hl, awRank, startRank.eq_def]; omega
    · left; rfl
  | mainCancel | mainClosed =>
    simp only [step, mainReturn, cancelAll]; split
    · next hc => right; simp only [mu, hc.1, mainRank, startRank.eq_def]; omega
    · left; rfl

end Pandora.Proofs.C05
