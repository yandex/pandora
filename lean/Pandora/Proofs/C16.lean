/-
Proofs C16: helper lemmas for `Props/C16.lean`.

Main result `render_decode_eq`: under `compatS` (the decidable compatibility of the struct/tag tables) decoding the
document that yaml.v2 marshals from the HCL structs and decoding the document a user writes in YAML give the same
record, for every description tree.
-/
import Pandora.Model.C16

namespace Pandora.Proofs.C16
open Pandora.Go Pandora.Model.C16

/-! ### induction over description trees -/

theorem V.ind' (P : V → Prop) (hnull : P .null) (hstr : ∀ s, P (.str s)) (hint : ∀ i, P (.int i))
    (hbool : ∀ b, P (.bool b)) (hseq : ∀ xs, (∀ x ∈ xs, P x) → P (.seq xs))
    (hmap : ∀ fs, (∀ e ∈ fs, P e.2) → P (.map fs)) : ∀ v, P v := by
  intro v
  refine V.rec (motive_1 := P) (motive_2 := fun xs => ∀ x ∈ xs, P x) (motive_3 := fun fs => ∀ e ∈ fs, P e.2)
    (motive_4 := fun e => P e.2) hnull hstr hint hbool hseq hmap ?_ ?_ ?_ ?_ ?_ v
  · intro x hx; cases hx
  · intro h t ih1 ih2 x hx
    cases hx with
    | head => exact ih1
    | tail _ h' => exact ih2 x h'
  · intro e he; cases he
  · intro h t ih1 ih2 e he
    cases he with
    | head => exact ih1
    | tail _ h' => exact ih2 e h'
  · intro k v ih; exact ih

/-! ### keys -/

theorem fold_eq_of_eqFold {a b : String} (h : eqFold a b = true) : fold a = fold b := by
  unfold eqFold at h
  exact eq_of_beq h

theorem eqFold_congr {a b : String} (h : fold a = fold b) (k : String) : eqFold a k = eqFold b k := by
  unfold eqFold; rw [h]

theorem findC_congr {a b : String} (h : fold a = fold b) (T : Tables) (s : String) : findC T s a = findC T s b := by
  unfold findC
  have : (fun g : C16CField => eqFold g.key a) = (fun g => eqFold g.key b) := by
    funext g; unfold eqFold; rw [h]
  rw [this]

theorem findH_mem {T : Tables} {s k : String} {f : C16HField} (h : findH T s k = some f) : f ∈ hFields T s := by
  unfold findH at h
  exact List.mem_of_find?_eq_some h

theorem findPlugin_mem {T : Tables} {i n : String} {p : C16Plugin} (h : findPlugin T i n = some p) :
    p ∈ pluginsOf T i := by
  unfold findPlugin at h
  have h1 := List.mem_of_find?_eq_some h
  have h2 := List.find?_some h
  unfold pluginsOf
  rw [List.mem_filter]
  refine ⟨h1, ?_⟩
  simp only [Bool.and_eq_true] at h2
  exact h2.1

/-! ### rendering -/

@[simp] theorem renderV_null (p : Policy) (T : Tables) (ty : C16HTy) : renderV p T ty .null = .null := by
  simp [renderV]

theorem renderV_leaf (p : Policy) (T : Tables) (l : C16Leaf) (v : V) : renderV p T (.leaf l) v = v := by
  cases v <;> simp [renderV]

theorem renderV_struct_of_not_map (p : Policy) (T : Tables) (s : String) (v : V) (h : ∀ fs, v ≠ .map fs) :
    renderV p T (.struct s) v = v := by
  cases v <;> simp [renderV]
  exact absurd rfl (h _)

theorem renderV_structList_of_not_seq (p : Policy) (T : Tables) (s : String) (v : V) (h : ∀ xs, v ≠ .seq xs) :
    renderV p T (.structList s) v = v := by
  cases v <;> simp [renderV]
  exact absurd rfl (h _)

/-- both renderings of a value that is not a container are the value itself -/
theorem renderV_same_of_leafTy (T : Tables) (ty : C16HTy) (v : V) (h : isLeafTy ty = true) :
    renderV polM T ty v = renderV polY T ty v := by
  cases ty with
  | leaf l => rw [renderV_leaf, renderV_leaf]
  | struct s => simp [isLeafTy] at h
  | structList s => simp [isLeafTy] at h

/-! ### decoding -/

@[simp] theorem decodeV_null (T : Tables) (ty : C16CTy) : decodeV T ty .null = none := by
  simp [decodeV]

theorem decodeV_leaf (T : Tables) (l : C16Leaf) (x : V) :
    decodeV T (.leaf l) x = if zeroLeaf x then none else some x := by
  cases x <;> simp [decodeV, decodeLeafLike, zeroLeaf]

theorem decodeV_optLeaf (T : Tables) (l : C16Leaf) (x : V) :
    decodeV T (.optLeaf l) x = if isNull x then none else some x := by
  cases x <;> simp [decodeV, decodeLeafLike, isNull]

/-- one entry of a map against config struct `s` -/
def decEntry (T : Tables) (s : String) (isP : Bool) (k : String) (x : V) : Option (String × V) :=
  if isP && eqFold k T.nameKey then
    match x with
    | .null => none
    | _ => some (T.nameKey, x)
  else
    match findC T s k with
    | none => some (unusedKey, .null)
    | some g => (decodeV T g.ty x).map fun y => (g.go, y)

theorem decodeFs_cons (T : Tables) (s : String) (isP : Bool) (k : String) (x : V) (rest : List (String × V)) :
    decodeFs T s isP ((k, x) :: rest) =
      match decEntry T s isP k x with
      | none => decodeFs T s isP rest
      | some e => e :: decodeFs T s isP rest := by
  unfold decEntry
  cases x <;> simp only [decodeFs] <;> split <;> try rfl
  all_goals
    cases findC T s k with
    | none => rfl
    | some g =>
      simp only []
      cases decodeV T g.ty _ <;> rfl

theorem decEntry_congr {a b : String} (h : fold a = fold b) (T : Tables) (s : String) (isP : Bool) (x : V) :
    decEntry T s isP a x = decEntry T s isP b x := by
  unfold decEntry
  rw [eqFold_congr h, findC_congr h]

/-- the result of decoding a map under a rendered entry that may have been left out -/
def decOpt (T : Tables) (s : String) (isP : Bool) (skip : Bool) (k : String) (x : V) : Option (String × V) :=
  if skip then none else decEntry T s isP k x

theorem decodeFs_render_step (T : Tables) (s : String) (isP : Bool) (skip : Bool) (k : String) (x : V)
    (rest : List (String × V)) :
    decodeFs T s isP (if skip then rest else (k, x) :: rest) =
      match decOpt T s isP skip k x with
      | none => decodeFs T s isP rest
      | some e => e :: decodeFs T s isP rest := by
  unfold decOpt
  cases skip
  · simp only [Bool.false_eq_true, if_false]
    exact decodeFs_cons T s isP k x rest
  · simp

/-! ### one field -/

theorem eq_null_of_isNull {x : V} (h : isNull x = true) : x = .null := by
  cases x <;> simp [isNull] at h ⊢

theorem eq_nil_of_isEmptySeq {x : V} (h : isEmptySeq x = true) : x = .seq [] := by
  cases x with
  | seq xs => cases xs <;> simp [isEmptySeq] at h ⊢
  | _ => simp [isEmptySeq] at h

theorem isNull_of_zeroLeaf_false {x : V} (h : zeroLeaf x = false) : isNull x = false := by
  cases x <;> simp [isNull, zeroLeaf] at h ⊢

/-- a leaf is only ever paired with a leaf or an optional leaf -/
theorem tyRel_leaf {rec : String → Target → Bool} {l : C16Leaf} {cty : C16CTy} (h : tyRel rec (.leaf l) cty = true) :
    (∃ l', cty = .leaf l') ∨ ∃ l', cty = .optLeaf l' := by
  cases cty <;> simp [tyRel] at h ⊢

theorem decodeV_nonzero_leaf (T : Tables) {rec : String → Target → Bool} {l : C16Leaf} {cty : C16CTy} {x : V}
    (h : tyRel rec (.leaf l) cty = true) (hnz : zeroLeaf x = false) : decodeV T cty x = some x := by
  rcases tyRel_leaf h with ⟨l', rfl⟩ | ⟨l', rfl⟩
  · rw [decodeV_leaf, hnz]; rfl
  · rw [decodeV_optLeaf, isNull_of_zeroLeaf_false hnz]; rfl

theorem decodeV_list_nil (T : Tables) (cty : C16CTy) (hty : C16HTy) (rec : String → Target → Bool)
    (hl : isList hty = true) (h : tyRel rec hty cty = true) : decodeV T cty (.seq []) = none := by
  cases hty <;> cases cty <;> simp_all [isList, tyRel, decodeV]

theorem keyOK_facts {T : Tables} {f : C16HField} (h : keyOK T f = true) :
    (f.yaml == "-") = false ∧ fold f.yaml = fold (docKey f) := by
  unfold keyOK at h
  simp only [Bool.and_eq_true, bne_iff_ne, ne_eq] at h
  exact ⟨by simpa using h.1.1.1, fold_eq_of_eqFold h.1.1.2⟩

/-- the field that carries the plugin name is a string label: yaml.v2 always writes it, the user leaves it out only
when it is nil -/
theorem nameKey_field {T : Tables} {f : C16HField} (x : V) (h : keyOK T f = true)
    (hT : eqFold f.yaml T.nameKey = true) : f.ty = .leaf .str ∧ omitM f x = false ∧ omitY f x = isNull x := by
  have hd := (keyOK_facts h).1
  unfold keyOK at h
  simp only [Bool.and_eq_true, Bool.or_eq_true, hT, Bool.not_true, Bool.false_eq_true, false_or, beq_iff_eq,
    Bool.not_eq_true'] at h
  obtain ⟨_, hty, hom⟩ := h
  exact ⟨hty, by simp [omitM, hd, hom], by simp [omitY, hty, isList]⟩

/-- the entry yaml.v2 writes for field `f` and the entry the user writes decode to the same thing -/
theorem field_eq (rec : String → Target → Bool) (T : Tables) (sc : String) (isP : Bool) (f : C16HField) (x : V)
    (hOK : fieldOK rec T sc isP f = true)
    (ih : ∀ hty cty, tyRel rec hty cty = true →
      decodeV T cty (renderV polM T hty x) = decodeV T cty (renderV polY T hty x)) :
    decOpt T sc isP (omitM f x) f.yaml (renderV polM T f.ty x) =
      decOpt T sc isP (omitY f x) (docKey f) (renderV polY T f.ty x) := by
  unfold fieldOK at hOK
  simp only [Bool.and_eq_true] at hOK
  obtain ⟨hkey, hrest⟩ := hOK
  obtain ⟨hdash', hfold'⟩ := keyOK_facts hkey
  unfold decOpt
  rw [← decEntry_congr hfold']
  by_cases hT : (isP && eqFold f.yaml T.nameKey) = true
  · obtain ⟨hty', hM, hY⟩ := nameKey_field x hkey (Bool.and_eq_true .. ▸ hT).2
    rw [hM, hY, hty', renderV_leaf, renderV_leaf]
    cases x <;> simp [isNull, decEntry, hT]
  · have hT' : (isP && eqFold f.yaml T.nameKey) = false := by simpa using hT
    rw [if_neg (Bool.and_eq_true .. ▸ hT)] at hrest
    cases hC : findC T sc f.yaml with
    | none =>
      simp only [hC, Bool.and_eq_true, Bool.not_eq_true'] at hrest
      obtain ⟨⟨⟨_, hptr⟩, hom⟩, hnl⟩ := hrest
      have hM : omitM f x = isNull x := by simp [omitM, hdash', hom, hptr]
      have hY : omitY f x = isNull x := by simp [omitY, hnl]
      rw [hM, hY]
      cases hN : isNull x
      · simp [decEntry, hT', hC]
      · simp
    | some g =>
      simp only [hC, Bool.and_eq_true] at hrest
      obtain ⟨hrel, hopt⟩ := hrest
      have hE : ∀ y, decEntry T sc isP f.yaml y = (decodeV T g.ty y).map fun z => (g.go, z) := by
        intro y; simp [decEntry, hT', hC]
      rw [hE, hE]
      by_cases hN : isNull x = true
      · -- left out in the description
        cases eq_null_of_isNull hN
        simp [omitY, isNull]
      · have hN' : isNull x = false := by simpa using hN
        cases hty : f.ty with
        | leaf l =>
          have hY : omitY f x = false := by simp [omitY, hN', hty, isList]
          rw [hY, renderV_leaf, renderV_leaf]
          cases hM : omitM f x
          · rfl
          · -- omitted by omitempty although present: the value is a zero, which decodes to "absent"
            simp only [omitM, hdash', Bool.false_or, Bool.and_eq_true, hty, zeroTy] at hM
            obtain ⟨hom, hz⟩ := hM
            cases hp : f.ptr
            · simp only [hp, Bool.false_eq_true, if_false] at hz
              rcases tyRel_leaf (hty ▸ hrel) with ⟨l', hg⟩ | ⟨l', hg⟩
              · rw [hg, decodeV_leaf, hz]; rfl
              · simp [hg, hom, hp] at hopt
            · simp [hp, hN'] at hz
        | struct s =>
          have hY : omitY f x = false := by simp [omitY, hN', hty, isList]
          have hM : omitM f x = false := by simp [omitM, hdash', hty, zeroTy, hN']
          rw [hY, hM]
          simp only [Bool.false_eq_true, if_false]
          rw [ih _ _ (hty ▸ hrel)]
        | structList s =>
          by_cases hS : isEmptySeq x = true
          · cases eq_nil_of_isEmptySeq hS
            have hY : omitY f (.seq []) = true := by simp [omitY, hty, isList, isEmptySeq]
            rw [hY]
            have hnil : decodeV T g.ty (.seq []) = none :=
              decodeV_list_nil T g.ty (.structList s) rec rfl (hty ▸ hrel)
            cases hM : omitM f (.seq [])
            · simp [renderV, renderXs, hnil]
            · rfl
          · have hS' : isEmptySeq x = false := by simpa using hS
            have hY : omitY f x = false := by simp [omitY, hN', hS']
            have hM : omitM f x = false := by simp [omitM, hdash', hty, zeroTy, hN', hS']
            rw [hY, hM]
            simp only [Bool.false_eq_true, if_false]
            rw [ih _ _ (hty ▸ hrel)]

/-! ### all fields of a struct -/

theorem renderFs_cons_M (T : Tables) (sh k : String) (x : V) (rest : List (String × V)) :
    renderFs polM T sh ((k, x) :: rest) =
      match findH T sh k with
      | none => renderFs polM T sh rest
      | some f =>
        if omitM f x then renderFs polM T sh rest
        else (f.yaml, renderV polM T f.ty x) :: renderFs polM T sh rest := by
  rw [renderFs]; rfl

theorem renderFs_cons_Y (T : Tables) (sh k : String) (x : V) (rest : List (String × V)) :
    renderFs polY T sh ((k, x) :: rest) =
      match findH T sh k with
      | none => renderFs polY T sh rest
      | some f =>
        if omitY f x then renderFs polY T sh rest
        else (docKey f, renderV polY T f.ty x) :: renderFs polY T sh rest := by
  rw [renderFs]; rfl

theorem fields_eq (rec : String → Target → Bool) (T : Tables) (sh sc : String) (isP : Bool)
    (hall : ∀ f ∈ hFields T sh, fieldOK rec T sc isP f = true) :
    ∀ fs : List (String × V),
      (∀ e ∈ fs, ∀ hty cty, tyRel rec hty cty = true →
        decodeV T cty (renderV polM T hty e.2) = decodeV T cty (renderV polY T hty e.2)) →
      decodeFs T sc isP (renderFs polM T sh fs) = decodeFs T sc isP (renderFs polY T sh fs) := by
  intro fs
  induction fs with
  | nil => intro _; rfl
  | cons e rest ihr =>
    intro ih
    obtain ⟨k, x⟩ := e
    have ihrest := ihr (fun e he => ih e (List.mem_cons_of_mem _ he))
    rw [renderFs_cons_M, renderFs_cons_Y]
    cases hH : findH T sh k with
    | none => exact ihrest
    | some f =>
      simp only []
      rw [decodeFs_render_step, decodeFs_render_step,
        field_eq rec T sc isP f x (hall f (findH_mem hH)) (ih (k, x) (List.mem_cons_self ..)), ihrest]

theorem typeOf_step (nk : String) (skip : Bool) (k : String) (x : V) (rest : List (String × V)) :
    typeOf nk (if skip then rest else (k, x) :: rest) =
      if skip then typeOf nk rest
      else if eqFold k nk then (match x with | .str t => some t | _ => typeOf nk rest) else typeOf nk rest := by
  cases skip
  · simp only [Bool.false_eq_true, if_false]
    cases x <;> simp [typeOf]
  · simp

theorem typeOf_eq (T : Tables) (sh : String) (hall : ∀ f ∈ hFields T sh, keyOK T f = true) :
    ∀ fs : List (String × V),
      typeOf T.nameKey (renderFs polM T sh fs) = typeOf T.nameKey (renderFs polY T sh fs) := by
  intro fs
  induction fs with
  | nil => rfl
  | cons e rest ihr =>
    obtain ⟨k, x⟩ := e
    rw [renderFs_cons_M, renderFs_cons_Y]
    cases hH : findH T sh k with
    | none => exact ihr
    | some f =>
      simp only []
      rw [typeOf_step, typeOf_step, ihr]
      have hOK := hall f (findH_mem hH)
      rw [← eqFold_congr (keyOK_facts hOK).2]
      cases hT : eqFold f.yaml T.nameKey
      · simp
      · obtain ⟨hty', hM, hY⟩ := nameKey_field x hOK hT
        rw [hM, hY, hty', renderV_leaf, renderV_leaf]
        cases x <;> simp [isNull]

/-! ### lists of blocks -/

theorem renderXs_isEmpty (p : Policy) (T : Tables) (s : String) (xs : List V) :
    (renderXs p T s xs).isEmpty = xs.isEmpty := by
  cases xs <;> simp [renderXs]

theorem xs_eq (T : Tables) (s : String) (ty : C16CTy) :
    ∀ xs : List V,
      (∀ x ∈ xs, decodeV T ty (renderV polM T (.struct s) x) = decodeV T ty (renderV polY T (.struct s) x)) →
      decodeXs T ty (renderXs polM T s xs) = decodeXs T ty (renderXs polY T s xs) := by
  intro xs
  induction xs with
  | nil => intro _; rfl
  | cons x rest ihr =>
    intro ih
    simp only [renderXs, decodeXs]
    rw [ih x (List.mem_cons_self ..), ihr (fun y hy => ih y (List.mem_cons_of_mem _ hy))]

/-! ### unfolding `compatS` -/

theorem compatS_struct {T : Tables} {u : List String} {n : Nat} {sh sc : String}
    (h : compatS T u n sh (.struct sc) = true) :
    ∃ m, n = m + 1 ∧ ∀ f ∈ hFields T sh, fieldOK (compatS T u m) T sc false f = true := by
  cases n with
  | zero => simp [compatS] at h
  | succ m =>
    refine ⟨m, rfl, ?_⟩
    simp only [compatS, Bool.and_eq_true, List.all_eq_true] at h
    exact h.1.2

theorem compatS_plugin {T : Tables} {u : List String} {n : Nat} {sh i : String}
    (h : compatS T u n sh (.plugin i) = true) :
    ∃ m, n = m + 1 ∧ (∀ f ∈ hFields T sh, keyOK T f = true) ∧
      ∀ p ∈ pluginsOf T i, ∀ f ∈ hFields T sh, fieldOK (compatS T u m) T p.conf true f = true := by
  cases n with
  | zero => simp [compatS] at h
  | succ m =>
    refine ⟨m, rfl, ?_, ?_⟩
    · simp only [compatS, Bool.and_eq_true, List.all_eq_true] at h
      exact h.1.1.1.1.2
    · simp only [compatS, Bool.and_eq_true, List.all_eq_true] at h
      intro p hp f hf
      exact (h.1.2 p hp).1 f hf

/-! ### the main lemma -/

/-- for every description tree, and every pair of an HCL type and a config type accepted by `compatS`: decoding what
yaml.v2 marshals equals decoding what the user writes in YAML -/
theorem render_decode_eq (T : Tables) (u : List String) :
    ∀ v : V, ∀ n hty cty, tyRel (compatS T u n) hty cty = true →
      decodeV T cty (renderV polM T hty v) = decodeV T cty (renderV polY T hty v) := by
  intro v
  induction v using V.ind' with
  | hnull => intros; simp
  | hstr s => intros; simp [renderV]
  | hint i => intros; simp [renderV]
  | hbool b => intros; simp [renderV]
  | hseq xs ih =>
    intro n hty cty hrel
    cases hty with
    | leaf l => simp [renderV]
    | struct s => simp [renderV]
    | structList s =>
      cases cty with
      | structList t =>
        simp only [renderV, decodeV, renderXs_isEmpty]
        rw [xs_eq T s (.struct t) xs (fun x hx => ih x hx n (.struct s) (.struct t) hrel)]
      | pluginList i =>
        simp only [renderV, decodeV, renderXs_isEmpty]
        rw [xs_eq T s (.plugin i) xs (fun x hx => ih x hx n (.struct s) (.plugin i) hrel)]
      | _ => simp [tyRel] at hrel
  | hmap fs ih =>
    intro n hty cty hrel
    cases hty with
    | leaf l => simp [renderV]
    | structList s => simp [renderV]
    | struct s =>
      cases cty with
      | struct t =>
        obtain ⟨m, _, hall⟩ := compatS_struct (show compatS T u n s (.struct t) = true from hrel)
        simp only [renderV, decodeV]
        rw [fields_eq (compatS T u m) T s t false hall fs (fun e he => ih e he m)]
      | optStruct t =>
        obtain ⟨m, _, hall⟩ := compatS_struct (show compatS T u n s (.struct t) = true from hrel)
        simp only [renderV, decodeV]
        rw [fields_eq (compatS T u m) T s t false hall fs (fun e he => ih e he m)]
      | plugin i =>
        obtain ⟨m, _, hkey, hall⟩ := compatS_plugin (show compatS T u n s (.plugin i) = true from hrel)
        simp only [renderV, decodeV]
        rw [typeOf_eq T s hkey fs]
        cases hP : (typeOf T.nameKey (renderFs polY T s fs)).bind (findPlugin T i) with
        | none => rfl
        | some p =>
          have hp : p ∈ pluginsOf T i := by
            cases hT : typeOf T.nameKey (renderFs polY T s fs) with
            | none => rw [hT] at hP; cases hP
            | some name => rw [hT] at hP; exact findPlugin_mem hP
          simp only []
          rw [fields_eq (compatS T u m) T s p.conf true (hall p hp) fs (fun e he => ih e he m)]
      | _ => simp [tyRel] at hrel

/-! ### completing a description with nil fields does not change what the user writes in YAML -/

theorem renderFs_append (p : Policy) (T : Tables) (s : String) (a b : List (String × V)) :
    renderFs p T s (a ++ b) = renderFs p T s a ++ renderFs p T s b := by
  induction a with
  | nil => rfl
  | cons e rest ih =>
    obtain ⟨k, x⟩ := e
    simp only [List.cons_append, renderFs]
    cases findH T s k with
    | none => exact ih
    | some f =>
      simp only []
      split
      · exact ih
      · rw [ih]; rfl

theorem renderFs_Y_nulls (T : Tables) (s : String) (fs : List C16HField) :
    renderFs polY T s (fs.map fun f => (f.hcl, V.null)) = [] := by
  induction fs with
  | nil => rfl
  | cons f rest ih =>
    simp only [List.map_cons]
    rw [renderFs_cons_Y]
    cases findH T s f.hcl with
    | none => exact ih
    | some f' => simp [omitY, isNull, ih]

theorem isNull_completeV (T : Tables) (ty : C16HTy) (v : V) : isNull (completeV T ty v) = isNull v := by
  cases v <;> cases ty <;> simp [completeV, isNull]

theorem isEmptySeq_completeV (T : Tables) (ty : C16HTy) (v : V) : isEmptySeq (completeV T ty v) = isEmptySeq v := by
  cases v with
  | seq xs =>
    cases ty with
    | structList s => cases xs <;> simp [completeV, completeXs, isEmptySeq]
    | _ => simp [completeV]
  | map fs => cases ty <;> simp [completeV, isEmptySeq]
  | _ => simp [completeV, isEmptySeq]

theorem omitY_completeV (T : Tables) (f : C16HField) (ty : C16HTy) (v : V) :
    omitY f (completeV T ty v) = omitY f v := by
  simp [omitY, isNull_completeV, isEmptySeq_completeV]

theorem renderV_Y_complete (T : Tables) :
    ∀ v : V, ∀ ty, renderV polY T ty (completeV T ty v) = renderV polY T ty v := by
  intro v
  induction v using V.ind' with
  | hnull => intros; simp [completeV]
  | hstr s => intros; simp [completeV]
  | hint i => intros; simp [completeV]
  | hbool b => intros; simp [completeV]
  | hseq xs ih =>
    intro ty
    cases ty with
    | leaf l => simp [completeV]
    | struct s => simp [completeV]
    | structList s =>
      simp only [completeV, renderV]
      congr 1
      induction xs with
      | nil => rfl
      | cons x rest ihr =>
        simp only [completeXs, renderXs]
        rw [ih x (List.mem_cons_self ..), ihr (fun y hy => ih y (List.mem_cons_of_mem _ hy))]
  | hmap fs ih =>
    intro ty
    cases ty with
    | leaf l => simp [completeV]
    | structList s => simp [completeV]
    | struct s =>
      simp only [completeV, renderV]
      congr 1
      rw [renderFs_append, renderFs_Y_nulls, List.append_nil]
      induction fs with
      | nil => rfl
      | cons e rest ihr =>
        obtain ⟨k, x⟩ := e
        have ihrest := ihr (fun e he => ih e (List.mem_cons_of_mem _ he))
        simp only [completeFs]
        cases hH : findH T s k with
        | none =>
          simp only []
          rw [renderFs_cons_Y, renderFs_cons_Y, hH]
          exact ihrest
        | some f =>
          simp only []
          rw [renderFs_cons_Y, renderFs_cons_Y, hH]
          simp only []
          rw [omitY_completeV, ih (k, x) (List.mem_cons_self ..) f.ty, ihrest]

/-! ### survival of a field through the HCL hop -/

theorem decodeFs_mem (T : Tables) (s : String) (isP : Bool) (k : String) (y : V) (e : String × V) :
    ∀ L : List (String × V), (k, y) ∈ L → decEntry T s isP k y = some e → e ∈ decodeFs T s isP L := by
  intro L
  induction L with
  | nil => intro h; cases h
  | cons hd tl ih =>
    intro hmem hdec
    obtain ⟨k', y'⟩ := hd
    rw [decodeFs_cons]
    cases hmem with
    | head => rw [hdec]; exact List.mem_cons_self ..
    | tail _ h' =>
      have := ih h' hdec
      cases decEntry T s isP k' y' with
      | none => exact this
      | some e' => exact List.mem_cons_of_mem _ this

theorem renderFs_mem (T : Tables) (sh k : String) (x : V) (f : C16HField) (hf : findH T sh k = some f)
    (hskip : omitM f x = false) :
    ∀ fs : List (String × V), (k, x) ∈ fs → (f.yaml, renderV polM T f.ty x) ∈ renderFs polM T sh fs := by
  intro fs
  induction fs with
  | nil => intro h; cases h
  | cons hd tl ih =>
    intro hmem
    obtain ⟨k', x'⟩ := hd
    rw [renderFs_cons_M]
    cases hmem with
    | head => rw [hf]; simp [hskip]
    | tail _ h' =>
      have := ih h'
      cases findH T sh k' with
      | none => exact this
      | some f' =>
        simp only []
        cases omitM f' x'
        · simp only [Bool.false_eq_true, if_false]; exact List.mem_cons_of_mem _ this
        · simpa using this

/-- yaml.v2 leaves a field out only when it carries no information: nil, or an `omitempty` zero value -/
theorem omitM_zero (f : C16HField) (x : V) (hdash : (f.yaml == "-") = false) (h : omitM f x = true) :
    isNull x = true ∨ zeroTy f.ty x = true := by
  simp only [omitM, hdash, Bool.false_or, Bool.and_eq_true] at h
  obtain ⟨_, hz⟩ := h
  cases hp : f.ptr
  · simp only [hp, Bool.false_eq_true, if_false] at hz; exact Or.inr hz
  · simp only [hp, if_true] at hz; exact Or.inl hz

/-- a non-zero value in a leaf field is written by yaml.v2 -/
theorem leaf_written (f : C16HField) (x : V) (hdash : (f.yaml == "-") = false) (hleaf : isLeafTy f.ty = true)
    (hnz : zeroLeaf x = false) : omitM f x = false := by
  cases hM : omitM f x with
  | false => rfl
  | true =>
    rcases omitM_zero f x hdash hM with h | h
    · rw [isNull_of_zeroLeaf_false hnz] at h; cases h
    · cases hty : f.ty with
      | leaf l => rw [hty, zeroTy, hnz] at h; cases h
      | _ => simp [hty, isLeafTy] at hleaf

/-- what yaml.v2 writes for a field reaches the decoder: the entry it decodes to is in the record -/
theorem entry_survives (T : Tables) (sh sc : String) (isP : Bool) (fs : List (String × V)) (k : String) (x : V)
    (f : C16HField) (hmem : (k, x) ∈ fs) (hf : findH T sh k = some f) (hskip : omitM f x = false) (e : String × V)
    (hdec : decEntry T sc isP f.yaml (renderV polM T f.ty x) = some e) :
    e ∈ decodeFs T sc isP (renderFs polM T sh fs) :=
  decodeFs_mem T sc isP f.yaml _ e _ (renderFs_mem T sh k x f hf hskip fs hmem) hdec

/-- the entry of a non-zero leaf value decodes to the value itself, under the Go name of the config field -/
theorem decEntry_leaf (T : Tables) {rec : String → Target → Bool} (sc : String) (isP : Bool) (f : C16HField)
    (g : C16CField) (x : V) (hnt : (isP && eqFold f.yaml T.nameKey) = false) (hC : findC T sc f.yaml = some g)
    (hrel : tyRel rec f.ty g.ty = true) (hleaf : isLeafTy f.ty = true) (hnz : zeroLeaf x = false) :
    decEntry T sc isP f.yaml (renderV polM T f.ty x) = some (g.go, x) := by
  cases hty : f.ty with
  | leaf l =>
    rw [renderV_leaf]
    simp [decEntry, hnt, hC, decodeV_nonzero_leaf T (hty ▸ hrel) hnz]
  | _ => simp [hty, isLeafTy] at hleaf

/-- a non-zero leaf value written in HCL field `f` of a struct is found, unchanged, in the config field that `f`'s
yaml key selects -/
theorem leaf_survives (rec : String → Target → Bool) (T : Tables) (sh sc : String)
    (hall : ∀ f ∈ hFields T sh, fieldOK rec T sc false f = true)
    (fs : List (String × V)) (k : String) (x : V) (f : C16HField)
    (hmem : (k, x) ∈ fs) (hf : findH T sh k = some f) (hleaf : isLeafTy f.ty = true) (hnz : zeroLeaf x = false) :
    ∃ g, findC T sc f.yaml = some g ∧ fold g.key = fold (docKey f) ∧
      (g.go, x) ∈ decodeFs T sc false (renderFs polM T sh fs) := by
  have hOK := hall f (findH_mem hf)
  unfold fieldOK at hOK
  simp only [Bool.and_eq_true, Bool.false_and, Bool.false_eq_true, if_false] at hOK
  obtain ⟨hkey, hrest⟩ := hOK
  obtain ⟨hdash', hfold'⟩ := keyOK_facts hkey
  cases hC : findC T sc f.yaml with
  | none => simp [hC] at hrest
  | some g =>
    simp only [hC, Bool.and_eq_true] at hrest
    refine ⟨g, rfl, ?_, entry_survives T sh sc false fs k x f hmem hf (leaf_written f x hdash' hleaf hnz) _
      (decEntry_leaf T sc false f g x rfl hC hrest.1 hleaf hnz)⟩
    have h1 := List.find?_some (show (cFields T sc).find? (fun g => eqFold g.key f.yaml) = some g from hC)
    rw [fold_eq_of_eqFold h1, hfold']

/-- the same for the config struct of a plugin (`sc` = config struct of the registered constructor that the block's
`type` label selects), for a field that this plugin knows -/
theorem leaf_survives_plugin (rec : String → Target → Bool) (T : Tables) (sh sc : String)
    (hall : ∀ f ∈ hFields T sh, fieldOK rec T sc true f = true)
    (fs : List (String × V)) (k : String) (x : V) (f : C16HField) (g : C16CField)
    (hmem : (k, x) ∈ fs) (hf : findH T sh k = some f) (hleaf : isLeafTy f.ty = true) (hnz : zeroLeaf x = false)
    (hnt : eqFold f.yaml T.nameKey = false) (hC : findC T sc f.yaml = some g) :
    (g.go, x) ∈ decodeFs T sc true (renderFs polM T sh fs) := by
  have hOK := hall f (findH_mem hf)
  unfold fieldOK at hOK
  simp only [Bool.and_eq_true, hnt, Bool.and_false, Bool.false_eq_true, if_false, hC] at hOK
  obtain ⟨hkey, hrel, _⟩ := hOK
  exact entry_survives T sh sc true fs k x f hmem hf (leaf_written f x (keyOK_facts hkey).1 hleaf hnz) _
    (decEntry_leaf T sc true f g x (by simp [hnt]) hC hrel hleaf hnz)

/-- a block written in HCL field `f` reaches the config field that `f`'s yaml key selects -/
theorem block_survives (rec : String → Target → Bool) (T : Tables) (sh sc : String)
    (hall : ∀ f ∈ hFields T sh, fieldOK rec T sc false f = true)
    (fs : List (String × V)) (k : String) (x : V) (f : C16HField)
    (hmem : (k, x) ∈ fs) (hf : findH T sh k = some f) (hskip : omitM f x = false) :
    ∃ g, findC T sc f.yaml = some g ∧ tyRel rec f.ty g.ty = true ∧
      ∀ y, decodeV T g.ty (renderV polM T f.ty x) = some y →
        (g.go, y) ∈ decodeFs T sc false (renderFs polM T sh fs) := by
  have hOK := hall f (findH_mem hf)
  unfold fieldOK at hOK
  simp only [Bool.and_eq_true, Bool.false_and, Bool.false_eq_true, if_false] at hOK
  obtain ⟨_, hrest⟩ := hOK
  cases hC : findC T sc f.yaml with
  | none => simp [hC] at hrest
  | some g =>
    simp only [hC, Bool.and_eq_true] at hrest
    exact ⟨g, rfl, hrest.1, fun y hy => entry_survives T sh sc false fs k x f hmem hf hskip _ (by simp [decEntry, hC, hy])⟩

end Pandora.Proofs.C16
