/-
C03 — proofs about `startInstances` (`Pandora.Model.C03Start`): for every sequence of answers of the startup schedule the
goroutines launched are exactly one per id `0 … started-1`; moving `started++` behind the launches that follow it (`norm`)
does not change what is executed.
-/
import Pandora.Model.C03Start

namespace Pandora.Proofs.C03Start
open Pandora.Model.C03Start

/-- what the loop of `startInstances` keeps: nothing has gone wrong and the goroutines launched are `0 … started-1` -/
structure Good (s : SSt) : Prop where
  notReturned : s.returned = false
  waiter : s.waiter = true
  ok : s.bad = false
  launched : s.launched = List.range s.started

theorem allowed_nil : allowed [] = 0 := rfl
theorem allowed_false (as : List Bool) : allowed (false :: as) = 0 := by simp [allowed]
theorem allowed_true (as : List Bool) : allowed (true :: as) = allowed as + 1 := by simp [allowed]

/-- one round of the loop body -/
theorem round_good (firstOk : Bool) (s : SSt) (h : Good s) :
    let s' := (execL firstOk startLoop [] s).1
    Good s' ∧ s'.started = s.started + 1 ∧ s'.err = s.err ∧ s'.first = s.first := by
  obtain ⟨hr, hw, hb, hl⟩ := h
  simp only [startLoop, execL, execI, hr, Bool.false_eq_true, if_false]
  refine ⟨⟨?_, ?_, ?_, ?_⟩, ?_, ?_, ?_⟩ <;> simp [hw, hb, hl, List.range_succ]

theorem loop_good (firstOk : Bool) : ∀ (as : List Bool) (s : SSt), Good s →
    let r := (execLoop firstOk startLoop as s).1
    Good r ∧ r.started = s.started + allowed as ∧ r.err = s.err ∧ r.first = s.first
  | [], s, h => by
    obtain ⟨hr, hw, hb, hl⟩ := h
    simp only [execLoop, allowed_nil, Nat.add_zero]
    refine ⟨⟨?_, ?_, ?_, ?_⟩, ?_, ?_, ?_⟩ <;> simp [hr, hw, hb, hl]
  | false :: as, s, h => by
    obtain ⟨hr, hw, hb, hl⟩ := h
    simp only [execLoop, allowed_false, Nat.add_zero]
    refine ⟨⟨?_, ?_, ?_, ?_⟩, ?_, ?_, ?_⟩ <;> simp [hr, hw, hb, hl]
  | true :: as, s, h => by
    have hround := round_good firstOk s h
    simp only at hround
    obtain ⟨hg, hs, he, hf⟩ := hround
    have hnc : startLoop.contains SInstr.waitOrReturnCtxErr = false := by decide
    simp only [execLoop, hnc, Bool.or_false]
    have hg' : Good { (execL firstOk startLoop [] s).1 with bad := (execL firstOk startLoop [] s).1.bad } := hg
    have ih := loop_good firstOk as _ hg'
    simp only at ih
    obtain ⟨ig, is, ie, iff⟩ := ih
    refine ⟨ig, ?_, ?_, ?_⟩
    · rw [is, hs, allowed_true]; omega
    · rw [ie, he]
    · rw [iff, hf]

/-- **`startInstances`, for every sequence of answers of `waiter.Wait(startCtx)` and both outcomes of the creation of
the first instance**: it returns; no statement is outside the model; the goroutines it has launched — each sends exactly
one run result — are one per id `0 … started-1`; `started` is the number of leading `true` answers (0 when the first
instance cannot be created) and the error is the start context's unless that creation failed -/
theorem starter_spec (answers : List Bool) (firstOk : Bool) :
    let o := starter answers firstOk
    o.bad = false ∧ o.returned = true ∧ o.launched = List.range o.started ∧
    o.started = (if firstOk then allowed answers else 0) ∧
    o.err = (if 0 < allowed answers ∧ firstOk = false then SErr.newInstance else SErr.ctx) := by
  match answers with
  | [] => simp [starter, execStart, startPre, execL, execI, nextAnswer, allowed]
  | false :: as => simp [starter, execStart, startPre, execL, execI, nextAnswer, allowed]
  | true :: as =>
    cases firstOk with
    | false => simp [starter, execStart, startPre, execL, execI, nextAnswer, allowed]
    | true =>
      have hg : Good { started := 1, waiter := true, first := true, launched := [0] } :=
        ⟨rfl, rfl, rfl, by decide⟩
      have hl := loop_good true as _ hg
      simp only at hl
      obtain ⟨⟨hr, hw, hb, hla⟩, hs, he, _⟩ := hl
      simp only [starter, execStart, startPre, execL, execI, nextAnswer, Bool.false_eq_true, if_false, if_true,
        List.nil_append, Bool.or_false, Bool.not_true, Nat.zero_add, startPost, hr, allowed_true]
      refine ⟨hb, trivial, hla, ?_, ?_⟩
      · rw [hs]; omega
      · simp

/-! ### `started++` and launching a goroutine commute -/

theorem execL_append (firstOk : Bool) : ∀ (l1 l2 : List SInstr) (as : List Bool) (s : SSt),
    execL firstOk (l1 ++ l2) as s = execL firstOk l2 (execL firstOk l1 as s).2 (execL firstOk l1 as s).1
  | [], _, _, _ => rfl
  | i :: l1, l2, as, s => by
    simp only [List.cons_append, execL]
    exact execL_append firstOk l1 l2 _ _

theorem inc_go_comm (firstOk : Bool) (g : SInstr) (hg : g = .goRunNew ∨ g = .goRunFirst) (as : List Bool) (s : SSt) :
    execL firstOk [.incStarted, g] as s = execL firstOk [g, .incStarted] as s := by
  rcases hg with rfl | rfl
  · cases hr : s.returned <;> cases hi : s.idVar <;> simp [execL, execI, hr, hi]
  · cases hr : s.returned <;> simp [execL, execI, hr]

/-- `n` pending `started++` may be done before or after a launch -/
theorem incs_go_comm (firstOk : Bool) (g : SInstr) (hg : g = .goRunNew ∨ g = .goRunFirst) :
    ∀ (n : Nat) (rest : List SInstr) (as : List Bool) (s : SSt),
    execL firstOk (List.replicate n .incStarted ++ g :: rest) as s =
      execL firstOk (g :: (List.replicate n .incStarted ++ rest)) as s
  | 0, _, _, _ => rfl
  | n + 1, rest, as, s => by
    calc execL firstOk (List.replicate (n + 1) SInstr.incStarted ++ g :: rest) as s
        = execL firstOk ([SInstr.incStarted] ++ (List.replicate n SInstr.incStarted ++ g :: rest)) as s := by
          simp [List.replicate_succ]
      _ = execL firstOk ([SInstr.incStarted] ++ (g :: (List.replicate n SInstr.incStarted ++ rest))) as s := by
          rw [execL_append firstOk [SInstr.incStarted] (List.replicate n SInstr.incStarted ++ g :: rest),
            execL_append firstOk [SInstr.incStarted] (g :: (List.replicate n SInstr.incStarted ++ rest)),
            incs_go_comm firstOk g hg n rest]
      _ = execL firstOk ([SInstr.incStarted, g] ++ (List.replicate n SInstr.incStarted ++ rest)) as s := by simp
      _ = execL firstOk ([g, SInstr.incStarted] ++ (List.replicate n SInstr.incStarted ++ rest)) as s := by
          rw [execL_append firstOk [SInstr.incStarted, g], execL_append firstOk [g, SInstr.incStarted], inc_go_comm firstOk g hg]
      _ = execL firstOk (g :: (List.replicate (n + 1) SInstr.incStarted ++ rest)) as s := by
          simp [List.replicate_succ]

theorem normAux_exec (firstOk : Bool) : ∀ (l : List SInstr) (n : Nat) (as : List Bool) (s : SSt),
    execL firstOk (normAux n l) as s = execL firstOk (List.replicate n .incStarted ++ l) as s
  | [], n, as, s => by simp [normAux]
  | i :: rest, n, as, s => by
    cases i with
    | incStarted =>
      simp only [normAux]
      rw [normAux_exec firstOk rest (n + 1)]
      congr 1
      simp [List.replicate_succ']
    | goRunNew =>
      simp only [normAux]
      rw [incs_go_comm firstOk .goRunNew (Or.inl rfl)]
      simp only [execL]
      exact normAux_exec firstOk rest n _ _
    | goRunFirst =>
      simp only [normAux]
      rw [incs_go_comm firstOk .goRunFirst (Or.inr rfl)]
      simp only [execL]
      exact normAux_exec firstOk rest n _ _
    | mkWaiter | waitOrReturnCtxErr | newFirstOrReturn | bindId | setErrCtx | ret | other _ =>
      simp only [normAux]
      rw [execL_append, execL_append]
      simp only [execL]
      rw [normAux_exec firstOk rest 0]
      simp

/-- executing the normalised list is executing the list -/
theorem norm_exec (firstOk : Bool) (l : List SInstr) (as : List Bool) (s : SSt) :
    execL firstOk (norm l) as s = execL firstOk l as s := by
  unfold norm
  rw [normAux_exec]
  simp

theorem norm_contains_wait : ∀ (l : List SInstr) (n : Nat),
    (normAux n l).contains .waitOrReturnCtxErr = l.contains .waitOrReturnCtxErr
  | [], n => by
    simp only [normAux, List.contains_nil]
    induction n with
    | zero => rfl
    | succ k ih => simp [List.replicate_succ]
  | i :: rest, n => by
    have hrep : ∀ k : Nat, ∀ t : List SInstr,
        (List.replicate k SInstr.incStarted ++ t).contains .waitOrReturnCtxErr = t.contains .waitOrReturnCtxErr := by
      intro k t
      induction k with
      | zero => rfl
      | succ k ih => simp only [List.replicate_succ, List.cons_append, List.contains_cons, ih]; simp
    cases i <;> simp only [normAux, List.contains_cons, hrep, norm_contains_wait rest] <;> simp

/-- … also as the body of the loop -/
theorem norm_loop (firstOk : Bool) (body : List SInstr) : ∀ (as : List Bool) (s : SSt),
    execLoop firstOk (norm body) as s = execLoop firstOk body as s
  | [], _ => rfl
  | false :: _, _ => rfl
  | true :: as, s => by
    simp only [execLoop]
    rw [norm_exec, show (norm body).contains SInstr.waitOrReturnCtxErr = body.contains .waitOrReturnCtxErr from
      norm_contains_wait body 0]
    exact norm_loop firstOk body as _

/-- the three lists may be normalised -/
theorem norm_start (pre loop post : List SInstr) (answers : List Bool) (firstOk : Bool) :
    execStart (norm pre) (norm loop) (norm post) answers firstOk = execStart pre loop post answers firstOk := by
  simp only [execStart, norm_exec, norm_loop]

end Pandora.Proofs.C03Start
