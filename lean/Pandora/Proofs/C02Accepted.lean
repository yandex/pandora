/-
C02 — COMPOSITION with C01 (imported read-only).

C01 proves, over the definitions regenerated from core/schedule (`Gen/Schedule.lean`), what every ACCEPTED
once/const/line/step configuration builds (`Realises`: count = ⌊∫ rate⌋, operation k at the ns-truncation of the
earliest instant at which the integral reaches k, inside [0, D]).  The C02 theorems about times ("times returned to
one caller never decrease") take the well-formedness of the parts (`Part.wf`: offsets sorted, inside [0, dur]) as a
HYPOTHESIS.  Here that hypothesis is discharged from C01's theorems: read through `toTree` (Bridge/C02IStep), every
schedule built from accepted configurations — and any composite of such — is a tree all of whose parts are
well formed.  So a change of const.go / line.go / step.go / once.go or of the `validate` tags that makes C01's
`Realises` fail re-opens these obligations too.
-/
import Pandora.Props.C01
import Pandora.Bridge.C02IStep
import Pandora.Proofs.C02Reach
import Pandora.Proofs.C02Sem

namespace Pandora.Proofs.C02R6
open Pandora Pandora.Gen.Schedule Pandora.Model.C02 Pandora.Spec.C02 Pandora.Bridge.C02IStep
open Pandora.Proofs.C02Flat Pandora.Proofs.C02Reach Pandora.Proofs.C02Sem Pandora.Model.C02.Par Pandora.Proofs.C02Par

/-- earliest instants are ordered like the levels they reach -/
theorem earliest_mono {c : ℝ → ℝ} {D : ℤ} {k k' x x' : ℝ} (h : Props.C01.EarliestAt c D k x)
    (h' : Props.C01.EarliestAt c D k' x') (hk : k ≤ k') : x ≤ x' := by
  by_contra hlt
  have hlt' : x' < x := not_le.mp hlt
  have := h.2.2.2 x' h'.1 hlt'
  rw [h'.2.2.1] at this
  linarith

/-- **a leaf that realises a profile (C01) is a well-formed part (C02)** -/
theorem realises_wf (s : Sched) (c : ℝ → ℝ) (D : ℤ) (hD : 0 ≤ D) (hs : Props.C01.Realises s c D) :
    ∀ p ∈ flat (toTree s), p.wf = true := by
  obtain ⟨n, f, rfl, hn, hk⟩ := hs
  intro p hp
  simp only [toTree, flat, List.mem_singleton] at hp
  subst hp
  simp only [Part.wf, Bool.and_eq_true, decide_eq_true_eq, List.all_eq_true]
  refine ⟨⟨sortedB_of_pairwise _ ?_, ?_⟩, hD⟩
  · rw [List.pairwise_map]
    refine List.Pairwise.imp_of_mem ?_ (List.pairwise_lt_range (n := n.toNat))
    intro a b ha hb hab
    have ha' : (a : ℤ) < n := by have := List.mem_range.mp ha; omega
    have hb' : (b : ℤ) < n := by have := List.mem_range.mp hb; omega
    obtain ⟨x, hx, hfx, _, _⟩ := hk (a : ℤ) (by omega) ha'
    obtain ⟨y, hy, hfy, _, _⟩ := hk (b : ℤ) (by omega) hb'
    have hxy : x ≤ y := earliest_mono hx hy (by exact_mod_cast (Nat.le_of_lt hab))
    show f (Int.ofNat a) ≤ f (Int.ofNat b)
    simp only [Int.ofNat_eq_natCast]
    rw [hfx, hfy]
    exact Int.floor_le_floor (by nlinarith)
  · intro o ho
    obtain ⟨k, hk', rfl⟩ := List.mem_map.mp ho
    have hk'' : (k : ℤ) < n := by have := List.mem_range.mp hk'; omega
    obtain ⟨_, _, _, h0, h1⟩ := hk (k : ℤ) (by omega) hk''
    simp only [Int.ofNat_eq_natCast]
    exact ⟨h0, h1⟩

/-- schedules built from ACCEPTED configurations (the `validate` tags regenerated by C01's area), and composites of them -/
inductive Accepted : Sched → Prop
  | once (n : ℤ) (h : OnceConfig_valid n) : Accepted (NewOnceConf n)
  | const (ops : ℝ) (D : ℤ) (h : ConstConfig_valid ops D) : Accepted (NewConstConf ops D)
  | line (f t : ℝ) (D : ℤ) (h : LineConfig_valid f t D) : Accepted (NewLineConf f t D)
  | step (f t : ℝ) (s D : ℤ) (h : StepConfig_valid f t s D) : Accepted (NewStepConf f t s D)
  | comp (l : List Sched) (h : ∀ s ∈ l, Accepted s) : Accepted (Sched.composite l)

theorem flatList_wf : ∀ (l : List Sched), (∀ s ∈ l, ∀ p ∈ flat (toTree s), p.wf = true) →
    ∀ p ∈ flatList (toTrees l), p.wf = true
  | [], _, p, hp => by simp [toTrees, flatList] at hp
  | s :: r, h, p, hp => by
      simp only [toTrees, flatList, List.mem_append] at hp
      rcases hp with hp | hp
      · exact h s (by simp) p hp
      · exact flatList_wf r (fun s' hs' => h s' (by simp [hs'])) p hp

theorem comp_wf (l : List Sched) (h : ∀ s ∈ l, ∀ p ∈ flat (toTree s), p.wf = true) :
    ∀ p ∈ flat (toTree (Sched.composite l)), p.wf = true := by
  intro p hp
  simp only [toTree, flat] at hp
  have := flatList_wf l h
  cases hfl : flatList (toTrees l) with
  | nil => rw [hfl] at hp; simp at hp; subst hp; rfl
  | cons a b => rw [hfl] at hp this; exact this p hp

theorem minTime_nonneg {D : ℤ} (h : MinTimeValidation (1000000 : ℤ) D) : 0 ≤ D := by
  unfold MinTimeValidation at h
  omega

theorem const_wf (ops : ℝ) (D : ℤ) (h : ConstConfig_valid ops D) : ∀ p ∈ flat (toTree (NewConstConf ops D)), p.wf = true :=
  realises_wf _ _ D (minTime_nonneg h.2) (Props.C01.C01_const ops D h)

/-- **every accepted schedule is a tree of well-formed parts** -/
theorem accepted_wf : ∀ (s : Sched), Accepted s → ∀ p ∈ flat (toTree s), p.wf = true
  | _, .once n h => by
      intro p hp
      have hn : n = ((n.toNat : ℕ) : ℤ) := by unfold OnceConfig_valid at h; omega
      rw [NewOnceConf, hn, once_tree] at hp
      simp only [flat, List.mem_singleton] at hp
      subst hp
      simp only [Part.wf, Bool.and_eq_true, decide_eq_true_eq, List.all_eq_true]
      refine ⟨⟨sortedB_of_pairwise _ ?_, ?_⟩, le_refl _⟩
      · exact List.pairwise_replicate.mpr (Or.inr (le_refl _))
      · intro o ho; have := List.eq_of_mem_replicate ho; subst this; exact ⟨le_refl _, le_refl _⟩
  | _, .const ops D h => const_wf ops D h
  | _, .line f t D h => realises_wf _ _ D (minTime_nonneg h.2.2) (Props.C01.C01_line f t D h).1
  | _, .step f t s D h => by
      obtain ⟨h1, h2, _, h4⟩ := Props.C01.C01_step f t s D h
      by_cases hft : f = t
      · rw [h1 hft]
        exact const_wf f D ⟨h.1, h.2.2.2⟩
      · rw [h2 hft]
        refine comp_wf _ ?_
        intro s' hs'
        obtain ⟨r, hr, rfl⟩ := List.mem_map.mp hs'
        exact const_wf r D (h4 r hr).2.2
  | _, .comp l h => comp_wf l (fun s hs => accepted_wf s (h s hs))

/-- **times never decrease for every accepted schedule**, any number of callers, any interleaving: the hypothesis
"the parts are well formed" of `times_mono` discharged from C01 -/
theorem accepted_times_mono (s : Sched) (h : Accepted s) (t0 : Int) (log : Log) (A : Abs) (hi : Int)
    (hr : Reach (.running (inst (flat (toTree s)) t0)) log A) (hm : LogMono hi log) : (times log).Pairwise (· ≤ ·) := by
  have hc := chain_inst (flat (toTree s)) t0 (accepted_wf s h)
  obtain ⟨_, _, _, hp, _⟩ := times_mono hc (Or.inr (inst_ne t0 (flat_ne _))) log A hi hr hm
  exact hp

/-- **end to end: profile → leaf → concurrent callers.**  A started leaf that realises a profile `c` (C01: every
accepted const / line configuration) hands out, to however many concurrent callers in whatever interleaving, as its
k-th ok result in return order the start time plus the ns-truncation of the earliest instant at which the integral of
the rate reaches k — each operation of the profile once, in order, never before its instant. -/
theorem profile_tokens (s : Sched) (c : ℝ → ℝ) (D : ℤ) (hs : Props.C01.Realises s c D) (t0 : Int)
    (log : Log) (A : Abs) (hr : Reach (.running (inst (flat (toTree s)) t0)) log A) :
    ((okToks log).length : ℤ) ≤ max ⌊c (Bridge.Schedule.secs D)⌋ 0 ∧
    ∀ (k : ℕ) (hk : k < (okToks log).length), ∃ x : ℝ, Props.C01.EarliestAt c D (k : ℝ) x ∧
      (okToks log)[k] = t0 + ⌊x * 1000000000⌋ ∧ t0 ≤ (okToks log)[k] ∧ (okToks log)[k] ≤ t0 + D := by
  obtain ⟨n, f, rfl, hn, hk⟩ := hs
  have hfin : (0 : Int) ≤ pendSegs (inst (flat (toTree (Sched.doAt D n f))) t0) := by
    simp [toTree, flat, inst, pendSegs]
  obtain ⟨segs, _, drawn, h1, _, h3⟩ := exactly_once log A hr
  obtain ⟨_, rfl⟩ := h3 hfin
  have htoks : finToks (inst (flat (toTree (Sched.doAt D n f))) t0) =
      (List.range n.toNat).map (fun (k : Nat) => t0 + f (Int.ofNat k)) := by
    simp [toTree, flat, inst, finToks, List.map_map, Function.comp_def]
  rw [htoks] at h1
  have hlen : (okToks log).length ≤ n.toNat := by
    have := congrArg List.length h1
    simp only [List.length_append, List.length_map, List.length_range] at this
    omega
  refine ⟨by rw [← hn]; omega, ?_⟩
  intro k hk'
  have hkn : (k : ℤ) < n := by omega
  obtain ⟨x, hx, hfx, h0, hDle⟩ := hk (k : ℤ) (by omega) hkn
  have hget : (okToks log)[k] = t0 + f (Int.ofNat k) := by
    have h2 : (okToks log ++ finToks segs)[k]? = some ((okToks log)[k]) := by
      rw [List.getElem?_append_left hk', List.getElem?_eq_getElem hk']
    rw [h1, List.getElem?_map, List.getElem?_range (by omega)] at h2
    simpa using h2.symm
  simp only [Int.ofNat_eq_natCast] at hget
  refine ⟨x, by exact_mod_cast hx, by rw [hget, hfx], by rw [hget]; omega, by rw [hget]; omega⟩

end Pandora.Proofs.C02R6
