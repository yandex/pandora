/-
C06 helper lemmas: invariant of `Engine.Run` over any number of pools (Model/C06Engine.lean).
-/
import Pandora.Model.C06Engine
import Pandora.Proofs.C06Pool

namespace Pandora.Proofs.C06Engine
open Pandora.Model.C06Engine Pandora.Proofs.C06Pool
open Pandora.Model.C06Pool (PSt PEv)

/-! ### counting -/

theorem countGot_le (n : Nat) (got : Nat → Bool) : countGot n got ≤ n := by
  induction n with
  | zero => simp [countGot]
  | succ n ih => simp only [countGot]; split <;> omega

theorem countGot_full (n : Nat) (got : Nat → Bool) (h : countGot n got = n) : ∀ j, j < n → got j = true := by
  induction n with
  | zero => intro j hj; omega
  | succ n ih =>
    simp only [countGot] at h
    have hle := countGot_le n got
    by_cases hg : got n = true
    · simp only [hg, if_true] at h
      intro j hj
      by_cases hjn : j = n
      · subst hjn; exact hg
      · exact ih (by omega) j (by omega)
    · simp only [hg] at h
      simp at h
      omega

theorem countGot_set_ge (n : Nat) (got : Nat → Bool) (j : Nat) (hj : n ≤ j) :
    countGot n (setGot got j) = countGot n got := by
  induction n with
  | zero => rfl
  | succ n ih =>
    simp only [countGot]
    rw [ih (by omega)]
    have : setGot got j n = got n := by simp [setGot]; intro h; omega
    rw [this]

theorem countGot_set (n : Nat) (got : Nat → Bool) (j : Nat) (hj : j < n) (hg : got j = false) :
    countGot n (setGot got j) = countGot n got + 1 := by
  induction n with
  | zero => omega
  | succ n ih =>
    simp only [countGot]
    by_cases hjn : j = n
    · subst hjn
      rw [countGot_set_ge j got j (Nat.le_refl _)]
      simp [setGot, hg]
    · rw [ih (by omega)]
      have : setGot got j n = got n := by simp [setGot]; intro h; omega
      rw [this]; omega

/-! ### the pool: `waitDone` is stable -/

theorem check_waitDone (st : PSt) : st.check.waitDone = st.waitDone := by
  unfold PSt.check; dsimp only; split <;> rfl

theorem waitDone_mono (st : PSt) (e : PEv) (h : st.waitDone = true) :
    (Pandora.Model.C06Pool.step st e).waitDone = true := by
  cases e <;> simp only [Pandora.Model.C06Pool.step] <;> (try split) <;> simp [check_waitDone, h]

/-! ### the engine -/

structure EngInv (st : ESt) : Prop where
  pinv : ∀ j, PInv (st.pools j).p
  retNil : ∀ j, (st.pools j).ret = some true → (st.pools j).p.waitDone = true
  chanLen : st.chan.length ≤ 1
  chanOk : ∀ j ok, (j, ok) ∈ st.chan →
    j < st.n ∧ (st.pools j).sent = true ∧ st.got j = false ∧ (ok = true → (st.pools j).ret = some true)
  gotOk : ∀ j, st.got j = true → j < st.n ∧ (st.pools j).sent = true ∧ (st.pools j).ret = some true
  cnt : st.i = countGot st.n st.got
  retOk : st.ret = some true → st.awaitN ≤ st.i

theorem enginv_init (n awaitN : Nat) : EngInv (init n awaitN 4) := by
  refine ⟨fun _ => pinv_init, ?_, ?_, ?_, ?_, ?_, ?_⟩
  · intro j h; simp [init] at h
  · simp [init]
  · intro j ok h; simp [init] at h
  · intro j h; simp [init] at h
  · show 0 = countGot n (fun _ => false)
    induction n with
    | zero => rfl
    | succ n ih => simp [countGot, ← ih]
  · intro h; simp [init] at h

theorem setPool_same (f : Nat → PoolSt) (j : Nat) (x : PoolSt) : setPool f j x j = x := by simp [setPool]

/-- a property of every pool survives the replacement of pool `j` by a state that has it -/
theorem setPool_all {P : Nat → PoolSt → Prop} {f : Nat → PoolSt} (h : ∀ k, P k (f k)) {j : Nat} {x : PoolSt}
    (hx : P j x) : ∀ k, P k (setPool f j x k) := by
  intro k
  unfold setPool
  split
  · next hk => exact hk ▸ hx
  · exact h k

/-- replacing pool `j` by a state that keeps what the engine-level invariant says about it -/
theorem pools_update {st : ESt} (h : EngInv st) (j : Nat) (x : PoolSt)
    (hp : PInv x.p) (hret : x.ret = some true → x.p.waitDone = true)
    (hsent : (st.pools j).sent = true → x.sent = true)
    (hkeep : (st.pools j).ret = some true → x.ret = some true) :
    EngInv { st with pools := setPool st.pools j x } :=
  { h with
    pinv := setPool_all (P := fun _ y => PInv y.p) h.pinv hp
    retNil := setPool_all (P := fun _ y => y.ret = some true → y.p.waitDone = true) h.retNil hret
    chanOk := setPool_all (P := fun k y => ∀ ok, (k, ok) ∈ st.chan →
        k < st.n ∧ y.sent = true ∧ st.got k = false ∧ (ok = true → y.ret = some true)) h.chanOk
      (fun ok hm => let ⟨a, b, c, d⟩ := h.chanOk j ok hm; ⟨a, hsent b, c, fun e => hkeep (d e)⟩)
    gotOk := setPool_all (P := fun k y => st.got k = true → k < st.n ∧ y.sent = true ∧ y.ret = some true) h.gotOk
      (fun hg => let ⟨a, b, c⟩ := h.gotOk j hg; ⟨a, hsent b, hkeep c⟩) }

theorem enginv_step {st : ESt} (h : EngInv st) (e : EEv) : EngInv (step st e) := by
  cases e with
  | pool j e =>
    simp only [step]
    exact pools_update h j _ (pinv_step (h.pinv j) e) (fun hr => waitDone_mono _ e (h.retNil j hr)) id id
  | poolRetClosed j =>
    simp only [step]
    split
    · rename_i hc
      exact pools_update h j _ (h.pinv j) (fun _ => hc.2) id (fun _ => rfl)
    · exact h
  | poolRetErr j =>
    simp only [step]
    split
    · rename_i hr
      exact pools_update h j _ (h.pinv j) (fun hx => by simp at hx) id (fun hx => by rw [hr] at hx; cases hx)
    · exact h
  | poolSuppress j =>
    simp only [step]
    split
    · split
      · exact pools_update h j _ (h.pinv j) (h.retNil j) (fun _ => rfl) id
      · exact h
    · exact h
  | poolSend j =>
    simp only [step]
    split
    · next ok hr =>
      split
      · next hc =>
        obtain ⟨hj, hs, hch⟩ := hc
        have hu := pools_update h j { st.pools j with sent := true } (h.pinv j) (h.retNil j) (fun _ => rfl) id
        refine { hu with chanLen := by simp, chanOk := fun k ok' hm => ?_ }
        obtain ⟨rfl, rfl⟩ := Prod.mk.inj (List.mem_singleton.mp hm)
        show k < st.n ∧ (setPool st.pools k { st.pools k with sent := true } k).sent = true ∧ st.got k = false ∧
          (ok' = true → (setPool st.pools k { st.pools k with sent := true } k).ret = some true)
        rw [setPool_same]
        refine ⟨hj, rfl, ?_, fun hx => hx ▸ hr⟩
        cases hg : st.got k with
        | false => rfl
        | true => have := (h.gotOk k hg).2.1; rw [hs] at this; cases this
      · exact h
    · exact h
  | engRecv =>
    simp only [step]
    split
    · next hc =>
      -- the channel holds at most one result
      have hrest : ∀ x rest, st.chan = x :: rest → rest = [] := fun x rest hch => by
        have h3 := h.chanLen; rw [hch] at h3
        simp only [List.length_cons] at h3
        exact List.eq_nil_of_length_eq_zero (by omega)
      split
      · next j rest hch =>
        -- a nil result of pool j
        obtain ⟨a, b, c, d⟩ := h.chanOk j true (by rw [hch]; simp)
        have hrest := hrest _ _ hch
        exact { h with
          chanLen := by simp [hrest]
          chanOk := fun k ok hm => by rw [hrest] at hm; simp at hm
          gotOk := fun k hg => by
            by_cases hk : k = j
            · subst hk; exact ⟨a, b, d rfl⟩
            · exact h.gotOk k (by simpa [setGot, hk] using hg)
          cnt := by show st.i + 1 = countGot st.n (setGot st.got j); rw [countGot_set st.n st.got j a c, h.cnt]
          retOk := fun hx => by rw [hc.1] at hx; cases hx }
      · next j rest hch =>
        have hrest := hrest _ _ hch
        exact { h with
          chanLen := by simp [hrest]
          chanOk := fun k ok hm => by rw [hrest] at hm; simp at hm
          retOk := fun hx => by simp at hx }
      · exact h
    · exact h
  | engCtxDone =>
    simp only [step]
    split
    · exact { h with retOk := fun hx => by simp at hx }
    · exact h
  | engRetNil =>
    simp only [step]
    split
    · next hc => exact { h with retOk := fun _ => by have := hc.2; show st.awaitN ≤ st.i; omega }
    · exact h

theorem enginv_run (tr : List EEv) {st : ESt} (h : EngInv st) : EngInv (run st tr) := by
  induction tr generalizing st with
  | nil => exact h
  | cons e es ih => exact ih (enginv_step h e)

theorem n_step (st : ESt) (e : EEv) : (step st e).n = st.n ∧ (step st e).awaitN = st.awaitN := by
  cases e <;> simp only [step] <;> (repeat' split) <;> simp

theorem n_run (tr : List EEv) (st : ESt) : (run st tr).n = st.n ∧ (run st tr).awaitN = st.awaitN := by
  induction tr generalizing st with
  | nil => exact ⟨rfl, rfl⟩
  | cons e es ih =>
    have := n_step st e
    have := ih (step st e)
    simp only [run]
    constructor <;> omega

end Pandora.Proofs.C06Engine
