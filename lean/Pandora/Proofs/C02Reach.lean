/-
C02 — from "the log is a run of the atomic flat spec" (`Reach`) to the clauses of the token contract.
-/
import Pandora.Proofs.C02Par

set_option linter.unusedVariables false

namespace Pandora.Proofs.C02Reach
open Pandora.Model.C02 Pandora.Model.C02.Par Pandora.Spec.C02 Pandora.Proofs.C02Flat Pandora.Proofs.C02Sem
open Pandora.Proofs.C02Par

abbrev Log := List (Nat × Int × Out)

/-- one logged action on a running schedule -/
def RStep (segs : List Seg) (e : Nat × Int × Out) (segs' : List Seg) : Prop :=
  match e.2.2 with
  | .ret (.tok tx ok) => segNext segs e.2.1 = (segs', tx, ok)
  | .ret (.cnt n) => segLeft segs e.2.1 = n ∧ segs' = segs
  | .ret (.panic _) => False
  | .goto _ => segs' = segs

theorem absStep_running {segs : List Seg} {e : Nat × Int × Out} {A' : Abs} (h : AbsStep (.running segs) e.2.1 e.2.2 A') :
    ∃ segs', A' = .running segs' ∧ RStep segs e segs' := by
  obtain ⟨i, now, out⟩ := e
  cases out with
  | ret r =>
    cases r with
    | tok tx ok =>
      simp only [AbsStep, absNext, Abs.segsAt, Prod.mk.injEq] at h
      obtain ⟨h1, h2⟩ := h
      exact ⟨(segNext segs now).1, h1.symm, by simp only [RStep]; exact Prod.ext rfl h2⟩
    | cnt n => exact ⟨segs, h.2, h.1, rfl⟩
    | panic m => exact absurd h (by simp [AbsStep])
  | goto pc =>
    rcases h with h | ⟨parts, h, _⟩
    · exact ⟨segs, h, rfl⟩
    · cases h

/-- a logged action leaves the running schedule alone and is no `Next` result, or it is a `Next` of the flat spec -/
theorem rstep_cases {segs segs' : List Seg} {e : Nat × Int × Out} (h : RStep segs e segs') :
    (segs' = segs ∧ ∀ tx ok, e.2.2 ≠ .ret (.tok tx ok)) ∨
    ∃ tx ok, e.2.2 = .ret (.tok tx ok) ∧ segNextAux 0 segs e.2.1 = (segs', tx, ok) := by
  obtain ⟨i, now, out⟩ := e
  match out, h with
  | .goto _, h => exact Or.inl ⟨h, fun _ _ => nofun⟩
  | .ret (.cnt _), h => exact Or.inl ⟨h.2, fun _ _ => nofun⟩
  | .ret (.tok tx ok), h => exact Or.inr ⟨tx, ok, rfl, h⟩

/-- induction along a running log -/
theorem reach_induct {segs0 : List Seg} (P : List Seg → Log → Prop) (h0 : P segs0 [])
    (hstep : ∀ segs log e segs', P segs log → RStep segs e segs' → P segs' (e :: log)) :
    ∀ (log : Log) (A : Abs), Reach (.running segs0) log A → ∃ segs, A = .running segs ∧ P segs log
  | [], A, h => ⟨segs0, h, h0⟩
  | e :: older, A, ⟨A1, hr, hs⟩ => by
      obtain ⟨segs1, rfl, hp⟩ := reach_induct P h0 hstep older A1 hr
      obtain ⟨segs', rfl, hrs⟩ := absStep_running hs
      exact ⟨segs', rfl, hstep segs1 older e segs' hp hrs⟩

theorem reach_split {A0 : Abs} : ∀ (newer older : Log) (A : Abs), Reach A0 (newer ++ older) A →
    ∃ A1, Reach A0 older A1 ∧ Reach A1 newer A
  | [], older, A, h => ⟨A, h, rfl⟩
  | e :: newer, older, A, ⟨A2, hr, hs⟩ => by
      obtain ⟨A1, h1, h2⟩ := reach_split newer older A2 hr
      exact ⟨A1, h1, A2, h2, hs⟩

/-! ### the tokens handed out -/

def okTok (e : Nat × Int × Out) : Option Int :=
  match e.2.2 with
  | .ret (.tok tx true) => some tx
  | _ => none

/-- tokens handed out so far, oldest first -/
def okToks (log : Log) : List Int := log.reverse.filterMap okTok

theorem okToks_cons (e : Nat × Int × Out) (log : Log) : okToks (e :: log) = okToks log ++ (okTok e).toList := by
  unfold okToks
  rw [List.reverse_cons, List.filterMap_append]
  congr 1

theorem okTok_of_noTok {e : Nat × Int × Out} (h : ∀ tx ok, e.2.2 ≠ .ret (.tok tx ok)) : okTok e = none := by
  unfold okTok
  split
  · rename_i tx h'; exact absurd h' (h tx true)
  · rfl

theorem pendSegs_next : ∀ (a : List Seg) (l now : Int), 0 ≤ pendSegs a → 0 ≤ pendSegs (segNextAux l a now).1
  | [], _, _, h => h
  | .unl _ _ :: _, _, _, h => by simp [pendSegs] at h
  | .fin (t :: ts) f :: r, _, _, h => by
      have hp := pendSegs_ge r
      simp only [pendSegs, List.length_cons] at h
      simp only [segNextAux, pendSegs]
      split at h
      · omega
      · rename_i hu; simp only [hu, if_false]; omega
  | .fin [] f :: r, l, now, h => by
      have hp := pendSegs_ge r
      simp only [pendSegs] at h
      have hr : 0 ≤ pendSegs r := by
        split at h <;> omega
      have ih := pendSegs_next r f now hr
      simp only [segNextAux, pendSegs]
      have : ¬ pendSegs (segNextAux f r now).1 < 0 := by omega
      simp only [this, if_false, List.length_nil]; omega

theorem unlTok_absurd {a : List Seg} {now tx : Int} (h : UnlTok a now tx) (hp : 0 ≤ pendSegs a) : False := by
  obtain ⟨pre, s, f, post, rfl, _, _, _⟩ := h
  rw [pendSegs_append] at hp
  have : pendSegs (Seg.unl s f :: post) < 0 := by simp [pendSegs]
  simp [this] at hp

/-- exactly once, general form -/
theorem exactly_once {segs0 : List Seg} (log : Log) (A : Abs) (h : Reach (.running segs0) log A) :
    ∃ segs, A = .running segs ∧ ∃ drawn, drawn ++ finToks segs = finToks segs0 ∧ drawn.Sublist (okToks log) ∧
      (0 ≤ pendSegs segs0 → 0 ≤ pendSegs segs ∧ drawn = okToks log) := by
  refine reach_induct (fun segs log => ∃ drawn, drawn ++ finToks segs = finToks segs0 ∧ drawn.Sublist (okToks log) ∧
      (0 ≤ pendSegs segs0 → 0 ≤ pendSegs segs ∧ drawn = okToks log)) ⟨[], rfl, by simp [okToks], fun h => ⟨h, by simp [okToks]⟩⟩ ?_ log A h
  rintro segs log e segs' ⟨drawn, hd, hsub, hfin⟩ hs
  rw [okToks_cons]
  rcases rstep_cases hs with ⟨rfl, hno⟩ | ⟨tx, ok, he, hs⟩
  · rw [okTok_of_noTok hno]
    exact ⟨drawn, hd, by simpa using hsub, fun h => by simpa using hfin h⟩
  · obtain ⟨i, now, out⟩ := e
    simp only at he hs
    subst he
    have h1 : (segNextAux 0 segs now).1 = segs' := congrArg Prod.fst hs
    have h2 : (segNextAux 0 segs now).2.1 = tx := congrArg (fun x => x.2.1) hs
    have h3 : (segNextAux 0 segs now).2.2 = ok := congrArg (fun x => x.2.2) hs
    rcases segNextAux_finToks segs 0 now with ⟨hok, hpop⟩ | ⟨hsame, hunl⟩
    · rw [h1, h2] at hpop
      rw [h3] at hok; subst hok
      refine ⟨drawn ++ [tx], by rw [List.append_assoc, ← hd, hpop]; rfl, ?_, fun h => ?_⟩
      · simpa [okTok] using List.Sublist.append hsub (List.Sublist.refl [tx])
      · obtain ⟨hp, he⟩ := hfin h
        exact ⟨by rw [← h1]; exact pendSegs_next segs 0 now hp, by simp [okTok, he]⟩
    · rw [h1] at hsame
      refine ⟨drawn, by rw [hsame]; exact hd, ?_, fun h => ?_⟩
      · exact hsub.trans (List.sublist_append_left _ _)
      · obtain ⟨hp, he⟩ := hfin h
        refine ⟨by rw [← h1]; exact pendSegs_next segs 0 now hp, ?_⟩
        cases ok with
        | false => simp [okTok, he]
        | true =>
          rw [h3] at hunl
          exact absurd (hunl rfl) (fun hu => unlTok_absurd hu hp)

/-- once every part is exhausted or finished nothing more is handed out, as long as the clock does not go back -/
theorem dead_reach {segs0 : List Seg} {clk : Int} (hd : Dead segs0 clk) (log : Log) (A : Abs)
    (h : Reach (.running segs0) log A) (hclk : ∀ x ∈ log, clk ≤ x.2.1) : ∀ x ∈ log, okTok x = none := by
  suffices hstep : ∀ segs log e segs', ((∀ x ∈ log, clk ≤ x.2.1) → Dead segs clk ∧ ∀ x ∈ log, okTok x = none) →
      RStep segs e segs' → (∀ x ∈ e :: log, clk ≤ x.2.1) → Dead segs' clk ∧ ∀ x ∈ e :: log, okTok x = none by
    obtain ⟨_, _, hP⟩ := reach_induct _ (fun _ => ⟨hd, fun _ hx => nomatch hx⟩) hstep log A h
    exact (hP hclk).2
  rintro segs log e segs' hP hrs hc
  obtain ⟨hd1, hall⟩ := hP (fun x hx => hc x (List.mem_cons_of_mem _ hx))
  have key : Dead segs' clk ∧ okTok e = none := by
    rcases rstep_cases hrs with ⟨rfl, hno⟩ | ⟨tx, ok, he, hs⟩
    · exact ⟨hd1, okTok_of_noTok hno⟩
    · rw [segNextAux_dead segs 0 clk e.2.1 hd1 (hc _ List.mem_cons_self)] at hs
      cases hs
      exact ⟨hd1, by unfold okTok; rw [he]⟩
  exact ⟨key.1, List.forall_mem_cons.mpr ⟨key.2, hall⟩⟩

/-! ### finish time -/

theorem finish_stable {segs0 : List Seg} (hne : segs0 ≠ []) (log : Log) (A : Abs) (h : Reach (.running segs0) log A) :
    ∃ segs, A = .running segs ∧ (segs ≠ [] ∧ finOf segs 0 = finOf segs0 0) ∧
      ∀ e ∈ log, ∀ tx, e.2.2 = .ret (.tok tx false) → tx = finOf segs0 0 := by
  refine reach_induct (fun segs log => (segs ≠ [] ∧ finOf segs 0 = finOf segs0 0) ∧
      ∀ e ∈ log, ∀ tx, e.2.2 = .ret (.tok tx false) → tx = finOf segs0 0) ⟨⟨hne, rfl⟩, by simp⟩ ?_ log A h
  rintro segs log e segs' ⟨⟨hn, hf⟩, hall⟩ hs
  rcases rstep_cases hs with ⟨rfl, hno⟩ | ⟨tx, ok, he, hs⟩
  · exact ⟨⟨hn, hf⟩, List.forall_mem_cons.mpr ⟨fun tx hx => absurd hx (hno tx false), hall⟩⟩
  · have h1 : (segNextAux 0 segs e.2.1).1 = segs' := congrArg Prod.fst hs
    refine ⟨⟨by rw [← h1]; exact segNextAux_ne segs 0 _ hn, by rw [← h1, finOf_segNextAux]; exact hf⟩,
      List.forall_mem_cons.mpr ⟨fun tx' hx => ?_, hall⟩⟩
    rw [he] at hx
    cases hx
    obtain ⟨_, _, hfin⟩ := segNextAux_notok segs 0 _ (congrArg (fun x => x.2.2) hs)
    rw [← show (segNextAux 0 segs e.2.1).2.1 = tx from congrArg (fun x => x.2.1) hs, hfin, hf]

/-! ### times never decrease -/

def tokTime (e : Nat × Int × Out) : Option Int :=
  match e.2.2 with
  | .ret (.tok tx _) => some tx
  | _ => none

/-- every time returned by a `Next`, ok or not, oldest first -/
def times (log : Log) : List Int := log.reverse.filterMap tokTime

/-- clock readings of the log never go back (newest first) and are at most `hi` -/
def LogMono : Int → Log → Prop
  | _, [] => True
  | hi, e :: older => e.2.1 ≤ hi ∧ LogMono e.2.1 older

theorem logMono_mono {hi hi' : Int} : ∀ {log : Log}, LogMono hi log → hi ≤ hi' → LogMono hi' log
  | [], _, _ => trivial
  | _ :: _, h, hle => ⟨Int.le_trans h.1 hle, h.2⟩

theorem logMono_le : ∀ (log : Log) (hi : Int), LogMono hi log → ∀ x ∈ log, x.2.1 ≤ hi
  | [], _, _, _, hx => nomatch hx
  | _ :: ys, _, hm, x, hx => by
      rcases List.mem_cons.mp hx with rfl | hx
      · exact hm.1
      · exact Int.le_trans (logMono_le ys _ hm.2 x hx) hm.1

theorem times_cons (e : Nat × Int × Out) (log : Log) : times (e :: log) = times log ++ (tokTime e).toList := by
  unfold times
  rw [List.reverse_cons, List.filterMap_append]
  congr 1

theorem tokTime_of_noTok {e : Nat × Int × Out} (h : ∀ tx ok, e.2.2 ≠ .ret (.tok tx ok)) : tokTime e = none := by
  unfold tokTime
  split
  · rename_i tx ok h'; exact absurd h' (h tx ok)
  · rfl

theorem times_mono {segs0 : List Seg} {b : Int} (hc : Chain b segs0) (hb : b ≤ 0 ∨ segs0 ≠ []) :
    ∀ (log : Log) (A : Abs) (hi : Int), Reach (.running segs0) log A → LogMono hi log →
    ∃ segs, A = .running segs ∧ Chain b segs ∧ (times log).Pairwise (· ≤ ·) ∧
      (∀ t ∈ times log, ∀ now, hi ≤ now → t ≤ (segNextAux (max b 0) segs now).2.1)
  | [], A, hi, h, _ => ⟨segs0, h, hc, by simp [times], by simp [times]⟩
  | e :: older, A, hi, ⟨A1, hr, hs⟩, hm => by
      obtain ⟨i, now, out⟩ := e
      obtain ⟨segs1, rfl, hc1, hpw, hfut⟩ := times_mono hc hb older A1 now hr hm.2
      obtain ⟨segs', rfl, hrs⟩ := absStep_running hs
      have hle : now ≤ hi := hm.1
      rw [times_cons]
      rcases rstep_cases hrs with ⟨rfl, hno⟩ | ⟨tx, ok, he, hn⟩
      · rw [tokTime_of_noTok hno]
        exact ⟨_, rfl, hc1, by simpa using hpw, fun t ht nw hnw => hfut t (by simpa using ht) nw (by omega)⟩
      · simp only at he hn
        subst he
        have hd : segNextAux 0 segs1 now = segNextAux (max b 0) segs1 now := by
          by_cases hne : segs1 = []
          · subst hne
            rcases hb with hb | hb
            · rw [show max b 0 = 0 by omega]
            · -- the list never becomes empty
              obtain ⟨s, hs', ⟨hn, _⟩, _⟩ := finish_stable hb older (.running []) hr
              cases hs'
              exact absurd rfl hn
          · exact segNextAux_default 0 (max b 0) now hne
        rw [hd] at hn
        have h1 : (segNextAux (max b 0) segs1 now).1 = segs' := congrArg Prod.fst hn
        have h2 : (segNextAux (max b 0) segs1 now).2.1 = tx := congrArg (fun x => x.2.1) hn
        have hcn := chain_next segs1 b (max b 0) now hc1 (by omega)
        refine ⟨segs', rfl, by rw [← h1]; exact hcn.2, ?_, ?_⟩
        · simp only [tokTime, Option.toList]
          exact List.pairwise_append.mpr ⟨hpw, List.pairwise_singleton _ _, fun t ht b hb => by
            rw [List.mem_singleton.mp hb, ← h2]; exact hfut t ht now (Int.le_refl _)⟩
        · intro t ht nw hnw
          simp only [tokTime, Option.toList, List.mem_append, List.mem_singleton] at ht
          have hm2 := chain_mono segs1 b (max b 0) now nw hc1 (by omega) (by omega)
          rw [h1, h2] at hm2
          rcases ht with ht | rfl
          · have := hfut t ht now (Int.le_refl _)
            rw [h2] at this
            omega
          · exact hm2

/-! ### an unstarted schedule: it is started at one clock reading, then it is a running schedule -/

def noTok (e : Nat × Int × Out) : Prop := ∀ tx ok, e.2.2 ≠ .ret (.tok tx ok)

theorem reach_unstarted {parts : List Part} : ∀ (log : Log) (A : Abs), Reach (.unstarted parts) log A →
    (A = .unstarted parts ∧ ∀ e ∈ log, noTok e) ∨
    ∃ t l2 l1, log = l2 ++ l1 ∧ Reach (.running (inst parts t)) l2 A ∧ (∀ e ∈ l1, noTok e)
  | [], A, h => Or.inl ⟨h, by simp⟩
  | e :: older, A, ⟨A1, hr, hs⟩ => by
      obtain ⟨i, now, out⟩ := e
      rcases reach_unstarted older A1 hr with ⟨rfl, hno⟩ | ⟨t, l2, l1, rfl, hr2, hno⟩
      · cases out with
        | goto pc =>
          have hn : ∀ x ∈ (i, now, Out.goto pc) :: older, noTok x := List.forall_mem_cons.mpr ⟨fun _ _ => nofun, hno⟩
          rcases hs with rfl | ⟨p, hp, rfl⟩
          · exact Or.inl ⟨rfl, hn⟩
          · cases hp
            exact Or.inr ⟨now, [], _, rfl, rfl, hn⟩
        | ret r =>
          cases r with
          | panic m => exact hs.elim
          | cnt n =>
            obtain ⟨_, rfl⟩ := hs
            exact Or.inl ⟨rfl, List.forall_mem_cons.mpr ⟨fun _ _ => nofun, hno⟩⟩
          | tok tx ok =>
            exact Or.inr ⟨now, [(i, now, .ret (.tok tx ok))], older, rfl, ⟨.running (inst parts now), rfl, hs⟩, hno⟩
      · exact Or.inr ⟨t, (i, now, out) :: l2, l1, rfl, ⟨A1, hr2, hs⟩, hno⟩

/-! ### no caller panics -/

theorem no_panic {A0 : Abs} : ∀ (log : Log) (A : Abs), Reach A0 log A → ∀ e ∈ log, ∀ m, e.2.2 ≠ .ret (.panic m)
  | [], _, _ => by simp
  | e :: older, A, ⟨A1, hr, hs⟩ => by
      intro e' he' m hm
      rcases List.mem_cons.mp he' with rfl | he'
      · rw [hm] at hs; exact hs
      · exact no_panic older A1 hr e' he' m hm

/-! ### instance_step: its loop is `k` rounds of (token-less part, once(step)) -/

theorem flatList_isLoop (to step : Nat) (dur : Int) : ∀ (fuel i : Nat),
    ∃ k, flatList (instanceStepLoop to step dur fuel i) =
      (List.replicate k [Part.fin [] dur, Part.fin (List.replicate step 0) 0]).flatten
  | 0, _ => ⟨0, rfl⟩
  | fuel + 1, i => by
      simp only [instanceStepLoop]
      split
      · obtain ⟨k, hk⟩ := flatList_isLoop to step dur fuel (i + step)
        exact ⟨k + 1, by simp [flatList, flat, hk, List.replicate_succ]⟩
      · exact ⟨0, rfl⟩

end Pandora.Proofs.C02Reach
