/-
C04 — helper lemmas for several instances on one shared schedule (`pstep`/`prun` of `Pandora.Model.C04`):
conservation of tokens, every handed-out token is acted on exactly once by the instance that drew it, and the
schedule is empty once an instance has left its loop in a run without cancellation.  Core Lean only.
-/
import Pandora.Proofs.C04

namespace Pandora.Proofs.C04
open Pandora.Go.C04 Pandora.Model.C04

/-! ### appending a pass to a history -/

/-- waiter state after the passes of `h` (meaningful when no pass of `h` ends the loop) -/
def finalW (v : Variant) (w : Waiter) (h : List Iter) : Waiter := h.foldl (fun w it => (waitV v w it.env).w) w

def Body (h : List Iter) : Prop := ∀ it ∈ h, it.finished = false ∧ it.ammoOk = true

theorem runLoop_append_events (v : Variant) (d : Bool) (w : Waiter) (h : List Iter) (x : Iter) (hb : Body h) :
    (runLoop v d w (h ++ [x])).1 = (runLoop v d w h).1 ++ (runLoop v d (finalW v w h) [x]).1 := by
  induction h generalizing w with
  | nil => show (runLoop v d w [x]).1 = [] ++ (runLoop v d w [x]).1; rfl
  | cons it rest ih =>
    have hit := hb it (by simp)
    have hrest : Body rest := fun y hy => hb y (by simp [hy])
    simp only [List.cons_append, finalW, List.foldl_cons]
    rw [runLoop, runLoop]
    simp only [hit.1, hit.2]
    by_cases hk : (waitV v w it.env).ok = true
    · simp [hk]; exact ih _ hrest
    · simp [hk]; exact ih _ hrest

theorem drawn_append (v : Variant) (w : Waiter) (h : List Iter) (x : Iter) (hb : Body h) :
    drawn v w (h ++ [x]) = drawn v w h ++ drawn v (finalW v w h) [x] := by
  simp only [← runLoop_iters v true, runLoop_append_events v true w h x hb, List.map_append]

/-! ### invariants of the pool -/

@[simp] theorem record_sched (st : PState) (i : Nat) (ph : Phase) (x : Iter) : (st.record i ph x).sched = st.sched := rfl
@[simp] theorem record_out (st : PState) (i : Nat) (ph : Phase) (x : Iter) : (st.record i ph x).out = st.out := rfl
theorem record_phase_same (st : PState) (i : Nat) (ph : Phase) (x : Iter) : (st.record i ph x).phase i = ph := by
  simp [PState.record, upd]
theorem record_phase_other (st : PState) (i j : Nat) (ph : Phase) (x : Iter) (h : j ≠ i) :
    (st.record i ph x).phase j = st.phase j := by simp [PState.record, upd, h]
theorem record_hist_same (st : PState) (i : Nat) (ph : Phase) (x : Iter) : (st.record i ph x).hist i = st.hist i ++ [x] := by
  simp [PState.record, upd]
theorem record_hist_other (st : PState) (i j : Nat) (ph : Phase) (x : Iter) (h : j ≠ i) :
    (st.record i ph x).hist j = st.hist j := by simp [PState.record, upd, h]

/-- no token is invented, lost or handed out twice: handed-out tokens followed by the remaining ones are the schedule
(every interleaving, cancellation included) -/
theorem pstep_conserves (st : PState) (s : PStep) :
    (pstep st s).out.map Prod.snd ++ (pstep st s).sched = st.out.map Prod.snd ++ st.sched := by
  unfold pstep
  cases st.phase s.inst with
  | exited => rfl
  | head => simp only []; (repeat' split) <;> rfl
  | waiting =>
    simp only []
    split
    · rfl
    · cases hs : st.sched with
      | nil => simp [hs]
      | cons t rest => simp

theorem prun_conserves (st : PState) (steps : List PStep) :
    (prun st steps).out.map Prod.snd ++ (prun st steps).sched = st.out.map Prod.snd ++ st.sched := by
  induction steps generalizing st with
  | nil => rfl
  | cons s rest ih => simp only [prun, List.foldl_cons] at ih ⊢; rw [ih, pstep_conserves]

/-- the schedule only shrinks -/
theorem pstep_sched_nil (st : PState) (s : PStep) (h : st.sched = []) : (pstep st s).sched = [] := by
  unfold pstep
  cases st.phase s.inst with
  | exited => exact h
  | head => simp only []; (repeat' split) <;> simpa using h
  | waiting => simp only [h]; split <;> simpa using h

/-- a step of a run without cancellation and with ammo available -/
def Calm (s : PStep) : Prop :=
  s.ctxDoneHead = false ∧ s.it.ammoOk = true ∧ s.it.env.ctxDone = false ∧ s.it.env.timerWins = true

instance (s : PStep) : Decidable (Calm s) := by unfold Calm; exact inferInstance

/-- the tokens handed to instance `i`, in order -/
def ownToks (st : PState) (i : Nat) : List Int := (st.out.filter (fun p => p.1 == i)).map Prod.snd

structure PInv (v : Variant) (st : PState) : Prop where
  body : ∀ i, st.phase i ≠ .exited → Body (st.hist i)
  drawnEq : ∀ i, (drawn v Waiter.init (st.hist i)).map Iter.tok = ownToks st i
  drained : ∀ i, st.phase i = .exited → st.sched = []

theorem PInv.init (v : Variant) (toks : List Int) : PInv v (PState.init toks) :=
  ⟨fun _ _ it hit => by simp [PState.init] at hit, fun _ => by simp [PState.init, drawn, ownToks],
   fun _ h => by simp [PState.init] at h⟩

theorem Body.snoc {h : List Iter} {x : Iter} (hb : Body h) (hx : x.finished = false ∧ x.ammoOk = true) : Body (h ++ [x]) := by
  intro it hit
  simp at hit
  rcases hit with hit | rfl
  · exact hb it hit
  · exact hx

/-- recording a pass for instance `k` that draws no token keeps the invariant's first two parts -/
theorem record_inv_no_token (v : Variant) (st : PState) (k : Nat) (ph : Phase) (x : Iter) (hi : PInv v st)
    (hk : st.phase k ≠ .exited) (hx : drawn v (finalW v Waiter.init (st.hist k)) [x] = [])
    (hbx : ph ≠ .exited → x.finished = false ∧ x.ammoOk = true) :
    (∀ i, (st.record k ph x).phase i ≠ .exited → Body ((st.record k ph x).hist i)) ∧
    (∀ i, (drawn v Waiter.init ((st.record k ph x).hist i)).map Iter.tok = ownToks (st.record k ph x) i) := by
  have hbody := hi.body k hk
  refine ⟨fun i hne => ?_, fun i => ?_⟩
  · by_cases hie : i = k
    · subst hie
      rw [record_phase_same] at hne
      rw [record_hist_same]
      exact hbody.snoc (hbx hne)
    · rw [record_phase_other _ _ _ _ _ hie] at hne
      rw [record_hist_other _ _ _ _ _ hie]
      exact hi.body i hne
  · by_cases hie : i = k
    · subst hie
      rw [record_hist_same, drawn_append v _ _ _ hbody, hx]
      simpa [ownToks] using hi.drawnEq i
    · rw [record_hist_other _ _ _ _ _ hie]
      simpa [ownToks] using hi.drawnEq i

theorem pstep_inv (v : Variant) (st : PState) (s : PStep) (hi : PInv v st) (hs : Calm s) : PInv v (pstep st s) := by
  obtain ⟨hch, hammo, hctx, htw⟩ := hs
  unfold pstep
  cases hph : st.phase s.inst with
  | exited => simpa using hi
  | head =>
    have hk : st.phase s.inst ≠ .exited := by simp [hph]
    simp only []
    by_cases hfin : isFinished s.ctxDoneHead st.sched.length = true
    · -- the loop of this instance ends: Left() == 0
      have hnil : st.sched = [] := by
        simp only [isFinished, hch] at hfin
        simpa using hfin
      simp only [hfin, if_true]
      obtain ⟨h1, h2⟩ := record_inv_no_token v st s.inst .exited (exitPass s.it true) hi hk
        (drawn_stop v _ _ [] (Or.inl rfl)) (fun h => absurd rfl h)
      exact ⟨h1, h2, fun _ _ => by simpa using hnil⟩
    · simp only [hfin, hammo, Bool.false_eq_true, ↓reduceIte, Bool.not_true]
      refine ⟨fun i hne => ?_, fun i => hi.drawnEq i, fun i he => ?_⟩ <;> dsimp only at *
      · by_cases hie : i = s.inst
        · subst hie; exact hi.body _ hk
        · simp only [upd, hie, ↓reduceIte] at hne; exact hi.body i hne
      · by_cases hie : i = s.inst
        · subst hie; simp [upd] at he
        · simp only [upd, hie, ↓reduceIte] at he; exact hi.drained i he
  | waiting =>
    have hk : st.phase s.inst ≠ .exited := by simp [hph]
    simp only [hctx, Bool.false_eq_true, ↓reduceIte]
    cases hsched : st.sched with
    | nil =>
      simp only []
      obtain ⟨h1, h2⟩ := record_inv_no_token v st s.inst .head (passOf s.it none) hi hk
        (drawn_skip v _ (passOf s.it none) [] rfl rfl (waitV_not_ok_of_no_token v _ _ rfl)) (fun _ => ⟨rfl, rfl⟩)
      exact ⟨h1, h2, fun _ _ => by simpa using hsched⟩
    | cons t rest =>
      simp only []
      have hbody := hi.body s.inst hk
      refine ⟨fun i hne => ?_, fun i => ?_, fun i he => ?_⟩
      · by_cases hie : i = s.inst
        · subst hie; rw [record_hist_same]; exact hbody.snoc ⟨rfl, rfl⟩
        · rw [record_phase_other _ _ _ _ _ hie] at hne
          rw [record_hist_other _ _ _ _ _ hie]
          exact hi.body i hne
      · by_cases hie : i = s.inst
        · subst hie
          rw [record_hist_same]
          dsimp only
          rw [drawn_append v _ _ _ hbody,
            drawn_ok v _ (passOf s.it (some t)) [] rfl rfl (waitV_ok_of_token v _ _ t hctx rfl htw)]
          have := hi.drawnEq s.inst
          simp only [ownToks, record_out, List.map_append, List.filter_append] at this ⊢
          rw [this]
          simp [Iter.tok, passOf, drawn]
        · rw [record_hist_other _ _ _ _ _ hie]
          have := hi.drawnEq i
          simp only [ownToks, record_out, List.filter_append, List.map_append] at this ⊢
          rw [this]
          have hne : (s.inst == i) = false := by simp; exact fun h => hie h.symm
          simp [hne]
      · -- an instance that has left its loop saw an empty schedule; this step found a token: impossible
        by_cases hie : i = s.inst
        · subst hie; rw [record_phase_same] at he; cases he
        · rw [record_phase_other _ _ _ _ _ hie] at he
          have := hi.drained i he
          simp [hsched] at this

theorem prun_inv (v : Variant) (st : PState) (steps : List PStep) (hi : PInv v st) (hs : ∀ s ∈ steps, Calm s) :
    PInv v (prun st steps) := by
  induction steps generalizing st with
  | nil => exact hi
  | cons s rest ih =>
    simp only [prun, List.foldl_cons]
    exact ih _ (pstep_inv v st s hi (hs s (by simp))) (fun x hx => hs x (by simp [hx]))

end Pandora.Proofs.C04
