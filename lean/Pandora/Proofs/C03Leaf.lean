/-
C03 — COMPOSITION with the schedule leaf of C01/C02's regenerated area `schedule`.

`Model.C03` abstracts a finite profile to a token counter (`shared`, `own[i]`).  Here the pool is run against the
REGENERATED `doAtSchedule` (`Pandora.Gen.Schedule`: `NewDoAtSchedule`, `doAtSchedule_Next`, `doAtSchedule_Left`, re-translated
from core/schedule/do_at.go + start_sync.go on every check — the leaf behind `once`, `const`, `line` and every step of
`step`): the answers of `IsFinished` (`Left()`) and of `Wait` (`Next()`) are COMPUTED by the regenerated functions on the leaf
object the instance draws from — the one shared object, or the object the factory made for that instance at its start.

* `lstep` — the product system: an event of an instance that consults its profile is accepted iff the regenerated leaf
  gives that answer AND the pool model accepts the event;
* `agree_step` / `lrun_agree` — in every reachable state the pool's token counters ARE the tokens left in the leaves
  (`shared = tokensLeft sh`, `own = own leaves .map tokensLeft`), all leaves have consistent start flags;
* `next_never_blocks` / `left_never_blocks` — the pool model never refuses what the leaf answers: an instance at `Wait` can
  always go on with exactly the event the regenerated `Next()` dictates, an instance at `IsFinished` with the value the
  regenerated `Left()` returns (so the product is not an artificial restriction of either side);
* `lrun_is_run` — every run of the product is a run of `Model.C03` with `tokens = n` (the leaf's `n`, clamped at 0).

The property theorems over this composed system are in `Props/C03.lean` (`C03_leaf_*`).
-/
import Pandora.Proofs.C03Reach
import Pandora.Bridge.C03DoAt

namespace Pandora.Proofs.C03Leaf
open Pandora.Model.C03 Pandora.Proofs.C03 Pandora.Gen.Schedule Pandora.Bridge.C03DoAt

/-- a pool together with the regenerated leaf objects its instances draw from -/
structure LSt where
  pool : St
  sh : DoAtSt          -- the one shared profile object (`buildNewInstanceSchedule` without rps-per-instance)
  own : List DoAtSt    -- rps-per-instance: the object the factory made for instance `i` at its start

/-- the parameters of the profile (`NewDoAtSchedule duration n doAt`) -/
structure Leaf where
  duration : Int
  n : Int
  doAt : Int → Int

def Leaf.fresh (p : Leaf) : DoAtSt := NewDoAtSchedule p.duration p.n p.doAt
/-- placeholder for an instance that does not exist yet (no tokens) -/
def Leaf.none (p : Leaf) : DoAtSt := NewDoAtSchedule p.duration 0 p.doAt

def linit (c : Cfg) (p : Leaf) : LSt :=
  { pool := init c, sh := p.fresh, own := List.replicate c.instances p.none }

/-- the leaf instance `i` draws from -/
def LSt.prof (c : Cfg) (l : LSt) (i : Nat) : Option DoAtSt := if c.perInstance then l.own[i]? else some l.sh

def LSt.setProf (c : Cfg) (l : LSt) (i : Nat) (d : DoAtSt) : LSt :=
  if c.perInstance then { l with own := l.own.set i d } else { l with sh := d }

/-- one step of the product: `now` is what `time.Now()` returns should the leaf be started by this call -/
def lstep (c : Cfg) (p : Leaf) (l : LSt) (now : Int) (e : Ev) : Option LSt :=
  match e with
  | .start i =>
    -- `newInstance` calls the schedule factory: a fresh leaf object for this instance
    (step c l.pool e).map fun q => { l with pool := q, own := l.own.set i p.fresh }
  | .chk i left =>
    match l.prof c i with
    | none => none
    | some d =>
      match doAtSchedule_Left d with
      | .ok (v, d') => if v = (left : Int) then (step c l.pool e).map fun q => { (l.setProf c i d') with pool := q } else none
      | .error _ => none
  | .tokOk i =>
    match l.prof c i with
    | none => none
    | some d =>
      match doAtSchedule_Next now d with
      | .ok ((_, true), d') => (step c l.pool e).map fun q => { (l.setProf c i d') with pool := q }
      | _ => none
  | .tokEnd i =>
    match l.prof c i with
    | none => none
    | some d =>
      match doAtSchedule_Next now d with
      | .ok ((_, false), d') => (step c l.pool e).map fun q => { (l.setProf c i d') with pool := q }
      | _ => none
  | _ => (step c l.pool e).map fun q => { l with pool := q }

def lrun (c : Cfg) (p : Leaf) : LSt → List (Int × Ev) → Option LSt
  | l, [] => some l
  | l, (now, e) :: es => match lstep c p l now e with
    | some l' => lrun c p l' es
    | none => none

/-- the pool's token counters are the tokens left in the regenerated leaves -/
structure Agree (c : Cfg) (l : LSt) : Prop where
  shared : l.pool.shared = tokensLeft l.sh
  shFlags : Flags l.sh
  own : l.pool.own = l.own.map tokensLeft
  ownFlags : ∀ d ∈ l.own, Flags d
  ownLen : l.own.length = c.instances

theorem init_agree (c : Cfg) (p : Leaf) (hn : c.tokens = p.n.toNat) : Agree c (linit c p) := by
  have h1 := new_tokens p.duration p.n p.doAt
  have h0 := new_tokens p.duration 0 p.doAt
  refine ⟨?_, h1.2, ?_, ?_, by simp [linit]⟩
  · simp only [linit, init, Leaf.fresh]; rw [h1.1, hn]
  · simp only [linit, init, Leaf.none, List.map_replicate]; rw [h0.1]; rfl
  · intro d hd
    simp only [linit, Leaf.none] at hd
    rw [List.eq_of_mem_replicate hd]
    exact h0.2

theorem set_same {α : Type} (l : List α) (i : Nat) (d : α) (h : l[i]? = some d) : l.set i d = l := by
  have hi := lt_of_get h
  rw [List.getElem?_eq_getElem hi] at h
  injection h with h
  rw [← h]
  exact List.set_getElem_self hi

theorem mem_set_cases {α : Type} {l : List α} {i : Nat} {a b : α} (h : b ∈ l.set i a) : b = a ∨ b ∈ l := by
  rcases List.mem_or_eq_of_mem_set h with h | h
  · exact Or.inr h
  · exact Or.inl h

/-- `Agree` survives a change of the pool that leaves the token counters alone -/
theorem agree_pool {c : Cfg} {l : LSt} (ha : Agree c l) {q : St} (h1 : q.shared = l.pool.shared) (h2 : q.own = l.pool.own) :
    Agree c { l with pool := q } :=
  ⟨by simp [h1, ha.shared], ha.shFlags, by simp [h2, ha.own], ha.ownFlags, ha.ownLen⟩

/-- the leaf of an instance under `Agree`: its tokens are what the pool model calls `left` -/
theorem prof_left {c : Cfg} {l : LSt} (ha : Agree c l) {i : Nat} {d : DoAtSt} (hp : l.prof c i = some d) :
    l.pool.left c i = tokensLeft d ∧ Flags d := by
  unfold LSt.prof at hp
  unfold St.left
  split at hp
  · rename_i hc
    simp only [hc, if_true]
    refine ⟨?_, ha.ownFlags d (List.mem_of_getElem? hp)⟩
    rw [ha.own, List.getElem?_map, hp]; rfl
  · rename_i hc
    injection hp with hp
    simp only [hc]
    subst hp
    exact ⟨ha.shared, ha.shFlags⟩

/-- replacing the leaf of instance `i` by one with `t` tokens, while the pool's counter for `i` becomes `t` -/
theorem agree_setProf {c : Cfg} {l : LSt} (ha : Agree c l) {i : Nat} {d d' : DoAtSt} (_hp : l.prof c i = some d)
    (hf : Flags d') {q : St}
    (hs : q.shared = if c.perInstance then l.pool.shared else tokensLeft d')
    (ho : q.own = if c.perInstance then l.pool.own.set i (tokensLeft d') else l.pool.own) :
    Agree c { (l.setProf c i d') with pool := q } := by
  unfold LSt.setProf
  cases hc : c.perInstance
  · simp only [hc, Bool.false_eq_true, if_false] at hs ho ⊢
    exact ⟨by simp [hs], hf, by simp [ho, ha.own], ha.ownFlags, ha.ownLen⟩
  · simp only [hc, if_true] at hs ho ⊢
    refine ⟨by simp [hs, ha.shared], ha.shFlags, ?_, ?_, by simp [ha.ownLen]⟩
    · simp only [ho, ha.own, List.map_set]
    · intro x hx
      rcases mem_set_cases hx with h | h
      · rw [h]; exact hf
      · exact ha.ownFlags x h

/-- **one step of the product keeps the counters and the leaves in agreement, and is a step of the pool model** -/
theorem agree_step {c : Cfg} {p : Leaf} (hn : c.tokens = p.n.toNat) {l l' : LSt} {now : Int} {e : Ev}
    (ha : Agree c l) (h : lstep c p l now e = some l') : Agree c l' ∧ step c l.pool e = some l'.pool := by
  cases e
  case start i =>
    simp only [lstep, Option.map_eq_some_iff] at h
    obtain ⟨q, hq, rfl⟩ := h
    refine ⟨?_, hq⟩
    obtain ⟨h1, h2⟩ := step_start hq
    have hfresh := new_tokens p.duration p.n p.doAt
    refine ⟨by simp [h1, ha.shared], ha.shFlags, ?_, ?_, by simp [ha.ownLen]⟩
    · simp only [h2, ha.own, List.map_set, Leaf.fresh, hfresh.1, hn]
    · intro x hx
      rcases mem_set_cases hx with h | h
      · rw [h]; exact hfresh.2
      · exact ha.ownFlags x h
  case chk i left =>
    simp only [lstep] at h
    split at h
    · cases h
    · rename_i d hp
      rw [left_eq d] at h
      simp only at h
      split at h
      · simp only [Option.map_eq_some_iff] at h
        obtain ⟨q, hq, rfl⟩ := h
        refine ⟨?_, hq⟩
        have hk := step_keeps hq (by intro j hj; cases hj) (by intro j hj; cases hj)
        obtain ⟨hl, hf⟩ := prof_left ha hp
        apply agree_setProf ha hp hf
        · rw [hk.1]; split
          · rfl
          · rename_i hc
            have : l.prof c i = some l.sh := by simp [LSt.prof, hc]
            rw [this] at hp; injection hp with hp; rw [← hp]; exact ha.shared
        · rw [hk.2]; split
          · rename_i hc
            have hp' : l.own[i]? = some d := by simpa [LSt.prof, hc] using hp
            have : l.pool.own[i]? = some (tokensLeft d) := by rw [ha.own, List.getElem?_map, hp']; rfl
            exact (set_same _ _ _ this).symm
          · rfl
      · cases h
  case tokOk i =>
    simp only [lstep] at h
    split at h
    · cases h
    · rename_i d hp
      obtain ⟨hl, hf⟩ := prof_left ha hp
      obtain ⟨tx, d', hnx, _, _, hf', ht'⟩ := next_draws d hf now
      rw [hnx] at h
      split at h
      · rename_i heq
        injection heq with heq
        simp only [Prod.mk.injEq] at heq
        obtain ⟨⟨_, hok⟩, hd⟩ := heq
        subst hd
        simp only [Option.map_eq_some_iff] at h
        obtain ⟨q, hq, rfl⟩ := h
        refine ⟨?_, hq⟩
        obtain ⟨hpos, h1, h2⟩ := step_tokOk hq
        apply agree_setProf ha hp hf'
        · rw [h1]; split
          · rfl
          · rename_i hc
            simp only [ht', ← hl]
            simp [St.left, hc]
        · rw [h2]; split
          · rename_i hc
            simp only [ht', ← hl]
            simp [St.left, hc]
          · rfl
      · cases h
  case tokEnd i =>
    simp only [lstep] at h
    split at h
    · cases h
    · rename_i d hp
      obtain ⟨hl, hf⟩ := prof_left ha hp
      obtain ⟨tx, d', hnx, _, _, hf', ht'⟩ := next_draws d hf now
      rw [hnx] at h
      split at h
      · rename_i heq
        injection heq with heq
        simp only [Prod.mk.injEq] at heq
        obtain ⟨⟨_, hok⟩, hd⟩ := heq
        subst hd
        simp only [Option.map_eq_some_iff] at h
        obtain ⟨q, hq, rfl⟩ := h
        refine ⟨?_, hq⟩
        obtain ⟨hz, hk⟩ := step_tokEnd hq
        have hk := step_keeps hq (by intro j hj; cases hj) (by intro j hj; cases hj)
        have ht0 : tokensLeft d' = 0 := by rw [ht', ← hl, hz]
        apply agree_setProf ha hp hf'
        · rw [hk.1]; split
          · rfl
          · rename_i hc
            rw [ht0]
            have : l.pool.left c i = l.pool.shared := by simp [St.left, hc]
            rw [← this, hz]
        · rw [hk.2]; split
          · rename_i hc
            rw [ht0]
            have : l.pool.own[i]? = some 0 := by
              have hp' : l.own[i]? = some d := by simpa [LSt.prof, hc] using hp
              rw [ha.own, List.getElem?_map, hp']
              simp only [Option.map_some]
              rw [← hl, hz]
            exact (set_same _ _ _ this).symm
          · rfl
      · cases h
  all_goals
    simp only [lstep, Option.map_eq_some_iff] at h
    obtain ⟨q, hq, rfl⟩ := h
    refine ⟨?_, hq⟩
    have hk := step_keeps hq (by intro j hj; cases hj) (by intro j hj; cases hj)
    exact agree_pool ha hk.1 hk.2

/-- every run of the product is a run of the pool model, and ends in agreement -/
theorem lrun_agree {c : Cfg} {p : Leaf} (hn : c.tokens = p.n.toNat) :
    ∀ (es : List (Int × Ev)) (l l' : LSt), Agree c l → lrun c p l es = some l' →
      Agree c l' ∧ run c l.pool (es.map (·.2)) = some l'.pool
  | [], l, l', ha, h => by
    simp only [lrun] at h
    injection h with h
    subst h
    exact ⟨ha, rfl⟩
  | (now, e) :: es, l, l', ha, h => by
    simp only [lrun] at h
    split at h
    · rename_i l1 h1
      obtain ⟨ha1, hs1⟩ := agree_step hn ha h1
      obtain ⟨ha', hr⟩ := lrun_agree hn es l1 l' ha1 h
      refine ⟨ha', ?_⟩
      simp only [List.map_cons, run, hs1]
      exact hr
    · cases h

theorem lrun_is_run {c : Cfg} {p : Leaf} (hn : c.tokens = p.n.toNat) {es : List (Int × Ev)} {l : LSt}
    (h : lrun c p (linit c p) es = some l) : run c (init c) (es.map (·.2)) = some l.pool ∧ Agree c l := by
  obtain ⟨ha, hr⟩ := lrun_agree hn es _ l (init_agree c p hn) h
  exact ⟨hr, ha⟩

/-- an existing instance has a leaf -/
theorem prof_exists {c : Cfg} {l : LSt} (ha : Agree c l) (hlen : l.pool.pcs.length = c.instances) {i : Nat} {pc : Pc}
    (hpc : l.pool.pcs[i]? = some pc) : ∃ d, l.prof c i = some d := by
  unfold LSt.prof
  split
  · have hi : i < l.own.length := by rw [ha.ownLen, ← hlen]; exact lt_of_get hpc
    exact ⟨l.own[i], List.getElem?_eq_getElem hi⟩
  · exact ⟨l.sh, rfl⟩

/-- **`Wait` never blocks on a disagreement**: whenever an instance stands at `Wait`, the regenerated `Next()` of its leaf
answers `ok`, and the product accepts exactly the event that answer dictates (`tokOk` for true, `tokEnd` for false) -/
theorem next_never_blocks {c : Cfg} {p : Leaf} (hn : c.tokens = p.n.toNat) {es : List (Int × Ev)} {l : LSt}
    (h : lrun c p (linit c p) es = some l) (i : Nat) (hw : l.pool.pcs[i]? = some .wait) (now : Int) :
    ∃ d tx ok d' l', l.prof c i = some d ∧ doAtSchedule_Next now d = .ok ((tx, ok), d') ∧
      ok = decide (0 < l.pool.left c i) ∧
      lstep c p l now (if ok then .tokOk i else .tokEnd i) = some l' := by
  obtain ⟨hr, ha⟩ := lrun_is_run hn h
  have hlen := (reach_invA hr).len
  obtain ⟨d, hp⟩ := prof_exists ha hlen hw
  obtain ⟨hl, hf⟩ := prof_left ha hp
  obtain ⟨tx, d', hnx, _, _, _, _⟩ := next_draws d hf now
  by_cases hpos : 0 < tokensLeft d
  · have hstep : ∃ q, step c l.pool (.tokOk i) = some q := by
      simp only [step, hw, hl, hpos, and_self, if_true]; exact ⟨_, rfl⟩
    obtain ⟨q, hq⟩ := hstep
    refine ⟨d, tx, true, d', { (l.setProf c i d') with pool := q }, hp, by simpa [hpos] using hnx, by simp [hl, hpos], ?_⟩
    simp only [if_true, lstep, hp, hnx, hpos, decide_true, hq, Option.map_some]
  · have hz : tokensLeft d = 0 := by omega
    have hstep : ∃ q, step c l.pool (.tokEnd i) = some q := by
      simp only [step, hw, hl, hz, and_self, if_true]; exact ⟨_, rfl⟩
    obtain ⟨q, hq⟩ := hstep
    refine ⟨d, tx, false, d', { (l.setProf c i d') with pool := q }, hp, by simpa [hpos] using hnx, by simp [hl, hz], ?_⟩
    simp only [Bool.false_eq_true, if_false, lstep, hp, hnx, hpos, decide_false, hq, Option.map_some]

/-- **`IsFinished` never blocks on a disagreement**: the regenerated `Left()` returns the pool model's `left`, and the
product accepts the check with that value -/
theorem left_never_blocks {c : Cfg} {p : Leaf} (hn : c.tokens = p.n.toNat) {es : List (Int × Ev)} {l : LSt}
    (h : lrun c p (linit c p) es = some l) (i : Nat) (hw : l.pool.pcs[i]? = some .check) (now : Int) :
    ∃ d l', l.prof c i = some d ∧ doAtSchedule_Left d = .ok ((l.pool.left c i : Int), d) ∧
      lstep c p l now (.chk i (l.pool.left c i)) = some l' := by
  obtain ⟨hr, ha⟩ := lrun_is_run hn h
  have hlen := (reach_invA hr).len
  obtain ⟨d, hp⟩ := prof_exists ha hlen hw
  obtain ⟨hl, _⟩ := prof_left ha hp
  have hstep : ∃ q, step c l.pool (.chk i (l.pool.left c i)) = some q := by
    simp only [step, hw, and_self, if_true]; exact ⟨_, rfl⟩
  obtain ⟨q, hq⟩ := hstep
  refine ⟨d, { (l.setProf c i d) with pool := q }, hp, by rw [left_eq d, hl], ?_⟩
  rw [hl] at hq
  simp only [lstep, hp, left_eq d, hl, if_true, hq, Option.map_some]

end Pandora.Proofs.C03Leaf
