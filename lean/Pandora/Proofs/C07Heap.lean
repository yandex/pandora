/-
C07 — helper lemmas about the reference-level model of the header accumulator (`Pandora.Model.C07Heap`):
with a clone per entry the map cell of a delivered ammo is never written again, so every later read (any interleaving
of decoder steps and `BuildRequest`s) returns the value-model header set.
-/
import Pandora.Model.C07Heap
import Pandora.Spec.C07

namespace Pandora.Proofs.C07
open Pandora.Model.C07 Pandora.Spec.C07

/-- invariant of the cloning decoder: the accumulator cell is allocated and holds the value accumulator `h`;
the cells of the ammo handed out are allocated and are not the accumulator -/
structure HeapInv (s : RefState) (h : Hdrs) : Prop where
  accLt : s.acc < s.next
  accVal : s.heap s.acc = h
  outOk : ∀ x ∈ s.out, x.2 < s.next ∧ x.2 ≠ s.acc

/-- what a run of the cloning decoder from a state satisfying the invariant guarantees -/
structure HeapRun (cfg : Hdrs) (s t : RefState) (h : Hdrs) (acts : List Act) : Prop where
  outs : ∃ new, t.out = s.out ++ new ∧
    new.map (fun x => ({ x.1 with hdrs := t.heap x.2 } : Ammo)) = valueOut cfg h (decEvs acts)
  frozen : ∀ x ∈ s.out, t.heap x.2 = s.heap x.2
  reads : ∃ nr, t.reads = s.reads ++ nr ∧ ∀ jh ∈ nr, ∃ x, t.out[jh.1]? = some x ∧ t.heap x.2 = jh.2

theorem upd_same (heap : Nat → Hdrs) (a : Nat) (v : Hdrs) : upd heap a v a = v := by simp [upd]

theorem upd_other (heap : Nat → Hdrs) (a b : Nat) (v : Hdrs) (hne : b ≠ a) : upd heap a v b = heap b := by
  simp [upd, hne]

/-- one step of the cloning system, from a state satisfying the invariant -/
structure HeapStep (cfg : Hdrs) (s s1 : RefState) (h h1 : Hdrs) (a : Act) : Prop where
  inv1 : HeapInv s1 h1
  outs : ∃ new, s1.out = s.out ++ new ∧ ∀ r : List Act,
    valueOut cfg h (decEvs (a :: r)) =
      new.map (fun x => ({ x.1 with hdrs := s1.heap x.2 } : Ammo)) ++ valueOut cfg h1 (decEvs r)
  frozen : ∀ x ∈ s.out, s1.heap x.2 = s.heap x.2
  reads : ∃ nr, s1.reads = s.reads ++ nr ∧ ∀ jh ∈ nr, ∃ x, s.out[jh.1]? = some x ∧ s.heap x.2 = jh.2

theorem step_clone (cfg : Hdrs) (s : RefState) (h : Hdrs) (inv : HeapInv s h) (a : Act) :
    ∃ h1, HeapStep cfg s (stepRef true cfg s a) h h1 a := by
  have hne : s.acc ≠ s.next := Nat.ne_of_lt inv.accLt
  cases a with
  | dec e =>
    cases e with
    | hdr k v =>
      refine ⟨hset h k v, ⟨inv.accLt, ?_, inv.outOk⟩, ⟨[], by simp [stepRef], by simp [decEvs, valueOut]⟩, ?_, ⟨[], by simp [stepRef], by simp⟩⟩
      · show upd s.heap s.acc (hset (s.heap s.acc) k v) s.acc = hset h k v
        rw [upd_same, inv.accVal]
      · intro x hx
        exact upd_other _ _ _ _ (inv.outOk x hx).2
    | req am =>
      refine ⟨h, ⟨?_, ?_, ?_⟩, ⟨[(am, s.next)], by simp [stepRef], ?_⟩, ?_, ⟨[], by simp [stepRef], by simp⟩⟩
      · simp only [stepRef, if_true]; exact Nat.lt_succ_of_lt inv.accLt
      · simp only [stepRef, if_true]
        rw [upd_other _ _ _ _ hne, inv.accVal]
      · intro x hx
        simp only [stepRef, if_true, List.mem_append, List.mem_singleton] at hx ⊢
        rcases hx with hx | hx
        · exact ⟨Nat.lt_succ_of_lt (inv.outOk x hx).1, (inv.outOk x hx).2⟩
        · subst hx; exact ⟨Nat.lt_succ_self _, fun e => hne e.symm⟩
      · intro r
        simp only [stepRef, if_true, decEvs, valueOut, List.map_cons, List.map_nil, upd_same, inv.accVal,
          List.cons_append, List.nil_append]
      · intro x hx
        simp only [stepRef, if_true]
        exact upd_other _ _ _ _ (Nat.ne_of_lt (inv.outOk x hx).1)
    | newPass =>
      refine ⟨[], ⟨Nat.lt_succ_self _, upd_same _ _ _, ?_⟩, ⟨[], by simp [stepRef], by simp [decEvs, valueOut]⟩, ?_, ⟨[], by simp [stepRef], by simp⟩⟩
      · intro x hx
        exact ⟨Nat.lt_succ_of_lt (inv.outOk x hx).1, Nat.ne_of_lt (inv.outOk x hx).1⟩
      · intro x hx
        exact upd_other _ _ _ _ (Nat.ne_of_lt (inv.outOk x hx).1)
  | read j =>
    cases hj : s.out[j]? with
    | none =>
      have hstep : stepRef true cfg s (.read j) = s := by simp [stepRef, hj]
      rw [hstep]
      exact ⟨h, inv, ⟨[], by simp, by simp [decEvs]⟩, fun _ _ => rfl, ⟨[], by simp, by simp⟩⟩
    | some x =>
      have hstep : stepRef true cfg s (.read j) = { s with reads := s.reads ++ [(j, s.heap x.2)] } := by
        simp [stepRef, hj]
      rw [hstep]
      refine ⟨h, ⟨inv.accLt, inv.accVal, inv.outOk⟩, ⟨[], by simp, by simp [decEvs]⟩, fun _ _ => rfl,
        ⟨[(j, s.heap x.2)], rfl, ?_⟩⟩
      intro jh hjh
      simp only [List.mem_singleton] at hjh
      subst hjh
      exact ⟨x, hj, rfl⟩

theorem heapRun_trans (cfg : Hdrs) (s s1 t : RefState) (h h1 : Hdrs) (a : Act) (r : List Act)
    (S : HeapStep cfg s s1 h h1 a) (R : HeapRun cfg s1 t h1 r) : HeapRun cfg s t h (a :: r) := by
  obtain ⟨new1, ho1, hv1⟩ := S.outs
  obtain ⟨new2, ho2, hv2⟩ := R.outs
  obtain ⟨nr1, hr1, hn1⟩ := S.reads
  obtain ⟨nr2, hr2, hn2⟩ := R.reads
  have hfro : ∀ x ∈ s.out, t.heap x.2 = s.heap x.2 := by
    intro x hx
    rw [R.frozen x (by rw [ho1]; exact List.mem_append_left _ hx), S.frozen x hx]
  refine ⟨⟨new1 ++ new2, by rw [ho2, ho1, List.append_assoc], ?_⟩, hfro, ⟨nr1 ++ nr2, by rw [hr2, hr1, List.append_assoc], ?_⟩⟩
  · rw [hv1 r, List.map_append, hv2]
    congr 1
    apply List.map_congr_left
    intro x hx
    rw [R.frozen x (by rw [ho1]; exact List.mem_append_right _ hx)]
  · intro jh hjh
    rcases List.mem_append.mp hjh with hjh | hjh
    · obtain ⟨x, hx, hh⟩ := hn1 jh hjh
      have hlt : jh.1 < s.out.length := by
        rcases List.getElem?_eq_some_iff.mp hx with ⟨hl, _⟩; exact hl
      refine ⟨x, ?_, ?_⟩
      · rw [ho2, ho1, List.append_assoc, List.getElem?_append_left hlt]; exact hx
      · rw [hfro x (List.mem_of_getElem? hx)]; exact hh
    · exact hn2 jh hjh

/-- every system whose steps keep the contract reads right: its runs (the fold of `st`) satisfy `HeapRun` -/
theorem heapRun_of_step (cfg : Hdrs) (st : RefState → Act → RefState)
    (hst : ∀ s h, HeapInv s h → ∀ a, ∃ h1, HeapStep cfg s (st s a) h h1 a) :
    ∀ (acts : List Act) (s : RefState) (h : Hdrs), HeapInv s h → HeapRun cfg s (acts.foldl st s) h acts
  | [], s, h, _ => ⟨⟨[], by simp, by simp [decEvs, valueOut]⟩, fun _ _ => rfl, ⟨[], by simp, by simp⟩⟩
  | a :: r, s, h, inv => by
    obtain ⟨h1, S⟩ := hst s h inv a
    exact heapRun_trans cfg s _ _ h h1 a r S (heapRun_of_step cfg st hst r _ _ S.inv1)

/-- a run from the initial state: every read saw the header set of the value model -/
theorem reads_of_run {cfg : Hdrs} {acts : List Act} {t : RefState} (R : HeapRun cfg RefState.init t [] acts) :
    ∀ jh ∈ t.reads, valueHdrs cfg acts jh.1 = some jh.2 := by
  intro jh hjh
  obtain ⟨new, ho, hv⟩ := R.outs
  obtain ⟨nr, hr, hn⟩ := R.reads
  obtain ⟨x, hx, hh⟩ := hn jh (by rw [hr] at hjh; simpa [RefState.init] using hjh)
  have hnew : new[jh.1]? = some x := by
    rw [ho] at hx; simpa [RefState.init] using hx
  unfold valueHdrs
  rw [← hv, List.getElem?_map, hnew]
  simp [hh]

theorem heapInv_init : HeapInv RefState.init [] :=
  ⟨by decide, rfl, by intro x hx; simp [RefState.init] at hx⟩

theorem runRef_foldl (c : Bool) (cfg : Hdrs) : ∀ (acts : List Act) (s : RefState),
    runRef c cfg s acts = acts.foldl (stepRef c cfg) s
  | [], _ => rfl
  | _ :: r, _ => runRef_foldl c cfg r _

theorem runRefR_foldl (reset : PassReset) (cfg : Hdrs) : ∀ (acts : List Act) (s : RefState),
    runRefR reset cfg s acts = acts.foldl (stepRefR reset cfg) s
  | [], _ => rfl
  | _ :: r, _ => runRefR_foldl reset cfg r _

/-- a cloning decoder: every `BuildRequest`, whenever it happens, sees the value-model header set -/
theorem clone_readsRight (cfg : Hdrs) (acts : List Act) : readsRight true cfg acts := by
  unfold readsRight
  rw [runRef_foldl]
  exact reads_of_run (heapRun_of_step cfg _ (step_clone cfg) acts _ _ heapInv_init)

/-! ### end-of-pass reset: a fresh map or the old one emptied in place -/

theorem stepRefR_fresh (cfg : Hdrs) (s : RefState) (a : Act) : stepRefR .fresh cfg s a = stepRef true cfg s a := by
  cases a with
  | dec e => cases e <;> rfl
  | read j => rfl

/-- emptying the accumulator in place is one more step that keeps the invariant: no delivered ammo holds that cell -/
theorem step_cleared (cfg : Hdrs) (s : RefState) (h : Hdrs) (inv : HeapInv s h) (a : Act) :
    ∃ h1, HeapStep cfg s (stepRefR .cleared cfg s a) h h1 a := by
  match a with
  | .dec .newPass =>
    exact ⟨[], ⟨inv.accLt, upd_same _ _ _, inv.outOk⟩, ⟨[], by simp [stepRefR], by simp [decEvs, valueOut]⟩,
      fun x hx => upd_other _ _ _ _ (inv.outOk x hx).2, ⟨[], by simp [stepRefR], by simp⟩⟩
  | .dec (.hdr k v) => exact step_clone cfg s h inv (.dec (.hdr k v))
  | .dec (.req am) => exact step_clone cfg s h inv (.dec (.req am))
  | .read j => exact step_clone cfg s h inv (.read j)

/-- with either way of forgetting, every `BuildRequest` sees the value-model header set -/
theorem reset_readsRight (reset : PassReset) (hf : reset.forgets = true) (cfg : Hdrs) (acts : List Act) :
    readsRightR reset cfg acts := by
  unfold readsRightR
  rw [runRefR_foldl]
  cases reset with
  | fresh =>
    exact reads_of_run (heapRun_of_step cfg _ (fun s h inv a => stepRefR_fresh cfg s a ▸ step_clone cfg s h inv a) acts _ _ heapInv_init)
  | cleared => exact reads_of_run (heapRun_of_step cfg _ (step_cleared cfg) acts _ _ heapInv_init)
  | kept => cases hf
  | other w => cases hf

/-! ### the decoder's events for a list of entries, pass after pass -/

/-- the events of one pass over a file rendered from `items` (raw frames have no header set) -/
def itemEvs (f : Fmt) : List Item → List LineEv
  | [] => []
  | .hdr k v :: r => .hdr k v :: itemEvs f r
  | .req u t b :: r =>
    .req { method := if f = .uripost then postBytes else getBytes, url := u
           body := if f = .uripost then b else [], tag := t, hdrs := [] } :: itemEvs f r
  | .frame _ _ :: r => itemEvs f r

/-- `n` complete passes -/
def passEvs (f : Fmt) (items : List Item) : Nat → List LineEv
  | 0 => []
  | n + 1 => itemEvs f items ++ .newPass :: passEvs f items n

theorem valueOut_itemEvs (f : Fmt) (cfg : Hdrs) (items : List Item) (h : Hdrs) (rest : List LineEv) :
    valueOut cfg h (itemEvs f items ++ .newPass :: rest) =
      (expAmmo f h items).map (Ammo.withCfg cfg) ++ valueOut cfg [] rest := by
  induction items generalizing h with
  | nil => simp [itemEvs, valueOut, expAmmo]
  | cons it r ih =>
    cases it with
    | hdr k v => simp [itemEvs, valueOut, expAmmo, ih]
    | req u t b => simp [itemEvs, valueOut, expAmmo, ih, Ammo.withCfg]
    | frame t fr => simp [itemEvs, expAmmo, ih]

theorem valueOut_passEvs (f : Fmt) (cfg : Hdrs) (items : List Item) (n : Nat) :
    valueOut cfg [] (passEvs f items n) =
      (List.replicate n ((expAmmo f [] items).map (Ammo.withCfg cfg))).flatten := by
  induction n with
  | zero => simp [passEvs, valueOut]
  | succ n ih => simp [passEvs, valueOut_itemEvs, ih, List.replicate_succ]

end Pandora.Proofs.C07
