/-
C09 — helper lemmas about the volley pool (`vpoolStep` / `vpoolRun` of Pandora.Model.C09): a transport that serves
several requests at once. For a client that is used by ONE instance (volleys of at most one request) it is the
one-connection-per-gun pool `tconnStep`; with room for all its guns it never dials more often than it has guns; without
(net/http's default of two idle connections per host) every further volley costs the surplus again.
-/
import Pandora.Model.C09
import Pandora.Proofs.C09Conn

namespace Pandora.Proofs.C09
open Pandora.Model.C09

def b2n (b : Bool) : Nat := if b then 1 else 0

/-- a transport that keeps connections at all keeps at least one per host -/
theorem keeps_idleLimit_pos (t : Transport) (hk : keeps t = true) : 1 ≤ idleLimit t := by
  simp only [keeps, Bool.and_eq_true, Bool.not_eq_true', decide_eq_true_eq] at hk
  obtain ⟨⟨_, h1⟩, h2⟩ := hk
  simp only [idleLimit]
  have e1 : ((t.maxIdleConnsPerHost.toNat : Nat) : Int) = t.maxIdleConnsPerHost := Int.toNat_of_nonneg h1
  have e2 : ((t.maxIdleConns.toNat : Nat) : Int) = t.maxIdleConns := Int.toNat_of_nonneg h2
  by_cases hp : t.maxIdleConnsPerHost = 0 <;> by_cases hm : t.maxIdleConns = 0 <;> simp only [hp, hm, if_true, if_false] <;> omega

theorem vpoolRunFrom_cons (t : Transport) (st : Nat × Nat) (v : Volley) (vs : List Volley) :
    vpoolRunFrom t st (v :: vs) = vpoolRunFrom t (vpoolStep t st v) vs := rfl

theorem vpoolRunFrom_nil (t : Transport) (st : Nat × Nat) : vpoolRunFrom t st [] = st := rfl

/-- one request through a client of its own: the volley pool does what the per-gun pool does -/
theorem vpoolStep_single (t : Transport) (b : Bool) (n : Nat) (f : TFlight) (hg : f.gun = 0) :
    vpoolStep t (b2n b, n) f.volley =
      (b2n ((tconnStep t ([b], n) f).1.getD 0 false), (tconnStep t ([b], n) f).2) := by
  cases ha : f.arrived
  · simp [vpoolStep, tconnStep, TFlight.volley, ha]
  · have hlim : keeps t = true → 1 ≤ idleLimit t := keeps_idleLimit_pos t
    simp only [vpoolStep, tconnStep, TFlight.volley, ha, hg, if_true, Bool.true_and, Bool.not_true, Bool.false_eq_true,
      if_false, List.set_cons_zero, List.getD_cons_zero, Nat.one_ne_zero]
    cases hk : keeps t <;> cases hc : f.close <;> cases hl : responseLost t f.delay <;> cases he : idleExpired t f.pause <;>
      cases b <;> simp [b2n] <;> (try (have := hlim hk; omega))

theorem tconnStep_single_shape (t : Transport) (b : Bool) (n : Nat) (f : TFlight) (hg : f.gun = 0) :
    tconnStep t ([b], n) f = ([(tconnStep t ([b], n) f).1.getD 0 false], (tconnStep t ([b], n) f).2) := by
  cases ha : f.arrived <;> simp [tconnStep, ha, hg]

/-- the whole run of a client that one instance uses -/
theorem vpoolRunFrom_single (t : Transport) (fs : List TFlight) (hg : ∀ f ∈ fs, f.gun = 0) (b : Bool) (n : Nat) :
    vpoolRunFrom t (b2n b, n) (fs.map TFlight.volley) =
      (b2n ((tconnRunFrom t ([b], n) fs).1.getD 0 false), (tconnRunFrom t ([b], n) fs).2) := by
  induction fs generalizing b n with
  | nil => simp [vpoolRunFrom_nil, tconnRunFrom]
  | cons f fs ih =>
    have h0 := hg f List.mem_cons_self
    rw [List.map_cons, vpoolRunFrom_cons, vpoolStep_single t b n f h0, tconnRunFrom_cons,
      ih (fun f' h' => hg f' (List.mem_cons_of_mem _ h'))]
    rw [← tconnStep_single_shape t b n f h0]

/-- room for every gun, nobody closing, nothing expiring: idle = dialed ≤ guns is an invariant -/
theorem vpoolRunFrom_room (t : Transport) (m : Nat) (hk : keeps t = true) (hL : m ≤ idleLimit t) (vs : List Volley)
    (hv : ∀ v ∈ vs, v.k ≤ m ∧ v.closing = 0 ∧ idleExpired t v.pause = false ∧ responseLost t v.delay = false)
    (st : Nat × Nat) (hst : st.1 = st.2 ∧ st.2 ≤ m) :
    (vpoolRunFrom t st vs).1 = (vpoolRunFrom t st vs).2 ∧ (vpoolRunFrom t st vs).2 ≤ m := by
  induction vs generalizing st with
  | nil => simpa [vpoolRunFrom_nil] using hst
  | cons v vs ih =>
    rw [vpoolRunFrom_cons]
    apply ih (fun v' h' => hv v' (List.mem_cons_of_mem _ h'))
    obtain ⟨h1, h2, h3, h4⟩ := hv v List.mem_cons_self
    obtain ⟨s1, s2⟩ := hst
    simp only [vpoolStep, h2, h3, h4, hk, Bool.not_false, Bool.and_self, if_true, Bool.false_eq_true, if_false, Nat.sub_zero]
    by_cases hk0 : v.k = 0
    · simp [hk0, s1, s2]
    · simp only [hk0, if_false]
      omega

/-- `n` further volleys of `m` requests on a pool that keeps `L < m`: each costs `m - L` connections again -/
theorem vpoolRunFrom_replicate (t : Transport) (m p d : Nat) (hk : keeps t = true) (hm : idleLimit t ≤ m) (hpos : 0 < m)
    (he : idleExpired t p = false) (hl : responseLost t d = false) (n tot : Nat) :
    vpoolRunFrom t (idleLimit t, tot) (List.replicate n { k := m, closing := 0, pause := p, delay := d }) =
      (idleLimit t, tot + n * (m - idleLimit t)) := by
  induction n generalizing tot with
  | zero => simp [vpoolRunFrom_nil]
  | succ n ih =>
    rw [List.replicate_succ, vpoolRunFrom_cons]
    have hstep : vpoolStep t (idleLimit t, tot) { k := m, closing := 0, pause := p, delay := d } =
        (idleLimit t, tot + (m - idleLimit t)) := by
      have hm0 : m ≠ 0 := by omega
      simp only [vpoolStep, he, hl, hk, hm0, if_false, Bool.false_eq_true, Bool.not_false, Bool.and_self, if_true, Nat.sub_zero]
      congr 1 <;> omega
    rw [hstep, ih, Nat.succ_mul]
    congr 1
    omega

/-- the first volley on a fresh transport: every request dials, the pool keeps what it has room for -/
theorem vpoolStep_first (t : Transport) (m p d : Nat) (hk : keeps t = true) (hpos : 0 < m)
    (hl : responseLost t d = false) :
    vpoolStep t (0, 0) { k := m, closing := 0, pause := p, delay := d } = (min (idleLimit t) m, m) := by
  have hm0 : m ≠ 0 := by omega
  simp only [vpoolStep, hl, hk, hm0, if_false, Bool.not_false, Bool.and_self, if_true, Nat.sub_zero]
  cases idleExpired t p <;> simp

end Pandora.Proofs.C09
