/-
C20 — the generic scenario provider's loop (`scenRun`) in closed form, the ammo of several passes of the grpc/json
provider, the weights' gcd as the Go code computes it, `replacePort` on `<anything>:<port>`.
-/
import Pandora.Model.C20Feed
import Pandora.Proofs.C20Feed

namespace Pandora.Proofs.C20R4
open Pandora.Model.C20 Pandora.Proofs.C20Feed

/-! ### the scenario provider's loop -/

/-- how many more ammo the loop can deliver when `n` have been delivered and `fuel` more are asked for -/
def scenLeft (len passes limit fuel n : Nat) : Nat :=
  match scenAvail len passes limit with
  | none => fuel
  | some b => min fuel (b - n)

theorem scenStop_iff (len passes limit n : Nat) (hl : 0 < len) :
    ((passes != 0 && decide (n / len ≥ passes)) || (limit != 0 && decide (n ≥ limit))) = true ↔
      (match scenAvail len passes limit with | none => False | some b => n ≥ b) := by
  have hdiv : n / len ≥ passes ↔ n ≥ passes * len := by
    constructor
    · intro h; exact (Nat.le_div_iff_mul_le hl).mp h
    · intro h; exact (Nat.le_div_iff_mul_le hl).mpr h
  unfold scenAvail
  by_cases hp : passes = 0 <;> by_cases hm : limit = 0 <;> simp [hp, hm, hdiv]
  omega

theorem scenRun_spec (len passes limit : Nat) (hl : 0 < len) : ∀ (fuel n : Nat),
    scenRun len passes limit fuel n = (List.range' n (scenLeft len passes limit fuel n)).map (· % len)
  | 0, n => by
    unfold scenLeft
    cases scenAvail len passes limit <;> simp [scenRun]
  | fuel + 1, n => by
    have hiff := scenStop_iff len passes limit n hl
    have ih := scenRun_spec len passes limit hl fuel (n + 1)
    unfold scenRun
    by_cases hp : (passes != 0 && decide (n / len ≥ passes)) = true
    · simp only [hp, if_true]
      have hs := hiff.mp (by simp [hp])
      unfold scenLeft
      cases hb : scenAvail len passes limit with
      | none => simp [hb] at hs
      | some b =>
        simp only [hb] at hs
        have : b - n = 0 := by omega
        simp [this]
    · simp only [hp, Bool.false_eq_true, if_false]
      by_cases hm : (limit != 0 && decide (n ≥ limit)) = true
      · simp only [hm, if_true]
        have hs := hiff.mp (by simp [hm])
        unfold scenLeft
        cases hb : scenAvail len passes limit with
        | none => simp [hb] at hs
        | some b =>
          simp only [hb] at hs
          have : b - n = 0 := by omega
          simp [this]
      · simp only [hm, Bool.false_eq_true, if_false]
        have hns : ¬ (match scenAvail len passes limit with | none => False | some b => n ≥ b) := by
          intro h
          have := hiff.mpr h
          simp [hp, hm] at this
        rw [ih]
        unfold scenLeft at hns ⊢
        cases hb : scenAvail len passes limit with
        | none => simp [List.range'_succ]
        | some b =>
          simp only [hb] at hns
          have : min (fuel + 1) (b - n) = min fuel (b - (n + 1)) + 1 := by omega
          simp [this, List.range'_succ]

/-! ### grpc/json: passes one after another -/

theorem passesItems_add (cfg : ProvCfg) (raws : List Raw) (a b : Nat) :
    passesItems cfg raws (a + b) = passesItems cfg raws a ++ passesItems cfg raws b := by
  induction a with
  | zero => simp [passesItems]
  | succ a ih =>
    have : a + 1 + b = (a + b) + 1 := by omega
    simp only [passesItems] at ih ⊢
    rw [this, List.replicate_succ, List.replicate_succ, List.flatten_cons, List.flatten_cons, ih, List.append_assoc]

theorem passesItems_length (cfg : ProvCfg) (raws : List Raw) (k : Nat) :
    (passesItems cfg raws k).length = k * (raws.filterMap (itemOf cfg)).length := by
  induction k with
  | zero => simp [passesItems]
  | succ k ih =>
    rw [passesItems_add, List.length_append, ih]
    simp [passesItems, Nat.succ_mul]

/-- cutting `k ≥ limit` passes of a file that delivers something at `limit` gives the same as cutting `limit` passes -/
theorem passesItems_take (cfg : ProvCfg) (raws : List Raw) (limit k : Nat) (hk : limit ≤ k)
    (hne : raws.filterMap (itemOf cfg) ≠ []) :
    (passesItems cfg raws k).take limit = (passesItems cfg raws limit).take limit := by
  obtain ⟨d, rfl⟩ : ∃ d, k = limit + d := ⟨k - limit, by omega⟩
  rw [passesItems_add]
  have hpos : 0 < (raws.filterMap (itemOf cfg)).length := by
    cases h : raws.filterMap (itemOf cfg) with
    | nil => exact absurd h hne
    | cons _ _ => simp
  have hlen : limit ≤ (passesItems cfg raws limit).length := by
    rw [passesItems_length]
    exact Nat.le_mul_of_pos_right limit hpos
  rw [List.take_append_of_le_length hlen]

theorem items_passesRaws_all (cfg : ProvCfg) (raws : List Raw) (hok : raws.all (rawOk cfg) = true) (k : Nat) :
    items cfg (passesRaws raws k) = passesItems cfg raws k := by
  induction k with
  | zero => simp [passesRaws, items, passesItems]
  | succ k ih =>
    rw [passesRaws_succ, items_append_all cfg raws _ hok, ih]
    have : k + 1 = 1 + k := by omega
    rw [this, passesItems_add]
    simp [passesItems, items, takeWhile_all _ _ hok]

/-! ### scenario weights: the Go code's `GCD` / `GCDM` compute the gcd of all the weights -/

theorem goGcdLoop_eq : ∀ (fuel a b : Nat), a + b ≤ fuel → goGcdLoop fuel a b = Nat.gcd a b
  | 0, a, b, h => by
    have ha : a = 0 := by omega
    have hb : b = 0 := by omega
    subst ha hb
    simp [goGcdLoop]
  | fuel + 1, a, b, h => by
    unfold goGcdLoop
    by_cases ha : a = 0
    · subst ha; simp
    · by_cases hb : b = 0
      · subst hb
        have : a > 0 := Nat.pos_of_ne_zero ha
        simp [this]
      · have ha' : a > 0 := Nat.pos_of_ne_zero ha
        have hb' : b > 0 := Nat.pos_of_ne_zero hb
        simp only [ha', hb', decide_true, Bool.and_self, if_true]
        by_cases hab : a ≥ b
        · simp only [hab, if_true]
          have hlt : a % b < b := Nat.mod_lt _ hb'
          rw [goGcdLoop_eq fuel (a % b) b (by omega), Nat.gcd_comm a b, Nat.gcd_rec b a]
        · simp only [hab, if_false]
          have hlt : b % a < a := Nat.mod_lt _ ha'
          rw [goGcdLoop_eq fuel a (b % a) (by omega), Nat.gcd_rec a b, Nat.gcd_comm]

theorem goGcd_eq (a b : Nat) : goGcd a b = Nat.gcd a b := goGcdLoop_eq _ a b (Nat.le_refl _)

theorem gcd_fold_step (x y A : Nat) (hA : A ∣ x) : Nat.gcd A (Nat.gcd x y) = Nat.gcd y A := by
  apply Nat.dvd_antisymm
  · apply Nat.dvd_gcd
    · exact Nat.dvd_trans (Nat.gcd_dvd_right _ _) (Nat.gcd_dvd_right _ _)
    · exact Nat.gcd_dvd_left _ _
  · apply Nat.dvd_gcd
    · exact Nat.gcd_dvd_right _ _
    · apply Nat.dvd_gcd
      · exact Nat.dvd_trans (Nat.gcd_dvd_right _ _) hA
      · exact Nat.gcd_dvd_left _ _

theorem goGcdmRev_eq : ∀ (l : List Nat), 2 ≤ l.length → goGcdmRev l = l.foldr Nat.gcd 0
  | [], h => by simp at h
  | [_], h => by simp at h
  | [y, x], _ => by simp [goGcdmRev, goGcd_eq, Nat.gcd_comm]
  | y :: x :: z :: r, _ => by
    have ih := goGcdmRev_eq (x :: z :: r) (by simp)
    have hstep : goGcdmRev (y :: x :: z :: r) = goGcd (goGcdmRev (x :: z :: r)) (goGcd x y) := rfl
    rw [hstep, goGcd_eq, goGcd_eq, ih]
    simp only [List.foldr_cons]
    exact gcd_fold_step x y _ (Nat.gcd_dvd_left _ _)

theorem goGcdm_eq (ws : List Nat) (h : 2 ≤ ws.length) : goGcdm ws = ws.foldl Nat.gcd 0 := by
  unfold goGcdm
  rw [goGcdmRev_eq ws.reverse (by simpa using h), List.foldr_reverse]
  congr 1
  funext a b
  exact Nat.gcd_comm b a

/-! ### `replacePort` on `<anything>:<port>` -/

theorem splitColon_acc (acc s : List Char) :
    splitColon acc s = (match splitColon [] s with | [] => [] | x :: r => (acc.reverse ++ x) :: r) := by
  induction s generalizing acc with
  | nil => simp [splitColon]
  | cons c rest ih =>
    by_cases hc : c = ':'
    · simp [splitColon, hc]
    · simp only [splitColon, hc, if_false]
      rw [ih (c :: acc), ih [c]]
      cases splitColon [] rest <;> simp

theorem splitColon_ne_nil (acc s : List Char) : splitColon acc s ≠ [] := by
  induction s generalizing acc with
  | nil => simp [splitColon]
  | cons c rest ih =>
    by_cases hc : c = ':'
    · simp [splitColon, hc]
    · simp only [splitColon, hc, if_false]; exact ih _

/-- a text without `:` is one part -/
theorem splitColon_noColon (q : List Char) (hq : ∀ c ∈ q, c ≠ ':') : splitColon [] q = [q] := by
  induction q with
  | nil => simp [splitColon]
  | cons c rest ih =>
    have hc : c ≠ ':' := hq c (by simp)
    have := ih (fun d hd => hq d (by simp [hd]))
    simp only [splitColon, hc, if_false]
    rw [splitColon_acc, this]
    simp

/-- splitting `pre ++ ":" ++ q` (no `:` in `q`): the parts of `pre`, then `q` -/
theorem splitColon_append (pre q : List Char) (hq : ∀ c ∈ q, c ≠ ':') :
    splitColon [] (pre ++ ':' :: q) = splitColon [] pre ++ [q] := by
  induction pre with
  | nil => simp [splitColon, splitColon_noColon q hq]
  | cons c rest ih =>
    by_cases hc : c = ':'
    · simp [splitColon, hc, ih]
    · simp only [List.cons_append, splitColon, hc, if_false]
      rw [splitColon_acc, splitColon_acc [c] rest, ih]
      cases h : splitColon [] rest with
      | nil => exact absurd h (splitColon_ne_nil _ _)
      | cons x r => simp

theorem joinColon_append (l : List (List Char)) (hl : l ≠ []) (x : List Char) :
    joinColon (l ++ [x]) = joinColon l ++ ':' :: x := by
  induction l with
  | nil => exact absurd rfl hl
  | cons a rest ih =>
    cases rest with
    | nil => simp [joinColon]
    | cons b r =>
      have := ih (by simp)
      simp only [List.cons_append] at this ⊢
      simp [joinColon, this]

theorem joinColon_splitColon (s : List Char) : joinColon (splitColon [] s) = s := by
  induction s with
  | nil => simp [splitColon, joinColon]
  | cons c rest ih =>
    by_cases hc : c = ':'
    · subst hc
      simp only [splitColon, if_true]
      cases h : splitColon [] rest with
      | nil => exact absurd h (splitColon_ne_nil _ _)
      | cons x r =>
        rw [h] at ih
        simp [joinColon, ih]
    · simp only [splitColon, hc, if_false]
      rw [splitColon_acc]
      cases h : splitColon [] rest with
      | nil => exact absurd h (splitColon_ne_nil _ _)
      | cons x r =>
        rw [h] at ih
        cases r with
        | nil => simp [joinColon] at ih ⊢; exact ih
        | cons y r' => simp [joinColon] at ih ⊢; exact ih

end Pandora.Proofs.C20R4
