/-
C13 — lemmas about the end of a provider's `Run` (Model/C13Run.lean): which returns close the sink.
-/
import Pandora.Model.C13Run

namespace Pandora.Proofs.C13
open Pandora.Model.C13

/-- once the closing defer is registered it stays registered: every later return closes the sink -/
theorem closedAtReturn_registered (l : List RunStmt) (k : Nat) (b : Bool) (h : closedAtReturn l k true = some b) : b = true := by
  induction l generalizing k with
  | nil => cases k <;> simp [closedAtReturn] at h; exact h
  | cons s rest ih =>
    cases s with
    | deferClose => exact ih k (by simpa [closedAtReturn] using h)
    | mayReturn =>
      cases k with
      | zero => simp [closedAtReturn] at h; exact h
      | succ k => exact ih k (by simpa [closedAtReturn] using h)
    | other => exact ih k (by simpa [closedAtReturn] using h)

/-- a `Run` whose closing defer stands in front of every statement that may return closes the sink at EVERY return -/
theorem closesOnEveryReturn_sound (l : List RunStmt) (h : closesOnEveryReturn l = true) (k : Nat) (reg b : Bool)
    (hk : closedAtReturn l k reg = some b) : b = true := by
  induction l generalizing k reg with
  | nil => simp [closesOnEveryReturn] at h
  | cons s rest ih =>
    cases s with
    | deferClose => exact closedAtReturn_registered rest k b (by simpa [closedAtReturn] using hk)
    | mayReturn => simp [closesOnEveryReturn] at h
    | other => exact ih (by simpa [closesOnEveryReturn] using h) k reg (by simpa [closedAtReturn] using hk)

/-- … and otherwise there is a return that leaves it open: the first one -/
theorem closesOnEveryReturn_complete (l : List RunStmt) (h : closesOnEveryReturn l = false) :
    closedAtReturn l 0 false = some false := by
  induction l with
  | nil => rfl
  | cons s rest ih =>
    cases s with
    | deferClose => simp [closesOnEveryReturn] at h
    | mayReturn => rfl
    | other => simpa [closedAtReturn] using ih (by simpa [closesOnEveryReturn] using h)

/-- a closed sink is drained in `buffered + 1` calls -/
theorem drain_closed (n fuel : Nat) (hf : n < fuel) : drainAfterRun fuel ⟨n, true⟩ = some n := by
  induction n generalizing fuel with
  | zero =>
    cases fuel with
    | zero => omega
    | succ f => simp [drainAfterRun, acquireAfterRun]
  | succ n ih =>
    cases fuel with
    | zero => omega
    | succ f =>
      simp [drainAfterRun, acquireAfterRun, ih f (by omega)]

/-- an open sink blocks the instance for ever, however much is buffered -/
theorem drain_open (n fuel : Nat) : drainAfterRun fuel ⟨n, false⟩ = none := by
  induction n generalizing fuel with
  | zero =>
    cases fuel with
    | zero => rfl
    | succ f => simp [drainAfterRun, acquireAfterRun]
  | succ n ih =>
    cases fuel with
    | zero => rfl
    | succ f => simp [drainAfterRun, acquireAfterRun, ih f]

end Pandora.Proofs.C13
