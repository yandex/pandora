/-
C04 — helper lemmas: the timer of a Waiter never holds a stale tick when it is armed (as long as a done context stays
done), so "a timer does not fire early" is needed only of timers armed on an empty channel; drawn passes of a pool instance carry
tokens of the profile.  Core Lean only.
-/
import Pandora.Model.C04Ext
import Pandora.Proofs.C04
import Pandora.Proofs.C04Pool

namespace Pandora.Proofs.C04
open Pandora.Go.C04 Pandora.Model.C04

/-! ### `waitT` is `waitV` plus the timer -/

theorem waitT_eq (v : Variant) (w : Waiter) (tm : TimerSt) (e : Env) :
    waitT v w tm e = ((waitV v w e).w, timerAfter tm (waitV v w e), (waitV v w e).ok) := by
  unfold waitT waitV timerAfter
  by_cases hc : e.ctxDone = true
  · simp [hc]
  · cases htok : e.tok with
    | none => simp [hc]
    | some next =>
      simp only [hc]
      by_cases h1 : timeSub next w.lastNow ≤ 0
      · cases v <;> simp [h1]
      · by_cases h2 : timeSub next e.now ≤ 0
        · simp [h1, h2]
        · by_cases h3 : e.timerWins = true <;> simp [h1, h2, h3]

theorem waitV_path_ctxDone (v : Variant) (w : Waiter) (e : Env) (h : e.ctxDone = true) : (waitV v w e).path = .ctxDone := by
  unfold waitV; simp [h]

/-- the paths that arm the timer are taken only by a call whose context is alive at entry; `timerCancel` means `ctx.Done()` won -/
theorem waitV_path_timer (v : Variant) (w : Waiter) (e : Env) :
    ((waitV v w e).path = .timer → e.ctxDone = false ∧ e.timerWins = true) ∧
    ((waitV v w e).path = .timerCancel → e.ctxDone = false ∧ e.timerWins = false) := by
  unfold waitV
  by_cases hc : e.ctxDone = true
  · simp [hc]
  · cases htok : e.tok with
    | none => simp [hc]
    | some next =>
      simp only [hc]
      by_cases h1 : timeSub next w.lastNow ≤ 0
      · cases v <;> simp [h1]
      · by_cases h2 : timeSub next e.now ≤ 0
        · simp [h1, h2]
        · by_cases h3 : e.timerWins = true <;> simp [h1, h2, h3]

/-! ### clock hypotheses that ask nothing of a timer armed on a possibly non-empty channel -/

/-- `EnvOK` with the timer clause restricted to a timer that is armed on an EMPTY channel (`tm` = the timer before the call): a
timer whose channel may hold the tick of an earlier arming can be "received" at any instant. -/
def EnvOKT (tm : TimerSt) (e : Env) : Prop :=
  e.now ≤ e.arm ∧ e.now ≤ e.ret ∧
    ∀ next ∈ e.tok, e.ctxDone = false → e.now < next → e.timerWins = true → tm.stale = false → e.arm + (next - e.now) ≤ e.ret

instance (tm : TimerSt) (e : Env) : Decidable (EnvOKT tm e) := by unfold EnvOKT; exact inferInstance

/-- `EnvOKT` for every call of a history, the timer state threaded through the calls -/
def TimersOK (v : Variant) : Waiter → TimerSt → List Iter → Prop
  | _, _, [] => True
  | w, tm, it :: rest =>
    EnvOKT tm it.env ∧ TimersOK v (waitV v w it.env).w (timerAfter tm (waitV v w it.env)) rest

instance decTimersOK (v : Variant) : (w : Waiter) → (tm : TimerSt) → (h : List Iter) → Decidable (TimersOK v w tm h)
  | _, _, [] => isTrue trivial
  | w, tm, it :: rest => by
    unfold TimersOK
    exact @instDecidableAnd _ _ _ (decTimersOK v _ _ rest)

/-- the clock hypotheses of a history with the weaker timer clause -/
def ClockOKT (v : Variant) (w : Waiter) (tm : TimerSt) (h : List Iter) : Prop :=
  TimersOK v w tm h ∧ (∀ it ∈ h, w.lastNow ≤ it.env.now) ∧ h.Pairwise (fun a b => a.env.now ≤ b.env.now)

instance (v : Variant) (w : Waiter) (tm : TimerSt) (h : List Iter) : Decidable (ClockOKT v w tm h) := by
  unfold ClockOKT; exact inferInstance

/-- A done context stays done, seen from `Wait`: if `ctx.Done()` won the final `select` of a call (`timerWins = false`), every later
call finds the context done at its entry `select`. (`instance.Run` and `startInstances` pass the same context to every call.) -/
def CtxSticky (h : List Iter) : Prop := h.Pairwise (fun a b => a.env.timerWins = false → b.env.ctxDone = true)

instance (h : List Iter) : Decidable (CtxSticky h) := by unfold CtxSticky; exact inferInstance

/-- the timer states before each call, with the result of the call -/
def timerTrace (v : Variant) : Waiter → TimerSt → List Iter → List (TimerSt × Res)
  | _, _, [] => []
  | w, tm, it :: rest =>
    (tm, waitV v w it.env) :: timerTrace v (waitV v w it.env).w (timerAfter tm (waitV v w it.env)) rest

theorem arm_recv_not_stale (tm : TimerSt) (h : tm.stale = false) : tm.arm.recv.stale = false := by
  unfold TimerSt.stale at h ⊢
  unfold TimerSt.arm TimerSt.recv TimerSt.reset TimerSt.newTimer
  cases hc : tm.created <;> simp_all

/-- the invariant: either the channel is empty, or the context is done for the rest of the run -/
theorem timer_inv_step (v : Variant) (w : Waiter) (tm : TimerSt) (it : Iter) (rest : List Iter) (hs : CtxSticky (it :: rest))
    (hinv : tm.stale = false ∨ ∀ b ∈ it :: rest, b.env.ctxDone = true) :
    (timerAfter tm (waitV v w it.env)).stale = false ∨ ∀ b ∈ rest, b.env.ctxDone = true := by
  rcases hinv with hf | hd
  · cases hp : (waitV v w it.env).path with
    | timer => left; simp only [timerAfter, hp]; exact arm_recv_not_stale tm hf
    | timerCancel =>
      right
      have := ((waitV_path_timer v w it.env).2 hp).2
      exact fun b hb => (List.pairwise_cons.mp hs).1 b hb this
    | ctxDone => left; simpa [timerAfter, hp] using hf
    | finished => left; simpa [timerAfter, hp] using hf
    | cachedNow => left; simpa [timerAfter, hp] using hf
    | freshNow => left; simpa [timerAfter, hp] using hf
  · right; exact fun b hb => hd b (by simp [hb])

/-- Under `CtxSticky`, starting from an empty channel, the weaker timer clause implies the full one: no call of the run arms the
timer on a channel that may hold a tick. -/
theorem timersOK_envOK (v : Variant) (w : Waiter) (tm : TimerSt) (h : List Iter) (hs : CtxSticky h)
    (hinv : tm.stale = false ∨ ∀ b ∈ h, b.env.ctxDone = true) (ht : TimersOK v w tm h) : ∀ it ∈ h, EnvOK it.env := by
  induction h generalizing w tm with
  | nil => simp
  | cons it rest ih =>
    obtain ⟨hE, hrest⟩ := ht
    intro x hx
    simp only [List.mem_cons] at hx
    rcases hx with rfl | hx
    · refine ⟨hE.1, hE.2.1, fun next hn hc hlt htw => ?_⟩
      rcases hinv with hf | hd
      · exact hE.2.2 next hn hc hlt htw hf
      · have := hd x (by simp); simp [hc] at this
    · exact ih _ _ (List.pairwise_cons.mp hs).2 (timer_inv_step v w tm it rest hs hinv) hrest x hx

theorem clockOKT_clockOK (v : Variant) (w : Waiter) (tm : TimerSt) (h : List Iter) (hs : CtxSticky h) (hf : tm.stale = false)
    (hc : ClockOKT v w tm h) : ClockOK w h :=
  ⟨timersOK_envOK v w tm h hs (Or.inl hf) hc.1, hc.2.1, hc.2.2⟩

/-- every call of the run that arms the timer finds its channel empty -/
theorem timerTrace_not_stale (v : Variant) (w : Waiter) (tm : TimerSt) (h : List Iter) (hs : CtxSticky h)
    (hinv : tm.stale = false ∨ ∀ b ∈ h, b.env.ctxDone = true) :
    ∀ p ∈ timerTrace v w tm h, (p.2.path = .timer ∨ p.2.path = .timerCancel) → p.1.stale = false := by
  induction h generalizing w tm with
  | nil => simp [timerTrace]
  | cons it rest ih =>
    intro p hp harm
    simp only [timerTrace, List.mem_cons] at hp
    rcases hp with rfl | hp
    · rcases hinv with hf | hd
      · exact hf
      · have hcd := waitV_path_ctxDone v w it.env (hd it (by simp))
        simp only at harm
        rw [hcd] at harm
        rcases harm with h | h <;> cases h
    · exact ih _ _ (List.pairwise_cons.mp hs).2 (timer_inv_step v w tm it rest hs hinv) p hp harm

/-! ### a pool instance draws tokens of the profile -/

/-- the tokens handed to an instance are tokens of the profile -/
theorem ownToks_subset (toks : List Int) (steps : List PStep) (i : Nat) :
    ∀ t ∈ ownToks (prun (PState.init toks) steps) i, t ∈ toks := by
  intro t ht
  have hcons := prun_conserves (PState.init toks) steps
  simp only [PState.init, List.map_nil, List.nil_append] at hcons
  rw [← hcons]
  apply List.mem_append_left
  unfold ownToks at ht
  rw [List.mem_map] at ht ⊢
  obtain ⟨p, hp, rfl⟩ := ht
  exact ⟨p, (List.mem_filter.mp hp).1, rfl⟩

end Pandora.Proofs.C04
