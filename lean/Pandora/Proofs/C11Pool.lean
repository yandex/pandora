/-
C11 — refinement lemmas for the pool composition (`Model/C11Pool.lean`): the abstract one-bit discipline of an
iteration of `instance.Run` (`actsOkFrom`) implies the ownership discipline `progOk` of the iteration's program, for
every instance number, every ammo object and every list of samples; iterations compose (nothing is owned between two
iterations); hence every instance's whole program satisfies `progOk`.
-/
import Pandora.Model.C11Pool
import Pandora.Proofs.C11Exec

namespace Pandora.Proofs.C11Pool
open Pandora.Model.C11 Pandora.Model.C11Pool
open Pandora.Model.C03Loop (Instr Oracle Outcome)

theorem ownedAfter_append : ∀ (xs ys : List OOp) (O : List Nat),
    ownedAfter O (xs ++ ys) = ownedAfter (ownedAfter O xs) ys := by
  intro xs
  induction xs with
  | nil => intro ys O; rfl
  | cons x xs ih =>
    intro ys O
    cases x <;> simp [ownedAfter, ih]

theorem progOk_append (cls : Nat → Class) (t : Nat) : ∀ (xs ys : List OOp) (O : List Nat),
    progOk cls t O xs → progOk cls t (ownedAfter O xs) ys → progOk cls t O (xs ++ ys) := by
  intro xs
  induction xs with
  | nil => intro ys O _ h; exact h
  | cons x xs ih =>
    intro ys O hx hy
    cases x with
    | acc op => exact ⟨hx.1, ih ys O hx.2 hy⟩
    | own op => exact ⟨hx.1, ih ys O hx.2 hy⟩
    | take l => exact ih ys (l :: O) hx hy
    | give l => exact ⟨hx.1, ih ys _ hx.2 hy⟩

/-! ### the classification of a pool's objects -/

theorem cls_sched : poolCls oSched = .sharedSync 0 := by decide
theorem cls_metrics : poolCls oMetrics = .sharedSync 1 := by decide
theorem cls_queue : poolCls oQueue = .sharedSync 2 := by decide
theorem cls_def : poolCls oDef = .sharedRO := by decide

theorem cls_gun (i : Nat) : poolCls (oGun i) = .loc i := by
  unfold poolCls oGun
  rw [if_neg (by omega), if_neg (by omega), if_pos (by omega)]
  congr 1
  omega

theorem cls_ammo (a : Nat) : poolCls (oAmmo a) = .sharedSync (oAmmo a) := by
  unfold poolCls oAmmo
  rw [if_neg (by omega), if_neg (by omega), if_neg (by omega)]

theorem cls_sample (s : Nat) : poolCls (oSample s) = .sharedSync (oSample s) := by
  unfold poolCls oSample
  rw [if_neg (by omega), if_neg (by omega), if_neg (by omega)]

theorem sample_ne_ammo (s a : Nat) : oSample s ≠ oAmmo a := by
  unfold oSample oAmmo; omega

/-- the tokens an instance holds between two operations of an iteration -/
def hold (h : Bool) (a : Nat) : List Nat := if h then [oAmmo a] else []

theorem samples_ok (t a : Nat) (h : Bool) : ∀ (ss : List Nat),
    progOk poolCls t (hold h a) (ss.flatMap sampleOps) ∧ ownedAfter (hold h a) (ss.flatMap sampleOps) = hold h a := by
  intro ss
  induction ss with
  | nil => exact ⟨trivial, rfl⟩
  | cons s ss ih =>
    have hfil : (oSample s :: hold h a).filter (· != oSample s) = hold h a := by
      cases h
      · simp [hold]
      · have := sample_ne_ammo s a
        simp [hold, Ne.symm this]
    simp only [List.flatMap_cons]
    refine ⟨?_, ?_⟩
    · apply progOk_append
      · refine ⟨⟨oSample s, cls_sample s, List.mem_cons_self⟩, List.mem_cons_self, trivial⟩
      · simp only [sampleOps, ownedAfter, hfil]
        exact ih.1
    · rw [ownedAfter_append]
      simp only [sampleOps, ownedAfter, hfil]
      exact ih.2

/-- **refinement**: the one-bit discipline of an iteration implies the ownership discipline of its program -/
theorem acts_ok (i a : Nat) (ss : List Nat) : ∀ (acts : List Pandora.Model.C03Loop.Act) (h : Bool),
    actsOkFrom h acts = true →
    progOk poolCls i (hold h a) (acts.flatMap (actOps i a ss)) ∧
      ownedAfter (hold h a) (acts.flatMap (actOps i a ss)) = [] := by
  intro acts
  induction acts with
  | nil =>
    intro h hok
    cases h
    · exact ⟨trivial, rfl⟩
    · simp [actsOkFrom] at hok
  | cons act rest ih =>
    intro h hok
    simp only [List.flatMap_cons]
    have accStep : ∀ (op : Op), opOk poolCls i op → actsOkFrom h rest = true →
        progOk poolCls i (hold h a) ([OOp.acc op] ++ rest.flatMap (actOps i a ss)) ∧
          ownedAfter (hold h a) ([OOp.acc op] ++ rest.flatMap (actOps i a ss)) = [] := by
      intro op hop hr
      exact ⟨⟨hop, (ih h hr).1⟩, (ih h hr).2⟩
    cases act with
    | acq =>
      simp only [actsOkFrom, Bool.and_eq_true, Bool.not_eq_true'] at hok
      obtain ⟨hh, hr⟩ := hok
      subst hh
      have := ih true hr
      exact ⟨this.1, this.2⟩
    | empty => exact accStep _ (by simp [opOk, cls_queue]) (by simpa [actsOkFrom] using hok)
    | tokOk => exact accStep _ (by simp [opOk, cls_sched]) (by simpa [actsOkFrom] using hok)
    | tokEnd => exact accStep _ (by simp [opOk, cls_sched]) (by simpa [actsOkFrom] using hok)
    | reqAdd => exact accStep _ (by simp [opOk, cls_metrics]) (by simpa [actsOkFrom] using hok)
    | respAdd => exact accStep _ (by simp [opOk, cls_metrics]) (by simpa [actsOkFrom] using hok)
    | shoot =>
      simp only [actsOkFrom, Bool.and_eq_true] at hok
      obtain ⟨hh, hr⟩ := hok
      subst hh
      have hs := samples_ok i a true ss
      have hrest := ih true hr
      simp only [actOps, List.cons_append, List.nil_append]
      refine ⟨⟨⟨oAmmo a, cls_ammo a, by simp [hold]⟩, by simp [opOk, cls_def], by simp [opOk, cls_gun], ?_⟩, ?_⟩
      · apply progOk_append _ _ _ _ _ hs.1
        rw [hs.2]; exact hrest.1
      · simp only [ownedAfter]
        rw [ownedAfter_append, hs.2]; exact hrest.2
    | discard =>
      have hr : actsOkFrom h rest = true := by simpa [actsOkFrom] using hok
      have hs := samples_ok i a h ss
      have hrest := ih h hr
      simp only [actOps]
      refine ⟨?_, ?_⟩
      · apply progOk_append _ _ _ _ _ hs.1
        rw [hs.2]; exact hrest.1
      · rw [ownedAfter_append, hs.2]; exact hrest.2
    | rel =>
      simp only [actsOkFrom, Bool.and_eq_true] at hok
      obtain ⟨hh, hr⟩ := hok
      subst hh
      have hrest := ih false hr
      have hfil : (hold true a).filter (· != oAmmo a) = hold false a := by simp [hold]
      refine ⟨⟨by simp [hold], ?_⟩, ?_⟩
      · rw [hfil]; exact hrest.1
      · simp only [actOps, List.cons_append, List.nil_append, ownedAfter, hfil]; exact hrest.2
    | bad why => simp [actsOkFrom] at hok

theorem bodyOk_at (body : List Instr) (hb : bodyOk body = true) (a w f : Bool) :
    actsOkFrom false (iterActs body a w f) = true := by
  unfold bodyOk at hb
  simp only [List.all_cons, List.all_nil, Bool.and_true, Bool.and_eq_true] at hb
  cases a <;> cases w <;> cases f <;> simp_all

theorem iter_ok (body : List Instr) (hb : bodyOk body = true) (i : Nat) (c : Iter) :
    progOk poolCls i [] (iterOps body i c) ∧ ownedAfter [] (iterOps body i c) = [] := by
  have ho := bodyOk_at body hb c.acqOk c.waitOk c.fire
  have := acts_ok i c.ammo c.samples _ false ho
  exact ⟨⟨by simp [opOk, cls_sched], this.1⟩, this.2⟩

theorem loop_ok (body : List Instr) (hb : bodyOk body = true) (i : Nat) : ∀ (cs : List Iter),
    progOk poolCls i [] (loopOps body i cs) ∧ ownedAfter [] (loopOps body i cs) = [] := by
  intro cs
  induction cs with
  | nil => exact ⟨trivial, rfl⟩
  | cons c cs ih =>
    have hi := iter_ok body hb i c
    simp only [loopOps]
    split
    · refine ⟨progOk_append _ _ _ _ _ hi.1 (by rw [hi.2]; exact ih.1), ?_⟩
      rw [ownedAfter_append, hi.2]; exact ih.2
    · simp only [List.append_nil]; exact hi

theorem inst_ok (body : List Instr) (hb : bodyOk body = true) (i : Nat) (cs : List Iter) :
    progOk poolCls i [] (instProg body i cs) := by
  have hl := loop_ok body hb i cs
  refine ⟨by simp [opOk, cls_metrics], ?_⟩
  apply progOk_append _ _ _ _ _ hl.1
  rw [hl.2]
  exact ⟨by simp [opOk, cls_sched], by simp [opOk, cls_metrics], trivial⟩

/-- every thread of the pool respects the ownership discipline -/
theorem pool_ok (body : List Instr) (hb : bodyOk body = true) (iters : List (List Iter)) (others : List (List OOp))
    (hoth : ∀ (k : Nat) (ops : List OOp), others[k]? = some ops → progOk poolCls (iters.length + k) [] ops) :
    ∀ (t : Nat) (ops : List OOp), (poolProgs body iters others)[t]? = some ops → progOk poolCls t [] ops := by
  intro t ops hget
  unfold poolProgs at hget
  by_cases ht : t < iters.length
  · rw [List.getElem?_append_left (by simpa using ht)] at hget
    simp only [List.getElem?_map, List.getElem?_zipIdx] at hget
    cases hp : iters[t]? with
    | none => simp [hp] at hget
    | some cs =>
      simp only [hp, Option.map_some, Nat.zero_add, Option.some.injEq] at hget
      subst hget
      exact inst_ok body hb t cs
  · have hge : iters.length ≤ t := Nat.le_of_not_lt ht
    rw [List.getElem?_append_right (by simpa using hge)] at hget
    simp only [List.length_map, List.length_zipIdx] at hget
    have := hoth (t - iters.length) ops hget
    rwa [Nat.add_sub_cancel' hge] at this

end Pandora.Proofs.C11Pool
