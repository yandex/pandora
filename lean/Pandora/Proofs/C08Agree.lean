/-
C08: the small-step machine of every provider kind, driven by the schedule of the harness' drain mode (one consumer
that is always ready, cancel after `cancelAt` acquisitions, Done taken when cancelled), ends exactly like the
fuel-function model `Model.C08.run`: same acquired ammo, same result of `Run`, sink closed.
-/
import Pandora.Proofs.C08Conc

namespace Pandora.Proofs.C08
open Pandora.Model.C08

theorem ctxTop_ret (inp : Input) (n : Nat) (hn : 0 < n) (k : Nat) (s : PSt) (hg : Good inp n k s)
    (ht : inp.kind.ctxTop = true) (r : RunRes) (h : stepOf inp n true s = .ret r) : r = .canceled := by
  rcases ctxTop_step_true inp n hn k s hg ht with h' | ⟨_, h'⟩ <;> rw [h'] at h <;> cases h
  rfl

/-- the loops without a ctx check never return context.Canceled from an iteration -/
theorem nonTop_ret (inp : Input) (n : Nat) (k : Nat) (s : PSt) (hg : Good inp n k s)
    (ht : inp.kind.ctxTop = false) (c : Bool) (r : RunRes) (h : stepOf inp n c s = .ret r) : r ≠ .canceled := by
  cases s with
  | stream d a =>
    obtain ⟨_, hk, _⟩ := hg
    cases hkind : inp.kind <;> simp [hkind, isStreamKind, Kind.ctxTop] at hk ht
  | arr d a =>
    obtain ⟨_, hk, _⟩ := hg
    simp [hk, Kind.ctxTop] at ht
  | unloaded =>
    obtain ⟨_, hk⟩ := hg
    cases hkind : inp.kind <;> simp [hkind, Kind.isHttp, Kind.ctxTop] at hk ht
  | replay ammos a =>
    obtain ⟨_, _, hk⟩ := hg
    cases hkind : inp.kind <;> simp [hkind, Kind.isHttp, isScenario, Kind.ctxTop] at hk ht
  | grpc g =>
    simp only [stepOf, liftAct_ret, grpcStep] at h
    split at h
    · cases h
    · split at h
      · cases h; simp
      · split at h
        · cases h; simp
        · split at h
          · cases h; simp
          · cases h
  | gen a rd ps =>
    simp only [stepOf, liftAct_ret, genStep] at h
    split at h
    · cases h; simp
    · split at h
      · cases h; simp
      · cases h
      · cases h

theorem kindEnd_top (k : Kind) (ht : k.ctxTop = true) (cancelAt : Option Nat) (T : Nat) :
    kindEnd k cancelAt T = endRes cancelAt T := by
  cases k <;> simp [Kind.ctxTop] at ht <;> rfl

theorem kindEnd_nonTop (k : Kind) (ht : k.ctxTop = false) (cancelAt : Option Nat) (T : Nat) :
    kindEnd k cancelAt T = .nil := by
  cases k <;> simp [Kind.ctxTop] at ht <;> rfl

theorem doneRes_top (k : Kind) (ht : k.ctxTop = true) : doneResOf k = .canceled := by
  cases k <;> simp [Kind.ctxTop] at ht <;> rfl

theorem doneRes_nonTop (k : Kind) (ht : k.ctxTop = false) : doneResOf k = .nil := by
  cases k <;> simp [Kind.ctxTop] at ht <;> rfl

/-- what the drain schedule ends in -/
structure DriveEnd (inp : Input) (n T : Nat) (f : Sys) : Prop where
  res : f.result = some (kindEnd inp.kind inp.cancelAt T)
  acq : f.log.map (·.2) = cycl n T
  closed : f.closed = true

/-- remaining work of the drain schedule -/
def driveMeasure (n T : Nat) (s : Sys) : Nat :=
  3 * (T - s.sent) + (if s.offering.isSome then 1 else 2 + tauBudget n s.ps)

theorem driveSeq_done (inp : Input) (n fuel : Nat) (s : Sys) (h : s.result.isSome = true) :
    driveSeq inp n fuel s = s := by
  cases fuel with
  | zero => rfl
  | succ f => simp [driveSeq, h]

theorem dm_some (n T : Nat) (s : Sys) (p : Nat × PSt) (h : s.offering = some p) :
    driveMeasure n T s = 3 * (T - s.sent) + 1 := by simp [driveMeasure, h]

theorem dm_none (n T : Nat) (s : Sys) (h : s.offering = none) :
    driveMeasure n T s = 3 * (T - s.sent) + (2 + tauBudget n s.ps) := by simp [driveMeasure, h]

theorem sent_hand (s : Sys) (ps' : PSt) (i : Nat) :
    Sys.sent { s with ps := ps', offering := none, log := s.log ++ [(0, i)] } = s.sent + 1 := by
  simp [Sys.sent]; omega

/-- the invariant of the drain schedule at the top of an iteration -/
structure DriveInv (inp : Input) (n T : Nat) (s : Sys) : Prop where
  inv : SysInv inp n inp.kind.chanCap s
  buf : s.buf = []
  res : s.result = none
  le : s.sent ≤ T
  flag : s.cancelled = true → cancelled inp.cancelAt s.log.length = true

/-- one iteration of `driveSeq` from a state whose cancel flag is what the harness would have set -/
def driveIter (inp : Input) (n fuel : Nat) (s1 : Sys) : Sys :=
  match s1.offering with
  | some _ =>
    if s1.cancelled then driveSeq inp n fuel ((s1.next inp n inp.kind.chanCap 1 .done).getD s1)
    else driveSeq inp n fuel ((s1.next inp n inp.kind.chanCap 1 (.hand 0)).getD s1)
  | none => driveSeq inp n fuel ((s1.next inp n inp.kind.chanCap 1 .prod).getD s1)

theorem driveIter_spec (inp : Input) (n T : Nat) (hn : 0 < n)
    (tg : Tgt inp.b.limit inp.b.passes n inp.cancelAt T) (fuel : Nat)
    (ih : ∀ s, DriveInv inp n T s → driveMeasure n T s < fuel → DriveEnd inp n T (driveSeq inp n fuel s))
    (s1 : Sys) (hd : DriveInv inp n T s1) (hfl : s1.cancelled = cancelled inp.cancelAt s1.log.length)
    (hm : driveMeasure n T s1 < fuel + 1) : DriveEnd inp n T (driveIter inp n fuel s1) := by
  obtain ⟨hi1, hbuf, hres1, hle, _⟩ := hd
  have hsent : s1.sent = s1.log.length := by simp [Sys.sent, hbuf]
  obtain ⟨hcl, hg1, ho⟩ := hi1.running hres1
  have hacq : ∀ k, s1.sent = k → s1.log.map (·.2) = cycl n k := by
    intro k hk
    have := hi1.seq
    rw [hbuf, List.append_nil, hk] at this
    exact this
  have hend : s1.ended = [] := by
    cases he : s1.ended with
    | nil => rfl
    | cons a l => have := (hi1.ended (by simp [he])).1; simp [hcl] at this
  unfold driveIter
  cases hc : cancelled inp.cancelAt s1.log.length with
  | true =>
    -- the context is cancelled: sent = T = the cancel point
    have hc1 : s1.cancelled = true := by rw [hfl, hc]
    obtain ⟨c, hca, hck⟩ := (cancelled_true_iff _ _).mp hc
    have hkT : s1.sent = T := by have := tg.le_cancel c hca; omega
    have hendres : endRes inp.cancelAt T = .canceled := by
      unfold endRes
      rw [← hkT, hsent, hc]; rfl
    cases hoff : s1.offering with
    | some p =>
      obtain ⟨i, ps'⟩ := p
      simp only [hc1, if_true]
      have hnext : s1.next inp n inp.kind.chanCap 1 .done =
          some { s1 with offering := none, result := some (doneResOf inp.kind), closed := true } := by
        simp [Sys.next, hres1, hoff, hc1]
      rw [hnext, Option.getD_some, driveSeq_done _ _ _ _ (by simp)]
      refine ⟨?_, hacq T hkT, rfl⟩
      simp only
      cases ht : inp.kind.ctxTop with
      | true => rw [doneRes_top _ ht, kindEnd_top _ ht, hendres]
      | false => rw [doneRes_nonTop _ ht, kindEnd_nonTop _ ht]
    | none =>
      simp only
      have ok := good_step inp n hn s1.cancelled s1.sent s1.ps hg1 hi1.below
      cases hst : stepOf inp n s1.cancelled s1.ps with
      | ret r =>
        have hnext : s1.next inp n inp.kind.chanCap 1 .prod = some { s1 with result := some r, closed := true } := by
          simp [Sys.next, hres1, hoff, hst]
        rw [hnext, Option.getD_some, driveSeq_done _ _ _ _ (by simp)]
        refine ⟨?_, hacq T hkT, rfl⟩
        simp only
        cases ht : inp.kind.ctxTop with
        | true =>
          rw [hc1] at hst
          rw [ctxTop_ret inp n hn _ _ hg1 ht r hst, kindEnd_top _ ht, hendres]
        | false =>
          have hne := nonTop_ret inp n _ _ hg1 ht _ r hst
          rcases ok.ret r hst with ⟨h1, _⟩ | ⟨_, h1⟩
          · rw [h1, kindEnd_nonTop _ ht]
          · exact absurd h1 hne
      | offer i ps' =>
        have hnext : s1.next inp n inp.kind.chanCap 1 .prod = some { s1 with offering := some (i, ps') } := by
          simp [Sys.next, hres1, hoff, hst]
        rw [hnext, Option.getD_some]
        have hi2 := sysInv_next inp n _ 1 hn s1 _ .prod hi1 hnext
        apply ih _ ⟨hi2, hbuf, hres1, hle, fun _ => hc⟩
        rw [dm_some n T _ (i, ps') rfl]
        rw [dm_none n T s1 hoff] at hm
        show 3 * (T - s1.sent) + 1 < fuel
        omega
      | tau ps' =>
        have hlt := (ok.tau ps' hst).2
        have hnext : s1.next inp n inp.kind.chanCap 1 .prod = some { s1 with ps := ps' } := by
          simp [Sys.next, hres1, hoff, hst]
        rw [hnext, Option.getD_some]
        have hi2 := sysInv_next inp n _ 1 hn s1 _ .prod hi1 hnext
        apply ih _ ⟨hi2, hbuf, hres1, hle, fun _ => hc⟩
        rw [dm_none n T { s1 with ps := ps' } hoff]
        rw [dm_none n T s1 hoff] at hm
        show 3 * (T - s1.sent) + (2 + tauBudget n ps') < fuel
        omega
  | false =>
    have hc1 : s1.cancelled = false := by rw [hfl, hc]
    have hnc : ∀ c, inp.cancelAt = some c → s1.log.length < c := (cancelled_false_iff _ _).mp hc
    cases hoff : s1.offering with
    | some p =>
      obtain ⟨i, ps'⟩ := p
      simp only [hc1, Bool.false_eq_true, if_false]
      obtain ⟨_, hstrict, _⟩ := ho i ps' hoff
      -- one more ammo is allowed by every bound and by the cancel point: sent < T
      have hlt : s1.sent < T := by
        rcases tg.attained with ⟨h0, h1⟩ | ⟨h0, h1⟩ | h1
        · rcases hstrict.1 with h2 | h2 <;> omega
        · rcases hstrict.2 with h2 | h2 <;> omega
        · have := hnc T h1; omega
      have hnext : s1.next inp n inp.kind.chanCap 1 (.hand 0) =
          some { s1 with ps := ps', offering := none, log := s1.log ++ [(0, i)] } := by
        simp [Sys.next, hoff, hres1, hbuf, hend]
      rw [hnext, Option.getD_some]
      have hi2 := sysInv_next inp n _ 1 hn s1 _ (.hand 0) hi1 hnext
      have hs2 := sent_hand s1 ps' i
      apply ih _ ⟨hi2, hbuf, hres1, by rw [hs2]; omega, fun h => by simp [hc1] at h⟩
      have hb := tauBudget_le_one n ps'
      rw [dm_none n T _ rfl, hs2]
      rw [dm_some n T s1 (i, ps') hoff] at hm
      show 3 * (T - (s1.sent + 1)) + (2 + tauBudget n ps') < fuel
      omega
    | none =>
      simp only
      have ok := good_step inp n hn s1.cancelled s1.sent s1.ps hg1 hi1.below
      cases hst : stepOf inp n s1.cancelled s1.ps with
      | ret r =>
        have hnext : s1.next inp n inp.kind.chanCap 1 .prod = some { s1 with result := some r, closed := true } := by
          simp [Sys.next, hres1, hoff, hst]
        rw [hnext, Option.getD_some, driveSeq_done _ _ _ _ (by simp)]
        rcases ok.ret r hst with ⟨h1, hb⟩ | ⟨h0, _⟩
        · -- the bound is reached: sent = T
          have hkT : s1.sent = T := by
            obtain ⟨_, hb2⟩ := hb
            rcases hb2 with ⟨h0, h2⟩ | ⟨h0, h2⟩
            · have := tg.le_limit h0; omega
            · have := tg.le_pass h0; omega
          refine ⟨?_, hacq T hkT, rfl⟩
          simp only
          rw [h1]
          cases ht : inp.kind.ctxTop with
          | true =>
            rw [kindEnd_top _ ht]
            unfold endRes
            rw [← hkT, hsent, hc]; rfl
          | false => rw [kindEnd_nonTop _ ht]
        · rw [hc1] at h0; cases h0
      | offer i ps' =>
        have hnext : s1.next inp n inp.kind.chanCap 1 .prod = some { s1 with offering := some (i, ps') } := by
          simp [Sys.next, hres1, hoff, hst]
        rw [hnext, Option.getD_some]
        have hi2 := sysInv_next inp n _ 1 hn s1 _ .prod hi1 hnext
        apply ih _ ⟨hi2, hbuf, hres1, hle, fun h => by simp [hc1] at h⟩
        rw [dm_some n T _ (i, ps') rfl]
        rw [dm_none n T s1 hoff] at hm
        show 3 * (T - s1.sent) + 1 < fuel
        omega
      | tau ps' =>
        have hlt := (ok.tau ps' hst).2
        have hnext : s1.next inp n inp.kind.chanCap 1 .prod = some { s1 with ps := ps' } := by
          simp [Sys.next, hres1, hoff, hst]
        rw [hnext, Option.getD_some]
        have hi2 := sysInv_next inp n _ 1 hn s1 _ .prod hi1 hnext
        apply ih _ ⟨hi2, hbuf, hres1, hle, fun h => by simp [hc1] at h⟩
        rw [dm_none n T { s1 with ps := ps' } hoff]
        rw [dm_none n T s1 hoff] at hm
        show 3 * (T - s1.sent) + (2 + tauBudget n ps') < fuel
        omega

theorem driveSeq_spec (inp : Input) (n T : Nat) (hn : 0 < n)
    (tg : Tgt inp.b.limit inp.b.passes n inp.cancelAt T) :
    ∀ (fuel : Nat) (s : Sys), DriveInv inp n T s → driveMeasure n T s < fuel →
      DriveEnd inp n T (driveSeq inp n fuel s) := by
  intro fuel
  induction fuel with
  | zero => intro s _ h; omega
  | succ fuel ih =>
    intro s hd hm
    by_cases hc : cancelled inp.cancelAt s.log.length = true
    · -- the harness cancels (or has cancelled) the context
      have hstep : driveSeq inp n (fuel + 1) s = driveIter inp n fuel { s with cancelled := true } := by
        cases hoff : s.offering <;> simp [driveSeq, driveIter, hd.res, hc, hoff]
      rw [hstep]
      have hi1 := sysInv_next inp n _ 1 hn s _ .cancel hd.inv rfl
      exact driveIter_spec inp n T hn tg fuel ih _ ⟨hi1, hd.buf, hd.res, hd.le, fun _ => hc⟩ (by simp [hc]) hm
    · have hcf : s.cancelled = false := by
        cases h : s.cancelled with
        | false => rfl
        | true => exact absurd (hd.flag h) hc
      have hstep : driveSeq inp n (fuel + 1) s = driveIter inp n fuel s := by
        cases hoff : s.offering <;> simp [driveSeq, driveIter, hd.res, hc, hoff]
      rw [hstep]
      have hc' : cancelled inp.cancelAt s.log.length = false := by
        cases h : cancelled inp.cancelAt s.log.length with
        | false => rfl
        | true => exact absurd h hc
      exact driveIter_spec inp n T hn tg fuel ih s hd (by rw [hcf, hc']) hm

/-- the machine under the drain schedule = `Model.C08.run` -/
theorem runMach_eq (inp : Input) (n T : Nat) (hn : 0 < n)
    (hT : target inp.b.limit inp.b.passes n inp.cancelAt = some T) :
    runMach inp n = some ⟨cycl n T, kindEnd inp.kind inp.cancelAt T, true⟩ := by
  have tg := tgt_of_target _ _ _ _ _ hn hT
  have hb := tauBudget_le_one n (initSt inp n)
  have h := driveSeq_spec inp n T hn tg (3 * T + 8) (Sys.init inp n)
    ⟨sysInv_init inp n _ hn, rfl, rfl, by simp [Sys.init, Sys.sent], by intro h; simp [Sys.init] at h⟩
    (by rw [dm_none n T _ rfl]; simp only [Sys.init, Sys.sent]; simp; omega)
  unfold runMach
  rw [hT]
  simp only [h.res, h.acq, h.closed]

end Pandora.Proofs.C08
