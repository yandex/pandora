/-
C07 — the uri scanner reads back every rendered file (`uriPassLim lim (renderItems …) = expAmmo …`).
-/
import Pandora.Proofs.C07Lib
import Pandora.Spec.C07

namespace Pandora.Proofs.C07
open Pandora.Model.C07 Pandora.Spec.C07

/-! ### a scanner reads back a rendered file: the recursion over the entries, once for the three line formats -/

/-- an entry that is not the last of a file without final newline: its line, a newline, its payload, its blank lines -/
theorem renderItems_cons (f : Fmt) (fnl : Bool) (trail : Bytes) (it : Item) (r : List Item) (per : List ItemLay)
    (h : fnl = true ∨ r ≠ []) :
    renderItems f fnl trail (it :: r) per =
      ((per.headD {}).pre ++ content f it (per.headD {}) ++ (per.headD {}).post) ++ LF :: (payload f it ++
        (renderBlanks (per.headD {}).blanks ++ renderItems f fnl trail r per.tail)) := by
  cases r with
  | nil =>
    rcases h with rfl | h
    · simp [renderItems]
    · exact absurd rfl h
  | cons it2 rest => simp [renderItems]

section
variable {σ α : Type} {f : Fmt} {pass : Bytes → σ → List α × Stop} {exp : σ → List Item → List α}
  {step : Item → σ → Bytes → List α × Stop} {Inv : Bytes → Prop}
  -- the line of an entry with its newline and payload in front of `X` …
  (hline : ∀ it l h X, itemOK f it = true → itemLayOK l = true →
    Inv ((l.pre ++ content f it l ++ l.post) ++ LF :: (payload f it ++ X)) →
    pass ((l.pre ++ content f it l ++ l.post) ++ LF :: (payload f it ++ X)) h = step it h X ∧ Inv X)
  -- … and as the unterminated end of the file
  (hlast : ∀ it l h, itemOK f it = true → itemLayOK l = true → payload f it = [] →
    Inv (l.pre ++ content f it l ++ l.post) → pass (l.pre ++ content f it l ++ l.post) h = step it h [])
  (hblanks : ∀ bl X h, bl.all padOK = true → Inv (renderBlanks bl ++ X) → pass (renderBlanks bl ++ X) h = pass X h ∧ Inv X)
  (htrail : ∀ t h, padOK t = true → Inv t → pass t h = (exp h [], .eof))
  (hnil : ∀ h, pass [] h = (exp h [], .eof))
  (hstep : ∀ it r h X, itemOK f it = true → (∀ h', pass X h' = (exp h' r, .eof)) → step it h X = (exp h (it :: r), .eof))
include hline hlast hblanks htrail hnil hstep

theorem pass_renderItems (fnl : Bool) (trail : Bytes) (htr : padOK trail = true) (items : List Item) :
    ∀ (per : List ItemLay) (h : σ), itemsOK f items = true → per.all itemLayOK = true →
      Inv (renderItems f fnl trail items per) → pass (renderItems f fnl trail items per) h = (exp h items, .eof) := by
  induction items with
  | nil => intro per h _ _ hI; exact htrail trail h htr hI
  | cons it r ih =>
    intro per h hi hp hI
    obtain ⟨hit, hi'⟩ : itemOK f it = true ∧ itemsOK f r = true := by simpa [itemsOK] using hi
    obtain ⟨hl, hp'⟩ : itemLayOK (per.headD {}) = true ∧ per.tail.all itemLayOK = true := by
      cases per with
      | nil => exact ⟨rfl, rfl⟩
      | cons a t => simpa using hp
    by_cases hc : fnl = true ∨ r ≠ []
    · have hlb : (per.headD {}).blanks.all padOK = true := by
        simp only [itemLayOK, Bool.and_eq_true] at hl; exact hl.2
      rw [renderItems_cons f fnl trail it r per hc] at hI ⊢
      obtain ⟨he, hI1⟩ := hline it _ h _ hit hl hI
      rw [he]
      exact hstep it r h _ hit fun h' => by
        rw [(hblanks _ _ h' hlb hI1).1]; exact ih per.tail h' hi' hp' (hblanks _ _ h hlb hI1).2
    · -- the last entry of a file that does not end with a newline
      obtain ⟨rfl, rfl⟩ : fnl = false ∧ r = [] := by
        cases fnl <;> simp at hc ⊢ <;> exact hc
      rw [renderItems] at hI ⊢
      simp only [Bool.false_eq_true, if_false] at hI ⊢
      by_cases hpe : (payload f it).isEmpty = true
      · rw [if_pos hpe] at hI ⊢
        exact (hlast it _ h hit hl (List.isEmpty_iff.mp hpe) hI).trans (hstep it [] h [] hit hnil)
      · rw [if_neg hpe, ← List.append_nil (payload f it)] at hI ⊢
        exact (hline it _ h [] hit hl hI).1.trans (hstep it [] h [] hit hnil)

/-- … and so the whole file, leading blank lines included -/
theorem pass_render (items : List Item) (lay : Layout) (h : σ) (hi : itemsOK f items = true) (hl : layoutOK lay = true)
    (hI : Inv (render f items lay)) : pass (render f items lay) h = (exp h items, .eof) := by
  simp only [layoutOK, Bool.and_eq_true] at hl
  obtain ⟨hb, hI'⟩ := hblanks lay.lead _ h hl.1.1 hI
  rw [render, hb]
  exact pass_renderItems hline hlast hblanks htrail hnil hstep lay.finalNL lay.trail hl.2 items lay.per h hi hl.1.2 hI'

end

/-- what one entry of a line format does to the rest `X` of a pass -/
def itemStep (f : Fmt) (pass : Bytes → Hdrs → List Ammo × Stop) (it : Item) (h : Hdrs) (X : Bytes) : List Ammo × Stop :=
  match it with
  | .hdr k v => pass X (hset h k v)
  | .req u t b =>
    ({ method := if f = .uripost then postBytes else getBytes, url := u, body := if f = .uripost then b else [], tag := t,
       hdrs := h } :: (pass X h).1, (pass X h).2)
  | .frame _ _ => pass X h

theorem itemStep_exp (f : Fmt) (pass : Bytes → Hdrs → List Ammo × Stop) (it : Item) (r : List Item) (h : Hdrs) (X : Bytes)
    (ih : ∀ h', pass X h' = (expAmmo f h' r, .eof)) : itemStep f pass it h X = (expAmmo f h (it :: r), .eof) := by
  cases it <;> simp [itemStep, expAmmo, ih]

-- the token limit of the decoder's Scanner: every lemma of this file holds for any limit (`none`: the decoder of /repo
-- since 66b1841; `some maxTok`: the default Scanner it had before)
variable {lim : Option Nat}

/-- ` tag` or nothing -/
def tagPart (t : Bytes) : Bytes := if t.isEmpty then [] else SP :: t

theorem cut_tagPart (u t : Bytes) (hu : SP ∉ u) :
    (cut SP (u ++ tagPart t)).1 = u ∧ (cut SP (u ++ tagPart t)).2.1 = t := by
  unfold tagPart
  cases t with
  | nil => simp [cut_no_sep SP u hu]
  | cons a r => simp [cut_append_sep SP u (a :: r) hu]

theorem last_ne_cr_of_rev (s : Bytes) (h : spWidthRev s.reverse = 0) : s.getLast? ≠ some 13 := by
  rw [List.getLast?_eq_head?_reverse]
  cases hr : s.reverse with
  | nil => simp
  | cons x r =>
    rw [hr] at h
    have := notWs_of_spWidthRev x r h
    intro e
    simp at e
    subst e
    simp [isAsciiWs] at this

/-- the right edge of `u ++ tagPart t` is the right edge of `t` (or of `u` when there is no tag) -/
theorem rev_edge_tagPart (u t : Bytes) (hu : spWidthRev u.reverse = 0) (ht : spWidthRev t.reverse = 0) :
    spWidthRev (u ++ tagPart t).reverse = 0 := by
  unfold tagPart
  cases t with
  | nil => simpa using hu
  | cons a r =>
    have : (u ++ SP :: (a :: r)).reverse = (a :: r).reverse ++ SP :: u.reverse := by simp
    simp only [List.isEmpty_cons, Bool.false_eq_true, if_false]
    rw [this]
    apply spWidthRev_append _ _ (by simp) ht
    intro x hx
    simp at hx; subst hx; decide

theorem mem_dropCR {b : UInt8} {s : Bytes} (h : b ∈ dropCR s) : b ∈ s := by
  unfold dropCR at h
  split at h
  · exact List.dropLast_subset _ h
  · exact h

/-- dropping the CR of a CRLF ending only changes the trailing blanks of a line -/
theorem dropCR_line (pre core post : Bytes) (hc : core ≠ []) (hl : core.getLast? ≠ some 13) (hpost : allWs post) :
    ∃ post', allWs post' ∧ dropCR (pre ++ core ++ post) = pre ++ core ++ post' := by
  rcases List.eq_nil_or_concat post with hp | ⟨q, b, hp⟩
  · subst hp
    refine ⟨[], allWs.nil, ?_⟩
    apply dropCR_of_last_ne
    simp only [List.append_nil]
    rw [List.getLast?_append]
    cases hcl : core.getLast? with
    | none => exact absurd (List.getLast?_eq_none_iff.mp hcl) hc
    | some x => rw [hcl] at hl; simpa using hl
  · rw [List.concat_eq_append] at hp
    subst hp
    by_cases hb : b = 13
    · subst hb
      refine ⟨q, allWs_of_concat_cr hpost, ?_⟩
      rw [← List.append_assoc]
      exact dropCR_concat_cr _
    · refine ⟨q ++ [b], hpost, ?_⟩
      apply dropCR_of_last_ne
      rw [← List.append_assoc, List.getLast?_concat]
      simpa using hb

theorem allWs_dropCR {p : Bytes} (hp : allWs p) : allWs (dropCR p) := by
  rcases List.eq_nil_or_concat p with h | ⟨q, b, h⟩
  · subst h; exact allWs.nil
  · rw [List.concat_eq_append] at h
    subst h
    by_cases hb : b = 13
    · subst hb
      rw [dropCR_concat_cr]; exact allWs_of_concat_cr hp
    · rw [dropCR_of_last_ne _ (by rw [List.getLast?_concat]; simpa using hb)]; exact hp

/-! ### one line -/

theorem uriPass_nil (h : Hdrs) : uriPassLim lim [] h = ([], .eof) := by
  rw [uriPassLim]

/-- a complete line `line ⏎ R`, or the unterminated last line `line` (then `R = []`) -/
theorem uriPass_line (line R bs : Bytes) (h : Hdrs) (hline : LF ∉ line) (hfit : tooLong lim line.length = false)
    (hbs : bs = line ++ LF :: R ∨ (bs = line ∧ line ≠ [] ∧ R = [])) :
    uriPassLim lim bs h =
      match uriLine (dropCR line) h with
      | .skip h' => uriPassLim lim R h'
      | .ammo a => (a :: (uriPassLim lim R h).1, (uriPassLim lim R h).2)
      | .err e => ([], .err e) := by
  have hc : (cut LF bs).1 = line ∧ (cut LF bs).2.1 = R := by
    rcases hbs with hbs | ⟨hbs, _, hR⟩
    · rw [hbs, cut_append_sep LF line R hline]; exact ⟨rfl, rfl⟩
    · rw [hbs, hR, cut_no_sep LF line hline]; exact ⟨rfl, rfl⟩
  have hne : bs ≠ [] := by
    rcases hbs with hbs | ⟨hbs, hl, _⟩
    · rw [hbs]; simp
    · rw [hbs]; exact hl
  cases hb : bs with
  | nil => exact absurd hb hne
  | cons b r =>
    rw [uriPassLim]
    rw [hb] at hc
    simp only [hc.1, hc.2]
    simp only [hfit, Bool.false_eq_true, if_false]
    cases uriLine (dropCR line) h <;> rfl

theorem uriLine_blank (p : Bytes) (h : Hdrs) (hp : allWs p) : uriLine (dropCR p) h = .skip h := by
  have : trimSpace (dropCR p) = [] := trimSpace_allWs _ (allWs_dropCR hp)
  simp [uriLine, this]

theorem bracketed_props (k v i1 i2 i3 i4 : Bytes) :
    let c := LBR :: (i1 ++ k ++ i2 ++ COLON :: (i3 ++ v ++ i4 ++ [RBR]))
    c ≠ [] ∧ spWidth c = 0 ∧ spWidthRev c.reverse = 0 ∧ c.getLast? ≠ some 13 := by
  intro c
  have hrev : c.reverse = RBR :: (LBR :: (i1 ++ k ++ i2 ++ COLON :: (i3 ++ v ++ i4))).reverse := by
    simp [c]
  have h3 : spWidthRev c.reverse = 0 := by
    rw [hrev]; exact spWidthRev_ascii RBR _ (by decide) (by decide)
  exact ⟨by simp [c], spWidth_ascii LBR _ (by decide) (by decide), h3, last_ne_cr_of_rev c h3⟩

theorem targetOK_props {u : Bytes} (hu : targetOK u = true) :
    ∃ b r, u = b :: r ∧ b < 128 ∧ isAsciiWs b = false ∧ b ≠ LBR ∧ LF ∉ u ∧ SP ∉ u ∧ spWidthRev u.reverse = 0 := by
  cases u with
  | nil => simp [targetOK] at hu
  | cons b r =>
    simp only [targetOK, Bool.and_eq_true, decide_eq_true_eq, Bool.not_eq_true', bne_iff_ne, ne_eq, beq_iff_eq] at hu
    obtain ⟨⟨⟨⟨⟨h1, h2⟩, h3⟩, h4⟩, h5⟩, h6⟩ := hu
    refine ⟨b, r, rfl, h1, h2, h3, ?_, ?_, h6⟩
    · exact (noLF_iff _).mp h4
    · simpa using h5

theorem tagOK_props {t : Bytes} (ht : tagOK t = true) : LF ∉ t ∧ spWidthRev t.reverse = 0 := by
  simp only [tagOK, Bool.and_eq_true, beq_iff_eq] at ht
  exact ⟨(noLF_iff _).mp ht.1, ht.2⟩

theorem tagPart_noLF {t : Bytes} (ht : LF ∉ t) : LF ∉ tagPart t := by
  unfold tagPart
  split
  · simp
  · intro hm
    simp at hm
    rcases hm with hm | hm
    · exact absurd hm (by decide)
    · exact ht hm

/-- the content of a header entry (the same in every format): one line, not empty, no white space at its ends -/
theorem hdrContent_props (f : Fmt) (k v : Bytes) (l : ItemLay) (hk : hdrKeyOK k = true) (hv : hdrValOK v = true)
    (hl : itemLayOK l = true) :
    LF ∉ content f (.hdr k v) l ∧ content f (.hdr k v) l ≠ [] ∧ spWidth (content f (.hdr k v) l) = 0 ∧
    spWidthRev (content f (.hdr k v) l).reverse = 0 := by
  simp only [itemLayOK, Bool.and_eq_true] at hl
  obtain ⟨⟨⟨⟨⟨⟨_, _⟩, h1⟩, h2⟩, h3⟩, h4⟩, _⟩ := hl
  simp only [hdrKeyOK, hdrValOK, Bool.and_eq_true] at hk hv
  have hp := bracketed_props k v l.i1 l.i2 l.i3 l.i4
  refine ⟨?_, hp.1, hp.2.1, hp.2.2.1⟩
  simp only [content, List.mem_append, List.mem_cons, List.mem_nil_iff, not_or, or_false]
  exact ⟨by decide, ⟨⟨padOK_noLF h1, (noLF_iff k).mp hk.1.1.2⟩, padOK_noLF h2⟩, by decide,
    ⟨⟨padOK_noLF h3, (noLF_iff v).mp hv.1⟩, padOK_noLF h4⟩, by decide⟩

theorem content_uri_req (u t b : Bytes) (l : ItemLay) : content .uri (.req u t b) l = u ++ tagPart t := by
  simp [content, tagPart]

/-- … and so the content of every entry of a uri file -/
theorem contentUri_props (it : Item) (l : ItemLay) (hit : itemOK .uri it = true) (hl : itemLayOK l = true) :
    LF ∉ content .uri it l ∧ content .uri it l ≠ [] ∧ spWidth (content .uri it l) = 0 ∧
    spWidthRev (content .uri it l).reverse = 0 := by
  cases it with
  | hdr k v =>
    simp only [itemOK, Bool.and_eq_true] at hit
    exact hdrContent_props .uri k v l hit.1.2 hit.2 hl
  | req u t b =>
    simp only [itemOK, Bool.and_eq_true] at hit
    obtain ⟨c, r, hcr, hc1, hc2, _, huLF, _, hurev⟩ := targetOK_props hit.1.1.2
    obtain ⟨htLF, htrev⟩ := tagOK_props hit.1.2
    rw [content_uri_req]
    refine ⟨?_, by rw [hcr]; simp, ?_, rev_edge_tagPart u t hurev htrev⟩
    · simp only [List.mem_append, not_or]; exact ⟨huLF, tagPart_noLF htLF⟩
    · rw [hcr, List.cons_append]; exact spWidth_ascii c _ hc1 hc2
  | frame t fr => simp [itemOK] at hit

/-- what `readLine` makes of the line of an entry, with any permitted blanks around it and a CR at its end or not -/
theorem uriLine_item (it : Item) (l : ItemLay) (h : Hdrs) (hit : itemOK .uri it = true) (hl : itemLayOK l = true) :
    uriLine (dropCR (l.pre ++ content .uri it l ++ l.post)) h =
      match it with
      | .hdr k v => .skip (hset h k v)
      | .req u t _ => .ammo { method := getBytes, url := u, body := [], tag := t, hdrs := h }
      | .frame _ _ => .skip h := by
  obtain ⟨_, hne, hfw, hrev⟩ := contentUri_props it l hit hl
  have hl' := hl
  simp only [itemLayOK, Bool.and_eq_true] at hl'
  obtain ⟨⟨⟨⟨⟨⟨hpre, hpost⟩, h1⟩, h2⟩, h3⟩, h4⟩, _⟩ := hl'
  obtain ⟨post', hpost', hd⟩ := dropCR_line l.pre _ l.post hne (last_ne_cr_of_rev _ hrev) (padOK_allWs hpost)
  unfold uriLine
  rw [hd, trimSpace_pad l.pre _ post' (padOK_allWs hpre) hpost' hfw hrev]
  cases it with
  | hdr k v =>
    simp only [itemOK, Bool.and_eq_true] at hit
    simp only [content, if_true]
    rw [decodeHeader_render k v _ _ _ _ hit.1.2 hit.2 h1 h2 h3 h4]
  | req u t b =>
    simp only [itemOK, Bool.and_eq_true] at hit
    obtain ⟨c, r, hcr, _, _, hc3, _, huSP, _⟩ := targetOK_props hit.1.1.2
    have hcut := cut_tagPart u t huSP
    rw [content_uri_req]
    rw [show u ++ tagPart t = c :: (r ++ tagPart t) by rw [hcr]; rfl] at hcut ⊢
    simp only [hc3, if_false]
    rw [hcut.1, hcut.2]
  | frame t fr => simp [itemOK] at hit

/-! ### token limit bookkeeping -/

/-- every line of `bs` fits a `bufio.Scanner` token of limit `lim` -/
def fits (lim : Option Nat) (bs : Bytes) : Prop := ∀ l ∈ splitOn LF bs, tooLong lim l.length = false

theorem fits_line {line R : Bytes} (hl : LF ∉ line) (h : fits lim (line ++ LF :: R)) : tooLong lim line.length = false ∧ fits lim R := by
  unfold fits at h
  rw [splitOn_append_sep LF line R hl] at h
  exact ⟨h line (by simp), fun l hm => h l (by simp [hm])⟩

theorem fits_last {line : Bytes} (hl : LF ∉ line) (h : fits lim line) : tooLong lim line.length = false := by
  unfold fits at h
  rw [splitOn_no_sep LF line hl] at h
  exact h line (by simp)

theorem fits_of_linesFitL {file : Bytes} (h : linesFitL lim file = true) : fits lim file := by
  intro l hl
  simp only [linesFitL, List.all_eq_true, Bool.not_eq_true'] at h
  exact h l hl

theorem fits_of_linesFit {file : Bytes} (h : linesFit file = true) : fits (some maxTok) file :=
  fits_of_linesFitL h

theorem fits_none (file : Bytes) : fits none file := fun _ _ => rfl

/-! ### blank lines, trailing blanks -/

theorem uriPass_blanks (blanks : List Bytes) (X : Bytes) (h : Hdrs) (hb : blanks.all padOK = true)
    (hf : fits lim (renderBlanks blanks ++ X)) :
    uriPassLim lim (renderBlanks blanks ++ X) h = uriPassLim lim X h ∧ fits lim X := by
  induction blanks with
  | nil => exact ⟨rfl, hf⟩
  | cons p r ih =>
    simp only [List.all_cons, Bool.and_eq_true] at hb
    have hshape : renderBlanks (p :: r) ++ X = p ++ LF :: (renderBlanks r ++ X) := by simp [renderBlanks]
    rw [hshape] at hf ⊢
    have hp := padOK_noLF hb.1
    obtain ⟨hlen, hf'⟩ := fits_line hp hf
    rw [uriPass_line p (renderBlanks r ++ X) _ h hp hlen (Or.inl rfl), uriLine_blank p h (padOK_allWs hb.1)]
    exact ih hb.2 hf'

theorem uriPass_trail (trail : Bytes) (h : Hdrs) (ht : padOK trail = true) (hf : fits lim trail) :
    uriPassLim lim trail h = ([], .eof) := by
  by_cases hn : trail = []
  · subst hn; exact uriPass_nil h
  · have hp := padOK_noLF ht
    rw [uriPass_line trail [] trail h hp (fits_last hp hf) (Or.inr ⟨rfl, hn, rfl⟩), uriLine_blank trail h (padOK_allWs ht)]
    exact uriPass_nil _

/-! ### one entry -/

theorem content_noLF_uri (it : Item) (l : ItemLay) (hit : itemOK .uri it = true) (hl : itemLayOK l = true) :
    LF ∉ l.pre ++ content .uri it l ++ l.post := by
  have hc := (contentUri_props it l hit hl).1
  simp only [itemLayOK, Bool.and_eq_true] at hl
  simp only [List.mem_append, not_or]
  exact ⟨⟨padOK_noLF hl.1.1.1.1.1.1, hc⟩, padOK_noLF hl.1.1.1.1.1.2⟩

/-- the line of an entry, followed by a newline and `R` or as the unterminated end of the file -/
theorem uriPass_item (it : Item) (l : ItemLay) (h : Hdrs) (R bs : Bytes)
    (hit : itemOK .uri it = true) (hl : itemLayOK l = true)
    (hfit : tooLong lim (l.pre ++ content .uri it l ++ l.post).length = false)
    (hbs : bs = (l.pre ++ content .uri it l ++ l.post) ++ LF :: R ∨ (bs = l.pre ++ content .uri it l ++ l.post ∧ R = [])) :
    uriPassLim lim bs h = itemStep .uri (uriPassLim lim) it h R := by
  obtain ⟨hLF, hne, _⟩ := contentUri_props it l hit hl
  rw [uriPass_line _ R bs h (content_noLF_uri it l hit hl) hfit (hbs.imp id fun ⟨h1, h2⟩ => ⟨h1, by simp [hne], h2⟩),
    uriLine_item it l h hit hl]
  cases it <;> rfl

/-! ### the whole file -/

theorem uriPass_render (items : List Item) (lay : Layout) (h : Hdrs) (hi : itemsOK .uri items = true)
    (hl : layoutOK lay = true) (hf : fits lim (render .uri items lay)) :
    uriPassLim lim (render .uri items lay) h = (expAmmo .uri h items, .eof) := by
  have hpay : ∀ it, itemOK .uri it = true → payload .uri it = [] := fun it hit => by
    cases it <;> simp [payload, itemOK] at hit ⊢
  refine pass_render (step := itemStep .uri (uriPassLim lim)) (Inv := fits lim) (fun it l h X hit hl hI => ?_)
    (fun it l h hit hl _ hI => uriPass_item it l h [] _ hit hl (fits_last (content_noLF_uri it l hit hl) hI) (.inr ⟨rfl, rfl⟩))
    uriPass_blanks uriPass_trail uriPass_nil (fun it r h X _ => itemStep_exp .uri _ it r h X) items lay h hi hl hf
  rw [hpay it hit, List.nil_append] at hI ⊢
  obtain ⟨hlen, hI'⟩ := fits_line (content_noLF_uri it l hit hl) hI
  exact ⟨uriPass_item it l h X _ hit hl hlen (.inl rfl), hI'⟩

end Pandora.Proofs.C07
