/-
C09 — helper lemmas: association-list header maps, MIME canonicalisation is idempotent, characterisation of the
folds (`Set`, `Add`, add-if-absent) and of EnrichRequestWithHeaders through lookups; what util.DecodeHeader makes of a
`[k:v]` line.
-/
import Pandora.Model.C09
import Pandora.Spec.C09

namespace Pandora.Proofs.C09
open Pandora.Model.C09 Pandora.Spec.C09

/-! ## hget / hput / hdel -/

theorem hget_hput (h : Hdr) (k k' : Str) (vs : List Str) :
    hget (hput h k vs) k' = if k' = k then some vs else hget h k' := by
  fun_induction hput h k vs <;> grind [hget]

theorem hget_hdel_self (h : Hdr) (k : Str) : hget (hdel h k) k = none := by
  fun_induction hdel h k <;> grind [hget]

theorem hget_hdel_ne (h : Hdr) (k n : Str) (hn : n ≠ k) : hget (hdel h k) n = hget h n := by
  fun_induction hdel h k <;> grind [hget]

/-- keys of the map -/
def keys (h : Hdr) : List Str := h.map (·.1)

theorem hget_none_of_not_mem (h : Hdr) (k : Str) (hk : k ∉ keys h) : hget h k = none := by
  fun_induction hget h k <;> grind [keys]

theorem hget_some_of_mem (h : Hdr) (k : Str) (hk : k ∈ keys h) : ∃ vs, hget h k = some vs := by
  fun_induction hget h k <;> grind [keys]

theorem keys_hput (h : Hdr) (k : Str) (vs : List Str) :
    keys (hput h k vs) = if k ∈ keys h then keys h else keys h ++ [k] := by
  fun_induction hput h k vs <;> grind [keys]

theorem mem_hput (h : Hdr) (k : Str) (vs : List Str) (kv : Str × List Str) (hm : kv ∈ hput h k vs) :
    kv ∈ h ∨ kv = (k, vs) := by
  fun_induction hput h k vs <;> grind

/-! ## well-formed header maps: canonical, distinct keys, no empty value list -/

structure WF (h : Hdr) : Prop where
  canonKeys : ∀ kv ∈ h, canon kv.1 = kv.1
  nodup : (keys h).Nodup
  nonempty : ∀ kv ∈ h, kv.2 ≠ []

theorem WF_nil : WF [] := ⟨by simp, by simp [keys], by simp⟩

theorem WF_hput {h : Hdr} (w : WF h) {k : Str} (hk : canon k = k) {vs : List Str} (hv : vs ≠ []) :
    WF (hput h k vs) := by
  refine ⟨?_, ?_, ?_⟩
  · intro kv hm
    rcases mem_hput h k vs kv hm with h1 | h1
    · exact w.canonKeys kv h1
    · subst h1; exact hk
  · rw [keys_hput]
    split
    · exact w.nodup
    · rename_i hnot
      rw [List.nodup_append]
      refine ⟨w.nodup, by simp, ?_⟩
      intro a ha b hb
      simp at hb
      subst hb
      intro e; subst e; exact hnot ha
  · intro kv hm
    rcases mem_hput h k vs kv hm with h1 | h1
    · exact w.nonempty kv h1
    · subst h1; exact hv

theorem WF_tail {a : Str × List Str} {t : Hdr} (w : WF (a :: t)) : WF t :=
  ⟨fun kv hm => w.canonKeys kv (List.mem_cons_of_mem _ hm),
   by have := w.nodup; simp only [keys, List.map_cons, List.nodup_cons] at this; exact this.2,
   fun kv hm => w.nonempty kv (List.mem_cons_of_mem _ hm)⟩

theorem WF_head_not_mem {a : Str × List Str} {t : Hdr} (w : WF (a :: t)) : a.1 ∉ keys t := by
  have := w.nodup; simp only [keys, List.map_cons, List.nodup_cons] at this; exact this.1

/-! ## CanonicalMIMEHeaderKey is idempotent -/

theorem tok_ne_space (c : Nat) (h : isTokenByte c = true) : (c == 32) = false := by
  simp only [isTokenByte, isLower, isUpper, isDigit, isTcharPunct, Bool.or_eq_true, Bool.and_eq_true,
    decide_eq_true_eq, beq_iff_eq] at h
  simp only [beq_eq_false_iff_ne, ne_eq]
  omega

/-- one step of the case mapping -/
def mapByte (up : Bool) (c : Nat) : Nat :=
  if up && isLower c then c - 32 else if !up && isUpper c then c + 32 else c

theorem caseMap_cons (up : Bool) (c : Nat) (cs : Str) :
    caseMap up (c :: cs) = mapByte up c :: caseMap (mapByte up c == 45) cs := by
  simp [caseMap, mapByte]

theorem mapByte_idem (up : Bool) (c : Nat) : mapByte up (mapByte up c) = mapByte up c := by
  grind [mapByte, isLower, isUpper]

theorem mapByte_token (up : Bool) (c : Nat) (h : isTokenByte c = true) : isTokenByte (mapByte up c) = true := by
  grind [mapByte, isTokenByte, isLower, isUpper, isDigit, isTcharPunct]

theorem caseMap_idem (up : Bool) (l : Str) : caseMap up (caseMap up l) = caseMap up l := by
  induction l generalizing up with
  | nil => simp [caseMap]
  | cons c cs ih =>
    rw [caseMap_cons, caseMap_cons, mapByte_idem, ih]

theorem caseMap_token (up : Bool) (l : Str) (h : l.all isTokenByte = true) :
    (caseMap up l).all isTokenByte = true := by
  induction l generalizing up with
  | nil => simp [caseMap]
  | cons c cs ih =>
    rw [caseMap_cons]
    simp only [List.all_cons, Bool.and_eq_true] at h ⊢
    exact ⟨mapByte_token up c h.1, ih _ h.2⟩

theorem all_tok_of (k : Str) (h1 : k.all (fun c => isTokenByte c || c == 32) = true) (h2 : k.any (· == 32) = false) :
    k.all isTokenByte = true := by
  induction k with
  | nil => simp
  | cons c cs ih =>
    rw [List.all_cons, Bool.and_eq_true] at h1 ⊢
    rw [List.any_cons, Bool.or_eq_false_iff] at h2
    refine ⟨?_, ih h1.2 h2.2⟩
    have := h1.1
    rw [h2.1, Bool.or_false] at this
    exact this

theorem tok_all_or (k : Str) (h : k.all isTokenByte = true) :
    k.all (fun c => isTokenByte c || c == 32) = true ∧ k.any (· == 32) = false := by
  induction k with
  | nil => simp
  | cons c cs ih =>
    rw [List.all_cons, Bool.and_eq_true] at h
    obtain ⟨i1, i2⟩ := ih h.2
    rw [List.all_cons, Bool.and_eq_true, List.any_cons, Bool.or_eq_false_iff]
    exact ⟨⟨by rw [h.1]; rfl, i1⟩, tok_ne_space c h.1, i2⟩

theorem canon_idem (k : Str) : canon (canon k) = canon k := by
  unfold canon
  by_cases h1 : k.all (fun c => isTokenByte c || c == 32) = true
  · by_cases h2 : k.any (· == 32) = true
    · simp [h1, h2]
    · have h2' : k.any (· == 32) = false := Bool.eq_false_iff.mpr h2
      have ht := caseMap_token true k (all_tok_of k h1 h2')
      obtain ⟨j1, j2⟩ := tok_all_or _ ht
      simp only [h1, h2', if_true, Bool.false_eq_true, if_false, j1, j2]
      exact caseMap_idem true k
  · simp [h1]

/-! ## the folds -/

theorem lastOf_cons (v : Str) (l : List Str) : lastOf (v :: l) = if l = [] then [v] else lastOf l := by
  cases l <;> simp [lastOf]

theorem valsOf_cons (kv : Str × Str) (rest : List (Str × Str)) (n : Str) :
    valsOf (kv :: rest) n = if canon kv.1 = n then kv.2 :: valsOf rest n else valsOf rest n := by
  unfold valsOf
  by_cases h : canon kv.1 = n <;> simp [h]

theorem lastOf_ne_nil (l : List Str) (h : l ≠ []) : lastOf l ≠ [] := by
  fun_induction lastOf l <;> grind

/-- `Set` of every line in turn: the last line of a name stands -/
theorem hget_commonOf (h0 : Hdr) (lines : List (Str × Str)) (n : Str) :
    hget (commonOf h0 lines) n =
      match lastOf (valsOf lines n) with
      | [] => hget h0 n
      | vs => some vs := by
  induction lines generalizing h0 with
  | nil => simp [commonOf, valsOf, lastOf]
  | cons kv rest ih =>
    have hstep : commonOf h0 (kv :: rest) = commonOf (hset h0 kv.1 kv.2) rest := by simp [commonOf]
    rw [hstep, ih, valsOf_cons]
    by_cases hk : canon kv.1 = n
    · simp only [hk, if_true, lastOf_cons]
      by_cases hr : valsOf rest n = []
      · simp [hr, lastOf, hset, hget_hput, hk]
      · have hne := lastOf_ne_nil _ hr
        rw [if_neg hr]
        generalize lastOf (valsOf rest n) = l at hne ⊢
        cases l with
        | nil => exact absurd rfl hne
        | cons v vs => rfl
    · have hk' : ¬ n = canon kv.1 := fun e => hk e.symm
      simp only [hk, if_false]
      split
      · simp [hset, hget_hput, hk']
      · rfl

theorem mergeJson_eq (conf : Hdr) (lines : List (Str × Str)) : mergeJson conf lines = commonOf conf lines := rfl

/-- `Add` of every line in turn: the values of a name accumulate -/
theorem hget_foldl_hadd (f : Str → Str) (h0 : Hdr) (lines : List (Str × Str)) (n : Str) :
    hget (lines.foldl (fun h kv => hadd h kv.1 (f kv.2)) h0) n =
      match valsOf (lines.map fun kv => (kv.1, f kv.2)) n with
      | [] => hget h0 n
      | vs => some ((hget h0 n).getD [] ++ vs) := by
  induction lines generalizing h0 with
  | nil => simp [valsOf]
  | cons kv rest ih =>
    simp only [List.foldl_cons, List.map_cons]
    rw [ih, valsOf_cons]
    by_cases hk : canon kv.1 = n
    · simp only [hk, if_true]
      cases hr : valsOf (rest.map fun kv => (kv.1, f kv.2)) n with
      | nil => simp [hadd, hget_hput, hk]
      | cons v vs => simp [hadd, hget_hput, hk]
    · have hk' : ¬ n = canon kv.1 := fun e => hk e.symm
      simp only [hk, if_false]
      cases hr : valsOf (rest.map fun kv => (kv.1, f kv.2)) n with
      | nil => simp [hadd, hget_hput, hk']
      | cons v vs => simp [hadd, hget_hput, hk']

theorem WF_foldl_hset (h0 : Hdr) (w : WF h0) (lines : List (Str × Str)) : WF (commonOf h0 lines) := by
  induction lines generalizing h0 with
  | nil => exact w
  | cons kv rest ih =>
    have hstep : commonOf h0 (kv :: rest) = commonOf (hset h0 kv.1 kv.2) rest := by simp [commonOf]
    rw [hstep]
    exact ih _ (WF_hput w (canon_idem _) (by simp))

theorem WF_foldl_hadd (f : Str → Str) (h0 : Hdr) (w : WF h0) (lines : List (Str × Str)) :
    WF (lines.foldl (fun h kv => hadd h kv.1 (f kv.2)) h0) := by
  induction lines generalizing h0 with
  | nil => exact w
  | cons kv rest ih =>
    simp only [List.foldl_cons]
    exact ih _ (WF_hput w (canon_idem _) (by simp))

theorem WF_confHdr (conf : List (Str × Str)) : WF (confHdr conf) := by
  have := WF_foldl_hadd id [] WF_nil conf
  simpa [confHdr] using this

theorem hget_confHdr (conf : List (Str × Str)) (n : Str) :
    hget (confHdr conf) n = match valsOf conf n with
      | [] => none
      | vs => some vs := by
  have := hget_foldl_hadd id [] conf n
  simp only [id, hget, Option.getD_none, List.nil_append] at this
  have hm : (conf.map fun kv => (kv.1, kv.2)) = conf := by simp
  rw [hm] at this
  simpa [confHdr] using this

/-! ## add-if-absent merge (repaired uri/uripost) -/

theorem hget_mergeUri (common conf : Hdr) (hc : ∀ kv ∈ conf, canon kv.1 = kv.1) (n : Str) :
    hget (mergeUri common conf) n = match hget common n with
      | some x => some x
      | none => hget conf n := by
  induction conf generalizing common with
  | nil => simp [mergeUri, hget]; split <;> simp_all
  | cons kv rest ih =>
    have hk : canon kv.1 = kv.1 := hc kv List.mem_cons_self
    have hrest : ∀ kv ∈ rest, canon kv.1 = kv.1 := fun x hx => hc x (List.mem_cons_of_mem _ hx)
    have hstep : mergeUri common (kv :: rest) =
        mergeUri (match hget common (canon kv.1) with
          | some _ => common
          | none => hput common (canon kv.1) kv.2) rest := rfl
    rw [hstep, ih _ hrest, hk]
    obtain ⟨k, vs⟩ := kv
    simp only [hget]
    by_cases hkn : k = n
    · subst hkn
      cases hg : hget common k with
      | some x => simp [hg]
      | none => simp [hget_hput]
    · have hnk : ¬ n = k := fun e => hkn e.symm
      cases hg : hget common k with
      | some x => simp [hkn]
      | none => simp [hkn, hget_hput, hnk]

theorem WF_mergeUri (common conf : Hdr) (wc : WF common) (wf : WF conf) : WF (mergeUri common conf) := by
  induction conf generalizing common with
  | nil => exact wc
  | cons kv rest ih =>
    have hstep : mergeUri common (kv :: rest) =
        mergeUri (match hget common (canon kv.1) with
          | some _ => common
          | none => hput common (canon kv.1) kv.2) rest := rfl
    rw [hstep]
    apply ih _ _ (WF_tail wf)
    split
    · exact wc
    · exact WF_hput wc (canon_idem _) (wf.nonempty kv List.mem_cons_self)

/-! ## URLs -/

theorem stripPrefix?_append (p s : Str) : stripPrefix? p (p ++ s) = some s := by
  induction p with
  | nil => cases s <;> rfl
  | cons a t ih => simp [stripPrefix?, ih]

/-- an authority without `/`, `?`, `#` in front of a path is split off whole -/
theorem splitAuth_plain (a path : Str) (ha : a.all (fun c => !isAuthEnd c) = true) :
    splitAuth (a ++ 47 :: path) = (a, 47 :: path) := by
  have htw : (a ++ 47 :: path).takeWhile (fun c => !isAuthEnd c) = a ∧
      (a ++ 47 :: path).dropWhile (fun c => !isAuthEnd c) = 47 :: path := by
    induction a with
    | nil => simp [isAuthEnd]
    | cons c t ih =>
      simp only [List.all_cons, Bool.and_eq_true] at ha
      simp [ha.1, ih ha.2]
  simp only [splitAuth, htw.1, htw.2]

/-- `http(s)://authority/path` for either parser -/
theorem splitURLv_absolute (via https : Bool) (a path : Str) (ha : a.all (fun c => !isAuthEnd c) = true) :
    splitURLv via ((if https then httpsPfx else httpPfx) ++ (a ++ 47 :: path)) = (a, 47 :: path) := by
  cases https with
  | false => simp only [Bool.false_eq_true, if_false, splitURLv, stripPrefix?_append, splitAuth_plain a path ha]
  | true =>
    have hn : stripPrefix? httpPfx (httpsPfx ++ (a ++ 47 :: path)) = none := by simp [stripPrefix?, httpPfx, httpsPfx]
    simp only [if_true, splitURLv, hn, stripPrefix?_append, splitAuth_plain a path ha]

/-! ## EnrichRequestWithHeaders -/

theorem hostKey_canon : canon hostKey = hostKey := by decide

theorem enrich_fields (r r' : Req) (H : Hdr) (h : enrich r H = some r') :
    r'.method = r.method ∧ r'.uri = r.uri ∧ r'.body = r.body ∧ r'.close = r.close := by
  fun_induction enrich r H <;> grind

/-- every header but Host: what the request had stays, everything else is added from `H` -/
theorem enrich_header (r r' : Req) (H : Hdr) (hc : ∀ kv ∈ H, canon kv.1 = kv.1) (h : enrich r H = some r')
    (n : Str) (hn : n ≠ hostKey) :
    hget r'.header n = match hget r.header n with
      | some x => some x
      | none => hget H n := by
  induction H generalizing r with
  | nil => simp [enrich] at h; subst h; simp [hget]; split <;> simp_all
  | cons kv rest ih =>
    obtain ⟨k, vs⟩ := kv
    have hk : canon k = k := hc (k, vs) List.mem_cons_self
    have hrest : ∀ kv ∈ rest, canon kv.1 = kv.1 := fun x hx => hc x (List.mem_cons_of_mem _ hx)
    simp only [enrich, hk] at h
    simp only [hget]
    split at h
    · -- already present
      rename_i x hx
      rw [ih r hrest h]
      by_cases hkn : k = n
      · subst hkn; simp [hx]
      · simp [hkn]
    · rename_i hx
      split at h
      · -- Host
        rename_i hhost
        have hkn : ¬ k = n := fun e => hn (e ▸ hhost)
        split at h
        · split at h
          · exact absurd h (by simp)
          · have := ih _ hrest h; simpa [hkn] using this
        · have := ih _ hrest h; simpa [hkn] using this
      · have := ih _ hrest h
        simp only [hget_hput] at this
        rw [this]
        by_cases hkn : k = n
        · subst hkn; simp [hx]
        · have : ¬ n = k := fun e => hkn e.symm
          simp [hkn, this]

/-- Host: kept when the request has one, else the first value of `H`'s Host entry -/
theorem enrich_host (r r' : Req) (H : Hdr) (w : WF H) (hr : hget r.header hostKey = none)
    (h : enrich r H = some r') :
    r'.host = if r.host ≠ [] then r.host else match hget H hostKey with
      | some (v :: _) => v
      | _ => [] := by
  induction H generalizing r with
  | nil => simp [enrich] at h; subst h; simp [hget]
  | cons kv rest ih =>
    obtain ⟨k, vs⟩ := kv
    have hk : canon k = k := w.canonKeys (k, vs) List.mem_cons_self
    have wt := WF_tail w
    have hnm := WF_head_not_mem w
    simp only [enrich, hk] at h
    simp only [hget]
    by_cases hkh : k = hostKey
    · subst hkh
      simp only [hr, if_true] at h
      have hnone : hget rest hostKey = none := hget_none_of_not_mem rest hostKey hnm
      by_cases hh : r.host = []
      · simp only [hh, if_true] at h
        cases vs with
        | nil => simp at h
        | cons v vt =>
          simp only at h
          have := ih _ wt (by simpa using hr) h
          simp only [hnone] at this
          simp only [hh, ne_eq, not_true_eq_false, if_false, if_true]
          rw [this]
          by_cases hv : v = []
          · simp [hv]
          · simp [hv]
      · simp only [hh, if_false] at h
        have := ih _ wt hr h
        simp only [hh, ne_eq, not_false_eq_true, if_true] at this ⊢
        exact this
    · simp only [hkh, if_false] at h ⊢
      split at h
      · exact ih _ wt hr h
      · have hr' : hget (hput r.header k vs) hostKey = none := by
          rw [hget_hput]; have : ¬ hostKey = k := fun e => hkh e.symm
          simp [this, hr]
        have := ih _ wt (by simpa using hr') h
        simpa using this

/-- with no empty value list in `H` the Go code never indexes an empty slice -/
theorem enrich_no_panic (r : Req) (H : Hdr) (hne : ∀ kv ∈ H, kv.2 ≠ []) : ∃ r', enrich r H = some r' := by
  induction H generalizing r with
  | nil => exact ⟨r, rfl⟩
  | cons kv rest ih =>
    obtain ⟨k, vs⟩ := kv
    have hrest : ∀ kv ∈ rest, kv.2 ≠ [] := fun x hx => hne x (List.mem_cons_of_mem _ hx)
    have hv : vs ≠ [] := hne (k, vs) List.mem_cons_self
    simp only [enrich]
    split
    · exact ih r hrest
    · split
      · split
        · cases vs with
          | nil => exact absurd rfl hv
          | cons v vt => exact ih _ hrest
        · exact ih r hrest
      · exact ih _ hrest

/-! ## the request each format builds, through lookups -/

theorem lastOf_getLast? (l : List Str) :
    lastOf l = match l.getLast? with
      | some v => [v]
      | none => [] := by
  induction l with
  | nil => simp [lastOf]
  | cons v t ih =>
    rw [lastOf_cons]
    cases t with
    | nil => simp
    | cons w t' => simp only [reduceCtorEq, if_false]; rw [ih]; simp [List.getLast?_cons_cons]

theorem hget_nil (n : Str) : hget [] n = none := rfl

/-- header lookups of the request each format builds, in terms of the lines and the option -/
theorem header_of_buildReq (f : Format) (conf lines : List (Str × Str)) (e : Entry) (r : Req)
    (h : buildReq f (confHdr conf) lines e = some r) (n : Str) (hn : n ≠ hostKey) :
    hget r.header n = expHeader f conf (seenLines f lines) n := by
  have wc := WF_confHdr conf
  have hcf := hget_confHdr conf n
  have cu := (WF_mergeUri _ _ (WF_foldl_hset [] WF_nil lines) wc).canonKeys
  have cj := (WF_foldl_hset _ wc lines).canonKeys
  cases f with
  | uri | uripost | jsonline | jsonarr =>
    simp only [buildReq, buildAmmo, mergeJson_eq] at h
    rw [enrich_header _ _ _ (by assumption) h n hn]
    simp only [newRequest, hget_nil, hget_mergeUri _ _ wc.canonKeys, hget_commonOf, hcf, expHeader, fileVals, seenLines]
    generalize lastOf (valsOf lines n) = l
    cases l <;> rfl
  | raw =>
    simp only [buildReq] at h
    rw [enrich_header _ _ _ wc.canonKeys h n hn]
    simp only [readRequest, readRequestWith, hget_hdel_ne _ _ _ hn, hget_foldl_hadd, hget_nil, hcf, expHeader, fileVals, seenLines,
      Option.getD_none, List.nil_append]
    generalize valsOf (List.map (fun kv => (kv.fst, trimHTTP kv.snd)) lines) n = l
    cases l <;> rfl

/-- `req.Host` of the request each format builds -/
theorem host_of_buildReq (f : Format) (conf lines : List (Str × Str)) (e : Entry) (r : Req)
    (h : buildReq f (confHdr conf) lines e = some r) :
    r.host = if urlHost f e ≠ [] then urlHost f e else
      match fileHost f (seenLines f lines) with
      | some v => if v ≠ [] ∨ f ≠ .raw then v else
          (match valsOf conf hostKey with
            | c :: _ => c
            | [] => [])
      | none => match valsOf conf hostKey with
        | c :: _ => c
        | [] => [] := by
  have wc := WF_confHdr conf
  have hcf := hget_confHdr conf hostKey
  have wu := WF_mergeUri _ _ (WF_foldl_hset [] WF_nil lines) wc
  have wj := WF_foldl_hset _ wc lines
  cases f with
  | uri | uripost | jsonline | jsonarr =>
    simp only [buildReq, buildAmmo, mergeJson_eq] at h
    rw [enrich_host _ _ _ (by assumption) (hget_nil _) h]
    simp only [newRequest, splitURL, viaOf, hget_mergeUri _ _ wc.canonKeys, hget_commonOf, hget_nil, hcf, urlHost, urlOf,
      fileHost, seenLines, lastOf_getLast?, reduceCtorEq, decide_false, List.append_assoc]
    -- the URL's host first on both sides; without one, the file's last Host line, else the option's first
    refine ite_congr rfl (fun _ => rfl) (fun _ => ?_)
    cases hg : (valsOf lines hostKey).getLast? with
    | some v => simp
    | none => cases hc : valsOf conf hostKey <;> simp
  | raw =>
    simp only [buildReq] at h
    rw [enrich_host _ _ _ wc (by simp [readRequest, readRequestWith, hget_hdel_self]) h]
    simp only [readRequest, readRequestWith, viaOf, hget_foldl_hadd, hget_nil, hcf, urlHost, urlOf, fileHost, seenLines,
      Option.getD_none, List.nil_append, decide_true]
    generalize valsOf (List.map (fun kv => (kv.fst, trimHTTP kv.snd)) lines) hostKey = l
    by_cases hu : (splitURLv true e.uri).1 = []
    · cases l with
      | nil => simp [hu]; cases valsOf conf hostKey <;> rfl
      | cons v vs =>
        by_cases hv : v = []
        · simp [hu, hv]; cases valsOf conf hostKey <;> rfl
        · simp [hu, hv]
    · cases l <;> simp [hu]

/-- the configured Host as the request carries it (empty: none), completed with the target's host by `shoot` -/
theorem confHost_eq (conf : List (Str × Str)) (t : Str) :
    (if (match valsOf conf hostKey with | c :: _ => c | [] => []) = [] then t
      else match valsOf conf hostKey with | c :: _ => c | [] => []) = confHost conf t := by
  unfold confHost
  cases valsOf conf hostKey <;> simp

theorem buildReq_total (f : Format) (conf lines : List (Str × Str)) (e : Entry) :
    ∃ r, buildReq f (confHdr conf) lines e = some r := by
  have wc := WF_confHdr conf
  cases f with
  | uri | uripost => exact enrich_no_panic _ _ (WF_mergeUri _ _ (WF_foldl_hset [] WF_nil lines) wc).nonempty
  | jsonline | jsonarr => exact enrich_no_panic _ _ (WF_foldl_hset _ wc lines).nonempty
  | raw => exact enrich_no_panic _ _ wc.nonempty

/-! ## who asks to close the connection -/

theorem connKey_ne_hostKey : connKey ≠ hostKey := by decide

/-- a request whose entry and option say nothing about `Connection` never asks to close -/
theorem close_of_buildReq (f : Format) (conf lines : List (Str × Str)) (e : Entry) (r : Req)
    (h : buildReq f (confHdr conf) lines e = some r)
    (hn : expHeader f conf (seenLines f lines) connKey = none) : wantsClose r = false := by
  have hh := header_of_buildReq f conf lines e r h connKey connKey_ne_hostKey
  rw [hn] at hh
  simp only [wantsClose, hh, Option.getD_none, hasTok, List.any_nil, Bool.or_false]
  cases f with
  | raw =>
    simp only [buildReq] at h
    rw [(enrich_fields _ _ _ h).2.2.2]
    have hv : valsOf (lines.map fun kv => (kv.1, trimHTTP kv.2)) connKey = [] := by
      simp only [expHeader, fileVals, seenLines] at hn
      cases hq : valsOf (lines.map fun kv => (kv.1, trimHTTP kv.2)) connKey with
      | nil => rfl
      | cons a t => simp [hq] at hn
    simp only [readRequest, readRequestWith, hget_foldl_hadd, hv, hget_nil, Option.getD_none, decodeClose, goShouldClose,
      hasTok, List.any_nil]
    split <;> simp
  | uri | uripost | jsonline | jsonarr =>
    simp only [buildReq, buildAmmo] at h
    rw [(enrich_fields _ _ _ h).2.2.2]
    rfl

/-! ## `[k: v]` lines -/

theorem cut_append (k rest : Str) (sep : Nat) (h : sep ∉ k) : cut (k ++ sep :: rest) sep = some (k, rest) := by
  induction k with
  | nil => simp [cut]
  | cons a t ih =>
    have ha : a ≠ sep := by intro e; exact h (by simp [e])
    have ht : sep ∉ t := by intro m; exact h (List.mem_cons_of_mem _ m)
    simp [cut, ha, ih ht]

theorem trim_bracketed (xs : Str) : trim (91 :: xs ++ [93]) = 91 :: xs ++ [93] := by
  have h1 : isSpace 91 = false := by decide
  have h2 : isSpace 93 = false := by decide
  simp [trim, trimBy, h1, h2]

/-- what util.DecodeHeader makes of the line `[k:v]` as readLine / readBlock see it -/
theorem decodeHeader_headerLine (k v : Str) (hc : 58 ∉ k) (hk : trim k ≠ []) :
    decodeHeader (headerLine (k, v)) = .ok (trim k, trim v) := by
  have hl : headerLine (k, v) = 91 :: (k ++ 58 :: v) ++ [93] := by
    have := trim_bracketed (k ++ 58 :: v)
    simpa [headerLine] using this
  have hlen : ¬ ((91 :: (k ++ 58 :: v) ++ [93]).length < 3) := by simp; omega
  have hlast : (91 :: (k ++ 58 :: v) ++ [93]).getLast? = some 93 := by
    rw [show (91 :: (k ++ 58 :: v) ++ [93]) = (91 :: (k ++ 58 :: v)) ++ [93] from rfl, List.getLast?_append]; rfl
  have hmid : ((91 :: (k ++ 58 :: v) ++ [93]).drop 1).dropLast = k ++ 58 :: v := by
    show ((k ++ 58 :: v) ++ [93]).dropLast = k ++ 58 :: v
    exact List.dropLast_concat
  rw [hl]
  simp only [decodeHeader, hlen, hlast, hmid, cut_append k v 58 hc]
  simp [hk]

end Pandora.Proofs.C09
