/-
C13 — lemmas about the ammo framing models (bounds-check reasoning for every slice / index / make).
-/
import Pandora.Model.C13Ammo
import Pandora.Proofs.C13Base

namespace Pandora.Proofs.C13
open Pandora.Model.C13

/-- an `End` that is a plain return of the decoder: data exhausted or an error value -/
def End.clean : End → Prop
  | .ok => True
  | .err _ => True
  | _ => False

theorem End.clean_iff {e : End} : End.clean e ↔ e = .ok ∨ ∃ c, e = .err c := by
  cases e <;> simp [End.clean]

/-! ### `util.DecodeHeader`: `h[0]`, `h[len(h)-1]`, `h[1:len(h)-1]` are guarded by `len(h) < 3` -/

theorem decodeHeader_returns (h : Bytes) : (decodeHeader h).returns = true := by
  unfold decodeHeader
  by_cases hl : h.length < 3
  · simp [hl, Res.returns, Res.isPanic, Res.isFatal]
  · simp only [hl, if_false]
    have h3 : 3 ≤ h.length := by omega
    obtain ⟨a, ha⟩ := indexC_ok h 0 (by omega) (by omega)
    obtain ⟨b, hb⟩ := indexC_ok h ((h.length : Int) - 1) (by omega) (by omega)
    obtain ⟨inner, hi⟩ := sliceC_returns h 1 ((h.length : Int) - 1) (by omega)
    rw [ha]; simp only
    split
    · simp [Res.returns, Res.isPanic, Res.isFatal]
    · rw [hb]; simp only
      split
      · simp [Res.returns, Res.isPanic, Res.isFatal]
      · rw [hi]; simp only
        split
        · simp [Res.returns, Res.isPanic, Res.isFatal]
        · split <;> simp [Res.returns, Res.isPanic, Res.isFatal]

theorem headerClass_clean (h : Bytes) : End.clean (headerClass (decodeHeader h)) := by
  rcases ret_cases (decodeHeader_returns h) with ⟨a, ha⟩ | ⟨c, hc⟩
  · rw [ha]; simp [headerClass, endOfRes, End.clean]
  · rw [hc]; simp [headerClass, End.clean]

/-! ### `uripost.DecodeURI`: `parts[0]`, `parts[1]` are guarded by `len(parts) < 2` -/

theorem decodeURI_returns (data : Bytes) : (decodeURI data).returns = true := by
  unfold decodeURI
  simp only
  by_cases hl : (split data 32).length < 2
  · simp [hl, Res.returns, Res.isPanic, Res.isFatal]
  · simp only [hl, if_false]
    obtain ⟨a, ha⟩ := indexC_ok (split data 32) 0 (by omega) (by omega)
    obtain ⟨b, hb⟩ := indexC_ok (split data 32) 1 (by omega) (by omega)
    rw [ha]; simp only
    split
    · simp [Res.returns, Res.isPanic, Res.isFatal]
    · rw [hb]; simp [Res.returns, Res.isPanic, Res.isFatal]

theorem decodeRawHeader_returns (data : Bytes) : (decodeRawHeader data).returns = true := by
  unfold decodeRawHeader
  simp only
  split <;> simp [Res.returns, Res.isPanic, Res.isFatal]

/-! ### reading the announced number of bytes -/

/-- the reader: a test of the announced size that does not look at the file (the repaired one refuses negative sizes, the
old one allocates), then the bytes when the file has them -/
theorem readBody_eq (fixed : Bool) (size : Int) (rest : Bytes) :
    readBody fixed size rest =
      (if fixed then (if size < 0 then .err "size" else .ok ()) else makeC size).bind fun _ =>
        if size > rest.length then .err "trunc" else .ok (rest.take size.toNat, rest.drop size.toNat) := by
  unfold readBody
  cases fixed
  · cases makeC size <;> rfl
  · by_cases h : size < 0
    · simp only [if_true, if_pos h]; rfl
    · simp only [if_true, if_neg h]; rfl

/-- the repaired reader never allocates from the announced size: error or exactly `size` bytes -/
theorem readBody_fixed (size : Int) (rest : Bytes) :
    (size < 0 ∧ readBody true size rest = .err "size") ∨
    (0 ≤ size ∧ size > rest.length ∧ readBody true size rest = .err "trunc") ∨
    (0 ≤ size ∧ size ≤ rest.length ∧ readBody true size rest = .ok (rest.take size.toNat, rest.drop size.toNat)) := by
  rw [readBody_eq]
  by_cases h1 : size < 0
  · exact .inl ⟨h1, by rw [if_pos rfl, if_pos h1]; rfl⟩
  · rw [if_pos rfl, if_neg h1, Res.bind_ok]
    by_cases h2 : size > rest.length
    · exact .inr (.inl ⟨by omega, h2, if_pos h2⟩)
    · exact .inr (.inr ⟨by omega, by omega, if_neg h2⟩)

theorem readBody_fixed_returns (size : Int) (rest : Bytes) : (readBody true size rest).returns = true := by
  rcases readBody_fixed size rest with ⟨_, h⟩ | ⟨_, _, h⟩ | ⟨_, _, h⟩ <;> rw [h] <;>
    simp [Res.returns, Res.isPanic, Res.isFatal]

/-- what a successful read leaves is the file without the first `size` bytes, and more data after the file is only more left -/
theorem readBody_ok {fixed : Bool} {size : Int} {rest body rest' : Bytes}
    (h : readBody fixed size rest = .ok (body, rest')) :
    rest' = rest.drop size.toNat ∧ ∀ t, readBody fixed size (rest ++ t) = .ok (body, rest' ++ t) := by
  rw [readBody_eq] at h
  obtain ⟨u, hg, h⟩ := Res.bind_eq_ok h
  by_cases hl : size > rest.length
  · rw [if_pos hl] at h; cases h
  · rw [if_neg hl] at h; cases h
    refine ⟨rfl, fun t => ?_⟩
    have hn : size.toNat ≤ rest.length := by omega
    have hl' : ¬ size > ((rest ++ t).length : Int) := by rw [List.length_append]; omega
    rw [readBody_eq, hg, Res.bind_ok, if_neg hl', List.take_append_of_le_length hn, List.drop_append_of_le_length hn]

/-! ### steps and runs -/

/-- a step either stops (eof / fail) or consumes at least one byte -/
def Step.decreases (s : Bytes) : Step → Prop
  | .skip rest => rest.length < s.length
  | .entry _ rest => rest.length < s.length
  | _ => True

/-- an `End` reported by a failing step: neither "ran out of fuel" nor "fine" -/
def End.bad (e : End) : Prop := e ≠ .fuel ∧ e ≠ .ok

theorem readLine_lt {s line rest : Bytes} (h : readLine s = some (line, rest)) : rest.length < s.length :=
  cut_rest_lt h

theorem readLineU_lt {s line rest : Bytes} (h : readLineU s = some (line, rest)) : rest.length < s.length := by
  unfold readLineU at h
  cases hc : cut s 10 with
  | some p =>
    simp only [hc] at h
    cases h
    exact cut_rest_lt hc
  | none =>
    simp only [hc] at h
    split at h
    · simp at h
    · rename_i hne
      simp at h
      obtain ⟨_, rfl⟩ := h
      cases s with
      | nil => simp at hne
      | cons _ _ => simp

/-- `readLineU` says end of data only on the empty string -/
theorem readLineU_none {s : Bytes} (h : readLineU s = none) : s = [] := by
  unfold readLineU at h
  cases hc : cut s 10 with
  | some p => simp [hc] at h
  | none =>
    simp only [hc] at h
    split at h
    · rename_i he; simpa using he
    · simp at h

/-- on a terminated string the line is a terminated one, and what follows is terminated again -/
theorem readLineU_terminated {s : Bytes} (ht : Terminated s) (hne : s ≠ []) :
    ∃ line rest, readLineU s = some (line, rest) ∧ cut s 10 = some (line, rest) ∧ Terminated rest := by
  obtain ⟨line, rest, hc, hr⟩ := ht.cut hne
  exact ⟨line, rest, by simp [readLineU, hc], hc, hr⟩

/-- the measure: a run with more fuel than unread bytes ends at the end of the data, or the way a failing step says -/
theorem runSteps_end (step : Bytes → Step) (Q : End → Prop) (hdec : ∀ s, Step.decreases s (step s))
    (hQ : ∀ s e, step s = .fail e → Q e) (fuel : Nat) (s : Bytes) (hf : s.length < fuel) :
    (runSteps step fuel s).end_ = .ok ∨ Q (runSteps step fuel s).end_ := by
  induction fuel generalizing s with
  | zero => omega
  | succ f ih =>
    have hd := hdec s
    rw [runSteps]
    cases hs : step s with
    | eof => exact .inl rfl
    | skip rest => rw [hs] at hd; exact ih rest (Nat.lt_of_lt_of_le hd (Nat.le_of_lt_succ hf))
    | entry e rest => rw [hs] at hd; exact ih rest (Nat.lt_of_lt_of_le hd (Nat.le_of_lt_succ hf))
    | fail e => exact .inr (hQ s e hs)

theorem runSteps_no_fuel (step : Bytes → Step) (hdec : ∀ s, Step.decreases s (step s))
    (hnf : ∀ s e, step s = .fail e → End.bad e)
    (fuel : Nat) (s : Bytes) (hf : s.length < fuel) : (runSteps step fuel s).end_ ≠ .fuel :=
  (runSteps_end step End.bad hdec hnf fuel s hf).elim (fun h => h ▸ End.noConfusion) (·.1)

/-- fuel independence: once the run ended for a reason other than fuel, more fuel changes nothing -/
theorem runSteps_mono (step : Bytes → Step) (fuel k : Nat) (s : Bytes)
    (h : (runSteps step fuel s).end_ ≠ .fuel) : runSteps step (fuel + k) s = runSteps step fuel s := by
  induction fuel generalizing s with
  | zero => exact absurd rfl h
  | succ f ih =>
    rw [Nat.add_right_comm, runSteps]
    conv => rhs; rw [runSteps]
    rw [runSteps] at h
    cases hs : step s with
    | eof => rfl
    | skip rest => simp only [hs] at h ⊢; exact ih rest h
    | entry e rest => simp only [hs, Run.cons] at h ⊢; rw [ih rest h]
    | fail e => rfl

theorem Run.prepend_nil (r : Run) : r.prepend [] = r := by
  cases r; simp [Run.prepend]

theorem Run.cons_prepend (e : Entry) (es : List Entry) (r : Run) : (r.prepend es).cons e = r.prepend (e :: es) := by
  cases r; simp [Run.prepend, Run.cons]

/-- compositionality of runs: if the run over `good` ends well, then the run over `good ++ junk` delivers good's entries and
continues exactly like the run over `junk`. `P` is an invariant of the unread part (`Terminated` for uripost and raw, whose
last line may lack its newline) under which a step says "end of data" only when nothing is left, and otherwise goes on to a
rest that satisfies `P` again, without looking at what stands behind `good`. -/
theorem runSteps_append (step : Bytes → Step) (hdec : ∀ s, Step.decreases s (step s))
    (hnf : ∀ s e, step s = .fail e → End.bad e) (P : Bytes → Prop)
    (hstep : ∀ good junk, P good →
      match step good with
      | .eof => good = []
      | .skip rest => P rest ∧ step (good ++ junk) = .skip (rest ++ junk)
      | .entry e rest => P rest ∧ step (good ++ junk) = .entry e (rest ++ junk)
      | .fail _ => True)
    (junk : Bytes) (fuel : Nat) (good : Bytes) (hf : good.length < fuel) (hgood : P good)
    (hend : (runSteps step fuel good).end_ = .ok) :
    runSteps step (fuel + junk.length) (good ++ junk) =
      (runSteps step (junk.length + 1) junk).prepend (runSteps step fuel good).entries := by
  induction fuel generalizing good with
  | zero => omega
  | succ f ih =>
    have hd := hdec good
    have hst := hstep good junk hgood
    rw [runSteps] at hend ⊢
    cases hs : step good with
    | eof =>
      rw [hs] at hst
      cases hst
      rw [List.nil_append, Run.prepend_nil, Nat.add_comm, Nat.add_comm f 1, ← Nat.add_assoc]
      exact runSteps_mono step _ f junk (runSteps_no_fuel step hdec hnf _ junk (Nat.lt_succ_self _))
    | skip rest =>
      rw [hs] at hd hst
      simp only [hs] at hend ⊢
      rw [Nat.add_right_comm, runSteps, hst.2]
      exact ih rest (Nat.lt_of_lt_of_le hd (Nat.le_of_lt_succ hf)) hst.1 hend
    | entry en rest =>
      rw [hs] at hd hst
      simp only [hs, Run.cons] at hend ⊢
      rw [Nat.add_right_comm, runSteps, hst.2]
      exact (congrArg (Run.cons en) (ih rest (Nat.lt_of_lt_of_le hd (Nat.le_of_lt_succ hf)) hst.1 hend)).trans
        (Run.cons_prepend en _ _)
    | fail e' =>
      -- the run over `good` ended ok, so no step of it failed
      simp only [hs] at hend
      exact absurd hend (hend ▸ (hnf good e' hs).2)

/-! ### what a decoder does with one line, as a function of the bytes that follow it -/

/-- a size line: the announced body is read from what follows -/
def bodyStep (fixed : Bool) (size : Int) (tag uri : Bytes) (rest : Bytes) : Step :=
  match readBody fixed size rest with
  | .ok (body, rest') => .entry ⟨tag, uri, body⟩ rest'
  | r => .fail (endOfRes r)

/-- the four things the size-prefixed decoders do with a line: nothing, a refusal (an error value in the repaired code),
an entry without body, an entry whose body is read from what follows -/
inductive LineStep (fixed : Bool) (f : Bytes → Step) : Prop
  | skip (h : ∀ rest, f rest = .skip rest)
  | fail (e : End) (hb : End.bad e) (hc : fixed = true → ∃ c, e = .err c) (h : ∀ rest, f rest = .fail e)
  | entry (e : Entry) (h : ∀ rest, f rest = .entry e rest)
  | body (size : Int) (tag uri : Bytes) (h : ∀ rest, f rest = bodyStep fixed size tag uri rest)

theorem LineStep.failErr {fixed : Bool} {f : Bytes → Step} (c : String) (h : ∀ rest, f rest = .fail (.err c)) : LineStep fixed f :=
  .fail (.err c) ⟨End.noConfusion, End.noConfusion⟩ (fun _ => ⟨c, rfl⟩) h

theorem uripostLine_lineStep (fixed : Bool) (urlOk : Bytes → Bool) (line : Bytes) :
    LineStep fixed (uripostLine fixed urlOk line) := by
  unfold uripostLine
  cases hd : trimSpace line with
  | nil => exact .skip fun _ => rfl
  | cons a t =>
    -- `data[0]` stands behind `len(data) == 0`
    simp only [List.isEmpty_cons, Bool.false_eq_true, if_false, indexC_zero]
    by_cases ha : a = 91
    · subst ha
      simp only
      cases hh : decodeHeader (91 :: t) with
      | ok _ => exact .skip fun _ => rfl
      | err c => exact .failErr "hdr" fun _ => rfl
      | panic w => have := decodeHeader_returns (91 :: t); rw [hh] at this; cases this
      | fatal w => have := decodeHeader_returns (91 :: t); rw [hh] at this; cases this
    · split
      · rename_i h; cases h; exact absurd rfl ha
      · cases hu : decodeURI (a :: t) with
        | ok v =>
          obtain ⟨size, uri, tag⟩ := v
          dsimp only
          cases hok : urlOk uri
          · exact .failErr "other" fun _ => rfl
          · exact .body size tag uri fun _ => rfl
        | err c => exact .failErr c fun _ => rfl
        | panic w => have := decodeURI_returns (a :: t); rw [hu] at this; cases this
        | fatal w => have := decodeURI_returns (a :: t); rw [hu] at this; cases this
      · rename_i _ h; exact absurd rfl (h a)

theorem rawLine_lineStep (fixed : Bool) (line : Bytes) : LineStep fixed (rawLine fixed line) := by
  unfold rawLine
  dsimp only
  cases hd : (trimSpace line).isEmpty
  · simp only [Bool.false_eq_true, if_false]
    cases hh : decodeRawHeader (trimSpace line) with
    | ok v =>
      obtain ⟨size, tag⟩ := v
      dsimp only
      by_cases h0 : size = 0
      · exact .entry ⟨[], [], []⟩ fun _ => if_pos h0
      · exact .body size tag [] fun _ => if_neg h0
    | err c => exact .failErr c fun _ => rfl
    | panic w => have := decodeRawHeader_returns (trimSpace line); rw [hh] at this; cases this
    | fatal w => have := decodeRawHeader_returns (trimSpace line); rw [hh] at this; cases this
  · exact .skip fun _ => rfl

theorem bodyStep_cases (fixed : Bool) (size : Int) (tag uri rest : Bytes) :
    (∃ body rest', readBody fixed size rest = .ok (body, rest') ∧ bodyStep fixed size tag uri rest = .entry ⟨tag, uri, body⟩ rest') ∨
    (∃ e, bodyStep fixed size tag uri rest = .fail e ∧ End.bad e ∧ (fixed = true → ∃ c, e = .err c)) := by
  unfold bodyStep
  cases h : readBody fixed size rest with
  | ok v => exact .inl ⟨v.1, v.2, rfl, rfl⟩
  | err c => exact .inr ⟨_, rfl, ⟨End.noConfusion, End.noConfusion⟩, fun _ => ⟨c, rfl⟩⟩
  | panic w =>
    refine .inr ⟨_, rfl, ⟨End.noConfusion, End.noConfusion⟩, fun hf => ?_⟩
    subst hf; have := readBody_fixed_returns size rest; rw [h] at this; cases this
  | fatal w =>
    refine .inr ⟨_, rfl, ⟨End.noConfusion, End.noConfusion⟩, fun hf => ?_⟩
    subst hf; have := readBody_fixed_returns size rest; rw [h] at this; cases this

/-- what a line step is at given following bytes `rest`, and what more bytes after them change: it skips to `rest`; it
refuses; or it delivers an entry and leaves `rest` without the body - and then more bytes are only more left over -/
theorem LineStep.on {fixed : Bool} {f : Bytes → Step} (h : LineStep fixed f) (rest : Bytes) :
    (f rest = .skip rest ∧ ∀ junk, f (rest ++ junk) = .skip (rest ++ junk)) ∨
    (∃ e, f rest = .fail e ∧ End.bad e ∧ (fixed = true → ∃ c, e = .err c)) ∨
    (∃ e n, f rest = .entry e (rest.drop n) ∧ ∀ junk, f (rest ++ junk) = .entry e (rest.drop n ++ junk)) := by
  cases h with
  | skip h => exact .inl ⟨h rest, fun junk => h _⟩
  | fail e hb hc h => exact .inr (.inl ⟨e, h rest, hb, hc⟩)
  | entry e h => exact .inr (.inr ⟨e, 0, h rest, fun junk => h _⟩)
  | body size tag uri h =>
    rcases bodyStep_cases fixed size tag uri rest with ⟨body, rest', hb, he⟩ | ⟨e, he, hbad⟩
    · obtain ⟨rfl, happ⟩ := readBody_ok hb
      refine .inr (.inr ⟨_, size.toNat, (h rest).trans he, fun junk => ?_⟩)
      rw [h, bodyStep, happ junk]
    · exact .inr (.inl ⟨e, (h rest).trans he, hbad⟩)

/-- a decoder that reads a line (the last one may lack its newline) and handles it by `f`: `uripostStep fixed urlOk` is
`lineStepOf (uripostLine fixed urlOk)` and `rawStep fixed` is `lineStepOf (rawLine fixed)`, by definition -/
def lineStepOf (f : Bytes → Bytes → Step) (s : Bytes) : Step :=
  match readLineU s with
  | none => .eof
  | some (line, rest) => f line rest

theorem lineStepOf_cases (f : Bytes → Bytes → Step) (s : Bytes) :
    (s = [] ∧ lineStepOf f s = .eof) ∨
    ∃ line rest, readLineU s = some (line, rest) ∧ lineStepOf f s = f line rest := by
  unfold lineStepOf
  cases h : readLineU s with
  | none => exact .inl ⟨readLineU_none h, rfl⟩
  | some p => exact .inr ⟨p.1, p.2, rfl, rfl⟩

section
variable {fixed : Bool} {f : Bytes → Bytes → Step} (hf : ∀ line, LineStep fixed (f line))
include hf

theorem lineStepOf_decreases (s : Bytes) : Step.decreases s (lineStepOf f s) := by
  rcases lineStepOf_cases f s with ⟨_, he⟩ | ⟨line, rest, hr, he⟩
  · rw [he]; trivial
  · have hlt := readLineU_lt hr
    rw [he]
    rcases (hf line).on rest with ⟨h, _⟩ | ⟨e, h, _⟩ | ⟨e, n, h, _⟩ <;> rw [h]
    · exact hlt
    · trivial
    · show (rest.drop n).length < s.length
      rw [List.length_drop]; omega

/-- a failing step fails with an end that is neither "fuel" nor "fine", and in the repaired decoders with an error value -/
theorem lineStepOf_fail (s : Bytes) (e : End) (h : lineStepOf f s = .fail e) : End.bad e ∧ (fixed = true → ∃ c, e = .err c) := by
  rcases lineStepOf_cases f s with ⟨_, he⟩ | ⟨line, rest, _, he⟩
  · rw [he] at h; cases h
  · rw [he] at h
    rcases (hf line).on rest with ⟨h', _⟩ | ⟨e', h', hb⟩ | ⟨e', n, h', _⟩ <;> rw [h'] at h <;> cases h
    exact hb

/-- on a terminated file the step says "end of data" only when nothing is left, and otherwise leaves a terminated rest
(a suffix of what followed the line) without looking at what stands behind the file -/
theorem lineStepOf_terminated (good junk : Bytes) (ht : Terminated good) :
    match lineStepOf f good with
    | .eof => good = []
    | .skip rest => Terminated rest ∧ lineStepOf f (good ++ junk) = .skip (rest ++ junk)
    | .entry e rest => Terminated rest ∧ lineStepOf f (good ++ junk) = .entry e (rest ++ junk)
    | .fail _ => True := by
  by_cases hne : good = []
  · subst hne; rfl
  · obtain ⟨line, rest, hr, hc, htr⟩ := readLineU_terminated ht hne
    have hr' : readLineU (good ++ junk) = some (line, rest ++ junk) := by
      simp [readLineU, cut_append hc junk]
    unfold lineStepOf; rw [hr, hr']
    rcases (hf line).on rest with ⟨h, hj⟩ | ⟨e, h, _⟩ | ⟨e, n, h, hj⟩ <;> dsimp only <;> rw [h]
    · exact ⟨htr, hj junk⟩
    · trivial
    · exact ⟨htr.drop n, hj junk⟩

/-- the run over `good ++ junk`, `good` a terminated piece that decodes to its end: good's entries, then the run over `junk` -/
theorem lineRun_append (good junk : Bytes) (hend : (runSteps (lineStepOf f) (good.length + 1) good).end_ = .ok)
    (hterm : Terminated good) :
    runSteps (lineStepOf f) ((good ++ junk).length + 1) (good ++ junk) =
      (runSteps (lineStepOf f) (junk.length + 1) junk).prepend (runSteps (lineStepOf f) (good.length + 1) good).entries := by
  rw [List.length_append, Nat.add_right_comm]
  exact runSteps_append (lineStepOf f) (lineStepOf_decreases hf) (fun s e h => (lineStepOf_fail hf s e h).1)
    Terminated (lineStepOf_terminated hf) junk _ good (Nat.lt_succ_self _) hterm hend

end

/-- a refusal right after a terminated piece that decodes to its end ends the run of a repaired decoder with that refusal,
an error value, after exactly the entries of the piece -/
theorem lineRun_rejected {f : Bytes → Bytes → Step} (hf : ∀ line, LineStep true (f line)) (good junk : Bytes) (e : End)
    (hend : (runSteps (lineStepOf f) (good.length + 1) good).end_ = .ok) (hterm : Terminated good)
    (hj : lineStepOf f junk = .fail e) :
    runSteps (lineStepOf f) ((good ++ junk).length + 1) (good ++ junk) =
      ⟨(runSteps (lineStepOf f) (good.length + 1) good).entries, e, junk⟩ ∧ ∃ c, e = .err c := by
  have hjr : runSteps (lineStepOf f) (junk.length + 1) junk = ⟨[], e, junk⟩ := by rw [runSteps, hj]
  exact ⟨by rw [lineRun_append hf good junk hend hterm, hjr, Run.prepend, List.append_nil], (lineStepOf_fail hf junk e hj).2 rfl⟩

/-! ### the two size-prefixed decoders -/

theorem uripostStep_decreases (fixed : Bool) (urlOk : Bytes → Bool) (s : Bytes) :
    Step.decreases s (uripostStep fixed urlOk s) := lineStepOf_decreases (uripostLine_lineStep fixed urlOk) s

theorem rawStep_decreases (fixed : Bool) (s : Bytes) : Step.decreases s (rawStep fixed s) :=
  lineStepOf_decreases (rawLine_lineStep fixed) s

theorem uripostRun_append (fixed : Bool) (urlOk : Bytes → Bool) (good junk : Bytes)
    (hend : (uripostRun fixed urlOk good).end_ = .ok) (hterm : Terminated good) :
    uripostRun fixed urlOk (good ++ junk) =
      (uripostRun fixed urlOk junk).prepend (uripostRun fixed urlOk good).entries :=
  lineRun_append (uripostLine_lineStep fixed urlOk) good junk hend hterm

theorem rawRun_append (fixed : Bool) (good junk : Bytes)
    (hend : (rawRun fixed good).end_ = .ok) (hterm : Terminated good) :
    rawRun fixed (good ++ junk) = (rawRun fixed junk).prepend (rawRun fixed good).entries :=
  lineRun_append (rawLine_lineStep fixed) good junk hend hterm

/-- how a run of a size-prefixed decoder ends: at the end of the data, or with the end a step failed with -/
theorem lineRun_end {fixed : Bool} {f : Bytes → Bytes → Step} (hf : ∀ line, LineStep fixed (f line)) (s : Bytes) :
    (runSteps (lineStepOf f) (s.length + 1) s).end_ = .ok ∨
      (End.bad (runSteps (lineStepOf f) (s.length + 1) s).end_ ∧
        (fixed = true → ∃ c, (runSteps (lineStepOf f) (s.length + 1) s).end_ = .err c)) :=
  runSteps_end _ _ (lineStepOf_decreases hf) (lineStepOf_fail hf) _ s (Nat.lt_succ_self _)

/-! ### uri format -/

theorem uriLine_fail (urlOk : Bytes → Bool) (line : Bytes) (e : End) (h : uriLine urlOk line = .fail e) : ∃ c, e = .err c := by
  unfold uriLine at h
  cases hd : trimSpace line with
  | nil => rw [hd] at h; cases h
  | cons a t =>
    simp only [hd, List.isEmpty_cons, Bool.false_eq_true, if_false, indexC_zero] at h
    split at h
    · have hr := decodeHeader_returns (a :: t)
      cases hh : decodeHeader (a :: t) with
      | ok _ => rw [hh] at h; cases h
      | err c => rw [hh] at h; cases h; exact ⟨_, rfl⟩
      | panic w => rw [hh] at hr; cases hr
      | fatal w => rw [hh] at hr; cases hr
    · have hurl : ∀ u tg, (if (!urlOk u) = true then LineRes.fail (.err "other") else .entry ⟨tg, u, []⟩) = .fail e →
          ∃ c, e = .err c := by
        intro u tg h; split at h <;> cases h; exact ⟨_, rfl⟩
      split at h <;> exact hurl _ _ h
    · rename_i _ h'; exact absurd rfl (h' a)

theorem uriLines_end_clean (urlOk : Bytes → Bool) (ls : List Bytes) : End.clean (uriLines urlOk ls).end_ := by
  induction ls with
  | nil => trivial
  | cons l rest ih =>
    rw [uriLines]
    cases h : uriLine urlOk l with
    | skip => exact ih
    | entry e => exact ih
    | fail e => obtain ⟨c, rfl⟩ := uriLine_fail urlOk l e h; trivial

/-- lines after a cleanly decoded block of lines: the block's entries, then whatever the later lines give -/
theorem uriLines_append (urlOk : Bytes → Bool) (l1 l2 : List Bytes) (h : (uriLines urlOk l1).end_ = .ok) :
    uriLines urlOk (l1 ++ l2) = (uriLines urlOk l2).prepend (uriLines urlOk l1).entries := by
  induction l1 with
  | nil => exact (Run.prepend_nil _).symm
  | cons l rest ih =>
    rw [List.cons_append, uriLines] at *
    conv => rhs; rw [uriLines]
    cases hl : uriLine urlOk l with
    | skip => simp only [hl] at h ⊢; exact ih h
    | entry e =>
      simp only [hl] at h ⊢
      exact (congrArg (Run.cons e) (ih h)).trans (Run.cons_prepend e _ _)
    | fail e =>
      simp only [hl] at h
      obtain ⟨c, rfl⟩ := uriLine_fail urlOk l e hl
      cases h

/-! ### grpc/json -/

theorem grpcLines_end_clean (coe : Bool) (json : Bytes → Option Bytes) (ls : List Bytes) :
    End.clean (grpcLines coe json ls).end_ := by
  induction ls with
  | nil => simp [grpcLines, End.clean]
  | cons l rest ih =>
    unfold grpcLines
    split
    · simp [End.clean]
    · split
      · simpa [GRun.cons] using ih
      · split
        · simpa [GRun.cons] using ih
        · simp [End.clean]

theorem GRun.prepend_nil (r : GRun) : r.prepend [] = r := by cases r; simp [GRun.prepend]
theorem GRun.cons_prepend (e : GEntry) (es : List GEntry) (r : GRun) : (r.prepend es).cons e = r.prepend (e :: es) := by
  cases r; simp [GRun.prepend, GRun.cons]

/-- lines after a block of lines the loop got through: the block's entries first, then whatever the later lines give -/
theorem grpcLines_append (coe : Bool) (json : Bytes → Option Bytes) (l1 l2 : List Bytes)
    (h : (grpcLines coe json l1).end_ = .ok) :
    grpcLines coe json (l1 ++ l2) = (grpcLines coe json l2).prepend (grpcLines coe json l1).entries := by
  induction l1 with
  | nil => simp [grpcLines, GRun.prepend_nil]
  | cons l rest ih =>
    simp only [List.cons_append]
    rw [grpcLines] at h ⊢
    conv => rhs; rw [grpcLines]
    split
    · rename_i hl; simp [hl] at h
    · rename_i hl
      simp only [hl, if_false] at h
      cases hj : json (dropCR l) with
      | some tag =>
        simp only [hj, GRun.cons] at h ⊢
        rw [ih h]; simp [GRun.prepend]
      | none =>
        simp only [hj] at h ⊢
        cases coe with
        | true =>
          simp only [if_true, GRun.cons] at h ⊢
          rw [ih h]; simp [GRun.prepend]
        | false => simp at h

end Pandora.Proofs.C13
