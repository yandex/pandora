/-
C02 — the ONE-CALLER model is the concurrent model run by one caller.

`Model/C02Sched.lean` (`compNextAux`, `compLeftAux`: what the sequential theorems `C02_tree_refines`,
`C02_seq_refines`, `C02_double_start`, `C02_huge_refines`, `C02_big_refines`, `C02_factory_*` rest on) is written by
hand next to composite.go; the sections of the concurrent model (`nextReader`, `nextWriter`, `leftReader`,
`leftWriter`, `startNext`) ARE the functions regenerated from composite.go (`Bridge/C02Src.lean`).  Here the first is
derived from the second: a caller that performs the atomic actions of its call back to back (`soloCall`: follow
`runSection`, the dispatcher of the concurrent model, until the call returns) gets exactly what `compNextAux` /
`compLeftAux` compute, state included.  So an edit of composite.go that changes a regenerated section re-opens the
sequential theorems as well, and there is no second hand-written reading of `Next` / `Left` left untied.
-/
import Pandora.Proofs.C02Par

namespace Pandora.Proofs.C02R6
open Pandora.Model.C02 Pandora.Model.C02.Par Pandora.Proofs.C02Sem Pandora.Proofs.C02Par

section
variable {σ : Type} (ops : Ops σ)

/-- one caller alone: its atomic actions (as dispatched by `runSection`) one after the other at one clock reading,
until the call returns.  `none` = the call panicked (the state is lost with it). -/
def soloCall (op : Op) : Nat → Sh σ → Pc → Int → Option (Sh σ) × Ret
  | 0, _, _, _ => (none, .panic "out of fuel")
  | fuel + 1, s, pc, now =>
    match runSection ops s pc op now with
    | (_, .ret (.panic e)) => (none, .panic e)
    | (s', .ret r) => (some s', r)
    | (s', .goto pc') => soloCall op fuel s' pc' now

def nextRes : Except String (Comp σ × Int × Bool) → Option (Sh σ) × Ret
  | .ok (cmp, tx, ok) => (some ⟨cmp.cs, cmp.la, cmp.started⟩, .tok tx ok)
  | .error e => (none, .panic e)

def leftRes : Except String (Comp σ × Int) → Option (Sh σ) × Ret
  | .ok (cmp, n) => (some ⟨cmp.cs, cmp.la, cmp.started⟩, .cnt n)
  | .error e => (none, .panic e)

/-- from the point after `started.Store(true)` -/
theorem solo_next_B (now : Int) : ∀ (rest : List σ) (c : σ) (la : List Int),
    soloCall ops .next (2 * rest.length + 1) ⟨c :: rest, la, true⟩ .nextB now = nextRes (compNextAux ops c rest la now)
  | [], c, la => by
      rw [compNextAux]
      simp only [soloCall, runSection, nextReader]
      cases hn : ops.next c now with
      | error e => simp [nextRes, bind, Except.bind]
      | ok x =>
        obtain ⟨c', tx, ok⟩ := x
        cases ok <;> simp [nextRes, bind, Except.bind, pure, Except.pure]
  | h :: t, c, la => by
      rw [compNextAux_cons]
      have hf : 2 * (h :: t).length + 1 = (2 * t.length + 1) + 1 + 1 := by simp only [List.length_cons]; omega
      rw [hf]
      simp only [soloCall, runSection, nextReader]
      cases hn : ops.next c now with
      | error e => simp [nextRes, bind, Except.bind]
      | ok x =>
        obtain ⟨c', tx, ok⟩ := x
        cases ok with
        | true => simp [nextRes, bind, Except.bind, pure, Except.pure]
        | false =>
          simp only [Bool.false_eq_true, if_false, List.isEmpty_cons, bind, Except.bind, nextWriter, List.length_cons,
            Nat.lt_irrefl, startNext]
          cases hs : ops.start h tx with
          | error e => simp [nextRes]
          | ok h1 =>
            simp only
            cases hn2 : ops.next h1 now with
            | error e => simp [nextRes]
            | ok y =>
              obtain ⟨h2, tx2, ok2⟩ := y
              cases ok2 with
              | true => simp [nextRes, pure, Except.pure]
              | false =>
                have hgt : t.length + 1 + 1 > 1 := by omega
                simp only [Bool.not_false, Bool.true_and, hgt, decide_true, if_true, Bool.false_eq_true, if_false]
                exact solo_next_B now t h2 la.tail

/-- **`Next` of the one-caller model = one caller running the regenerated sections** (state and result; a panic is a panic) -/
theorem solo_next (s : Sh σ) (c : σ) (rest : List σ) (hcs : s.cs = c :: rest) (now : Int) :
    soloCall ops .next (2 * rest.length + 2) s .idle now = nextRes (compNext ops ⟨s.cs, s.la, s.started⟩ now) := by
  obtain ⟨cs, la, st⟩ := s
  simp only at hcs
  subst hcs
  simp only [soloCall, runSection, nextBegin, compNext]
  exact solo_next_B ops now rest c la

theorem soloCall_succ (op : Op) (fuel : Nat) (s : Sh σ) (pc : Pc) (now : Int) :
    soloCall ops op (fuel + 1) s pc now =
      (match runSection ops s pc op now with
      | (_, .ret (.panic e)) => (none, .panic e)
      | (s', .ret r) => (some s', r)
      | (s', .goto pc') => soloCall ops op fuel s' pc' now) := by
  rw [soloCall]

theorem solo_left_aux (now : Int) (st : Bool) : ∀ (rest : List σ) (c : σ) (la : List Int),
    soloCall ops .left (2 * rest.length + 1) ⟨c :: rest, la, st⟩ .idle now = leftRes (compLeftAux ops st c rest la now)
  | [], c, la => by
      rw [compLeftAux]
      simp only [soloCall, runSection, leftReader]
      cases hl : ops.left c now with
      | error e => simp [leftRes, bind, Except.bind]
      | ok x =>
        obtain ⟨c', left⟩ := x
        simp [leftRes, bind, Except.bind, pure, Except.pure]
  | h :: t, c, la => by
      have hf : 2 * (h :: t).length + 1 = (2 * t.length + 1) + 1 + 1 := by simp only [List.length_cons]; omega
      rw [compLeftAux_decide, hf, soloCall_succ]
      simp only [runSection]
      cases hl : ops.left c now with
      | error e => simp [leftReader, hl, leftRes, bind, Except.bind]
      | ok x =>
        obtain ⟨c', left⟩ := x
        rw [leftReader_decide c h t la st now c' left hl]
        simp only [bind, Except.bind]
        cases leftDecide (la.headD 0) left st with
        | some n => rfl
        | none =>
          -- the writer section: the head must be exhausted, the next part is started at its finish time
          simp only
          rw [soloCall_succ]
          simp only [runSection, leftWriter, List.length_cons, beq_self_eq_true, if_true]
          cases hn : ops.next c' now with
          | error e => simp [leftRes]
          | ok y =>
            obtain ⟨c'', tx, ok⟩ := y
            cases ok with
            | true => simp [leftRes, throw, throwThe, MonadExceptOf.throw]
            | false =>
              simp only [Bool.false_eq_true, if_false, startNext]
              cases hs : ops.start h tx with
              | error e => simp [leftRes]
              | ok h1 => exact solo_left_aux now st t h1 la.tail

/-- **`Left` of the one-caller model = one caller running the regenerated sections** -/
theorem solo_left (s : Sh σ) (c : σ) (rest : List σ) (hcs : s.cs = c :: rest) (now : Int) :
    soloCall ops .left (2 * rest.length + 1) s .idle now = leftRes (compLeft ops ⟨s.cs, s.la, s.started⟩ now) := by
  obtain ⟨cs, la, st⟩ := s
  simp only at hcs
  subst hcs
  simp only [compLeft]
  exact solo_left_aux ops now st rest c la

end

end Pandora.Proofs.C02R6
