/-
C10 — the paths of the model's decision trees (`Model/C10Paths.lean`): every shot and every step takes one of the paths of
the representative kinds.
-/
import Pandora.Proofs.C10
import Pandora.Model.C10Paths

namespace Pandora.Proofs.C10
open Pandora.Model.C10 Pandora.Spec.C10

/-! ### path sets -/

theorem sameSet_spec {a b : List Path} (h : sameSet a b = true) : (∀ p ∈ a, p ∈ b) ∧ (∀ p ∈ b, p ∈ a) := by
  simp only [sameSet, Bool.and_eq_true, List.all_eq_true] at h
  exact ⟨fun p hp => by simpa using h.1 p hp, fun p hp => by simpa using h.2 p hp⟩

/-- a step's path depends on the kind of its outcome only, and every kind has its representative -/
theorem stepPath_mem (pause : Bool) (o : StepOutcome) (p : Path) (h : stepPath pause o = some p) : p ∈ stepPaths := by
  obtain ⟨o', ho', heq⟩ : ∃ o' ∈ stepOutcomeKinds, stepPath pause o' = some p := by
    cases o with
    | prepErr => exact ⟨.prepErr, by decide, h⟩
    | doErr e => exact ⟨.doErr .other, by decide, h⟩
    | bodyErr st e => exact ⟨.bodyErr 200 .other, by decide, h⟩
    | received st post =>
      cases post with
      | ok => exact ⟨.received 200 .ok, by decide, h⟩
      | err => exact ⟨.received 200 .err, by decide, h⟩
      | panic => cases h
  simp only [stepPaths, List.mem_flatMap, List.mem_filterMap]
  exact ⟨pause, by cases pause <;> decide, o', ho', heq⟩

theorem grpcStepPath_mem (pause : Bool) (o : GrpcStepOutcome) (p : Path) (h : grpcStepPath pause o = some p) :
    p ∈ grpcStepPaths := by
  obtain ⟨o', ho', heq⟩ : ∃ o' ∈ grpcStepOutcomeKinds, grpcStepPath pause o' = some p := by
    cases o with
    | prepErr => exact ⟨.prepErr, by decide, h⟩
    | unknownMethod => exact ⟨.unknownMethod, by decide, h⟩
    | badPayload => exact ⟨.badPayload, by decide, h⟩
    | invoked c post =>
      cases post with
      | ok => exact ⟨.invoked 0 .ok, by decide, h⟩
      | err => exact ⟨.invoked 0 .err, by decide, h⟩
      | panic => cases h
  simp only [grpcStepPaths, List.mem_flatMap, List.mem_filterMap]
  exact ⟨pause, by cases pause <;> decide, o', ho', heq⟩

theorem grpcPath_mem (o : GrpcOutcome) : grpcPath o ∈ grpcPaths := by
  refine List.mem_map.mpr ?_
  cases o with
  | invoked c => exact ⟨.invoked 0, by decide, rfl⟩
  | _ => exact ⟨_, by decide, rfl⟩

theorem reportCount_grpcPath (o : GrpcOutcome) : reportCount (grpcPath o).2 = 1 := by
  cases o with
  | invoked c => exact (by decide : reportCount (grpcPath (.invoked 0)).2 = 1)
  | _ => decide

/-- the auto-tag / `__EMPTY__` block adds a tag or it does not: nothing else about it shows in a path -/
theorem tagged_cases (cfg : AutoTagCfg) (t p : String) :
    canonRun (opTrace (fresh t) (tagOps cfg t p)) = [] ∨ canonRun (opTrace (fresh t) (tagOps cfg t p)) = ["AddTag"] := by
  unfold tagOps
  by_cases hc : (cfg.enabled && (!cfg.noTagOnly || t = "")) = true
  · rw [if_pos hc]
    right
    simp only [List.cons_append, List.nil_append, opTrace]
    split <;> decide
  · rw [if_neg hc]
    simp only [List.nil_append, opTrace]
    split
    · right; decide
    · left; decide

/-- every shot of the http gun (any setting, tag, path, outcome but the fatal panic) takes one of the paths of the
representative kinds -/
theorem httpPath_mem (cfg : AutoTagCfg) (s : HttpShot) (hp : s.outcome ≠ .doPanic) : httpPath cfg s ∈ httpPaths := by
  unfold httpPath
  by_cases hi : s.invalid = true
  · simp only [hi, if_true, opTrace]
    decide
  · simp only [hi]
    rcases tagged_cases cfg s.ammoTag s.path with h | h <;> rw [h] <;>
      (cases ho : s.outcome with
       | doErr e => simp only [outcomeOps, opTrace]; decide
       | response st b =>
         cases b with
         | none => simp only [outcomeOps, opTrace]; decide
         | some e => simp only [opTrace]; decide
       | doPanic => exact absurd ho hp)

end Pandora.Proofs.C10
