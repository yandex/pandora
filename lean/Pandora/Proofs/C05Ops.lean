/-
C05 — the helper operations of the pool model (`addErr`, `finish`, `checkAll`, `afterErr`, `handleRes`):
what they write and what they leave alone.
-/
import Pandora.Model.C05Pool

namespace Pandora.Proofs.C05
open Pandora.Model.C05

/-- `Pool.Run` has not returned yet -/
def mainRunning : MainPc → Bool
  | .returned _ => false
  | _ => true

theorem main_of_result {s : State} {r : PRes} (h : s.result = some r) : s.main = .returned r := by
  unfold State.result at h
  split at h
  · next hm => cases h; exact hm
  · cases h

theorem getElem?_facts {α} (l : List α) (i : Nat) (x : α) (h : l[i]? = some x) :
    (l.eraseIdx i).length + 1 = l.length ∧ l ≠ [] := by
  have hi : i < l.length := (List.getElem?_eq_some_iff.1 h).1
  constructor
  · rw [List.length_eraseIdx]; simp [hi]; omega
  · intro e; subst e; simp at hi

theorem aw_loop_eta (s : State) (h : s.aw = .loop) : { s with aw := .loop } = s := by
  cases s; cases h; rfl

/-- the error a result stands for, as a list: `addErr` appends it -/
def errsOf : Ret → List ErrId
  | .err e => [e]
  | _ => []

theorem addErr_eq (s : State) (r : Ret) : addErr s r = { s with compErrs := s.compErrs ++ errsOf r } := by
  cases r <;> simp [addErr, errsOf]

theorem errsOf_cases (r : Ret) : (∃ e, r = .err e) ∨ errsOf r = [] := by
  cases r <;> first | exact .inr rfl | exact .inl ⟨_, rfl⟩

theorem nextWait_ne (s : State) : nextWait s ≠ .idle ∧ nextWait s ≠ .done ∧ nextWait s ≠ .waiting true := by
  unfold nextWait; split <;> exact ⟨nofun, nofun, nofun⟩

/-- `a` differs from `b` at most in what the await goroutine writes at the end of an iteration: its own program
counter and counters, the closed channels, and the two contexts it may cancel -/
def Same (a b : State) : Prop :=
  a = { b with aw := a.aw, closedErr := a.closedErr, waitDone := a.waitDone, runResOpen := a.runResOpen,
               toWait := a.toWait, panicked := a.panicked, runC := a.runC, startC := a.startC } ∧
  (b.runC = true → a.runC = true) ∧ (b.startC = true → a.startC = true)

namespace Same
variable {a b c : State}

theorem trans (h1 : Same a b) (h2 : Same b c) : Same a c := by
  refine ⟨?_, fun h => h1.2.1 (h2.2.1 h), fun h => h1.2.2 (h2.2.2 h)⟩
  have := h1.1
  rw [h2.1] at this
  exact this

theorem main (h : Same a b) : a.main = b.main := (congrArg State.main h.1 :)
theorem extC (h : Same a b) : a.extC = b.extC := (congrArg State.extC h.1 :)
theorem prov (h : Same a b) : a.prov = b.prov := (congrArg State.prov h.1 :)
theorem agg (h : Same a b) : a.agg = b.agg := (congrArg State.agg h.1 :)
theorem startRes (h : Same a b) : a.startRes = b.startRes := (congrArg State.startRes h.1 :)
theorem startTaken (h : Same a b) : a.startTaken = b.startTaken := (congrArg State.startTaken h.1 :)
theorem buf (h : Same a b) : a.buf = b.buf := (congrArg State.buf h.1 :)
theorem awaited (h : Same a b) : a.awaited = b.awaited := (congrArg State.awaited h.1 :)
theorem live (h : Same a b) : a.live = b.live := (congrArg State.live h.1 :)
theorem retired (h : Same a b) : a.retired = b.retired := (congrArg State.retired h.1 :)
theorem warmGun (h : Same a b) : a.warmGun = b.warmGun := (congrArg State.warmGun h.1 :)
theorem compErrs (h : Same a b) : a.compErrs = b.compErrs := (congrArg State.compErrs h.1 :)
theorem errsAtReturn (h : Same a b) : a.errsAtReturn = b.errsAtReturn := (congrArg State.errsAtReturn h.1 :)
theorem extAtReturn (h : Same a b) : a.extAtReturn = b.extAtReturn := (congrArg State.extAtReturn h.1 :)

end Same

theorem same_finish (s : State) : Same (finish s) s := by
  unfold finish; split <;> exact ⟨rfl, id, id⟩

theorem same_checkAll (s : State) : Same (checkAll s) s := by
  unfold checkAll
  repeat' split
  · exact ⟨rfl, id, id⟩
  · exact ⟨rfl, id, id⟩
  · exact ⟨rfl, fun _ => rfl, fun _ => rfl⟩
  · exact ⟨rfl, id, id⟩

theorem same_afterErr (s : State) (chk : Bool) : Same (afterErr s chk) s := by
  unfold afterErr
  refine (same_finish _).trans ?_
  split
  · exact (same_checkAll _).trans ⟨rfl, id, id⟩
  · exact ⟨rfl, id, id⟩

theorem same_handleRes (s : State) (w : Wrap) (r : Ret) (done chk : Bool) : Same (handleRes s w r done chk) s := by
  unfold handleRes
  split
  · exact same_afterErr _ _
  · exact ⟨rfl, id, id⟩

theorem checkAll_aw (s : State) : (checkAll s).aw = s.aw := by
  unfold checkAll
  repeat' split
  all_goals rfl

theorem aw_finish (s : State) (h : s.aw = .loop) : (finish s).aw = .loop ∨ (finish s).aw = .finished := by
  unfold finish; split
  · exact .inr rfl
  · exact .inl h

theorem aw_afterErr (s : State) (chk : Bool) : (afterErr s chk).aw = .loop ∨ (afterErr s chk).aw = .finished := by
  unfold afterErr
  apply aw_finish
  split
  · rw [checkAll_aw]
  · rfl

theorem afterErr_aw_ne (s : State) (chk : Bool) : (afterErr s chk).aw ≠ .off := by
  rcases aw_afterErr s chk with h | h <;> rw [h] <;> nofun

theorem handleRes_aw_ne (s : State) (w : Wrap) (r : Ret) (done chk : Bool) : (handleRes s w r done chk).aw ≠ .off := by
  unfold handleRes; split
  · exact afterErr_aw_ne _ _
  · nofun

end Pandora.Proofs.C05
