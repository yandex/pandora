/-
C02 — the counts a composite stores and reports fit a 64-bit machine integer whenever the schedule holds fewer than
2^63 tokens in its finite parts: every entry of `leftAfter` is a `partsLeft` of a suffix of the parts
(`sufsP`, `Proofs/C02Sem.lean`), which lies between -1 and the number of finite tokens.  Together with the step lemmas
of `Bridge/C02Src.lean` (the regenerated loop body and `Left` decision in machine integers equal the ones over the
integers while the sums stay below 2^63) this is why the model may count in `Int`.
-/
import Pandora.Proofs.C02Sem

namespace Pandora.Proofs.C02Width
open Pandora.Model.C02 Pandora.Spec.C02 Pandora.Proofs.C02Flat Pandora.Proofs.C02Sem

/-- number of tokens of the finite parts -/
def finTotal : List Part → Nat
  | [] => 0
  | .fin offs _ :: r => offs.length + finTotal r
  | .unl _ :: r => finTotal r

theorem finTotal_append : ∀ a b : List Part, finTotal (a ++ b) = finTotal a + finTotal b
  | [], b => by simp [finTotal]
  | .fin offs _ :: r, b => by simp [finTotal, finTotal_append r b]; omega
  | .unl _ :: r, b => by simp [finTotal, finTotal_append r b]

theorem partsLeft_le_total : ∀ ps : List Part, partsLeft ps ≤ (finTotal ps : Int)
  | [] => by simp [partsLeft, finTotal]
  | .unl _ :: r => by simp only [partsLeft, finTotal]; omega
  | .fin offs _ :: r => by
    have := partsLeft_le_total r
    simp only [partsLeft, finTotal]
    split <;> omega

/-- every entry of `leftAfter` is between -1 and the number of finite tokens of the parts behind the head -/
theorem sufsP_bounds : ∀ (pss : List (List Part)), ∀ x ∈ sufsP pss, -1 ≤ x ∧ x ≤ (finTotal pss.flatten : Int)
  | [], x, hx => by simp [sufsP] at hx; subst hx; simp [finTotal]
  | p :: ps, x, hx => by
    simp only [sufsP, List.mem_cons] at hx
    rcases hx with rfl | hx
    · exact ⟨partsLeft_ge _, by simpa using partsLeft_le_total (p ++ ps.flatten)⟩
    · obtain ⟨h1, h2⟩ := sufsP_bounds ps x hx
      refine ⟨h1, ?_⟩
      simp only [List.flatten_cons, finTotal_append]
      omega

end Pandora.Proofs.C02Width
