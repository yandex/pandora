/-
C15 — `prepareRequest` as code computes the direct reading; which host the target sees; the
min_waiting_time rule.
-/
import Pandora.Model.C15Prep

namespace Pandora.Proofs.C15
open Pandora.Model.C15

/-- the loop body `[ifHost "Host", setHost, next, endIf, set]` on one header -/
theorem runHdr_body (lib : PrepLib) (k v : String) (q : HReq) :
    runHdrOps lib k v [.ifHost "Host", .setHost, .next, .endIf, .set] false q =
      (if equalFoldTo "Host" k then { q with host := v } else { q with header := setKey (lib.canon k) v q.header }) := by
  by_cases h : equalFoldTo "Host" k <;> simp [runHdrOps, h]

theorem runHdr_loop (lib : PrepLib) (hs : List (String × String)) (q : HReq) :
    hs.foldl (fun q kv => runHdrOps lib kv.1 kv.2 [.ifHost "Host", .setHost, .next, .endIf, .set] false q) q =
      prepHeaders lib hs q := by
  unfold prepHeaders
  congr 1
  funext q kv
  exact runHdr_body lib kv.1 kv.2 q

/-- the statement list of `prepareRequest`, interpreted with Go's `err` explicit, IS the direct reading -/
theorem runPrep_eq (lib : PrepLib) (cfg : PrepCfg) (p : ReqParts) :
    runPrepOps lib cfg p prepCode {} = some (prepareRequest lib cfg p) := by
  unfold prepCode prepareRequest
  cases hn : lib.newReq p.method p.url with
  | none => simp [runPrepOps, hn]
  | some uh =>
    simp only [runPrepOps, hn, runHdr_loop, Bool.false_eq_true, if_false, Option.map_some]
    congr 2
    split <;> rfl

/-- the host the loop leaves behind: the value of the LAST header whose name folds to "Host", else what it was -/
theorem prepHeaders_host (lib : PrepLib) : ∀ (hs : List (String × String)) (q : HReq),
    (prepHeaders lib hs q).host = (((hs.filter fun kv => equalFoldTo "Host" kv.1).getLast?).map (·.2)).getD q.host
  | [], q => by simp [prepHeaders]
  | kv :: hs, q => by
    by_cases h : equalFoldTo "Host" kv.1
    · have ih := prepHeaders_host lib hs { q with host := kv.2 }
      unfold prepHeaders at ih ⊢
      simp only [List.foldl_cons, h, if_true, List.filter_cons]
      rw [ih, List.getLast?_cons]
      cases (List.filter (fun kv => equalFoldTo "Host" kv.1) hs).getLast? <;> simp
    · have ih := prepHeaders_host lib hs { q with header := setKey (lib.canon kv.1) kv.2 q.header }
      unfold prepHeaders at ih ⊢
      simp only [List.foldl_cons, h, Bool.false_eq_true, if_false, List.filter_cons]
      exact ih

/-- headers not named Host never touch the host, headers named Host never touch the header map -/
theorem prepHeaders_header_of_noHost (lib : PrepLib) : ∀ (hs : List (String × String)) (q : HReq),
    (∀ kv ∈ hs, equalFoldTo "Host" kv.1 = false) →
    (prepHeaders lib hs q).header = hs.foldl (fun m kv => setKey (lib.canon kv.1) kv.2 m) q.header
  | [], q, _ => rfl
  | kv :: hs, q, h => by
    have h0 := h kv (by simp)
    have ih := prepHeaders_header_of_noHost lib hs { q with header := setKey (lib.canon kv.1) kv.2 q.header }
      (fun x hx => h x (by simp [hx]))
    unfold prepHeaders at ih ⊢
    simp only [List.foldl_cons, h0, Bool.false_eq_true, if_false]
    exact ih

/-! ### min_waiting_time -/

theorem mwtPause_total (m spent : Int) : spent + (mwtPause m spent).getD 0 = max m spent := by
  unfold mwtPause
  by_cases h : m > spent
  · simp [h]; omega
  · simp [h]; omega

theorem mwtPause_pos (m spent p : Int) (h : mwtPause m spent = some p) : 0 < p := by
  unfold mwtPause at h
  split at h
  · cases h; omega
  · cases h

end Pandora.Proofs.C15
