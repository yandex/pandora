/-
C14: lemmas about a cancellation that lands inside `Scan` (Model/C14Mid.lean).
-/
import Pandora.Model.C14Mid
import Pandora.Proofs.C08Run

namespace Pandora.Proofs.C14
open Pandora.Model.C08 hiding fullScan httpRun runFuel run
open Pandora.Model.C14 Pandora.Proofs.C08

/-- whatever the file, the bounds, the point of the cancellation and the outcome of the races: when the decoders hand
the cancelled context on as it is, every end of the streaming path is one the engine recognises -/
theorem fullScanMid_recognised {σ α : Type} (scan : σ → ScanRes × σ) (passNum : σ → Nat) (file : List α)
    (chosen : α → Bool) (limit : Nat) (checks notices sendWins : Bool) :
    ∀ fuel j s out o e,
      fullScanMid scan passNum file chosen limit .bare checks notices sendWins fuel j s out = some (o, e) →
      e.recognised = true := by
  intro fuel j s out o e h
  fun_induction fullScanMid scan passNum file chosen limit .bare checks notices sendWins fuel j s out <;>
    first
    | (rename_i ih; exact ih h)
    | (simp only [Option.some.injEq, Prod.mk.injEq] at h; obtain ⟨_, rfl⟩ := h; rfl)
    | cases h

/-- `runPreloaded` started under a cancelled context delivers nothing -/
theorem runPreloaded_cancelled {α : Type} (l : List α) (b : Bounds) (fuel : Nat) :
    runPreloaded l b (some 0) (fuel + 1) = some ([], if l.length = 0 then .errNoAmmo else .canceled) := by
  unfold runPreloaded
  split
  · rfl
  · simp [preloaded, cancelled]

/-- the preloaded path never delivers anything when the cancellation lands in the loading pass, and — `loadAmmo`
handing on the context's own error — every end is one the engine recognises -/
theorem preloadMid_recognised {σ α : Type} (scan : Bounds → σ → ScanRes × σ) (init : σ) (file : List α)
    (chosen : α → Bool) (b : Bounds) (checks : Bool) (plan : MidPlan) (fuel : Nat) (o : List α) (e : MidEnd)
    (h : preloadMid scan init file chosen b true checks plan fuel = some (o, e)) :
    o = [] ∧ e.recognised = true := by
  unfold preloadMid at h
  split at h
  · simp at h
  · simp only [Option.some.injEq, Prod.mk.injEq] at h; obtain ⟨rfl, rfl⟩ := h; exact ⟨rfl, rfl⟩
  · simp only [Option.some.injEq, Prod.mk.injEq] at h; obtain ⟨rfl, rfl⟩ := h; exact ⟨rfl, rfl⟩
  · cases fuel with
    | zero =>
      rename_i l hl
      simp [loadAmmoMid] at hl
    | succ f =>
      rw [runPreloaded_cancelled] at h
      simp only [Option.some.injEq, Prod.mk.injEq] at h; obtain ⟨rfl, rfl⟩ := h; exact ⟨rfl, rfl⟩

/-- the streaming path, cancellation inside the FIRST Scan call of the run, a file with at least one entry -/
theorem runMid_stream_first {α : Type} (k : Fmt) (a : α) (rest : List α) (chosen : α → Bool) (b : Bounds)
    (ret : CtxRet) (norm notices sendWins : Bool) (fuel : Nat) :
    runMid k false (a :: rest) chosen b ret norm ⟨0, notices, sendWins⟩ (fuel + 1) =
      some (if scanChecksCtx k && notices then ([], scanCtxEnd ret)
            else if chosen a && sendWins then ([a], ownCtxEnd) else ([], ownCtxEnd)) := by
  have h0 : ¬ (b.limit ≠ 0 ∧ b.limit ≤ 0) := by omega
  have h1 : ¬ (b.passes ≠ 0 ∧ b.passes ≤ 0) := by omega
  cases k <;> cases notices <;>
    simp [runMid, midScanOf, fullScanMid, scanChecksCtx, scanStream, scanLoop, scanArr, Dec.init, ArrDec.init] <;>
    (split <;> simp_all)

/-- the preloaded path of a decoder that looks at the context: the cancel inside the first Scan call ends the load -/
theorem runMid_preload_first_checks {α : Type} (k : Fmt) (hk : scanChecksCtx k = true) (a : α) (rest : List α)
    (chosen : α → Bool) (b : Bounds) (ret : CtxRet) (norm notices sendWins : Bool) (fuel : Nat) :
    runMid k true (a :: rest) chosen b ret norm ⟨0, notices, sendWins⟩ (fuel + 1) = some ([], loadCancelEnd norm) := by
  cases k <;> simp [scanChecksCtx] at hk <;> cases notices <;>
    simp [runMid, midScanOf, preloadMid, loadAmmoMid, scanChecksCtx, scanStream, scanLoop, Dec.init]

/-- the preloaded path of a decoder that never looks at the context (http/json): the whole file is loaded, `runPreloaded`
sees the cancellation (or that nothing is chosen) before it delivers anything -/
theorem runMid_preload_first_json {α : Type} (k : Fmt) (hk : scanChecksCtx k = false) (a : α) (rest : List α)
    (chosen : α → Bool) (b : Bounds) (ret : CtxRet) (norm notices sendWins : Bool) (fuel : Nat)
    (hfuel : rest.length + 2 ≤ fuel) :
    runMid k true (a :: rest) chosen b ret norm ⟨0, notices, sendWins⟩ (fuel + 1) =
      some ([], ⟨if ((a :: rest).filter chosen).length = 0 then .errNoAmmo else .canceled, true⟩) := by
  obtain ⟨f, rfl⟩ : ∃ f, fuel = f + 1 := ⟨fuel - 1, by omega⟩
  have hn : 0 < (a :: rest).length := by simp
  cases k <;> simp [scanChecksCtx] at hk
  · -- jsonLines
    have src := src_topCheck (a :: rest).length 1 hn
    obtain ⟨s', hs, hR⟩ := src.next 0 0 Dec.init (RStream_init _) hn (by omega)
    have hl := loadAmmo_spec (fun b => scanStream .topCheck b (a :: rest).length) (RStream (a :: rest).length) (a :: rest) src
      (f + 1) 1 s' hR (by simp) (by simp; omega)
    simp only [List.take_succ_cons, List.take_zero] at hl
    simp only [runMid, midScanOf, preloadMid, loadAmmoMid, scanChecksCtx, Bool.false_and, hs]
    simp only [List.getElem?_cons_zero, List.nil_append, hl, Bool.false_eq_true, if_false]
    rw [runPreloaded_cancelled]
    by_cases hc : (List.filter chosen (a :: rest)).length = 0 <;> simp [hc, mapSentinel]
  · -- jsonArray
    have src := src_arr (a :: rest).length 1 hn
    obtain ⟨s', hs, hR⟩ := src.next 0 0 ArrDec.init (RArr_init _ hn) hn (by omega)
    have hl := loadAmmo_spec (fun b => scanArr b (a :: rest).length) (RArr (a :: rest).length) (a :: rest) src
      (f + 1) 1 s' hR (by simp) (by simp; omega)
    simp only [List.take_succ_cons, List.take_zero] at hl
    simp only [runMid, midScanOf, preloadMid, loadAmmoMid, scanChecksCtx, Bool.false_and, hs]
    simp only [List.getElem?_cons_zero, List.nil_append, hl, Bool.false_eq_true, if_false]
    rw [runPreloaded_cancelled]
    by_cases hc : (List.filter chosen (a :: rest)).length = 0 <;> simp [hc, mapSentinel]

/-- the preloaded path, cancellation inside the first Scan call, something chosen: nothing is delivered and `Run` ends
with the context's own error, whether the decoder looks at the context or not -/
theorem runMid_preload_first {α : Type} (k : Fmt) (a : α) (rest : List α) (chosen : α → Bool) (b : Bounds)
    (ret : CtxRet) (notices sendWins : Bool) (fuel : Nat) (hfuel : rest.length + 2 ≤ fuel)
    (hf : 0 < ((a :: rest).filter chosen).length) :
    runMid k true (a :: rest) chosen b ret true ⟨0, notices, sendWins⟩ (fuel + 1) = some ([], ⟨.canceled, true⟩) := by
  cases hk : scanChecksCtx k
  · rw [runMid_preload_first_json k hk a rest chosen b ret true notices sendWins fuel hfuel, if_neg (by omega)]
  · rw [runMid_preload_first_checks k hk]; rfl

/-- whatever the point of the cancellation: the streaming path only ever delivers chosen entries of the file, after
what it had delivered before -/
theorem fullScanMid_only_chosen {σ α : Type} (scan : σ → ScanRes × σ) (passNum : σ → Nat) (file : List α)
    (chosen : α → Bool) (limit : Nat) (ret : CtxRet) (checks notices sendWins : Bool) :
    ∀ fuel j s out o e,
      fullScanMid scan passNum file chosen limit ret checks notices sendWins fuel j s out = some (o, e) →
      ∃ more, o = out ++ more ∧ ∀ a ∈ more, a ∈ file ∧ chosen a = true := by
  intro fuel j s out o e h
  -- one more chosen entry of the file in front of what follows
  have step : ∀ {out o : List α} {i : Nat} {a : α}, file[i]? = some a → chosen a = true →
      (∃ more, o = (out ++ [a]) ++ more ∧ ∀ x ∈ more, x ∈ file ∧ chosen x = true) →
      ∃ more, o = out ++ more ∧ ∀ x ∈ more, x ∈ file ∧ chosen x = true := by
    rintro out o i a hfa hch ⟨more, rfl, hm⟩
    refine ⟨a :: more, by simp, fun x hx => ?_⟩
    rcases List.mem_cons.mp hx with rfl | hx
    · exact ⟨List.mem_of_getElem? hfa, hch⟩
    · exact hm x hx
  fun_induction fullScanMid scan passNum file chosen limit ret checks notices sendWins fuel j s out <;>
    first
    | (rename_i ih; exact ih h)
    | (rename_i hfa hch ih; exact step hfa hch (ih h))
    | (rename_i hfa hch
       simp only [Option.some.injEq, Prod.mk.injEq] at h
       obtain ⟨rfl, _⟩ := h
       exact step hfa (Bool.and_eq_true_iff.mp hch).1 ⟨[], by simp, by simp⟩)
    | (simp only [Option.some.injEq, Prod.mk.injEq] at h
       obtain ⟨rfl, _⟩ := h
       exact ⟨[], by simp, by simp⟩)
    | cases h

end Pandora.Proofs.C14
