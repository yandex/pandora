/-
C08: invariants of the transition system provider + channel + consumers + context (`Model.C08Mach`), for every
schedule.  Core Lean only.
-/
import Pandora.Proofs.C08Mach

namespace Pandora.Proofs.C08
open Pandora.Model.C08

/-- what holds in every reachable state, whatever the schedule -/
structure SysInv (inp : Input) (n cap : Nat) (s : Sys) : Prop where
  seq : s.acquired ++ s.buf = cycl n s.sent
  below : Below inp.b n s.sent
  bufcap : s.buf.length ≤ cap
  running : s.result = none → s.closed = false ∧ Good inp n s.sent s.ps ∧
    ∀ i ps', s.offering = some (i, ps') → i = s.sent % n ∧ Strict inp.b n s.sent ∧ Good inp n (s.sent + 1) ps'
  returned : ∀ r, s.result = some r → s.closed = true ∧ s.offering = none ∧
    ((r = .nil ∧ AtBound inp.b n s.sent) ∨ (s.cancelled = true ∧ (r = .canceled ∨ r = doneResOf inp.kind)))
  ended : s.ended ≠ [] → s.closed = true ∧ s.buf = []

namespace SysInv
variable {inp : Input} {n cap : Nat} {s : Sys}

/-- the sink is closed exactly when `Run` has returned -/
theorem closed_iff (hi : SysInv inp n cap s) : s.closed = true ↔ s.result.isSome = true := by
  cases hr : s.result with
  | none => simp [(hi.running hr).1]
  | some r => simp [(hi.returned r hr).1]

/-- how `Run` ended: nil — or Canceled, only after a cancel —, and without a cancel at the bound -/
theorem result_cases (hi : SysInv inp n cap s) {r : RunRes} (h : s.result = some r) :
    (r = .nil ∨ (s.cancelled = true ∧ r = .canceled)) ∧ (s.cancelled = false → r = .nil ∧ AtBound inp.b n s.sent) := by
  obtain ⟨_, _, h3⟩ := hi.returned r h
  refine ⟨?_, fun hnc => ?_⟩
  · rcases h3 with ⟨h3, _⟩ | ⟨hc, h3 | h3⟩
    · exact .inl h3
    · exact .inr ⟨hc, h3⟩
    · unfold doneResOf at h3
      split at h3
      · exact .inr ⟨hc, h3⟩
      · exact .inl h3
  · rcases h3 with h3 | ⟨hc, _⟩
    · exact h3
    · rw [hnc] at hc; cases hc

end SysInv

theorem sysInv_init (inp : Input) (n cap : Nat) (hn : 0 < n) : SysInv inp n cap (Sys.init inp n) where
  seq := by simp [Sys.init, Sys.acquired, Sys.sent]
  below := by simp [Sys.init, Sys.sent]; exact below_zero _ _
  bufcap := by simp [Sys.init]
  running := by
    intro _
    refine ⟨rfl, ?_, ?_⟩
    · simpa [Sys.init, Sys.sent] using good_init inp n hn
    · intro i ps' h; simp [Sys.init] at h
  returned := by intro r h; simp [Sys.init] at h
  ended := by intro h; simp [Sys.init] at h

theorem next_prod_some (inp : Input) (n cap cons : Nat) (s s' : Sys) (h : s.next inp n cap cons .prod = some s') :
    s.result = none ∧ s.offering = none ∧
    ((∃ r, stepOf inp n s.cancelled s.ps = .ret r ∧ s' = { s with result := some r, closed := true }) ∨
     (∃ i ps', stepOf inp n s.cancelled s.ps = .offer i ps' ∧ s' = { s with offering := some (i, ps') }) ∨
     (∃ ps', stepOf inp n s.cancelled s.ps = .tau ps' ∧ s' = { s with ps := ps' })) := by
  simp only [Sys.next] at h
  by_cases hne : s.result.isSome = true ∨ s.offering.isSome = true
  · rw [if_pos hne] at h; cases h
  · rw [if_neg hne] at h
    have hres : s.result = none := Option.not_isSome_iff_eq_none.mp fun h => hne (Or.inl h)
    have hoff : s.offering = none := Option.not_isSome_iff_eq_none.mp fun h => hne (Or.inr h)
    refine ⟨hres, hoff, ?_⟩
    cases hstep : stepOf inp n s.cancelled s.ps with
    | ret r => rw [hstep] at h; simp only [Option.some.injEq] at h; exact Or.inl ⟨r, rfl, h.symm⟩
    | offer i ps' => rw [hstep] at h; simp only [Option.some.injEq] at h; exact Or.inr (Or.inl ⟨i, ps', rfl, h.symm⟩)
    | tau ps' => rw [hstep] at h; simp only [Option.some.injEq] at h; exact Or.inr (Or.inr ⟨ps', rfl, h.symm⟩)

section inversion
variable {inp : Input} {n cap cons : Nat} {s s' : Sys} {c : Nat}

/-! what an enabled transition of each of the other labels needs and does -/

theorem next_push_some (h : s.next inp n cap cons .push = some s') :
    ∃ i ps', s.offering = some (i, ps') ∧ s.result = none ∧ s.buf.length < cap ∧
      s' = { s with ps := ps', offering := none, buf := s.buf ++ [i] } := by
  simp only [Sys.next] at h
  split at h
  · rename_i i ps' hoff
    split at h
    · rename_i hc
      exact ⟨i, ps', hoff, by simpa using hc.1, hc.2, (Option.some.inj h).symm⟩
    · cases h
  · cases h

theorem next_hand_some (h : s.next inp n cap cons (.hand c) = some s') :
    ∃ i ps', s.offering = some (i, ps') ∧ s.result = none ∧ s.buf = [] ∧ c < cons ∧ c ∉ s.ended ∧
      s' = { s with ps := ps', offering := none, log := s.log ++ [(c, i)] } := by
  simp only [Sys.next] at h
  split at h
  · rename_i i ps' hoff
    split at h
    · rename_i hc
      exact ⟨i, ps', hoff, by simpa using hc.1, hc.2.1, hc.2.2.1, hc.2.2.2, (Option.some.inj h).symm⟩
    · cases h
  · cases h

theorem next_done_some (h : s.next inp n cap cons .done = some s') :
    s.result = none ∧ s.offering.isSome = true ∧ s.cancelled = true ∧
      s' = { s with offering := none, result := some (doneResOf inp.kind), closed := true } := by
  simp only [Sys.next] at h
  split at h
  · rename_i hc
    exact ⟨by simpa using hc.1, hc.2.1, hc.2.2, (Option.some.inj h).symm⟩
  · cases h

theorem next_recv_some (h : s.next inp n cap cons (.recv c) = some s') :
    ∃ i rest, s.buf = i :: rest ∧ c < cons ∧ c ∉ s.ended ∧ s' = { s with buf := rest, log := s.log ++ [(c, i)] } := by
  simp only [Sys.next] at h
  split at h
  · rename_i i rest hbuf
    split at h
    · rename_i hc
      exact ⟨i, rest, hbuf, hc.1, hc.2, (Option.some.inj h).symm⟩
    · cases h
  · cases h

theorem next_eoa_some (h : s.next inp n cap cons (.eoa c) = some s') :
    s.closed = true ∧ s.buf = [] ∧ c < cons ∧ c ∉ s.ended ∧ s' = { s with ended := c :: s.ended } := by
  simp only [Sys.next] at h
  split at h
  · rename_i hc
    exact ⟨hc.1, hc.2.1, hc.2.2.1, hc.2.2.2, (Option.some.inj h).symm⟩
  · cases h

end inversion

/-- every transition preserves the invariant -/
theorem sysInv_next (inp : Input) (n cap cons : Nat) (hn : 0 < n) (s s' : Sys) (l : Label)
    (hi : SysInv inp n cap s) (h : s.next inp n cap cons l = some s') : SysInv inp n cap s' := by
  cases l with
  | prod =>
    obtain ⟨hres, hoff, h⟩ := next_prod_some inp n cap cons s s' h
    obtain ⟨hcl, hg, _⟩ := hi.running hres
    have ok := good_step inp n hn s.cancelled s.sent s.ps hg hi.below
    rcases h with ⟨r, hstep, rfl⟩ | ⟨i, ps', hstep, rfl⟩ | ⟨ps', hstep, rfl⟩
    · refine ⟨hi.seq, hi.below, hi.bufcap, fun h => by simp at h, ?_, fun he => ⟨rfl, (hi.ended he).2⟩⟩
      intro r' hr'
      obtain rfl := Option.some.inj hr'
      exact ⟨rfl, hoff, (ok.ret r hstep).imp id fun h => ⟨h.1, .inl h.2⟩⟩
    · refine ⟨hi.seq, hi.below, hi.bufcap, fun _ => ⟨hcl, hg, ?_⟩, fun r hr => by simp [hres] at hr, hi.ended⟩
      intro i' ps'' h'
      obtain ⟨rfl, rfl⟩ := Prod.mk.inj (Option.some.inj h')
      exact ok.offer i ps' hstep
    · exact ⟨hi.seq, hi.below, hi.bufcap,
        fun _ => ⟨hcl, (ok.tau ps' hstep).1, fun i' ps'' h' => by simp [hoff] at h'⟩,
        fun r hr => by simp [hres] at hr, hi.ended⟩
  | push =>
    obtain ⟨i, ps', hoff, hres, hcap, rfl⟩ := next_push_some h
    obtain ⟨hcl, _, ho⟩ := hi.running hres
    obtain ⟨hi1, hi2, hi3⟩ := ho i ps' hoff
    have hsent : (Sys.sent { s with ps := ps', offering := none, buf := s.buf ++ [i] }) = s.sent + 1 := by
      simp [Sys.sent]; omega
    refine ⟨?_, ?_, ?_, ?_, ?_, ?_⟩
    · rw [hsent, cycl_succ, ← hi1, ← hi.seq]; simp [Sys.acquired]
    · rw [hsent]; exact hi2.below_succ
    · simp; omega
    · intro _
      refine ⟨hcl, by rw [hsent]; exact hi3, ?_⟩
      intro i' ps'' h'; simp at h'
    · intro r hr; simp [hres] at hr
    · intro he
      have := hi.ended he
      simp [hcl] at this
  | hand c =>
    obtain ⟨i, ps', hoff, hres, hbuf, _, _, rfl⟩ := next_hand_some h
    obtain ⟨hcl, _, ho⟩ := hi.running hres
    obtain ⟨hi1, hi2, hi3⟩ := ho i ps' hoff
    have hsent : (Sys.sent { s with ps := ps', offering := none, log := s.log ++ [(c, i)] }) = s.sent + 1 := by
      simp [Sys.sent]; omega
    refine ⟨?_, ?_, ?_, ?_, ?_, ?_⟩
    · rw [hsent, cycl_succ, ← hi1, ← hi.seq]; simp [Sys.acquired, hbuf]
    · rw [hsent]; exact hi2.below_succ
    · exact hi.bufcap
    · intro _
      refine ⟨hcl, by rw [hsent]; exact hi3, ?_⟩
      intro i' ps'' h'; simp at h'
    · intro r hr; simp [hres] at hr
    · intro he
      have := hi.ended he
      simp [hcl] at this
  | done =>
    obtain ⟨_, _, hc, rfl⟩ := next_done_some h
    refine ⟨hi.seq, hi.below, hi.bufcap, ?_, ?_, ?_⟩
    · intro h; simp at h
    · intro r hr
      simp only [Option.some.injEq] at hr
      subst hr
      exact ⟨rfl, rfl, Or.inr ⟨hc, Or.inr rfl⟩⟩
    · intro he; exact ⟨rfl, (hi.ended he).2⟩
  | recv c =>
    obtain ⟨i, rest, hbuf, _, _, rfl⟩ := next_recv_some h
    have hsent : (Sys.sent { s with buf := rest, log := s.log ++ [(c, i)] }) = s.sent := by
      simp [Sys.sent, hbuf]; omega
    refine ⟨?_, ?_, ?_, ?_, ?_, ?_⟩
    · rw [hsent, ← hi.seq]; simp [Sys.acquired, hbuf]
    · rw [hsent]; exact hi.below
    · have := hi.bufcap; simp [hbuf] at this; simp; omega
    · intro hr
      obtain ⟨h1, h2, h3⟩ := hi.running hr
      exact ⟨h1, by rw [hsent]; exact h2, by rw [hsent]; exact h3⟩
    · intro r hr
      obtain ⟨h1, h2, h3⟩ := hi.returned r hr
      exact ⟨h1, h2, by rw [hsent]; exact h3⟩
    · intro he
      have := (hi.ended he).2
      simp [hbuf] at this
  | eoa c =>
    obtain ⟨hcl, hbuf, _, _, rfl⟩ := next_eoa_some h
    exact ⟨hi.seq, hi.below, hi.bufcap, hi.running, hi.returned, fun _ => ⟨hcl, hbuf⟩⟩
  | cancel =>
    simp only [Sys.next] at h
    cases h
    refine ⟨hi.seq, hi.below, hi.bufcap, hi.running, ?_, hi.ended⟩
    intro r hr
    obtain ⟨h1, h2, h3⟩ := hi.returned r hr
    exact ⟨h1, h2, h3.imp id fun h => ⟨rfl, h.2⟩⟩

theorem sysInv_run (inp : Input) (n cap cons : Nat) (hn : 0 < n) (ls : List Label) :
    ∀ s, SysInv inp n cap s → SysInv inp n cap (s.run inp n cap cons ls) := by
  induction ls with
  | nil => intro s h; exact h
  | cons l ls ih =>
    intro s h
    simp only [Sys.run, List.foldl_cons]
    apply ih
    cases hnext : s.next inp n cap cons l with
    | none => simpa using h
    | some s' => simpa using sysInv_next inp n cap cons hn s s' l h hnext

theorem sysInv_reach (inp : Input) (n cons : Nat) (hn : 0 < n) (ls : List Label) :
    SysInv inp n inp.kind.chanCap (reach inp n cons ls) :=
  sysInv_run inp n _ cons hn ls _ (sysInv_init inp n _ hn)

theorem run_append (inp : Input) (n cap cons : Nat) (s : Sys) (l1 l2 : List Label) :
    s.run inp n cap cons (l1 ++ l2) = (s.run inp n cap cons l1).run inp n cap cons l2 := by
  simp [Sys.run, List.foldl_append]

/-! ## the provider returns by itself once its bound is reached or the context is cancelled -/

/-- one step of `Run` alone: the Done branch of the select when it is in the select with a cancelled context,
otherwise one loop iteration -/
def ownStep (inp : Input) (n cap cons : Nat) (s : Sys) : Sys :=
  if s.offering.isSome ∧ s.cancelled then (s.next inp n cap cons .done).getD s
  else (s.next inp n cap cons .prod).getD s

def ownRun (inp : Input) (n cap cons : Nat) : Nat → Sys → Sys
  | 0, s => s
  | m + 1, s => ownRun inp n cap cons m (ownStep inp n cap cons s)

theorem ownRun_returned (inp : Input) (n cap cons : Nat) (m : Nat) (s : Sys) (h : s.result.isSome) :
    (ownRun inp n cap cons m s).result.isSome := by
  induction m generalizing s with
  | zero => exact h
  | succ m ih =>
    apply ih
    unfold ownStep
    have hd : s.next inp n cap cons .done = none := by
      simp only [Sys.next]
      cases hr : s.result <;> simp_all
    have hp : s.next inp n cap cons .prod = none := by simp [Sys.next, h]
    split <;> simp [hd, hp, h]

theorem ownRun_succ (inp : Input) (n cap cons m : Nat) (s : Sys) :
    ownRun inp n cap cons (m + 1) s = ownRun inp n cap cons m (ownStep inp n cap cons s) := rfl

theorem own_done (inp : Input) (n cap cons : Nat) (s : Sys) (i : Nat) (ps' : PSt) (hoff : s.offering = some (i, ps'))
    (hc : s.cancelled = true) (hres : s.result = none) : (ownStep inp n cap cons s).result.isSome = true := by
  simp [ownStep, hoff, hc, Sys.next, hres]

theorem own_ret (inp : Input) (n cap cons : Nat) (s : Sys) (r : RunRes) (hoff : s.offering = none)
    (hres : s.result = none) (hstep : stepOf inp n s.cancelled s.ps = .ret r) :
    (ownStep inp n cap cons s).result.isSome = true := by
  simp [ownStep, hoff, Sys.next, hres, hstep]

theorem own_offer (inp : Input) (n cap cons : Nat) (s : Sys) (i : Nat) (ps' : PSt) (hoff : s.offering = none)
    (hres : s.result = none) (hstep : stepOf inp n s.cancelled s.ps = .offer i ps') :
    ownStep inp n cap cons s = { s with offering := some (i, ps') } := by
  simp [ownStep, hoff, Sys.next, hres, hstep]

theorem own_tau (inp : Input) (n cap cons : Nat) (s : Sys) (ps' : PSt) (hoff : s.offering = none)
    (hres : s.result = none) (hstep : stepOf inp n s.cancelled s.ps = .tau ps') :
    ownStep inp n cap cons s = { s with ps := ps' } ∧ s.next inp n cap cons .prod = some { s with ps := ps' } := by
  simp [ownStep, hoff, Sys.next, hres, hstep]

/-- `Run` alone returns within `tauBudget + 2` of its own steps once the bound is reached or the context is
cancelled: it needs nobody to receive, and it does not spin -/
theorem returns_alone (inp : Input) (n cap cons : Nat) (hn : 0 < n) :
    ∀ (j : Nat) (s : Sys), SysInv inp n cap s → s.result = none →
      (s.cancelled = true ∨ AtBound inp.b n s.sent) → tauBudget n s.ps ≤ j →
      (ownRun inp n cap cons (j + 2) s).result.isSome = true := by
  intro j
  induction j using Nat.strongRecOn with
  | _ j ih =>
    intro s hi hres hstop hj
    obtain ⟨hcl, hg, ho⟩ := hi.running hres
    -- an ammo on offer means the bound is not reached: the context is cancelled, the select takes Done
    have hdone : ∀ (t : Sys) i ps', t.offering = some (i, ps') → t.result = none → t.cancelled = s.cancelled →
        Strict inp.b n s.sent → (ownStep inp n cap cons t).result.isSome = true := by
      intro t i ps' hoff hres' hct hstrict
      have hc : s.cancelled = true := hstop.resolve_right hstrict.not_atBound
      exact own_done inp n cap cons t i ps' hoff (hct.trans hc) hres'
    rw [ownRun_succ]
    cases hoff : s.offering with
    | some p => exact ownRun_returned _ _ _ _ _ _ (hdone s p.1 p.2 hoff hres rfl (ho p.1 p.2 hoff).2.1)
    | none =>
      have ok := good_step inp n hn s.cancelled s.sent s.ps hg hi.below
      cases hstep : stepOf inp n s.cancelled s.ps with
      | ret r => exact ownRun_returned _ _ _ _ _ _ (own_ret inp n cap cons s r hoff hres hstep)
      | tau ps' =>
        have hlt := (ok.tau ps' hstep).2
        obtain ⟨j', rfl⟩ : ∃ j', j = j' + 1 := ⟨j - 1, by omega⟩
        obtain ⟨h1, hnext⟩ := own_tau inp n cap cons s ps' hoff hres hstep
        have hi' := sysInv_next inp n cap cons hn s _ .prod hi hnext
        rw [h1]
        exact ih j' (by omega) _ hi' hres (by simpa [Sys.sent] using hstop) (by simp; omega)
      | offer i ps' =>
        rw [own_offer inp n cap cons s i ps' hoff hres hstep, ownRun_succ]
        exact ownRun_returned _ _ _ _ _ _ (hdone _ i ps' rfl hres rfl (ok.offer i ps' hstep).2.1)

/-! ## providers that read ctx.Err() at the loop top send nothing more once the context is cancelled
(except the ammo that is already in the select) -/

/-- a `Run` that reads a cancelled context at the loop top returns context.Canceled (http/json with preload first loads
the file: its decoder does not look at the context) -/
theorem ctxTop_step_true (inp : Input) (n : Nat) (hn : 0 < n) (k : Nat) (s : PSt) (hg : Good inp n k s)
    (ht : inp.kind.ctxTop = true) :
    stepOf inp n true s = .ret .canceled ∨ ∃ s', stepOf inp n true s = .tau s' := by
  cases s with
  | stream d a => exact .inl (by simp only [stepOf, streamStep_true, liftAct])
  | arr d a => exact .inl (by simp only [stepOf, streamStep_true, liftAct])
  | unloaded =>
    have hlen : (List.range n).length ≠ 0 := by rw [List.length_range]; omega
    simp only [stepOf, loadOf_ok inp.kind n hn, if_neg hlen]
    split
    · exact .inl rfl
    · exact .inr ⟨_, rfl⟩
  | replay ammos a => exact .inl (by simp [stepOf, replayStep, liftAct])
  | grpc g => simp [hg.1, Kind.ctxTop] at ht
  | gen a r ps => simp [hg.1, Kind.ctxTop] at ht

theorem ctxTop_no_offer (inp : Input) (n : Nat) (hn : 0 < n) (k : Nat) (s : PSt) (hg : Good inp n k s)
    (ht : inp.kind.ctxTop = true) (i : Nat) (s' : PSt) : stepOf inp n true s ≠ .offer i s' := by
  rcases ctxTop_step_true inp n hn k s hg ht with h | ⟨_, h⟩ <;> rw [h] <;> exact nofun

/-- ammo sent, counting the one that is in the select -/
def pot (s : Sys) : Nat := s.sent + (if s.offering.isSome then 1 else 0)

theorem pot_next_cancelled (inp : Input) (n cap cons : Nat) (hn : 0 < n) (ht : inp.kind.ctxTop = true)
    (s s' : Sys) (l : Label) (hi : SysInv inp n cap s) (hc : s.cancelled = true)
    (h : s.next inp n cap cons l = some s') : pot s' ≤ pot s ∧ s'.cancelled = true := by
  cases l with
  | prod =>
    obtain ⟨hres, hoff, h⟩ := next_prod_some inp n cap cons s s' h
    obtain ⟨_, hg, _⟩ := hi.running hres
    rcases h with ⟨r, _, rfl⟩ | ⟨i, ps', hstep, rfl⟩ | ⟨ps', _, rfl⟩
    · exact ⟨by simp [pot, Sys.sent], hc⟩
    · rw [hc] at hstep
      exact absurd hstep (ctxTop_no_offer inp n hn s.sent s.ps hg ht i ps')
    · exact ⟨by simp [pot, Sys.sent], hc⟩
  | push =>
    obtain ⟨i, ps', hoff, _, _, rfl⟩ := next_push_some h
    refine ⟨?_, hc⟩; simp [pot, Sys.sent, hoff]; omega
  | hand c =>
    obtain ⟨i, ps', hoff, _, _, _, _, rfl⟩ := next_hand_some h
    refine ⟨?_, hc⟩; simp [pot, Sys.sent, hoff]; omega
  | done =>
    obtain ⟨_, _, _, rfl⟩ := next_done_some h
    exact ⟨by simp [pot, Sys.sent], hc⟩
  | recv c =>
    obtain ⟨i, rest, hbuf, _, _, rfl⟩ := next_recv_some h
    refine ⟨?_, hc⟩; simp [pot, Sys.sent, hbuf]; omega
  | eoa c =>
    obtain ⟨_, _, _, _, rfl⟩ := next_eoa_some h
    exact ⟨by simp [pot, Sys.sent], hc⟩
  | cancel =>
    simp only [Sys.next] at h
    cases h; exact ⟨by simp [pot, Sys.sent], rfl⟩

theorem run_cons (inp : Input) (n cap cons : Nat) (s : Sys) (l : Label) (ls : List Label) :
    s.run inp n cap cons (l :: ls) = ((s.next inp n cap cons l).getD s).run inp n cap cons ls := rfl

theorem pot_run_cancelled (inp : Input) (n cap cons : Nat) (hn : 0 < n) (ht : inp.kind.ctxTop = true) (ls : List Label) :
    ∀ s, SysInv inp n cap s → s.cancelled = true → pot (s.run inp n cap cons ls) ≤ pot s := by
  induction ls with
  | nil => intro s _ _; exact Nat.le_refl _
  | cons l ls ih =>
    intro s hi hc
    rw [run_cons]
    cases hnext : s.next inp n cap cons l with
    | none => simpa using ih s hi hc
    | some s' =>
      have ⟨h1, h2⟩ := pot_next_cancelled inp n cap cons hn ht s s' l hi hc hnext
      have := ih s' (sysInv_next inp n cap cons hn s s' l hi hnext) h2
      simp only [Option.getD_some]
      exact Nat.le_trans this h1

/-! ## no deadlock: as long as a consumer keeps calling Acquire something can happen, until everybody has seen the end -/

theorem no_deadlock (inp : Input) (n cap cons : Nat) (s : Sys) (hi : SysInv inp n cap s) (hc : 0 < cons)
    (hstuck : ∀ l, l ≠ .cancel → s.next inp n cap cons l = none) :
    s.result.isSome ∧ s.buf = [] ∧ ∀ c, c < cons → c ∈ s.ended := by
  cases hres : s.result with
  | none =>
    exfalso
    obtain ⟨hcl, _, _⟩ := hi.running hres
    have hend : s.ended = [] := by
      cases he : s.ended with
      | nil => rfl
      | cons a l => have := (hi.ended (by simp [he])).1; simp [hcl] at this
    cases hoff : s.offering with
    | none =>
      have := hstuck .prod (by simp)
      cases hstep : stepOf inp n s.cancelled s.ps <;> simp [Sys.next, hres, hoff, hstep] at this
    | some p =>
      obtain ⟨i, ps'⟩ := p
      by_cases hroom : s.buf.length < cap
      · have := hstuck .push (by simp)
        simp [Sys.next, hoff, hres, hroom] at this
      · cases hbuf : s.buf with
        | nil =>
          have := hstuck (.hand 0) (by simp)
          simp [Sys.next, hoff, hres, hbuf, hc, hend] at this
        | cons a rest =>
          have := hstuck (.recv 0) (by simp)
          simp [Sys.next, hbuf, hc, hend] at this
  | some r =>
    obtain ⟨hcl, _, _⟩ := hi.returned r hres
    have hbuf : s.buf = [] := by
      cases hb : s.buf with
      | nil => rfl
      | cons a rest =>
        exfalso
        have hend : s.ended = [] := by
          cases he : s.ended with
          | nil => rfl
          | cons x l => have := (hi.ended (by simp [he])).2; simp [hb] at this
        have := hstuck (.recv 0) (by simp)
        simp [Sys.next, hb, hc, hend] at this
    refine ⟨by simp, hbuf, ?_⟩
    intro c hcc
    have := hstuck (.eoa c) (by simp)
    simp only [Sys.next] at this
    by_cases hm : c ∈ s.ended
    · exact hm
    · simp [hcl, hbuf, hcc, hm] at this

end Pandora.Proofs.C08
