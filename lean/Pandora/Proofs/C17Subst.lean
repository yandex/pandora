/-
C17 — the environment and the properties-file lookup (exact name / key, first entry), and strings that carry any number
of placeholders.
-/
import Pandora.Proofs.C17Cast

namespace Pandora.Proofs.C17
open Pandora.Model.C17 Pandora.Spec.C17

/-! ## the environment is an exact association -/

theorem assoc_eq_find? {α} (l : List (Str × α)) (k : Str) : assoc l k = (l.find? fun e => e.1 == k).map (·.2) := by
  induction l with
  | nil => rfl
  | cons x xs ih =>
    obtain ⟨k', v⟩ := x
    by_cases h : k' = k <;> simp [assoc, h, ih]

theorem assoc_none_iff {α} (l : List (Str × α)) (k : Str) : assoc l k = none ↔ ∀ e ∈ l, e.1 ≠ k := by
  simp [assoc_eq_find?, List.find?_eq_none]

theorem assoc_some_iff {α} (l : List (Str × α)) (k : Str) (v : α) :
    assoc l k = some v ↔ ∃ pre post, l = pre ++ (k, v) :: post ∧ ∀ e ∈ pre, e.1 ≠ k := by
  simp only [assoc_eq_find?, Option.map_eq_some_iff, List.find?_eq_some_iff_append, beq_iff_eq, Bool.not_eq_true',
    beq_eq_false_iff_ne, ne_eq]
  constructor
  · rintro ⟨⟨k', w⟩, ⟨rfl, pre, post, hl, hpre⟩, rfl⟩
    exact ⟨pre, post, hl, hpre⟩
  · rintro ⟨pre, post, hl, hpre⟩
    exact ⟨(k, v), ⟨rfl, pre, post, hl, hpre⟩, rfl⟩
/-! ## lines of a properties file -/

theorem dropCR_cr (l : Str) : dropCR (l ++ ['\r']) = l := by
  simp [dropCR, List.reverse_append]

theorem dropCR_of_getLast (l : Str) (h : l.getLast? ≠ some '\r') : dropCR l = l := by
  unfold dropCR
  rw [List.getLast?_eq_head?_reverse] at h
  split
  · next r heq => rw [heq] at h; exact absurd rfl h
  · rfl

/-- a line is the entry of `key` exactly when it is `key=value` and `key` has no `=` -/
theorem lineKV_iff (line key v : Str) :
    lineKV line = some (key, v) ↔ (line = key ++ '=' :: v ∧ ∀ c ∈ key, c ≠ '=') := by
  constructor
  · intro h
    rcases cutAt_some '=' line [] key v (cutEq_eq line [] ▸ h) with ⟨k', hk, hl, hno⟩
    simp at hk
    subst hk
    exact ⟨hl, hno⟩
  · intro ⟨hl, hno⟩
    subst hl
    unfold lineKV
    rw [cutEq_eq, cutAt_join '=' key v [] hno]
    simp

theorem lineKV_no_eq (line : Str) (h : ∀ c ∈ line, c ≠ '=') : lineKV line = none := by
  rw [lineKV, cutEq_eq]; exact cutAt_none '=' line [] h

/-- a line whose key merely STARTS WITH the requested key is not that key's entry -/
theorem lineKV_longer_key (key more v w : Str) (hm : more ≠ []) (hno : ∀ c ∈ more, c ≠ '=') :
    lineKV (key ++ more ++ '=' :: v) ≠ some (key, w) := by
  intro h
  rcases (lineKV_iff _ key w).mp h with ⟨hl, hk⟩
  -- key ++ more ++ '=' :: v = key ++ '=' :: w
  rw [List.append_assoc] at hl
  have := List.append_cancel_left hl
  cases more with
  | nil => exact hm rfl
  | cons c cs =>
    simp only [List.cons_append, List.cons.injEq] at this
    exact hno c (by simp) this.1

/-- the value a line gives for `key`, if it is an entry of `key` -/
def entryOf (key l : Str) : Option Str := (lineKV l).bind fun kv => if kv.1 == key then some kv.2 else none

theorem entryOf_eq_some (key l v : Str) : entryOf key l = some v ↔ lineKV l = some (key, v) := by
  unfold entryOf
  cases lineKV l with
  | none => simp
  | some kv =>
    obtain ⟨k, w⟩ := kv
    by_cases hk : k = key <;> simp [hk]

theorem entryOf_eq_none (key l : Str) : entryOf key l = none ↔ ∀ v, lineKV l ≠ some (key, v) := by
  simp [Option.eq_none_iff_forall_ne_some, entryOf_eq_some]

theorem findProp_eq (lines : List Str) (key : Str) : findProp lines key = lines.findSome? (entryOf key) := by
  induction lines with
  | nil => rfl
  | cons l r ih =>
    rw [findProp, List.findSome?_cons, ← ih]
    unfold entryOf
    cases lineKV l with
    | none => rfl
    | some kv =>
      obtain ⟨k, w⟩ := kv
      by_cases hk : k = key <;> simp [hk]

/-- the lookup finds nothing exactly when no line is an entry of the key -/
theorem findProp_none_iff (lines : List Str) (key : Str) :
    findProp lines key = none ↔ ∀ l ∈ lines, ∀ v, lineKV l ≠ some (key, v) := by
  simp only [findProp_eq, List.findSome?_eq_none_iff, entryOf_eq_none]

/-- the lookup returns `v` exactly when the FIRST entry of the key says `v` -/
theorem findProp_some_iff (lines : List Str) (key v : Str) :
    findProp lines key = some v ↔
      ∃ pre l post, lines = pre ++ l :: post ∧ lineKV l = some (key, v) ∧ ∀ l' ∈ pre, ∀ w, lineKV l' ≠ some (key, w) := by
  simp only [findProp_eq, List.findSome?_eq_some_iff, entryOf_eq_some, entryOf_eq_none]
/-! ## strings with any number of placeholders -/

def NoDollar (s : Str) : Prop := ∀ c ∈ s, c ≠ '$'

instance (s : Str) : Decidable (NoDollar s) := by unfold NoDollar; infer_instance

/-- the literal segment of a piece of text (none for the empty text) -/
def litSeg (l : Str) : List Seg := if l.isEmpty then [] else [Seg.lit l]

/-- `pre₁ ${t₁:n₁} pre₂ ${t₂:n₂} … post` -/
def piecesText : List (Str × Str × Str) → Str → Str
  | [], post => post
  | (pre, ty, name) :: r, post => pre ++ placeholder ty name ++ piecesText r post

def piecesSegs : List (Str × Str × Str) → Str → List Seg
  | [], post => litSeg post
  | (pre, ty, name) :: r, post => litSeg pre ++ Seg.tag (placeholder ty name) ty name :: piecesSegs r post

/-- the text with every placeholder replaced by what its resolver returns; `none` when a resolver reports an error -/
def piecesValue (env : Env) : List (Str × Str × Str) → Str → Option Str
  | [], post => some post
  | (pre, ty, name) :: r, post =>
    match resolveTag env (placeholder ty name) ty name with
    | none => none
    | some v => (piecesValue env r post).map fun t => pre ++ v ++ t

def PiecesOk (ps : List (Str × Str × Str)) (post : Str) : Prop :=
  (∀ p ∈ ps, NoDollar p.1 ∧ PlainType p.2.1 ∧ PlainName p.2.2) ∧ NoDollar post

theorem scanLoop_lit (xs : Str) (h : NoDollar xs) : ∀ (rest lit : Str) (acc : List Seg),
    scanLoop (xs ++ rest) lit none acc = scanLoop rest (xs.reverse ++ lit) none acc := by
  induction xs with
  | nil => intro rest lit acc; simp
  | cons c cs ih =>
    intro rest lit acc
    have hc : c ≠ '$' := h c (by simp)
    have hcs : NoDollar cs := fun d hd => h d (by simp [hd])
    have step : scanLoop (c :: (cs ++ rest)) lit none acc = scanLoop (cs ++ rest) (c :: lit) none acc := by
      rw [scanLoop]
      intro cs' h1 _
      exact hc h1
    simp only [List.cons_append, step, ih hcs rest (c :: lit) acc]
    simp

theorem scanLoop_end (lit : Str) (acc : List Seg) : scanLoop [] lit none acc = some (acc ++ litSeg lit.reverse) := by
  simp [scanLoop, litSeg]

theorem scanLoop_placeholder (ty name : Str) (ht : PlainType ty) (hn : PlainName name) (rest lit : Str) (acc : List Seg) :
    scanLoop (placeholder ty name ++ rest) lit none acc =
      scanLoop rest [] none (acc ++ litSeg lit.reverse ++ [Seg.tag (placeholder ty name) ty name]) := by
  have hb : ∀ c ∈ ty ++ ':' :: name, c ≠ '{' ∧ c ≠ '}' := by
    intro c hc
    rcases List.mem_append.mp hc with h | h
    · exact ⟨(ht.1.2 c h).1, (ht.1.2 c h).2.1⟩
    · rcases List.mem_cons.mp h with h | h
      · subst h; decide
      · exact ⟨(hn.2 c h).1, (hn.2 c h).2.1⟩
  unfold placeholder
  simp only [List.cons_append, List.append_assoc]
  rw [scanLoop]
  have := scan_body (ty ++ ':' :: name) [] [] (acc ++ (if lit.isEmpty then [] else [Seg.lit lit.reverse])) rest hb
  simp only [List.append_assoc, List.cons_append, List.nil_append] at this ⊢
  rw [this]
  have hl : (if lit.isEmpty then ([] : List Seg) else [Seg.lit lit.reverse]) = litSeg lit.reverse := by
    unfold litSeg
    cases lit <;> simp
  simp only [List.append_nil, List.reverse_reverse, splitBody_tag ty name ht hn, hl]
  have e : "${".toList = ['$', '{'] := by decide
  rw [e]
  simp

theorem scan_pieces : ∀ (ps : List (Str × Str × Str)) (post : Str), PiecesOk ps post → ∀ (acc : List Seg),
    scanLoop (piecesText ps post) [] none acc = some (acc ++ piecesSegs ps post)
  | [], post, h, acc => by
    have := scanLoop_lit post h.2 [] [] acc
    simp only [List.append_nil] at this
    simp only [piecesText, piecesSegs, this, scanLoop_end]
    simp
  | (pre, ty, name) :: r, post, h, acc => by
    have hp := h.1 (pre, ty, name) (by simp)
    have hr : PiecesOk r post := ⟨fun p hp' => h.1 p (by simp [hp']), h.2⟩
    simp only [piecesText, piecesSegs, List.append_assoc]
    rw [scanLoop_lit pre hp.1, scanLoop_placeholder ty name hp.2.1 hp.2.2]
    rw [scan_pieces r post hr]
    simp

theorem render_litSeg (env : Env) (l : Str) (rest : List Seg) :
    render env (litSeg l ++ rest) = (render env rest).map (l ++ ·) := by
  unfold litSeg
  cases l with
  | nil => simp
  | cons c cs => simp [render]

theorem render_pieces (env : Env) : ∀ (ps : List (Str × Str × Str)) (post : Str),
    render env (piecesSegs ps post) = piecesValue env ps post
  | [], post => by
    have := render_litSeg env post []
    simp only [List.append_nil] at this
    simp [piecesSegs, piecesValue, this, render]
  | (pre, ty, name) :: r, post => by
    simp only [piecesSegs, piecesValue, render_litSeg, render]
    cases resolveTag env (placeholder ty name) ty name with
    | none => simp
    | some v =>
      simp only [render_pieces env r post]
      cases piecesValue env r post <;> simp

theorem hasTag_pieces : ∀ (ps : List (Str × Str × Str)) (post : Str), ps ≠ [] → hasTag (piecesSegs ps post) = true
  | [], _, h => absurd rfl h
  | (pre, ty, name) :: r, post, _ => by
    simp only [piecesSegs, litSeg]
    cases pre <;> simp [hasTag]

end Pandora.Proofs.C17
