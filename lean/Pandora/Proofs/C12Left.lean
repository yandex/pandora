import Pandora.Model.C12Left

/-
C12 — the arithmetic of `leftAfter` (`NewComposite`) and of `(*compositeSchedule).Left`.
-/
namespace Pandora.Proofs.C12Left
open Pandora.Go.C12Left Pandora.Model.C12Left

theorem seqLeft_cons (c : Int) (rest : List Int) :
    seqLeft (c :: rest) = if c < 0 ∨ seqLeft rest < 0 then -1 else c + seqLeft rest := rfl

/-- unknown is −1, nothing else is negative -/
theorem seqLeft_range (cs : List Int) : seqLeft cs = -1 ∨ 0 ≤ seqLeft cs := by
  induction cs with
  | nil => right; simp [seqLeft]
  | cons c rest ih =>
    rw [seqLeft_cons]
    split
    · left; rfl
    · right; omega

/-- unknown exactly when some part is unknown -/
theorem seqLeft_neg_iff (cs : List Int) : seqLeft cs < 0 ↔ ∃ c ∈ cs, c < 0 := by
  induction cs with
  | nil => simp [seqLeft]
  | cons c rest ih =>
    rw [seqLeft_cons]
    constructor
    · intro h
      split at h
      · rename_i hc
        rcases hc with hc | hc
        · exact ⟨c, by simp, hc⟩
        · obtain ⟨d, hd, hd'⟩ := ih.mp hc
          exact ⟨d, by simp [hd], hd'⟩
      · omega
    · rintro ⟨d, hd, hd'⟩
      have : c < 0 ∨ seqLeft rest < 0 := by
        rcases List.mem_cons.mp hd with rfl | hm
        · left; exact hd'
        · right; exact ih.mpr ⟨d, hm, hd'⟩
      rw [if_pos this]; omega

/-- "exactly nothing left" only when every part has exactly nothing -/
theorem seqLeft_eq_zero (cs : List Int) (h : seqLeft cs = 0) : ∀ c ∈ cs, c = 0 := by
  induction cs with
  | nil => simp
  | cons c rest ih =>
    rw [seqLeft_cons] at h
    split at h
    · omega
    · rename_i hn
      have hr := seqLeft_range rest
      have h0 : seqLeft rest = 0 := by omega
      intro d hd
      rcases List.mem_cons.mp hd with rfl | hm
      · omega
      · exact ih h0 d hm

/-- known parts: the sum -/
theorem seqLeft_known (cs : List Int) (h : ∀ c ∈ cs, 0 ≤ c) : seqLeft cs = cs.foldr (· + ·) 0 := by
  induction cs with
  | nil => rfl
  | cons c rest ih =>
    have hr : ∀ d ∈ rest, 0 ≤ d := fun d hd => h d (by simp [hd])
    have hc : 0 ≤ c := h c (by simp)
    have hn : ¬ seqLeft rest < 0 := by
      intro hlt
      obtain ⟨d, hd, hd'⟩ := (seqLeft_neg_iff rest).mp hlt
      have := hr d hd; omega
    rw [seqLeft_cons, if_neg (by omega), ih hr]; rfl

/-- the loop keeps: accumulator = meaning of the parts visited so far, flag = "that is unknown" -/
theorem loopFrom_acc (cs : List Int) :
    (loopFrom cs).2.1 = seqLeft cs ∧ (loopFrom cs).2.2 = decide (seqLeft cs < 0) := by
  induction cs with
  | nil => simp [loopFrom, loopWith, seqLeft]
  | cons c rest ih =>
    obtain ⟨ha, hu⟩ := ih
    simp only [loopFrom] at ha hu ⊢
    simp only [loopWith, stepLeft, ha, hu, seqLeft_cons]
    have hr := seqLeft_range rest
    constructor
    · by_cases hc : c < 0
      · simp [hc]
      · by_cases hs : seqLeft rest < 0
        · simp [hc, hs]; omega
        · simp [hc, hs]; omega
    · by_cases hc : c < 0
      · simp [hc]
      · by_cases hs : seqLeft rest < 0
        · simp [hc, hs]
        · simp [hc, hs]; omega

/-- `leftAfter` of a part IS the meaning of the parts behind it -/
theorem leftAfterOf_cons (c : Int) (rest : List Int) :
    leftAfterOf (c :: rest) = seqLeft rest :: leftAfterOf rest := by
  simp only [leftAfterOf, loopFrom, loopWith, stepLeft]
  have := (loopFrom_acc rest).1
  simp only [loopFrom] at this
  rw [this]

theorem leftAfterOf_length (cs : List Int) : (leftAfterOf cs).length = cs.length := by
  induction cs with
  | nil => rfl
  | cons c rest ih => rw [leftAfterOf_cons]; simp [ih]

theorem leftAfterOf_get (cs : List Int) (i : Nat) (h : i < cs.length) :
    (leftAfterOf cs)[i]? = some (seqLeft (cs.drop (i + 1))) := by
  induction cs generalizing i with
  | nil => simp at h
  | cons c rest ih =>
    rw [leftAfterOf_cons]
    cases i with
    | zero => simp
    | succ j =>
      have hj : j < rest.length := by simpa using h
      simpa using ih j hj

/-- the answer 0 needs the current part at 0 and (no part behind, or `leftAfter` = 0) -/
theorem leftDecide_zero {n la l : Int} {st : Bool} (h : leftDecide n la l st = .ret 0) :
    l = 0 ∧ (n = 1 ∨ la = 0) := by
  unfold leftDecide at h
  split at h
  · injection h with h; exact ⟨h, Or.inl ‹_›⟩
  · split at h
    · split at h
      · injection h with h; exact ⟨‹_›, Or.inr h⟩
      · split at h <;> simp at h
    · split at h
      · simp at h
      · injection h with h; omega

/-- never 0 while a part behind is unknown -/
theorem leftDecide_unknown {n la l : Int} {st : Bool} (hn : n ≠ 1) (hla : la < 0) :
    leftDecide n la l st ≠ .ret 0 := by
  intro h
  have := leftDecide_zero h
  omega

/-- all known, current part not drained: the exact figure -/
theorem leftDecide_known {n la l : Int} {st : Bool} (hn : n ≠ 1) (hl : 0 < l) (hla : 0 ≤ la) :
    leftDecide n la l st = .ret (l + la) := by
  unfold leftDecide
  rw [if_neg hn, if_neg (by omega), if_neg (by omega)]

/-- it shifts only from a drained part, behind which something is unknown, and only once started -/
theorem leftDecide_shift {n la l : Int} {st : Bool} (h : leftDecide n la l st = .shift) :
    l = 0 ∧ la < 0 ∧ st = true ∧ n ≠ 1 := by
  unfold leftDecide at h
  split at h
  · simp at h
  · rename_i hn
    split at h
    · rename_i hl
      split at h
      · simp at h
      · rename_i hla
        split at h
        · simp at h
        · rename_i hst
          refine ⟨hl, by omega, by simpa using hst, hn⟩
    · split at h <;> simp at h

/-- `Left()` followed through its shifts answers 0 only if every part it passed, and the one it stopped at, answered 0, and
every part behind that one has a known length of no token -/
theorem fullLeft_zero (st : Bool) : ∀ (fuel : Nat) (curs cs : List Int), curs.length = cs.length →
    fullLeftWith leftDecide 1 1 st fuel curs (leftAfterOf cs) = some 0 →
    ∃ k, k < curs.length ∧ (∀ j, j ≤ k → curs[j]? = some 0) ∧ ∀ c ∈ cs.drop (k + 1), c = 0
  | 0, _, _, _, h => by simp [fullLeftWith] at h
  | fuel + 1, [], _, _, h => by simp [fullLeftWith] at h
  | fuel + 1, c :: rest, [], hlen, _ => by simp at hlen
  | fuel + 1, c :: rest, d :: ds, hlen, h => by
    have hl : rest.length = ds.length := by simpa using hlen
    simp only [fullLeftWith, leftAfterOf_cons, List.headD_cons] at h
    split at h
    · -- it answers
      rename_i v hv
      have hv0 : v = 0 := by simpa using h
      subst hv0
      obtain ⟨hc, hrest⟩ := leftDecide_zero hv
      refine ⟨0, by simp, ?_, ?_⟩
      · intro j hj
        have : j = 0 := by omega
        subst this; simp [hc]
      · rcases hrest with hn | hla
        · have : rest.length = 0 := by
            simp only [List.length_cons] at hn; omega
          have hds : ds = [] := List.eq_nil_of_length_eq_zero (by omega)
          simp [hds]
        · simpa using seqLeft_eq_zero ds hla
    · -- it shifts: the current part is drained, go on with the next
      rename_i hs
      obtain ⟨hc, _, _, _⟩ := leftDecide_shift hs
      simp only [List.drop_one, List.tail_cons] at h
      obtain ⟨k, hk, hall, hbehind⟩ := fullLeft_zero st fuel rest ds hl h
      refine ⟨k + 1, by simp; omega, ?_, by simpa using hbehind⟩
      intro j hj
      cases j with
      | zero => simp [hc]
      | succ j' => simpa using hall j' (by omega)

end Pandora.Proofs.C12Left
