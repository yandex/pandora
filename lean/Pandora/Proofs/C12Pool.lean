/-
C12 — the pool layer (`Pandora.Model.C12` in Model/C12Pool.lean) refines the abstract startup transition system; an exit
produced by a pass of `instance.Run` is an enabled abstract exit; the pool cancels the run by itself only when no
instance runs and no result is in flight.  Core Lean only.
-/
import Pandora.Model.C12Pool
import Pandora.Proofs.C12

namespace Pandora.Proofs.C12
open Pandora.Model.C04 Pandora.Model.C12 Pandora.Proofs.C04 Pandora.Go.C12

/-! ### frames: events that only set flags -/

/-- `b` differs from `s` in flags only -/
structure Frame (s b : St) : Prop where
  phase : b.phase = s.phase
  started : b.started = s.started
  running : b.running = s.running
  created : b.created = s.created
  ammoOut : b.ammoOut = s.ammoOut
  ret : b.ret = s.ret

theorem Frame.refl (s : St) : Frame s s := ⟨rfl, rfl, rfl, rfl, rfl, rfl⟩

theorem Frame.trans {a b d : St} (h1 : Frame a b) (h2 : Frame b d) : Frame a d :=
  ⟨h2.phase.trans h1.phase, h2.started.trans h1.started, h2.running.trans h1.running, h2.created.trans h1.created,
    h2.ammoOut.trans h1.ammoOut, h2.ret.trans h1.ret⟩

theorem frame_rps (c : Cfg) (s : St) : Frame s (step c s .rpsFinished) := by
  show Frame s (if c.perInstance || !anyInstance s then s else _)
  split
  · exact Frame.refl s
  · exact ⟨rfl, rfl, rfl, rfl, rfl, rfl⟩

theorem rps_runCtx (c : Cfg) (s : St) : (step c s .rpsFinished).runCtxDone = s.runCtxDone := by
  show (if c.perInstance || !anyInstance s then s else _).runCtxDone = _
  split <;> rfl

theorem frame_ammoRes (c : Cfg) (s : St) : Frame s (step c s .outOfAmmoResult) := by
  show Frame s (if !s.ammoOut then s else _)
  split
  · exact Frame.refl s
  · exact ⟨rfl, rfl, rfl, rfl, rfl, rfl⟩

theorem frame_cancel (c : Cfg) (s : St) : Frame s (step c s .runCancel) := ⟨rfl, rfl, rfl, rfl, rfl, rfl⟩

/-- the abstract event an action of the pool is -/
def evOfAct : PoolAct → Event
  | .cancel .start => .outOfAmmoResult
  | .cancel .run => .runCancel
  | .reportErr => .runCancel

theorem applyAct_eq (c : Cfg) (s : St) (a : PoolAct) : applyAct c s a = step c s (evOfAct a) := by
  cases a with
  | cancel x => cases x <;> rfl
  | reportErr => rfl

theorem frame_applyAct (c : Cfg) (s : St) (a : PoolAct) : Frame s (applyAct c s a) := by
  rw [applyAct_eq]
  cases a with
  | cancel x => cases x
                · exact frame_ammoRes c s
                · exact frame_cancel c s
  | reportErr => exact frame_cancel c s

theorem frame_acts (c : Cfg) (acts : List PoolAct) (s : St) : Frame s (acts.foldl (applyAct c) s) := by
  induction acts generalizing s with
  | nil => exact Frame.refl s
  | cons a rest ih => exact (frame_applyAct c s a).trans (ih _)

theorem acts_eq_run (c : Cfg) (acts : List PoolAct) (s : St) :
    acts.foldl (applyAct c) s = run c s (acts.map evOfAct) := by
  induction acts generalizing s with
  | nil => rfl
  | cons a rest ih =>
    simp only [List.foldl_cons, List.map_cons, run]
    rw [applyAct_eq, ih]
    rfl

theorem run_append (c : Cfg) (s : St) (a b : List Event) : run c s (a ++ b) = run c (run c s a) b := by
  simp [run, List.foldl_append]

/-- the events of the start loop, and the caller's cancel -/
theorem loop_event_cases (c : Cfg) (s : St) (ev : Event) (hl : isLoopEvent ev = true) :
    ev = .runCancel ∨ ∃ b, step c s ev = b ∧ LoopStep c s ev b := by
  cases ev with
  | wait env createOk delay => exact .inr ⟨_, rfl, wait_step ..⟩
  | timerFire => exact .inr ⟨_, rfl, fire_step ..⟩
  | wakeCancelled => exact .inr ⟨_, rfl, wake_step ..⟩
  | runCancel => exact .inl rfl
  | _ => cases hl

/-- an event of the start loop or the caller's cancel in a state whose start loop has returned changes flags only -/
theorem frame_loop_done (c : Cfg) (all : List Int) (s : St) (ev : Event) (h : Inv c all s) (hl : isLoopEvent ev = true)
    (hd : s.phase = .done) : Frame s (step c s ev) := by
  have hpn : ∀ q, s.pending ≠ some q := fun q hp => by have := (h.pend q hp).1; rw [hd] at this; cases this
  rcases loop_event_cases c s ev hl with rfl | ⟨b, hb, hs⟩
  · exact frame_cancel c s
  · rw [hb]
    cases hs with
    | same => exact Frame.refl s
    | park _ _ _ hph => rw [hd] at hph; cases hph
    | now _ _ _ hph => rw [hd] at hph; cases hph
    | fire p hp => exact absurd hp (hpn p)
    | wake p hp => exact absurd hp (hpn p)

/-! ### counting: goroutines launched = results awaited + results in flight + instances running -/

theorem newFailures_same (s b : St) (h : b.created = s.created) : newFailures s b = [] := by
  simp [newFailures, h]

/-- goroutines launched by a step = instances that began to run + creations that failed; ammo untouched -/
def Counts (s b : St) : Prop :=
  (b.started : Int) = s.started + ((b.running.length : Int) - s.running.length) + ((newFailures s b).length : Int) ∧
    b.ammoOut = s.ammoOut

theorem Counts.same (s b : St) (h1 : b.started = s.started) (h2 : b.running = s.running) (h3 : b.created = s.created)
    (h4 : b.ammoOut = s.ammoOut) : Counts s b := by
  refine ⟨?_, h4⟩
  rw [newFailures_same s b h3, h1, h2]
  simp

theorem Counts.complete (s : St) (r : Res) (p : Pending) : Counts s (complete s r p) := by
  refine ⟨?_, (complete_kept s r p).2.ammoOut⟩
  unfold Model.C12.complete newFailures
  dsimp only
  by_cases hok : r.ok = true
  · by_cases h0 : (s.started == 0) = true
    · have hs0 : s.started = 0 := by simpa using h0
      by_cases hc : p.createOk = true <;> by_cases hd : drew r.path = true <;> simp [hok, hc, hd, hs0] <;> omega
    · by_cases hc : p.createOk = true <;> by_cases hd : drew r.path = true <;> simp [hok, h0, hc, hd] <;> omega
  · have hok' : r.ok = false := by simpa using hok
    by_cases hd : drew r.path = true <;> simp [hok', hd]

theorem loop_counts (c : Cfg) (s : St) (ev : Event) (hl : isLoopEvent ev = true) : Counts s (step c s ev) := by
  rcases loop_event_cases c s ev hl with rfl | ⟨b, hb, hs⟩
  · exact Counts.same s _ rfl rfl rfl rfl
  · rw [hb]
    cases hs with
    | same => exact Counts.same s s rfl rfl rfl rfl
    | park => exact Counts.same s _ rfl rfl rfl rfl
    | now => exact Counts.complete s _ _
    | fire => exact Counts.complete s _ _
    | wake => exact Counts.complete s _ _

theorem newFailures_kind (s b : St) : ∀ x ∈ newFailures s b, x.2 = ResKind.createErr := by
  intro x hx
  simp only [newFailures, List.mem_filterMap] at hx
  obtain ⟨cr, _, hcr⟩ := hx
  by_cases hk : cr.ok = true
  · simp [hk] at hcr
  · simp only [hk, Bool.false_eq_true, if_false, Option.some.injEq] at hcr
    rw [← hcr]

/-! ### an exit produced by a pass of `instance.Run` is an enabled abstract exit -/

theorem anyInstance_of_running {c : Cfg} {all : List Int} {s : St} (h : Inv c all s) {id : Nat} (hid : id ∈ s.running) :
    anyInstance s = true := by
  obtain ⟨cr, hcr, _, hok⟩ := h.running id hid
  simp only [anyInstance, List.any_eq_true]
  exact ⟨cr, hcr, hok⟩

/-- the state after the finish callback this pass may run -/
def afterCallback (c : Cfg) (s : St) (it : RunIter) (nextEmpty : Bool) : St :=
  if firesCallback c.perInstance it nextEmpty then step c s .rpsFinished else s

theorem frame_afterCallback (c : Cfg) (s : St) (it : RunIter) (ne : Bool) : Frame s (afterCallback c s it ne) := by
  unfold afterCallback
  split
  · exact frame_rps c s
  · exact Frame.refl s

/-- The link between the returns of `instance.Run` and the exit reasons of the abstract system: in a reachable state, a
pass of the loop of a running instance that sees what the state allows (`iterMatches`) and ends the instance, ends it
with a reason whose abstract exit is ENABLED after the finish callback the pass itself may have run:
"cancelled" only with the run context done, "schedule exhausted" only for a per-instance schedule or after the shared
schedule has reported its end (which this very pass does, through `Left()`), and "out of ammo" only after the provider
refused it. -/
theorem iter_exit_enabled (c : Cfg) (all : List Int) (s : St) (h : Inv c all s) (id : Nat) (hid : id ∈ s.running)
    (it : RunIter) (e ne : Bool) (hm : iterMatches s it e ne = true) (r : ExitReason)
    (hr : iterOutcome it e = some r) :
    exitEnabled c (afterCallback c s it ne) r = true ∧ (r = .ammoEnd → it.ammoOk = false) ∧
      (r = .cancelled → s.runCtxDone = true) ∧ r ≠ .error := by
  simp only [iterMatches, Bool.and_eq_true, Bool.or_eq_true, Bool.not_eq_true'] at hm
  obtain ⟨⟨⟨_, h2⟩, h3⟩, _⟩ := hm
  unfold iterOutcome at hr
  simp only [instRun] at hr
  by_cases hf : instFinished it.ctxDone it.left = true
  · -- `return ctx.Err()`
    simp only [hf, Bool.not_true, Bool.false_eq_true, if_false, exitReasonOf, Option.some.injEq] at hr
    by_cases he : e = true
    · simp only [he, if_true] at hr
      subst hr
      have hrc : s.runCtxDone = true := by
        rcases h2 with h2 | h2
        · rw [he] at h2; cases h2
        · exact h2
      refine ⟨?_, (by intro hx; cases hx), fun _ => hrc, (by intro hx; cases hx)⟩
      show (afterCallback c s it ne).runCtxDone = true
      unfold afterCallback
      split
      · rw [rps_runCtx]; exact hrc
      · exact hrc
    · have he' : e = false := by simpa using he
      simp only [he', Bool.false_eq_true, if_false] at hr
      subst hr
      refine ⟨?_, (by intro hx; cases hx), (by intro hx; cases hx), (by intro hx; cases hx)⟩
      have hcd : it.ctxDone = false := by
        rcases h3 with h3 | h3
        · exact h3
        · rw [he'] at h3; cases h3
      have hl0 : (it.left == 0) = true := by
        simpa [instFinished, hcd] using hf
      show (c.perInstance || (afterCallback c s it ne).sharedRpsDone) = true
      by_cases hp : c.perInstance = true
      · simp [hp]
      · have hp' : c.perInstance = false := by simpa using hp
        have hfire : firesCallback c.perInstance it ne = true := by
          simp [firesCallback, hp', hcd, hl0]
        have hany := anyInstance_of_running h hid
        unfold afterCallback
        rw [if_pos hfire]
        show (c.perInstance || (if c.perInstance || !anyInstance s then s else _).sharedRpsDone) = true
        simp [hp', hany]
  · -- the body
    have hf' : instFinished it.ctxDone it.left = false := by simpa using hf
    simp only [hf', Bool.not_false, if_true] at hr
    by_cases ha : it.ammoOk = true
    · have hb : instBody it.ammoOk it.waitOk = .nil := by simp [instBody, ha]
      simp [hb, exitReasonOf] at hr
    · have ha' : it.ammoOk = false := by simpa using ha
      have hb : instBody it.ammoOk it.waitOk = .outOfAmmo := by simp [instBody, ha']
      rw [hb] at hr
      simp only [show (BodyErr.outOfAmmo != BodyErr.nil) = true by decide, if_true, exitReasonOf,
        Option.some.injEq] at hr
      subst hr
      exact ⟨rfl, fun _ => ha', (by intro hx; cases hx), (by intro hx; cases hx)⟩

/-- `instance.Run` is the iteration of single passes -/
theorem instRun_cons (it : RunIter) (rest : List RunIter) :
    instRun (it :: rest) = if instRun [it] = .running then instRun rest else instRun [it] := by
  simp only [instRun]
  by_cases hf : instFinished it.ctxDone it.left = true
  · simp [hf]
  · simp only [hf, Bool.not_false, if_true]
    by_cases hb : (instBody it.ammoOk it.waitOk != .nil) = true
    · simp [hb]
    · simp [hb]

/-! ### invariant of the pool layer -/

structure PInv (c : Cfg) (all : List Int) (p : PSt) : Prop where
  inv : Inv c all p.base
  count : p.aw.awaited + (p.pending.length : Int) + (p.base.running.length : Int) = (p.base.started : Int)
  startFin : p.aw.startFinished = true → p.base.phase = .done ∧ p.aw.started = (p.base.started : Int)
  pendAmmo : ∀ x ∈ p.pending, x.2 = .exit .ammoEnd → p.base.ammoOut = true
  cancelled : p.poolCancelled = true → p.base.running = [] ∧ p.pending = [] ∧ p.aw.startFinished = true

theorem PInv.init (c : Cfg) (all : List Int) : PInv c all (PSt.init all) :=
  ⟨Inv.init c all, by simp [PSt.init, St.init], by intro h; simp [PSt.init] at h, by intro x hx; simp [PSt.init] at hx,
    by intro h; simp [PSt.init] at h⟩

/-- what `checkAllInstancesAreFinished` needs: the other fields carried over, and if it fires, everything has finished -/
theorem checkAll_inv (c : Cfg) (all : List Int) (p : PSt) (hinv : Inv c all p.base)
    (hcount : p.aw.awaited + (p.pending.length : Int) + (p.base.running.length : Int) = (p.base.started : Int))
    (hstart : p.aw.startFinished = true → p.base.phase = .done ∧ p.aw.started = (p.base.started : Int))
    (hammo : ∀ x ∈ p.pending, x.2 = .exit .ammoEnd → p.base.ammoOut = true)
    (hcan : p.poolCancelled = true → p.base.running = [] ∧ p.pending = [] ∧ p.aw.startFinished = true) :
    PInv c all (checkAll p) := by
  unfold checkAll
  by_cases hall : allFinished p.aw = true
  · rw [if_pos hall]
    refine ⟨hinv, hcount, hstart, hammo, fun _ => ?_⟩
    simp only [allFinished, Bool.and_eq_true, decide_eq_true_eq] at hall
    obtain ⟨hsf, hle⟩ := hall
    have hst := (hstart hsf).2
    have hp : p.pending.length = 0 := by omega
    have hr : p.base.running.length = 0 := by omega
    exact ⟨List.length_eq_zero_iff.mp hr, List.length_eq_zero_iff.mp hp, hsf⟩
  · rw [if_neg hall]
    exact ⟨hinv, hcount, hstart, hammo, hcan⟩

theorem acts_inv (c : Cfg) (all : List Int) (acts : List PoolAct) (s : St) (h : Inv c all s) :
    Inv c all (acts.foldl (applyAct c) s) := by
  rw [acts_eq_run]
  exact run_inv c all s _ h

/-- the base state of `leave` is the abstract exit event -/
theorem leave_base (c : Cfg) (p : PSt) (b : St) (id : Nat) (r : ExitReason) (hid : b.running.contains id = true)
    (hen : exitEnabled c b r = true) : (leave p b id r).base = step c b (.instanceExit id r) := by
  show _ = stepExit c b id r
  unfold stepExit leave
  have hid' : id ∈ b.running := by simpa using hid
  simp [hid', hen]

/-- replacing the base state by one that differs in flags only -/
theorem PInv.frame {c : Cfg} {all : List Int} {p : PSt} (h : PInv c all p) {b : St} (hfr : Frame p.base b)
    (hb : Inv c all b) : PInv c all { p with base := b } := by
  refine ⟨hb, ?_, fun hsf => ?_, fun x hx hk => ?_, fun hpc => ?_⟩
  · show p.aw.awaited + (p.pending.length : Int) + (b.running.length : Int) = (b.started : Int)
    rw [hfr.running, hfr.started]; exact h.count
  · obtain ⟨hd, hst⟩ := h.startFin hsf
    exact ⟨hfr.phase.trans hd, by show p.aw.started = (b.started : Int); rw [hfr.started]; exact hst⟩
  · show b.ammoOut = true
    rw [hfr.ammoOut]; exact h.pendAmmo x hx hk
  · obtain ⟨h1, h2, h3⟩ := h.cancelled hpc
    exact ⟨by show b.running = []; rw [hfr.running]; exact h1, h2, h3⟩

/-- `Run` of a running instance returns (after the base state moved by flags only): its result is in flight -/
theorem leave_inv {c : Cfg} {all : List Int} {p : PSt} (h : PInv c all p) {b : St} (hfr : Frame p.base b)
    (hb : Inv c all b) {id : Nat} (r : ExitReason) (hc : p.base.running.contains id = true)
    (hen : exitEnabled c b r = true) : PInv c all (leave p b id r) := by
  have hid : id ∈ p.base.running := by simpa using hc
  have hnc : p.poolCancelled ≠ true := fun hpc => by
    have := (h.cancelled hpc).1
    rw [this] at hid; cases hid
  have hbase := leave_base c p b id r (by rw [hfr.running]; exact hc) hen
  refine ⟨by rw [hbase]; exact step_inv c all _ _ hb, ?_, fun hsf => ?_, fun x hx hk => ?_, fun hpc => absurd hpc hnc⟩
  · show p.aw.awaited + ((p.pending ++ [(id, ResKind.exit r)]).length : Int) + ((b.running.erase id).length : Int) =
      (b.started : Int)
    rw [hfr.running, hfr.started, List.length_erase_of_mem hid]
    have := h.count
    have hpos : 0 < p.base.running.length := List.length_pos_of_mem hid
    simp only [List.length_append, List.length_singleton]
    push_cast
    omega
  · obtain ⟨hd, hst⟩ := h.startFin hsf
    exact ⟨hfr.phase.trans hd, by show p.aw.started = (b.started : Int); rw [hfr.started]; exact hst⟩
  · show (b.ammoOut || r == .ammoEnd) = true
    have hx : x ∈ p.pending ++ [(id, ResKind.exit r)] := hx
    simp only [List.mem_append, List.mem_singleton] at hx
    rcases hx with hx | hx
    · rw [hfr.ammoOut, h.pendAmmo x hx hk]; rfl
    · subst hx
      simp only [ResKind.exit.injEq] at hk
      subst hk
      simp

theorem poolStep_inv (c : Cfg) (all : List Int) (p : PSt) (ev : PEvent) (h : PInv c all p) : PInv c all (poolStep c p ev) := by
  cases ev with
  | loop ev =>
    show PInv c all (if !isLoopEvent ev then p else _)
    by_cases hl : isLoopEvent ev = true
    · simp only [hl, Bool.not_true, Bool.false_eq_true, if_false]
      obtain ⟨hcnt, hao⟩ := loop_counts c p.base ev hl
      refine ⟨step_inv c all p.base ev h.inv, ?_, ?_, ?_, ?_⟩
      · have := h.count
        simp only [List.length_append]
        push_cast
        omega
      · intro hsf
        obtain ⟨hd, hst⟩ := h.startFin hsf
        have hfr := frame_loop_done c all p.base ev h.inv hl hd
        exact ⟨hfr.phase.trans hd, by rw [hfr.started]; exact hst⟩
      · intro x hx hk
        simp only [List.mem_append] at hx
        rcases hx with hx | hx
        · rw [hao]; exact h.pendAmmo x hx hk
        · have := newFailures_kind _ _ x hx
          rw [this] at hk; cases hk
      · intro hpc
        obtain ⟨hr, hp, hsf⟩ := h.cancelled hpc
        obtain ⟨hd, _⟩ := h.startFin hsf
        have hfr := frame_loop_done c all p.base ev h.inv hl hd
        refine ⟨hfr.running.trans hr, ?_, hsf⟩
        rw [hp, newFailures_same _ _ hfr.created]
        rfl
    · simpa [hl] using h
  | iter id it e ne =>
    show PInv c all (if !p.base.running.contains id || !iterMatches p.base it e ne then p else _)
    by_cases hg : (!p.base.running.contains id || !iterMatches p.base it e ne) = true
    · rw [if_pos hg]; exact h
    · rw [if_neg hg]
      simp only [Bool.or_eq_true, Bool.not_eq_true', not_or, Bool.not_eq_false] at hg
      obtain ⟨hc, hm⟩ := hg
      have hid : id ∈ p.base.running := by simpa using hc
      have hfr := frame_afterCallback c p.base it ne
      have hbinv : Inv c all (afterCallback c p.base it ne) := by
        unfold afterCallback
        split
        · exact step_inv c all _ _ h.inv
        · exact h.inv
      show PInv c all (match iterOutcome it e with
        | none => { p with base := afterCallback c p.base it ne }
        | some r => leave p (afterCallback c p.base it ne) id r)
      cases hr : iterOutcome it e with
      | none => exact h.frame hfr hbinv
      | some r => exact leave_inv h hfr hbinv r hc (iter_exit_enabled c all p.base h.inv id hid it e ne hm r hr).1
  | panic id =>
    show PInv c all (if !p.base.running.contains id then p else leave p p.base id .error)
    by_cases hc : p.base.running.contains id = true
    · simp only [hc, Bool.not_true, Bool.false_eq_true, if_false]
      exact leave_inv h (Frame.refl _) h.inv .error hc rfl
    · have hn : (!p.base.running.contains id) = true := by
        cases hcc : p.base.running.contains id with
        | true => exact absurd hcc hc
        | false => rfl
      rw [if_pos hn]; exact h
  | recvRun i =>
    show PInv c all (match p.pending[i]? with
      | none => p
      | some (_, k) => _)
    cases hpi : p.pending[i]? with
    | none => exact h
    | some x =>
      obtain ⟨xid, k⟩ := x
      have hilt : i < p.pending.length := by
        rcases List.getElem?_eq_some_iff.mp hpi with ⟨hlt, _⟩
        exact hlt
      have hnc : p.poolCancelled = false := by
        cases hpc : p.poolCancelled with
        | false => rfl
        | true =>
          have := (h.cancelled hpc).2.1
          rw [this] at hilt; simp at hilt
      let acts := onRunResult (k == .exit .ammoEnd) p.aw.startFinished
        (fun _ => k == .exit .scheduleEnd || k == .exit .cancelled)
      have hfr := frame_acts c acts p.base
      refine checkAll_inv c all _ (acts_inv c all acts p.base h.inv) ?_ ?_ ?_ ?_
      · show (onRunResAwait p.aw).awaited + ((p.pending.eraseIdx i).length : Int) +
          ((acts.foldl (applyAct c) p.base).running.length : Int) = ((acts.foldl (applyAct c) p.base).started : Int)
        rw [hfr.running, hfr.started, List.length_eraseIdx_of_lt hilt]
        have := h.count
        simp only [onRunResAwait]
        omega
      · intro hsf
        have hsf' : p.aw.startFinished = true := hsf
        obtain ⟨hd, hst⟩ := h.startFin hsf'
        exact ⟨hfr.phase.trans hd, by show p.aw.started = _; rw [hfr.started]; exact hst⟩
      · intro y hy hk
        show (acts.foldl (applyAct c) p.base).ammoOut = true
        rw [hfr.ammoOut]
        exact h.pendAmmo y (List.mem_of_mem_eraseIdx hy) hk
      · intro hpc
        have : p.poolCancelled = true := hpc
        rw [hnc] at this; cases this
  | recvStart =>
    show PInv c all (if p.base.phase != .done || p.aw.startFinished then p else _)
    by_cases hg : (p.base.phase != .done || p.aw.startFinished) = true
    · rw [if_pos hg]; exact h
    · rw [if_neg hg]
      simp only [Bool.or_eq_true, not_or, Bool.not_eq_true, bne_eq_false_iff_eq] at hg
      obtain ⟨hd, hsf⟩ := hg
      let acts := onStartResult (fun _ => p.base.ret != .create)
      have hfr := frame_acts c acts p.base
      refine checkAll_inv c all _ (acts_inv c all acts p.base h.inv) ?_ ?_ ?_ ?_
      · show (onStartResAwait p.aw p.base.started).awaited + (p.pending.length : Int) +
          ((acts.foldl (applyAct c) p.base).running.length : Int) = ((acts.foldl (applyAct c) p.base).started : Int)
        rw [hfr.running, hfr.started]
        exact h.count
      · intro _
        exact ⟨hfr.phase.trans hd, by show (p.base.started : Int) = _; rw [hfr.started]⟩
      · intro y hy hk
        show (acts.foldl (applyAct c) p.base).ammoOut = true
        rw [hfr.ammoOut]
        exact h.pendAmmo y hy hk
      · intro hpc
        have hpc' : p.poolCancelled = true := hpc
        have := (h.cancelled hpc').2.2
        rw [hsf] at this; cases this

  | recvOther ce => exact h.frame (frame_acts c _ p.base) (acts_inv c all _ p.base h.inv)

theorem poolRun_inv (c : Cfg) (all : List Int) (p : PSt) (evs : List PEvent) (h : PInv c all p) :
    PInv c all (poolRun c p evs) := by
  induction evs generalizing p with
  | nil => exact h
  | cons ev rest ih => exact ih _ (poolStep_inv c all p ev h)

/-! ### refinement -/

/-- every step of the pool layer is a (possibly empty) sequence of steps of the abstract system -/
theorem poolStep_refines (c : Cfg) (all : List Int) (p : PSt) (ev : PEvent) (h : PInv c all p) :
    ∃ evs, (poolStep c p ev).base = run c p.base evs := by
  cases ev with
  | loop ev =>
    by_cases hl : isLoopEvent ev = true
    · exact ⟨[ev], by simp [poolStep, hl, run]⟩
    · exact ⟨[], by simp [poolStep, hl, run]⟩
  | iter id it e ne =>
    by_cases hg : (!p.base.running.contains id || !iterMatches p.base it e ne) = true
    · exact ⟨[], by simp only [poolStep]; rw [if_pos hg]; rfl⟩
    · have hg' := hg
      simp only [Bool.or_eq_true, Bool.not_eq_true', not_or, Bool.not_eq_false] at hg'
      obtain ⟨hc, hm⟩ := hg'
      have hid : id ∈ p.base.running := by simpa using hc
      have hfr := frame_afterCallback c p.base it ne
      have hcbrun : ∃ evs, afterCallback c p.base it ne = run c p.base evs := by
        unfold afterCallback
        split
        · exact ⟨[.rpsFinished], rfl⟩
        · exact ⟨[], rfl⟩
      obtain ⟨e1, he1⟩ := hcbrun
      have hstep : (poolStep c p (.iter id it e ne)).base = (match iterOutcome it e with
          | none => afterCallback c p.base it ne
          | some r => (leave p (afterCallback c p.base it ne) id r).base) := by
        show (if !p.base.running.contains id || !iterMatches p.base it e ne then p else _).base = _
        rw [if_neg hg]
        show (match iterOutcome it e with
          | none => { p with base := afterCallback c p.base it ne }
          | some r => leave p (afterCallback c p.base it ne) id r).base = _
        cases iterOutcome it e <;> rfl
      rw [hstep]
      cases hr : iterOutcome it e with
      | none => exact ⟨e1, he1⟩
      | some r =>
        obtain ⟨hen, _, _, _⟩ := iter_exit_enabled c all p.base h.inv id hid it e ne hm r hr
        have hcb : (afterCallback c p.base it ne).running.contains id = true := by rw [hfr.running]; exact hc
        refine ⟨e1 ++ [.instanceExit id r], ?_⟩
        show (leave p (afterCallback c p.base it ne) id r).base = _
        rw [leave_base c p _ id r hcb hen, run_append, ← he1]
        rfl
  | panic id =>
    by_cases hc : p.base.running.contains id = true
    · refine ⟨[.instanceExit id .error], ?_⟩
      show (if !p.base.running.contains id then p else leave p p.base id .error).base = _
      simp only [hc, Bool.not_true, Bool.false_eq_true, if_false]
      rw [leave_base c p p.base id .error hc rfl]
      rfl
    · have hn : (!p.base.running.contains id) = true := by
        cases hcc : p.base.running.contains id with
        | true => exact absurd hcc hc
        | false => rfl
      refine ⟨[], ?_⟩
      show (if !p.base.running.contains id then p else leave p p.base id .error).base = _
      rw [if_pos hn]; rfl
  | recvRun i =>
    cases hpi : p.pending[i]? with
    | none => exact ⟨[], by simp [poolStep, hpi, run]⟩
    | some x =>
      obtain ⟨xid, k⟩ := x
      refine ⟨(onRunResult (k == .exit .ammoEnd) p.aw.startFinished
        (fun _ => k == .exit .scheduleEnd || k == .exit .cancelled)).map evOfAct, ?_⟩
      rw [← acts_eq_run]
      simp only [poolStep, hpi, checkAll]
      split <;> rfl
  | recvStart =>
    by_cases hg : (p.base.phase != .done || p.aw.startFinished) = true
    · exact ⟨[], by simp only [poolStep]; rw [if_pos hg]; rfl⟩
    · refine ⟨(onStartResult (fun _ => p.base.ret != .create)).map evOfAct, ?_⟩
      rw [← acts_eq_run]
      simp only [poolStep]
      rw [if_neg hg]
      simp only [checkAll]
      split <;> rfl

  | recvOther ce =>
    refine ⟨(onOtherResult (fun _ => ce)).map evOfAct, ?_⟩
    rw [← acts_eq_run]
    rfl

/-- the pool layer refines the abstract system: what it does to the abstract state is a run of abstract events -/
theorem poolRun_refines (c : Cfg) (all : List Int) (p : PSt) (pevs : List PEvent) (h : PInv c all p) :
    ∃ evs, (poolRun c p pevs).base = run c p.base evs := by
  induction pevs generalizing p with
  | nil => exact ⟨[], rfl⟩
  | cons ev rest ih =>
    obtain ⟨e1, h1⟩ := poolStep_refines c all p ev h
    obtain ⟨e2, h2⟩ := ih (poolStep c p ev) (poolStep_inv c all p ev h)
    refine ⟨e1 ++ e2, ?_⟩
    show (poolRun c (poolStep c p ev) rest).base = _
    rw [h2, h1, run_append]

/-! ### `Engine.Run` -/

/-- the engine returns without error only after every pool has returned without error; it returns "failed" only on a pool
result with an error and "cancelled" only when its context is done — nothing else makes it return (and cancel all pools) -/
theorem engSeq_spec (n : Int) (evs : List EngEv) (i : Int) (k : Int) (r : EngRet) (hi : i ≤ n)
    (h : engSeq n i evs = { awaited := k, ret := some r }) :
    (r = .ok → k = n ∧ ∃ pre, pre.length = (n - i).toNat ∧ pre <+: evs ∧ ∀ e ∈ pre, e = EngEv.result true) ∧
    (r = .failed → EngEv.result false ∈ evs) ∧ (r = .cancelled → EngEv.ctxDone ∈ evs) := by
  induction evs generalizing i with
  | nil =>
    simp only [engSeq] at h
    by_cases hlt : i < n
    · simp [hlt] at h
    · simp only [hlt, if_false, EngRes.mk.injEq, Option.some.injEq] at h
      obtain ⟨rfl, rfl⟩ := h
      have : i = n := by omega
      subst this
      exact ⟨fun _ => ⟨rfl, [], by simp, List.prefix_refl _, by simp⟩, (by intro hx; cases hx), (by intro hx; cases hx)⟩
  | cons ev rest ih =>
    simp only [engSeq] at h
    by_cases hlt : i < n
    · simp only [hlt, if_true] at h
      cases ev with
      | result errNil =>
        cases errNil with
        | false =>
          simp only [Bool.not_false, if_true, EngRes.mk.injEq, Option.some.injEq] at h
          obtain ⟨_, rfl⟩ := h
          exact ⟨(by intro hx; cases hx), fun _ => by simp, (by intro hx; cases hx)⟩
        | true =>
          simp only [Bool.not_true, Bool.false_eq_true, if_false] at h
          obtain ⟨h1, h2, h3⟩ := ih (i + 1) (by omega) h
          refine ⟨fun hr => ?_, fun hr => List.mem_cons_of_mem _ (h2 hr), fun hr => List.mem_cons_of_mem _ (h3 hr)⟩
          obtain ⟨hk, pre, hlen, hpre, hall⟩ := h1 hr
          refine ⟨hk, EngEv.result true :: pre, ?_, ?_, ?_⟩
          · simp only [List.length_cons, hlen]
            omega
          · exact List.cons_prefix_cons.mpr ⟨rfl, hpre⟩
          · intro e he
            simp only [List.mem_cons] at he
            rcases he with he | he
            · exact he
            · exact hall e he
      | ctxDone =>
        simp only [EngRes.mk.injEq, Option.some.injEq] at h
        obtain ⟨_, rfl⟩ := h
        exact ⟨(by intro hx; cases hx), (by intro hx; cases hx), fun _ => by simp⟩
    · simp only [hlt, if_false, EngRes.mk.injEq, Option.some.injEq] at h
      obtain ⟨rfl, rfl⟩ := h
      have : i = n := by omega
      subst this
      exact ⟨fun _ => ⟨rfl, [], by simp, List.nil_prefix, by simp⟩, (by intro hx; cases hx), (by intro hx; cases hx)⟩

end Pandora.Proofs.C12
