/-
C13 — lemmas about the byte-string primitives and the checked operations (core Lean only).
-/
import Pandora.Model.C13Base

namespace Pandora.Proofs.C13
open Pandora.Model.C13

/-! ### outcomes -/

@[simp] theorem Res.bind_ok {α β} (a : α) (f : α → Res β) : (Res.ok a).bind f = f a := rfl

theorem ret_ok {α} (a : α) : (Res.ok a : Res α).returns = true := rfl
theorem ret_err {α} (c : String) : (Res.err c : Res α).returns = true := rfl

theorem ret_cases {α} {r : Res α} (h : r.returns = true) : (∃ a, r = .ok a) ∨ (∃ c, r = .err c) := by
  cases r with
  | ok a => exact .inl ⟨a, rfl⟩
  | err c => exact .inr ⟨c, rfl⟩
  | panic w => cases h
  | fatal w => cases h

/-- a sequence of two calls returns when both do -/
theorem Res.bind_returns {α β} {r : Res α} {f : α → Res β} (hr : r.returns = true) (hf : ∀ a, (f a).returns = true) :
    (r.bind f).returns = true := by
  rcases ret_cases hr with ⟨a, rfl⟩ | ⟨c, rfl⟩
  · exact hf a
  · rfl

theorem Res.bind_eq_ok {α β} {r : Res α} {f : α → Res β} {b : β} (h : r.bind f = .ok b) : ∃ a, r = .ok a ∧ f a = .ok b := by
  cases r with
  | ok a => exact ⟨a, rfl, h⟩
  | err c => cases h
  | panic w => cases h
  | fatal w => cases h

/-! ### `cut` -/

theorem cut_length {s : Bytes} {c : UInt8} {l r : Bytes} (h : cut s c = some (l, r)) :
    s.length = l.length + 1 + r.length := by
  induction s generalizing l with
  | nil => simp [cut] at h
  | cons b rest ih =>
    unfold cut at h
    by_cases hb : (b == c) = true
    · simp [hb] at h; obtain ⟨rfl, rfl⟩ := h; simp; omega
    · simp [hb] at h
      cases hc : cut rest c with
      | none => simp [hc] at h
      | some p =>
        obtain ⟨l', r'⟩ := p
        simp [hc] at h
        obtain ⟨rfl, rfl⟩ := h
        have := ih hc
        simp; omega

theorem cut_rest_lt {s : Bytes} {c : UInt8} {l r : Bytes} (h : cut s c = some (l, r)) :
    r.length < s.length := by
  have := cut_length h; omega

/-- appending after the separator does not change where the first separator is -/
theorem cut_append {s : Bytes} {c : UInt8} {l r : Bytes} (h : cut s c = some (l, r)) (t : Bytes) :
    cut (s ++ t) c = some (l, r ++ t) := by
  induction s generalizing l with
  | nil => simp [cut] at h
  | cons b rest ih =>
    unfold cut at h
    simp only [List.cons_append]
    unfold cut
    by_cases hb : (b == c) = true
    · simp [hb] at h ⊢; obtain ⟨rfl, rfl⟩ := h; simp
    · simp [hb] at h ⊢
      cases hc : cut rest c with
      | none => simp [hc] at h
      | some p =>
        obtain ⟨l', r'⟩ := p
        simp [hc] at h
        obtain ⟨rfl, rfl⟩ := h
        simp [ih hc]

theorem cut_none_nil (c : UInt8) : cut [] c = none := by simp [cut]

/-! ### `indexByte` -/

theorem findIdx?_lt {α} (p : α → Bool) (s : List α) (i : Nat) (h : s.findIdx? p = some i) : i < s.length := by
  have := List.findIdx?_eq_some_iff_getElem.mp h
  exact this.1

theorem indexByte_bounds (s : Bytes) (c : UInt8) :
    indexByte s c = -1 ∨ (0 ≤ indexByte s c ∧ indexByte s c < (s.length : Int)) := by
  unfold indexByte
  cases h : s.findIdx? (· == c) with
  | none => left; rfl
  | some i =>
    right
    have := findIdx?_lt _ s i h
    simp; omega

theorem indexByte_get (s : Bytes) (c : UInt8) (h : indexByte s c ≠ -1) :
    ∃ i : Nat, indexByte s c = (i : Int) ∧ ∃ hi : i < s.length, s[i] = c := by
  unfold indexByte at h ⊢
  cases hf : s.findIdx? (· == c) with
  | none => simp [hf] at h
  | some i =>
    have := List.findIdx?_eq_some_iff_getElem.mp hf
    obtain ⟨hi, hp, _⟩ := this
    refine ⟨i, rfl, hi, ?_⟩
    simpa using hp

/-! ### checked operations -/

theorem sliceC_ok (s : Bytes) (lo hi : Int) (h : 0 ≤ lo ∧ lo ≤ hi ∧ hi ≤ s.length) :
    sliceC s lo hi = .ok ((s.take hi.toNat).drop lo.toNat) := by
  unfold sliceC; simp [h]

theorem sliceC_returns (s : Bytes) (lo hi : Int) (h : 0 ≤ lo ∧ lo ≤ hi ∧ hi ≤ s.length) :
    ∃ v, sliceC s lo hi = .ok v := ⟨_, sliceC_ok s lo hi h⟩

theorem indexC_ok {α} (s : List α) (i : Int) (h0 : 0 ≤ i) (h1 : i < s.length) :
    ∃ a, indexC s i = .ok a := by
  unfold indexC
  have : i.toNat < s.length := by omega
  simp [h0, List.getElem?_eq_getElem this]

theorem indexC_zero {α} (a : α) (s : List α) : indexC (a :: s) 0 = .ok a := by
  simp [indexC]

theorem indexC_one {α} (a b : α) (s : List α) : indexC (a :: b :: s) 1 = .ok b := by
  simp [indexC]

theorem indexC_not_fatal {α} (s : List α) (i : Int) : ∀ w, indexC s i ≠ .fatal w := by
  intro w; unfold indexC
  split
  · split <;> simp
  · simp

theorem tmodC_ok (a b : Int) (h : b ≠ 0) : tmodC a b = .ok (Int.tmod a b) := by
  simp [tmodC, h]

theorem intnC_ok (n : Int) (rnd : Nat) (h : 0 < n) : intnC n rnd = .ok (Int.ofNat rnd % n) := by
  unfold intnC; simp; omega

/-! ### `split` -/

theorem split_ne_nil (s : Bytes) (c : UInt8) : split s c ≠ [] := by
  induction s with
  | nil => simp [split]
  | cons b rest ih =>
    unfold split
    by_cases hb : (b == c) = true
    · simp [hb]
    · simp [hb]
      cases h : split rest c with
      | nil => simp
      | cons hd tl => simp

theorem split_length_pos (s : Bytes) (c : UInt8) : 0 < (split s c).length := by
  have := split_ne_nil s c
  cases h : split s c with
  | nil => exact absurd h this
  | cons _ _ => simp

/-- splitting `a ++ c :: b`: the pieces of `a`, then the pieces of `b` -/
theorem split_append_sep (a b : Bytes) (c : UInt8) (init : List Bytes) (last : Bytes)
    (h : split a c = init ++ [last]) :
    split (a ++ c :: b) c = init ++ last :: split b c := by
  induction a generalizing init last with
  | nil =>
    simp [split] at h
    cases init with
    | nil => simp at h; subst h; simp [split]
    | cons i1 it => simp at h
  | cons x rest ih =>
    simp only [List.cons_append]
    by_cases hx : (x == c) = true
    · have e1 : split (x :: (rest ++ c :: b)) c = [] :: split (rest ++ c :: b) c := by
        rw [split]; simp [hx]
      have e2 : split (x :: rest) c = [] :: split rest c := by
        rw [split]; simp [hx]
      rw [e2] at h
      have hne := split_ne_nil rest c
      cases init with
      | nil =>
        simp at h
        exact absurd h.2 hne
      | cons i1 it =>
        simp at h
        obtain ⟨rfl, h2⟩ := h
        rw [e1, ih it last h2]
        simp
    · have hne := split_ne_nil rest c
      cases h1 : split rest c with
      | nil => exact absurd h1 hne
      | cons hd tl =>
        have e2 : split (x :: rest) c = (x :: hd) :: tl := by
          rw [split]; simp [hx, h1]
        rw [e2] at h
        cases init with
        | nil =>
          simp at h
          obtain ⟨rfl, rfl⟩ := h
          have := ih [] hd (by simpa using h1)
          have e1 : split (x :: (rest ++ c :: b)) c = (x :: hd) :: split b c := by
            rw [split]; simp [hx, this]
          simpa using e1
        | cons i1 it =>
          simp at h
          obtain ⟨rfl, h2⟩ := h
          have := ih (hd :: it) last (by simp [h1, h2])
          have e1 : split (x :: (rest ++ c :: b)) c = (x :: hd) :: (it ++ last :: split b c) := by
            rw [split]; simp [hx, this]
          simpa using e1

/-! ### terminated byte strings (every line ends with `\n`) -/

/-- the byte string is empty or ends with `\n`: every line in it is terminated -/
def Terminated (s : Bytes) : Prop := s = [] ∨ s.getLast? = some 10

theorem cut_eq_append {s : Bytes} {c : UInt8} {l r : Bytes} (h : cut s c = some (l, r)) : s = l ++ c :: r := by
  induction s generalizing l with
  | nil => simp [cut] at h
  | cons b rest ih =>
    unfold cut at h
    by_cases hb : (b == c) = true
    · simp [hb] at h; obtain ⟨rfl, rfl⟩ := h
      have : b = c := by simpa using hb
      simp [this]
    · simp [hb] at h
      cases hc : cut rest c with
      | none => simp [hc] at h
      | some p =>
        obtain ⟨l', r'⟩ := p
        simp [hc] at h
        obtain ⟨rfl, rfl⟩ := h
        simp [← ih hc]

theorem cut_some_of_mem {s : Bytes} {c : UInt8} (h : c ∈ s) : ∃ l r, cut s c = some (l, r) := by
  induction s with
  | nil => simp at h
  | cons b rest ih =>
    unfold cut
    by_cases hb : (b == c) = true
    · simp [hb]
    · simp only [hb]
      have hne : c ≠ b := by intro e; apply hb; simp [e]
      have : c ∈ rest := by
        rcases List.mem_cons.mp h with e | e
        · exact absurd e hne
        · exact e
      obtain ⟨l, r, hlr⟩ := ih this
      simp [hlr]

theorem getLast?_append_ne {α} (t r : List α) (hr : r ≠ []) : (t ++ r).getLast? = r.getLast? := by
  rw [List.getLast?_append]
  cases h : r.getLast? with
  | none => exact absurd (List.getLast?_eq_none_iff.mp h) hr
  | some a => rfl

theorem Terminated.of_suffix {s r : Bytes} (h : Terminated s) (hs : r <:+ s) : Terminated r := by
  by_cases hr : r = []
  · left; exact hr
  · right
    obtain ⟨t, rfl⟩ := hs
    rcases h with h | h
    · simp at h; exact absurd h.2 hr
    · rw [getLast?_append_ne _ _ hr] at h; exact h

theorem Terminated.cut {s : Bytes} (h : Terminated s) (hne : s ≠ []) :
    ∃ line rest, cut s 10 = some (line, rest) ∧ Terminated rest := by
  rcases h with h | h
  · exact absurd h hne
  · have hm : (10 : UInt8) ∈ s := List.mem_of_getLast? h
    obtain ⟨l, r, hlr⟩ := cut_some_of_mem hm
    refine ⟨l, r, hlr, Terminated.of_suffix (.inr h) ?_⟩
    have := cut_eq_append hlr
    exact ⟨l ++ [10], by simp [this]⟩

theorem Terminated.drop {s : Bytes} (h : Terminated s) (n : Nat) : Terminated (s.drop n) :=
  h.of_suffix (List.drop_suffix n s)

end Pandora.Proofs.C13
