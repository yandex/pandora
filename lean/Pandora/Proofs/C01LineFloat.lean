/-
C01, the float64 gap of the LINE profile, non-decreasing case (from ≤ to) — proved for u = 2⁻⁵³.

With from ≤ to every intermediate quantity of line.go's `NewLine` + `lineDoAt` (cancellation-free form) is a sum,
product, quotient or square root of NON-NEGATIVE quantities, so relative errors only accumulate (the calculus `Rel u k x y`
of `Proofs/C01Float`).

The regenerated float64 reading (`Pandora.Gen.Schedule.NewLine_fl` / `lineDoAt_fl`: the same source, every float
operation wrapped in `fl`) puts operation i at ⌊x̃ᵢ⌋ with x̃ᵢ within 27 roundings of the exact instant Xᵢ; the bridge
`NewLine_fl_sem` walks whatever operation tree the current source yields (tactic `rel_tree`) and accepts up to 63; a flat
line of a positive rate is covered in either reading of line.go (`NewConst`, or the line formula with slope 0).
Count space (`cum_floor_ns`): the integral is monotone and cum(c·X) ≤ c²·cum(X) for c ≥ 1 (≥ for c ≤ 1), so
cum(⌊x̃⌋) ≤ (1+u)¹²⁶·i ≤ i + 2⁻⁴⁶·i and cum(⌊x̃⌋+1) ≥ (1−u)¹²⁶·i ≥ i − 2⁻⁴⁶·i — inside the Spec's δ = 2⁻⁴⁶·(i + 1 + max·D).
The decreasing case (one genuine subtraction b² − 2|a|i) is not covered.
-/
import Pandora.Proofs.C01Float

set_option linter.unusedVariables false
set_option linter.unusedTactic false
set_option linter.unreachableTactic false

namespace Pandora.Proofs.C01LineFloat
open Pandora Pandora.Gen.Schedule Pandora.Bridge.Schedule Pandora.Proofs.C01Float Pandora.Proofs.LineMath

variable {u : ℝ} {fl : ℝ → ℝ}

/-- the exact instant (ns) of operation `i` in the cancellation-free form of line.go -/
noncomputable def xExact (f t : ℝ) (D : ℤ) (i : ℤ) : ℝ :=
  2000000000 * (i : ℝ) / (Real.sqrt (2 * slope f t D * (i : ℝ) + f * f) + f)

/-- a flat line: the exact instant of operation `i` is the const profile's, `i / from` seconds -/
theorem xExact_flat {f : ℝ} (hf : 0 < f) (D i : ℤ) : xExact f f D i = (i : ℝ) * (1000000000 / f) := by
  unfold xExact slope
  rw [sub_self, zero_div, mul_zero, zero_mul, zero_add, Real.sqrt_mul_self hf.le]
  field_simp
  ring

/-- what the regenerated float64 reading of `NewLine` is for a NON-DECREASING line: a leaf of the configured length, and — as
soon as the profile can hold an operation at all (`from < to`, or a flat line of a positive rate) — operation 0 at offset 0
and every operation `i > 0` at `⌊x⌋` for some `x` within 63 roundings of the exact instant (the tree as it stands has 27).
The proof walks whatever tree the current source yields (`rel_tree`); for a flat line it accepts both readings of line.go:
`NewConst` for `from == to` (three roundings), or the line formula run with slope 0. -/
theorem NewLine_fl_sem (hu : Rounding u fl) {f t : ℝ} {D : ℤ} (hf : 0 ≤ f) (hft : f ≤ t) (hD : 0 < D) :
    ∃ (n : ℤ) (at_ : ℤ → ℤ), NewLine_fl fl f t D = Sched.doAt D n at_ ∧
      ((f < t ∨ 0 < f) → at_ 0 = 0 ∧ ∀ i : ℤ, 0 < i → ∃ x, at_ i = Go.f2i x ∧ Rel u 63 (xExact f t D i) x) := by
  have hD' : (0:ℝ) < ((D : ℤ) : ℝ) := Int.cast_pos.mpr hD
  rcases hft.lt_or_eq with hlt | heq
  on_goal 2 =>
    first
    | -- line.go returns NewConst for from == to
      (subst heq
       obtain ⟨c, x, hnew, -, hx⟩ := NewConst_fl_sem hu f D hf hD.le
       have hflat : NewLine_fl fl f f D = NewConst_fl fl f D := by
         unfold NewLine_fl; schedule_aux_unfold; exact if_pos rfl
       refine ⟨_, _, hflat.trans hnew, fun hpos => ?_⟩
       have hfpos : 0 < f := hpos.resolve_left (lt_irrefl f)
       refine ⟨?_, fun i hi => ⟨x i, rfl, Rel.conclude hu (hx hfpos i hi.le) (by decide) (xExact_flat hfpos D i).symm⟩⟩
       -- operation 0: within three roundings of 0 is 0
       obtain ⟨-, h1, h2⟩ := hx hfpos 0 le_rfl
       rw [Int.cast_zero, zero_mul, mul_zero] at h1 h2
       show Go.f2i (x 0) = 0
       rw [le_antisymm h2 h1, Go.f2i_of_nonneg le_rfl, Int.floor_zero])
    | skip
  -- the line formula (also for a flat line when line.go has no shortcut)
  all_goals
    unfold NewLine_fl lineDoAt_fl
    schedule_aux_unfold
    try simp only [hlt.ne, if_false]
    refine ⟨_, _, rfl, fun hpos => ⟨if_pos rfl, fun i hi => ?_⟩⟩
    refine ⟨_, if_neg hi.ne', ?_⟩
    have hi' : (0:ℝ) < ((i : ℤ) : ℝ) := Int.cast_pos.mpr hi
    unfold xExact slope secs
    generalize hd : t - f = d
    have hd0 : 0 ≤ d := by rw [← hd]; exact sub_nonneg.mpr hft
    -- the divisor √(2ai + b²) + b is positive because the slope is (from < to) or because b is (a flat line)
    first
    | have hdpos : 0 < d := by rw [← hd]; exact sub_pos.mpr hlt
    | have hfpos : 0 < f := hpos.resolve_left (by rw [heq]; exact lt_irrefl t)
    apply Rel.conclude hu
    · rel_tree hu
    · decide
    · first
      | rfl
      | (ring_nf; done)
      | (congr 1 <;> ring_nf; done)
      | (field_simp; ring_nf; done)

theorem cum_mono_nonneg {a b x y : ℝ} (ha : 0 ≤ a) (hb : 0 ≤ b) (hx : 0 ≤ x) (hxy : x ≤ y) : cum a b x ≤ cum a b y := by
  have hd : cum a b y - cum a b x = (y - x) * (a * (x + y) / 2 + b) := by unfold cum; ring
  have : 0 ≤ (y - x) * (a * (x + y) / 2 + b) :=
    mul_nonneg (sub_nonneg.mpr hxy)
      (add_nonneg (div_nonneg (mul_nonneg ha (add_nonneg hx (hx.trans hxy))) zero_le_two) hb)
  linarith

theorem cum_scale_up {a b x c : ℝ} (ha : 0 ≤ a) (hb : 0 ≤ b) (hx : 0 ≤ x) (hc : 1 ≤ c) :
    cum a b (c * x) ≤ c ^ 2 * cum a b x := by
  have hd : c ^ 2 * cum a b x - cum a b (c * x) = b * x * (c * (c - 1)) := by unfold cum; ring
  have : 0 ≤ b * x * (c * (c - 1)) := mul_nonneg (mul_nonneg hb hx) (mul_nonneg (by linarith) (by linarith))
  linarith

theorem cum_scale_down {a b x c : ℝ} (ha : 0 ≤ a) (hb : 0 ≤ b) (hx : 0 ≤ x) (hc0 : 0 ≤ c) (hc : c ≤ 1) :
    c ^ 2 * cum a b x ≤ cum a b (c * x) := by
  have hd : cum a b (c * x) - c ^ 2 * cum a b x = b * x * (c * (1 - c)) := by unfold cum; ring
  have : 0 ≤ b * x * (c * (1 - c)) := mul_nonneg (mul_nonneg hb hx) (mul_nonneg hc0 (by linarith))
  linarith

/-- count space: an instant `x` (ns) within the factors `lo ≤ 1 ≤ hi` of the exact instant `X` of a non-decreasing line;
the integral is monotone and cum(c·X) ≤ c²·cum(X) for c ≥ 1 (≥ for c ≤ 1), so the integral at the truncation `⌊x⌋`
is at most hi² times, and one nanosecond later at least lo² times, the integral at `X` -/
theorem cum_floor_ns {a b : ℝ} (ha : 0 ≤ a) (hb : 0 ≤ b) {X x lo hi : ℝ} (hX : 0 ≤ X)
    (hlo0 : 0 ≤ lo) (hlo1 : lo ≤ 1) (hhi : 1 ≤ hi) (h1 : lo * X ≤ x) (h2 : x ≤ hi * X) :
    cum a b (((⌊x⌋ : ℤ) : ℝ) / 1000000000) ≤ hi ^ 2 * cum a b (X / 1000000000) ∧
    lo ^ 2 * cum a b (X / 1000000000) ≤ cum a b ((((⌊x⌋ : ℤ) : ℝ) + 1) / 1000000000) := by
  have hx0 : 0 ≤ x := (mul_nonneg hlo0 hX).trans h1
  have hns : (0:ℝ) ≤ 1000000000 := by norm_num
  have hXs : 0 ≤ X / 1000000000 := div_nonneg hX hns
  have hxs : 0 ≤ x / 1000000000 := div_nonneg hx0 hns
  constructor
  · calc cum a b (((⌊x⌋ : ℤ) : ℝ) / 1000000000) ≤ cum a b (x / 1000000000) :=
          cum_mono_nonneg ha hb (div_nonneg (Int.cast_nonneg (Int.floor_nonneg.mpr hx0)) hns)
            (div_le_div_of_nonneg_right (Int.floor_le x) hns)
      _ ≤ cum a b (hi * (X / 1000000000)) :=
          cum_mono_nonneg ha hb hxs (by rw [← mul_div_assoc]; exact div_le_div_of_nonneg_right h2 hns)
      _ ≤ hi ^ 2 * cum a b (X / 1000000000) := cum_scale_up ha hb hXs hhi
  · calc lo ^ 2 * cum a b (X / 1000000000) ≤ cum a b (lo * (X / 1000000000)) := cum_scale_down ha hb hXs hlo0 hlo1
      _ ≤ cum a b (x / 1000000000) :=
          cum_mono_nonneg ha hb (mul_nonneg hlo0 hXs) (by rw [← mul_div_assoc]; exact div_le_div_of_nonneg_right h1 hns)
      _ ≤ cum a b ((((⌊x⌋ : ℤ) : ℝ) + 1) / 1000000000) :=
          cum_mono_nonneg ha hb hxs (div_le_div_of_nonneg_right (Int.lt_floor_add_one x).le hns)

theorem pow126_hi : (1 + (1 / 2 ^ 53 : ℝ)) ^ 126 ≤ 1 + 1 / 2 ^ 46 := by norm_num
theorem pow126_lo : 1 - 1 / 2 ^ 46 ≤ (1 - (1 / 2 ^ 53 : ℝ)) ^ 126 := by norm_num

/-- **non-decreasing line, float64**: with u = 2⁻⁵³, an instant `x` within 63 roundings of the exact instant of operation
`i > 0` of a line that can hold an operation (`from < to`, or flat with a positive rate): its truncation `⌊x⌋` passes the Spec's
acceptance test with the Spec's tolerance δ = 2⁻⁴⁶·(i + 1 + max(from,to)·D) (in fact with 2⁻⁴⁶·i).
63 roundings of size 2⁻⁵³ on either side, squared in count space: (1 ± 2⁻⁵³)¹²⁶ is within 1 ± 2⁻⁴⁶. -/
theorem line_token_ok {f t : ℝ} {D : ℤ} (hf : 0 ≤ f) (hft : f ≤ t) (hpos : f < t ∨ 0 < f) (hD : 1000000 ≤ D)
    {i : ℤ} (hipos : 0 < i) {x : ℝ} (hrel : Rel (1 / 2 ^ 53) 63 (xExact f t D i) x) :
    cum (slope f t D) f (((Go.f2i x : ℤ) : ℝ) / 1000000000) ≤ (i : ℝ) + ((i : ℝ) + 1 + max f t * secs D) / 2 ^ 46 ∧
    (i : ℝ) - ((i : ℝ) + 1 + max f t * secs D) / 2 ^ 46 ≤ cum (slope f t D) f ((((Go.f2i x : ℤ) : ℝ) + 1) / 1000000000) := by
  have hsecs : 0 < secs D := secs_pos (by omega)
  have hA : 0 ≤ slope f t D := div_nonneg (sub_nonneg.mpr hft) hsecs.le
  have hipos' : (0:ℝ) < (i : ℝ) := Int.cast_pos.mpr hipos
  have hi' : (0:ℝ) ≤ (i : ℝ) := hipos'.le
  -- the exact instant, in seconds, is the conjugate form x_k: the integral reaches exactly i there
  have hcumX : cum (slope f t D) f (xExact f t D i / 1000000000) = (i : ℝ) := by
    have hXs : xExact f t D i / 1000000000 = xk2 (slope f t D) f (i : ℝ) := by
      unfold xExact xk2
      rw [show f * f = f ^ 2 by ring]
      ring
    rw [hXs]
    refine cum_xk2 (add_nonneg (mul_nonneg (mul_nonneg zero_le_two hA) hi') (sq_nonneg f)) ?_
    rcases hpos with hlt | hfpos
    · have : 0 < 2 * slope f t D * (i : ℝ) + f ^ 2 :=
        add_pos_of_pos_of_nonneg (mul_pos (mul_pos two_pos (div_pos (sub_pos.mpr hlt) hsecs)) hipos') (sq_nonneg f)
      exact (add_pos_of_pos_of_nonneg (Real.sqrt_pos.mpr this) hf).ne'
    · exact (add_pos_of_nonneg_of_pos (Real.sqrt_nonneg _) hfpos).ne'
  have hmax : 0 ≤ max f t * secs D := mul_nonneg (hf.trans (le_max_left f t)) hsecs.le
  have hu0 : (0:ℝ) ≤ 1 - 1 / 2 ^ 53 := by norm_num
  have hlo0 : (0:ℝ) ≤ (1 - 1 / 2 ^ 53) ^ 63 := pow_nonneg hu0 63
  obtain ⟨h1, h2⟩ := cum_floor_ns hA hf hrel.1 hlo0 (pow_le_one₀ hu0 (by norm_num)) (one_le_pow₀ (by norm_num))
    hrel.2.1 hrel.2.2
  rw [hcumX, ← pow_mul] at h1 h2
  rw [Go.f2i_of_nonneg ((mul_nonneg hlo0 hrel.1).trans hrel.2.1)]
  have hδ : (i : ℝ) / 2 ^ 46 ≤ ((i : ℝ) + 1 + max f t * secs D) / 2 ^ 46 :=
    div_le_div_of_nonneg_right (by linarith only [hmax]) (by norm_num)
  constructor
  · calc _ ≤ (1 + 1 / 2 ^ 46) * (i : ℝ) := h1.trans (mul_le_mul_of_nonneg_right pow126_hi hi')
      _ = (i : ℝ) + (i : ℝ) / 2 ^ 46 := by ring
      _ ≤ _ := add_le_add_right hδ _
  · calc _ ≤ (i : ℝ) - (i : ℝ) / 2 ^ 46 := sub_le_sub_left hδ _
      _ = (1 - 1 / 2 ^ 46) * (i : ℝ) := by ring
      _ ≤ _ := (mul_le_mul_of_nonneg_right pow126_lo hi').trans h2

/-- a FLAT line computed by the line formula (slope 0): the integral reaches `i` at the exact instant of operation `i` -/
theorem flat_cumX {f : ℝ} {D : ℤ} (hf : 0 < f) (i : ℤ) :
    cum (slope f f D) f (xExact f f D i / 1000000000) = (i : ℝ) := by
  have hs : slope f f D = 0 := by unfold slope; simp
  unfold xExact cum
  rw [hs]
  simp only [mul_zero, zero_mul, zero_div, zero_add, Real.sqrt_mul_self hf.le]
  field_simp
  ring

/-- operation 0 is at offset 0 -/
theorem line_token0_ok {f t : ℝ} {D : ℤ} (hf : 0 ≤ f) (hft : f ≤ t) (hD : 1000000 ≤ D) :
    cum (slope f t D) f ((((0 : ℤ) : ℤ) : ℝ) / 1000000000) ≤ ((0 : ℤ) : ℝ) + (((0 : ℤ) : ℝ) + 1 + max f t * secs D) / 2 ^ 46 ∧
    ((0 : ℤ) : ℝ) - (((0 : ℤ) : ℝ) + 1 + max f t * secs D) / 2 ^ 46 ≤
      cum (slope f t D) f (((((0 : ℤ) : ℤ) : ℝ) + 1) / 1000000000) := by
  have hsecs : 0 < secs D := secs_pos (by omega)
  have hA : 0 ≤ slope f t D := div_nonneg (sub_nonneg.mpr hft) hsecs.le
  have hδ0 : 0 ≤ ((0:ℝ) + 1 + max f t * secs D) / 2 ^ 46 :=
    div_nonneg (add_nonneg (by norm_num) (mul_nonneg (hf.trans (le_max_left f t)) hsecs.le)) (by norm_num)
  rw [Int.cast_zero, zero_div, cum_zero]
  exact ⟨by rw [zero_add]; exact hδ0, (sub_nonpos.mpr hδ0).trans (cum_nonneg hA hf (by norm_num))⟩

end Pandora.Proofs.C01LineFloat
