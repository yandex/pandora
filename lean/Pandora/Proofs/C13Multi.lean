/-
C13 — lemmas about repeated passes: the test at the end of a pass (`httpPassEnd`), `MultiPassReader` (`mprReadByte`,
`loadByte`) and the generic JSON provider over a source without ammo. `multiRun` itself is handled in Proofs/C13Cfg.lean,
as the provider whose filter refuses nothing.
-/
import Pandora.Model.C13Multi

namespace Pandora.Proofs.C13
open Pandora.Model.C13

/-! ### the end of a pass -/

theorem httpPassEnd_stop {passes passNum ammoNum : Nat} {e : End} (h : httpPassEnd passes passNum ammoNum = .stop e) :
    e = .ok ∨ e = .err "noammo" := by
  unfold httpPassEnd at h
  by_cases h1 : passes ≠ 0 ∧ passNum ≥ passes
  · rw [if_pos h1] at h; cases h; exact .inl rfl
  · by_cases h2 : ammoNum = 0
    · rw [if_neg h1, if_pos h2] at h; cases h; exact .inr rfl
    · rw [if_neg h1, if_neg h2] at h; cases h

theorem httpPassEnd_again (passes passNum ammoNum : Nat) (h : httpPassEnd passes passNum ammoNum = .again) :
    0 < ammoNum ∧ (passes = 0 ∨ passNum < passes) := by
  unfold httpPassEnd at h
  by_cases h1 : passes ≠ 0 ∧ passNum ≥ passes
  · rw [if_pos h1] at h; cases h
  · by_cases h2 : ammoNum = 0
    · rw [if_neg h1, if_pos h2] at h; cases h
    · exact ⟨by omega, by omega⟩

theorem prepend_end (r : Run) (es : List Entry) : (r.prepend es).end_ = r.end_ := rfl
theorem prepend_entries (r : Run) (es : List Entry) : (r.prepend es).entries = es ++ r.entries := rfl

/-! ### `MultiPassReader` -/

/-- the reader has counted bytes only if the source has some, and never stands beyond the end of the source -/
def MPR.WF (data : Bytes) (s : MPR) : Prop := (s.passBytes ≠ 0 → 0 < data.length) ∧ s.pos ≤ data.length

theorem MPR.init_WF (data : Bytes) : MPR.WF data MPR.init := by simp [MPR.WF, MPR.init]

theorem getElem?_none_len (data : Bytes) (i : Nat) (h : data[i]? = none) : data.length ≤ i := by
  simpa using h

theorem mprReadByte_WF (fixed : Bool) (data : Bytes) (passes : Nat) (s : MPR) (h : MPR.WF data s) :
    MPR.WF data (mprReadByte fixed data passes s).2 := by
  obtain ⟨h1, h2⟩ := h
  unfold mprReadByte
  cases hd : data[s.pos]? with
  | some b =>
    have : s.pos < data.length := by
      rcases Nat.lt_or_ge s.pos data.length with h | h
      · exact h
      · rw [List.getElem?_eq_none h] at hd; cases hd
    exact ⟨fun _ => Nat.zero_lt_of_lt this, this⟩
  | none =>
    -- at the end of the source the position stays or goes back to 0, and the byte count stays or goes back to 0
    have hb : (if s.resets = true then 0 else s.passBytes) ≠ 0 → 0 < data.length := by
      cases s.resets
      · exact h1
      · exact fun h => absurd rfl h
    dsimp only
    cases fixed
    · by_cases hp : passes = 0 ∨ s.passesCount + 1 < passes
      · simp only [Bool.false_eq_true, if_false, if_pos hp]; exact ⟨fun h => absurd rfl h, Nat.zero_le _⟩
      · simp only [Bool.false_eq_true, if_false, if_neg hp]; exact ⟨h1, h2⟩
    · by_cases hf : s.passBytes = 0 ∨ ¬ (s.ammoNum > s.passStart)
      · simp only [if_true, if_pos hf]; exact ⟨hb, h2⟩
      · by_cases hp : passes = 0 ∨ s.passesCount + 1 < passes
        · simp only [if_true, if_neg hf, if_pos hp]; exact ⟨hb, Nat.zero_le _⟩
        · simp only [if_true, if_neg hf, if_neg hp]; exact ⟨hb, h2⟩

/-- the repaired reader answers `(0, nil)` only when it has sought a source that is not empty to its start -/
theorem mprReadByte_fixed_again (data : Bytes) (passes : Nat) (s s' : MPR) (h : MPR.WF data s)
    (hr : mprReadByte true data passes s = (.again, s')) : s'.pos = 0 ∧ 0 < data.length ∧ MPR.WF data s' := by
  have hwf := mprReadByte_WF true data passes s h
  rw [hr] at hwf
  unfold mprReadByte at hr
  cases hd : data[s.pos]? with
  | some b => rw [hd] at hr; cases hr
  | none =>
    rw [hd] at hr
    dsimp only at hr
    by_cases hf : s.passBytes = 0 ∨ ¬ (s.ammoNum > s.passStart)
    · simp only [if_true, if_pos hf] at hr; cases hr
    · by_cases hp : passes = 0 ∨ s.passesCount + 1 < passes
      · simp only [if_true, if_neg hf, if_pos hp] at hr
        cases hr
        exact ⟨rfl, h.1 fun h0 => hf (.inl h0), hwf⟩
      · simp only [if_true, if_neg hf, if_neg hp] at hr; cases hr

/-- after a `(0, nil)` answer the next `Read` of the repaired reader delivers a byte -/
theorem mprReadByte_fixed_after_again (data : Bytes) (passes : Nat) (s' : MPR) (hp : s'.pos = 0) (hl : 0 < data.length) :
    ∃ b s'', mprReadByte true data passes s' = (.byte b, s'') := by
  unfold mprReadByte
  rw [hp]
  cases hd : data[0]? with
  | some b => exact ⟨b, _, rfl⟩
  | none => have := getElem?_none_len data 0 hd; omega

/-- the reader as found, over an empty source without a pass limit: every `Read` answers `(0, nil)` -/
theorem loadByte_unfixed_empty (fuel : Nat) (s : MPR) (hp : s.pos = 0) :
    (loadByte false [] 0 fuel s).1 = .again := by
  induction fuel generalizing s with
  | zero => rfl
  | succ fuel ih =>
    unfold loadByte
    have : mprReadByte false [] 0 s = (.again, { s with passesCount := s.passesCount + 1, pos := 0, passBytes := 0 }) := by
      unfold mprReadByte
      simp
    rw [this]
    exact ih _ rfl

/-! ### the generic JSON provider over a source without ammo -/

theorem loadByte_byte (fixed : Bool) (data : Bytes) (passes : Nat) (s : MPR) (b : UInt8) (k : Nat)
    (h : data[s.pos]? = some b) :
    loadByte fixed data passes (k + 1) s = (.byte b, { s with pos := s.pos + 1, passBytes := s.passBytes + 1 }) := by
  unfold loadByte mprReadByte
  rw [h]

theorem loadByte_fixed_fruitless (data : Bytes) (passes : Nat) (s : MPR) (k : Nat)
    (hend : data[s.pos]? = none) (hno : s.passBytes = 0 ∨ ¬ (s.ammoNum > s.passStart)) :
    (loadByte true data passes (k + 1) s).1 = .eof := by
  unfold loadByte mprReadByte
  rw [hend]
  simp only [if_true]
  rw [if_pos hno]

/-- white space up to the end of the source, and no ammo since the pass began: the decoder is told `io.EOF`
(one unit of fuel per byte left, and one for the end) -/
theorem skipWs_fixed_ws (data : Bytes) (passes : Nat) (hws : ∀ b ∈ data, isJsonWs b = true) :
    ∀ (fuel : Nat) (s : MPR), data.length - s.pos < fuel → ¬ (s.ammoNum > s.passStart) →
      (skipWs true data passes fuel s).1 = some .eof := by
  intro fuel
  induction fuel with
  | zero => intro s h; omega
  | succ m ih =>
    intro s hn hno
    unfold skipWs
    cases hd : data[s.pos]? with
    | none =>
      have h := loadByte_fixed_fruitless data passes s 2 hd (.inr hno)
      cases hr : loadByte true data passes 3 s with
      | mk r s' => rw [hr] at h; cases h; rfl
    | some b =>
      have hlt : s.pos < data.length := by
        rcases Nat.lt_or_ge s.pos data.length with h | h
        · exact h
        · rw [List.getElem?_eq_none h] at hd; cases hd
      rw [loadByte_byte true data passes s b 2 hd]
      simp only [hws b (List.mem_of_getElem? hd), if_true]
      exact ih _ (by simp only; omega) hno

end Pandora.Proofs.C13
