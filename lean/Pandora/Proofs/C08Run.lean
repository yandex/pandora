/-
C08 / C14: from the loop analyses to `Provider.Run` of every kind, with the fuel that `Model.C08.run` uses.
-/
import Pandora.Proofs.C08Loops

namespace Pandora.Proofs.C08
open Pandora.Model.C08

variable {α : Type}

theorem filter_const_true (l : List α) : l.filter (fun _ => true) = l := by
  induction l with
  | nil => rfl
  | cons x xs ih => simp

theorem minPlus_cases (a b : Nat) :
    (a = 0 ∧ minPlus a b = b) ∨ (a ≠ 0 ∧ b = 0 ∧ minPlus a b = a) ∨ (a ≠ 0 ∧ b ≠ 0 ∧ minPlus a b = min a b) := by
  unfold minPlus
  by_cases ha : a = 0
  · left; simp [ha]
  · by_cases hb : b = 0
    · right; left; simp [ha, hb]
    · right; right; simp [ha, hb]

/-- the least of the bounds that are present is below each of them and is one of them (`m` = passes · entries per pass) -/
theorem minPlus_spec (limit passes m : Nat) (hm : m = 0 ↔ passes = 0) (hb : ¬ (limit = 0 ∧ passes = 0)) :
    (limit ≠ 0 → minPlus limit m ≤ limit) ∧ (passes ≠ 0 → minPlus limit m ≤ m) ∧
    ((limit ≠ 0 ∧ minPlus limit m = limit) ∨ (passes ≠ 0 ∧ minPlus limit m = m)) := by
  rcases minPlus_cases limit m with ⟨_, e⟩ | ⟨_, _, e⟩ | ⟨_, _, e⟩ <;> rw [e] <;> omega

/-- `Model.C08.target` is the stopping count the loop analyses talk about -/
theorem tgt_of_target (limit passes f : Nat) (cancelAt : Option Nat) (T : Nat) (hf : 0 < f)
    (h : target limit passes f cancelAt = some T) : Tgt limit passes f cancelAt T := by
  have hm : passes * f = 0 ↔ passes = 0 := by rw [Nat.mul_eq_zero]; omega
  unfold target at h
  by_cases hb : limit = 0 ∧ passes = 0
  · -- no bound: only a cancellation stops the run
    cases cancelAt with
    | none => simp [hb] at h
    | some c =>
      obtain rfl : c = T := by simpa [hb] using h
      exact ⟨fun h => absurd hb.1 h, fun h => absurd hb.2 h, fun c' hc => by cases hc; exact Nat.le_refl _, .inr (.inr rfl)⟩
  · obtain ⟨h1, h2, h3⟩ := minPlus_spec limit passes _ hm hb
    cases cancelAt with
    | none =>
      obtain rfl : minPlus limit (passes * f) = T := by simpa [hb] using h
      exact ⟨h1, h2, fun c' hc => (by cases hc), h3.imp id Or.inl⟩
    | some c =>
      have hT : min c (minPlus limit (passes * f)) = T := by simpa [hb] using h
      refine ⟨fun h => by have := h1 h; omega, fun h => by have := h2 h; omega,
        fun c' hc => by cases hc; omega, ?_⟩
      by_cases hc : c = T
      · exact .inr (.inr (hc ▸ rfl))
      · have : minPlus limit (passes * f) = T := by omega
        rw [this] at h3
        exact h3.imp id Or.inl

theorem target_cancel (l p n m c : Nat) (h : target l p n none = some m) :
    target l p n (some c) = some (min c m) := by
  unfold target at h ⊢
  by_cases h0 : l = 0 ∧ p = 0
  · simp [h0] at h
  · simp only [h0, if_false, Option.some.injEq] at h ⊢
    rw [h]

theorem fuel_ge_T (T n f : Nat) (hf : 0 < f) (hfn : f ≤ n) : T + 1 ≤ fuelFor T n f := by
  unfold fuelFor
  have h1 : T < f * (T / f + 1) := Nat.lt_mul_div_succ T hf
  have h2 : f * (T / f + 1) ≤ (n + 1) * (T / f + 1) := Nat.mul_le_mul_right _ (by omega)
  rw [Nat.mul_comm (n + 1)] at h2
  omega

theorem fuel_ge_n (T n f : Nat) : n + 1 ≤ fuelFor T n f := by
  unfold fuelFor
  have := succ_mul' (T / f) (n + 1)
  omega

/-- `Provider.Run` of components/providers/http/provider, both paths, over any decoder that is a `Src` -/
theorem httpRun_spec {σ : Type} (scan : Bounds → σ → ScanRes × σ) (init : σ) (R : Nat → Nat → σ → Prop)
    (file : List α) (chosen : α → Bool) (preload : Bool) (b : Bounds) (cancelAt : Option Nat) (T : Nat)
    (hn : 0 < file.length) (hf : 0 < (file.filter chosen).length)
    (src1 : Src (scan ⟨0, 1⟩) file.length 1 R) (srcP : Src (scan ⟨0, b.passes⟩) file.length b.passes R)
    (hinit : R 0 0 init) (tg : Tgt b.limit b.passes (file.filter chosen).length cancelAt T) :
    httpRun scan init file chosen preload b cancelAt (fuelFor T file.length (file.filter chosen).length)
      = some ⟨cycTake (file.filter chosen) T, endRes cancelAt T, true⟩ := by
  have hfn : (file.filter chosen).length ≤ file.length := List.length_filter_le _ _
  unfold httpRun
  cases preload with
  | true =>
    simp only [if_true]
    have hl := loadAmmo_spec scan R file src1 (fuelFor T file.length (file.filter chosen).length) 0 init hinit
      (by omega) (by have := fuel_ge_n T file.length (file.filter chosen).length; omega)
    rw [List.take_zero] at hl
    rw [hl]
    simp only
    rw [runPreloaded_spec (file.filter chosen) b cancelAt T hf tg _ (fuel_ge_T T _ _ hf hfn)]
    simp only [mapSentinel_preRes]
  | false =>
    simp only [Bool.false_eq_true, if_false]
    have := fullScan_spec (scan ⟨0, b.passes⟩) R file chosen b.limit b.passes cancelAt T hn hf srcP tg
      (fuelFor T file.length (file.filter chosen).length) 0 0 init hinit (by omega) (by omega) (by simp [sel])
      (by unfold fuelFor; omega)
    simp only [sel, rep_zero, List.take_zero, List.filter_nil, List.append_nil] at this
    rw [this]

theorem scenarioRun_spec (file : List α) (b : Bounds) (cancelAt : Option Nat) (T : Nat) (hn : 0 < file.length)
    (tg : Tgt b.limit b.passes file.length cancelAt T) :
    scenarioRun file b cancelAt (fuelFor T file.length file.length) = some ⟨cycTake file T, endRes cancelAt T, true⟩ := by
  unfold scenarioRun
  rw [runPreloaded_spec file b cancelAt T hn tg _ (fuel_ge_T T _ _ hn (Nat.le_refl _))]
  simp only [mapSentinel_preRes]

/-- grpc/json, with its chosencases filter -/
theorem grpcRun_spec (file : List α) (chosen : α → Bool) (b : Bounds) (cancelAt : Option Nat) (T : Nat)
    (hn : 0 < file.length) (hf : 0 < (file.filter chosen).length)
    (tg : Tgt b.limit b.passes (file.filter chosen).length cancelAt T) :
    grpcRun file chosen b cancelAt (fuelFor T file.length (file.filter chosen).length)
      = some ⟨cycTake (file.filter chosen) T, .nil, true⟩ := by
  unfold grpcRun
  have := grpcLoop_spec file chosen b cancelAt T hn hf tg (fuelFor T file.length (file.filter chosen).length) 0 0
    (by omega) (by omega) (by simp [sel]) (by unfold fuelFor; omega)
  simp only [sel, rep_zero, List.take_zero, List.filter_nil, List.append_nil, List.length_nil] at this
  simp only [GrpcSt.init]
  rw [this]

theorem genericRun_spec (file : List α) (b : Bounds) (cancelAt : Option Nat) (T : Nat) (hn : 0 < file.length)
    (tg : Tgt b.limit b.passes file.length cancelAt T) :
    genericRun file b cancelAt (fuelFor T file.length file.length) = some ⟨cycTake file T, .nil, true⟩ := by
  unfold genericRun
  have := decodeLoop_spec file b cancelAt T hn tg (fuelFor T file.length file.length) 0 0
    (by omega) (by omega) (by simp [cyc2]) (by have := fuel_ge_T T _ _ hn (Nat.le_refl file.length); omega)
  simp only [cyc2, rep_zero, List.take_zero, List.append_nil, List.length_nil] at this
  simp only [Mpr.init]
  rw [this]

/-- how `Provider.Run` of a kind ends after `T` deliveries -/
def kindEnd (k : Kind) (cancelAt : Option Nat) (T : Nat) : RunRes :=
  match k with
  | .grpcJson | .genericJson => .nil
  | _ => endRes cancelAt T

/-- nil, or Canceled when the cancellation is what stopped the run -/
theorem kindEnd_cases (k : Kind) {l p f T : Nat} {cancelAt : Option Nat} (tg : Tgt l p f cancelAt T) :
    kindEnd k cancelAt T = .nil ∨ (kindEnd k cancelAt T = .canceled ∧ cancelAt = some T) := by
  have hE : endRes cancelAt T = .nil ∨ (endRes cancelAt T = .canceled ∧ cancelAt = some T) := by
    by_cases hc : cancelled cancelAt T = true
    · obtain ⟨c, hc1, hc2⟩ := (cancelled_true_iff _ _).mp hc
      obtain rfl : c = T := by have := tg.le_cancel c hc1; omega
      exact .inr ⟨endRes_of_cancelled hc, hc1⟩
    · exact .inl (endRes_of_not_cancelled (by simpa using hc))
  cases k <;> simp [kindEnd, hE]

/-- every kind: with the fuel of `Model.C08.run` the provider ends, having delivered exactly the first `T`
chosen entries of the endlessly repeated file, with a closed sink. -/
theorem runFuel_spec (inp : Input) (file : List α) (chosen : α → Bool) (T : Nat)
    (hn : 0 < file.length) (hf : 0 < (file.filter chosen).length)
    (hch : inp.kind.isHttp = false → chosen = fun _ => true)
    (tg : Tgt inp.b.limit inp.b.passes (file.filter chosen).length inp.cancelAt T) :
    runFuel inp file chosen (fuelFor T file.length (file.filter chosen).length)
      = some ⟨cycTake (file.filter chosen) T, kindEnd inp.kind inp.cancelAt T, true⟩ := by
  unfold runFuel
  cases hk : inp.kind with
  | uri | uripost | raw =>
    simp only [kindEnd]
    exact httpRun_spec _ _ (RStream file.length) file chosen _ _ _ T hn hf (src_eofCheck _ _ hn) (src_eofCheck _ _ hn)
      (RStream_init _) tg
  | jsonLines =>
    simp only [kindEnd]
    exact httpRun_spec _ _ (RStream file.length) file chosen _ _ _ T hn hf (src_topCheck _ _ hn) (src_topCheck _ _ hn)
      (RStream_init _) tg
  | jsonArray =>
    simp only [kindEnd]
    exact httpRun_spec _ _ (RArr file.length) file chosen _ _ _ T hn hf (src_arr _ _ hn) (src_arr _ _ hn)
      (RArr_init _ hn) tg
  | grpcJson =>
    have hc := hch (by simp [hk, Kind.isHttp])
    subst hc
    simp only [kindEnd]
    exact grpcRun_spec file _ _ _ T hn hf tg
  | httpScenario | grpcScenario =>
    have hc := hch (by simp [hk, Kind.isHttp])
    subst hc
    simp only [filter_const_true, kindEnd] at tg ⊢
    exact scenarioRun_spec file _ _ T hn tg
  | genericJson =>
    have hc := hch (by simp [hk, Kind.isHttp])
    subst hc
    simp only [filter_const_true, kindEnd] at tg ⊢
    exact genericRun_spec file _ _ T hn tg

end Pandora.Proofs.C08
