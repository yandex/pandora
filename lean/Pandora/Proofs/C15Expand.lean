/-
C15 helper lemmas: the Go expansion loop (left fold with `Requests[len-1].Sleep +=`) computes the meaning of the
request list given by `Spec.C15.specSteps` (right-to-left, pending pauses).
-/
import Pandora.Model.C15
import Pandora.Spec.C15

namespace Pandora.Proofs.C15
open Pandora.Model.C15 Pandora.Spec.C15

def proj {ρ} (s : Step ρ) : PStep := (s.name, s.sleep)

/-- add a pending pause to the last step; with no step, only a zero pause is meaningful -/
def bumpP (l : List PStep) (p : Int) : Option (List PStep) :=
  match l.getLast? with
  | none => if p == 0 then some [] else none
  | some (n, s) => some (l.dropLast ++ [(n, s + p)])

theorem expandItems_append {ρ} (reqs : List Char → Option ρ) (xs : List Item) (it : Item) (acc : List (Step ρ)) :
    expandItems reqs (xs ++ [it]) acc =
      match expandItems reqs xs acc with
      | .ok a => expandItem reqs a it
      | .err e => .err e
      | .panic p => .panic p := by
  induction xs generalizing acc with
  | nil =>
    simp only [List.nil_append, expandItems]
    cases expandItem reqs acc it <;> rfl
  | cons x xs ih =>
    simp only [List.cons_append, expandItems]
    cases expandItem reqs acc x with
    | ok a => exact ih a
    | err e => rfl
    | panic p => rfl

theorem expandItems_snoc_ok {ρ} {reqs : List Char → Option ρ} {xs : List Item} {it : Item} {acc steps : List (Step ρ)}
    (h : expandItems reqs (xs ++ [it]) acc = .ok steps) :
    ∃ s0, expandItems reqs xs acc = .ok s0 ∧ expandItem reqs s0 it = .ok steps := by
  rw [expandItems_append] at h
  cases h0 : expandItems reqs xs acc with
  | err e => rw [h0] at h; cases h
  | panic e => rw [h0] at h; cases h
  | ok s0 => rw [h0] at h; exact ⟨s0, rfl, h⟩

/-- the two ways an item is accepted: a pause added to the last step, or the copies of a known request appended -/
theorem expandItem_ok {ρ} {reqs : List Char → Option ρ} {acc acc' : List (Step ρ)} {it : Item}
    (h : expandItem reqs acc it = .ok acc') :
    ((it.name == sleepName) = true ∧ ∃ l, acc.getLast? = some l ∧
        acc' = acc.dropLast ++ [{ l with sleep := l.sleep + it.cnt }]) ∨
    ((it.name == sleepName) = false ∧ ∃ r, reqs it.name = some r ∧
        it.cnt ≤ maxScenarioRequests - (acc.length : Int) ∧
        acc' = acc ++ List.replicate it.cnt.toNat
          { name := it.name, req := r, sleep := if it.sleep > 0 then it.sleep else 0 }) := by
  unfold expandItem bumpLast at h
  split at h
  · rename_i hs
    cases hl : acc.getLast? with
    | none => rw [hl] at h; cases h
    | some l => rw [hl] at h; cases h; exact Or.inl ⟨hs, l, rfl, rfl⟩
  · rename_i hs
    cases hr : reqs it.name with
    | none => rw [hr] at h; cases h
    | some r =>
      rw [hr] at h
      dsimp only at h
      split at h
      · cases h
      · rename_i hc
        cases h
        exact Or.inr ⟨by simpa using hs, r, rfl, by omega, rfl⟩

/-- what holds of the steps so far and is kept by every accepted item holds of the decoder's result -/
theorem expandItems_inv {ρ} {reqs : List Char → Option ρ} (P : List (Step ρ) → Prop)
    (hstep : ∀ acc it acc', P acc → expandItem reqs acc it = .ok acc' → P acc') :
    ∀ (items : List Item) (acc steps : List (Step ρ)), P acc → expandItems reqs items acc = .ok steps → P steps
  | [], acc, steps, hacc, h => by
    simp only [expandItems] at h; cases h; exact hacc
  | it :: rest, acc, steps, hacc, h => by
    simp only [expandItems] at h
    split at h
    · rename_i acc' he
      exact expandItems_inv P hstep rest acc' steps (hstep acc it acc' hacc he) h
    · cases h
    · cases h

theorem bumpP_zero (l : List PStep) : bumpP l 0 = some l := by
  unfold bumpP
  cases h : l.getLast? with
  | none => simp [List.getLast?_eq_none_iff.mp h]
  | some ns =>
    obtain ⟨pre, rfl⟩ := List.getLast?_eq_some_iff.mp h
    simp

theorem proj_replicate {ρ} (k : Nat) (s : Step ρ) : (List.replicate k s).map proj = List.replicate k (proj s) := by
  simp

/-- main invariant, by induction on the reversed item list -/
theorem specStepsRev_of_expand {ρ} (reqs : List Char → Option ρ) :
    ∀ (rs : List Item) (steps : List (Step ρ)) (p : Int),
      expandItems reqs rs.reverse [] = .ok steps → specStepsRev rs p = bumpP (steps.map proj) p
  | [], steps, p, h => by
    simp only [List.reverse_nil, expandItems] at h
    cases h
    simp [specStepsRev, bumpP]
  | it :: left, steps, p, h => by
    rw [List.reverse_cons] at h
    obtain ⟨steps0, h0, h⟩ := expandItems_snoc_ok h
    have ih := specStepsRev_of_expand reqs left steps0
    unfold specStepsRev
    rcases expandItem_ok h with ⟨hs, l, hl, rfl⟩ | ⟨hs, r, hr, _, rfl⟩
    · -- a pause: added to the last step so far
      obtain ⟨pre, rfl⟩ := List.getLast?_eq_some_iff.mp hl
      rw [if_pos hs, ih (p + it.cnt) h0]
      simp [bumpP, proj, Int.add_assoc, Int.add_comm it.cnt]
    · rw [if_neg (by simp [hs])]
      by_cases hc : it.cnt ≤ 0
      · rw [if_pos hc, ih p h0]
        have : it.cnt.toNat = 0 := by omega
        simp [this]
      · rw [if_neg hc, ih 0 h0, bumpP_zero]
        -- at least one copy: the last of them takes the pending pause
        obtain ⟨k, hk⟩ : ∃ k, it.cnt.toNat = k + 1 := ⟨it.cnt.toNat - 1, by omega⟩
        simp [bumpP, proj, hk, List.replicate_succ', ← List.append_assoc]

/-- order and multiplicity alone -/
theorem names_of_expand {ρ} (reqs : List Char → Option ρ) :
    ∀ (rs : List Item) (steps : List (Step ρ)),
      expandItems reqs rs.reverse [] = .ok steps → steps.map (·.name) = specNames rs.reverse
  | [], steps, h => by
    simp only [List.reverse_nil, expandItems] at h
    cases h; rfl
  | it :: left, steps, h => by
    rw [List.reverse_cons] at h
    obtain ⟨steps0, h0, h⟩ := expandItems_snoc_ok h
    have ih := names_of_expand reqs left steps0 h0
    rw [List.reverse_cons]
    unfold specNames
    rw [List.flatMap_append]
    rcases expandItem_ok h with ⟨hs, l, hl, rfl⟩ | ⟨hs, r, hr, _, rfl⟩
    · simp only [List.flatMap_cons, List.flatMap_nil, hs, if_true, List.append_nil]
      show _ = specNames left.reverse
      obtain ⟨pre, rfl⟩ := List.getLast?_eq_some_iff.mp hl
      rw [← ih]
      simp
    · simp only [List.flatMap_cons, List.flatMap_nil, hs, List.append_nil]
      show _ = specNames left.reverse ++ _
      rw [← ih]
      simp

/-! ### parsing interleaved with expansion; the exact domain of success -/

/-- `ParseShootName` on every item -/
def parseAll : List (List Char) → Option (List Item)
  | [] => some []
  | sh :: rest =>
    match parseShootName sh, parseAll rest with
    | .ok it, some its => some (it :: its)
    | _, _ => none

theorem expand_of_parse {ρ} (reqs : List Char → Option ρ) :
    ∀ (shoots : List (List Char)) (items : List Item) (acc : List (Step ρ)),
      parseAll shoots = some items → expand reqs shoots acc = expandItems reqs items acc
  | [], items, acc, h => by
    simp only [parseAll] at h; cases h; rfl
  | sh :: rest, items, acc, h => by
    simp only [parseAll] at h
    split at h
    · rename_i it its hp hr
      cases h
      simp only [expand, hp, expandItems]
      cases expandItem reqs acc it with
      | ok acc' => exact expand_of_parse reqs rest its acc' hr
      | err e => rfl
      | panic p => rfl
    · cases h

theorem parse_of_expand {ρ} (reqs : List Char → Option ρ) :
    ∀ (shoots : List (List Char)) (acc steps : List (Step ρ)),
      expand reqs shoots acc = .ok steps → ∃ items, parseAll shoots = some items
  | [], _, _, _ => ⟨[], rfl⟩
  | sh :: rest, acc, steps, h => by
    simp only [expand] at h
    split at h
    · cases h
    · rename_i it hp
      split at h
      · rename_i acc' _
        obtain ⟨its, hits⟩ := parse_of_expand reqs rest acc' steps h
        exact ⟨it :: its, by simp [parseAll, hp, hits]⟩
      · cases h
      · cases h

/-- the descriptions the decoder accepts: every request name is known, every `sleep` item has an executed step
before it, and no item lets the scenario grow beyond `MaxScenarioRequests` steps (`n` = number of steps produced so far) -/
def domOK {ρ} (reqs : List Char → Option ρ) : List Item → Nat → Bool
  | [], _ => true
  | it :: rest, n =>
    if it.name == sleepName then decide (0 < n) && domOK reqs rest n
    else (reqs it.name).isSome && decide (it.cnt ≤ maxScenarioRequests - (n : Int)) &&
      domOK reqs rest (n + it.cnt.toNat)

theorem bumpLast_none {ρ} (acc : List (Step ρ)) (ms : Int) : bumpLast acc ms = none ↔ acc = [] := by
  unfold bumpLast
  cases h : acc.getLast? with
  | none => simp [List.getLast?_eq_none_iff.mp h]
  | some l =>
    simp only [reduceCtorEq, false_iff]
    intro e; subst e; simp at h

theorem bumpLast_nonempty {ρ} (acc acc' : List (Step ρ)) (ms : Int) (h : bumpLast acc ms = some acc') : acc' ≠ [] := by
  unfold bumpLast at h
  cases hl : acc.getLast? with
  | none => rw [hl] at h; cases h
  | some l => rw [hl] at h; cases h; simp

theorem bumpLast_length {ρ} (acc acc' : List (Step ρ)) (ms : Int) (h : bumpLast acc ms = some acc') :
    acc'.length = acc.length := by
  unfold bumpLast at h
  cases hl : acc.getLast? with
  | none => rw [hl] at h; cases h
  | some l =>
    rw [hl] at h; cases h
    have hne : acc ≠ [] := fun e => by subst e; simp at hl
    have := List.length_pos_iff.mpr hne
    simp [List.length_dropLast]
    omega

/-- the decoder succeeds exactly on the descriptions of `domOK` -/
theorem expandItems_ok_iff {ρ} (reqs : List Char → Option ρ) :
    ∀ (items : List Item) (acc : List (Step ρ)),
      (∃ steps, expandItems reqs items acc = .ok steps) ↔ domOK reqs items acc.length = true
  | [], acc => by simp [expandItems, domOK]
  | it :: rest, acc => by
    simp only [expandItems, domOK, expandItem]
    by_cases hs : it.name == sleepName
    · simp only [hs, if_true]
      cases hb : bumpLast acc it.cnt with
      | none =>
        have : acc = [] := (bumpLast_none acc it.cnt).mp hb
        subst this
        simp
      | some acc' =>
        have hne : acc ≠ [] := fun e => by
          have := (bumpLast_none acc it.cnt).mpr e; rw [hb] at this; cases this
        have hpos : 0 < acc.length := List.length_pos_iff.mpr hne
        have ih := expandItems_ok_iff reqs rest acc'
        rw [bumpLast_length acc acc' it.cnt hb] at ih
        simp only [hpos, decide_true, Bool.true_and]
        exact ih
    · simp only [hs, Bool.false_eq_true, if_false]
      cases hr : reqs it.name with
      | none => simp
      | some r =>
        simp only [Option.isSome_some, Bool.true_and]
        by_cases hc : it.cnt > maxScenarioRequests - (acc.length : Int)
        · have hn : ¬ (it.cnt ≤ maxScenarioRequests - (acc.length : Int)) := by omega
          simp [hc, hn]
        · have hn : it.cnt ≤ maxScenarioRequests - (acc.length : Int) := by omega
          simp only [hc, if_false, hn, decide_true, Bool.true_and]
          have ih := expandItems_ok_iff reqs rest
            (acc ++ List.replicate it.cnt.toNat { name := it.name, req := r, sleep := if it.sleep > 0 then it.sleep else 0 })
          simp only [List.length_append, List.length_replicate] at ih
          exact ih

end Pandora.Proofs.C15
