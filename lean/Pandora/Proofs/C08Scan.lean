/-
C08: the reading loops of the `Scan` methods over a file given line by line (`Model.C08Scan.scanLines`,
round functions regenerated from the Go source) are the abstract cyclic source `Src` of the provider theorems:
non-entry lines (headers, blank lines) anywhere in the file do not matter.  Core Lean only.
-/
import Pandora.Model.C08Scan
import Pandora.Proofs.C08Loops

namespace Pandora.Proofs.C08
open Pandora.Model.C08

/-! ## entries before a line -/

theorem eb_zero (f : Lines) : entriesBefore f 0 = 0 := by simp [entriesBefore]

theorem eb_succ (f : Lines) (p : Nat) (x : Bool) (h : f[p]? = some x) :
    entriesBefore f (p + 1) = entriesBefore f p + (if x = true then 1 else 0) := by
  unfold entriesBefore
  rw [take_succ_getElem f p x h, List.count_append]
  cases x <;> simp

theorem eb_le (f : Lines) (p : Nat) : entriesBefore f p ≤ f.count true := by
  unfold entriesBefore
  exact (List.take_sublist p f).count_le true

theorem eb_full (f : Lines) (p : Nat) (h : f.length ≤ p) : entriesBefore f p = f.count true := by
  unfold entriesBefore
  rw [List.take_of_length_le h]

theorem rdAt_eof (f : Lines) (p : Nat) (h : f.length ≤ p) : rdAt f p = .eof := by
  unfold rdAt
  rw [List.getElem?_eq_none h]

theorem lt_of_eb_lt (f : Lines) (p : Nat) (h : entriesBefore f p < f.count true) : p < f.length := by
  by_cases hp : p < f.length
  · exact hp
  · rw [eb_full f p (by omega)] at h; omega

/-- at a line that exists: it is an entry (and then the count grows) or it is not -/
theorem rdAt_cases (f : Lines) (p : Nat) (h : p < f.length) :
    (rdAt f p = .entry ∧ entriesBefore f (p + 1) = entriesBefore f p + 1) ∨
    (rdAt f p = .skip ∧ entriesBefore f (p + 1) = entriesBefore f p) := by
  have hx : f[p]? = some f[p] := List.getElem?_eq_getElem h
  cases hv : f[p] with
  | true =>
    left
    rw [hv] at hx
    exact ⟨by simp [rdAt, hx], by rw [eb_succ f p true hx]; simp⟩
  | false =>
    right
    rw [hv] at hx
    exact ⟨by simp [rdAt, hx], by rw [eb_succ f p false hx]; simp⟩

/-! ## one round of the reading loop -/

section step
variable (round : Nat → Bool → Rd → Nat → Nat → ScanAct) (passes : Nat) (c : Bool) (f : Lines)

def posAfter (f : Lines) (pos : Nat) : Nat := if rdAt f pos = .eof then pos else pos + 1

theorem scanLines_ammo (fuel w : Nat) (d : LDec) (a p : Nat)
    (h : round passes c (rdAt f d.pos) d.ammoNum d.passNum = .ret .ammo a p) :
    scanLines round passes c f (fuel + 1) w d = (.ammo, some (entriesBefore f d.pos), ⟨posAfter f d.pos, a, p⟩) := by
  simp only [scanLines, h, posAfter]

theorem scanLines_ret (fuel w : Nat) (d : LDec) (r : SRes) (a p : Nat) (hr : r ≠ .ammo)
    (h : round passes c (rdAt f d.pos) d.ammoNum d.passNum = .ret r a p) :
    scanLines round passes c f (fuel + 1) w d = (r, none, ⟨posAfter f d.pos, a, p⟩) := by
  cases r <;> simp_all [scanLines, posAfter]

theorem scanLines_next (fuel w : Nat) (d : LDec) (a p : Nat)
    (h : round passes c (rdAt f d.pos) d.ammoNum d.passNum = .next a p) :
    scanLines round passes c f (fuel + 1) w d = scanLines round passes c f fuel w ⟨posAfter f d.pos, a, p⟩ := by
  simp only [scanLines, h, posAfter]

theorem scanLines_rewind (fuel w : Nat) (d : LDec) (a p : Nat) (hw : w + 1 < scanWraps)
    (h : round passes c (rdAt f d.pos) d.ammoNum d.passNum = .rewind a p) :
    scanLines round passes c f (fuel + 1) w d = scanLines round passes c f fuel (w + 1) ⟨0, a, p⟩ := by
  have : ¬ scanWraps ≤ w + 1 := by omega
  simp only [scanLines, h, this, if_false]
end step

/-! ## the rounds -/

/-- the check that opens a round of the json-lines decoder lets the round read -/
def topOk (style : Style) (passes passNum : Nat) : Prop :=
  style = .topCheck → ¬ (passes ≠ 0 ∧ passes ≤ passNum)

theorem round_entry (style : Style) (passes a p : Nat) (h : topOk style passes p) :
    roundOf style passes false .entry a p = .ret .ammo (a + 1) p := by
  cases style
  · simp [roundOf, roundEof]
  · have := h rfl
    simp [roundOf, roundTop, this]

theorem round_skip (style : Style) (passes a p : Nat) (h : topOk style passes p) :
    roundOf style passes false .skip a p = .next a p := by
  cases style
  · simp [roundOf, roundEof]
  · have := h rfl
    simp [roundOf, roundTop, this]

theorem posAfter_lt (f : Lines) (p : Nat) (h : p < f.length) : posAfter f p = p + 1 := by
  unfold posAfter
  rcases rdAt_cases f p h with ⟨h1, _⟩ | ⟨h1, _⟩ <;> simp [h1]

theorem posAfter_eof (f : Lines) : posAfter f f.length = f.length := by
  simp [posAfter, rdAt_eof f f.length (Nat.le_refl _)]

/-- reading on from line `d.pos` with `r < n` entries behind: the lines that are not entries are skipped, the next
entry is returned (`k` = lines left) -/
theorem scanLines_to_entry (style : Style) (passes : Nat) (f : Lines) (w : Nat) :
    ∀ (k fuel : Nat) (d : LDec), d.pos + k = f.length → k ≤ fuel →
      entriesBefore f d.pos < f.count true → topOk style passes d.passNum →
      ∃ p', scanLines (roundOf style) passes false f fuel w d =
          (.ammo, some (entriesBefore f d.pos), ⟨p', d.ammoNum + 1, d.passNum⟩) ∧
        entriesBefore f p' = entriesBefore f d.pos + 1 ∧ p' ≤ f.length := by
  intro k
  induction k with
  | zero =>
    intro fuel d hk _ hlt _
    have := lt_of_eb_lt f d.pos hlt
    omega
  | succ k ih =>
    intro fuel d hk hfuel hlt htop
    obtain ⟨fuel, rfl⟩ : ∃ m, fuel = m + 1 := ⟨fuel - 1, by omega⟩
    have hp : d.pos < f.length := by omega
    rcases rdAt_cases f d.pos hp with ⟨hrd, heb⟩ | ⟨hrd, heb⟩
    · refine ⟨d.pos + 1, ?_, heb, by omega⟩
      rw [scanLines_ammo _ _ _ _ _ _ _ _ _ (by rw [hrd]; exact round_entry style passes _ _ htop), posAfter_lt f _ hp]
    · rw [scanLines_next _ _ _ _ _ _ _ _ _ (by rw [hrd]; exact round_skip style passes _ _ htop), posAfter_lt f _ hp]
      obtain ⟨p', h1, h2, h3⟩ := ih fuel ⟨d.pos + 1, d.ammoNum, d.passNum⟩ (by simp; omega) (by omega)
        (by simpa [heb] using hlt) htop
      refine ⟨p', ?_, ?_, h3⟩
      · rw [h1]; simp [heb]
      · simpa [heb] using h2

/-- reading on from line `d.pos` with every entry behind: the remaining lines are skipped, the next round reads
the end of the file -/
theorem scanLines_to_eof (style : Style) (passes : Nat) (f : Lines) (w : Nat) :
    ∀ (k m : Nat) (d : LDec), d.pos + k = f.length →
      entriesBefore f d.pos = f.count true → topOk style passes d.passNum →
      scanLines (roundOf style) passes false f (k + m) w d =
        scanLines (roundOf style) passes false f m w ⟨f.length, d.ammoNum, d.passNum⟩ := by
  intro k
  induction k with
  | zero =>
    intro m d hk _ _
    have : d = ⟨f.length, d.ammoNum, d.passNum⟩ := by
      cases d; simp at hk ⊢; exact hk
    rw [Nat.zero_add]; rw [← this]
  | succ k ih =>
    intro m d hk heb htop
    have hp : d.pos < f.length := by omega
    rcases rdAt_cases f d.pos hp with ⟨_, heb'⟩ | ⟨hrd, heb'⟩
    · have := eb_le f (d.pos + 1); omega
    · have : k + 1 + m = k + m + 1 := by omega
      rw [this, scanLines_next _ _ _ _ _ _ _ _ _ (by rw [hrd]; exact round_skip style passes _ _ htop), posAfter_lt f _ hp]
      exact ih m ⟨d.pos + 1, d.ammoNum, d.passNum⟩ (by simp; omega) (by simpa [heb'] using heb) htop

/-! ## the line-level decoder is a `Src` -/

/-- line-level decoder state after `q` complete passes and `r` entries of the current pass -/
def RLines (f : Lines) (q r : Nat) (d : LDec) : Prop :=
  entriesBefore f d.pos = r ∧ d.pos ≤ f.length ∧ d.passNum = q ∧ d.ammoNum = q * f.count true + r

theorem RLines_init (f : Lines) : RLines f 0 0 LDec.init := by
  simp [RLines, LDec.init, eb_zero]

theorem RLines_le {f : Lines} {q r : Nat} {d : LDec} (h : RLines f q r d) : r ≤ f.count true := by
  rw [← h.1]; exact eb_le f d.pos

theorem scanFile_nolimit (style : Style) (passes : Nat) (c : Bool) (f : Lines) (d : LDec) :
    scanFile style ⟨0, passes⟩ c f d = scanLines (roundOf style) passes c f (2 * (f.length + 1)) 0 d := by
  simp [scanFile]

/-- SRes-level: the next entry of the current pass -/
theorem scanFile_next (style : Style) (passes : Nat) (f : Lines) (q r : Nat) (d : LDec) (hR : RLines f q r d)
    (hr : r < f.count true) (hq : passes = 0 ∨ q < passes) :
    ∃ d', scanFile style ⟨0, passes⟩ false f d = (.ammo, some r, d') ∧ RLines f q (r + 1) d' := by
  obtain ⟨h1, h2, h3, h4⟩ := hR
  have htop : topOk style passes d.passNum := by intro _; omega
  obtain ⟨p', e1, e2, e3⟩ := scanLines_to_entry style passes f 0 (f.length - d.pos) (2 * (f.length + 1)) d
    (by omega) (by omega) (by omega) htop
  refine ⟨⟨p', d.ammoNum + 1, d.passNum⟩, ?_, ?_⟩
  · rw [scanFile_nolimit, e1, h1]
  · exact ⟨by rw [e2, h1], e3, h3, by simp [h4]; omega⟩

/-- what the round at the end of the file does when a further pass is allowed -/
theorem round_eof_rewind (style : Style) (passes a p : Nat) (ha : a ≠ 0) (hp : passes = 0 ∨ p + 1 < passes) :
    roundOf style passes false .eof a p = .rewind a (p + 1) := by
  cases style
  · have : ¬ (passes ≠ 0 ∧ passes ≤ p + 1) := by omega
    simp [roundOf, roundEof, this, ha]
  · have : ¬ (passes ≠ 0 ∧ passes ≤ p) := by omega
    simp [roundOf, roundTop, this, ha]

theorem scanFile_wrap (style : Style) (passes : Nat) (f : Lines) (hn : 0 < f.count true) (q : Nat) (d : LDec)
    (hR : RLines f q (f.count true) d) (hp : passes = 0 ∨ q + 1 < passes) :
    ∃ d', scanFile style ⟨0, passes⟩ false f d = (.ammo, some 0, d') ∧ RLines f (q + 1) 1 d' := by
  obtain ⟨h1, h2, h3, h4⟩ := hR
  have htop : topOk style passes d.passNum := by intro _; omega
  have ha : d.ammoNum ≠ 0 := by rw [h4]; omega
  -- skip what is left of the file, read the end of the file, rewind, read up to the first entry
  have hfuel : 2 * (f.length + 1) = (f.length - d.pos) + ((f.length + d.pos + 1) + 1) := by omega
  have e1 := scanLines_to_eof style passes f 0 (f.length - d.pos) ((f.length + d.pos + 1) + 1) d (by omega) h1 htop
  have hrd : rdAt f f.length = .eof := rdAt_eof f f.length (Nat.le_refl _)
  have e2 : scanLines (roundOf style) passes false f ((f.length + d.pos + 1) + 1) 0 ⟨f.length, d.ammoNum, d.passNum⟩ =
      scanLines (roundOf style) passes false f (f.length + d.pos + 1) 1 ⟨0, d.ammoNum, d.passNum + 1⟩ :=
    scanLines_rewind _ _ _ _ _ _ _ _ _ (by simp [scanWraps])
      (by simp only [hrd]; exact round_eof_rewind style passes _ _ ha (by omega))
  have htop' : topOk style passes (d.passNum + 1) := by intro _; omega
  obtain ⟨p', e3, e4, e5⟩ := scanLines_to_entry style passes f 1 f.length (f.length + d.pos + 1)
    ⟨0, d.ammoNum, d.passNum + 1⟩ (by simp) (by omega) (by simpa [eb_zero] using hn) htop'
  refine ⟨⟨p', d.ammoNum + 1, d.passNum + 1⟩, ?_, ?_⟩
  · rw [scanFile_nolimit, hfuel, e1, e2, e3]
    simp [eb_zero]
  · refine ⟨by simpa [eb_zero] using e4, e5, by simp [h3], ?_⟩
    simp [h4, Nat.succ_mul]

theorem scanFile_stop (style : Style) (passes : Nat) (f : Lines) (hn : 0 < f.count true) (q : Nat) (d : LDec)
    (hR : RLines f q (f.count true) d) (hp0 : passes ≠ 0) (hp : passes ≤ q + 1) :
    ∃ d', scanFile style ⟨0, passes⟩ false f d = (.errPass, none, d') := by
  obtain ⟨h1, h2, h3, h4⟩ := hR
  have ha : d.ammoNum ≠ 0 := by rw [h4]; omega
  have hrd : rdAt f f.length = .eof := rdAt_eof f f.length (Nat.le_refl _)
  have hfuel : 2 * (f.length + 1) = (f.length - d.pos) + ((f.length + d.pos + 1) + 1) := by omega
  cases style with
  | eofCheck =>
    have htop : topOk .eofCheck passes d.passNum := by intro h; cases h
    have e1 := scanLines_to_eof .eofCheck passes f 0 (f.length - d.pos) ((f.length + d.pos + 1) + 1) d (by omega) h1 htop
    refine ⟨⟨posAfter f f.length, d.ammoNum, d.passNum + 1⟩, ?_⟩
    rw [scanFile_nolimit, hfuel, e1]
    have : passes ≠ 0 ∧ passes ≤ d.passNum + 1 := ⟨hp0, by omega⟩
    exact scanLines_ret _ _ _ _ _ _ _ _ _ _ (by simp) (by simp [hrd, roundOf, roundEof, this])
  | topCheck =>
    by_cases hq : passes ≤ q
    · -- the check that opens the round
      refine ⟨⟨posAfter f d.pos, d.ammoNum, d.passNum⟩, ?_⟩
      have : passes ≠ 0 ∧ passes ≤ d.passNum := ⟨hp0, by omega⟩
      have h2f : 2 * (f.length + 1) = (2 * f.length + 1) + 1 := by omega
      rw [scanFile_nolimit, h2f]
      exact scanLines_ret _ _ _ _ _ _ _ _ _ _ (by simp) (by simp [roundOf, roundTop, this])
    · have htop : topOk .topCheck passes d.passNum := by intro _; omega
      have e1 := scanLines_to_eof .topCheck passes f 0 (f.length - d.pos) ((f.length + d.pos + 1) + 1) d (by omega) h1 htop
      have e2 : scanLines (roundOf .topCheck) passes false f ((f.length + d.pos + 1) + 1) 0 ⟨f.length, d.ammoNum, d.passNum⟩ =
          scanLines (roundOf .topCheck) passes false f (f.length + d.pos + 1) 1 ⟨0, d.ammoNum, d.passNum + 1⟩ := by
        have : ¬ (passes ≠ 0 ∧ passes ≤ d.passNum) := by omega
        exact scanLines_rewind _ _ _ _ _ _ _ _ _ (by simp [scanWraps]) (by simp [hrd, roundOf, roundTop, this, ha])
      refine ⟨⟨posAfter f 0, d.ammoNum, d.passNum + 1⟩, ?_⟩
      rw [scanFile_nolimit, hfuel, e1, e2]
      have : passes ≠ 0 ∧ passes ≤ d.passNum + 1 := ⟨hp0, by omega⟩
      have hf : f.length + d.pos + 1 = (f.length + d.pos) + 1 := rfl
      rw [hf]
      exact scanLines_ret _ _ _ _ _ _ _ _ _ _ (by simp) (by simp [roundOf, roundTop, this])

/-- **refinement**: `Scan` of the decoder of `style` (round function regenerated from the source) over ANY file with
at least one entry line is the abstract cyclic source of the provider theorems -/
theorem src_lines (style : Style) (passes : Nat) (f : Lines) (hn : 0 < f.count true) :
    Src (scanFileRes style ⟨0, passes⟩ f) (f.count true) passes (RLines f) where
  next := by
    intro q r d hR hr hq
    obtain ⟨d', h1, h2⟩ := scanFile_next style passes f q r d hR hr hq
    exact ⟨d', by simp [scanFileRes, h1, toScanRes], h2⟩
  wrap := by
    intro q d hR hp
    obtain ⟨d', h1, h2⟩ := scanFile_wrap style passes f hn q d hR hp
    exact ⟨d', by simp [scanFileRes, h1, toScanRes], h2⟩
  stop := by
    intro q d hR hp0 hp
    obtain ⟨d', h1⟩ := scanFile_stop style passes f hn q d hR hp0 hp
    exact ⟨d', by simp [scanFileRes, h1, toScanRes]⟩

/-! ## LoadAmmo over lines -/

/-- `LoadAmmo` of a live context returns every entry of the file, in order, once -/
theorem loadLines_ok (style : Style) (f : Lines) (hn : 0 < f.count true) :
    ∀ (fuel r : Nat) (d : LDec), RLines f 0 r d → f.count true + 1 ≤ fuel + r →
      loadLines style false f fuel d (List.range r) = some (.ok (List.range (f.count true))) := by
  intro fuel
  induction fuel with
  | zero => intro r d hR hfuel; have := RLines_le hR; omega
  | succ fuel ih =>
    intro r d hR hfuel
    have hle := RLines_le hR
    by_cases hr : r < f.count true
    · obtain ⟨d', h1, h2⟩ := scanFile_next style 1 f 0 r d hR hr (by omega)
      simp only [loadLines, h1, loadStepOf, if_true]
      rw [← List.range_succ]
      exact ih (r + 1) d' h2 (by omega)
    · have hrn : r = f.count true := by omega
      subst hrn
      obtain ⟨d', h1⟩ := scanFile_stop style 1 f hn 0 d hR (by omega) (by omega)
      simp [loadLines, h1, loadStepOf, loadResOf]

/-- a cancelled context ends the `LoadAmmo` of the decoders that read `ctx.Err()` (uri, uripost, raw) at once, with
the context's error -/
theorem loadLines_cancelled (f : Lines) (fuel : Nat) (d : LDec) (acc : List Nat) :
    loadLines .eofCheck true f (fuel + 1) d acc = some (.error .canceled) := by
  have h2f : 2 * (f.length + 1) = (2 * f.length + 1) + 1 := by omega
  have : scanFile .eofCheck ⟨0, 1⟩ true f d = (.canceled, none, ⟨posAfter f d.pos, d.ammoNum, d.passNum⟩) := by
    rw [scanFile_nolimit, h2f]
    exact scanLines_ret _ _ _ _ _ _ _ _ _ _ (by simp) (by simp [roundOf, roundEof])
  simp [loadLines, this, loadStepOf, loadResOf]

/-- the json-lines decoder does not look at the context -/
theorem scanFile_top_ctx (b : Bounds) (f : Lines) (d : LDec) (c : Bool) :
    scanFile .topCheck b c f d = scanFile .topCheck b false f d := by
  have hr : ∀ rd a q, roundOf .topCheck b.passes c rd a q = roundOf .topCheck b.passes false rd a q := by
    intro rd a q; simp [roundOf, roundTop]
  have : ∀ fuel w d, scanLines (roundOf .topCheck) b.passes c f fuel w d =
      scanLines (roundOf .topCheck) b.passes false f fuel w d := by
    intro fuel
    induction fuel with
    | zero => intro w d; rfl
    | succ fuel ih => intro w d; simp only [scanLines, hr, ih]
  simp [scanFile, this]

end Pandora.Proofs.C08
