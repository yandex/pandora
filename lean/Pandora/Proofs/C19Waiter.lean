/-
C19 — composition with C04's model of the waiter (`Pandora.Model.C04`, tied to the CURRENT source by
`Pandora.Bridge.Waiter`: `Gen.Waiter.Wait`, `IsSlowDown`, `iteration` are regenerated as FUNCTIONS from
core/coreutil/waiter.go and core/engine/instance.go): what a slow answer costs.  Imported read-only; the definitions here
join C04's loop of `instance.Run` (events against the clock) with C19's shots (samples).
-/
import Pandora.Proofs.C19Run
import Pandora.Proofs.C04
import Pandora.Bridge.Waiter

namespace Pandora.Proofs.C19
open Pandora.Model.C10 Pandora.Model.C19
open Pandora.Go.C04

namespace R6
open Pandora.Model.C04 (Waiter Env Iter Ev Variant runLoop waitV wait fires drawn)
open Pandora.Proofs.C04 (ClockOK EnvOK waitV_ok)

/-- what the aggregator receives for the actions of C04's loop of `instance.Run`, with C19's model of a shot: the
samples of the shot, or the one `discarded` sample -/
def samplesOfEvents (shotOf : Iter → ShotResult) : List Ev → List Sample
  | [] => []
  | .shoot it :: r => (shotOf it).reports ++ samplesOfEvents shotOf r
  | .discard _ _ :: r => discardedSample :: samplesOfEvents shotOf r

/-- the tokens (C19: `Token`) of a history of passes of the loop (C04: `Iter`), the waiter's state threaded through:
one per pass in which `Wait` returned true -/
def drawnTokens (shotOf : Iter → ShotResult) : Waiter → List Iter → List Token
  | _, [] => []
  | w, it :: rest =>
    if it.finished then [] else
    if !it.ammoOk then [] else
    let r := waitV .fresh w it.env
    if !r.ok then drawnTokens shotOf r.w rest
    else { slowDown := Model.C04.isSlowDown r.w it.ctxDoneSlow, shot := shotOf it } :: drawnTokens shotOf r.w rest

/-- the `overdue` a call of `Wait` leaves behind, as a function of the token, the cached reading and the clock — the
overdue of EARLIER tokens is not an argument -/
def overdueAfter (lastNow : Int) (e : Env) : Int :=
  if e.ctxDone then 0 else
  match e.tok with
  | none => 0
  | some next =>
    if next - lastNow ≤ 0 then e.now - next
    else if next - e.now ≤ 0 then e.now - next
    else 0

theorem wait_overdue (w : Waiter) (e : Env) : (wait w e).w.overdue = overdueAfter w.lastNow e := by
  unfold wait waitV overdueAfter
  by_cases hc : e.ctxDone = true
  · simp [hc]
  · cases ht : e.tok with
    | none => simp [hc]
    | some next =>
      simp only [hc, timeSub]
      by_cases a1 : next - w.lastNow ≤ 0 <;> by_cases a3 : next - e.now ≤ 0 <;>
        by_cases a4 : e.timerWins = true <;> simp [a1, a3, a4] <;> omega

/-- with a clock that does not run backwards this is C19's `waiterOverdue` -/
theorem overdueAfter_eq (lastNow : Int) (e : Env) (next : Int) (hc : e.ctxDone = false) (ht : e.tok = some next) :
    overdueAfter lastNow e = waiterOverdue next lastNow e.now := by
  unfold overdueAfter waiterOverdue
  simp only [hc, ht]
  by_cases a1 : next - lastNow ≤ 0 <;> by_cases a3 : next - e.now ≤ 0 <;> simp [a1, a3] <;> omega

/-- a `discarded` report happens only with `discard_overflow` on and `MaxOverdueDuration` or more after the token's
time -/
theorem discard_only_late (d : Bool) (w : Waiter) (h : List Iter) (hc : ClockOK w h) :
    ∀ it s, Ev.discard it s ∈ (runLoop .fresh d w h).1 →
      d = true ∧ ∃ next, it.env.tok = some next ∧ Model.C04.maxOverdue ≤ it.env.ret - next := by
  induction h generalizing w with
  | nil => simp [runLoop]
  | cons it rest ih =>
    intro jt s hev
    unfold runLoop at hev
    by_cases hf : it.finished = true
    · simp [hf] at hev
    · by_cases ha : it.ammoOk = true
      · simp only [hf, ha] at hev
        by_cases hk : (waitV .fresh w it.env).ok = true
        · simp only [hk] at hev
          simp at hev
          rcases hev with hev | hev
          · obtain ⟨next, h1, _, h3⟩ := waitV_ok .fresh w it.env hc.head.1 hc.head.2 hk
            split at hev
            · cases hev
            · rename_i hfire
              injection hev with hit _
              subst hit
              simp [fires, Model.C04.isSlowDown, Model.C04.slowCond] at hfire
              refine ⟨hfire.1, next, h1, ?_⟩
              omega
          · exact ih _ (hc.tail .fresh) jt s hev
        · simp [hk] at hev
          exact ih _ (hc.tail .fresh) jt s hev
      · simp [hf, ha] at hev

/-- the samples of C04's loop are the samples C19's `tokenSamples` assigns to the drawn tokens, in order -/
theorem samples_eq (shotOf : Iter → ShotResult) (d : Bool) (w : Waiter) (h : List Iter) :
    samplesOfEvents shotOf (runLoop .fresh d w h).1 = ((drawnTokens shotOf w h).map (tokenSamples d)).flatten := by
  induction h generalizing w with
  | nil => simp [runLoop, drawnTokens, samplesOfEvents]
  | cons it rest ih =>
    unfold runLoop drawnTokens
    by_cases hf : it.finished = true
    · simp [hf, samplesOfEvents]
    · by_cases ha : it.ammoOk = true
      · by_cases hk : (waitV .fresh w it.env).ok = true
        · simp only [hf, ha, hk]
          by_cases hs : fires d (Model.C04.isSlowDown (waitV .fresh w it.env).w it.ctxDoneSlow) = true
          · have : shootCond d (Model.C04.isSlowDown (waitV .fresh w it.env).w it.ctxDoneSlow) = true := hs
            simp [hs, samplesOfEvents, tokenSamples, this, ih]
          · have : shootCond d (Model.C04.isSlowDown (waitV .fresh w it.env).w it.ctxDoneSlow) = false := by
              simpa [shootCond, fires] using hs
            simp [hs, samplesOfEvents, tokenSamples, this, ih]
        · simp [hf, ha, hk, ih]
      · simp [hf, ha, samplesOfEvents]

theorem drawnTokens_waitOk (shotOf : Iter → ShotResult) (w : Waiter) (h : List Iter) :
    ∀ t ∈ drawnTokens shotOf w h, t.waitOk = true := by
  induction h generalizing w with
  | nil => simp [drawnTokens]
  | cons it rest ih =>
    unfold drawnTokens
    by_cases hf : it.finished = true
    · simp [hf]
    · by_cases ha : it.ammoOk = true
      · by_cases hk : (waitV .fresh w it.env).ok = true
        · simp only [hf, ha, hk]
          simp
          exact ih _
        · simp [hf, ha, hk]
          exact ih _
      · simp [hf, ha]

end R6
end Pandora.Proofs.C19
