/-
C20 — the expansion of a scenario's `requests` list (`Model/C20Expand.lean`).
-/
import Pandora.Model.C20Expand

namespace Pandora.Proofs.C20R6Expand
open Pandora.Model.C20

theorem addSleepLast_names : ∀ (l : List (String × Int)) (ms : Int), (addSleepLast l ms).map (·.1) = l.map (·.1)
  | [], _ => rfl
  | [x], _ => rfl
  | x :: y :: rest, ms => by
    simp only [addSleepLast, List.map_cons]
    have := addSleepLast_names (y :: rest) ms
    simp only [List.map_cons] at this
    rw [this]

theorem addSleepLast_length (l : List (String × Int)) (ms : Int) : (addSleepLast l ms).length = l.length := by
  have := congrArg List.length (addSleepLast_names l ms)
  simpa using this

theorem expandSpec_cons_sleep (sh : Shoot) (rest : List Shoot) (h : (sh.name == "sleep") = true) :
    expandSpec (sh :: rest) = expandSpec rest := by
  have h' : sh.name = "sleep" := by simpa using h
  simp [expandSpec, h']

theorem expandSpec_cons_call (sh : Shoot) (rest : List Shoot) (h : (sh.name == "sleep") = false) :
    expandSpec (sh :: rest) = List.replicate sh.cnt.toNat sh.name ++ expandSpec rest := by
  have h' : ¬ sh.name = "sleep" := by simpa using h
  simp [expandSpec, h']

/-- whenever the expansion succeeds: the steps are, in order, the steps so far followed by every non-pause entry's name
`count` times; there are at most `MaxScenarioRequests` of them; and every new name is one the registry holds -/
theorem expandReqs_ok (known : String → Bool) : ∀ (reqs : List Shoot) (acc out : List (String × Int)),
    expandReqs known reqs acc = .ok out → acc.length ≤ maxScenarioRequests →
      out.map (·.1) = acc.map (·.1) ++ expandSpec reqs ∧ out.length ≤ maxScenarioRequests ∧
      (∀ n ∈ expandSpec reqs, known n = true)
  | [], acc, out, h, hl => by
    simp only [expandReqs, Except.ok.injEq] at h
    subst h
    simp [expandSpec, hl]
  | sh :: rest, acc, out, h, hl => by
    unfold expandReqs at h
    by_cases hs : (sh.name == "sleep") = true
    · simp only [hs, if_true] at h
      by_cases he : acc.isEmpty = true
      · simp [he] at h
      · simp only [he, Bool.false_eq_true, if_false] at h
        obtain ⟨h1, h2, h3⟩ := expandReqs_ok known rest (addSleepLast acc sh.cnt) out h (by rw [addSleepLast_length]; exact hl)
        rw [expandSpec_cons_sleep sh rest hs]
        exact ⟨by rw [h1, addSleepLast_names], h2, h3⟩
    · have hs' : (sh.name == "sleep") = false := by simpa using hs
      simp only [hs', Bool.false_eq_true, if_false] at h
      by_cases hk : known sh.name = true
      · simp only [hk, Bool.not_true, Bool.false_eq_true, if_false] at h
        by_cases hm : sh.cnt > (maxScenarioRequests : Int) - acc.length
        · simp [hm] at h
        · simp only [hm, if_false] at h
          have hlen : (acc ++ List.replicate sh.cnt.toNat (sh.name, if sh.sleep > 0 then sh.sleep else 0)).length ≤ maxScenarioRequests := by
            simp only [List.length_append, List.length_replicate]
            omega
          obtain ⟨h1, h2, h3⟩ := expandReqs_ok known rest _ out h hlen
          rw [expandSpec_cons_call sh rest hs']
          refine ⟨?_, h2, ?_⟩
          · rw [h1]; simp [List.map_replicate]
          · intro n hn
            simp only [List.mem_append, List.mem_replicate] at hn
            rcases hn with ⟨_, rfl⟩ | hn
            · exact hk
            · exact h3 n hn
      · have hk' : known sh.name = false := by simpa using hk
        simp [hk'] at h

end Pandora.Proofs.C20R6Expand
