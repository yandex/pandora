/-
C05 — gun accounting (`Close` calls) and the early-failure paths of `Pool.Run` (`onWaitDone` without an await goroutine).
-/
import Pandora.Proofs.C05Inv

namespace Pandora.Proofs.C05
open Pandora.Model.C05

/-- a gun that nobody owns any more: never closed twice, never "closed" if it is no `io.Closer`,
and (with the repair) closed exactly once if it is one -/
def GunDone (cfg : Cfg) (g : Gun) : Prop :=
  g.closes ≤ 1 ∧ (g.closable = false → g.closes = 0) ∧ (cfg.fixClose = true → g.closable = true → g.closes = 1)

structure InvG (cfg : Cfg) (s : State) : Prop where
  live0 : ∀ i ∈ s.live, ∀ g, i.gun = some g → g.closes = 0
  ret1 : ∀ g ∈ s.retired, GunDone cfg g
  warm1 : ∀ g, s.warmGun = some g → GunDone cfg g
  sel : s.main = .selecting → s.aw ≠ .off
  offRet : cfg.fixWaitDone = true → s.aw = .off → mainRunning s.main = false → s.waitDone = 1

theorem invG_init (cfg : Cfg) : InvG cfg init := by
  constructor <;> simp [init, mainRunning]

theorem gunDone_new (cfg : Cfg) (c : Bool) : GunDone cfg ⟨c, if cfg.fixClose = true ∧ c = true then 1 else 0⟩ := by
  unfold GunDone; cases c <;> cases cfg.fixClose <;> simp

theorem gunDone_close (cfg : Cfg) (g : Gun) (h0 : g.closes = 0) : GunDone cfg (closeGun g) := by
  unfold GunDone closeGun; cases hc : g.closable <;> simp [hc, h0]

theorem forall_mem_snoc {α} {P : α → Prop} {l : List α} {x : α} (hl : ∀ a ∈ l, P a) (hx : P x) : ∀ a ∈ l ++ [x], P a :=
  fun a ha => (List.mem_append.1 ha).elim (hl a) fun ha => List.mem_singleton.1 ha ▸ hx

/-- the await goroutine touches neither guns nor `Pool.Run`, and it exists -/
theorem InvG.of_same {cfg : Cfg} {a b : State} (hs : Same a b) (h : InvG cfg b) (hon : a.aw ≠ .off) : InvG cfg a where
  live0 := hs.live ▸ h.live0
  ret1 := hs.retired ▸ h.ret1
  warm1 := hs.warmGun ▸ h.warm1
  sel := fun _ => hon
  offRet := fun _ ho => absurd ho hon

/-- `Pool.Run` returns from its final select -/
theorem invG_mainReturn {cfg : Cfg} {s : State} (h : InvG cfg s) (hon : s.aw ≠ .off) (r : PRes) :
    InvG cfg (mainReturn s r) :=
  { h with sel := nofun, offRet := fun _ ho => absurd ho hon }

/-- `Pool.Run` fails before `runAsync`: `onWaitDone` is called here if it is called at all -/
theorem invG_earlyReturn {cfg : Cfg} {s : State} (h : InvG cfg s) (ce : List ErrId) (w : Nat)
    (hw : cfg.fixWaitDone = true → w = 1) (g : Option Gun) (hg : ∀ x, g = some x → GunDone cfg x) (r : PRes) :
    InvG cfg (mainReturn { s with compErrs := ce, waitDone := w, warmGun := g } r) :=
  { h with warm1 := hg, sel := nofun, offRet := fun hf _ _ => hw hf }

theorem step_invG (cfg : Cfg) (s : State) (c : Choice) (ha : InvA s) (h : InvG cfg s) : InvG cfg (step cfg s c) := by
  cases c with
  | extCancel => exact { h with }
  | warm o =>
    simp only [step]; split
    · next hm =>
      have h0 : s.waitDone = 0 := (ha.1.pre2 (.inl hm)).2
      cases o with
      | gunFail e => exact invG_earlyReturn h _ _ (fun _ => by rw [h0]) _ h.warm1 _
      | warmFail e c =>
        exact invG_earlyReturn h _ _ (fun _ => by rw [h0]) _ (fun _ hx => by cases hx; exact gunDone_new cfg c) _
      | ok c =>
        exact { h with warm1 := fun _ hx => by cases hx; exact gunDone_new cfg c, sel := nofun, offRet := fun _ _ => nofun }
    · exact h
  | sched o =>
    simp only [step]; split
    · next hm =>
      have h0 : s.waitDone = 0 := (ha.1.pre2 (.inr hm)).2
      cases o with
      | some e => exact invG_earlyReturn h _ _ (fun hf => by rw [if_pos hf, h0]) _ h.warm1 _
      | none => exact { h with sel := fun _ => nofun, offRet := fun _ => nofun }
    · exact h
  | provRet r | aggRet r =>
    simp only [step, addErr_eq]; split
    · exact { h with }
    · exact h
  | rpsFinished | startEnd =>
    simp only [step]; split
    · exact { h with }
    · exact h
  | startFirst o =>
    simp only [step]; split
    · cases o with
      | schedFail e => exact { h with }
      | gunFail e => exact { h with }
      | bindFail e c => exact { h with ret1 := forall_mem_snoc h.ret1 (gunDone_new cfg c) }
      | ok c => exact { h with live0 := forall_mem_snoc h.live0 fun _ hg => by cases hg; rfl }
    · exact h
  | startTick =>
    simp only [step]; split
    · exact { h with live0 := forall_mem_snoc h.live0 nofun }
    · exact h
  | instCreate i o =>
    simp only [step]; split
    · next k hl =>
      have failed (e : ErrId) (rt : List Gun) (hrt : ∀ g ∈ rt, GunDone cfg g) : InvG cfg (sendRes
          { s with live := s.live.eraseIdx i, compErrs := s.compErrs ++ [e], retired := rt } k (.err e)) := by
        rw [sendRes_live ha hl]
        exact { h with live0 := fun x hx => h.live0 x (List.mem_of_mem_eraseIdx hx), ret1 := hrt }
      cases o with
      | schedFail e => exact failed e s.retired h.ret1
      | gunFail e => exact failed e s.retired h.ret1
      | bindFail e c => exact failed e _ (forall_mem_snoc h.ret1 (gunDone_new cfg c))
      | ok c =>
        have hs : ∀ x ∈ s.live.set i ⟨k, some ⟨c, 0⟩⟩, ∀ g, x.gun = some g → g.closes = 0 := fun x hx =>
          (List.mem_or_eq_of_mem_set hx).elim (h.live0 x) fun hx _ hg => by subst hx; cases hg; rfl
        exact { h with live0 := hs }
    · exact h
  | instRet i r =>
    simp only [step, addErr_eq]; split
    · next k g hl =>
      split
      · exact h
      · rw [sendRes_live ha hl]
        exact { h with
          live0 := fun x hx => h.live0 x (List.mem_of_mem_eraseIdx hx)
          ret1 := forall_mem_snoc h.ret1 (gunDone_close cfg g (h.live0 _ (List.mem_of_getElem? hl) g rfl)) }
    · exact h
  | awaitProv | awaitAgg | awaitStart =>
    simp only [step]; split
    · exact InvG.of_same (same_handleRes _ _ _ _ _) { h with } (handleRes_aw_ne _ _ _ _ _)
    · exact h
  | awaitRun =>
    simp only [step]; split
    · split
      · split <;> exact InvG.of_same (same_afterErr _ _) { h with } (afterErr_aw_ne _ _)
      · exact InvG.of_same (same_handleRes _ _ _ _ _) { h with } (handleRes_aw_ne _ _ _ _ _)
    · exact h
  | errDeliver =>
    simp only [step]; split
    · next w r chk hl hm =>
      exact InvG.of_same (same_afterErr _ _) (invG_mainReturn h (by rw [hl]; nofun) _) (afterErr_aw_ne _ _)
    · exact h
  | errSuppress =>
    simp only [step]; split
    · next w r chk hl =>
      generalize (if cfg.fixSelect = true then s.poolC else s.runC) = b
      cases b
      · exact h
      · exact InvG.of_same (same_afterErr _ _) h (afterErr_aw_ne _ _)
    · exact h
  | mainCancel | mainClosed =>
    simp only [step]; split
    · next hc => exact invG_mainReturn h (h.sel hc.1) _
    · exact h

theorem run_invG (cfg : Cfg) (cs : List Choice) : InvG cfg (run cfg cs) :=
  run_induction cfg (invG_init cfg) (step_invG cfg) cs

end Pandora.Proofs.C05
