/-
C07 — the raw scanner finds exactly the frames of every rendered file.
-/
import Pandora.Proofs.C07Uripost

namespace Pandora.Proofs.C07
open Pandora.Model.C07 Pandora.Spec.C07

/-- what `rawDecoder.Scan` does with the trimmed size line `data`, the rest of the file being `R` -/
def rawBlock (data R : Bytes) : List RawAmmo × Stop :=
  match data with
  | [] => rawPass R
  | c :: d =>
    match rawDecodeHeader (c :: d) with
    | none => ([], .err .rawsize)
    | some (n, tag) =>
      if n < 0 then ([], .err .negsize)
      else if n = 0 then
        let q := rawPass R
        ({ frame := [], tag := [] } :: q.1, q.2)
      else if R.length < n.toNat then ([], .err .shortread)
      else
        let q := rawPass (R.drop n.toNat)
        ({ frame := R.take n.toNat, tag := tag } :: q.1, q.2)

theorem rawPass_readTrim (bs : Bytes) (_ : Unit) : rawPass bs = readTrim (fun d R => rawBlock d R) ([], .eof) bs := by
  unfold rawPass
  cases bs with
  | nil => rw [rawPassF]; rfl
  | cons b r =>
    rw [rawPassF]
    simp only [Bool.not_true, Bool.and_false, Bool.false_eq_true, if_false]
    unfold rawBlock readTrim
    rfl

/-- a last line that lacks its newline is read like every other line (ReadString returns it together with io.EOF;
/repo dbbf16d) -/
theorem rawPass_lastline (line : Bytes) (hline : LF ∉ line) (hne : line ≠ []) :
    rawPass line = rawBlock (trimSpace line) [] := by
  rw [rawPass_readTrim line (), readTrim_last _ _ line hline hne]

theorem content_raw_frame (t fr : Bytes) (l : ItemLay) :
    content .raw (.frame t fr) l = sizeText l fr.length ++ tagPart t := by
  simp [content, tagPart]

theorem frameContent_props (sz : Bytes) (n : Nat) (t : Bytes) (hs : SizeTok sz n) (ht : tagOK t = true) :
    let c := sz ++ tagPart t
    LF ∉ c ∧ spWidth c = 0 ∧ spWidthRev c.reverse = 0 ∧ ∃ x r, c = x :: r := by
  intro c
  obtain ⟨x, r, hx, hx1, hx2, _⟩ := hs.head
  obtain ⟨htLF, htrev⟩ := tagOK_props ht
  refine ⟨?_, ?_, rev_edge_tagPart _ t hs.revEdge htrev, x, r ++ tagPart t, by simp [c, hx]⟩
  · simp only [c, List.mem_append, not_or]
    exact ⟨hs.noLF, tagPart_noLF htLF⟩
  · simp only [c, hx, List.cons_append]
    exact spWidth_ascii x _ hx1 hx2

theorem rawBlock_frame (sz t fr X : Bytes) (hs : SizeTok sz fr.length) (ht : tagOK t = true) (hne : fr ≠ []) :
    rawBlock (sz ++ tagPart t) (fr ++ X) =
      ({ frame := fr, tag := t } :: (rawPass X).1, (rawPass X).2) := by
  obtain ⟨_, _, _, x, r, hxr⟩ := frameContent_props sz fr.length t hs ht
  have hcut := cut_tagPart sz t hs.noSP
  have hd : rawDecodeHeader (sz ++ tagPart t) = some ((fr.length : Int), t) := by
    unfold rawDecodeHeader
    simp only [hcut.1, hcut.2, hs.val]
  rw [hxr] at hd ⊢
  unfold rawBlock
  simp only [hd]
  have hpos : 0 < fr.length := List.length_pos_iff.mpr hne
  have h1 : ¬ ((fr.length : Int) < 0) := by omega
  have h3 : ¬ (fr.length + X.length < fr.length) := by omega
  simp [h1, h3, hne]

/-! ### the whole file -/

/-- what one entry does to the rest `X` of the pass -/
def rawStep (it : Item) (X : Bytes) : List RawAmmo × Stop :=
  match it with
  | .frame t fr => ({ frame := fr, tag := t } :: (rawPass X).1, (rawPass X).2)
  | _ => rawPass X

theorem rawPass_render (items : List Item) (lay : Layout) (hi : itemsOK .raw items = true) (hl : layoutOK lay = true) :
    rawPass (render .raw items lay) = (expFrames items, .eof) := by
  refine readTrim_render (σ := Unit) (pass := fun bs _ => rawPass bs) (block := fun d R _ => rawBlock d R)
    (exp := fun _ => expFrames) (step := fun it _ X => rawStep it X) rawPass_readTrim (fun _ _ => rfl)
    (fun it l hit hl => ?_) (fun _ => rfl) (fun it r _ X _ ih => ?_) items lay () hi hl
  · cases it with
    | hdr k v => simp [itemOK] at hit
    | req u t b => simp [itemOK] at hit
    | frame t fr =>
      simp only [itemOK, Bool.and_eq_true, beq_self_eq_true, true_and, Bool.not_eq_true', List.isEmpty_eq_false_iff] at hit
      obtain ⟨⟨ht, hne⟩, hn⟩ := hit
      have hs := sizeText_tok l fr.length hn
      obtain ⟨hLF, hf, hr, x, r, hxr⟩ := frameContent_props _ fr.length t hs ht
      rw [content_raw_frame]
      exact ⟨hLF, by rw [hxr]; simp, hf, hr, fun _ X => rawBlock_frame _ t fr X hs ht hne⟩
  · cases it <;> simp [rawStep, expFrames, ih ()]

end Pandora.Proofs.C07
