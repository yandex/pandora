/-
C06 helper lemmas for the error composition of the encoder aggregator (`Model.C06ErrJoin`).
-/
import Pandora.Model.C06ErrJoin

namespace Pandora.Proofs.C06ErrJoin
open Pandora.Model.C06ErrJoin

/-- the code's `Join` on member lists is concatenation (nil is the empty list) -/
theorem evalJoin_code (a b : Err) : evalJoin codeJoin a b = a ++ b := by
  cases a <;> cases b <;> simp [evalJoin, codeJoin, Cond.holds, Ret.value]

theorem foldl_code (f : Faults) (order : List Joined) (e : Err) :
    order.foldl (fun e j => evalJoin codeJoin e (f.errOf j)) e = e ++ (order.map f.errOf).flatten := by
  induction order generalizing e with
  | nil => simp
  | cons j rest ih => simp [List.foldl, evalJoin_code, List.append_assoc]

/-- with the code's `Join`, whatever the order of the deferred joins: the final error is the loop's error followed
by everything that was joined, nothing lost -/
theorem finalErr_code (f : Faults) (order : List Joined) :
    finalErr codeJoin order f = (if f.loop then [Src.loop] else []) ++ (order.map f.errOf).flatten := by
  unfold finalErr; exact foldl_code f order _

theorem droppedOf_append_of_none {a b : Err} (h : droppedOf a = none) : droppedOf (a ++ b) = droppedOf b := by
  induction a with
  | nil => rfl
  | cons x xs ih =>
    cases x <;> simp_all [droppedOf]

theorem droppedOf_droppedErr (n : Nat) : droppedOf (droppedErr n) = if n = 0 then none else some n := by
  unfold droppedErr; split <;> simp_all [droppedOf]

/-- nothing but the drop count is a `dropped` member -/
theorem droppedOf_errOf_other (f : Faults) {j : Joined} (h : j ≠ .dropped) : droppedOf (f.errOf j) = none := by
  cases j
  · simp only [Faults.errOf]; split <;> simp [droppedOf]
  · simp only [Faults.errOf]; split <;> simp [droppedOf]
  · exact absurd rfl h

theorem droppedOf_flatten_zero (f : Faults) (h0 : f.dropped = 0) (order : List Joined) :
    droppedOf (order.map f.errOf).flatten = none := by
  induction order with
  | nil => rfl
  | cons j rest ih =>
    simp only [List.map_cons, List.flatten_cons]
    by_cases hj : j = .dropped
    · subst hj; simp [Faults.errOf, droppedErr, h0, ih]
    · rw [droppedOf_append_of_none (droppedOf_errOf_other f hj)]; exact ih

theorem droppedOf_flatten_mem (f : Faults) (hd : f.dropped ≠ 0) (order : List Joined) (hm : Joined.dropped ∈ order) :
    droppedOf (order.map f.errOf).flatten = some f.dropped := by
  induction order with
  | nil => cases hm
  | cons j rest ih =>
    simp only [List.map_cons, List.flatten_cons]
    by_cases hj : j = .dropped
    · subst hj; simp [Faults.errOf, droppedErr, hd, droppedOf]
    · rw [droppedOf_append_of_none (droppedOf_errOf_other f hj)]
      rcases List.mem_cons.mp hm with h | h
      · exact absurd h.symm hj
      · exact ih h

/-- the drop count is found whatever the order of the joins, as long as it is joined at all -/
theorem droppedOf_finalErr_code (f : Faults) (order : List Joined) (hm : Joined.dropped ∈ order) :
    droppedOf (finalErr codeJoin order f) = (if f.dropped = 0 then none else some f.dropped) := by
  rw [finalErr_code]
  have hl : droppedOf (if f.loop then [Src.loop] else []) = none := by split <;> rfl
  rw [droppedOf_append_of_none hl]
  by_cases hd : f.dropped = 0
  · rw [if_pos hd, droppedOf_flatten_zero f hd order]
  · rw [if_neg hd, droppedOf_flatten_mem f hd order hm]

/-- the members of the final error, with the code's `Join` and order -/
theorem mem_finalErr_code (f : Faults) (x : Src) :
    x ∈ finalErr codeJoin codeOrder f ↔
      (x = .loop ∧ f.loop = true) ∨ (x = .encFinal ∧ f.encFinal = true) ∨ (x = .sinkClose ∧ f.sinkClose = true) ∨
      (x = .dropped f.dropped ∧ f.dropped ≠ 0) := by
  rw [finalErr_code]
  simp only [codeOrder, List.map_cons, List.map_nil, Faults.errOf, droppedErr, List.flatten_cons, List.flatten_nil,
    List.append_nil, List.mem_append, List.mem_ite_nil_right, List.mem_singleton]
  simp only [List.mem_ite_nil_left, List.mem_singleton, and_comm]

end Pandora.Proofs.C06ErrJoin
