/-
C14: analyses of `Model.C14.fullScan` / `httpRun` (runFullScan with the chosen-case filter after the decoder and the
no-ammo ending; the preloaded path with the filter before the cyclic replay).  The decoder abstraction `Src`, the
analyses of `LoadAmmo` and of the cyclic replay loop, and the list lemmas are the ones of `Proofs/C08*`.
Core Lean only.
-/
import Pandora.Model.C14
import Pandora.Proofs.C08Run

namespace Pandora.Proofs.C14
open Pandora.Model.C08 hiding fullScan httpRun runFuel run
open Pandora.Model.C14 Pandora.Proofs.C08

variable {α : Type}

/-- what `runFullScan` needs to know about `Decoder.PassNum()` in the decoder state after `q` complete passes and
`r` entries of the current pass (`R q r s`, see Proofs/C08Src) -/
structure PassFacts {σ : Type} (passNum : σ → Nat) (n : Nat) (R : Nat → Nat → σ → Prop) : Prop where
  pos_imp : ∀ q r s, R q r s → 0 < passNum s → 0 < q ∨ r = n
  of_q : ∀ q r s, R q r s → 0 < q → 0 < passNum s

theorem passFacts_stream (n : Nat) : PassFacts (fun d : Dec => d.passNum) n (RStream n) where
  pos_imp := by
    intro q r d ⟨_, h2, _, _⟩ hp
    left; simpa [h2] using hp
  of_q := by
    intro q r d ⟨_, h2, _, _⟩ hq
    simpa [h2] using hq

theorem passFacts_arr (n : Nat) : PassFacts (fun d : ArrDec => d.passNum) n (RArr n) where
  pos_imp := by
    intro q r d ⟨_, _, h3⟩ hp
    by_cases hrn : r = n
    · right; exact hrn
    · left; simp only [h3, if_neg hrn] at hp; exact hp
  of_q := by
    intro q r d ⟨_, _, h3⟩ hq
    simp only [h3]
    split <;> omega

/-! ## something is chosen: `f = (file.filter chosen).length > 0` -/

/-- when something is chosen, a complete pass has delivered something: the no-ammo endings of `runFullScan` never fire
and it runs like `Model.C08.fullScan` -/
theorem fullScan_eq_C08 {σ : Type} (scan : σ → ScanRes × σ) (passNum : σ → Nat) (R : Nat → Nat → σ → Prop)
    (file : List α) (chosen : α → Bool) (limit passes : Nat) (cancelAt : Option Nat)
    (hn : 0 < file.length) (hf : 0 < (file.filter chosen).length)
    (src : Src scan file.length passes R) (pf : PassFacts passNum file.length R) :
    ∀ fuel q r s, R q r s → r ≤ file.length → (passes = 0 ∨ q < passes) →
      fullScan scan passNum file chosen limit cancelAt fuel s (sel file chosen q r)
        = Model.C08.fullScan scan file chosen limit cancelAt fuel s (sel file chosen q r) := by
  intro fuel
  induction fuel with
  | zero => intro q r s _ _ _; rfl
  | succ fuel ih =>
    intro q r s hR hr hq
    have hpn : ¬ ((sel file chosen q r).length = 0 ∧ 0 < passNum s) := by
      intro ⟨h0, hp⟩
      rcases pf.pos_imp q r s hR hp with hq0 | rfl
      · have h1 := sel_len_ge file chosen q r
        have h2 := Nat.mul_le_mul_right (file.filter chosen).length hq0
        omega
      · rw [sel_full, length_rep] at h0
        exact absurd h0 (Nat.ne_of_gt (Nat.mul_pos (Nat.succ_pos q) hf))
    unfold fullScan Model.C08.fullScan
    rw [if_neg hpn]
    rcases src.advance file chosen hn hR hr hq with ⟨rfl, _, _, s', hs⟩ | ⟨q', r', i, a, s', hs, ha, hR', hr', hq', hsel, _⟩
    · have h0 : (sel file chosen q file.length).length ≠ 0 := by
        rw [sel_full, length_rep]
        exact Nat.ne_of_gt (Nat.mul_pos (Nat.succ_pos q) hf)
      simp only [hs, if_neg h0]
    · simp only [hs, ha]
      by_cases hch : chosen a = true
      · rw [if_pos hch] at hsel
        rw [if_pos hch, if_pos hch, ← hsel, ih q' r' s' hR' hr' hq']
      · rw [if_neg hch] at hsel
        rw [if_neg hch, if_neg hch, ← hsel, ih q' r' s' hR' hr' hq']
/-- `Provider.Run`, both paths, over any decoder that is a `Src`: the same outcome -/
theorem httpRun_spec {σ : Type} (scan : Bounds → σ → ScanRes × σ) (passNum : σ → Nat) (init : σ)
    (R : Nat → Nat → σ → Prop) (file : List α) (chosen : α → Bool) (preload : Bool) (b : Bounds)
    (cancelAt : Option Nat) (T : Nat)
    (hn : 0 < file.length) (hf : 0 < (file.filter chosen).length)
    (src1 : Src (scan ⟨0, 1⟩) file.length 1 R) (srcP : Src (scan ⟨0, b.passes⟩) file.length b.passes R)
    (pf : PassFacts passNum file.length R)
    (hinit : R 0 0 init) (tg : Tgt b.limit b.passes (file.filter chosen).length cancelAt T) :
    httpRun scan passNum init file chosen preload b cancelAt (fuelFor T file.length (file.filter chosen).length)
      = some ⟨cycTake (file.filter chosen) T, endRes cancelAt T, true⟩ := by
  have hfn : (file.filter chosen).length ≤ file.length := List.length_filter_le _ _
  unfold httpRun
  cases preload with
  | true =>
    simp only [if_true]
    have hl := loadAmmo_spec scan R file src1 (fuelFor T file.length (file.filter chosen).length) 0 init hinit
      (by omega) (by have := fuel_ge_n T file.length (file.filter chosen).length; omega)
    rw [List.take_zero] at hl
    rw [hl]
    simp only
    rw [runPreloaded_spec (file.filter chosen) b cancelAt T hf tg _ (fuel_ge_T T _ _ hf hfn)]
    simp only [mapSentinel_preRes]
  | false =>
    simp only [Bool.false_eq_true, if_false]
    have h0 : sel file chosen 0 0 = [] := by simp [sel]
    have := C08.fullScan_spec (scan ⟨0, b.passes⟩) R file chosen b.limit b.passes cancelAt T hn hf srcP tg
      (fuelFor T file.length (file.filter chosen).length) 0 0 init hinit (by omega) (by omega) (by simp [sel])
      (by unfold fuelFor; omega)
    rw [← fullScan_eq_C08 _ passNum R file chosen _ _ _ hn hf srcP pf _ 0 0 init hinit (by omega) (by omega), h0] at this
    rw [this]

/-! ## nothing is chosen: `file.filter chosen = []`, `n > 0` -/

theorem not_chosen_of_filter_nil (file : List α) (chosen : α → Bool) (hf : file.filter chosen = [])
    (r : Nat) (a : α) (h : file[r]? = some a) : chosen a = false := by
  have hmem : a ∈ file := List.mem_of_getElem? h
  have := List.filter_eq_nil_iff.mp hf a hmem
  simpa using this

/-- streaming over a non-empty file from which nothing is chosen: one scan of the file, then ErrNoAmmo -/
theorem fullScan_nomatch {σ : Type} (scan : σ → ScanRes × σ) (passNum : σ → Nat) (R : Nat → Nat → σ → Prop)
    (file : List α) (chosen : α → Bool) (limit passes : Nat) (cancelAt : Option Nat)
    (hn : 0 < file.length) (hf : file.filter chosen = []) (hc0 : cancelled cancelAt 0 = false)
    (src : Src scan file.length passes R) (pf : PassFacts passNum file.length R) :
    ∀ fuel r s, R 0 r s → r ≤ file.length → file.length + 3 ≤ fuel + r →
      fullScan scan passNum file chosen limit cancelAt fuel s [] = some ([], .errNoAmmo) := by
  intro fuel
  induction fuel with
  | zero => intro r s _ hr hfuel; omega
  | succ fuel ih =>
    intro r s hR hr hfuel
    unfold fullScan
    have hlim : ¬ (limit ≠ 0 ∧ limit ≤ ([] : List α).length) := by simp
    simp only [List.length_nil] at hlim ⊢
    rw [hc0]
    simp only [Bool.false_eq_true, if_false]
    rw [if_neg hlim]
    by_cases hp : 0 < passNum s
    · simp [hp]
    · have hp' : ¬ (True ∧ 0 < passNum s) := by simp [hp]
      simp only [true_and] at hp' ⊢
      rw [if_neg hp]
      by_cases hrn : r < file.length
      · obtain ⟨s', hs, hR'⟩ := src.next 0 r s hR hrn (by omega)
        obtain ⟨a, ha⟩ := exists_getElem? hrn
        have hch := not_chosen_of_filter_nil file chosen hf r a ha
        simp only [hs, ha, hch, Bool.false_eq_true, if_false]
        exact ih (r + 1) s' hR' (by omega) (by omega)
      · have hrn' : r = file.length := by omega
        subst hrn'
        by_cases hps : passes ≠ 0 ∧ passes ≤ 0 + 1
        · obtain ⟨s', hs⟩ := src.stop 0 s hR hps.1 hps.2
          simp only [hs, if_true]
        · obtain ⟨s', hs, hR'⟩ := src.wrap 0 s hR (by omega)
          obtain ⟨a, ha⟩ := exists_getElem? hn
          have hch := not_chosen_of_filter_nil file chosen hf 0 a ha
          simp only [hs, ha, hch, Bool.false_eq_true, if_false]
          obtain ⟨fuel', rfl⟩ : ∃ f', fuel = f' + 1 := ⟨fuel - 1, by omega⟩
          unfold fullScan
          have hpq := pf.of_q (0 + 1) 1 s' hR' (by omega)
          simp only [List.length_nil]
          rw [hc0]
          simp only [Bool.false_eq_true, if_false]
          rw [if_neg hlim]
          simp [hpq]

theorem httpRun_nomatch {σ : Type} (scan : Bounds → σ → ScanRes × σ) (passNum : σ → Nat) (init : σ)
    (R : Nat → Nat → σ → Prop) (file : List α) (chosen : α → Bool) (preload : Bool) (b : Bounds)
    (cancelAt : Option Nat)
    (hn : 0 < file.length) (hf : file.filter chosen = []) (hc0 : cancelled cancelAt 0 = false)
    (src1 : Src (scan ⟨0, 1⟩) file.length 1 R) (srcP : Src (scan ⟨0, b.passes⟩) file.length b.passes R)
    (pf : PassFacts passNum file.length R) (hinit : R 0 0 init) :
    httpRun scan passNum init file chosen preload b cancelAt (fuelNoMatch file.length)
      = some ⟨[], .errNoAmmo, true⟩ := by
  unfold httpRun fuelNoMatch
  cases preload with
  | true =>
    simp only [if_true]
    have hl := loadAmmo_spec scan R file src1 (file.length + 3) 0 init hinit (by omega) (by omega)
    rw [List.take_zero] at hl
    rw [hl]
    simp only [hf]
    simp [runPreloaded, mapSentinel]
  | false =>
    simp only [Bool.false_eq_true, if_false]
    rw [fullScan_nomatch (scan ⟨0, b.passes⟩) passNum R file chosen b.limit b.passes cancelAt hn hf hc0 srcP pf
      (file.length + 3) 0 init hinit (by omega) (by omega)]

/-! ## all formats -/

theorem cancelled_zero (cancelAt : Option Nat) (h : cancelAt ≠ some 0) : cancelled cancelAt 0 = false := by
  cases cancelAt with
  | none => rfl
  | some c =>
    have : c ≠ 0 := fun hc => h (by rw [hc])
    simp [cancelled]; omega

theorem loadSeesCancel_false (k : Fmt) (preload : Bool) (cancelAt : Option Nat) (hc0 : cancelled cancelAt 0 = false) :
    loadSeesCancel k preload cancelAt = false := by simp [loadSeesCancel, hc0]

/-- a context cancelled before Run stops the run at count 0 -/
theorem T_zero_of_loadSeesCancel (k : Fmt) (preload : Bool) (cancelAt : Option Nat) (T : Nat) {l p f : Nat}
    (hpc : loadSeesCancel k preload cancelAt = true) (tg : Tgt l p f cancelAt T) : T = 0 := by
  have hc : cancelled cancelAt 0 = true := by
    unfold loadSeesCancel at hpc; simp only [Bool.and_eq_true] at hpc; exact hpc.2
  obtain ⟨c, hc1, hc2⟩ := (cancelled_true_iff _ _).mp hc
  have := tg.le_cancel c hc1
  omega

/-- something is chosen: with the fuel of `Model.C14.runWith` the provider ends in both modes, having delivered
exactly the first `T` chosen entries of the endlessly repeated file, with a closed sink -/
theorem runFuel_spec (k : Fmt) (preload : Bool) (file : List α) (chosen : α → Bool) (b : Bounds)
    (cancelAt : Option Nat) (T : Nat) (hf : 0 < (file.filter chosen).length)
    (tg : Tgt b.limit b.passes (file.filter chosen).length cancelAt T) :
    runFuel k preload file chosen b cancelAt (fuelFor T file.length (file.filter chosen).length)
      = some ⟨cycTake (file.filter chosen) T, endRes cancelAt T, true⟩ := by
  have hn : 0 < file.length := Nat.lt_of_lt_of_le hf (List.length_filter_le _ _)
  unfold runFuel
  by_cases hpc : loadSeesCancel k preload cancelAt = true
  · -- the context is cancelled before Run: T = 0, nothing is loaded
    rw [if_pos hpc]
    have hT := T_zero_of_loadSeesCancel k preload cancelAt T hpc tg
    subst hT
    have hc : cancelled cancelAt 0 = true := by
      unfold loadSeesCancel at hpc; simp only [Bool.and_eq_true] at hpc; exact hpc.2
    simp [cycTake_zero, endRes, hc]
  rw [if_neg hpc]
  cases k with
  | uri | uripost | raw =>
    exact httpRun_spec _ _ _ (RStream file.length) file chosen _ _ _ T hn hf (src_eofCheck _ _ hn) (src_eofCheck _ _ hn)
      (passFacts_stream _) (RStream_init _) tg
  | jsonLines =>
    exact httpRun_spec _ _ _ (RStream file.length) file chosen _ _ _ T hn hf (src_topCheck _ _ hn) (src_topCheck _ _ hn)
      (passFacts_stream _) (RStream_init _) tg
  | jsonArray =>
    exact httpRun_spec _ _ _ (RArr file.length) file chosen _ _ _ T hn hf (src_arr _ _ hn) (src_arr _ _ hn)
      (passFacts_arr _) (RArr_init _ hn) tg

/-- an empty file: ErrNoAmmo in both modes, for every format -/
theorem runFuel_empty (k : Fmt) (preload : Bool) (chosen : α → Bool) (b : Bounds) (cancelAt : Option Nat)
    (hc0 : cancelled cancelAt 0 = false) :
    runFuel k preload ([] : List α) chosen b cancelAt (fuelNoMatch 0) = some ⟨[], .errNoAmmo, true⟩ := by
  by_cases hp : ¬ b.passes = 0 ∧ b.passes ≤ 1 <;>
  cases k <;> cases preload <;>
    simp [runFuel, loadSeesCancel, httpRun, fuelNoMatch, fullScan, loadAmmo, runPreloaded, scanStream, scanLoop, scanArr,
      Dec.init, ArrDec.init, hc0, mapSentinel, hp]

/-- nothing is chosen (or the file is empty): nothing is delivered and `Run` returns ErrNoAmmo, in both modes -/
theorem runFuel_nomatch (k : Fmt) (preload : Bool) (file : List α) (chosen : α → Bool) (b : Bounds)
    (cancelAt : Option Nat) (hf : (file.filter chosen).length = 0) (hc : cancelAt ≠ some 0) :
    runFuel k preload file chosen b cancelAt (fuelNoMatch file.length) = some ⟨[], .errNoAmmo, true⟩ := by
  have hc0 := cancelled_zero cancelAt hc
  have hf' : file.filter chosen = [] := List.eq_nil_of_length_eq_zero hf
  by_cases hn : 0 < file.length
  · unfold runFuel
    rw [loadSeesCancel_false k preload cancelAt hc0]
    simp only [Bool.false_eq_true, if_false]
    cases k with
    | uri | uripost | raw =>
      exact httpRun_nomatch _ _ _ (RStream file.length) file chosen _ _ _ hn hf' hc0 (src_eofCheck _ _ hn)
        (src_eofCheck _ _ hn) (passFacts_stream _) (RStream_init _)
    | jsonLines =>
      exact httpRun_nomatch _ _ _ (RStream file.length) file chosen _ _ _ hn hf' hc0 (src_topCheck _ _ hn)
        (src_topCheck _ _ hn) (passFacts_stream _) (RStream_init _)
    | jsonArray =>
      exact httpRun_nomatch _ _ _ (RArr file.length) file chosen _ _ _ hn hf' hc0 (src_arr _ _ hn)
        (src_arr _ _ hn) (passFacts_arr _) (RArr_init _ hn)
  · have : file = [] := List.eq_nil_of_length_eq_zero (by omega)
    subst this
    exact runFuel_empty k preload chosen b cancelAt hc0

end Pandora.Proofs.C14
