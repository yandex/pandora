/-
C15 — the executable judge `Spec.C15.shotVerdict` (applied by `./check` to what the REAL gun did) holds of every shot
of the model.

`obsLog nm` is how a shot of the model is seen from outside: the target logs the name of each request it receives
(`nm`: in the harness the first path segment, which every rendered request carries — hypothesis `Named`), the
aggregator logs each sample; pauses are not events of the log.
`Shape` is the grammar of such a log for a step-name list: `req n, sample ok` per step, optionally ended by the failing
step (`[req n,] sample failed`).
-/
import Pandora.Proofs.C15Shoot
import Pandora.Spec.C15

namespace Pandora.Proofs.C15
open Pandora.Model.C15 Pandora.Spec.C15

variable {Req Resp : Type}

/-- every request rendered from the definition `d` is recognisably a request `d.name` -/
def Named (w : World Req Resp) (nm : Req → String) : Prop :=
  ∀ d t r, w.render d t = some r → nm r = d.name

def obsEv (nm : Req → String) : Ev Req → Option OEv
  | .request r => some (.req (nm r))
  | .sample tag _ failed => some (.sample tag failed)
  | .pause _ => none

def obsLog (nm : Req → String) (l : List (Ev Req)) : List OEv := l.filterMap (obsEv nm)

theorem obsLog_append (nm : Req → String) (a b : List (Ev Req)) : obsLog nm (a ++ b) = obsLog nm a ++ obsLog nm b := by
  simp [obsLog]

inductive Shape (scName : String) : List String → Bool → List OEv → Prop
  | nil : Shape scName [] true []
  | ok {n ns b evs} : Shape scName ns b evs →
      Shape scName (n :: ns) b (.req n :: .sample (wantTag scName n false) false :: evs)
  | failNoReq {n ns} : Shape scName (n :: ns) false [.sample (wantTag scName n true) true]
  | failReq {n ns} : Shape scName (n :: ns) false [.req n, .sample (wantTag scName n true) true]

@[simp] theorem samplesOf_nil : samplesOf [] = [] := rfl
@[simp] theorem samplesOf_req (n : String) (evs : List OEv) : samplesOf (.req n :: evs) = samplesOf evs := rfl
@[simp] theorem samplesOf_sample (t : String) (f : Bool) (evs : List OEv) :
    samplesOf (.sample t f :: evs) = (t, f) :: samplesOf evs := rfl
@[simp] theorem reqsOf_nil : reqsOf [] = [] := rfl
@[simp] theorem reqsOf_req (n : String) (evs : List OEv) : reqsOf (.req n :: evs) = n :: reqsOf evs := rfl
@[simp] theorem reqsOf_sample (t : String) (f : Bool) (evs : List OEv) : reqsOf (.sample t f :: evs) = reqsOf evs := rfl

theorem Shape.facts {scName : String} {ns : List String} {b : Bool} {evs : List OEv} (h : Shape scName ns b evs) :
    evs.find? isViol = none ∧
    (samplesOf evs).length ≤ ns.length ∧
    ((samplesOf evs).zip ns).all (fun x => x.1.1 == wantTag scName x.2 x.1.2) = true ∧
    ((reqsOf evs).zip ns).all (fun x => x.1 == x.2) = true ∧
    (reqsOf evs).length ≤ (samplesOf evs).length ∧
    afterFail evs = true ∧
    ((samplesOf evs).all (fun s => !s.2) = true → (samplesOf evs).length = ns.length) ∧
    (samplesOf evs).length ≤ (reqsOf evs).length + 1 := by
  induction h with
  | nil => exact ⟨rfl, Nat.le_refl _, rfl, rfl, Nat.le_refl _, rfl, fun _ => rfl, Nat.le_succ _⟩
  | @ok n0 ns0 b0 evs0 _ ih =>
    obtain ⟨h1, h2, h3, h4, h5, h6, h7, h8⟩ := ih
    simp only [samplesOf_req, samplesOf_sample, reqsOf_req, reqsOf_sample, List.length_cons, List.zip_cons_cons,
      List.all_cons, beq_self_eq_true, Bool.true_and, Bool.not_false, h3, h4]
    exact ⟨h1, by omega, trivial, trivial, by omega, h6, fun ha => by rw [h7 ha], by omega⟩
  | failNoReq => simp [afterFail, isViol]
  | failReq => simp [afterFail, isViol]

/-- the judge accepts every log of the grammar -/
theorem verdict_of_shape {scName : String} {ns : List String} {b : Bool} {evs : List OEv} (h : Shape scName ns b evs) :
    shotVerdict scName ns evs = "ok" := by
  obtain ⟨h1, h2, h3, h4, h5, h6, h7, h8⟩ := h.facts
  have e3 : ((samplesOf evs).zip ns).all (fun x => match x with | ((t, f), n) => t == wantTag scName n f) = true := h3
  have e4 : ((reqsOf evs).zip ns).all (fun x => match x with | (r, n) => r == n) = true := h4
  unfold shotVerdict
  simp only [h1]
  rw [if_neg (by omega)]
  simp only [e3, e4, h6, Bool.not_true, Bool.false_eq_true, if_false, Bool.false_or]
  rw [if_neg (by simpa using h5)]
  by_cases ha : (samplesOf evs).all (fun s => !s.2) = true
  · have := h7 ha
    simp [this]
    omega
  · simp only [ha, Bool.false_and, Bool.false_eq_true, if_false]
    rw [if_neg (by omega)]

/-- what one call of `shootStep` adds to the outside view of the log -/
theorem shootStep_obs (w : World Req Resp) (nm : Req → String) (hnm : Named w nm) (source : Val) (scName : String)
    (st : Step ReqDef) (rv : List (String × Val)) (g : GState Req) (b : Bool) (rv' : List (String × Val))
    (g' : GState Req) (h : shootStep w source scName st rv g = some (b, rv', g')) :
    (b = true → obsLog nm g'.log = obsLog nm g.log ++
        [.req st.req.name, .sample (wantTag scName st.req.name false) false]) ∧
    (b = false → obsLog nm g'.log = obsLog nm g.log ++ [.sample (wantTag scName st.req.name true) true] ∨
        obsLog nm g'.log = obsLog nm g.log ++ [.req st.req.name, .sample (wantTag scName st.req.name true) true]) := by
  rw [show wantTag scName st.req.name false = stepTag scName st from rfl,
    show wantTag scName st.req.name true = failTag (stepTag scName st) by
      simp [wantTag, failTag, stepTag, emptyTag, String.append_assoc]]
  rcases shootStep_cases w source scName st rv g b rv' g' h with
    ⟨_, _, rfl, rfl⟩ | ⟨pv, it', _, ⟨_, rfl, rfl⟩ | ⟨req, hr, ⟨_, rfl, rfl⟩ | ⟨resp, _, ⟨_, rfl, rfl⟩ | ⟨postv, _, rfl, _, rfl⟩⟩⟩⟩
  · exact ⟨nofun, fun _ => Or.inl (by simp [obsLog, obsEv, failed])⟩
  · exact ⟨nofun, fun _ => Or.inl (by simp [obsLog, obsEv, failed, afterPre])⟩
  · exact ⟨nofun, fun _ => Or.inr (by simp [obsLog, obsEv, failed, afterSend, afterPre, hnm _ _ _ hr])⟩
  · exact ⟨nofun, fun _ => Or.inr (by simp [obsLog, obsEv, failed, afterSend, afterPre, hnm _ _ _ hr])⟩
  · refine ⟨fun _ => ?_, nofun⟩
    by_cases hs : st.sleep > 0 <;> simp [obsLog, obsEv, okEvents, hnm _ _ _ hr, hs]

theorem shootLoop_shape (w : World Req Resp) (nm : Req → String) (hnm : Named w nm) (source : Val) (scName : String) :
    ∀ (steps : List (Step ReqDef)) (rv : List (String × Val)) (g : GState Req) (b : Bool) (g' : GState Req),
      shootLoop w source scName steps rv g = some (b, g') →
      ∃ evs, obsLog nm g'.log = obsLog nm g.log ++ evs ∧ Shape scName (steps.map (·.req.name)) b evs
  | [], rv, g, b, g', h => by
    simp only [shootLoop] at h
    cases h
    exact ⟨[], by simp, Shape.nil⟩
  | st :: rest, rv, g, b, g', h => by
    rcases shootLoop_step w source scName st rest rv g b g' h with ⟨rfl, rv1, hstep⟩ | ⟨rv1, g1, hstep, h⟩
    · rcases (shootStep_obs w nm hnm source scName st rv g false rv1 g' hstep).2 rfl with e | e
      · exact ⟨_, e, Shape.failNoReq⟩
      · exact ⟨_, e, Shape.failReq⟩
    · have hs := (shootStep_obs w nm hnm source scName st rv g true rv1 g1 hstep).1 rfl
      obtain ⟨evs, he, hsh⟩ := shootLoop_shape w nm hnm source scName rest rv1 g1 b g' h
      refine ⟨_, ?_, Shape.ok hsh⟩
      rw [he, hs]
      simp

/-! ### provider → gun: the shots of the ammo a consumer takes, one after the other -/

/-- an instance shoots the ammo it is handed, in order (a failed shot does not stop the instance) -/
def shootAll {Req Resp : Type} (w : World Req Resp) (source : Val) : List (Scenario ReqDef) → GState Req → Option (GState Req)
  | [], g => some g
  | sc :: r, g =>
    match shoot w source sc g with
    | none => none
    | some (_, g') => shootAll w source r g'

theorem shootAll_verdict {Req Resp : Type} (w : World Req Resp) (nm : Req → String) (hnm : Named w nm) (source : Val) :
    ∀ (ammos : List (Scenario ReqDef)) (g g' : GState Req), shootAll w source ammos g = some g' →
      ∃ evss : List (List OEv), obsLog nm g'.log = obsLog nm g.log ++ evss.flatten ∧
        evss.length = ammos.length ∧
        ∀ p ∈ ammos.zip evss, shotVerdict (String.ofList p.1.name) (p.1.steps.map (·.req.name)) p.2 = "ok"
  | [], g, g', h => by
    simp only [shootAll] at h; cases h
    exact ⟨[], by simp, rfl, by simp⟩
  | sc :: r, g, g', h => by
    simp only [shootAll] at h
    split at h
    · cases h
    · rename_i b g1 hs
      obtain ⟨evs, he, hs'⟩ := shootLoop_shape w nm hnm source (String.ofList sc.name) sc.steps [] g b g1 hs
      obtain ⟨evss, hes, hlen, hall⟩ := shootAll_verdict w nm hnm source r g1 g' h
      refine ⟨evs :: evss, ?_, by simp [hlen], ?_⟩
      · rw [hes, he, List.flatten_cons, List.append_assoc]
      · intro p hp
        simp only [List.zip_cons_cons, List.mem_cons] at hp
        rcases hp with rfl | hp
        · exact verdict_of_shape hs'
        · exact hall p hp

end Pandora.Proofs.C15
