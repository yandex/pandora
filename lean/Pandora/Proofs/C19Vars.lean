/-
C19 — the model of response-derived variables (`Model/C19Vars.lean`): reading them never panics, and a scenario shot with
variables is the shot with its preprocessors resolved.
-/
import Pandora.Model.C19Vars

namespace Pandora.Proofs.C19
open Pandora.Model.C10 Pandora.Model.C19

/-! ## `calcIndex` -/

theorem intn_ok (n : Int) (raw : Nat) (h : 0 < n) : ∃ r, intn n raw = .ok r ∧ 0 ≤ r ∧ r < n := by
  refine ⟨(raw : Int) % n, ?_, Int.emod_nonneg _ (by omega), Int.emod_lt_of_pos _ h⟩
  unfold intn
  rw [if_neg (by omega)]

theorem goRem_ok (a b : Int) (h : 0 < b) : goRem a b = .ok (a.tmod b) := by
  unfold goRem
  rw [if_neg (by omega)]

/-- `calcIndex` never panics, and an index it returns is an index INTO a slice of that length -/
theorem calcIndex_ok (k : IndexKind) (length : Int) (nextV randRaw : Nat) :
    ∃ r, calcIndex k length nextV randRaw = .ok r ∧ ∀ i, r = some i → 0 ≤ i ∧ i < length := by
  by_cases hl : length ≤ 0
  · refine ⟨none, ?_, by intro i h; cases h⟩
    cases k <;> simp [calcIndex, hl]
  · have hpos : 0 < length := by omega
    cases k with
    | bad => exact ⟨none, by simp [calcIndex], by intro i h; cases h⟩
    | last => exact ⟨some (length - 1), by simp [calcIndex, hl], by intro i h; cases h; omega⟩
    | rand =>
      obtain ⟨r, hr, h0, h1⟩ := intn_ok length randRaw hpos
      exact ⟨some r, by simp [calcIndex, hl, hr, Checked.bind], by intro i h; cases h; exact ⟨h0, h1⟩⟩
    | next =>
      by_cases hge : (nextV : Int) ≥ length
      · refine ⟨some ((nextV : Int).tmod length), by simp [calcIndex, hl, hge, goRem_ok _ _ hpos, Checked.bind], ?_⟩
        intro i h; cases h
        exact ⟨Int.tmod_nonneg _ (by omega), Int.tmod_lt_of_pos _ hpos⟩
      · exact ⟨some nextV, by simp [calcIndex, hl, hge], by intro i h; cases h; omega⟩
    | num j =>
      by_cases hin : 0 ≤ j ∧ j < length
      · exact ⟨some j, by simp [calcIndex, hl, hin], by intro i h; cases h; exact hin⟩
      · have h1 := Int.lt_tmod_of_pos j hpos
        have h2 := Int.tmod_lt_of_pos j hpos
        refine ⟨some (if j.tmod length < 0 then j.tmod length + length else j.tmod length),
          by simp [calcIndex, hl, hin, goRem_ok _ _ hpos, Checked.bind], ?_⟩
        intro i h; cases h
        split <;> omega

/-- without the emptiness guard in front of the keyword branches an EMPTY list makes every keyword index panic or
leave the slice -/
theorem calcIndexGuardNumericOnly_empty (nextV randRaw : Nat) :
    calcIndexGuardNumericOnly .next 0 nextV randRaw = .panic "integer divide by zero" ∧
    calcIndexGuardNumericOnly .rand 0 nextV randRaw = .panic "invalid argument to Intn" ∧
    calcIndexGuardNumericOnly .last 0 nextV randRaw = .ok (some (-1)) := by
  refine ⟨?_, ?_, ?_⟩
  · simp [calcIndexGuardNumericOnly, goRem, Checked.bind]
  · simp [calcIndexGuardNumericOnly, intn, Checked.bind]
  · simp [calcIndexGuardNumericOnly]

/-! ## `extractFromSlice`, `GetMapValue` -/

theorem goIndex_ok (xs : List Val) (i : Int) (h : 0 ≤ i ∧ i < (xs.length : Int)) :
    goIndex xs i = .ok (xs.getD i.toNat .null) := by
  unfold goIndex
  rw [if_pos h]

theorem extractFromSlice_ok (v : Val) (k : IndexKind) (nextV randRaw : Nat) :
    ∃ r, extractFromSlice v k nextV randRaw = .ok r := by
  unfold extractFromSlice extractFromSliceWith
  cases v with
  | list acc xs =>
    cases acc with
    | false => exact ⟨none, rfl⟩
    | true =>
      obtain ⟨r, hr, hb⟩ := calcIndex_ok k xs.length nextV randRaw
      cases r with
      | none => exact ⟨none, by simp [hr, Checked.bind]⟩
      | some i => exact ⟨some (xs.getD i.toNat .null), by simp [hr, Checked.bind, goIndex_ok xs i (hb i rfl)]⟩
  | _ => exact ⟨none, rfl⟩

theorem getMapValueWith_ok (it : Iter) (segs : List Seg) :
    ∀ (d : Nat) (cur : Fields), ∃ r, getMapValueWith calcIndex it d cur segs = .ok r := by
  induction segs with
  | nil => intro d cur; exact ⟨_, rfl⟩
  | cons s rest ih =>
    intro d cur
    unfold getMapValueWith
    cases hl : lookupField cur s.name with
    | none => exact ⟨none, rfl⟩
    | some pv =>
      simp only []
      cases hi : s.index with
      | none =>
        simp only []
        cases pv with
        | obj fs => exact ih (d + 1) fs
        | _ => cases rest <;> simp
      | some k =>
        simp only []
        obtain ⟨r, hr⟩ := extractFromSlice_ok pv k (it.next d) (it.rand d)
        have hr' : extractFromSliceWith calcIndex pv k (it.next d) (it.rand d) = .ok r := hr
        rw [hr']
        cases r with
        | none => exact ⟨none, rfl⟩
        | some e =>
          cases e with
          | obj fs => exact ih (d + 1) fs
          | _ => cases rest <;> simp

theorem getMapValue_ok (it : Iter) (vars : Fields) (segs : List Seg) : ∃ r, getMapValue it vars segs = .ok r :=
  getMapValueWith_ok it segs 0 vars

/-! ## template functions -/

theorem goMakeRunes_ok (n : Int) (h0 : 0 ≤ n) (h1 : n ≤ maxRuneSliceLen) : goMakeRunes n = .ok () := by
  unfold goMakeRunes
  rw [if_neg (by omega)]

/-- with a bound on the length that `make([]rune, n)` accepts, `randString` returns (a string or an error) for every
argument value -/
theorem randString_ok (c : Int) (hc : c ≤ maxRuneSliceLen) (cnt : Val) : ∃ b, randString (some c) cnt = .ok b := by
  unfold randString
  cases valParseInt cnt with
  | none => exact ⟨false, rfl⟩
  | some n0 =>
    simp only []
    by_cases hneg : (if n0 = 0 then 1 else n0) < 0
    · exact ⟨false, by rw [if_pos hneg]⟩
    · rw [if_neg hneg]
      by_cases hbig : (if n0 = 0 then 1 else n0) > c
      · exact ⟨false, by simp [hbig]⟩
      · refine ⟨true, ?_⟩
        simp only [hbig, decide_false, Bool.false_eq_true, if_false]
        rw [goMakeRunes_ok _ (by omega) (by omega)]
        rfl

theorem randIntRange_ok (f t : Int) : ∃ b, randIntRange f t = .ok b := by
  unfold randIntRange
  generalize randIntDiff f t = d
  by_cases h : d ≤ 0
  · exact ⟨false, by rw [if_pos h]⟩
  · exact ⟨true, by rw [if_neg h]; unfold int63n; rw [if_neg h]; rfl⟩

theorem callRandString_ok (c : Int) (hc : c ≤ maxRuneSliceLen) (args : List Val) :
    ∃ b, callRandString (some c) args = .ok b := by
  match args with
  | [] => simp only [callRandString]; exact randString_ok c hc _
  | [a] => simp only [callRandString]; exact randString_ok c hc a
  | [a, _] => simp only [callRandString]; exact randString_ok c hc a
  | _ :: _ :: _ :: _ => exact ⟨false, rfl⟩

theorem callRandInt_ok (args : List Val) : ∃ b, callRandInt args = .ok b := by
  match args with
  | [] => simp only [callRandInt]; exact randIntRange_ok 0 0
  | [a] =>
    simp only [callRandInt]
    cases valParseInt a with
    | none => exact ⟨false, rfl⟩
    | some f => exact randIntRange_ok f 0
  | [a, b] =>
    simp only [callRandInt]
    cases valParseInt a with
    | none => exact ⟨false, rfl⟩
    | some f =>
      cases valParseInt b with
      | none => exact ⟨false, rfl⟩
      | some t => exact randIntRange_ok f t
  | _ :: _ :: _ :: _ => exact ⟨false, rfl⟩

theorem callTplFn_ok (c : Int) (hc : c ≤ maxRuneSliceLen) (fn : TplFn) (args : List Val) :
    ∃ b, callTplFn (some c) fn args = .ok b := by
  cases fn with
  | uuid => exact ⟨true, rfl⟩
  | randString => exact callRandString_ok c hc args
  | randInt => exact callRandInt_ok args

theorem resolveArgs_ok (vars : Fields) (args : List TplArg) : ∃ vs, resolveArgs vars args = .ok vs := by
  induction args with
  | nil => exact ⟨[], rfl⟩
  | cons a as ih =>
    obtain ⟨r, hr⟩ := getMapValue_ok a.it vars a.segs
    obtain ⟨vs, hvs⟩ := ih
    exact ⟨r.getD (.str a.text) :: vs, by simp [resolveArgs, hr, hvs, Checked.bind]⟩

theorem evalPreMap_ok (c : Int) (hc : c ≤ maxRuneSliceLen) (vars : Fields) (m : PreMap) :
    ∃ r, evalPreMap (some c) vars m = .ok r := by
  cases m with
  | path segs it => exact getMapValue_ok it vars segs
  | call fn args =>
    obtain ⟨vs, hvs⟩ := resolveArgs_ok vars args
    obtain ⟨b, hb⟩ := callTplFn_ok c hc fn vs
    exact ⟨if b then some (.str "<generated>") else none, by simp [evalPreMap, hvs, hb, Checked.bind]⟩

theorem preprocess_ok (c : Int) (hc : c ≤ maxRuneSliceLen) (vars : Fields) (ms : List (String × PreMap)) :
    ∃ r, preprocess (some c) vars ms = .ok r := by
  induction ms with
  | nil => exact ⟨_, rfl⟩
  | cons km rest ih =>
    obtain ⟨k, m⟩ := km
    obtain ⟨r, hr⟩ := evalPreMap_ok c hc vars m
    obtain ⟨t, ht⟩ := ih
    cases r with
    | none => exact ⟨none, by simp [preprocess, hr]⟩
    | some v => exact ⟨t.map fun fs => (k, v) :: fs, by simp [preprocess, hr, ht, Checked.bind]⟩

theorem maxRandStringLength_le : maxRandStringLength ≤ maxRuneSliceLen := by decide

/-! ## the scenario shot with variables is the scenario shot with the preprocessors resolved -/

theorem shootScenario_cons_stop (scn : String) (s : Step) (rest rest' : List Step)
    (h : ∀ st, s.outcome ≠ .received st .ok) :
    shootScenario scn (s :: rest) = shootScenario scn (s :: rest') := by
  unfold shootScenario stepHttp
  cases ho : s.outcome with
  | received st p =>
    cases p with
    | ok => exact absurd ho (h st)
    | _ => rfl
  | _ => rfl

theorem shootScenarioV_eq (c : Int) (hc : c ≤ maxRuneSliceLen) (h2 : Bool) (scn : String) (steps : List VStep) :
    ∀ s : VarState, shootScenarioV (some c) h2 scn s steps = (GunShot.scenario h2 scn (resolveV (some c) h2 s steps)).run := by
  induction steps with
  | nil => intro s; rfl
  | cons v rest ih =>
    intro s
    unfold shootScenarioV scenarioStepsV resolveV GunShot.run
    simp only []
    obtain ⟨r, hr⟩ := preprocess_ok c hc
      ({ s with request := (v.cfg.name, Val.obj []) :: s.request } : VarState).templateVars v.pre
    rw [hr]
    cases r with
    | none =>
      simp only [List.map_cons]
      have : stepOutcomeH2 h2 v.facts { v.cfg with prepFails := true } v.reply = .prepErr := by
        simp [stepOutcomeH2, stepOutcome]
      rw [this]
      exact shootScenario_cons_stop scn _ _ _ (by intro st h; cases h)
    | some pv =>
      simp only [List.map_cons]
      cases ho : stepOutcomeH2 h2 v.facts v.cfg v.reply with
      | received st p =>
        cases p with
        | ok =>
          simp only []
          have ih' := ih { s with request := (v.cfg.name, Val.obj [("preprocessor", Val.obj pv), ("postprocessor", Val.obj v.post)]) :: s.request }
          unfold shootScenarioV GunShot.run at ih'
          simp only [] at ih'
          unfold shootScenario
          simp only [stepHttp]
          rw [ih']
        | _ => exact shootScenario_cons_stop scn _ _ _ (by intro st' h; cases h)
      | _ => exact shootScenario_cons_stop scn _ _ _ (by intro st' h; cases h)

theorem shootGrpcScenario_cons_stop (scn : String) (s : GrpcStep) (rest rest' : List GrpcStep)
    (h : ∀ c, s.outcome ≠ .invoked c .ok) :
    shootGrpcScenario scn (s :: rest) = shootGrpcScenario scn (s :: rest') := by
  unfold shootGrpcScenario stepGrpc
  cases ho : s.outcome with
  | invoked c p =>
    cases p with
    | ok => exact absurd ho (h c)
    | _ => rfl
  | _ => rfl

theorem shootGrpcScenarioV_eq (c : Int) (hc : c ≤ maxRuneSliceLen) (scn : String) (calls : List VCall) :
    ∀ s : VarState, shootGrpcScenarioV (some c) scn s calls = (GunShot.grpcScenario scn (resolveGrpcV (some c) s calls)).run := by
  induction calls with
  | nil => intro s; rfl
  | cons v rest ih =>
    intro s
    unfold shootGrpcScenarioV resolveGrpcV GunShot.run
    simp only []
    obtain ⟨r, hr⟩ := preprocess_ok c hc
      ({ s with request := (v.name, Val.obj []) :: s.request } : VarState).templateVars v.pre
    rw [hr]
    cases r with
    | none =>
      simp only [List.map_cons]
      have hk : grpcStepOutcome { v.cfg with kind := .prepFails } v.reply = .prepErr := rfl
      rw [hk]
      unfold shootGrpcScenario stepGrpc
      rfl
    | some pv =>
      simp only [List.map_cons]
      cases ho : grpcStepOutcome v.cfg v.reply with
      | invoked code p =>
        cases p with
        | ok =>
          have ih' := ih { s with request := (v.name, Val.obj (callEntry pv v.post)) :: s.request }
          unfold GunShot.run at ih'
          simp only [] at ih'
          unfold shootGrpcScenario
          simp only [stepGrpc]
          rw [ih']
        | _ => unfold shootGrpcScenario stepGrpc; rfl
      | _ => unfold shootGrpcScenario stepGrpc; rfl

/-- resolving the preprocessors changes nothing of a step but `prepFails` -/
theorem resolveV_shape (cap : Option Int) (h2 : Bool) (steps : List VStep) :
    ∀ s : VarState, (resolveV cap h2 s steps).map (fun p => (p.1.name, p.1.pps, p.2)) =
      steps.map (fun v => (v.cfg.name, v.cfg.pps, v.facts, v.reply)) := by
  induction steps with
  | nil => intro s; rfl
  | cons v rest ih =>
    intro s
    unfold resolveV
    simp only []
    split
    · simp only [List.map_cons, ih]
    · simp [List.map_cons, List.map_map, Function.comp_def]

/-- the code as found (no bound on the length): a digit string the peer sends is a length `make([]rune, n)` refuses -/
theorem randString_as_found_panics :
    randString none (.str "99999999999999999") = .panic "makeslice: len out of range" := by decide

end Pandora.Proofs.C19
