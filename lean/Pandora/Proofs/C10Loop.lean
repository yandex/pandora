/-
C10 — the loop body regenerated from `instance.Run` (C03's `Gen.InstLoop.iterBody`, read-only) composed with the guns of
`Model.C10`.
-/
import Pandora.Gen.InstLoop
import Pandora.Model.C10R6
import Pandora.Proofs.C10

namespace Pandora.Proofs.C10
open Pandora.Model.C10 Pandora.Spec.C10
open Pandora.Model.C03Loop (Instr Act Oracle Outcome exec)

/-- every path of the REGENERATED iteration body, by the three answers of the environment -/
theorem exec_iterBody (o : Oracle) :
    exec Gen.InstLoop.iterBody o .run none [] =
      if o.acqOk then
        if o.waitOk then
          if o.fire then ([.acq, .tokOk, .reqAdd, .shoot, .respAdd, .rel], .retNil)
          else ([.acq, .tokOk, .discard, .rel], .retNil)
        else ([.acq, .tokEnd, .rel], .retNil)
      else ([.empty], .retErr) := by
  obtain ⟨a, w, f⟩ := o
  cases a <;> cases w <;> cases f <;> decide

theorem iterReports_gen (o : Oracle) (gun : List Sample) :
    iterReports Gen.InstLoop.iterBody o gun =
      if o.acqOk && o.waitOk then (if o.fire then gun else [discardedSample]) else [] := by
  unfold iterReports
  rw [exec_iterBody]
  obtain ⟨a, w, f⟩ := o
  cases a <;> cases w <;> cases f <;> simp [actReports]

theorem iterShots_gen (o : Oracle) :
    iterShots Gen.InstLoop.iterBody o = if o.acqOk && o.waitOk && o.fire then 1 else 0 := by
  unfold iterShots
  rw [exec_iterBody]
  obtain ⟨a, w, f⟩ := o
  cases a <;> cases w <;> cases f <;> decide

/-- the loop goes on exactly when `Acquire` returned an ammo -/
theorem exec_iterBody_outcome (o : Oracle) :
    (exec Gen.InstLoop.iterBody o .run none []).2 = if o.acqOk then .retNil else .retErr := by
  rw [exec_iterBody]
  obtain ⟨a, w, f⟩ := o
  cases a <;> cases w <;> cases f <;> rfl

theorem runInstance_gen (its : List Iter) :
    runInstance Gen.InstLoop.iterBody its = (ranIters its).flatMap iterSpec := by
  induction its with
  | nil => rfl
  | cons it rest ih =>
    have hr := iterReports_gen it.oracle it.gun
    unfold iterReports at hr
    rw [runInstance, ranIters, hr, exec_iterBody_outcome]
    cases ha : it.acqOk <;> simp [ha, ih, iterSpec, Iter.oracle]

theorem ranIters_sublist (its : List Iter) : (ranIters its).Sublist its := by
  induction its with
  | nil => exact .slnil
  | cons x rest ih =>
    rw [ranIters]
    split
    · exact ih.cons_cons x
    · exact (List.nil_sublist rest).cons_cons x

/-- one sample per iteration that held an ammo and a token, when every `Shoot` reports one -/
theorem flatMap_iterSpec_length (l : List Iter) (hg : ∀ it ∈ l, it.gun.length = 1) :
    (l.flatMap iterSpec).length = (l.filter fun it => it.acqOk && it.waitOk).length := by
  induction l with
  | nil => rfl
  | cons it rest ih =>
    have h1 := hg it (List.mem_cons_self ..)
    rw [List.flatMap_cons, List.length_append, ih fun x hx => hg x (List.mem_cons_of_mem _ hx), List.filter_cons, iterSpec]
    cases it.acqOk && it.waitOk <;> cases it.fire <;> simp [h1, Nat.add_comm]

/-- through the regenerated body, a pool run is the run in which every acquired ammo meets the fate its iteration's
answers give it -/
theorem runPoolLoop_gen {ι : Type} (cfg : AutoTagCfg) (c : Nat) (its : List (ι × ShotPlan × Oracle)) :
    runPoolLoop Gen.InstLoop.iterBody cfg c its =
      runPoolD cfg c ((its.filter (·.2.2.acqOk)).map fun x => (x.1, x.2.1, fateOf x.2.2)) := by
  induction its generalizing c with
  | nil => rfl
  | cons x rest ih =>
    obtain ⟨i, p, o⟩ := x
    unfold runPoolLoop
    by_cases ha : o.acqOk = true
    · simp only [ha, if_true, List.filter_cons, List.map_cons, runPoolD, ih]
      congr 1
      rw [iterReports_gen]
      obtain ⟨a, w, f⟩ := o
      cases w <;> cases f <;> simp_all [fateOf]
    · have hf : o.acqOk = false := by simpa using ha
      simp only [hf, Bool.false_eq_true, if_false, List.filter_cons, ih]
      rw [iterReports_gen]
      simp [hf]

/-- the samples of a run with discarded shots: the gun's samples of the fired ammo, in acquisition order, with one
discarded-shot sample per discarded ammo somewhere in between -/
theorem runPoolD_perm {ι : Type} (cfg : AutoTagCfg) (c : Nat) (plans : List (ι × ShotPlan × Fate)) :
    (runPoolD cfg c plans).Perm
      (runPool cfg c (firedOnly plans) ++ List.replicate (countFate .discarded plans) discardedSample) := by
  induction plans generalizing c with
  | nil => simp [runPoolD, runPool, firedOnly, countFate]
  | cons x rest ih =>
    obtain ⟨i, p, f⟩ := x
    have ih' := ih (nextID c).1
    cases f with
    | fired => simpa [runPoolD, firedOnly, runPool, countFate, ShotPlan.toShot] using List.Perm.append_left _ ih'
    | discarded =>
      simpa [runPoolD, firedOnly, runPool, countFate, List.replicate_succ] using
        (List.Perm.cons discardedSample ih').trans List.perm_middle.symm
    | dropped => simpa [runPoolD, firedOnly, runPool, countFate] using ih'

theorem firedOnly_length {ι : Type} (plans : List (ι × ShotPlan × Fate)) : (firedOnly plans).length = plans.length := by
  simp [firedOnly]

theorem firedOnly_fired {ι : Type} (plans : List (ι × ShotPlan × Fate)) :
    ((firedOnly plans).filter (·.2.fired)).length = countFate .fired plans := by
  induction plans with
  | nil => rfl
  | cons x rest ih =>
    obtain ⟨i, p, f⟩ := x
    simp only [firedOnly, List.map_cons, countFate, List.filter_cons] at ih ⊢
    cases f <;> simp_all

end Pandora.Proofs.C10
