/-
C05 — termination of runs nobody cancels: under the finite-input contract (`MustFin`: the startup schedule ends and
every `instance.Run` returns — ammo and schedules are finite) a state in which nothing that is bound to happen can
change anything has its run context cancelled, so `progress` applies: it need not be assumed.
-/
import Pandora.Proofs.C05Prog

namespace Pandora.Proofs.C05
open Pandora.Model.C05

/-- `Must` plus the finite-input contract: the startup schedule ends (`waiter.Wait(startCtx)` eventually returns
false) and every `instance.Run` returns (ammo and RPS schedules are finite, `Shoot` returns). Still not bound to
happen: the caller's cancel, further startup tokens, the end of a shared schedule before the instances finish, and a
provider / aggregator returning while its context is live. -/
def MustFin (s : State) : Choice → Prop
  | .startEnd => True
  | .instRet _ _ => True
  | c => Must s c

def QuiescentFin (cfg : Cfg) (s : State) : Prop := ∀ c, MustFin s c → step cfg s c = s

/-- in such a state the run context IS cancelled: all instances were awaited (or `Pool.Run` has returned) -/
theorem runC_of_quiescentFin (cfg : Cfg) (s : State) (ha : InvA s) (hg : InvG cfg s) (hK : InvK s)
    (hq : QuiescentFin cfg s) : s.runC = true := by
  have hW := ha.1
  obtain ⟨m1, m2⟩ := main_of_stuck (hq _ trivial) (hq _ trivial)
  cases hm : s.main with
  | init => exact absurd hm m1
  | warmed => exact absurd hm m2
  | returned r => exact hW.ctx1 (hW.retCancel r hm)
  | selecting =>
    have hne : s.aw ≠ .off := hg.sel hm
    cases haw : s.aw with
    | off => exact absurd haw hne
    | onErr w r chk => exact absurd hm (main_of_stuck_onErr haw (hq .errDeliver trivial))
    | finished => exact absurd hm (main_of_stuck_finished hW haw (hq .mainClosed trivial))
    | loop =>
      -- the start goroutine has ended and its result was taken, every instance has returned: so
      -- `checkAllInstancesAreFinished` has closed `runRes`, which cancels the run context
      have p3 := (start_of_stuck (hq .startEnd trivial)).resolve_left (hW.on hne).2.2.1
      have c3 := startTaken_of_stuck hW haw p3 (hq .awaitStart trivial)
      have l1 := live_of_stuck (hq _ trivial) (hq _ trivial)
      exact hK.closed hne (closed_of_stuck ha haw c3 l1 (hq .awaitRun trivial))

end Pandora.Proofs.C05
