/-
C08: what Go's `select` adds to the possibilistic model after a cancel.

`C08_conc_cancel_stops_counterexample`: without fairness grpc/json and the generic JSON provider (no ctx check at the
loop top) may send `k` more ammo after a cancel for every `k` — the scheduler keeps taking the send case.  The Go
specification resolves a `select` with several ready cases by a uniform pseudo-random choice.  Here that choice is a
coin per select: `coinRun` drives `Run` alone after a cancel against a consumer that is always ready (the worst case:
the send case is always ready too), taking the send case on `true` and the Done case on `false`.  Among the `2^k`
equally likely outcomes of the first `k` coins at most `2^(k-j)` let `Run` send `j` more ammo (`heads_count`,
`coinRun_sent`): the probability of `j` further sends is at most `2^-j`, whatever the provider kind and the state it is
cancelled in, and the first `false` ends `Run`.  Core Lean only.
-/
import Pandora.Model.C08Mach

namespace Pandora.Proofs.C08
open Pandora.Model.C08

/-- `Run` on its own after a cancel, one consumer always ready; a coin decides every select that has a ready send -/
def coinRun (inp : Input) (n cap : Nat) : Nat → List Bool → Sys → Sys
  | 0, _, s => s
  | fuel + 1, coins, s =>
    if s.result.isSome then s else
    match s.offering with
    | none => coinRun inp n cap fuel coins ((s.next inp n cap 1 .prod).getD s)
    | some _ =>
      match coins with
      | [] => s
      | true :: cs =>
        coinRun inp n cap fuel cs ((s.next inp n cap 1 (.hand 0)).getD ((s.next inp n cap 1 .push).getD s))
      | false :: cs => coinRun inp n cap fuel cs ((s.next inp n cap 1 .done).getD s)

/-- the number of selects that took the send case before the first one that took Done -/
def heads : List Bool → Nat
  | true :: cs => heads cs + 1
  | _ => 0

theorem prod_keeps (inp : Input) (n cap cons : Nat) (s s' : Sys) (h : s.next inp n cap cons .prod = some s') :
    s'.sent = s.sent ∧ s'.cancelled = s.cancelled := by
  simp only [Sys.next] at h
  split at h
  · cases h
  · split at h <;> cases h <;> exact ⟨rfl, rfl⟩

theorem push_adds (inp : Input) (n cap cons : Nat) (s s' : Sys) (h : s.next inp n cap cons .push = some s') :
    s'.sent = s.sent + 1 ∧ s'.cancelled = s.cancelled := by
  simp only [Sys.next] at h
  split at h
  · split at h
    · cases h; refine ⟨?_, rfl⟩; simp [Sys.sent]; omega
    · cases h
  · cases h

theorem hand_adds (inp : Input) (n cap cons c : Nat) (s s' : Sys) (h : s.next inp n cap cons (.hand c) = some s') :
    s'.sent = s.sent + 1 ∧ s'.cancelled = s.cancelled := by
  simp only [Sys.next] at h
  split at h
  · split at h
    · cases h; refine ⟨?_, rfl⟩; simp [Sys.sent]; omega
    · cases h
  · cases h

/-- with the context cancelled the Done case of a select in progress is ready, and taking it ends `Run` -/
theorem done_ends (inp : Input) (n cap cons : Nat) (s : Sys) (hr : s.result.isSome = false) (ho : s.offering.isSome = true)
    (hc : s.cancelled = true) :
    ∃ s', s.next inp n cap cons .done = some s' ∧ s'.result.isSome = true ∧ s'.sent = s.sent := by
  have hr' : s.result.isNone = true := by cases h : s.result <;> simp_all
  exact ⟨{ s with offering := none, result := some (doneResOf inp.kind), closed := true },
    by simp only [Sys.next, hr', ho, hc, and_self, if_true], rfl, rfl⟩

theorem coinRun_of_result (inp : Input) (n cap : Nat) (fuel : Nat) (coins : List Bool) (s : Sys)
    (h : s.result.isSome = true) : coinRun inp n cap fuel coins s = s := by
  cases fuel with
  | zero => rfl
  | succ f => simp [coinRun, h]

/-- every further send costs a coin that came up `true`, and there is none after the first `false` -/
theorem coinRun_sent (inp : Input) (n cap : Nat) (fuel : Nat) : ∀ (coins : List Bool) (s : Sys), s.cancelled = true →
    (coinRun inp n cap fuel coins s).sent ≤ s.sent + heads coins := by
  induction fuel with
  | zero => intro coins s _; simp [coinRun]
  | succ fuel ih =>
    intro coins s hc
    unfold coinRun
    by_cases hr : s.result.isSome = true
    · simp [hr]
    · have hr' : s.result.isSome = false := by simpa using hr
      simp only [hr', Bool.false_eq_true, if_false]
      cases ho : s.offering with
      | none =>
        simp only
        cases hp : s.next inp n cap 1 .prod with
        | none => simpa using ih coins s hc
        | some s' =>
          obtain ⟨h1, h2⟩ := prod_keeps inp n cap 1 s s' hp
          have := ih coins s' (by rw [h2, hc])
          simp only [Option.getD_some]; omega
      | some o =>
        simp only
        cases coins with
        | nil => simp
        | cons b cs =>
          cases b with
          | true =>
            simp only [heads]
            have key : ∀ s1 : Sys, s1.cancelled = true → s1.sent ≤ s.sent + 1 →
                (coinRun inp n cap fuel cs s1).sent ≤ s.sent + (heads cs + 1) := by
              intro s1 hc1 hs1
              have := ih cs s1 hc1
              omega
            cases hh : s.next inp n cap 1 (.hand 0) with
            | some s1 =>
              obtain ⟨h1, h2⟩ := hand_adds inp n cap 1 0 s s1 hh
              simp only [Option.getD_some]
              exact key s1 (by rw [h2, hc]) (by omega)
            | none =>
              simp only [Option.getD_none]
              cases hpu : s.next inp n cap 1 .push with
              | some s1 =>
                obtain ⟨h1, h2⟩ := push_adds inp n cap 1 s s1 hpu
                simp only [Option.getD_some]
                exact key s1 (by rw [h2, hc]) (by omega)
              | none =>
                simp only [Option.getD_none]
                exact key s hc (by omega)
          | false =>
            obtain ⟨s', h1, h2, h3⟩ := done_ends inp n cap 1 s hr' (by simp [ho]) hc
            simp only [h1, Option.getD_some, heads]
            rw [coinRun_of_result inp n cap fuel cs s' h2]
            omega

/-- the first coin that comes up `false` while a select is in progress ends `Run` -/
theorem coinRun_tail (inp : Input) (n cap : Nat) (fuel : Nat) (cs : List Bool) (s : Sys)
    (hr : s.result.isSome = false) (ho : s.offering.isSome = true) (hc : s.cancelled = true) :
    (coinRun inp n cap (fuel + 1) (false :: cs) s).result.isSome = true := by
  obtain ⟨s', h1, h2, _⟩ := done_ends inp n cap 1 s hr ho hc
  unfold coinRun
  simp only [hr, Bool.false_eq_true, if_false]
  cases ho' : s.offering with
  | none => simp [ho'] at ho
  | some o =>
    simp only [h1, Option.getD_some]
    rw [coinRun_of_result inp n cap fuel cs s' h2]
    exact h2

/-- all outcomes of `k` coins -/
def allCoins : Nat → List (List Bool)
  | 0 => [[]]
  | k + 1 => (allCoins k).map (true :: ·) ++ (allCoins k).map (false :: ·)

theorem allCoins_length (k : Nat) : (allCoins k).length = 2 ^ k := by
  induction k with
  | zero => rfl
  | succ k ih => simp [allCoins, ih, Nat.pow_succ]; omega

theorem filter_length_mono {α : Type} (p q : α → Bool) (l : List α) (h : ∀ a, p a = true → q a = true) :
    (l.filter p).length ≤ (l.filter q).length := by
  rw [← List.countP_eq_length_filter, ← List.countP_eq_length_filter]
  exact List.countP_mono_left fun a _ => h a

/-- exactly `2^(k-j)` of the `2^k` outcomes of `k` coins start with `j` times `true` -/
theorem heads_count (k : Nat) : ∀ j, j ≤ k → ((allCoins k).filter (fun cs => decide (j ≤ heads cs))).length = 2 ^ (k - j) := by
  induction k with
  | zero =>
    intro j hj
    have : j = 0 := by omega
    subst this
    simp [allCoins]
  | succ k ih =>
    intro j hj
    cases j with
    | zero =>
      rw [List.filter_eq_self.mpr (by intro a _; simp), allCoins_length]
      simp
    | succ j =>
      simp only [allCoins, List.filter_append, List.length_append, List.filter_map, List.length_map, Function.comp_def]
      have h1 : ((allCoins k).filter (fun a => decide (j + 1 ≤ heads (true :: a)))).length = 2 ^ (k - j) := by
        have : (fun a : List Bool => decide (j + 1 ≤ heads (true :: a))) = (fun a => decide (j ≤ heads a)) := by
          funext a; simp [heads]
        rw [this]; exact ih j (by omega)
      have h2 : ((allCoins k).filter (fun a => decide (j + 1 ≤ heads (false :: a)))).length = 0 := by
        rw [List.filter_eq_nil_iff.mpr (by intro a _; simp [heads])]; rfl
      rw [h1, h2]
      have : k + 1 - (j + 1) = k - j := by omega
      rw [this]; omega

end Pandora.Proofs.C08
