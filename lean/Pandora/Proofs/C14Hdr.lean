/-
C14: the uri / uripost decoder WITH its header accumulator (`Model.C14H.scanLines`) is a decoder in the
sense of `Proofs/C08Src.Src` over the list of decoded entries `decodeLines` — so the analyses of runFullScan,
LoadAmmo and the cyclic replay loop apply to it unchanged — and in every pass it hands to `a.Setup`, for entry `i`,
exactly the header map `(decodeLines s)[i].hdr` (the accumulator is REPLACED when Scan wraps, and an entry gets a
clone).  Core Lean only.
-/
import Pandora.Model.C14Hdr
import Pandora.Proofs.C14

namespace Pandora.Proofs.C14H
open Pandora.Model.C08 hiding fullScan httpRun runFuel run
open Pandora.Model.C14 Pandora.Model.C14H Pandora.Proofs.C08 Pandora.Proofs.C14

/-! ## the accumulator -/

theorem accAt_zero (s : Source) : accAt s 0 = [] := by simp [accAt]

theorem accAt_succ (s : Source) (r : Nat) : accAt s (r + 1) = (s.block r).foldl HMap.setH (accAt s r) := by
  unfold accAt
  rw [List.range_succ, List.flatMap_append, List.foldl_append]
  simp

theorem decode_length (k : Fmt) (s : Source) : (decode k s).length = s.n := by
  simp [decode, Source.n]

theorem decode_getElem? (k : Fmt) (s : Source) (i : Nat) :
    (decode k s)[i]? = (s.tags[i]?).map (entryOf k s i) := by
  unfold decode
  rw [List.getElem?_zipWith]
  by_cases h : i < s.tags.length
  · simp [List.getElem?_range h, List.getElem?_eq_getElem h]
  · have h1 : s.tags[i]? = none := List.getElem?_eq_none (by omega)
    simp [h1]

/-- every decoded entry is `entryOf` of its position and tag -/
theorem mem_decode (k : Fmt) (s : Source) (e : EntryH) (h : e ∈ decode k s) :
    ∃ i t, s.tags[i]? = some t ∧ e = entryOf k s i t := by
  obtain ⟨i, hi⟩ := List.getElem?_of_mem h
  rw [decode_getElem?] at hi
  cases ht : s.tags[i]? with
  | none => rw [ht] at hi; simp at hi
  | some t => rw [ht] at hi; exact ⟨i, t, ht, by simpa using hi.symm⟩

/-! ## `scanLines` is a `Src` -/

/-- the decoder state after `q` complete passes and `r` entries of the current pass: counters as for every stream
decoder; the accumulator holds exactly the header lines of the current pass read so far; the map handed out with the
last entry is the one `decodeLines` says -/
def RLine (s : Source) (q r : Nat) (d : LDec) : Prop :=
  d.pos = r ∧ d.passNum = q ∧ d.ammoNum = q * s.n + r ∧ r ≤ s.n ∧ d.acc = accAt s r ∧
    (∀ i, r = i + 1 → d.last = hdrLines s i)

theorem RLine_init (s : Source) : RLine s 0 0 LDec.init := by
  simp [RLine, LDec.init, accAt_zero]

theorem src_lines (s : Source) (passes : Nat) (hn : 0 < s.n) :
    Src (scanLines s ⟨0, passes⟩) s.n passes (RLine s) where
  next := by
    intro q r d ⟨h1, h2, h3, h4, h5, _⟩ hr _
    refine ⟨{ d with pos := d.pos + 1, acc := (s.block d.pos).foldl HMap.setH d.acc, ammoNum := d.ammoNum + 1,
                     last := mergeMissing ((s.block d.pos).foldl HMap.setH d.acc) (cfgMap s.ch) }, ?_, ?_⟩
    · have : d.pos < s.n := by omega
      simp [scanLines, scanLinesLoop, this, ← h1]
    · refine ⟨by simp [h1], h2, by simp [h3]; omega, by omega, ?_, ?_⟩
      · simp only [h1, h5, accAt_succ]
      · intro i hi
        have : i = r := by omega
        subst this
        simp only [h1, h5, hdrLines, accAt_succ]
  wrap := by
    intro q d ⟨h1, h2, h3, _, _, _⟩ hp
    have hne : ¬ (¬ passes = 0 ∧ passes ≤ q + 1) := by omega
    have hn' : ¬ (s.n < s.n) := by omega
    have hn0 : ¬ (s.n = 0) := by omega
    refine ⟨{ d with pos := 1, acc := (s.block 0).foldl HMap.setH [], ammoNum := d.ammoNum + 1, passNum := q + 1,
                     last := mergeMissing ((s.block 0).foldl HMap.setH []) (cfgMap s.ch) }, ?_, ?_⟩
    · simp [scanLines, scanLinesLoop, h1, h2, h3, hn, hn', hne, hn0]
    · refine ⟨rfl, rfl, by simp [h3, Nat.succ_mul], by omega, ?_, ?_⟩
      · simp only [accAt_succ, accAt_zero]
      · intro i hi
        have : i = 0 := by omega
        subst this
        simp only [hdrLines, accAt_succ, accAt_zero]
  stop := by
    intro q d ⟨h1, h2, _, _, _, _⟩ hp0 hp
    have hn' : ¬ (s.n < s.n) := by omega
    refine ⟨{ d with acc := (s.block s.n).foldl HMap.setH d.acc, passNum := q + 1 }, ?_⟩
    simp [scanLines, scanLinesLoop, h1, h2, hn', hp0, hp]

theorem passFacts_lines (s : Source) : PassFacts (fun d : LDec => d.passNum) s.n (RLine s) where
  pos_imp := by
    intro q r d ⟨_, h2, _⟩ hp
    left; simpa [h2] using hp
  of_q := by
    intro q r d ⟨_, h2, _⟩ hq
    simpa [h2] using hq

/-- **what the decoder hands out is the decoded entry, in every pass**: from the state after `q` passes and `r`
entries, `Scan` returns entry `r` and the header map it passed to `a.Setup` is `(decodeLines s)[r].hdr` (next entry
of the pass), resp. entry `0` with `(decodeLines s)[0].hdr` (first entry after wrapping to the next pass: the
accumulator was replaced by an empty map, nothing of the previous pass is left in it). -/
theorem lines_handout (s : Source) (passes : Nat) (hn : 0 < s.n) (q r : Nat) (d : LDec) (hR : RLine s q r d) :
    (r < s.n → (passes = 0 ∨ q < passes) →
      ∃ d', scanLines s ⟨0, passes⟩ d = (.ammo r, d') ∧ RLine s q (r + 1) d' ∧
        ((decodeLines s)[r]?).map (·.hdr) = some d'.last) ∧
    (r = s.n → (passes = 0 ∨ q + 1 < passes) →
      ∃ d', scanLines s ⟨0, passes⟩ d = (.ammo 0, d') ∧ RLine s (q + 1) 1 d' ∧
        ((decodeLines s)[0]?).map (·.hdr) = some d'.last) := by
  have hdr_at : ∀ i, i < s.n → ((decodeLines s)[i]?).map (·.hdr) = some (hdrLines s i) := by
    intro i hi
    have : i < s.tags.length := hi
    rw [decode_getElem?, List.getElem?_eq_getElem this]
    simp [entryOf]
  constructor
  · intro hr hq
    obtain ⟨d', hs, hR'⟩ := (src_lines s passes hn).next q r d hR hr hq
    exact ⟨d', hs, hR', by rw [hdr_at r hr, hR'.2.2.2.2.2 r rfl]⟩
  · intro hr hq
    subst hr
    obtain ⟨d', hs, hR'⟩ := (src_lines s passes hn).wrap q d hR hq
    exact ⟨d', hs, hR', by rw [hdr_at 0 hn, hR'.2.2.2.2.2 0 rfl]⟩

/-! ## `Provider.Run` over the decoder with its accumulator -/

theorem runLinesFuel_spec (s : Source) (preload : Bool) (chosen : EntryH → Bool) (b : Bounds)
    (cancelAt : Option Nat) (T : Nat) (hf : 0 < ((decodeLines s).filter chosen).length)
    (tg : Tgt b.limit b.passes ((decodeLines s).filter chosen).length cancelAt T) :
    runLinesFuel s preload chosen b cancelAt (fuelFor T (decodeLines s).length ((decodeLines s).filter chosen).length)
      = some ⟨cycTake ((decodeLines s).filter chosen) T, endRes cancelAt T, true⟩ := by
  have hlen : (decodeLines s).length = s.n := decode_length _ s
  have hn : 0 < (decodeLines s).length := Nat.lt_of_lt_of_le hf (List.length_filter_le _ _)
  have hn' : 0 < s.n := by omega
  unfold runLinesFuel
  by_cases hpc : loadSeesCancel .uri preload cancelAt = true
  · rw [if_pos hpc]
    have hT := T_zero_of_loadSeesCancel .uri preload cancelAt T hpc tg
    subst hT
    have hc : cancelled cancelAt 0 = true := by
      unfold loadSeesCancel at hpc; simp only [Bool.and_eq_true] at hpc; exact hpc.2
    simp [cycTake_zero, endRes, hc]
  rw [if_neg hpc]
  refine httpRun_spec (scanLines s) (·.passNum) LDec.init (RLine s) (decodeLines s) chosen preload b cancelAt T hn hf
    ?_ ?_ ?_ (RLine_init s) tg
  · rw [hlen]; exact src_lines s 1 hn'
  · rw [hlen]; exact src_lines s b.passes hn'
  · rw [hlen]; exact passFacts_lines s

theorem runLinesFuel_nomatch (s : Source) (preload : Bool) (chosen : EntryH → Bool) (b : Bounds)
    (cancelAt : Option Nat) (hf : ((decodeLines s).filter chosen).length = 0) (hc : cancelAt ≠ some 0) :
    runLinesFuel s preload chosen b cancelAt (fuelNoMatch (decodeLines s).length) = some ⟨[], .errNoAmmo, true⟩ := by
  have hc0 := cancelled_zero cancelAt hc
  have hf' : (decodeLines s).filter chosen = [] := List.eq_nil_of_length_eq_zero hf
  have hlen : (decodeLines s).length = s.n := decode_length _ s
  by_cases hn : 0 < (decodeLines s).length
  · have hn' : 0 < s.n := by omega
    unfold runLinesFuel
    rw [loadSeesCancel_false .uri preload cancelAt hc0]
    simp only [Bool.false_eq_true, if_false]
    refine httpRun_nomatch (scanLines s) (·.passNum) LDec.init (RLine s) (decodeLines s) chosen preload b cancelAt
      hn hf' hc0 ?_ ?_ ?_ (RLine_init s)
    · rw [hlen]; exact src_lines s 1 hn'
    · rw [hlen]; exact src_lines s b.passes hn'
    · rw [hlen]; exact passFacts_lines s
  · -- a source without entries: `Scan` hits EOF at once
    have h0 : s.n = 0 := by omega
    have hd : decodeLines s = [] := List.eq_nil_of_length_eq_zero (by omega)
    have hlt : ¬ (0 < s.n) := by omega
    unfold runLinesFuel
    rw [loadSeesCancel_false .uri preload cancelAt hc0]
    simp only [Bool.false_eq_true, if_false]
    rw [hd]
    by_cases hp : ¬ b.passes = 0 ∧ b.passes ≤ 1 <;>
    cases preload <;>
      simp [httpRun, fuelNoMatch, fullScan, loadAmmo, runPreloaded, scanLines, scanLinesLoop, LDec.init, hc0,
        mapSentinel, hp, hlt]

/-! ## membership in a cyclic prefix -/

theorem mem_rep {α : Type} (q : Nat) (F : List α) (a : α) (h : a ∈ rep q F) : a ∈ F := by
  unfold rep at h
  simp only [List.mem_flatten, List.mem_replicate] at h
  obtain ⟨l, ⟨_, rfl⟩, ha⟩ := h
  exact ha

theorem mem_cycTake {α : Type} (F : List α) (t : Nat) (a : α) (h : a ∈ cycTake F t) : a ∈ F :=
  mem_rep t F a (List.mem_of_mem_take h)

/-! ## the variant without the clone -/

/-- if only the first block declares headers (all `[K: v]` lines stand before the first entry), the accumulator
never changes after it -/
theorem accAt_top_only (s : Source) (h : ∀ i, 1 ≤ i → s.block i = []) : ∀ r, 1 ≤ r → accAt s r = accAt s 1 := by
  intro r hr
  induction r with
  | zero => omega
  | succ r ih =>
    by_cases h1 : r = 0
    · subst h1; rfl
    · rw [accAt_succ, h r (by omega), List.foldl_nil]; exact ih (by omega)

theorem mergeMissing_nil (m : HMap) : mergeMissing m (cfgMap []) = m := by simp [mergeMissing, cfgMap]

end Pandora.Proofs.C14H
