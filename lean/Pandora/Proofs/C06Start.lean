/-
C06 helper lemmas: `startInstances` returns the number of goroutines it started (Model/C06Start.lean), and what the
pool's transition system sees of it.
-/
import Pandora.Model.C06Start

namespace Pandora.Proofs.C06Start
open Pandora.Model.C06Start
open Pandora.Model.C06Pool (PSt PEv)

/-- `started` runs one ahead of the goroutines exactly between the first `started++` and the first `go` -/
def SInv (st : St) : Prop :=
  st.started = st.launched + (if st.pc = .firstGo then 1 else 0) ∧
  ((st.pc = .firstWait ∨ st.pc = .firstNew) → st.launched = 0)

theorem sinv_init : SInv {} := by simp [SInv]

theorem sinv_step {st : St} (h : SInv st) (e : SEv) : SInv (step {} st e) := by
  obtain ⟨h1, h2⟩ := h
  cases e <;> simp only [step] <;> split <;> (try split) <;> simp_all [SInv]

theorem sinv_run (tr : List SEv) {st : St} (h : SInv st) : SInv (run {} st tr) := by
  induction tr generalizing st with
  | nil => exact h
  | cons e es ih => exact ih (sinv_step h e)

/-! ### what the pool sees -/

theorem pool_run_append (a b : List PEv) (pst : PSt) :
    Pandora.Model.C06Pool.run pst (a ++ b) = Pandora.Model.C06Pool.run (Pandora.Model.C06Pool.run pst a) b := by
  induction a generalizing pst with
  | nil => rfl
  | cons e es ih => exact ih _

/-- the pool's view of `startInstances`: as many `.launch`es as goroutines, `starting` until it returns, the start
result on its way from then on -/
def Rel (k : Nat) (st : St) (pst : PSt) : Prop :=
  pst.launched = st.launched ∧ pst.running = st.launched ∧
  (pst.starting = true ↔ st.pc ≠ .returned) ∧ (pst.startSent = true ↔ st.pc = .returned) ∧
  -- the await loop's bookkeeping is untouched by `.launch` / `.startDone`
  pst.toWait = k ∧ pst.startResOpen = true

theorem rel_init (k : Nat) : Rel k {} (Pandora.Model.C06Pool.init k) := by
  simp [Rel, Pandora.Model.C06Pool.init]

/-- what the pool can see of one step: nothing, one more goroutine, or the return -/
theorem step_shape (cfg : Cfg) (st : St) (e : SEv) :
    (step cfg st e).launched = st.launched ∧ ((step cfg st e).pc = .returned ↔ st.pc = .returned) ∨
    (step cfg st e).launched = st.launched + 1 ∧ st.pc ≠ .returned ∧ (step cfg st e).pc ≠ .returned ∨
    (step cfg st e).launched = st.launched ∧ st.pc ≠ .returned ∧ (step cfg st e).pc = .returned := by
  cases e <;> simp only [step] <;> split <;> (try split) <;> simp [*]

theorem rel_step (cfg : Cfg) {k : Nat} {st : St} {pst : PSt} (h : Rel k st pst) (e : SEv) :
    Rel k (step cfg st e) (Pandora.Model.C06Pool.run pst (poolEvents cfg st e)) := by
  obtain ⟨h1, h2, h3, h4, h5, h6⟩ := h
  unfold poolEvents
  rcases step_shape cfg st e with ⟨hl, hp⟩ | ⟨hl, hp, hp'⟩ | ⟨hl, hp, hp'⟩
  · have : ¬ (st.pc ≠ .returned ∧ (step cfg st e).pc = .returned) := fun h => h.1 (hp.mp h.2)
    simp only [hl, Nat.left_eq_add, Nat.one_ne_zero, if_false, this, List.append_nil, Pandora.Model.C06Pool.run]
    exact ⟨h1.trans hl.symm, h2.trans hl.symm, h3.trans (not_congr hp.symm), h4.trans hp.symm, h5, h6⟩
  · have hs : pst.starting = true := h3.mpr hp
    simp [hl, hp', Rel, Pandora.Model.C06Pool.run, Pandora.Model.C06Pool.step, hs, h1, h2, h5, h6]
    simpa [hp] using h4
  · have hs : pst.starting = true := h3.mpr hp
    simp [hl, hp, hp', Rel, Pandora.Model.C06Pool.run, Pandora.Model.C06Pool.step, hs, h1, h2, h5, h6]

theorem rel_run (cfg : Cfg) {k : Nat} (tr : List SEv) {st : St} {pst : PSt} (h : Rel k st pst) :
    Rel k (run cfg st tr) (Pandora.Model.C06Pool.run pst (poolTrace cfg st tr)) := by
  induction tr generalizing st pst with
  | nil => exact h
  | cons e es ih =>
    simp only [run, poolTrace, pool_run_append]
    exact ih (rel_step cfg h e)

/-- once `startInstances` has returned no event changes its state, in either variant -/
theorem early_failed_stays (cfg : Cfg) (tr : List SEv) (st : St) (h : st.pc = .returned) :
    run cfg st tr = st := by
  induction tr generalizing st with
  | nil => rfl
  | cons e es ih =>
    have : step cfg st e = st := by cases e <;> simp [step, h]
    simp only [run, this]; exact ih st h

end Pandora.Proofs.C06Start
