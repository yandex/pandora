/-
Lemmas for Props/C11.lean (core Lean only): lock hand-over, data-race freedom of well-formed traces, view
non-interference, gun exclusivity.
-/
import Pandora.Model.C11Sharing

namespace Pandora.Proofs.C11
open Pandora.Model.C11

/-! ### list helpers -/

theorem getElem?_at {α} (tr xs : List α) (x : α) (ys : List α) (n : Nat)
    (h : tr = xs ++ x :: ys) (hn : n = xs.length) : tr[n]? = some x := by
  subst h; subst hn; simp

theorem split_of_getElem? {α} : ∀ (l : List α) (i : Nat) (a : α), l[i]? = some a →
    ∃ pre post, l = pre ++ a :: post ∧ pre.length = i := by
  intro l
  induction l with
  | nil => intro i a h; simp at h
  | cons x xs ih =>
    intro i a h
    cases i with
    | zero => simp at h; subst h; exact ⟨[], xs, rfl, rfl⟩
    | succ n =>
      simp at h
      obtain ⟨pre, post, hp, hl⟩ := ih n a h
      exact ⟨x :: pre, post, by simp [hp], by simp [hl]⟩

/-! ### locks -/

theorem locksAfter_cons (h : Locks) (e : Ev) (es : List Ev) : locksAfter h (e :: es) = locksAfter (next h e) es := rfl

theorem locksAfter_append (h : Locks) (xs ys : List Ev) :
    locksAfter h (xs ++ ys) = locksAfter (locksAfter h xs) ys := by
  simp [locksAfter, List.foldl_append]

theorem WF_append (cls : Nat → Class) : ∀ (xs ys : List Ev) (h : Locks),
    WF cls h (xs ++ ys) ↔ WF cls h xs ∧ WF cls (locksAfter h xs) ys := by
  intro xs
  induction xs with
  | nil => intro ys h; simp [WF, locksAfter]
  | cons e es ih =>
    intro ys h
    simp only [List.cons_append, WF, locksAfter_cons]
    rw [ih ys (next h e)]
    exact and_assoc.symm

theorem set_same (h : Locks) (l : Nat) (v : Option Nat) : (h.set l v) l = v := by simp [Locks.set]
theorem set_other (h : Locks) (l l' : Nat) (v : Option Nat) (hne : l' ≠ l) : (h.set l v) l' = h l' := by
  simp [Locks.set, hne]

/-- whoever holds `l` keeps it until he releases it himself -/
theorem next_keeps (cls : Nat → Class) (h : Locks) (l i : Nat) (e : Ev) (hl : h l = some i) (hok : stepOk cls h e)
    (hne : e ≠ Ev.rel i l) : (next h e) l = some i := by
  cases e with
  | acc t o w v => exact hl
  | acq t l' =>
    by_cases hll : l = l'
    · subst hll
      have hfree : h l = none := hok
      rw [hl] at hfree
      cases hfree
    · exact (set_other _ _ _ _ hll).trans hl
  | rel t l' =>
    by_cases hll : l = l'
    · subst hll
      have hheld : h l = some t := hok
      rw [hl] at hheld
      exact absurd (by rw [Option.some.inj hheld]) hne
    · exact (set_other _ _ _ _ hll).trans hl

/-- whoever ends up holding `l` although it was not held by them before has acquired it -/
theorem exists_acq (l t2 : Nat) : ∀ (mid : List Ev) (h : Locks), h l ≠ some t2 → (locksAfter h mid) l = some t2 →
    ∃ m1 m2, mid = m1 ++ Ev.acq t2 l :: m2 := by
  intro mid
  induction mid with
  | nil => intro h h1 h2; exact absurd h2 h1
  | cons e es ih =>
    intro h h1 h2
    by_cases he : e = Ev.acq t2 l
    · exact ⟨[], es, by simp [he]⟩
    · rw [locksAfter_cons] at h2
      have hn : (next h e) l ≠ some t2 := by
        cases e with
        | acc t o w v => exact h1
        | acq t l' =>
          simp only [next]
          by_cases hl : l = l'
          · subst hl
            rw [set_same]
            intro hc
            apply he
            rw [Option.some.inj hc]
          · rw [set_other _ _ _ _ hl]; exact h1
        | rel t l' =>
          simp only [next]
          by_cases hl : l = l'
          · subst hl; rw [set_same]; simp
          · rw [set_other _ _ _ _ hl]; exact h1
      obtain ⟨m1, m2, hm⟩ := ih (next h e) hn h2
      exact ⟨e :: m1, m2, by simp [hm]⟩

/-- lock hand-over: if `t1` holds `l` and later `t2 ≠ t1` holds it, then in between `t1` released it and after that
`t2` acquired it -/
theorem exists_rel_acq (cls : Nat → Class) (l t1 t2 : Nat) (hne : t1 ≠ t2) : ∀ (mid : List Ev) (h : Locks),
    h l = some t1 → WF cls h mid → (locksAfter h mid) l = some t2 →
    ∃ m1 m2 m3, mid = m1 ++ Ev.rel t1 l :: m2 ++ Ev.acq t2 l :: m3 := by
  intro mid
  induction mid with
  | nil =>
    intro h h1 _ h2
    simp only [locksAfter, List.foldl_nil] at h2
    rw [h1] at h2
    exact absurd (Option.some.inj h2) hne
  | cons e es ih =>
    intro h h1 hwf h2
    obtain ⟨hok, hwf'⟩ := hwf
    rw [locksAfter_cons] at h2
    by_cases he : e = Ev.rel t1 l
    · subst he
      have hn : (next h (Ev.rel t1 l)) l ≠ some t2 := by simp [next, set_same]
      obtain ⟨m2, m3, hm⟩ := exists_acq l t2 es _ hn h2
      exact ⟨[], m2, m3, by simp [hm]⟩
    · have hkeep := next_keeps cls h l t1 e h1 hok he
      obtain ⟨m1, m2, m3, hm⟩ := ih (next h e) hkeep hwf' h2
      exact ⟨e :: m1, m2, m3, by simp [hm]⟩

theorem drf_decomposed (cls : Nat → Class) (pre mid post : List Ev) (a b : Ev)
    (hwf : WF cls noLocks (pre ++ a :: (mid ++ b :: post))) (hc : Conflict a b) :
    HB (pre ++ a :: (mid ++ b :: post)) pre.length (pre.length + 1 + mid.length) := by
  cases a with
  | acq t l => simp [Conflict] at hc
  | rel t l => simp [Conflict] at hc
  | acc t1 o w1 v1 =>
    cases b with
    | acq t l => simp [Conflict] at hc
    | rel t l => simp [Conflict] at hc
    | acc t2 o2 w2 v2 =>
      obtain ⟨ho, hne, hw⟩ := hc
      subst ho
      rw [WF_append] at hwf
      obtain ⟨_, hwf1⟩ := hwf
      obtain ⟨hoka, hwf2⟩ := hwf1
      simp only [next] at hwf2
      rw [WF_append] at hwf2
      obtain ⟨hwfmid, hwf3⟩ := hwf2
      obtain ⟨hokb, _⟩ := hwf3
      simp only [stepOk] at hoka hokb
      cases hcls : cls o with
      | loc i =>
        rw [hcls] at hoka hokb
        simp only at hoka hokb
        exact absurd (hoka.trans hokb.symm) hne
      | sharedRO =>
        rw [hcls] at hoka hokb
        simp only at hoka hokb
        rcases hw with h | h
        · rw [hoka] at h; cases h
        · rw [hokb] at h; cases h
      | sharedSync l =>
        rw [hcls] at hoka hokb
        simp only at hoka hokb
        obtain ⟨m1, m2, m3, hm⟩ := exists_rel_acq cls l t1 t2 hne mid (locksAfter noLocks pre) hoka hwfmid hokb
        subst hm
        -- the four positions: access, release, acquire, access
        generalize htr : pre ++ Ev.acc t1 o w1 v1 :: ((m1 ++ Ev.rel t1 l :: m2 ++ Ev.acq t2 l :: m3) ++
          Ev.acc t2 o w2 v2 :: post) = tr
        have hi : tr[pre.length]? = some (Ev.acc t1 o w1 v1) := getElem?_at _ pre _ _ _ htr.symm rfl
        have hi' : tr[pre.length + 1 + m1.length]? = some (Ev.rel t1 l) :=
          getElem?_at _ (pre ++ Ev.acc t1 o w1 v1 :: m1) _ (m2 ++ Ev.acq t2 l :: m3 ++ Ev.acc t2 o w2 v2 :: post) _
            (by simp [← htr, List.append_assoc]) (by simp; omega)
        have hj' : tr[pre.length + 1 + m1.length + 1 + m2.length]? = some (Ev.acq t2 l) :=
          getElem?_at _ (pre ++ Ev.acc t1 o w1 v1 :: m1 ++ Ev.rel t1 l :: m2) _ (m3 ++ Ev.acc t2 o w2 v2 :: post) _
            (by simp [← htr, List.append_assoc]) (by simp; omega)
        have hj : tr[pre.length + 1 + (m1 ++ Ev.rel t1 l :: m2 ++ Ev.acq t2 l :: m3).length]? = some (Ev.acc t2 o w2 v2) :=
          getElem?_at _ (pre ++ Ev.acc t1 o w1 v1 :: (m1 ++ Ev.rel t1 l :: m2 ++ Ev.acq t2 l :: m3)) _ post _
            (by simp [← htr, List.append_assoc]) (by simp; omega)
        refine HB.trans (HB.po (by omega) hi hi' rfl) (HB.trans (HB.sw (by omega) hi' hj') (HB.po ?_ hj' hj rfl))
        simp; omega

theorem drf_of_wf (cls : Nat → Class) (tr : List Ev) (hwf : WF cls noLocks tr) : DRF tr := by
  intro i j a b hij hi hj hc
  obtain ⟨pre, rest, htr, hlen⟩ := split_of_getElem? tr i a hi
  have hj2 : rest[j - i - 1]? = some b := by
    rw [htr, List.getElem?_append_right (by omega)] at hj
    have : j - pre.length = (j - i - 1) + 1 := by omega
    rw [this, List.getElem?_cons_succ] at hj
    exact hj
  obtain ⟨mid, post, hrest, hlen2⟩ := split_of_getElem? rest (j - i - 1) b hj2
  subst hrest
  subst htr
  have := drf_decomposed cls pre mid post a b hwf hc
  rw [hlen] at this
  have hjj : i + 1 + mid.length = j := by omega
  rw [hjj] at this
  exact this

/-- in a trace consistent with the classification an object of class `loc i` is touched by thread `i` only -/
theorem wf_loc_owner (cls : Nat → Class) : ∀ (tr : List Ev) (h : Locks), WF cls h tr →
    ∀ t o w v i, Ev.acc t o w v ∈ tr → cls o = .loc i → t = i := by
  intro tr
  induction tr with
  | nil => intro _ _ t o w v i hm; cases hm
  | cons e es ih =>
    intro h hwf t o w v i hm hcls
    rcases List.mem_cons.mp hm with heq | hin
    · subst heq
      have := hwf.1
      simp only [stepOk, hcls] at this
      exact this
    · exact ih _ hwf.2 t o w v i hin hcls

/-! ### non-interference of views -/

/-- the two memories agree on everything instance `i` may rely on -/
def Agree (cls : Nat → Class) (i : Nat) (m m' : Mem) : Prop := ∀ o, stable cls i o = true → m o = m' o

theorem agree_other (cls : Nat → Class) (i : Nat) (h : Locks) (m m' : Mem) (e : Ev)
    (hok : stepOk cls h e) (hne : e.thread ≠ i) (ha : Agree cls i m m') : Agree cls i (applyEv m e) m' := by
  cases e with
  | acq t l | rel t l => exact ha
  | acc t o w v =>
    cases w with
    | false => exact ha
    | true =>
      intro o' hs
      simp only [applyEv, Mem.write]
      by_cases ho : o' = o
      · subst ho
        exfalso
        simp only [stepOk] at hok
        simp only [stable] at hs
        cases hcls : cls o' with
        | loc j => rw [hcls] at hok hs; simp at hs hok; exact hne (by simp [Ev.thread, hok, hs])
        | sharedRO => rw [hcls] at hok; simp at hok
        | sharedSync l => rw [hcls] at hs; simp at hs
      · simp [ho]; exact ha o' hs

theorem agree_same (cls : Nat → Class) (i : Nat) (m m' : Mem) (e : Ev) (ha : Agree cls i m m') :
    Agree cls i (applyEv m e) (applyEv m' e) := by
  cases e with
  | acq t l | rel t l => exact ha
  | acc t o w v =>
    cases w with
    | false => exact ha
    | true =>
      intro o' hs
      simp only [applyEv, Mem.write]
      by_cases ho : o' = o
      · simp [ho]
      · simp [ho]; exact ha o' hs

theorem view_filter (cls : Nat → Class) (i : Nat) : ∀ (tr : List Ev) (h : Locks) (m m' : Mem),
    WF cls h tr → Agree cls i m m' →
    view cls i m tr = view cls i m' (tr.filter fun e => e.thread == i) := by
  intro tr
  induction tr with
  | nil => intro h m m' _ _; rfl
  | cons e es ih =>
    intro h m m' hwf ha
    obtain ⟨hok, hwf'⟩ := hwf
    by_cases ht : e.thread = i
    · have hf : (e :: es).filter (fun e => e.thread == i) = e :: es.filter (fun e => e.thread == i) :=
        List.filter_cons_of_pos (by simpa using ht)
      rw [hf]
      have ha' := agree_same cls i m m' e ha
      have ih' := ih (next h e) (applyEv m e) (applyEv m' e) hwf' ha'
      cases e with
      | acq t l | rel t l => simpa [view] using ih'
      | acc t o w v =>
        cases w with
        | true => simpa [view] using ih'
        | false =>
          simp only [view]
          by_cases hc : t = i ∧ stable cls i o = true
          · rw [if_pos hc, if_pos hc, ih', ha o hc.2]
          · rw [if_neg hc, if_neg hc]
            exact ih'
    · have hf : (e :: es).filter (fun e => e.thread == i) = es.filter (fun e => e.thread == i) :=
        List.filter_cons_of_neg (by simpa using ht)
      rw [hf]
      have ha' := agree_other cls i h m m' e hok ht ha
      have ih' := ih (next h e) (applyEv m e) m' hwf' ha'
      cases e with
      | acq t l | rel t l => simpa [view] using ih'
      | acc t o w v =>
        cases w with
        | true => simpa [view] using ih'
        | false =>
          simp only [view]
          have : ¬ (t = i ∧ stable cls i o = true) := fun hc => ht (by simp [Ev.thread, hc.1])
          rw [if_neg this]
          exact ih'

/-! ### guns -/

theorem toggle_guns : ∀ (i : Nat) (l : List Inst), (toggle i l).map (·.gun) = l.map (·.gun) := by
  intro i l
  induction l generalizing i with
  | nil => cases i <;> rfl
  | cons x xs ih =>
    cases i with
    | zero => simp [toggle]
    | succ n => simp [toggle, ih n]

/-- guns are pairwise distinct objects and all older than the factory's next one -/
def EngOk (s : Eng) : Prop := (s.insts.map (·.gun)).Nodup ∧ ∀ g ∈ s.insts.map (·.gun), g < s.nextGun

theorem engStep_ok (s : Eng) (a : Act) (h : EngOk s) : EngOk (engStep s a) := by
  obtain ⟨hn, hlt⟩ := h
  cases a with
  | start =>
    refine ⟨?_, ?_⟩
    · simp only [engStep, List.map_append, List.map_cons, List.map_nil]
      rw [List.nodup_append]
      refine ⟨hn, by simp, ?_⟩
      intro a ha b hb
      simp at hb
      subst hb
      exact Nat.ne_of_lt (hlt a ha)
    · intro g hg
      simp only [engStep, List.map_append, List.map_cons, List.map_nil, List.mem_append, List.mem_singleton] at hg
      rcases hg with hg | hg
      · exact Nat.lt_succ_of_lt (hlt g hg)
      · simp [engStep, hg]
  | warmup =>
    exact ⟨hn, fun g hg => Nat.lt_succ_of_lt (hlt g hg)⟩
  | move i =>
    refine ⟨?_, ?_⟩
    · simp only [engStep, toggle_guns]; exact hn
    · intro g hg
      simp only [engStep, toggle_guns] at hg
      exact hlt g hg

theorem engRun_ok (acts : List Act) : ∀ s, EngOk s → EngOk (engRun s acts) := by
  induction acts with
  | nil => intro s h; exact h
  | cons a as ih => intro s h; exact ih (engStep s a) (engStep_ok s a h)

theorem active_le_one (g : Nat) : ∀ (l : List Inst), (l.map (·.gun)).Nodup → active g l ≤ 1 := by
  intro l
  induction l with
  | nil => intro _; simp [active]
  | cons x xs ih =>
    intro hn
    obtain ⟨hx, hxs⟩ := List.nodup_cons.mp hn
    by_cases hg : x.gun = g
    · -- no other instance has this gun
      have hnone : xs.filter (fun y => y.gun == g && y.shooting) = [] := List.filter_eq_nil_iff.mpr fun y hy => by
        have : y.gun ≠ g := fun h => hx (List.mem_map.mpr ⟨y, hy, h.trans hg.symm⟩)
        simp [this]
      simp only [active, List.filter_cons, hnone]
      split <;> simp
    · have : (x.gun == g && x.shooting) = false := by simp [hg]
      simp only [active, List.filter_cons, this]
      exact ih hxs

end Pandora.Proofs.C11
