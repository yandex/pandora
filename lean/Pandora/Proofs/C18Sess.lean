/-
C18 — sessions: several registrations in one registry, any interleaving of Register / New / NewFactory / calls of the
factories handed out / Lookup.

Every operation that reaches a registration is one of the three explicit forms of Proofs/C18 (`callSpec`, `facSpec`,
`createSpec`) applied to the CURRENT state of that registration's slot; `SlotOp` collects what the session proofs need
of such an operation, whichever form it is.
-/
import Pandora.Proofs.C18Hist
import Pandora.Spec.C18Sess

set_option linter.unusedSimpArgs false

namespace Pandora.Proofs.C18Sess
open Pandora.Model.C18 Pandora.Model.C18Sess Pandora.Spec.C18 Pandora.Spec.C18Sess Pandora.Proofs.C18

/-! ### lookup -/

theorem findSlot_eq (slots : List Slot) (t : Nat) (n : String) :
    findSlot slots t n = resolve (slots.map (·.reg)) t n := by
  induction slots with
  | nil => rfl
  | cons s ss ih => simp only [findSlot, List.map_cons, resolve, ih]

theorem resolve_some {regs : List Reg} {t : Nat} {n : String} {i : Nat} (h : resolve regs t n = some i) :
    ∃ r, regs[i]? = some r ∧ r.ptype = t ∧ r.name = n := by
  induction regs generalizing i with
  | nil => simp [resolve] at h
  | cons r rs ih =>
    simp only [resolve] at h
    split at h
    · rename_i hc
      simp only [Option.some.injEq] at h
      subst h
      exact ⟨r, rfl, hc.1, hc.2⟩
    · cases hr : resolve rs t n with
      | none => simp [hr] at h
      | some j =>
        simp only [hr, Option.map_some, Option.some.injEq] at h
        subst h
        obtain ⟨r', h1, h2⟩ := ih hr
        exact ⟨r', by simpa using h1, h2⟩

theorem resolve_none {regs : List Reg} {t : Nat} {n : String} (h : resolve regs t n = none) :
    ∀ r ∈ regs, ¬ (r.ptype = t ∧ r.name = n) := by
  induction regs with
  | nil => simp
  | cons r rs ih =>
    simp only [resolve] at h
    split at h
    · simp at h
    · rename_i hc
      simp only [Option.map_eq_none_iff] at h
      intro r' hr'
      simp only [List.mem_cons] at hr'
      rcases hr' with rfl | hr'
      · exact hc
      · exact ih h r' hr'

/-- `resolve` finds the FIRST registration for (t, n); when registrations are pairwise different in (type, name) it is
the only one -/
theorem resolve_first {regs : List Reg} {t : Nat} {n : String} {i : Nat} (h : resolve regs t n = some i) :
    ∀ j r, j < i → regs[j]? = some r → ¬ (r.ptype = t ∧ r.name = n) := by
  induction regs generalizing i with
  | nil => simp [resolve] at h
  | cons r rs ih =>
    simp only [resolve] at h
    split at h
    · simp only [Option.some.injEq] at h
      subst h
      intro j _ hj; omega
    · rename_i hc
      cases hr : resolve rs t n with
      | none => simp [hr] at h
      | some k =>
        simp only [hr, Option.map_some, Option.some.injEq] at h
        subst h
        intro j r' hj hr'
        cases j with
        | zero => simp at hr'; subst hr'; exact hc
        | succ j => exact ih hr j r' (by omega) (by simpa using hr')

/-- `New` / `NewFactory` are judged against the first registration for their type and name -/
theorem target_create {regs : List Reg} {t : Nat} {n : String} {g : Reg → Input} {c creation : Bool} {i : Nat} {inp : Input}
    (ht : ((resolve regs t n).bind fun j => regs[j]?.map fun r => (j, g r, c)) = some (i, inp, creation)) :
    ∃ r, resolve regs t n = some i ∧ regs[i]? = some r ∧ inp = g r ∧ creation = c := by
  cases hres : resolve regs t n with
  | none => simp [hres] at ht
  | some j =>
    simp only [hres, Option.bind_some] at ht
    cases hr : regs[j]? with
    | none => simp [hr] at ht
    | some r =>
      simp only [hr, Option.map_some, Option.some.injEq, Prod.mk.injEq] at ht
      obtain ⟨rfl, rfl, rfl⟩ := ht
      exact ⟨r, rfl, hr, rfl, rfl⟩

/-! ### what the session proofs need of one operation on a slot -/

def facRf : Fac → Option RegFac
  | .directFactory rf => some rf
  | .wrapFactory rf _ => some rf
  | _ => none

structure SlotOp (fields : List Nat) (st : St) (inp : Input) (creation : Bool) (touched : Option Nat)
    (st' : St) (s : Step) (newFac : Option Fac) : Prop where
  next_le : st.next ≤ st'.next
  frame : inp.sh.dflt ≠ .shared → ∀ c, c < st.next → touched ≠ some c → st'.heap c = st.heap c
  mark : ∀ c, touched = some c → st'.heap c = st.heap c ∨ ∃ m : Int, st'.heap c = (markField, m) :: st.heap c
  spec : (if creation then createStepOk inp s else callStepOk inp s fields) = ""
  made : isMade s = newFac.isSome
  facOk : ∀ fac, newFac = some fac → FacOk inp.sh inp.form.numOut fac ∧
    (inp.sh.dflt ≠ .shared → ∀ rf, facRf fac = some rf →
      (∀ c, rf.cell = some c → st.next ≤ c ∧ c < st'.next) ∧
      SeenOk inp.sh inp.w (seenOf inp.sh.cfg rf.cell rf.copy st'.heap))
  alloc : gets inp creation = true →
    st'.next = st.next + 1 ∧ (∀ c, fillAddr? s = some c → c = st.next) ∧ (∀ c, ctorConf? s = some c → c = st.next)
  own : creation = false → owns inp = true → ∀ p c, s.res = .ok p → p.cell = some c →
    c = st.next ∧ st'.next = st.next + 1 ∧ (st'.heap c).get markField = p.serial

theorem registerOk_none {sh : Shape} (h : registerOk sh = true) (hc : sh.cfg = .none) : sh.dflt ≠ .shared := by
  obtain ⟨factory, cfg, ctorErr, factErr, iface, dflt⟩ := sh
  simp only at hc; subst hc
  cases dflt <;> simp [registerOk] at h ⊢

theorem callStepOk_intro {inp : Input} {s : Step} {fields : List Nat}
    (h1 : stepErrOk (inp.form == .facNoErr) s = true) (h1' : isMade s = false) (h2 : seenOk inp s fields = true)
    (h3 : percallApplies inp = true → freshCallOk inp.sh inp.w s = true)
    (h4 : onceApplies inp = true → onceCallOk s = true)
    (h5 : s.evs.map kindOf = callKindsBy fillFailed inp s) (h6 : inp.sh.cfg = .none → noAddr s = true) :
    callStepOk inp s fields = "" := by
  unfold callStepOk
  have g3 : (percallApplies inp && !freshCallOk inp.sh inp.w s) = false := by
    cases hp : percallApplies inp
    · rfl
    · simp [h3 hp]
  have g4 : (onceApplies inp && !onceCallOk s) = false := by
    cases hp : onceApplies inp
    · rfl
    · simp [h4 hp]
  have g6 : (inp.sh.cfg != .none || noAddr s) = true := by
    by_cases hc : inp.sh.cfg = .none
    · simp [h6 hc]
    · simp [hc]
  simp [h1, h1', h2, g3, g4, h5, g6]

theorem createStepOk_intro {inp : Input} {c : Step}
    (h1 : stepErrOk false c = true) (h1' : (isMade c || isErr c) = true)
    (h3 : percallApplies inp = true → c.evs = [])
    (h4 : onceApplies inp = true → onceCreateOk inp.sh inp.w c = true)
    (h5 : c.evs.map kindOf = createKindsBy fillFailed inp c) (h6 : inp.sh.cfg = .none → noAddr c = true) :
    createStepOk inp c = "" := by
  unfold createStepOk
  have g3 : (percallApplies inp && !(c.evs == [])) = false := by
    cases hp : percallApplies inp
    · rfl
    · simp [h3 hp]
  have g4 : (onceApplies inp && !onceCreateOk inp.sh inp.w c) = false := by
    cases hp : onceApplies inp
    · rfl
    · simp [h4 hp]
  have g6 : (inp.sh.cfg != .none || noAddr c) = true := by
    by_cases hc : inp.sh.cfg = .none
    · simp [h6 hc]
    · simp [hc]
  simp [h1, h1', g4, h5, g6]
  exact h3

/-- the executable configuration clause, from the statement about configurations -/
theorem seenOk_of {inp : Input} {s : Step} (fields : List Nat) (hreg : registerOk inp.sh = true)
    (h : inp.sh.dflt ≠ .shared → ∀ p, s.res = .ok p → SeenOk inp.sh inp.w p.seen) : seenOk inp s fields = true := by
  unfold seenOk
  cases hp : product? s with
  | none => rfl
  | some p =>
    have hres := product?_some hp
    by_cases hc : inp.sh.cfg = .none
    · simp only [hc, if_true, beq_iff_eq]
      exact (h (registerOk_none hreg hc) p hres).1 hc
    · simp only [hc, if_false, Bool.or_eq_true, beq_iff_eq, List.all_eq_true]
      by_cases hs : inp.sh.dflt = .shared
      · exact .inl hs
      · refine .inr fun f _ => ?_
        by_cases hf : f = markField
        · exact .inl hf
        · exact .inr ((h hs p hres).2 hc f hf)

theorem nonshared_sharedOk {sh : Shape} (w : World) (heap : Nat → Cfg) (hs : sh.dflt ≠ .shared) : SharedOk sh w heap :=
  fun h => absurd h hs

theorem res_of_product {s : Step} {p : Product} (h : s.res = .ok p) : product? s = some p := by
  unfold product?; rw [h]

theorem prodCell_of {s : Step} {p : Product} {c : Nat} (h : s.res = .ok p) (hc : p.cell = some c) : prodCell? s = some c := by
  simp [prodCell?, res_of_product h, hc]

theorem prodCell_some {s : Step} {c : Nat} (h : prodCell? s = some c) : ∃ p, s.res = .ok p ∧ p.cell = some c := by
  unfold prodCell? at h
  cases hp : product? s with
  | none => simp [hp] at h
  | some p => exact ⟨p, product?_some hp, by simpa [hp] using h⟩

/-- one call in the form `callSpec` (a `New`, or a call of a factory made from a component constructor) -/
theorem slotOp_callSpec (fields : List Nat) (inp : Input) (hreg : registerOk inp.sh = true) (doGet vf : Bool) (st : St)
    (r : St × Step) (h : tri r = callSpec inp.sh inp.w doGet vf (inp.form == .facNoErr) st)
    (hd : doGet = reconfigures inp) (hvf : vf = (doGet && inp.sh.factory))
    (hform : inp.form = .component ∨ inp.sh.factory = false) :
    SlotOp fields st inp false none r.1 r.2 none := by
  obtain ⟨e1, e2, e3⟩ := tri_step h
  -- a constructor with a config is always called through `Get` here
  have hget : inp.sh.cfg ≠ .none → doGet = true := by
    intro hc; rw [hd]
    rcases hform with hf | hf <;> simp [reconfigures, hf, hc]
  have hdn : doGet = true ∨ inp.sh.cfg = .none := by
    by_cases hc : inp.sh.cfg = .none
    · exact .inr hc
    · exact .inl (hget hc)
  refine ⟨?_, ?_, ?_, ?_, ?_, ?_, ?_, ?_⟩
  · rw [e2]; exact callSpec_next_le _ _ _ _ _ _
  · intro hs c hc _
    rw [e1]; exact (callSpec_frame inp.sh inp.w doGet vf _ st hs).2 c hc
  · intro c hc; simp at hc
  · simp only [Bool.false_eq_true, if_false]
    obtain ⟨a1, a2⟩ := callSpec_err inp.sh inp.w doGet vf (inp.form == .facNoErr) st
    rw [← e3] at a1 a2
    refine callStepOk_intro a1 a2 ?_ ?_ ?_ ?_ ?_
    · refine seenOk_of fields hreg fun hs p hp => ?_
      rw [e3] at hp
      exact (callSpec_config inp.sh inp.w doGet vf _ st hdn (nonshared_sharedOk _ _ hs)).2 p hp
    · intro hp
      simp only [percallApplies, Bool.and_eq_true, bne_iff_ne, ne_eq, Bool.or_eq_true, beq_iff_eq,
        Bool.not_eq_true'] at hp
      have hdg := hget hp.1
      subst hdg
      rw [e3]
      exact callSpec_freshCall_any inp.sh inp.w vf _ st hp.1 (by simpa using hvf)
    · intro hp
      simp only [onceApplies, Bool.and_eq_true, bne_iff_ne, ne_eq] at hp
      rcases hform with hf | hf
      · exact absurd hf hp.2
      · rw [hf] at hp; simp at hp
    · rw [e3]
      subst hvf
      exact callSpec_callKinds inp doGet _ st hd hform
    · intro hc; rw [e3]; exact callSpec_noAddr inp.sh inp.w doGet vf _ st hc
  · rw [e3]; simpa using (callSpec_err inp.sh inp.w doGet vf (inp.form == .facNoErr) st).2
  · intro fac hfac; simp at hfac
  · intro hg
    simp only [gets, Bool.and_eq_true, bne_iff_ne, ne_eq, Bool.false_eq_true, if_false, Bool.or_eq_true, beq_iff_eq,
      Bool.not_eq_true'] at hg
    have hdg := hget hg.1.1
    subst hdg
    obtain ⟨b1, b2, b3, _⟩ := callSpec_alloc h hg.1.1 hg.1.2
    exact ⟨b1, b2, b3⟩
  · intro _ ho p c hp hcell
    simp only [owns, freshApplies, Bool.and_eq_true, bne_iff_ne, ne_eq, Bool.or_eq_true, beq_iff_eq,
      Bool.not_eq_true'] at ho
    have hdg := hget ho.1.1
    subst hdg
    obtain ⟨b1, _, _, b4, _, b6⟩ := callSpec_alloc h ho.1.1 ho.1.2
    exact ⟨b4 c (prodCell_of hp hcell), b1, b6 p hp c hcell⟩

theorem facSpec_mark (sh : Shape) (w : World) (rf : RegFac) (pan : Bool) (st : St) (c : Nat) :
    (facSpec sh w rf pan st).1 c = st.heap c ∨ ∃ m : Int, (facSpec sh w rf pan st).1 c = (markField, m) :: st.heap c := by
  unfold facSpec
  by_cases hff : factFails sh w st.facts = true
  · simp [hff]
  · simp only [hff]
    cases hk : sh.cfg <;> cases hr : rf.cell <;> simp only [markHeap, hk, hr] <;> try exact .inl rfl
    rename_i cr
    by_cases hcc : c = cr
    · subst hcc; exact .inr ⟨_, upd_same _ _ _⟩
    · exact .inl (upd_ne _ _ hcc)

/-- one call of a factory made from a factory constructor -/
theorem slotOp_facSpec (fields : List Nat) (inp : Input) (hreg : registerOk inp.sh = true) (rf : RegFac) (st : St)
    (r : St × Step) (h : tri r = facSpec inp.sh inp.w rf (inp.form == .facNoErr) st)
    (hfa : inp.sh.factory = true) (hform : inp.form ≠ .component)
    (hI : inp.sh.dflt ≠ .shared → SeenOk inp.sh inp.w (seenOf inp.sh.cfg rf.cell rf.copy st.heap)) :
    SlotOp fields st inp false rf.cell r.1 r.2 none := by
  obtain ⟨e1, e2, e3⟩ := tri_step h
  obtain ⟨f1, f2⟩ := facSpec_frame inp.sh inp.w rf (inp.form == .facNoErr) st
  -- not a form that configures per product
  have hno : (inp.form == .component || !inp.sh.factory) = false := by simp [hform, hfa]
  refine ⟨?_, ?_, ?_, ?_, ?_, ?_, ?_, ?_⟩
  · rw [e2, f1]; exact Nat.le_refl _
  · intro _ c _ hne
    rw [e1]; exact f2 c (fun hh => hne hh)
  · intro c _; rw [e1]; exact facSpec_mark _ _ _ _ _ _
  · simp only [Bool.false_eq_true, if_false]
    obtain ⟨a1, a2⟩ := facSpec_err inp.sh inp.w rf (inp.form == .facNoErr) st
    rw [← e3] at a1 a2
    refine callStepOk_intro a1 a2 ?_ ?_ ?_ ?_ ?_
    · refine seenOk_of fields hreg fun hs p hp => ?_
      rw [e3] at hp
      exact (facSpec_config inp.sh inp.w rf _ st (hI hs)).2 p hp
    · intro hp; simp [percallApplies, hno] at hp
    · intro _; rw [e3]; exact facSpec_once _ _ _ _ _
    · rw [e3, facSpec_kinds]
      simp [callKindsBy, reconfigures, hform, hfa]
    · intro _; rw [e3]; exact facSpec_noAddr _ _ _ _ _
  · rw [e3]; simpa using (facSpec_err inp.sh inp.w rf (inp.form == .facNoErr) st).2
  · intro fac hfac; simp at hfac
  · intro hg; simp [gets, hno] at hg
  · intro _ ho; simp [owns, freshApplies, hno] at ho

def facOf : Except Err Fac → Option Fac
  | .error _ => none
  | .ok f => some f

/-- the creation of a factory -/
theorem slotOp_createSpec (fields : List Nat) (inp : Input) (st : St)
    (c : St × Except Err Fac) (hq : quad c = createSpec inp.sh inp.w inp.form.numOut st)
    (hform : inp.form ≠ .component) :
    SlotOp fields st inp true none c.1 ⟨c.1.log.reverse, resOf c.2⟩ (facOf c.2) := by
  obtain ⟨e1, e2, e3, e4⟩ := quad_proj hq
  generalize c.1.log.reverse = evs at e3 ⊢
  generalize c.2 = r at e4 ⊢
  refine ⟨?_, ?_, ?_, ?_, ?_, ?_, ?_, ?_⟩
  · rw [e2]; exact createSpec_next_le _ _ _ _
  · intro hs c hc _
    rw [e1]; exact (createSpec_frame inp.sh inp.w _ st hs).2.1 c hc
  · intro c hc; simp at hc
  · simp only [if_true]
    refine createStepOk_intro ?_ ?_ ?_ ?_ ?_ ?_
    · rw [e3, e4]; exact createSpec_err inp.sh inp.w inp.form.numOut st
    · cases r <;> simp [resOf, isMade, isErr]
    · intro hp
      simp only [percallApplies, Bool.and_eq_true, bne_iff_ne, ne_eq, Bool.or_eq_true, beq_iff_eq,
        Bool.not_eq_true'] at hp
      rcases hp.2 with hf | hf
      · exact absurd hf hform
      · show evs = []
        rw [e3]; simp [createSpec, hf, hp.1]
    · intro hp
      simp only [onceApplies, Bool.and_eq_true, bne_iff_ne, ne_eq] at hp
      show onceCreateOk inp.sh inp.w ⟨evs, resOf r⟩ = true
      rw [e3]; exact createSpec_once inp.sh inp.w _ st hp.1 _
    · show evs.map kindOf = createKindsBy fillFailed inp ⟨evs, resOf r⟩
      rw [e3, createSpec_kinds inp.sh inp.w inp.form.numOut st (resOf r)]
      rfl
    · intro hc
      show noAddr ⟨evs, resOf r⟩ = true
      rw [e3]; exact createSpec_noAddr inp.sh inp.w _ st _ hc
  · cases r <;> simp [resOf, facOf, isMade]
  · intro fac hfac
    have hr : r = .ok fac := by cases r <;> simp [facOf] at hfac ⊢; exact hfac
    have hq : (createSpec inp.sh inp.w inp.form.numOut st).2.2.2 = .ok fac := by rw [← e4, hr]
    have hok := createSpec_facOk inp.sh inp.w _ st fac hq
    refine ⟨hok, fun hs rf hrf => ?_⟩
    have hcase : (createSpec inp.sh inp.w inp.form.numOut st).2.2.2 = .ok (.directFactory rf) ∨
        (createSpec inp.sh inp.w inp.form.numOut st).2.2.2 = .ok (.wrapFactory rf inp.form.numOut) := by
      cases fac with
      | direct => simp [facRf] at hrf
      | wrapPlugin m => simp [facRf] at hrf
      | directFactory rf' => simp only [facRf, Option.some.injEq] at hrf; subst hrf; exact .inl hq
      | wrapFactory rf' m =>
        simp only [facRf, Option.some.injEq] at hrf; subst hrf
        obtain ⟨_, rfl⟩ := hok
        exact .inr hq
    refine ⟨fun c hc => ?_, ?_⟩
    · rw [e2]; exact (createSpec_frame inp.sh inp.w _ st hs).2.2 rf hcase c hc
    · rw [e1]; exact (createSpec_config inp.sh inp.w _ st (nonshared_sharedOk _ _ hs)).2 rf hcase
  · intro hg
    simp only [gets, Bool.and_eq_true, bne_iff_ne, ne_eq, if_true] at hg
    obtain ⟨b1, b2, b3⟩ := createSpec_alloc inp.sh inp.w inp.form.numOut st (resOf r) hg.1.1 hg.1.2 hg.2
    rw [e2, e3]
    exact ⟨b1, b2, b3⟩
  · intro hh; simp at hh

/-! ### the session state and the Spec's own book-keeping -/

def hInput (h : Handle) : Input := h.reg.input (formOf h.withErr) h.user h.hasFill

structure Rel (sst : SSt) (tr : Track) : Prop where
  regs : tr.regs = sst.slots.map (·.reg)
  handles : tr.handles = sst.handles.map fun h => (h.slot, hInput h)

def capt (f : Fac) : Option Nat := (facRf f).bind (·.cell)

def HandleOk (sst : SSt) (h : Handle) : Prop :=
  ∃ sl, sst.slots[h.slot]? = some sl ∧ sl.reg = h.reg ∧
    FacOk h.reg.sh (formOf h.withErr).numOut h.fac ∧
    (h.reg.sh.dflt ≠ .shared → ∀ rf, facRf h.fac = some rf →
      (∀ c, rf.cell = some c → c < sl.st.next) ∧
      SeenOk h.reg.sh h.world (seenOf h.reg.sh.cfg rf.cell rf.copy sl.st.heap))

structure Inv (sst : SSt) : Prop where
  slots : ∀ sl ∈ sst.slots, registerOk sl.reg.sh = true
  types : ∀ sl ∈ sst.slots, sst.types.contains sl.reg.ptype = true
  handles : ∀ h ∈ sst.handles, HandleOk sst h

theorem rel_empty : Rel SSt.empty Track.empty := ⟨rfl, rfl⟩
theorem inv_empty : Inv SSt.empty := ⟨by simp [SSt.empty], by simp [SSt.empty], by simp [SSt.empty]⟩

/-- the state after an operation on slot `i` -/
def slotExec (sst : SSt) (i : Nat) (sl : Slot) (st' : St) (newH : Option Handle) : SSt :=
  { types := sst.types, slots := sst.slots.set i { sl with st := st' }, handles := sst.handles ++ newH.toList }

theorem numOut_cases (b : Bool) : (formOf b).numOut = 1 ∨ (formOf b).numOut = 2 := by
  cases b <;> simp [formOf, Form.numOut]

theorem formOf_ne (b : Bool) : formOf b ≠ .component := by cases b <;> simp [formOf]

theorem pan_eq (b : Bool) : ((formOf b).numOut == 1) = (formOf b == .facNoErr) := by
  cases b <;> simp [formOf, Form.numOut]

theorem slot_of_rel {sst : SSt} {tr : Track} (hR : Rel sst tr) {i : Nat} {r : Reg} (h : tr.regs[i]? = some r) :
    ∃ sl, sst.slots[i]? = some sl ∧ sl.reg = r := by
  rw [hR.regs, List.getElem?_map] at h
  cases hs : sst.slots[i]? with
  | none => simp [hs] at h
  | some sl => simp only [hs, Option.map_some, Option.some.injEq] at h; exact ⟨sl, rfl, h⟩

/-- every operation that the Spec judges against a registration runs on that registration's slot, as one `SlotOp` -/
theorem exec_slot (fields : List Nat) {sst : SSt} {tr : Track} (hR : Rel sst tr) (hI : Inv sst) (op : Op)
    (i : Nat) (inp : Input) (creation : Bool) (ht : target tr op = some (i, inp, creation)) :
    ∃ sl st' s newH touched,
      sst.slots[i]? = some sl ∧ inp.sh = sl.reg.sh ∧
      exec sst op = (slotExec sst i sl st' newH, .step i s) ∧
      SlotOp fields sl.st inp creation touched st' s (newH.map (·.fac)) ∧
      (∀ h, newH = some h → h.slot = i ∧ h.reg = sl.reg ∧ hInput h = inp) ∧
      (∀ c, touched = some c → ∃ h ∈ sst.handles, h.slot = i ∧ capt h.fac = some c) ∧
      trackStep tr op (.step i s) = { tr with handles := tr.handles ++ (newH.map fun _ => (i, inp)).toList } := by
  cases op with
  | register r => simp [target] at ht
  | lookup t => simp [target] at ht
  | new t n user hasFill =>
    obtain ⟨r, hres, hr, rfl, rfl⟩ := target_create ht
    obtain ⟨sl, hsl, hreg⟩ := slot_of_rel hR hr
    have hfind : findSlot sst.slots t n = some i := by rw [findSlot_eq, ← hR.regs]; exact hres
    subst hreg
    have hok := hI.slots sl (List.mem_of_getElem? hsl)
    refine ⟨sl, (step (regNew sl.reg.sh (sl.reg.world user hasFill)) sl.st).1,
      (step (regNew sl.reg.sh (sl.reg.world user hasFill)) sl.st).2, none, none, hsl, rfl, ?_, ?_, by simp, by simp, ?_⟩
    · simp [exec, hfind, hsl, slotExec, setSt]
    · have := step_regNew sl.reg.sh (sl.reg.world user hasFill) sl.st
      exact slotOp_callSpec fields (sl.reg.input .component user hasFill) hok true sl.reg.sh.factory sl.st _
        this (by simp [reconfigures, Reg.input]) (by simp [Reg.input]) (.inl rfl)
    · simp [trackStep]
  | newFactory t n withErr user hasFill =>
    obtain ⟨r, hres, hr, rfl, rfl⟩ := target_create ht
    obtain ⟨sl, hsl, hreg⟩ := slot_of_rel hR hr
    have hfind : findSlot sst.slots t n = some i := by rw [findSlot_eq, ← hR.regs]; exact hres
    subst hreg
    have hok := hI.slots sl (List.mem_of_getElem? hsl)
    have hq := create_eq sl.reg.sh (sl.reg.world user hasFill) (formOf withErr).numOut (st0 sl.st) rfl
    generalize hc : regNewFactory sl.reg.sh (sl.reg.world user hasFill) (formOf withErr).numOut (st0 sl.st) = c at hq
    have hop := slotOp_createSpec fields (sl.reg.input (formOf withErr) user hasFill) (st0 sl.st) c hq (formOf_ne withErr)
    refine ⟨sl, c.1, ⟨c.1.log.reverse, resOf c.2⟩,
      (facOf c.2).map fun fac => ⟨i, sl.reg, fac, withErr, user, hasFill⟩, none, hsl, rfl, ?_, ?_, ?_, by simp, ?_⟩
    · simp only [exec, hfind, hsl]
      have hc' : regNewFactory sl.reg.sh (sl.reg.world user hasFill) (formOf withErr).numOut { sl.st with log := [] } = c := hc
      rw [hc']
      cases hc2 : c.2 with
      | error e => simp [slotExec, setSt, resOf, facOf]
      | ok fac => simp [slotExec, setSt, resOf, facOf]
    · have : (Option.map (fun x => x.fac) ((facOf c.2).map fun fac => (⟨i, sl.reg, fac, withErr, user, hasFill⟩ : Handle))) = facOf c.2 := by
        cases facOf c.2 <;> rfl
      rw [this]
      exact ⟨hop.next_le, hop.frame, hop.mark, hop.spec, hop.made, hop.facOk, hop.alloc, hop.own⟩
    · intro h hh
      cases hf : facOf c.2 with
      | none => simp [hf] at hh
      | some fac =>
        simp only [hf, Option.map_some, Option.some.injEq] at hh
        subst hh
        exact ⟨rfl, rfl, rfl⟩
    · simp only [trackStep, hres, hr]
      cases hc2 : c.2 with
      | error e => simp [resOf, facOf, isMade]
      | ok fac => simp [resOf, facOf, isMade, Reg.input]
  | call h =>
    simp only [target] at ht
    cases hh : tr.handles[h]? with
    | none => simp [hh] at ht
    | some x =>
      simp only [hh, Option.map_some, Option.some.injEq, Prod.mk.injEq] at ht
      obtain ⟨h1, h2, rfl⟩ := ht
      rw [hR.handles, List.getElem?_map] at hh
      cases hhd : sst.handles[h]? with
      | none => simp [hhd] at hh
      | some hd =>
        simp only [hhd, Option.map_some, Option.some.injEq] at hh
        subst hh
        simp only at h1 h2
        subst h1 h2
        obtain ⟨sl, hsl, hreg, hfac, hns⟩ := hI.handles hd (List.mem_of_getElem? hhd)
        have hok := hI.slots sl (List.mem_of_getElem? hsl)
        have hshape : (hInput hd).sh = sl.reg.sh := by rw [hreg]; rfl
        rw [hreg] at hok
        rcases callFac_cases hd.reg.sh hd.world (formOf hd.withErr).numOut (numOut_cases _) hd.fac hfac with
          ⟨hfa, doGet, hdg, hstep⟩ | ⟨hfa, rf, hrf, hstep⟩
        all_goals replace hstep := hstep sl.st
        · refine ⟨sl, (step (callFac hd.reg.sh hd.world hd.fac) sl.st).1, (step (callFac hd.reg.sh hd.world hd.fac) sl.st).2,
            none, none, hsl, hshape, ?_, ?_, by simp, by simp, by simp [trackStep]⟩
          · simp [exec, hhd, hsl, slotExec, setSt]
          · refine slotOp_callSpec fields (hInput hd) hok doGet false sl.st _ ?_ ?_ ?_ (.inr hfa)
            · rw [pan_eq] at hstep
              exact hstep
            · have : (hInput hd).form ≠ .component := formOf_ne _
              have hfa' : (hInput hd).sh.factory = false := hfa
              cases doGet <;> simp [reconfigures, this, hfa'] at hdg ⊢ <;> exact hdg
            · have hfa' : (hInput hd).sh.factory = false := hfa
              simp [hfa']
        · refine ⟨sl, (step (callFac hd.reg.sh hd.world hd.fac) sl.st).1, (step (callFac hd.reg.sh hd.world hd.fac) sl.st).2,
            none, rf.cell, hsl, hshape, ?_, ?_, by simp, ?_, by simp [trackStep]⟩
          · simp [exec, hhd, hsl, slotExec, setSt]
          · have hrf' : facRf hd.fac = some rf := by rcases hrf with h | h <;> simp [h, facRf]
            refine slotOp_facSpec fields (hInput hd) hok rf sl.st _ ?_ hfa (formOf_ne _) ?_
            · rw [pan_eq] at hstep
              exact hstep
            · intro hs
              exact ((hns hs) rf hrf').2
          · intro c hc
            have hrf' : facRf hd.fac = some rf := by rcases hrf with h | h <;> simp [h, facRf]
            exact ⟨hd, List.mem_of_getElem? hhd, rfl, by simp [capt, hrf', hc]⟩

/-! ### the state and the book stay related; the invariant is kept -/

theorem set_same {α : Type} (l : List α) (i : Nat) (a : α) (h : l[i]? = some a) : l.set i a = l := by
  apply List.ext_getElem?
  intro j
  rw [List.getElem?_set]
  by_cases hij : i = j
  · subst hij
    have : i < l.length := by
      rcases List.getElem?_eq_some_iff.mp h with ⟨hl, _⟩; exact hl
    rw [if_pos rfl, if_pos this, h]
  · simp [hij]

theorem lt_of_getElem? {α : Type} {l : List α} {i : Nat} {a : α} (h : l[i]? = some a) : i < l.length := by
  rcases List.getElem?_eq_some_iff.mp h with ⟨hl, _⟩; exact hl

theorem rel_slotExec {sst : SSt} {tr : Track} (hR : Rel sst tr) {i : Nat} {sl : Slot} (hsl : sst.slots[i]? = some sl)
    (st' : St) (newH : Option Handle) (inp : Input) (hn : ∀ h, newH = some h → h.slot = i ∧ h.reg = sl.reg ∧ hInput h = inp) :
    Rel (slotExec sst i sl st' newH) { tr with handles := tr.handles ++ (newH.map fun _ => (i, inp)).toList } := by
  refine ⟨?_, ?_⟩
  · simp only [slotExec, List.map_set]
    rw [set_same _ _ _ (by rw [List.getElem?_map, hsl]; rfl)]
    exact hR.regs
  · simp only [slotExec, List.map_append, hR.handles]
    cases newH with
    | none => simp
    | some h =>
      obtain ⟨h1, _, h3⟩ := hn h rfl
      simp [h1, h3]

theorem seenOk_heap (sh : Shape) (w : World) (rf : RegFac) (heap heap' : Nat → Cfg)
    (h : ∀ c, rf.cell = some c → heap' c = heap c ∨ ∃ m : Int, heap' c = (markField, m) :: heap c)
    (hs : SeenOk sh w (seenOf sh.cfg rf.cell rf.copy heap)) : SeenOk sh w (seenOf sh.cfg rf.cell rf.copy heap') := by
  cases hk : sh.cfg with
  | none => simpa [seenOf, hk] using hs
  | struct =>
    cases hc : rf.cell with
    | none => simpa [seenOf, hk, hc] using hs
    | some c =>
      simp only [seenOf, hk, hc] at hs ⊢
      rcases h c hc with he | ⟨m, he⟩
      · rw [he]; exact hs
      · rw [he]
        exact ⟨fun hh => by simp [hk] at hh, fun _ => agree_mark _ (hs.2 (by simp [hk]))⟩
  | ptr =>
    cases hc : rf.cell with
    | none => simpa [seenOf, hk, hc] using hs
    | some c =>
      simp only [seenOf, hk, hc] at hs ⊢
      rcases h c hc with he | ⟨m, he⟩
      · rw [he]; exact hs
      · rw [he]
        exact ⟨fun hh => by simp [hk] at hh, fun _ => agree_mark _ (hs.2 (by simp [hk]))⟩

theorem inv_slotExec {fields : List Nat} {sst : SSt} (hI : Inv sst) {i : Nat} {sl : Slot} (hsl : sst.slots[i]? = some sl)
    {st' : St} {s : Step} {newH : Option Handle} {inp : Input} {creation : Bool} {touched : Option Nat}
    (hsh : inp.sh = sl.reg.sh)
    (hop : SlotOp fields sl.st inp creation touched st' s (newH.map (·.fac)))
    (hn : ∀ h, newH = some h → h.slot = i ∧ h.reg = sl.reg ∧ hInput h = inp) :
    Inv (slotExec sst i sl st' newH) := by
  have hlt := lt_of_getElem? hsl
  have hnew : (slotExec sst i sl st' newH).slots[i]? = some { sl with st := st' } := by
    simp [slotExec, List.getElem?_set_self hlt]
  have hmem : ∀ x ∈ (slotExec sst i sl st' newH).slots, x ∈ sst.slots ∨ x = { sl with st := st' } := by
    intro x hx; exact List.mem_or_eq_of_mem_set hx
  refine ⟨?_, ?_, ?_⟩
  · intro x hx
    rcases hmem x hx with hx | rfl
    · exact hI.slots x hx
    · exact hI.slots sl (List.mem_of_getElem? hsl)
  · intro x hx
    rcases hmem x hx with hx | rfl
    · exact hI.types x hx
    · exact hI.types sl (List.mem_of_getElem? hsl)
  · intro h hh
    simp only [slotExec, List.mem_append, Option.mem_toList] at hh
    rcases hh with hh | hh
    · obtain ⟨slh, h1, h2, h3, h4⟩ := hI.handles h hh
      by_cases hij : h.slot = i
      · rw [hij] at h1
        rw [hsl] at h1
        simp only [Option.some.injEq] at h1
        subst h1
        refine ⟨{ sl with st := st' }, by rw [hij]; exact hnew, h2, h3, fun hs rf hrf => ?_⟩
        obtain ⟨g1, g2⟩ := h4 hs rf hrf
        have hs' : inp.sh.dflt ≠ .shared := by rw [hsh, h2]; exact hs
        refine ⟨fun c hc => Nat.lt_of_lt_of_le (g1 c hc) hop.next_le, ?_⟩
        refine seenOk_heap _ _ rf sl.st.heap st'.heap (fun c hc => ?_) g2
        by_cases ht : touched = some c
        · exact hop.mark c ht
        · exact .inl (hop.frame hs' c (g1 c hc) ht)
      · refine ⟨slh, ?_, h2, h3, h4⟩
        simp only [slotExec]
        rw [List.getElem?_set_ne (fun hh => hij hh.symm)]
        exact h1
    · obtain ⟨h1, h2, h3⟩ := hn h hh
      have hfac : newH.map (·.fac) = some h.fac := by rw [hh]; rfl
      obtain ⟨f1, f2⟩ := hop.facOk h.fac hfac
      subst h3
      refine ⟨{ sl with st := st' }, by rw [h1]; exact hnew, h2.symm, f1, fun hs rf hrf => ?_⟩
      obtain ⟨g1, g2⟩ := f2 hs rf hrf
      exact ⟨fun c hc => (g1 c hc).2, g2⟩

theorem addType_self (types : List Nat) (t : Nat) : (addType types t).contains t = true := by
  unfold addType
  split
  · assumption
  · simp

theorem addType_mono (types : List Nat) (t t' : Nat) (h : types.contains t' = true) : (addType types t).contains t' = true := by
  unfold addType
  split
  · exact h
  · simp only [List.contains_eq_mem, List.mem_append, decide_eq_true_eq] at h ⊢
    exact .inl h

/-- an operation that reaches no registration: a registration, a lookup, a creation for a type and name nobody
registered, a call of a factory that was never handed out -/
theorem exec_other (fields : List Nat) {sst : SSt} {tr : Track} (hR : Rel sst tr) (hI : Inv sst) (op : Op)
    (ht : target tr op = none) :
    ∃ types' extra,
      (exec sst op).1 = { types := types',
                          slots := sst.slots ++ (extra.toList.map fun r => (⟨r, initSt r.sh (r.world [] false)⟩ : Slot)),
                          handles := sst.handles } ∧
      (∀ t, sst.types.contains t = true → types'.contains t = true) ∧
      (∀ r, extra = some r → registerOk r.sh = true ∧ types'.contains r.ptype = true ∧
        resolve tr.regs r.ptype r.name = none) ∧
      trackStep tr op (exec sst op).2 = { tr with regs := tr.regs ++ extra.toList } ∧
      stepOf (exec sst op).2 = none ∧
      opOk tr op (exec sst op).2 fields = "" := by
  cases op with
  | register r =>
    have hfind : findSlot sst.slots r.ptype r.name = resolve tr.regs r.ptype r.name := by rw [findSlot_eq, hR.regs]
    by_cases hn : r.name = ""
    · refine ⟨sst.types, none, ?_, fun _ h => h, by simp, ?_, ?_, ?_⟩
      · simp [exec, hn]
      · simp [exec, hn, trackStep]
      · simp [exec, hn, stepOf]
      · simp [exec, hn, opOk, mustAccept]
    · by_cases hd : (findSlot sst.slots r.ptype r.name).isSome = true
      · refine ⟨addType sst.types r.ptype, none, ?_, fun t h => addType_mono _ _ _ h, by simp, ?_, ?_, ?_⟩
        · simp [exec, hn, hd]
        · simp [exec, hn, hd, trackStep]
        · simp [exec, hn, hd, stepOf]
        · have : (resolve tr.regs r.ptype r.name).isNone = false := by
            rw [← hfind]; cases h : findSlot sst.slots r.ptype r.name <;> simp [h] at hd ⊢
          simp [exec, hn, hd, opOk, mustAccept, this]
      · have hd' : (resolve tr.regs r.ptype r.name).isNone = true := by
          rw [← hfind]; cases h : findSlot sst.slots r.ptype r.name <;> simp [h] at hd ⊢
        by_cases hk : registerOk r.sh = true
        · refine ⟨addType sst.types r.ptype, some r, ?_, fun t h => addType_mono _ _ _ h, ?_, ?_, ?_, ?_⟩
          · simp [exec, hn, hd, hk]
          · intro r' hr'
            simp only [Option.some.injEq] at hr'; subst hr'
            exact ⟨hk, addType_self _ _, by cases h : resolve tr.regs r.ptype r.name <;> simp [h] at hd' ⊢⟩
          · simp [exec, hn, hd, hk, trackStep]
          · simp [exec, hn, hd, hk, stepOf]
          · simp [exec, hn, hd, hk, opOk, mustAccept, hd']
        · refine ⟨addType sst.types r.ptype, none, ?_, fun t h => addType_mono _ _ _ h, by simp, ?_, ?_, ?_⟩
          · simp [exec, hn, hd, hk]
          · simp [exec, hn, hd, hk, trackStep]
          · simp [exec, hn, hd, hk, stepOf]
          · simp [exec, hn, hd, hk, opOk, mustAccept]
  | lookup t =>
    refine ⟨sst.types, none, by simp [exec], fun _ h => h, by simp, by simp [exec, trackStep], by simp [exec, stepOf], ?_⟩
    simp only [exec, opOk]
    by_cases ha : (tr.regs.any fun r => r.ptype == t) = true
    · have : sst.types.contains t = true := by
        rw [hR.regs] at ha
        simp only [List.any_map, List.any_eq_true, Function.comp_apply, beq_iff_eq] at ha
        obtain ⟨sl, hsl, rfl⟩ := ha
        exact hI.types sl hsl
      simp only [List.contains_eq_mem, decide_eq_true_eq] at this
      simp [ha, this]
    · simp [ha]
  | new t n user hasFill =>
    simp only [target] at ht
    cases hres : resolve tr.regs t n with
    | some j =>
      obtain ⟨r, hr, _⟩ := resolve_some hres
      simp [hres, hr] at ht
    | none =>
      have hfind : findSlot sst.slots t n = none := by rw [findSlot_eq, ← hR.regs]; exact hres
      refine ⟨sst.types, none, by simp [exec, hfind], fun _ h => h, by simp, by simp [exec, hfind, trackStep],
        by simp [exec, hfind, stepOf], by simp [exec, hfind, opOk, hres]⟩
  | newFactory t n withErr user hasFill =>
    simp only [target] at ht
    cases hres : resolve tr.regs t n with
    | some j =>
      obtain ⟨r, hr, _⟩ := resolve_some hres
      simp [hres, hr] at ht
    | none =>
      have hfind : findSlot sst.slots t n = none := by rw [findSlot_eq, ← hR.regs]; exact hres
      refine ⟨sst.types, none, by simp [exec, hfind], fun _ h => h, by simp, by simp [exec, hfind, trackStep],
        by simp [exec, hfind, stepOf], by simp [exec, hfind, opOk, hres]⟩
  | call h =>
    simp only [target, Option.map_eq_none_iff] at ht
    have hh : sst.handles[h]? = none := by
      rw [hR.handles, List.getElem?_map] at ht
      cases hx : sst.handles[h]? <;> simp [hx] at ht ⊢
    refine ⟨sst.types, none, by simp [exec, hh], fun _ h => h, by simp, by simp [exec, hh, trackStep],
      by simp [exec, hh, stepOf], by simp [exec, hh, opOk, ht]⟩

theorem step_rel_inv {sst : SSt} {tr : Track} (hR : Rel sst tr) (hI : Inv sst) (op : Op) :
    Rel (exec sst op).1 (trackStep tr op (exec sst op).2) ∧ Inv (exec sst op).1 := by
  cases ht : target tr op with
  | some x =>
    obtain ⟨i, inp, creation⟩ := x
    obtain ⟨sl, st', s, newH, touched, hsl, hsh, hex, hop, hn, _, htr⟩ := exec_slot [] hR hI op i inp creation ht
    rw [hex]
    simp only
    rw [htr]
    exact ⟨rel_slotExec hR hsl st' newH inp hn, inv_slotExec hI hsl hsh hop hn⟩
  | none =>
    obtain ⟨types', extra, hex, hty, hext, htr, _, _⟩ := exec_other [] hR hI op ht
    rw [htr, hex]
    refine ⟨⟨?_, ?_⟩, ⟨?_, ?_, ?_⟩⟩
    · simp only [List.map_append, hR.regs, List.map_map]
      congr 1
      cases extra <;> simp
    · exact hR.handles
    · intro sl hsl
      simp only [List.mem_append, List.mem_map, Option.mem_toList] at hsl
      rcases hsl with hsl | ⟨r, hr, rfl⟩
      · exact hI.slots sl hsl
      · exact (hext r hr).1
    · intro sl hsl
      simp only [List.mem_append, List.mem_map, Option.mem_toList] at hsl
      rcases hsl with hsl | ⟨r, hr, rfl⟩
      · exact hty _ (hI.types sl hsl)
      · exact (hext r hr).2.1
    · intro h hh
      obtain ⟨sl, h1, h2⟩ := hI.handles h hh
      exact ⟨sl, by simp only; rw [List.getElem?_append_left (lt_of_getElem? h1)]; exact h1, h2⟩

theorem opOk_slot (fields : List Nat) (tr : Track) (op : Op) (i : Nat) (inp : Input) (creation : Bool)
    (ht : target tr op = some (i, inp, creation)) (s : Step)
    (hspec : (if creation then createStepOk inp s else callStepOk inp s fields) = "") :
    opOk tr op (.step i s) fields = "" := by
  cases op with
  | register r => simp [target] at ht
  | lookup t => simp [target] at ht
  | new t n user hasFill =>
    obtain ⟨r, hres, hr, rfl, rfl⟩ := target_create ht
    simp only [Bool.false_eq_true, if_false] at hspec
    simp [opOk, hres, hr, hspec]
  | newFactory t n withErr user hasFill =>
    obtain ⟨r, hres, hr, rfl, rfl⟩ := target_create ht
    simp only [if_true] at hspec
    simp [opOk, hres, hr, hspec]
  | call h =>
    simp only [target] at ht
    cases hh : tr.handles[h]? with
    | none => simp [hh] at ht
    | some x =>
      simp only [hh, Option.map_some, Option.some.injEq, Prod.mk.injEq] at ht
      obtain ⟨h1, h2, rfl⟩ := ht
      obtain ⟨xi, xinp⟩ := x
      simp only at h1 h2
      subst h1 h2
      simp only [Bool.false_eq_true, if_false] at hspec
      simp [opOk, hh, hspec]

theorem opOk_exec (fields : List Nat) {sst : SSt} {tr : Track} (hR : Rel sst tr) (hI : Inv sst) (op : Op) :
    opOk tr op (exec sst op).2 fields = "" := by
  cases ht : target tr op with
  | some x =>
    obtain ⟨i, inp, creation⟩ := x
    obtain ⟨sl, st', s, newH, touched, hsl, hsh, hex, hop, hn, _, htr⟩ := exec_slot fields hR hI op i inp creation ht
    rw [hex]
    exact opOk_slot fields tr op i inp creation ht s hop.spec
  | none =>
    obtain ⟨_, _, _, _, _, _, _, h⟩ := exec_other fields hR hI op ht
    exact h

/-- every operation of every session satisfies the clauses of the Spec that speak about one operation -/
theorem opsOk_run (fields : List Nat) : ∀ (ops : List Op) (sst : SSt) (tr : Track), Rel sst tr → Inv sst →
    opsOk fields tr ops (runFrom sst ops).2 = "" := by
  intro ops
  induction ops with
  | nil => intro sst tr _ _; rfl
  | cons op ops ih =>
    intro sst tr hR hI
    obtain ⟨hR', hI'⟩ := step_rel_inv hR hI op
    simp only [runFrom, opsOk, opOk_exec fields hR hI op]
    exact ih _ _ hR' hI'

/-! ### frame: what later operations can do to what exists now -/

structure Frame (a b : SSt) : Prop where
  slot : ∀ j sl, a.slots[j]? = some sl → ∃ sl', b.slots[j]? = some sl' ∧ sl'.reg = sl.reg ∧ sl.st.next ≤ sl'.st.next ∧
    (sl.reg.sh.dflt ≠ .shared → ∀ c, c < sl.st.next → (∀ h ∈ a.handles, h.slot = j → capt h.fac ≠ some c) →
      sl'.st.heap c = sl.st.heap c)
  handles : ∀ h ∈ b.handles, h ∈ a.handles ∨
    (∀ sl, a.slots[h.slot]? = some sl → sl.reg.sh.dflt ≠ .shared → ∀ c, capt h.fac = some c → sl.st.next ≤ c)

theorem frame_refl (a : SSt) : Frame a a :=
  ⟨fun _ sl h => ⟨sl, h, rfl, Nat.le_refl _, fun _ _ _ _ => rfl⟩, fun _ hh => .inl hh⟩

theorem frame_trans {a b c : SSt} (h1 : Frame a b) (h2 : Frame b c) : Frame a c := by
  refine ⟨?_, ?_⟩
  · intro j sl hsl
    obtain ⟨sl', hb, r1, n1, f1⟩ := h1.slot j sl hsl
    obtain ⟨sl'', hc, r2, n2, f2⟩ := h2.slot j sl' hb
    refine ⟨sl'', hc, by rw [r2, r1], Nat.le_trans n1 n2, fun hs x hx hcap => ?_⟩
    rw [← f1 hs x hx hcap]
    refine f2 (by rw [r1]; exact hs) x (Nat.lt_of_lt_of_le hx n1) (fun h hh hj => ?_)
    rcases h1.handles h hh with hh | hnew
    · exact hcap h hh hj
    · intro hcc
      have := hnew sl (by rw [hj]; exact hsl) hs x hcc
      omega
  · intro h hh
    rcases h2.handles h hh with hh | hnew
    · exact h1.handles h hh
    · refine .inr fun sl hsl hs x hx => ?_
      obtain ⟨sl', hb, r1, n1, _⟩ := h1.slot _ sl hsl
      exact Nat.le_trans n1 (hnew sl' hb (by rw [r1]; exact hs) x hx)

theorem capt_some {fac : Fac} {c : Nat} (h : capt fac = some c) : ∃ rf, facRf fac = some rf ∧ rf.cell = some c := by
  unfold capt at h
  cases hf : facRf fac with
  | none => simp [hf] at h
  | some rf => simp only [hf, Option.bind_some] at h; exact ⟨rf, rfl, h⟩

theorem frame_exec {sst : SSt} {tr : Track} (hR : Rel sst tr) (hI : Inv sst) (op : Op) :
    Frame sst (exec sst op).1 := by
  cases ht : target tr op with
  | some x =>
    obtain ⟨i, inp, creation⟩ := x
    obtain ⟨sl, st', s, newH, touched, hsl, hsh, hex, hop, hn, htouch, _⟩ := exec_slot [] hR hI op i inp creation ht
    rw [hex]
    have hlt := lt_of_getElem? hsl
    refine ⟨?_, ?_⟩
    · intro j slj hj
      by_cases hij : j = i
      · subst hij
        rw [hsl] at hj
        simp only [Option.some.injEq] at hj
        subst hj
        refine ⟨{ sl with st := st' }, by simp [slotExec, List.getElem?_set_self hlt], rfl, hop.next_le, fun hs c hc hcap => ?_⟩
        refine hop.frame (by rw [hsh]; exact hs) c hc (fun htc => ?_)
        obtain ⟨h, hh, hslot, hcc⟩ := htouch c htc
        exact hcap h hh hslot hcc
      · refine ⟨slj, ?_, rfl, Nat.le_refl _, fun _ _ _ _ => rfl⟩
        simp only [slotExec]
        rw [List.getElem?_set_ne (fun hh => hij hh.symm)]
        exact hj
    · intro h hh
      simp only [slotExec, List.mem_append, Option.mem_toList] at hh
      rcases hh with hh | hh
      · exact .inl hh
      · obtain ⟨h1, h2, h3⟩ := hn h hh
        refine .inr fun sl2 hsl2 hs c hc => ?_
        rw [h1, hsl] at hsl2
        simp only [Option.some.injEq] at hsl2
        subst hsl2
        obtain ⟨rf, hrf, hcell⟩ := capt_some hc
        have hfac : newH.map (·.fac) = some h.fac := by rw [hh]; rfl
        exact ((hop.facOk h.fac hfac).2 (by rw [hsh]; exact hs) rf hrf).1 c hcell |>.1
  | none =>
    obtain ⟨types', extra, hex, _, _, _, _, _⟩ := exec_other [] hR hI op ht
    rw [hex]
    refine ⟨fun j sl hj => ⟨sl, ?_, rfl, Nat.le_refl _, fun _ _ _ _ => rfl⟩, fun h hh => .inl hh⟩
    simp only
    rw [List.getElem?_append_left (lt_of_getElem? hj)]
    exact hj

theorem frame_run : ∀ (ops : List Op) (sst : SSt) (tr : Track), Rel sst tr → Inv sst →
    Frame sst (runFrom sst ops).1 := by
  intro ops
  induction ops with
  | nil => intro sst _ _ _; exact frame_refl sst
  | cons op ops ih =>
    intro sst tr hR hI
    obtain ⟨hR', hI'⟩ := step_rel_inv hR hI op
    exact frame_trans (frame_exec hR hI op) (ih _ _ hR' hI')

/-! ### at the very end every product that must own its configuration reads its own serial number -/

theorem viewOk_exec {sst : SSt} {tr : Track} (hR : Rel sst tr) (hI : Inv sst) (op : Op)
    (fin : SSt) (hF : Frame (exec sst op).1 fin) :
    viewOk tr op (exec sst op).2 (viewOf fin (exec sst op).2) = true := by
  cases ht : target tr op with
  | none => simp [viewOk, ht]
  | some x =>
    obtain ⟨i, inp, creation⟩ := x
    obtain ⟨sl, st', s, newH, touched, hsl, hsh, hex, hop, hn, htouch, _⟩ := exec_slot [] hR hI op i inp creation ht
    rw [hex] at hF ⊢
    simp only [viewOk, ht, stepOf]
    cases creation with
    | true => simp
    | false =>
      cases ho : owns inp with
      | false => simp
      | true =>
        cases hpc : prodCell? s with
        | none => simp
        | some c =>
          obtain ⟨⟨serial, cell, seen⟩, hp, hcell⟩ := prodCell_some hpc
          obtain ⟨evs, res⟩ := s
          simp only at hp hcell
          subst hp hcell
          · obtain ⟨o1, o2, o3⟩ := hop.own rfl ho ⟨serial, some c, seen⟩ c rfl rfl
            have hns : sl.reg.sh.dflt ≠ .shared := by
              rw [← hsh]
              simp only [owns, freshApplies, Bool.and_eq_true, bne_iff_ne, ne_eq] at ho
              exact ho.1.2
            have hnone : newH = none := by
              have := hop.made
              simp only [isMade] at this
              cases newH with
              | none => rfl
              | some h => simp at this
            have hlt := lt_of_getElem? hsl
            obtain ⟨sl'', hfin, _, _, hfr⟩ := hF.slot i { sl with st := st' }
              (by simp [slotExec, List.getElem?_set_self hlt])
            have hheap : sl''.st.heap c = st'.heap c := by
              refine hfr hns c (by simp only; omega) (fun h hh hslot => ?_)
              simp only [slotExec, hnone, Option.toList_none, List.append_nil] at hh
              obtain ⟨slh, g1, g2, _, g4⟩ := hI.handles h hh
              rw [hslot, hsl] at g1
              simp only [Option.some.injEq] at g1
              subst g1
              intro hcc
              obtain ⟨rf, hrf, hcell⟩ := capt_some hcc
              have := (g4 (by rw [← g2]; exact hns) rf hrf).1 c hcell
              omega
            simp only [viewOf, hfin, prodCell?, product?, Option.bind_some, Option.isSome_some, Bool.and_true,
              Bool.not_false, Bool.true_and, Bool.not_true, Bool.false_or, Option.map_some, beq_iff_eq, Option.some.injEq]
            rw [hheap, o3]

theorem viewsOk_run : ∀ (ops : List Op) (sst : SSt) (tr : Track) (fin : SSt), Rel sst tr → Inv sst →
    Frame (runFrom sst ops).1 fin → viewsOk tr ops (runFrom sst ops).2 ((runFrom sst ops).2.map (viewOf fin)) = true := by
  intro ops
  induction ops with
  | nil => intro sst tr fin _ _ _; rfl
  | cons op ops ih =>
    intro sst tr fin hR hI hF
    obtain ⟨hR', hI'⟩ := step_rel_inv hR hI op
    simp only [runFrom, List.map_cons, viewsOk, Bool.and_eq_true]
    simp only [runFrom] at hF
    exact ⟨viewOk_exec hR hI op fin (frame_trans (frame_run ops _ _ hR' hI') hF), ih _ _ fin hR' hI' hF⟩

/-! ### the configurations obtained by different `Get`s of one registration are pairwise distinct -/

def CellsGe (sst : SSt) (l : List (Nat × Nat)) : Prop := ∀ x ∈ l, ∀ sl, sst.slots[x.1]? = some sl → sl.st.next ≤ x.2

/-- one of the three lists of `Cells` -/
structure Proj where
  π : Cells → List (Nat × Nat)
  app : ∀ a b : Cells, π ⟨a.fills ++ b.fills, a.confs ++ b.confs, a.prods ++ b.prods⟩ = π a ++ π b
  nil : π ⟨[], [], []⟩ = []

def projFills : Proj := ⟨(·.fills), fun _ _ => rfl, rfl⟩
def projConfs : Proj := ⟨(·.confs), fun _ _ => rfl, rfl⟩
def projProds : Proj := ⟨(·.prods), fun _ _ => rfl, rfl⟩

/-- a step contributes nothing, or the frontier of its slot — which it then moves on by one -/
def Contributes (sst sst' : SSt) (l : List (Nat × Nat)) : Prop :=
  l = [] ∨ ∃ i sl sl', sst.slots[i]? = some sl ∧ sst'.slots[i]? = some sl' ∧ sl'.st.next = sl.st.next + 1 ∧ l = [(i, sl.st.next)]

theorem cells_exec {sst : SSt} {tr : Track} (hR : Rel sst tr) (hI : Inv sst) (op : Op) :
    Contributes sst (exec sst op).1 (cellsOf tr op (exec sst op).2).fills ∧
    Contributes sst (exec sst op).1 (cellsOf tr op (exec sst op).2).confs ∧
    Contributes sst (exec sst op).1 (cellsOf tr op (exec sst op).2).prods := by
  cases ht : target tr op with
  | none => simp [cellsOf, ht, Contributes]
  | some x =>
    obtain ⟨i, inp, creation⟩ := x
    obtain ⟨sl, st', s, newH, touched, hsl, hsh, hex, hop, hn, htouch, _⟩ := exec_slot [] hR hI op i inp creation ht
    rw [hex]
    have hlt := lt_of_getElem? hsl
    have hnew : (slotExec sst i sl st' newH).slots[i]? = some { sl with st := st' } := by
      simp [slotExec, List.getElem?_set_self hlt]
    -- an identity the step shows, if it is the frontier of the slot, which then moves on by one
    have hone : ∀ o : Option Nat, (∀ c, o = some c → c = sl.st.next ∧ st'.next = sl.st.next + 1) →
        Contributes sst (slotExec sst i sl st' newH) (o.map fun c => (i, c)).toList := by
      intro o ho
      cases o with
      | none => exact .inl rfl
      | some c => obtain ⟨rfl, h1⟩ := ho c rfl; exact .inr ⟨i, sl, _, hsl, hnew, h1, rfl⟩
    simp only [cellsOf, ht, stepOf]
    refine ⟨?_, ?_, ?_⟩
    · cases hg : gets inp creation with
      | false => exact .inl (by simp)
      | true => exact hone _ fun c hc => ⟨(hop.alloc hg).2.1 c hc, (hop.alloc hg).1⟩
    · cases hg : gets inp creation with
      | false => exact .inl (by simp)
      | true => exact hone _ fun c hc => ⟨(hop.alloc hg).2.2 c hc, (hop.alloc hg).1⟩
    · cases creation with
      | true => exact .inl (by simp)
      | false =>
        cases ho : owns inp with
        | false => exact .inl (by simp)
        | true =>
          refine hone _ fun c hc => ?_
          obtain ⟨p, hp, hcell⟩ := prodCell_some hc
          exact ⟨(hop.own rfl ho p c hp hcell).1, (hop.own rfl ho p c hp hcell).2.1⟩

theorem cells_run (P : Proj)
    (hstep : ∀ (sst : SSt) (tr : Track) (op : Op), Rel sst tr → Inv sst →
      Contributes sst (exec sst op).1 (P.π (cellsOf tr op (exec sst op).2))) :
    ∀ (ops : List Op) (sst : SSt) (tr : Track), Rel sst tr → Inv sst →
      CellsGe sst (P.π (collect tr ops (runFrom sst ops).2)) ∧ (P.π (collect tr ops (runFrom sst ops).2)).Nodup := by
  intro ops
  induction ops with
  | nil =>
    intro sst tr _ _
    simp only [runFrom, collect, P.nil]
    exact ⟨fun x hx => by simp at hx, List.nodup_nil⟩
  | cons op ops ih =>
    intro sst tr hR hI
    obtain ⟨hR', hI'⟩ := step_rel_inv hR hI op
    obtain ⟨ih1, ih2⟩ := ih _ _ hR' hI'
    have hfr := frame_exec hR hI op
    simp only [runFrom, collect, P.app]
    have htail : CellsGe sst (P.π (collect (trackStep tr op (exec sst op).2) ops (runFrom (exec sst op).1 ops).2)) := by
      intro x hx sl hsl
      obtain ⟨sl', h1, _, h3, _⟩ := hfr.slot _ sl hsl
      exact Nat.le_trans h3 (ih1 x hx sl' h1)
    rcases hstep sst tr op hR hI with h0 | ⟨i, sl, sl', h1, h2, h3, h4⟩
    · rw [h0]; exact ⟨by simpa using htail, by simpa using ih2⟩
    · rw [h4]
      refine ⟨?_, ?_⟩
      · intro x hx
        simp only [List.cons_append, List.nil_append, List.mem_cons] at hx
        rcases hx with rfl | hx
        · intro sl2 hsl2
          simp only at hsl2
          rw [h1] at hsl2
          simp only [Option.some.injEq] at hsl2
          subst hsl2
          exact Nat.le_refl _
        · exact htail x hx
      · simp only [List.cons_append, List.nil_append, List.nodup_cons]
        refine ⟨fun hmem => ?_, ih2⟩
        have := ih1 _ hmem sl' h2
        simp only at this
        omega

/-! ### whole runs -/

theorem rel_run : ∀ (ops : List Op) (sst : SSt) (tr : Track), Rel sst tr → Inv sst →
    Rel (runFrom sst ops).1 (trackRun tr ops (runFrom sst ops).2) ∧ Inv (runFrom sst ops).1 := by
  intro ops
  induction ops with
  | nil => intro sst tr hR hI; exact ⟨hR, hI⟩
  | cons op ops ih =>
    intro sst tr hR hI
    obtain ⟨hR', hI'⟩ := step_rel_inv hR hI op
    simp only [runFrom, trackRun]
    exact ih _ _ hR' hI'

/-- no two accepted registrations for the same plugin type and name -/
def Uniq (regs : List Reg) : Prop :=
  ∀ (i j : Nat) (r r' : Reg), regs[i]? = some r → regs[j]? = some r' → r.ptype = r'.ptype → r.name = r'.name → i = j

theorem uniq_step {sst : SSt} {tr : Track} (hR : Rel sst tr) (hI : Inv sst) (op : Op) (hU : Uniq tr.regs) :
    Uniq (trackStep tr op (exec sst op).2).regs := by
  cases ht : target tr op with
  | some x =>
    obtain ⟨i, inp, creation⟩ := x
    obtain ⟨sl, st', s, newH, touched, hsl, hsh, hex, hop, hn, _, htr⟩ := exec_slot [] hR hI op i inp creation ht
    rw [hex]; simp only; rw [htr]; exact hU
  | none =>
    obtain ⟨types', extra, _, _, hext, htr, _, _⟩ := exec_other [] hR hI op ht
    rw [htr]
    cases extra with
    | none => simpa using hU
    | some r =>
      obtain ⟨_, _, hnone⟩ := hext r rfl
      have hno := resolve_none hnone
      unfold Uniq
      intro i j a b hi hj h1 h2
      simp only [Option.toList_some] at hi hj
      by_cases hil : i < tr.regs.length <;> by_cases hjl : j < tr.regs.length
      · rw [List.getElem?_append_left hil] at hi
        rw [List.getElem?_append_left hjl] at hj
        exact hU i j a b hi hj h1 h2
      · rw [List.getElem?_append_left hil] at hi
        rw [List.getElem?_append_right (by omega)] at hj
        have : b = r := by
          cases hk : j - tr.regs.length with
          | zero => simp [hk] at hj; exact hj.symm
          | succ k => simp [hk] at hj
        subst this
        exact absurd ⟨h1, h2⟩ (hno a (List.mem_of_getElem? hi))
      · rw [List.getElem?_append_left hjl] at hj
        rw [List.getElem?_append_right (by omega)] at hi
        have : a = r := by
          cases hk : i - tr.regs.length with
          | zero => simp [hk] at hi; exact hi.symm
          | succ k => simp [hk] at hi
        subst this
        exact absurd ⟨h1.symm, h2.symm⟩ (hno b (List.mem_of_getElem? hj))
      · rw [List.getElem?_append_right (by omega)] at hi hj
        have hi0 : i - tr.regs.length = 0 := by
          cases hk : i - tr.regs.length with
          | zero => rfl
          | succ k => simp [hk] at hi
        have hj0 : j - tr.regs.length = 0 := by
          cases hk : j - tr.regs.length with
          | zero => rfl
          | succ k => simp [hk] at hj
        omega

theorem uniq_run : ∀ (ops : List Op) (sst : SSt) (tr : Track), Rel sst tr → Inv sst → Uniq tr.regs →
    Uniq (trackRun tr ops (runFrom sst ops).2).regs := by
  intro ops
  induction ops with
  | nil => intro sst tr _ _ hU; exact hU
  | cons op ops ih =>
    intro sst tr hR hI hU
    obtain ⟨hR', hI'⟩ := step_rel_inv hR hI op
    simp only [runFrom, trackRun]
    exact ih _ _ hR' hI' (uniq_step hR hI op hU)

theorem uniq_empty : Uniq Track.empty.regs := by
  unfold Uniq
  intro i j r r' hi; simp [Track.empty] at hi

/-! ### a session with one registration and one creation IS the single-creation model -/

theorem runFrom_calls (h : Nat) (hd : Handle) : ∀ (k : Nat) (sst : SSt) (sl : Slot),
    sst.handles[h]? = some hd → sst.slots[hd.slot]? = some sl →
    (runFrom sst (List.replicate k (.call h))).2 =
      (iter (step (callFac hd.reg.sh hd.world hd.fac)) k sl.st).2.map (Out.step hd.slot) := by
  intro k
  induction k with
  | zero => intro sst sl _ _; rfl
  | succ k ih =>
    intro sst sl hh hs
    have hlt := lt_of_getElem? hs
    have hex : exec sst (.call h) =
        (setSt sst hd.slot sl (step (callFac hd.reg.sh hd.world hd.fac) sl.st).1,
         .step hd.slot (step (callFac hd.reg.sh hd.world hd.fac) sl.st).2) := by
      simp [exec, hh, hs]
    simp only [List.replicate_succ, runFrom, hex, iter, List.map_cons]
    congr 1
    exact ih _ { sl with st := (step (callFac hd.reg.sh hd.world hd.fac) sl.st).1 }
      (by simpa [setSt] using hh) (by simp [setSt, List.getElem?_set_self hlt])

theorem runFrom_news (t : Nat) (n : String) (user : Cfg) (hasFill : Bool) (i : Nat) : ∀ (k : Nat) (sst : SSt) (sl : Slot),
    findSlot sst.slots t n = some i → sst.slots[i]? = some sl →
    (runFrom sst (List.replicate k (.new t n user hasFill))).2 =
      (iter (step (regNew sl.reg.sh (sl.reg.world user hasFill))) k sl.st).2.map (Out.step i) := by
  intro k
  induction k with
  | zero => intro sst sl _ _; rfl
  | succ k ih =>
    intro sst sl hf hs
    have hlt := lt_of_getElem? hs
    have hex : exec sst (.new t n user hasFill) =
        (setSt sst i sl (step (regNew sl.reg.sh (sl.reg.world user hasFill)) sl.st).1,
         .step i (step (regNew sl.reg.sh (sl.reg.world user hasFill)) sl.st).2) := by
      simp [exec, hf, hs]
    simp only [List.replicate_succ, runFrom, hex, iter, List.map_cons]
    congr 1
    have hf' : findSlot (setSt sst i sl (step (regNew sl.reg.sh (sl.reg.world user hasFill)) sl.st).1).slots t n = some i := by
      rw [findSlot_eq] at hf ⊢
      simp only [setSt, List.map_set]
      rw [set_same _ _ _ (by rw [List.getElem?_map, hs]; rfl)]
      exact hf
    exact ih _ { sl with st := (step (regNew sl.reg.sh (sl.reg.world user hasFill)) sl.st).1 } hf'
      (by simp [setSt, List.getElem?_set_self hlt])

theorem runFrom_nohandle (h : Nat) : ∀ (k : Nat) (sst : SSt), sst.handles[h]? = none →
    (runFrom sst (List.replicate k (.call h))).2.filterMap stepOf = [] := by
  intro k
  induction k with
  | zero => intro sst _; rfl
  | succ k ih =>
    intro sst hh
    have hex : exec sst (.call h) = (sst, .noHandle) := by simp [exec, hh]
    simp only [List.replicate_succ, runFrom, hex, List.filterMap_cons, stepOf]
    exact ih sst hh

theorem initSt_world (sh : Shape) (w w' : World) (h : w.dflt = w'.dflt) : initSt sh w = initSt sh w' := by
  unfold initSt; rw [h]

theorem filterMap_stepOf_map (i : Nat) (l : List Step) : (l.map (Out.step i)).filterMap stepOf = l := by
  induction l with
  | nil => rfl
  | cons a l ih => simp [stepOf, ih]

theorem filterMap_stepOf_comp (i : Nat) (l : List Step) : l.filterMap (stepOf ∘ Out.step i) = l := by
  induction l with
  | nil => rfl
  | cons a l ih => simp [stepOf, ih]

/-- one registration, one `NewFactory`, k calls of the factory: the steps are those of `Model.C18.run` -/
theorem single_factory (r : Reg) (hn : r.name ≠ "") (hreg : registerOk r.sh = true) (e : Bool) (user : Cfg) (hasFill : Bool)
    (k : Nat) :
    some ((Pandora.Model.C18Sess.run
        (.register r :: .newFactory r.ptype r.name e user hasFill :: List.replicate k (.call 0))).outs.filterMap stepOf) =
      (Pandora.Model.C18.run { r.input (formOf e) user hasFill with k := k }).map (·.steps) := by
  have hw : initSt r.sh (r.world [] false) = initSt r.sh (r.world user hasFill) := initSt_world _ _ _ rfl
  have hex1 : exec SSt.empty (.register r) =
      (⟨addType [] r.ptype, [⟨r, initSt r.sh (r.world user hasFill)⟩], []⟩, .accepted) := by
    simp [exec, hn, hreg, SSt.empty, findSlot, hw]
  have hfind : findSlot [(⟨r, initSt r.sh (r.world user hasFill)⟩ : Slot)] r.ptype r.name = some 0 := by simp [findSlot]
  change _ = (Pandora.Model.C18.run ⟨r.sh, formOf e, r.world user hasFill, k⟩).map (·.steps)
  simp only [Pandora.Model.C18Sess.run, runFrom, hex1, List.filterMap_cons, stepOf]
  rw [run_steps _ hreg, Option.some.injEq]
  -- the model's creation, as the session executes it
  generalize hc : regNewFactory r.sh (r.world user hasFill) (formOf e).numOut
    (st0 (initSt r.sh (r.world user hasFill))) = c
  rcases phase_cases ⟨r.sh, formOf e, r.world user hasFill, k⟩ (initSt r.sh (r.world user hasFill)) with
    ⟨hf, _⟩ | ⟨_, _, _, ⟨err, hce, hsteps⟩ | ⟨fac, hce, hsteps, _⟩⟩
  · exact absurd hf (formOf_ne e)
  · have hce' : c.2 = .error err := by rw [← hc]; exact hce
    rw [hsteps]
    simp only [exec, hfind, List.getElem?_cons_zero, hc, hce', stepOf]
    rw [runFrom_nohandle 0 k _ (by simp [setSt]), ← hc]
  · have hce' : c.2 = .ok fac := by rw [← hc]; exact hce
    rw [hsteps]
    simp only [exec, hfind, List.getElem?_cons_zero, hc, hce', stepOf]
    rw [runFrom_calls 0 ⟨0, r, fac, e, user, hasFill⟩ k _ ⟨r, c.1⟩ (by simp) (by simp [setSt]), ← hc]
    simp only [List.filterMap_map, filterMap_stepOf_comp, Handle.world]

/-- one registration, k calls of `New`: the steps are those of `Model.C18.run` -/
theorem single_new (r : Reg) (hn : r.name ≠ "") (hreg : registerOk r.sh = true) (user : Cfg) (hasFill : Bool) (k : Nat) :
    some ((Pandora.Model.C18Sess.run
        (.register r :: List.replicate k (.new r.ptype r.name user hasFill))).outs.filterMap stepOf) =
      (Pandora.Model.C18.run { r.input .component user hasFill with k := k }).map (·.steps) := by
  have hw : initSt r.sh (r.world [] false) = initSt r.sh (r.world user hasFill) := initSt_world _ _ _ rfl
  have hex1 : exec SSt.empty (.register r) =
      (⟨addType [] r.ptype, [⟨r, initSt r.sh (r.world user hasFill)⟩], []⟩, .accepted) := by
    simp [exec, hn, hreg, SSt.empty, findSlot, hw]
  simp only [Pandora.Model.C18Sess.run, runFrom, hex1, List.filterMap_cons, stepOf]
  simp only [Pandora.Model.C18.run, runSt, hreg, Bool.not_true, Bool.false_eq_true, if_false, Reg.input, Option.map_some,
    Option.some.injEq]
  rw [runFrom_news r.ptype r.name user hasFill 0 k _ ⟨r, initSt r.sh (r.world user hasFill)⟩ (by simp [findSlot]) (by simp)]
  simp [filterMap_stepOf_map, filterMap_stepOf_comp]

end Pandora.Proofs.C18Sess
