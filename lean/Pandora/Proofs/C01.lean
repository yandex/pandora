/-
Helper lemmas of C01 (statements in the vocabulary of `Proofs/LineMath` and `Bridge/*`; the property theorems and their
statement-level definitions are in `Props/C01.lean`).
-/
import Pandora.Bridge.C01

namespace Pandora.Proofs.C01
open Pandora Pandora.Gen.Schedule Pandora.Bridge.Schedule Pandora.Bridge.C01 Pandora.Proofs.LineMath

theorem floor_ns_le {x : ℝ} {D : ℤ} (hx : x ≤ secs D) : ⌊x * 1000000000⌋ ≤ D := by
  have : x * 1000000000 ≤ (D:ℝ) := by
    rw [← secs_mul D]; exact mul_le_mul_of_nonneg_right hx (by norm_num)
  have h2 := Int.floor_le_floor this
  simpa using h2

/-- const profile: everything the property says about operation `k < n` -/
theorem const_core (ops : ℝ) (D : ℤ) (hops : 0 ≤ ops) (hD : 0 < D) (k : ℤ) (hk0 : 0 ≤ k)
    (hkn : k < Go.f2i (ops * secs D)) :
    0 ≤ (k:ℝ) / ops ∧ (k:ℝ) / ops ≤ secs D ∧ ops * ((k:ℝ) / ops) = k ∧
      (∀ y : ℝ, 0 ≤ y → y < (k:ℝ) / ops → ops * y < k) ∧
      Go.f2i ((k:ℝ) * (1000000000 / ops)) = ⌊(k:ℝ) / ops * 1000000000⌋ ∧
      0 ≤ ⌊(k:ℝ) / ops * 1000000000⌋ ∧ ⌊(k:ℝ) / ops * 1000000000⌋ ≤ D := by
  have htot0 : 0 ≤ ops * secs D := mul_nonneg hops (secs_pos hD).le
  rw [Go.f2i_of_nonneg htot0] at hkn
  have hk0' : (0:ℝ) ≤ (k:ℝ) := Int.cast_nonneg hk0
  have hklt : (k:ℝ) < ops * secs D := (Int.cast_lt.mpr hkn).trans_le (Int.floor_le _)
  -- a zero rate has no operation at all
  have hops' : 0 < ops :=
    lt_of_le_of_ne hops fun h => by rw [← h, zero_mul] at hklt; exact absurd hklt (not_lt.mpr hk0')
  have hx0 : 0 ≤ (k:ℝ) / ops := div_nonneg hk0' hops
  have hxs : (k:ℝ) / ops ≤ secs D := (div_le_iff₀ hops').mpr (by rw [mul_comm]; exact hklt.le)
  have hns : 0 ≤ (k:ℝ) / ops * 1000000000 := mul_nonneg hx0 (by norm_num)
  refine ⟨hx0, hxs, by rw [mul_comm]; exact div_mul_cancel₀ _ hops'.ne', fun y _ hyx => ?_, ?_,
    Int.floor_nonneg.mpr hns, floor_ns_le hxs⟩
  · rw [mul_comm]; exact (lt_div_iff₀ hops').mp hyx
  · rw [show (k:ℝ) * (1000000000 / ops) = (k:ℝ) / ops * 1000000000 by ring]; exact Go.f2i_of_nonneg hns

/-- the rate at the end of the line is `to` -/
theorem slope_end (f t : ℝ) {D : ℤ} (hD : 0 < D) : slope f t D * secs D + f = t := by
  unfold slope; rw [div_mul_cancel₀ _ (secs_pos hD).ne']; ring

theorem line_cfg {f t : ℝ} {D : ℤ} (hf : 0 ≤ f) (ht : 0 ≤ t) (hD : 0 < D) (hne : f ≠ t) :
    Cfg (slope f t D) f (secs D) :=
  ⟨secs_pos hD, div_ne_zero (sub_ne_zero.mpr (Ne.symm hne)) (secs_pos hD).ne', hf, (slope_end f t hD).symm ▸ ht⟩

theorem line_total {f t : ℝ} {D : ℤ} (hD : 0 < D) :
    cum (slope f t D) f (secs D) = (f + t) / 2 * secs D := by
  rw [cum_total, slope_end f t hD]

/-- line profile with `from ≠ to`: everything the property says, about the regenerated `NewLine` -/
theorem line_core (f t : ℝ) (D : ℤ) (hf : 0 ≤ f) (ht : 0 ≤ t) (hD : 0 < D) (hne : f ≠ t) :
    ∃ at_ : ℤ → ℤ, NewLine f t D = Sched.doAt D ⌊(f + t) / 2 * secs D⌋ at_ ∧
      ∀ k : ℤ, 0 ≤ k → k < ⌊(f + t) / 2 * secs D⌋ →
        Earliest (slope f t D) f (secs D) (k:ℝ) (xk (slope f t D) f (k:ℝ)) ∧
        at_ k = ⌊xk (slope f t D) f (k:ℝ) * 1000000000⌋ ∧ 0 ≤ at_ k ∧ at_ k ≤ D := by
  have hc := line_cfg hf ht hD hne
  have htot := line_total (f := f) (t := t) hD
  have hs := secs_pos hD
  have htot0 : 0 ≤ (f + t) / 2 * secs D := by positivity
  obtain ⟨at_, hnew, hat⟩ := NewLine_sem f t D hne hc
  refine ⟨at_, ?_, ?_⟩
  · rw [hnew, htot, Go.f2i_of_nonneg htot0]
  · intro k hk0 hkn
    have hk0' : (0:ℝ) ≤ (k:ℝ) := by exact_mod_cast hk0
    have hkle : (k:ℝ) ≤ cum (slope f t D) f (secs D) := by
      rw [htot]
      have : ((k:ℤ):ℝ) < ⌊(f + t) / 2 * secs D⌋ := by exact_mod_cast hkn
      exact le_of_lt (lt_of_lt_of_le this (Int.floor_le _))
    have he := earliest_xk hc hk0' hkle
    have hx0 : 0 ≤ xk (slope f t D) f (k:ℝ) := he.1
    have hpos : 0 ≤ xk (slope f t D) f (k:ℝ) * 1000000000 := by positivity
    have hatk : at_ k = ⌊xk (slope f t D) f (k:ℝ) * 1000000000⌋ := by
      rw [hat k hk0 hkle, Go.f2i_of_nonneg hpos]
    refine ⟨he, hatk, ?_, ?_⟩
    · rw [hatk]; exact Int.floor_nonneg.mpr hpos
    · rw [hatk]; exact floor_ns_le he.2.1

/-- the rate levels of a step profile -/
theorem loopLE_levels (f t : ℝ) (s : ℤ) (hs : 1 ≤ s) :
    ∀ r ∈ Go.loopLE f t (s:ℝ), f ≤ r ∧ r ≤ t := by
  have hs' : (0:ℝ) < (s:ℝ) := Int.cast_pos.mpr (by omega)
  intro r hr
  unfold Go.loopLE at hr
  split_ifs at hr with hft
  · obtain ⟨j, hj, rfl⟩ := List.mem_map.mp hr
    have h3 : (j:ℝ) * (s:ℝ) ≤ t - f :=
      (le_div_iff₀ hs').mp ((Nat.cast_le.mpr (Nat.lt_succ_iff.mp (List.mem_range.mp hj))).trans
        (Nat.floor_le (div_nonneg (sub_nonneg.mpr hft) hs'.le)))
    exact ⟨le_add_of_nonneg_right (mul_nonneg (Nat.cast_nonneg j) hs'.le), by linarith only [h3]⟩
  · simp at hr

end Pandora.Proofs.C01
