/-
C08: termination of the system provider ∥ channel ∥ consumers ∥ cancel (`Model.C08Mach`).

`mu` (bounded cell, `m` = min⁺(limit, passes·n)) and `muC` (cancelled context, providers that read ctx.Err() in their
loop) are variants: EVERY enabled transition other than `cancel` makes them strictly smaller, `cancel` leaves them as
they are.  So a schedule — any schedule, no fairness — contains at most `mu init` effective steps, and an infinite
schedule that does not idle for ever while something can happen reaches a state where nothing but `cancel` can happen
(which `no_deadlock` characterises as the complete, clean end).  Core Lean only.
-/
import Pandora.Proofs.C08Conc

namespace Pandora.Proofs.C08
open Pandora.Model.C08

/-! ## consumers that have not yet seen the end of ammo -/

def waitingIn : List Nat → List Nat → Nat
  | [], _ => 0
  | x :: l, e => (if x ∈ e then 0 else 1) + waitingIn l e

def waiting (cons : Nat) (s : Sys) : Nat := waitingIn (List.range cons) s.ended

theorem waitingIn_cons_le (l : List Nat) (c : Nat) (e : List Nat) : waitingIn l (c :: e) ≤ waitingIn l e := by
  induction l with
  | nil => exact Nat.le_refl _
  | cons x l ih =>
    simp only [waitingIn]
    by_cases h : x ∈ e
    · have h1 : x ∈ c :: e := List.mem_cons_of_mem _ h
      rw [if_pos h, if_pos h1]; omega
    · rw [if_neg h]
      by_cases h1 : x ∈ c :: e
      · rw [if_pos h1]; omega
      · rw [if_neg h1]; omega

theorem waitingIn_cons_lt (l : List Nat) (c : Nat) (e : List Nat) (hc : c ∈ l) (hn : c ∉ e) :
    waitingIn l (c :: e) < waitingIn l e := by
  induction l with
  | nil => cases hc
  | cons x l ih =>
    have hle := waitingIn_cons_le l c e
    simp only [waitingIn]
    by_cases hx : x = c
    · subst hx
      have h1 : x ∈ x :: e := List.mem_cons_self
      rw [if_pos h1, if_neg hn]; omega
    · have hcl : c ∈ l := by
        rcases List.mem_cons.mp hc with h | h
        · exact absurd h.symm hx
        · exact h
      have := ih hcl
      by_cases h' : x ∈ e
      · have h1 : x ∈ c :: e := List.mem_cons_of_mem _ h'
        rw [if_pos h', if_pos h1]; omega
      · have h1 : x ∉ c :: e := by
          intro hm
          rcases List.mem_cons.mp hm with h | h
          · exact hx h
          · exact h' h
        rw [if_neg h', if_neg h1]; omega

theorem waitingIn_nil (l : List Nat) : waitingIn l [] = l.length := by
  induction l with
  | nil => rfl
  | cons x l ih => simp only [waitingIn, List.length_cons, ih]; simp; omega

theorem waitingIn_le (l : List Nat) (e : List Nat) : waitingIn l e ≤ l.length := by
  induction l with
  | nil => exact Nat.le_refl _
  | cons x l ih =>
    simp only [waitingIn, List.length_cons]
    split <;> omega

theorem waiting_eoa (cons : Nat) (s : Sys) (c : Nat) (hc : c < cons) (hn : c ∉ s.ended) :
    waiting cons { s with ended := c :: s.ended } < waiting cons s :=
  waitingIn_cons_lt (List.range cons) c s.ended (List.mem_range.mpr hc) hn

theorem waiting_init (inp : Input) (n cons : Nat) : waiting cons (Sys.init inp n) = cons := by
  simp [waiting, waitingIn_nil, Sys.init]

/-! ## the variants -/

/-- what `Run` still has to do: `R` = sends that are still possible -/
def provPart (n : Nat) (R : Nat) (s : Sys) : Nat :=
  if s.result.isSome then 0 else 6 * R + (if s.offering.isSome then 1 else 2 + tauBudget n s.ps) + 1

/-- bounded cell, `m` = the bound -/
def mu (n cons m : Nat) (s : Sys) : Nat := provPart n (m - s.sent) s + s.buf.length + waiting cons s

/-- cancelled context, provider that reads ctx.Err() in its loop: only the ammo in the select may still be sent -/
def muC (n cons : Nat) (s : Sys) : Nat :=
  (if s.result.isSome then 0 else (if s.offering.isSome then 5 else 2 + tauBudget n s.ps) + 1) + s.buf.length + waiting cons s

theorem strict_lt_of_atBound {b : Bounds} {n k m : Nat} (hs : Strict b n k) (hm : AtBound b n m) : k < m := by
  obtain ⟨_, h2⟩ := hm
  rcases h2 with ⟨h0, h1⟩ | ⟨h0, h1⟩
  · rcases hs.1 with h | h <;> omega
  · rcases hs.2 with h | h <;> omega

theorem isSome_of_eq_some {α : Type} {o : Option α} {a : α} (h : o = some a) : o.isSome = true := by simp [h]

/-- bounded cell: every enabled transition but `cancel` makes `mu` smaller; `cancel` leaves it as it is -/
theorem mu_next (inp : Input) (n cap cons m : Nat) (hn : 0 < n) (hm : AtBound inp.b n m)
    (s s' : Sys) (l : Label) (hi : SysInv inp n cap s) (h : s.next inp n cap cons l = some s') :
    (l ≠ .cancel → mu n cons m s' < mu n cons m s) ∧ mu n cons m s' ≤ mu n cons m s := by
  cases l with
  | prod =>
    obtain ⟨hres, hoff, h⟩ := next_prod_some inp n cap cons s s' h
    obtain ⟨_, hg, _⟩ := hi.running hres
    have ok := good_step inp n hn s.cancelled s.sent s.ps hg hi.below
    have key : mu n cons m s' < mu n cons m s := by
      rcases h with ⟨r, _, rfl⟩ | ⟨i, ps', _, rfl⟩ | ⟨ps', hstep, rfl⟩
      · simp [mu, provPart, hres, hoff, Sys.sent, waiting]
      · simp [mu, provPart, hres, hoff, Sys.sent, waiting]; try omega
      · have := (ok.tau ps' hstep).2
        simp [mu, provPart, hres, hoff, Sys.sent, waiting]; omega
    exact ⟨fun _ => key, Nat.le_of_lt key⟩
  | push =>
    obtain ⟨i, ps', hoff, hres, _, rfl⟩ := next_push_some h
    obtain ⟨_, _, ho⟩ := hi.running hres
    have hlt := strict_lt_of_atBound (ho i ps' hoff).2.1 hm
    have htb := tauBudget_le_one n ps'
    have key : mu n cons m { s with ps := ps', offering := none, buf := s.buf ++ [i] } < mu n cons m s := by
      simp only [mu, provPart, hres, hoff, Sys.sent, waiting, List.length_append, List.length_singleton,
        Option.isSome_none, Option.isSome_some, Bool.false_eq_true, if_false, if_true]
      simp only [Sys.sent] at hlt
      omega
    exact ⟨fun _ => key, Nat.le_of_lt key⟩
  | hand c =>
    obtain ⟨i, ps', hoff, hres, _, _, _, rfl⟩ := next_hand_some h
    obtain ⟨_, _, ho⟩ := hi.running hres
    have hlt := strict_lt_of_atBound (ho i ps' hoff).2.1 hm
    have htb := tauBudget_le_one n ps'
    have key : mu n cons m { s with ps := ps', offering := none, log := s.log ++ [(c, i)] } < mu n cons m s := by
      simp only [mu, provPart, hres, hoff, Sys.sent, waiting, List.length_append, List.length_singleton,
        Option.isSome_none, Option.isSome_some, Bool.false_eq_true, if_false, if_true]
      simp only [Sys.sent] at hlt
      omega
    exact ⟨fun _ => key, Nat.le_of_lt key⟩
  | done =>
    obtain ⟨hres, _, _, rfl⟩ := next_done_some h
    have key : mu n cons m { s with offering := none, result := some (doneResOf inp.kind), closed := true } < mu n cons m s := by
      simp [mu, provPart, hres, Sys.sent, waiting]
    exact ⟨fun _ => key, Nat.le_of_lt key⟩
  | recv c =>
    obtain ⟨i, rest, hbuf, _, _, rfl⟩ := next_recv_some h
    have key : mu n cons m { s with buf := rest, log := s.log ++ [(c, i)] } < mu n cons m s := by
      have e : m - (s.log.length + 1 + rest.length) = m - (s.log.length + (rest.length + 1)) := by omega
      by_cases hr : s.result.isSome = true <;> by_cases ho : s.offering.isSome = true <;>
        simp [mu, provPart, Sys.sent, waiting, hbuf, hr, ho, e] <;> omega
    exact ⟨fun _ => key, Nat.le_of_lt key⟩
  | eoa c =>
    obtain ⟨_, _, hc, hne, rfl⟩ := next_eoa_some h
    have hw := waiting_eoa cons s c hc hne
    have key : mu n cons m { s with ended := c :: s.ended } < mu n cons m s := by
      simp only [mu, provPart, Sys.sent] at hw ⊢
      omega
    exact ⟨fun _ => key, Nat.le_of_lt key⟩
  | cancel =>
    simp only [Sys.next] at h
    cases h
    exact ⟨fun h => absurd rfl h, by simp [mu, provPart, Sys.sent, waiting]⟩

/-- cancelled context, provider that reads ctx.Err(): every enabled transition but `cancel` makes `muC` smaller -/
theorem muC_next (inp : Input) (n cap cons : Nat) (hn : 0 < n) (ht : inp.kind.ctxTop = true)
    (s s' : Sys) (l : Label) (hi : SysInv inp n cap s) (hc : s.cancelled = true)
    (h : s.next inp n cap cons l = some s') :
    (l ≠ .cancel → muC n cons s' < muC n cons s) ∧ muC n cons s' ≤ muC n cons s ∧ s'.cancelled = true := by
  have hc' := (pot_next_cancelled inp n cap cons hn ht s s' l hi hc h).2
  cases l with
  | prod =>
    obtain ⟨hres, hoff, h⟩ := next_prod_some inp n cap cons s s' h
    obtain ⟨_, hg, _⟩ := hi.running hres
    have ok := good_step inp n hn s.cancelled s.sent s.ps hg hi.below
    have key : muC n cons s' < muC n cons s := by
      rcases h with ⟨r, _, rfl⟩ | ⟨i, ps', hstep, rfl⟩ | ⟨ps', hstep, rfl⟩
      · simp [muC, hres, hoff, waiting]
      · rw [hc] at hstep
        exact absurd hstep (ctxTop_no_offer inp n hn s.sent s.ps hg ht i ps')
      · have := (ok.tau ps' hstep).2
        simp [muC, hres, hoff, waiting]; omega
    exact ⟨fun _ => key, Nat.le_of_lt key, hc'⟩
  | push =>
    obtain ⟨i, ps', hoff, hres, _, rfl⟩ := next_push_some h
    have htb := tauBudget_le_one n ps'
    have key : muC n cons { s with ps := ps', offering := none, buf := s.buf ++ [i] } < muC n cons s := by
      simp only [muC, hres, hoff, waiting, List.length_append, List.length_singleton,
        Option.isSome_none, Option.isSome_some, Bool.false_eq_true, if_false, if_true]
      omega
    exact ⟨fun _ => key, Nat.le_of_lt key, hc'⟩
  | hand c =>
    obtain ⟨i, ps', hoff, hres, _, _, _, rfl⟩ := next_hand_some h
    have htb := tauBudget_le_one n ps'
    have key : muC n cons { s with ps := ps', offering := none, log := s.log ++ [(c, i)] } < muC n cons s := by
      simp only [muC, hres, hoff, waiting,
        Option.isSome_none, Option.isSome_some, Bool.false_eq_true, if_false, if_true]
      omega
    exact ⟨fun _ => key, Nat.le_of_lt key, hc'⟩
  | done =>
    obtain ⟨hres, _, _, rfl⟩ := next_done_some h
    have key : muC n cons { s with offering := none, result := some (doneResOf inp.kind), closed := true } < muC n cons s := by
      simp [muC, hres, waiting]
    exact ⟨fun _ => key, Nat.le_of_lt key, hc'⟩
  | recv c =>
    obtain ⟨i, rest, hbuf, _, _, rfl⟩ := next_recv_some h
    have key : muC n cons { s with buf := rest, log := s.log ++ [(c, i)] } < muC n cons s := by
      simp only [muC, waiting, hbuf, List.length_cons]
      omega
    exact ⟨fun _ => key, Nat.le_of_lt key, hc'⟩
  | eoa c =>
    obtain ⟨_, _, hcc, hne, rfl⟩ := next_eoa_some h
    have hw := waiting_eoa cons s c hcc hne
    have key : muC n cons { s with ended := c :: s.ended } < muC n cons s := by
      simp only [muC] at hw ⊢
      omega
    exact ⟨fun _ => key, Nat.le_of_lt key, hc'⟩
  | cancel =>
    simp only [Sys.next] at h
    cases h
    exact ⟨fun h => absurd rfl h, by simp [muC, waiting], rfl⟩

/-! ## counting the steps of a schedule that really happen -/

/-- number of labels of the schedule that were enabled when their turn came, `cancel` not counted -/
def effSteps (inp : Input) (n cap cons : Nat) : Sys → List Label → Nat
  | _, [] => 0
  | s, l :: ls =>
    match s.next inp n cap cons l with
    | some s' => (if l = .cancel then 0 else 1) + effSteps inp n cap cons s' ls
    | none => effSteps inp n cap cons s ls

/-- a measure that every enabled transition but `cancel` makes smaller and `cancel` does not make larger — along the
states that satisfy `P`, which the transitions keep — bounds the number of enabled labels of any schedule -/
theorem effSteps_le_measure (inp : Input) (n cap cons : Nat) (μ : Sys → Nat) (P : Sys → Prop)
    (hstep : ∀ s s' l, P s → s.next inp n cap cons l = some s' → P s' ∧ (l ≠ .cancel → μ s' < μ s) ∧ μ s' ≤ μ s)
    (ls : List Label) :
    ∀ s, P s → effSteps inp n cap cons s ls + μ (s.run inp n cap cons ls) ≤ μ s := by
  induction ls with
  | nil => intro s _; simp [effSteps, Sys.run]
  | cons l ls ih =>
    intro s hP
    rw [run_cons]
    cases hnext : s.next inp n cap cons l with
    | none =>
      simp only [effSteps, hnext, Option.getD_none]
      exact ih s hP
    | some s' =>
      obtain ⟨hP', h1, h2⟩ := hstep s s' l hP hnext
      have := ih s' hP'
      simp only [effSteps, hnext, Option.getD_some]
      by_cases hl : l = .cancel
      · simp only [hl, if_true]; omega
      · have := h1 hl
        simp only [hl, if_false]; omega

theorem effSteps_le_mu (inp : Input) (n cap cons m : Nat) (hn : 0 < n) (hm : AtBound inp.b n m) (ls : List Label) :
    ∀ s, SysInv inp n cap s → effSteps inp n cap cons s ls + mu n cons m (s.run inp n cap cons ls) ≤ mu n cons m s :=
  effSteps_le_measure inp n cap cons (mu n cons m) (SysInv inp n cap)
    (fun s s' l hi h => ⟨sysInv_next inp n cap cons hn s s' l hi h, mu_next inp n cap cons m hn hm s s' l hi h⟩) ls

theorem effSteps_le_muC (inp : Input) (n cap cons : Nat) (hn : 0 < n) (ht : inp.kind.ctxTop = true) (ls : List Label) :
    ∀ s, SysInv inp n cap s → s.cancelled = true →
      effSteps inp n cap cons s ls + muC n cons (s.run inp n cap cons ls) ≤ muC n cons s := fun s hi hc =>
  effSteps_le_measure inp n cap cons (muC n cons) (fun s => SysInv inp n cap s ∧ s.cancelled = true)
    (fun s s' l hP h =>
      have hm := muC_next inp n cap cons hn ht s s' l hP.1 hP.2 h
      ⟨⟨sysInv_next inp n cap cons hn s s' l hP.1 h, hm.2.2⟩, hm.1, hm.2.1⟩) ls s ⟨hi, hc⟩

theorem mu_init_le (inp : Input) (n cons m : Nat) : mu n cons m (Sys.init inp n) ≤ 6 * m + cons + 4 := by
  have := tauBudget_le_one n (initSt inp n)
  have hw := waiting_init inp n cons
  simp only [mu, provPart]
  rw [hw]
  simp [Sys.init, Sys.sent]
  omega

/-! ## infinite schedules -/

/-- the state after the first `t` labels of the infinite schedule `σ` -/
def stateAt (inp : Input) (n cap cons : Nat) (σ : Nat → Label) : Nat → Sys
  | 0 => Sys.init inp n
  | t + 1 => ((stateAt inp n cap cons σ t).next inp n cap cons (σ t)).getD (stateAt inp n cap cons σ t)

/-- nothing but a cancel can happen -/
def Stuck (inp : Input) (n cap cons : Nat) (s : Sys) : Prop := ∀ l, l ≠ Label.cancel → s.next inp n cap cons l = none

/-- minimal progress: the schedule does not idle for ever while some transition other than `cancel` is enabled
(weaker than weak fairness: it does not say WHICH enabled transition is taken) -/
def Progressing (inp : Input) (n cap cons : Nat) (σ : Nat → Label) : Prop :=
  ∀ t, ¬ Stuck inp n cap cons (stateAt inp n cap cons σ t) →
    ∃ t', t ≤ t' ∧ σ t' ≠ .cancel ∧ ((stateAt inp n cap cons σ t').next inp n cap cons (σ t')).isSome = true

theorem stateAt_inv (inp : Input) (n cap cons : Nat) (hn : 0 < n) (σ : Nat → Label) :
    ∀ t, SysInv inp n cap (stateAt inp n cap cons σ t) := by
  intro t
  induction t with
  | zero => exact sysInv_init inp n cap hn
  | succ t ih =>
    simp only [stateAt]
    cases hnext : (stateAt inp n cap cons σ t).next inp n cap cons (σ t) with
    | none => simpa using ih
    | some s' => simpa using sysInv_next inp n cap cons hn _ s' _ ih hnext

theorem stateAt_mu_step (inp : Input) (n cap cons m : Nat) (hn : 0 < n) (hm : AtBound inp.b n m) (σ : Nat → Label) (t : Nat) :
    mu n cons m (stateAt inp n cap cons σ (t + 1)) ≤ mu n cons m (stateAt inp n cap cons σ t) ∧
    (σ t ≠ .cancel → ((stateAt inp n cap cons σ t).next inp n cap cons (σ t)).isSome = true →
      mu n cons m (stateAt inp n cap cons σ (t + 1)) < mu n cons m (stateAt inp n cap cons σ t)) := by
  have hi := stateAt_inv inp n cap cons hn σ t
  simp only [stateAt]
  cases hnext : (stateAt inp n cap cons σ t).next inp n cap cons (σ t) with
  | none => simp
  | some s' =>
    obtain ⟨h1, h2⟩ := mu_next inp n cap cons m hn hm _ s' _ hi hnext
    simp only [Option.getD_some, Option.isSome_some]
    exact ⟨h2, fun hl _ => h1 hl⟩

theorem stateAt_mu_mono (inp : Input) (n cap cons m : Nat) (hn : 0 < n) (hm : AtBound inp.b n m) (σ : Nat → Label) (t : Nat) :
    ∀ j, mu n cons m (stateAt inp n cap cons σ (t + j)) ≤ mu n cons m (stateAt inp n cap cons σ t) := by
  intro j
  induction j with
  | zero => exact Nat.le_refl _
  | succ j ih => exact Nat.le_trans (stateAt_mu_step inp n cap cons m hn hm σ (t + j)).1 ih

/-- **termination of a bounded cell**: an infinite schedule that makes minimal progress reaches a state in which
nothing but a cancel can happen -/
theorem progressing_reaches_stuck (inp : Input) (n cap cons m : Nat) (hn : 0 < n) (hm : AtBound inp.b n m)
    (σ : Nat → Label) (hp : Progressing inp n cap cons σ) :
    ∃ t, Stuck inp n cap cons (stateAt inp n cap cons σ t) := by
  apply Classical.byContradiction
  intro hno
  have hns : ∀ t, ¬ Stuck inp n cap cons (stateAt inp n cap cons σ t) := fun t h => hno ⟨t, h⟩
  have key : ∀ k, ∃ t, mu n cons m (stateAt inp n cap cons σ t) + k ≤ mu n cons m (stateAt inp n cap cons σ 0) := by
    intro k
    induction k with
    | zero => exact ⟨0, Nat.le_refl _⟩
    | succ k ih =>
      obtain ⟨t, ht⟩ := ih
      obtain ⟨t', hle, hl, hen⟩ := hp t (hns t)
      obtain ⟨j, rfl⟩ : ∃ j, t' = t + j := ⟨t' - t, by omega⟩
      have h1 := stateAt_mu_mono inp n cap cons m hn hm σ t j
      have h2 := (stateAt_mu_step inp n cap cons m hn hm σ (t + j)).2 hl hen
      exact ⟨t + j + 1, by omega⟩
  obtain ⟨t, ht⟩ := key (mu n cons m (stateAt inp n cap cons σ 0) + 1)
  omega

/-- the state after `t` labels of `σ` is the state `Sys.run` reaches with the list of these labels -/
theorem stateAt_eq_run (inp : Input) (n cap cons : Nat) (σ : Nat → Label) (t : Nat) :
    stateAt inp n cap cons σ t = (Sys.init inp n).run inp n cap cons ((List.range t).map σ) := by
  induction t with
  | zero => simp [stateAt, Sys.run]
  | succ t ih =>
    simp only [stateAt, List.range_succ, List.map_append, List.map_cons, List.map_nil, Sys.run, List.foldl_append,
      List.foldl_cons, List.foldl_nil]
    simp only [Sys.run] at ih
    rw [← ih]

/-! ## without fairness a provider that does not read ctx.Err() may go on sending after a cancel

grpc/json (and the generic JSON provider) notice a cancel only in the `select`; a scheduler that always lets the send
win (a consumer is ready every time) keeps them going.  Go's `select` picks uniformly among the ready cases, so `k`
further sends have probability 2^-k — outside this (possibilistic) model. -/

def grpcUnbounded : Input := ⟨.grpcJson, false, ⟨0, 0⟩, none⟩

/-- after `j` rounds: pass `p`, at the start of the file, `a` ammo sent and acquired, context cancelled -/
def grpcSpinState (p a : Nat) (log : List (Nat × Nat)) : Sys :=
  { ps := .grpc ⟨p, 0, a⟩, cancelled := true, log := log }

/-- one round: an iteration offers the only entry, the consumer takes it, an iteration wraps to the next pass -/
def grpcRound : List Label := [.prod, .hand 0, .prod]

theorem grpcRound_run (p a : Nat) (log : List (Nat × Nat)) :
    (grpcSpinState p a log).run grpcUnbounded 1 grpcUnbounded.kind.chanCap 1 grpcRound =
      grpcSpinState (p + 1) (a + 1) (log ++ [(0, 0)]) := by
  simp [grpcSpinState, grpcRound, grpcUnbounded, Sys.run, Sys.next, stepOf, grpcStep, liftAct]

def grpcRounds : Nat → List Label
  | 0 => []
  | k + 1 => grpcRound ++ grpcRounds k

theorem grpcRounds_run (k : Nat) : ∀ (p a : Nat) (log : List (Nat × Nat)),
    ((grpcSpinState p a log).run grpcUnbounded 1 grpcUnbounded.kind.chanCap 1 (grpcRounds k)).sent = log.length + k := by
  induction k with
  | zero => intro p a log; simp [grpcRounds, Sys.run, Sys.sent, grpcSpinState]
  | succ k ih =>
    intro p a log
    rw [grpcRounds, run_append, grpcRound_run, ih]
    simp; omega

/-- grpc/json, unbounded, one entry, one consumer: after a cancel at the very start, `k` more ammo are sent for every `k` -/
theorem grpc_sends_after_cancel (k : Nat) :
    (reach grpcUnbounded 1 1 ([] ++ Label.cancel :: grpcRounds k)).sent = k := by
  have h0 : reach grpcUnbounded 1 1 ([] ++ Label.cancel :: grpcRounds k) =
      (grpcSpinState 1 0 []).run grpcUnbounded 1 grpcUnbounded.kind.chanCap 1 (grpcRounds k) := by
    simp [reach, Sys.run, Sys.next, Sys.init, initSt, grpcUnbounded, grpcSpinState, GrpcSt.init]
  rw [h0, grpcRounds_run]; simp

end Pandora.Proofs.C08
