/-
C08 / C14: analyses of the provider loops (runFullScan, LoadAmmo, runPreloaded / scenario Run, grpcjson start,
DecodeProvider.Run): each terminates within an explicit fuel and delivers exactly `cycTake F T`.  What the loops share
is the arithmetic of the stopping count (`Tgt`: a loop that stops has delivered `T`, one that goes on has room for one
more) and, for those that read the file pass by pass, the bookkeeping of what has been chosen so far (`sel`).
-/
import Pandora.Proofs.C08Src
namespace Pandora.Proofs.C08
open Pandora.Model.C08

variable {α : Type}

/-- the facts about the stopping count `T` that the loop analyses use -/
structure Tgt (limit passes f : Nat) (cancelAt : Option Nat) (T : Nat) : Prop where
  le_limit : limit ≠ 0 → T ≤ limit
  le_pass : passes ≠ 0 → T ≤ passes * f
  le_cancel : ∀ c, cancelAt = some c → T ≤ c
  attained : (limit ≠ 0 ∧ T = limit) ∨ (passes ≠ 0 ∧ T = passes * f) ∨ cancelAt = some T

/-- how a run that stopped after `T` deliveries ends: context.Canceled if the cancellation came first -/
def endRes (cancelAt : Option Nat) (T : Nat) : RunRes := if cancelled cancelAt T then .canceled else .nil

theorem cancelled_false_iff (cancelAt : Option Nat) (k : Nat) :
    cancelled cancelAt k = false ↔ ∀ c, cancelAt = some c → k < c := by
  cases cancelAt with
  | none => simp [cancelled]
  | some c => simp [cancelled]

theorem cancelled_true_iff (cancelAt : Option Nat) (k : Nat) :
    cancelled cancelAt k = true ↔ ∃ c, cancelAt = some c ∧ c ≤ k := by
  cases cancelAt with
  | none => simp [cancelled]
  | some c => simp [cancelled]

theorem succ_mul' (D m : Nat) : (D + 1) * m = D * m + m := by rw [Nat.add_mul, Nat.one_mul]

namespace Tgt
variable {limit passes f T : Nat} {cancelAt : Option Nat}

theorem eq_of_cancelled (tg : Tgt limit passes f cancelAt T) {k : Nat} (hk : k ≤ T)
    (hc : cancelled cancelAt k = true) : k = T := by
  obtain ⟨c, hc1, hc2⟩ := (cancelled_true_iff _ _).mp hc
  have := tg.le_cancel c hc1; omega

theorem eq_of_limit (tg : Tgt limit passes f cancelAt T) {k : Nat} (hk : k ≤ T) (hl : limit ≠ 0 ∧ limit ≤ k) :
    k = T := by
  have := tg.le_limit hl.1; omega

theorem eq_of_passes (tg : Tgt limit passes f cancelAt T) {k : Nat} (hk : k ≤ T) (hp : passes ≠ 0)
    (h : passes * f ≤ k) : k = T := by
  have := tg.le_pass hp; omega

/-- while nothing stops the run there is room for one more delivery -/
theorem succ_le (tg : Tgt limit passes f cancelAt T) {k : Nat} (hk : k ≤ T) (hc : cancelled cancelAt k = false)
    (hl : ¬ (limit ≠ 0 ∧ limit ≤ k)) (hp : passes ≠ 0 → k + 1 ≤ passes * f) : k + 1 ≤ T := by
  rcases tg.attained with ⟨h0, hT⟩ | ⟨h0, hT⟩ | hT
  · omega
  · have := hp h0; omega
  · have := (cancelled_false_iff _ _).mp hc T hT; omega

end Tgt

theorem endRes_of_cancelled {cancelAt : Option Nat} {T : Nat} (h : cancelled cancelAt T = true) :
    endRes cancelAt T = .canceled := by simp [endRes, h]

theorem endRes_of_not_cancelled {cancelAt : Option Nat} {T : Nat} (h : cancelled cancelAt T = false) :
    endRes cancelAt T = .nil := by simp [endRes, h]

/-- chosen entries among `q` complete passes plus the first `r` entries of the next pass -/
def sel (file : List α) (chosen : α → Bool) (q r : Nat) : List α :=
  rep q (file.filter chosen) ++ (file.take r).filter chosen

theorem sel_prefix (file : List α) (chosen : α → Bool) (q r : Nat) :
    sel file chosen q r <+: rep (q + 1) (file.filter chosen) := by
  rw [rep_succ]
  exact (List.prefix_append_right_inj _).mpr ((List.take_prefix r file).filter chosen)

theorem sel_len_le (file : List α) (chosen : α → Bool) (q r : Nat) :
    (sel file chosen q r).length ≤ (q + 1) * (file.filter chosen).length := by
  simpa using (sel_prefix file chosen q r).length_le

theorem sel_len_ge (file : List α) (chosen : α → Bool) (q r : Nat) :
    q * (file.filter chosen).length ≤ (sel file chosen q r).length := by
  simp [sel]

theorem sel_full (file : List α) (chosen : α → Bool) (q : Nat) :
    sel file chosen q file.length = rep (q + 1) (file.filter chosen) := by
  simp [sel, rep_succ]

theorem sel_zero (file : List α) (chosen : α → Bool) (q : Nat) :
    sel file chosen q 0 = rep q (file.filter chosen) := by
  simp [sel]

theorem sel_next (file : List α) (chosen : α → Bool) (q r : Nat) (a : α) (h : file[r]? = some a) :
    sel file chosen q (r + 1) = if chosen a then sel file chosen q r ++ [a] else sel file chosen q r := by
  simp only [sel]
  rw [take_succ_getElem file r a h, List.filter_append]
  by_cases hc : chosen a <;> simp [hc]

/-- the loops that read the file pass by pass run out of fuel only after `T / f + 1` passes -/
theorem sel_fuel (file : List α) (chosen : α → Bool) {q r T : Nat} (hf : 0 < (file.filter chosen).length)
    (hlen : (sel file chosen q r).length ≤ T) (hr : r ≤ file.length) :
    q * (file.length + 1) + r < (T / (file.filter chosen).length + 1) * (file.length + 1) := by
  have h1 := sel_len_ge file chosen q r
  have h2 : q + 1 ≤ T / (file.filter chosen).length + 1 :=
    Nat.succ_le_succ ((Nat.le_div_iff_mul_le hf).mpr (Nat.le_trans h1 hlen))
  have h3 := Nat.mul_le_mul_right (file.length + 1) h2
  have h4 := succ_mul' q (file.length + 1)
  omega

/-- one more chosen entry in pass `q + 1` stays within the passes bound -/
theorem sel_succ_le_passes (file : List α) (chosen : α → Bool) {q r passes : Nat} {l : List α} {a : α}
    (h : sel file chosen q r = l ++ [a]) (hq : q < passes) :
    l.length + 1 ≤ passes * (file.filter chosen).length := by
  have h1 := sel_len_le file chosen q r
  have h2 : (q + 1) * (file.filter chosen).length ≤ passes * (file.filter chosen).length :=
    Nat.mul_le_mul_right _ hq
  rw [h, List.length_append, List.length_singleton] at h1
  omega

/-- what `Scan` does after `q` passes and `r` entries, in terms of what has been chosen so far: the last pass is over,
or the next entry `a` is returned and the decoder is where it is after `q'` passes and `r'` entries -/
theorem Src.advance {σ : Type} {scan : σ → ScanRes × σ} {R : Nat → Nat → σ → Prop} {passes : Nat} (file : List α)
    (chosen : α → Bool) (src : Src scan file.length passes R) (hn : 0 < file.length) {q r : Nat} {s : σ}
    (hR : R q r s) (hr : r ≤ file.length) (hq : passes = 0 ∨ q < passes) :
    (r = file.length ∧ passes ≠ 0 ∧ passes ≤ q + 1 ∧ ∃ s', scan s = (.errPass, s')) ∨
    ∃ q' r' i a s', scan s = (.ammo i, s') ∧ file[i]? = some a ∧ R q' r' s' ∧ r' ≤ file.length ∧
      (passes = 0 ∨ q' < passes) ∧
      sel file chosen q' r' = (if chosen a then sel file chosen q r ++ [a] else sel file chosen q r) ∧
      ((q' = q ∧ r' = r + 1) ∨ (q' = q + 1 ∧ r' = 1 ∧ r = file.length)) := by
  by_cases hrn : r < file.length
  · obtain ⟨s', hs, hR'⟩ := src.next q r s hR hrn hq
    obtain ⟨a, ha⟩ := exists_getElem? hrn
    exact .inr ⟨q, r + 1, r, a, s', hs, ha, hR', hrn, hq, sel_next file chosen q r a ha, .inl ⟨rfl, rfl⟩⟩
  · obtain rfl : r = file.length := by omega
    by_cases hp : passes ≠ 0 ∧ passes ≤ q + 1
    · exact .inl ⟨rfl, hp.1, hp.2, src.stop q s hR hp.1 hp.2⟩
    · have hp' : passes = 0 ∨ q + 1 < passes := by omega
      obtain ⟨s', hs, hR'⟩ := src.wrap q s hR hp'
      obtain ⟨a, ha⟩ := exists_getElem? hn
      refine .inr ⟨q + 1, 1, 0, a, s', hs, ha, hR', hn, hp', ?_, .inr ⟨rfl, rfl, rfl⟩⟩
      rw [sel_next file chosen (q + 1) 0 a ha, sel_zero, sel_full]

theorem fullScan_spec {σ : Type} (scan : σ → ScanRes × σ) (R : Nat → Nat → σ → Prop) (file : List α)
    (chosen : α → Bool) (limit passes : Nat) (cancelAt : Option Nat) (T : Nat)
    (hn : 0 < file.length) (hf : 0 < (file.filter chosen).length)
    (src : Src scan file.length passes R) (tg : Tgt limit passes (file.filter chosen).length cancelAt T) :
    ∀ fuel q r s, R q r s → r ≤ file.length → (passes = 0 ∨ q < passes) → (sel file chosen q r).length ≤ T →
      (T / (file.filter chosen).length + 1) * (file.length + 1) + 1 ≤ fuel + q * (file.length + 1) + r →
      fullScan scan file chosen limit cancelAt fuel s (sel file chosen q r)
        = some (cycTake (file.filter chosen) T, endRes cancelAt T) := by
  intro fuel
  induction fuel with
  | zero =>
    intro q r s _ hr _ hlen hfuel
    have := sel_fuel file chosen hf hlen hr
    omega
  | succ fuel ih =>
    intro q r s hR hr hq hlen hfuel
    have hcyc := eq_cycTake_of_prefix _ _ _ hf (sel_prefix file chosen q r)
    unfold fullScan
    by_cases hc : cancelled cancelAt (sel file chosen q r).length = true
    · rw [if_pos hc, hcyc]
      have hT := tg.eq_of_cancelled hlen hc
      rw [hT] at hc ⊢
      rw [endRes_of_cancelled hc]
    rw [if_neg hc]
    have hc' : cancelled cancelAt (sel file chosen q r).length = false := by simpa using hc
    by_cases hl : limit ≠ 0 ∧ limit ≤ (sel file chosen q r).length
    · rw [if_pos hl, hcyc]
      rw [tg.eq_of_limit hlen hl] at hc' ⊢
      rw [endRes_of_not_cancelled hc']
    rw [if_neg hl]
    rcases src.advance file chosen hn hR hr hq with ⟨rfl, hp0, hp, s', hs⟩ | ⟨q', r', i, a, s', hs, ha, hR', hr', hq', hsel, hqr⟩
    · -- the last pass is over
      have hT : (sel file chosen q file.length).length = T := by
        apply tg.eq_of_passes hlen hp0
        rw [sel_full, length_rep]
        exact Nat.mul_le_mul_right _ hp
      simp only [hs]
      rw [hcyc]
      rw [hT] at hc' ⊢
      rw [endRes_of_not_cancelled hc']
    · -- the next entry
      simp only [hs, ha]
      have hstep : q' * (file.length + 1) + r' ≥ q * (file.length + 1) + r + 1 := by
        have := succ_mul' q (file.length + 1)
        rcases hqr with ⟨rfl, rfl⟩ | ⟨rfl, rfl, rfl⟩ <;> omega
      by_cases hch : chosen a = true
      · rw [if_pos hch] at hsel ⊢
        rw [← hsel]
        refine ih q' r' s' hR' hr' hq' ?_ (by omega)
        rw [hsel, List.length_append, List.length_singleton]
        exact tg.succ_le hlen hc' hl fun hp0 => sel_succ_le_passes file chosen hsel (by omega)
      · rw [if_neg hch] at hsel ⊢
        rw [← hsel]
        exact ih q' r' s' hR' hr' hq' (by rw [hsel]; exact hlen) (by omega)

/-- `LoadAmmo` (Passes = 1, Limit = 0) returns the whole file -/
theorem loadAmmo_spec {σ : Type} (scan : Bounds → σ → ScanRes × σ) (R : Nat → Nat → σ → Prop) (file : List α)
    (src : Src (scan ⟨0, 1⟩) file.length 1 R) :
    ∀ fuel r s, R 0 r s → r ≤ file.length → file.length + 1 ≤ fuel + r →
      loadAmmo scan file fuel s (file.take r) = some (.ok file) := by
  intro fuel
  induction fuel with
  | zero => intro r s _ hr hfuel; omega
  | succ fuel ih =>
    intro r s hR hr hfuel
    unfold loadAmmo
    by_cases hrn : r < file.length
    · obtain ⟨s', hs, hR'⟩ := src.next 0 r s hR hrn (by omega)
      obtain ⟨a, ha⟩ := exists_getElem? hrn
      simp only [hs, ha]
      rw [← take_succ_getElem file r a ha]
      exact ih (r + 1) s' hR' (by omega) (by omega)
    · have hrn' : r = file.length := by omega
      subst hrn'
      obtain ⟨s', hs⟩ := src.stop 0 s hR (by omega) (by omega)
      simp only [hs, List.take_length]

/-- raw result of the cyclic replay loop -/
def preRes (b : Bounds) (f : Nat) (cancelAt : Option Nat) (T : Nat) : RunRes :=
  if cancelled cancelAt T then .canceled
  else if b.passes ≠ 0 ∧ b.passes ≤ T / f then .errPasses else .errLimit

theorem mapSentinel_preRes (b : Bounds) (f : Nat) (cancelAt : Option Nat) (T : Nat) :
    mapSentinel (preRes b f cancelAt T) = endRes cancelAt T := by
  unfold preRes endRes
  split
  · rfl
  · split <;> rfl

theorem preloaded_spec (F : List α) (b : Bounds) (cancelAt : Option Nat) (T : Nat) (hf : 0 < F.length)
    (tg : Tgt b.limit b.passes F.length cancelAt T) :
    ∀ fuel k, k ≤ T → T + 1 ≤ fuel + k →
      preloaded F b cancelAt fuel k (cycTake F k) = some (cycTake F T, preRes b F.length cancelAt T) := by
  intro fuel
  induction fuel with
  | zero => intro k hk hfuel; omega
  | succ fuel ih =>
    intro k hk hfuel
    unfold preloaded
    rw [length_cycTake F k hf]
    by_cases hc : cancelled cancelAt k = true
    · obtain rfl := tg.eq_of_cancelled hk hc
      rw [if_pos hc]
      simp [preRes, hc]
    rw [if_neg hc]
    have hc' : cancelled cancelAt k = false := by simpa using hc
    by_cases hp : b.passes ≠ 0 ∧ b.passes ≤ k / F.length
    · obtain rfl := tg.eq_of_passes hk hp.1 ((Nat.le_div_iff_mul_le hf).mp hp.2)
      rw [if_pos hp]
      simp [preRes, hc', hp]
    rw [if_neg hp]
    by_cases hl : b.limit ≠ 0 ∧ b.limit ≤ k
    · obtain rfl := tg.eq_of_limit hk hl
      rw [if_pos hl]
      simp [preRes, hc', hp]
    rw [if_neg hl]
    have hkT : k + 1 ≤ T := tg.succ_le hk hc' hl fun hp0 => by
      have : ¬ b.passes ≤ k / F.length := fun h => hp ⟨hp0, h⟩
      rw [Nat.le_div_iff_mul_le hf] at this
      omega
    obtain ⟨a, ha⟩ := exists_getElem? (Nat.mod_lt k hf)
    simp only [ha]
    rw [← cycTake_succ F k a ha]
    exact ih (k + 1) hkT (by omega)

theorem runPreloaded_spec (F : List α) (b : Bounds) (cancelAt : Option Nat) (T : Nat) (hf : 0 < F.length)
    (tg : Tgt b.limit b.passes F.length cancelAt T) (fuel : Nat) (hfuel : T + 1 ≤ fuel) :
    runPreloaded F b cancelAt fuel = some (cycTake F T, preRes b F.length cancelAt T) := by
  unfold runPreloaded
  rw [if_neg (by omega)]
  have := preloaded_spec F b cancelAt T hf tg fuel 0 (by omega) (by omega)
  rwa [cycTake_zero] at this

/-- `grpcjson.Provider.start` with its chosencases filter: after `q` passes and `r` lines of the next one the provider
has sent the chosen entries among them (`sel`), `ammoNum` counts exactly those (limit counts DELIVERED ammo), and the
loop ends having sent the first `T` of the endlessly repeated chosen entries. -/
theorem grpcLoop_spec (file : List α) (chosen : α → Bool) (b : Bounds) (cancelAt : Option Nat) (T : Nat)
    (hn : 0 < file.length) (hf : 0 < (file.filter chosen).length)
    (tg : Tgt b.limit b.passes (file.filter chosen).length cancelAt T) :
    ∀ fuel q r, r ≤ file.length → (b.passes = 0 ∨ q < b.passes) → (sel file chosen q r).length ≤ T →
      (T / (file.filter chosen).length + 1) * (file.length + 1) + 1 ≤ fuel + q * (file.length + 1) + r →
      grpcLoop file chosen b cancelAt fuel ⟨q + 1, r, (sel file chosen q r).length⟩ (sel file chosen q r)
        = some (cycTake (file.filter chosen) T, .nil) := by
  intro fuel
  induction fuel with
  | zero =>
    intro q r hr _ hlen hfuel
    have := sel_fuel file chosen hf hlen hr
    omega
  | succ fuel ih =>
    intro q r hr hq hlen hfuel
    have hcyc := eq_cycTake_of_prefix _ _ _ hf (sel_prefix file chosen q r)
    unfold grpcLoop
    by_cases hA : r < file.length ∧ (b.limit = 0 ∨ (sel file chosen q r).length < b.limit)
    · -- a line is read
      obtain ⟨a, ha⟩ := exists_getElem? hA.1
      have hsel := sel_next file chosen q r a ha
      simp only [hA, and_self, if_true, ha]
      by_cases hch : chosen a = true
      · rw [if_pos hch] at hsel ⊢
        by_cases hc : cancelled cancelAt (sel file chosen q r).length = true
        · rw [if_pos hc, hcyc, tg.eq_of_cancelled hlen hc]
        · rw [if_neg hc, ← List.length_singleton (a := a), ← List.length_append, ← hsel]
          refine ih q (r + 1) hA.1 hq ?_ (by omega)
          rw [hsel, List.length_append, List.length_singleton]
          exact tg.succ_le hlen (by simpa using hc) (by omega) fun hp =>
            sel_succ_le_passes file chosen hsel (by omega)
      · rw [if_neg hch] at hsel ⊢
        rw [← hsel]
        exact ih q (r + 1) hA.1 hq (by rw [hsel]; exact hlen) (by omega)
    · rw [if_neg hA]
      by_cases hl : b.limit ≠ 0 ∧ b.limit ≤ (sel file chosen q r).length
      · rw [if_pos hl, hcyc, tg.eq_of_limit hlen hl]
      rw [if_neg hl]
      obtain rfl : r = file.length := by omega
      by_cases hp : b.passes ≠ 0 ∧ b.passes ≤ q + 1
      · rw [if_pos hp, hcyc, tg.eq_of_passes hlen hp.1]
        rw [sel_full, length_rep]
        exact Nat.mul_le_mul_right _ hp.2
      · -- seek to the start
        rw [if_neg hp]
        have h0 : sel file chosen q file.length = sel file chosen (q + 1) 0 := by rw [sel_full, sel_zero]
        have := succ_mul' q (file.length + 1)
        rw [h0] at hlen ⊢
        exact ih (q + 1) 0 (by omega) (by omega) hlen (by omega)

/-- everything read in `q` complete passes plus `r` entries (no filter) -/
def cyc2 (file : List α) (q r : Nat) : List α := rep q file ++ file.take r

theorem cyc2_len (file : List α) (q r : Nat) (hr : r ≤ file.length) : (cyc2 file q r).length = q * file.length + r := by
  simp [cyc2, Nat.min_eq_left hr]

theorem cyc2_eq_cycTake (file : List α) (q r : Nat) (hn : 0 < file.length) :
    cyc2 file q r = cycTake file (cyc2 file q r).length :=
  eq_cycTake_of_prefix _ _ _ hn (take_prefix_rep file q r)

theorem cyc2_next (file : List α) (q r : Nat) (a : α) (h : file[r]? = some a) :
    cyc2 file q (r + 1) = cyc2 file q r ++ [a] := by
  simp only [cyc2, take_succ_getElem file r a h, List.append_assoc]

theorem cyc2_full (file : List α) (q : Nat) : cyc2 file q file.length = cyc2 file (q + 1) 0 := by
  simp [cyc2, rep_succ]

/-- what `Decode` returns after `q` passes and `r` entries: the end of the source after the last pass, or the next entry
(the first one again after a seek to the start) -/
theorem decodeNext_advance (file : List α) (passes : Nat) (hn : 0 < file.length) {q r : Nat} (hr : r ≤ file.length)
    (hq : passes = 0 ∨ q < passes) :
    (r = file.length ∧ passes ≠ 0 ∧ passes ≤ q + 1 ∧ ∃ m, decodeNext passes file.length 2 ⟨r, q⟩ = (.eof, m)) ∨
    ∃ q' r' i a, decodeNext passes file.length 2 ⟨r, q⟩ = (.entry i, ⟨r', q'⟩) ∧ file[i]? = some a ∧
      r' ≤ file.length ∧ (passes = 0 ∨ q' < passes) ∧ cyc2 file q' r' = cyc2 file q r ++ [a] := by
  by_cases hrn : r < file.length
  · obtain ⟨a, ha⟩ := exists_getElem? hrn
    exact .inr ⟨q, r + 1, r, a, by simp [decodeNext, hrn], ha, hrn, hq, cyc2_next file q r a ha⟩
  · obtain rfl : r = file.length := by omega
    by_cases hp : passes = 0 ∨ q + 1 < passes
    · obtain ⟨a, ha⟩ := exists_getElem? hn
      have h1 : passes ≠ 1 := by omega
      refine .inr ⟨q + 1, 1, 0, a, by simp [decodeNext, h1, hp, hn], ha, hn, hp, ?_⟩
      rw [cyc2_full]; exact cyc2_next file (q + 1) 0 a ha
    · refine .inl ⟨rfl, by omega, by omega, ?_⟩
      by_cases h1 : passes = 1
      · exact ⟨⟨file.length, q⟩, by simp [decodeNext, h1]⟩
      · exact ⟨⟨file.length, q + 1⟩, by simp [decodeNext, h1, hp]⟩

/-- `DecodeProvider.Run` over `MultiPassReader` -/
theorem decodeLoop_spec (file : List α) (b : Bounds) (cancelAt : Option Nat) (T : Nat) (hn : 0 < file.length)
    (tg : Tgt b.limit b.passes file.length cancelAt T) :
    ∀ fuel q r, r ≤ file.length → (b.passes = 0 ∨ q < b.passes) → (cyc2 file q r).length ≤ T →
      T + 1 ≤ fuel + (cyc2 file q r).length →
      decodeLoop file b cancelAt fuel (cyc2 file q r).length ⟨r, q⟩ (cyc2 file q r) = some (cycTake file T, .nil) := by
  intro fuel
  induction fuel with
  | zero => intro q r _ _ hlen hfuel; omega
  | succ fuel ih =>
    intro q r hr hq hlen hfuel
    have hcyc := cyc2_eq_cycTake file q r hn
    unfold decodeLoop
    by_cases hl : b.limit ≠ 0 ∧ b.limit ≤ (cyc2 file q r).length
    · rw [if_pos (by omega), hcyc, tg.eq_of_limit hlen hl]
    rw [if_neg (by omega)]
    rcases decodeNext_advance file b.passes hn hr hq with ⟨rfl, hp0, hp, m, hd⟩ | ⟨q', r', i, a, hd, ha, hr', hq', hnext⟩
    · -- the last pass is over
      simp only [hd]
      rw [hcyc, tg.eq_of_passes hlen hp0]
      rw [cyc2_len file q _ (Nat.le_refl _), ← succ_mul']
      exact Nat.mul_le_mul_right _ hp
    · simp only [hd, ha]
      by_cases hc : cancelled cancelAt (cyc2 file q r).length = true
      · rw [if_pos hc, hcyc, tg.eq_of_cancelled hlen hc]
      · have hLn : (cyc2 file q r).length + 1 = (cyc2 file q' r').length := by
          rw [hnext, List.length_append, List.length_singleton]
        rw [if_neg hc, hLn, ← hnext]
        refine ih q' r' hr' hq' ?_ (by omega)
        rw [← hLn]
        refine tg.succ_le hlen (by simpa using hc) hl fun hp0 => ?_
        have h2 : (q' + 1) * file.length ≤ b.passes * file.length := Nat.mul_le_mul_right _ (by omega)
        have h3 := succ_mul' q' file.length
        have h4 := cyc2_len file q' r' hr'
        omega

end Pandora.Proofs.C08
