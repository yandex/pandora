/-
C04 — helper lemmas about the Waiter model (`Pandora.Model.C04`): what one `Wait` call establishes, and the
clock hypotheses under which the property theorems are stated.  Core Lean only.
-/
import Pandora.Model.C04

namespace Pandora.Proofs.C04
open Pandora.Go.C04 Pandora.Model.C04

/-- The clock hypotheses for ONE `Wait` call:
* a reading is not later than the instants at which it is used (arming the timer, returning);
* a timer does not fire early: armed at instant `arm` for `next - now`, it is delivered at `ret ≥ arm + (next - now)`
  (only calls that get as far as the timer: context not done at entry, token in the future of the reading). -/
def EnvOK (e : Env) : Prop :=
  e.now ≤ e.arm ∧ e.now ≤ e.ret ∧
    ∀ next ∈ e.tok, e.ctxDone = false → e.now < next → e.timerWins = true → e.arm + (next - e.now) ≤ e.ret

instance (e : Env) : Decidable (EnvOK e) := by unfold EnvOK; exact inferInstance

/-- The clock hypotheses for a history of loop iterations started with waiter state `w`:
every call satisfies `EnvOK`, and readings are non-decreasing (the cached one included). -/
def ClockOK (w : Waiter) (h : List Iter) : Prop :=
  (∀ it ∈ h, EnvOK it.env) ∧ (∀ it ∈ h, w.lastNow ≤ it.env.now) ∧ h.Pairwise (fun a b => a.env.now ≤ b.env.now)

instance (w : Waiter) (h : List Iter) : Decidable (ClockOK w h) := by unfold ClockOK; exact inferInstance

/-- the clock is read after the token has been picked up (needed only for "late ⇒ discarded") -/
def ReadAfterPick (h : List Iter) : Prop := ∀ it ∈ h, it.env.pick ≤ it.env.now

instance (h : List Iter) : Decidable (ReadAfterPick h) := by unfold ReadAfterPick; exact inferInstance

theorem ClockOK.nil (w : Waiter) : ClockOK w [] := by simp [ClockOK]

/-- the cached reading after a call is the old one or the one taken in this call -/
theorem waitV_lastNow (v : Variant) (w : Waiter) (e : Env) :
    (waitV v w e).w.lastNow = w.lastNow ∨ (waitV v w e).w.lastNow = e.now := by
  unfold waitV
  split
  · exact Or.inl rfl
  · split
    · exact Or.inl rfl
    · dsimp only
      split
      · cases v
        · exact Or.inr rfl
        · exact Or.inl rfl
      · split
        · exact Or.inr rfl
        · split <;> exact Or.inr rfl

theorem ClockOK.head {w : Waiter} {it : Iter} {rest : List Iter} (h : ClockOK w (it :: rest)) :
    EnvOK it.env ∧ w.lastNow ≤ it.env.now :=
  ⟨h.1 it (by simp), h.2.1 it (by simp)⟩

theorem ClockOK.tail {w : Waiter} {it : Iter} {rest : List Iter} (v : Variant) (h : ClockOK w (it :: rest)) :
    ClockOK (waitV v w it.env).w rest := by
  obtain ⟨h1, h2, h3⟩ := h
  rw [List.pairwise_cons] at h3
  refine ⟨fun x hx => h1 x (by simp [hx]), fun x hx => ?_, h3.2⟩
  rcases waitV_lastNow v w it.env with hl | hl
  · rw [hl]; exact h2 x (by simp [hx])
  · rw [hl]; exact h3.1 x hx

theorem ReadAfterPick.tail {it : Iter} {rest : List Iter} (h : ReadAfterPick (it :: rest)) : ReadAfterPick rest :=
  fun x hx => h x (by simp [hx])

/-- What a successful `Wait` establishes (both variants): a token was drawn, the call does not return before the
token's time, and the recorded overdue never exceeds the real lateness at return. -/
theorem waitV_ok (v : Variant) (w : Waiter) (e : Env) (hok : EnvOK e) (hinv : w.lastNow ≤ e.now)
    (h : (waitV v w e).ok = true) :
    ∃ next, e.tok = some next ∧ next ≤ e.ret ∧ (waitV v w e).w.overdue ≤ e.ret - next := by
  obtain ⟨harm, hret, htimer⟩ := hok
  unfold waitV at h ⊢
  by_cases hc : e.ctxDone = true
  · simp [hc] at h
  · cases htok : e.tok with
    | none => simp [hc, htok] at h
    | some next =>
      have htimer' := htimer next (by simp [htok]) (by simpa using hc)
      refine ⟨next, rfl, ?_⟩
      simp only [hc, htok, timeSub] at h ⊢
      by_cases h1 : next - w.lastNow ≤ 0
      · cases v <;> simp [h1] <;> omega
      · by_cases h2 : next - e.now ≤ 0
        · simp [h1, h2]; omega
        · by_cases h3 : e.timerWins = true
          · have := htimer' (by omega) h3
            simp [h1, h2, h3]; omega
          · simp [h1, h2, h3] at h

/-- a pass with the context alive at entry, a token and a timer that is not interrupted: `Wait` returns true -/
theorem waitV_ok_of_token (v : Variant) (w : Waiter) (e : Env) (t : Int) (hc : e.ctxDone = false) (ht : e.tok = some t)
    (hw : e.timerWins = true) : (waitV v w e).ok = true := by
  unfold waitV
  simp only [hc, ht, hw]
  cases v <;> simp <;> (repeat' split) <;> rfl

theorem waitV_not_ok_of_no_token (v : Variant) (w : Waiter) (e : Env) (ht : e.tok = none) : (waitV v w e).ok = false := by
  unfold waitV
  by_cases hc : e.ctxDone = true <;> simp [hc, ht]

/-- The repaired `Wait` in closed form: with the context alive at entry, a token `next` handed out and a cached reading
that is not ahead of the clock, the state it leaves and its answer are functions of `next` and of the reading taken in
this call alone — the cached reading only selects the path. -/
theorem wait_fresh_eq (w : Waiter) (e : Env) (hinv : w.lastNow ≤ e.now) (next : Int) (hc : e.ctxDone = false)
    (htok : e.tok = some next) :
    (waitV .fresh w e).w = { lastNow := e.now, overdue := if next ≤ e.now then e.now - next else 0 } ∧
    (waitV .fresh w e).ok = (decide (next ≤ e.now) || e.timerWins) := by
  unfold waitV
  simp only [hc, htok, timeSub]
  by_cases h1 : next - w.lastNow ≤ 0
  · have : next ≤ e.now := by omega
    simp [h1, this]
  · by_cases h2 : next - e.now ≤ 0
    · have : next ≤ e.now := by omega
      simp [h1, h2, this]; omega
    · have : ¬ next ≤ e.now := by omega
      by_cases h3 : e.timerWins = true <;> simp [h1, h2, h3, this]

/-- The repaired `Wait`: the recorded overdue is exactly the lateness against the reading taken in this call
(0 when the token is still in the future of that reading). -/
theorem wait_overdue (w : Waiter) (e : Env) (hinv : w.lastNow ≤ e.now) (next : Int) (htok : e.tok = some next)
    (h : (waitV .fresh w e).ok = true) :
    (waitV .fresh w e).w.overdue = if next ≤ e.now then e.now - next else 0 := by
  cases hc : e.ctxDone with
  | true => simp [waitV, hc] at h
  | false => rw [(wait_fresh_eq w e hinv next hc htok).1]

/-! ### the events of the loop, pass by pass -/

/-- the action of a pass in which `Wait` returned true; `w'` is the waiter state that call left behind -/
def actOf (d : Bool) (w' : Waiter) (it : Iter) : Ev :=
  if fires d (isSlowDown w' it.ctxDoneSlow) then Ev.shoot it else Ev.discard it discardedShootSample

@[simp] theorem actOf_iter (d : Bool) (w' : Waiter) (it : Iter) : (actOf d w' it).iter = it := by
  unfold actOf; split <;> rfl

theorem actOf_eq_shoot {d : Bool} {w' : Waiter} {it jt : Iter} (h : actOf d w' it = Ev.shoot jt) :
    jt = it ∧ fires d (isSlowDown w' it.ctxDoneSlow) = true := by
  unfold actOf at h
  split at h
  · exact ⟨(Ev.shoot.inj h).symm, ‹_›⟩
  · cases h

theorem actOf_eq_discard {d : Bool} {w' : Waiter} {it jt : Iter} {s : DiscardSample} (h : actOf d w' it = Ev.discard jt s) :
    jt = it ∧ s = discardedShootSample ∧ ¬ fires d (isSlowDown w' it.ctxDoneSlow) = true := by
  unfold actOf at h
  split at h
  · cases h
  · exact ⟨(Ev.discard.inj h).1.symm, (Ev.discard.inj h).2.symm, ‹_›⟩

theorem actOf_off (w' : Waiter) (it : Iter) : actOf false w' it = Ev.shoot it := rfl

/-- the three ways a pass can go: the loop ends, `Wait` returns true, `Wait` returns false -/
theorem pass_cases (v : Variant) (w : Waiter) (it : Iter) :
    (it.finished = true ∨ it.ammoOk = false) ∨
    (it.finished = false ∧ it.ammoOk = true ∧ (waitV v w it.env).ok = true) ∨
    (it.finished = false ∧ it.ammoOk = true ∧ (waitV v w it.env).ok = false) := by
  cases it.finished <;> cases it.ammoOk <;> cases (waitV v w it.env).ok <;> simp

theorem runLoop_cons_ok (v : Variant) (d : Bool) (w : Waiter) (it : Iter) (rest : List Iter) (hf : it.finished = false)
    (ha : it.ammoOk = true) (hk : (waitV v w it.env).ok = true) :
    runLoop v d w (it :: rest) = (actOf d (waitV v w it.env).w it :: (runLoop v d (waitV v w it.env).w rest).1,
      (runLoop v d (waitV v w it.env).w rest).2) := by
  rw [runLoop]; simp [hf, ha, hk, actOf]

theorem runLoop_events_ok (v : Variant) (d : Bool) (w : Waiter) (it : Iter) (rest : List Iter) (hf : it.finished = false)
    (ha : it.ammoOk = true) (hk : (waitV v w it.env).ok = true) :
    (runLoop v d w (it :: rest)).1 = actOf d (waitV v w it.env).w it :: (runLoop v d (waitV v w it.env).w rest).1 :=
  congrArg Prod.fst (runLoop_cons_ok v d w it rest hf ha hk)

theorem runLoop_events_skip (v : Variant) (d : Bool) (w : Waiter) (it : Iter) (rest : List Iter) (hf : it.finished = false)
    (ha : it.ammoOk = true) (hk : (waitV v w it.env).ok = false) :
    (runLoop v d w (it :: rest)).1 = (runLoop v d (waitV v w it.env).w rest).1 := by
  rw [runLoop]; simp [hf, ha, hk]

theorem runLoop_events_stop (v : Variant) (d : Bool) (w : Waiter) (it : Iter) (rest : List Iter)
    (h : it.finished = true ∨ it.ammoOk = false) : (runLoop v d w (it :: rest)).1 = [] := by
  rw [runLoop]
  rcases h with h | h
  · simp [h]
  · by_cases hf : it.finished = true <;> simp [h, hf]

/-- Every action of the loop is `actOf` of a pass in which `Wait` returned true. So a statement `P w h ev` about the
actions `ev` of the loop from waiter state `w` over the history `h` holds if it holds of the action of the first pass and
passes from the rest of the loop (one `Wait` later) to the whole. -/
theorem runLoop_forall {v : Variant} {d : Bool} {P : Waiter → List Iter → Ev → Prop}
    (here : ∀ w it rest, (waitV v w it.env).ok = true → P w (it :: rest) (actOf d (waitV v w it.env).w it))
    (later : ∀ w it rest ev, P (waitV v w it.env).w rest ev → P w (it :: rest) ev) :
    ∀ w h, ∀ ev ∈ (runLoop v d w h).1, P w h ev := by
  intro w h
  induction h generalizing w with
  | nil => intro ev hev; cases hev
  | cons it rest ih =>
    intro ev hev
    rcases pass_cases v w it with hs | ⟨hf, ha, hk⟩ | ⟨hf, ha, hk⟩
    · rw [runLoop_events_stop v d w it rest hs] at hev; cases hev
    · rw [runLoop_events_ok v d w it rest hf ha hk, List.mem_cons] at hev
      rcases hev with rfl | hev
      · exact here w it rest hk
      · exact later w it rest ev (ih _ ev hev)
    · rw [runLoop_events_skip v d w it rest hf ha hk] at hev
      exact later w it rest ev (ih _ ev hev)

theorem drawn_stop (v : Variant) (w : Waiter) (it : Iter) (rest : List Iter)
    (h : it.finished = true ∨ it.ammoOk = false) : drawn v w (it :: rest) = [] := by
  rw [drawn]
  rcases h with h | h
  · simp [h]
  · by_cases hf : it.finished = true <;> simp [h, hf]

theorem drawn_ok (v : Variant) (w : Waiter) (it : Iter) (rest : List Iter) (hf : it.finished = false)
    (ha : it.ammoOk = true) (hk : (waitV v w it.env).ok = true) :
    drawn v w (it :: rest) = it :: drawn v (waitV v w it.env).w rest := by
  rw [drawn]; simp [hf, ha, hk]

theorem drawn_skip (v : Variant) (w : Waiter) (it : Iter) (rest : List Iter) (hf : it.finished = false)
    (ha : it.ammoOk = true) (hk : (waitV v w it.env).ok = false) :
    drawn v w (it :: rest) = drawn v (waitV v w it.env).w rest := by
  rw [drawn]; simp [hf, ha, hk]

/-- the actions of the loop are `actOf` of the drawn passes, in order; `f` may look at the pass and at the action -/
theorem runLoop_events_map {α : Type} (v : Variant) (d : Bool) (f : Ev → α) (g : Iter → α)
    (hfg : ∀ w' it, f (actOf d w' it) = g it) (w : Waiter) (h : List Iter) :
    (runLoop v d w h).1.map f = (drawn v w h).map g := by
  induction h generalizing w with
  | nil => rfl
  | cons it rest ih =>
    rcases pass_cases v w it with hs | ⟨hf, ha, hk⟩ | ⟨hf, ha, hk⟩
    · rw [runLoop_events_stop v d w it rest hs, drawn_stop v w it rest hs]; rfl
    · rw [runLoop_events_ok v d w it rest hf ha hk, drawn_ok v w it rest hf ha hk, List.map_cons, List.map_cons,
        hfg, ih]
    · rw [runLoop_events_skip v d w it rest hf ha hk, drawn_skip v w it rest hf ha hk, ih]

/-- every action happens at an instant ≥ the scheduled time of its token -/
theorem runLoop_no_early (v : Variant) (d : Bool) (w : Waiter) (h : List Iter) (hc : ClockOK w h) :
    ∀ ev ∈ (runLoop v d w h).1, ∃ next, ev.iter.env.tok = some next ∧ next ≤ ev.iter.env.ret := fun ev hev =>
  runLoop_forall (P := fun w h ev => ClockOK w h → ∃ next, ev.iter.env.tok = some next ∧ next ≤ ev.iter.env.ret)
    (fun w it _ hk hc => by
      obtain ⟨next, h1, h2, _⟩ := waitV_ok v w it.env hc.head.1 hc.head.2 hk
      rw [actOf_iter]; exact ⟨next, h1, h2⟩)
    (fun _ _ _ _ ih hc => ih (hc.tail v)) w h ev hev hc

/-- every token drawn and waited for produces exactly one action, in order -/
theorem runLoop_iters (v : Variant) (d : Bool) (w : Waiter) (h : List Iter) :
    (runLoop v d w h).1.map Ev.iter = drawn v w h := by
  rw [runLoop_events_map v d Ev.iter id (actOf_iter d), List.map_id]

theorem drawn_sublist (v : Variant) (w : Waiter) (h : List Iter) : (drawn v w h).Sublist h := by
  induction h generalizing w with
  | nil => exact List.Sublist.slnil
  | cons it rest ih =>
    rcases pass_cases v w it with hs | ⟨hf, ha, hk⟩ | ⟨hf, ha, hk⟩
    · rw [drawn_stop v w it rest hs]; exact List.nil_sublist _
    · rw [drawn_ok v w it rest hf ha hk]; exact (ih _).cons_cons it
    · rw [drawn_skip v w it rest hf ha hk]; exact (ih _).cons it

theorem drawn_mem (v : Variant) (w : Waiter) (h : List Iter) : ∀ it ∈ drawn v w h, it ∈ h :=
  fun _ hit => (drawn_sublist v w h).subset hit

theorem runLoop_iter_mem_drawn (v : Variant) (d : Bool) (w : Waiter) (h : List Iter) :
    ∀ ev ∈ (runLoop v d w h).1, ev.iter ∈ drawn v w h := fun ev hev => by
  rw [← runLoop_iters v d w h]; exact List.mem_map_of_mem hev

/-- every action of the loop belongs to a pass of the history -/
theorem runLoop_iter_mem (v : Variant) (d : Bool) (w : Waiter) (h : List Iter) :
    ∀ ev ∈ (runLoop v d w h).1, ev.iter ∈ h :=
  fun ev hev => drawn_mem v w h _ (runLoop_iter_mem_drawn v d w h ev hev)

/-- discard_overflow off: every action is a Shoot -/
theorem runLoop_off_isShoot (v : Variant) (w : Waiter) (h : List Iter) :
    ∀ ev ∈ (runLoop v false w h).1, ev.isShoot = true :=
  runLoop_forall (P := fun _ _ ev => ev.isShoot = true) (fun _ _ _ _ => rfl) (fun _ _ _ _ ih => ih) w h

/-! ### cancellation is permanent -/

/-- A done context stays done: once `IsSlowDown` has seen the run context done in some pass, `IsFinished` sees it done at the
head of every later pass (`it.finished` is the answer of `IsFinished`, which is true on a done context). -/
def CtxMono (h : List Iter) : Prop := h.Pairwise (fun a b => a.ctxDoneSlow = true → b.finished = true)

instance (h : List Iter) : Decidable (CtxMono h) := by unfold CtxMono; exact inferInstance

theorem getLast?_cons_of_getLast? {α : Type} (a : α) (l : List α) (e : α) (h : l.getLast? = some e) :
    (a :: l).getLast? = some e := by
  cases l with
  | nil => simp at h
  | cons b t => simpa [List.getLast?_cons_cons] using h

/-- an action taken in a pass in which `IsSlowDown` saw the context done is the LAST action of that instance: the loop ends at
the next `IsFinished` -/
theorem runLoop_ctxDoneSlow_last (v : Variant) (d : Bool) (w : Waiter) (h : List Iter) (hm : CtxMono h) :
    ∀ ev ∈ (runLoop v d w h).1, ev.iter.ctxDoneSlow = true → (runLoop v d w h).1.getLast? = some ev := by
  induction h generalizing w with
  | nil => intro ev hev; cases hev
  | cons jt rest ih =>
    intro ev hev hctx
    have hm' : CtxMono rest := (List.pairwise_cons.mp hm).2
    rcases pass_cases v w jt with hs | ⟨hf, ha, hk⟩ | ⟨hf, ha, hk⟩
    · rw [runLoop_events_stop v d w jt rest hs] at hev; cases hev
    · rw [runLoop_events_ok v d w jt rest hf ha hk] at hev ⊢
      rcases List.mem_cons.mp hev with rfl | hev
      · -- this pass: every later pass has `finished = true`, so there are no further actions
        have hj : jt.ctxDoneSlow = true := by rwa [actOf_iter] at hctx
        have hnil : (runLoop v d (waitV v w jt.env).w rest).1 = [] := by
          cases rest with
          | nil => rfl
          | cons r rs =>
            exact runLoop_events_stop v d _ r rs (Or.inl ((List.pairwise_cons.mp hm).1 r List.mem_cons_self hj))
        rw [hnil]; rfl
      · exact getLast?_cons_of_getLast? _ _ _ (ih _ hm' ev hev hctx)
    · rw [runLoop_events_skip v d w jt rest hf ha hk] at hev ⊢
      exact ih _ hm' ev hev hctx

end Pandora.Proofs.C04
