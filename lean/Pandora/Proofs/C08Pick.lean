/-
C08: proofs for `Model/C08Pick.lean` — grpc/json with its chosencases filter, every kind that has the option,
data sources of the generic JSON provider, machine integers in the replay loop.
-/
import Pandora.Model.C08Pick
import Pandora.Proofs.C08Run

namespace Pandora.Proofs.C08
open Pandora.Model.C08

variable {α : Type}

/-! ## grpc/json with a chosencases filter -/

/-- every kind that has a chosencases option, with any filter that chooses at least one entry of the file -/
theorem runFuelPick_spec (inp : Input) (file : List α) (chosen : α → Bool) (T : Nat)
    (hk : inp.kind.hasFilter = true)
    (hn : 0 < file.length) (hf : 0 < (file.filter chosen).length)
    (tg : Tgt inp.b.limit inp.b.passes (file.filter chosen).length inp.cancelAt T) :
    runFuelPick inp file chosen (fuelFor T file.length (file.filter chosen).length)
      = some ⟨cycTake (file.filter chosen) T, kindEnd inp.kind inp.cancelAt T, true⟩ := by
  unfold runFuelPick
  cases hkd : inp.kind with
  | grpcJson =>
    simp only [kindEnd]
    exact grpcRun_spec file chosen _ _ T hn hf tg
  | uri | uripost | raw | jsonLines | jsonArray =>
    simp only
    have := runFuel_spec inp file chosen T hn hf (by intro h; simp [hkd, Kind.isHttp] at h) tg
    rw [hkd] at this
    exact this
  | httpScenario | grpcScenario | genericJson => simp [hkd, Kind.hasFilter] at hk

/-- a cell with a chosencases option that chooses something: what `Model.C08.runPick` computes -/
theorem runPick_spec (inp : Input) (n : Nat) (pick : List Nat) (T : Nat) (hk : inp.kind.hasFilter = true)
    (hf : 0 < (chosenOf n pick).length)
    (hT : target inp.b.limit inp.b.passes (chosenOf n pick).length inp.cancelAt = some T) :
    runPick inp n pick = some ⟨cycTake (chosenOf n pick) T, kindEnd inp.kind inp.cancelAt T, true⟩ := by
  have hn : 0 < n := by
    cases n with
    | zero => simp [chosenOf] at hf
    | succ n => omega
  have h := runFuelPick_spec inp (List.range n) (pickPred pick) T hk (by rw [List.length_range]; exact hn) hf
    (tgt_of_target _ _ _ _ _ hf hT)
  rw [List.length_range] at h
  unfold runPick
  rw [hT]
  exact h

/-! ## scenario weights -/

theorem gcdList_dvd (l : List Nat) : ∀ x ∈ l, gcdList l ∣ x := by
  induction l with
  | nil => intro x hx; cases hx
  | cons a l ih =>
    intro x hx
    simp only [gcdList, List.foldr_cons] at *
    rcases List.mem_cons.mp hx with rfl | h
    · exact Nat.gcd_dvd_left _ _
    · exact Nat.dvd_trans (Nat.gcd_dvd_right _ _) (ih x h)

theorem normWeights_pos (ws : List Nat) : ∀ x ∈ normWeights ws, 0 < x := by
  intro x hx
  simp only [normWeights, List.mem_map] at hx
  obtain ⟨w, _, rfl⟩ := hx
  split <;> omega

/-- every scenario occurs at least once in a pass -/
theorem spreadCounts_pos (ws : List Nat) : ∀ c ∈ spreadCounts ws, 0 < c := by
  intro c hc
  simp only [spreadCounts, List.mem_map] at hc
  obtain ⟨w, hw, rfl⟩ := hc
  have hpos := normWeights_pos ws w hw
  have hd := gcdList_dvd (normWeights ws) w hw
  have hg : 0 < gcdList (normWeights ws) := Nat.pos_of_dvd_of_pos hd hpos
  exact Nat.div_pos (Nat.le_of_dvd hpos hd) hg

theorem length_spreadFrom (i : Nat) (cs : List Nat) : (spreadFrom i cs).length = cs.sum := by
  induction cs generalizing i with
  | nil => rfl
  | cons c cs ih => simp [spreadFrom, ih]

theorem length_le_sum_of_pos (cs : List Nat) (h : ∀ c ∈ cs, 0 < c) : cs.length ≤ cs.sum := by
  induction cs with
  | nil => simp
  | cons c cs ih =>
    have h1 := h c (List.mem_cons_self)
    have h2 := ih (fun x hx => h x (List.mem_cons_of_mem _ hx))
    simp only [List.length_cons, List.sum_cons]
    omega

/-- a pass has at least as many entries as the file has scenarios; its length is the sum of the counts -/
theorem length_spread (ws : List Nat) : (spread ws).length = (spreadCounts ws).sum ∧ ws.length ≤ (spread ws).length := by
  have h1 : (spread ws).length = (spreadCounts ws).sum := length_spreadFrom 0 _
  refine ⟨h1, ?_⟩
  rw [h1]
  have := length_le_sum_of_pos (spreadCounts ws) (spreadCounts_pos ws)
  simpa [spreadCounts, normWeights] using this

/-- how often scenario `j` occurs in `spreadFrom i cs` -/
theorem count_spreadFrom (i : Nat) (cs : List Nat) (j : Nat) :
    (spreadFrom i cs).count j = if i ≤ j then cs.getD (j - i) 0 else 0 := by
  induction cs generalizing i with
  | nil => simp [spreadFrom]
  | cons c cs ih =>
    simp only [spreadFrom, List.count_append, List.count_replicate, ih]
    by_cases h1 : i ≤ j
    · by_cases h2 : i = j
      · subst h2
        have h3 : ¬ i + 1 ≤ i := by omega
        simp [h3]
      · have h3 : i + 1 ≤ j := by omega
        have h4 : j - i = (j - (i + 1)) + 1 := by omega
        simp [h1, h2, h3, h4]
    · have h3 : ¬ i + 1 ≤ j := by omega
      have h2 : ¬ i = j := by omega
      simp [h1, h2, h3]

/-! ## data sources -/

theorem seekable_iff (k : SrcKind) : k.seekable = true ↔ k ≠ .readCloser ∧ k ≠ .reader ∧ k ≠ .buffer := by
  cases k <;> simp [SrcKind.seekable, opensOf, SrcKind.rewindable]

theorem runSrc_seekable (k : SrcKind) (hk : k.seekable = true) (inp : Input) (hg : inp.kind = .genericJson) (n : Nat) :
    runSrc k inp n = run inp n := by
  unfold runSrc effPasses
  rw [hk]
  simp only [if_true]
  cases inp with
  | mk kind preload b cancelAt =>
    cases b
    simp only at hg
    subst hg
    rfl

/-! ## machine integers -/

/-- the `Nat` reading of the loop body of runPreloaded / scenario `Run` (what `Gen.ProvLoops.runPreloadedStep` /
`scenarioRunStep` are) -/
def replayStepN (passes limit length : Nat) (c : Bool) (ammoNum : Nat) : Act (Nat × Nat) :=
  if c then .ret .canceled
  else if passes ≠ 0 ∧ ammoNum / length ≥ passes then .ret .errPasses
  else if limit ≠ 0 ∧ ammoNum ≥ limit then .ret .errLimit
  else .offer (ammoNum % length) (ammoNum + 1, ammoNum / length)

theorem u64_ne_zero (x : UInt64) : x ≠ 0 ↔ x.toNat ≠ 0 := by
  constructor
  · intro h h0; exact h (UInt64.toNat_inj.mp (by simpa using h0))
  · intro h h0; subst h0; exact h rfl

/-- **no wrap**: for every 64-bit value of passes, limit and length (≥ 1) and every counter that has not itself wrapped
(fewer than 2^64 - 1 ammo sent so far) the loop body over Go's modular `uint` is the loop body over `Nat` -/
theorem replayStepU_eq (passes limit length ammoNum : UInt64) (c : Bool)
    (hinc : ammoNum.toNat + 1 < 2 ^ 64) :
    actToNat (replayStepU passes limit length c ammoNum)
      = replayStepN passes.toNat limit.toNat length.toNat c ammoNum.toNat := by
  unfold replayStepU replayStepN
  cases c with
  | true => simp [actToNat]
  | false =>
    simp only [Bool.false_eq_true, if_false]
    have hp : (passes ≠ 0 ∧ ammoNum / length ≥ passes) ↔ (passes.toNat ≠ 0 ∧ ammoNum.toNat / length.toNat ≥ passes.toNat) := by
      rw [u64_ne_zero, ge_iff_le, UInt64.le_iff_toNat_le, UInt64.toNat_div]
    have hl : (limit ≠ 0 ∧ ammoNum ≥ limit) ↔ (limit.toNat ≠ 0 ∧ ammoNum.toNat ≥ limit.toNat) := by
      rw [u64_ne_zero, ge_iff_le, UInt64.le_iff_toNat_le]
    by_cases h1 : passes ≠ 0 ∧ ammoNum / length ≥ passes
    · rw [if_pos h1, if_pos (hp.mp h1)]; rfl
    · rw [if_neg h1, if_neg (fun h => h1 (hp.mpr h))]
      by_cases h2 : limit ≠ 0 ∧ ammoNum ≥ limit
      · rw [if_pos h2, if_pos (hl.mp h2)]; rfl
      · rw [if_neg h2, if_neg (fun h => h2 (hl.mpr h))]
        simp only [actToNat, UInt64.toNat_mod, UInt64.toNat_div, UInt64.toNat_add]
        have : (ammoNum.toNat + (1 : UInt64).toNat) % 2 ^ 64 = ammoNum.toNat + 1 := by
          simp only [UInt64.toNat_one]
          exact Nat.mod_eq_of_lt hinc
        rw [this]

/-! ## the streaming decoders over machine integers -/

theorem u64_succ_toNat (a : UInt64) (h : a.toNat + 1 < 2 ^ 64) : (a + 1).toNat = a.toNat + 1 := by
  simp only [UInt64.toNat_add, UInt64.toNat_one]
  exact Nat.mod_eq_of_lt h

theorem u64_eq_zero (a : UInt64) : a = 0 ↔ a.toNat = 0 := by
  constructor
  · intro h; subst h; rfl
  · intro h; exact UInt64.toNat_inj.mp (by simpa using h)

/-- uri / uripost / raw: one round of `Scan` over Go's `uint` counters is the round over `Nat`, for every 64-bit `passes` and
all counters that have not themselves wrapped -/
theorem roundEofU_eq (passes ammoNum passNum : UInt64) (c : Bool) (rd : Rd)
    (ha : ammoNum.toNat + 1 < 2 ^ 64) (hp : passNum.toNat + 1 < 2 ^ 64) :
    roundEofU passes c rd ammoNum passNum = roundEof passes.toNat c rd ammoNum.toNat passNum.toNat := by
  unfold roundEofU roundEof
  cases c with
  | true => simp
  | false =>
    simp only [Bool.false_eq_true, if_false]
    cases rd with
    | entry => simp [u64_succ_toNat _ ha]
    | skip => rfl
    | bad => rfl
    | eof =>
      simp only
      have hq : (passes ≠ 0 ∧ passNum + 1 ≥ passes) ↔ (passes.toNat ≠ 0 ∧ passes.toNat ≤ passNum.toNat + 1) := by
        rw [u64_ne_zero, ge_iff_le, UInt64.le_iff_toNat_le, u64_succ_toNat _ hp]
      by_cases h1 : passes ≠ 0 ∧ passNum + 1 ≥ passes
      · rw [if_pos h1, if_pos (hq.mp h1), u64_succ_toNat _ hp]
      · rw [if_neg h1, if_neg (fun h => h1 (hq.mpr h))]
        by_cases h2 : ammoNum = 0
        · rw [if_pos h2, if_pos ((u64_eq_zero _).mp h2), u64_succ_toNat _ hp]
        · rw [if_neg h2, if_neg (fun h => h2 ((u64_eq_zero _).mpr h)), u64_succ_toNat _ hp]

/-- jsonline: the same -/
theorem roundTopU_eq (passes ammoNum passNum : UInt64) (c : Bool) (rd : Rd)
    (ha : ammoNum.toNat + 1 < 2 ^ 64) (hp : passNum.toNat + 1 < 2 ^ 64) :
    roundTopU passes c rd ammoNum passNum = roundTop passes.toNat c rd ammoNum.toNat passNum.toNat := by
  unfold roundTopU roundTop
  have hq : (passes ≠ 0 ∧ passNum ≥ passes) ↔ (passes.toNat ≠ 0 ∧ passes.toNat ≤ passNum.toNat) := by
    rw [u64_ne_zero, ge_iff_le, UInt64.le_iff_toNat_le]
  by_cases h1 : passes ≠ 0 ∧ passNum ≥ passes
  · rw [if_pos h1, if_pos (hq.mp h1)]
  · rw [if_neg h1, if_neg (fun h => h1 (hq.mpr h))]
    cases rd with
    | entry => simp [u64_succ_toNat _ ha]
    | skip => rfl
    | bad => rfl
    | eof =>
      simp only
      by_cases h2 : ammoNum = 0
      · rw [if_pos h2, if_pos ((u64_eq_zero _).mp h2)]
      · rw [if_neg h2, if_neg (fun h => h2 ((u64_eq_zero _).mpr h)), u64_succ_toNat _ hp]

theorem limitReachedU_eq (limit ammoNum : UInt64) :
    limitReachedU limit ammoNum = decide (limit.toNat ≠ 0 ∧ limit.toNat ≤ ammoNum.toNat) := by
  unfold limitReachedU
  rw [decide_eq_decide, u64_ne_zero, ge_iff_le, UInt64.le_iff_toNat_le]

end Pandora.Proofs.C08
