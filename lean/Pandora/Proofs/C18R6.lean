/-
C18 — the glue around the registry core, tied SEMANTICALLY to the source.

`Gen/Plugin.lean` (the part printed by gen/area_plugin_r6.go) holds decision TABLES obtained by evaluating the Go functions
`convertFactoryOutParams`, `getFillConf`, `getNewDefaultConfig` and the config-error branch of the MakeFunc closure of
`pluginConstructor.NewFactory` on their whole abstract input space, the top-level expectations of `Registry.New` /
`Registry.NewFactory` as Lean conditions over the abstract `reflect.Type`, and the wrapper table of plugin.go.
This file proves that they are what the model (`Model.C18.convertOut`, `callFac`, `Form`, `World.hasFill`, `DefKind.absent`)
assumes — for every value of the inputs, not for the text of the source.
-/
import Pandora.Gen.Plugin
import Pandora.Model.C18
import Pandora.Model.C18Reg

namespace Pandora.Proofs.C18R6
open Pandora.Model.C18Ty Pandora.Model.C18 Pandora.Model.C18Reg Pandora.Gen.Plugin

/-! ### requested forms: which types `NewFactory` (and `LookupFactory`, `FactoryPluginType`) take as a factory type -/

theorem kindFunc (a b : Tys) : (Ty.func a b).kind = Kind.func := rfl

theorem isFactoryType_eq (t : Ty) : isFactoryType t = requestedOk t := by
  cases t with
  | base k i m => cases k <;> simp [isFactoryType, requestedOk, Ty.kind, Ty.numIn, Ty.numOut]
  | ptr e m => simp [isFactoryType, requestedOk, Ty.kind, Ty.numIn, Ty.numOut]
  | func ins outs =>
    rcases ins with _ | ⟨a, ri⟩
    · rcases outs with _ | ⟨x, _ | ⟨e, _ | ⟨e2, ro⟩⟩⟩
      · simp [isFactoryType, requestedOk, kindFunc, Ty.numIn, Ty.numOut, Tys.len]
      · cases hx : x.kind <;>
          simp [isFactoryType, requestedOk, kindFunc, Ty.numIn, Ty.numOut, Ty.out, Tys.len, Tys.get, hx]
      · cases hx : x.kind <;> by_cases he : e = Ty.error <;>
          simp [isFactoryType, requestedOk, kindFunc, Ty.numIn, Ty.numOut, Ty.out, Tys.len, Tys.get, hx, he]
      · simp [isFactoryType, requestedOk, kindFunc, Ty.numIn, Ty.numOut, Tys.len]
    · simp [isFactoryType, requestedOk, kindFunc, Ty.numIn, Ty.numOut, Tys.len]

/-- `Registry.New`'s own expectations: the requested plugin type is an interface and the name is not empty -/
theorem newExpects_eq (t : Ty) (name : String) :
    (newExpects t name).all id = (t.kind == .iface && name != "") := by
  simp [newExpects, Bool.and_comm]

/-- `Registry.NewFactory`'s own expectations: the requested type is `func() (Interface [, error])`, the name not empty -/
theorem newFactoryExpects_eq (t : Ty) (name : String) :
    (newFactoryExpects t name).all id = (requestedOk t && name != "") := by
  simp [newFactoryExpects, isFactoryType_eq, Bool.and_comm]

/-- the two factory forms of the model are requested types, of the model's `numOut`, asking for the plugin interface -/
theorem forms_requested :
    requestedOk (formTy 1) = true ∧ requestedOk (formTy 2) = true ∧
    (formTy 1).numOut = Form.facNoErr.numOut ∧ (formTy 2).numOut = Form.facErr.numOut ∧
    requestedPlugin (formTy 1) = plugT ∧ requestedPlugin (formTy 2) = plugT := by decide

/-! ### the result conversion, semantically -/

/-- the outcome `convertFactoryOutParams` has on a callee result of `outLen` values whose error is nil or not -/
def convOutcome (numOut outLen : Nat) (errNil : Bool) : String :=
  ((convertTable.find? fun r => r.1 == numOut && r.2.1 == outLen && r.2.2.1 == errNil).map (·.2.2.2)).getD "?"

/-- what the model's `convertOut` says, in the table's vocabulary -/
def modelOutcome (numOut outLen : Nat) (errNil : Bool) : String :=
  if errNil then
    (if outLen < numOut then s!"ret:len={numOut}+nilerr" else s!"ret:len={numOut}")
  else
    match convertOut numOut outLen (.error (.ctor 0)) with
    | .panic _ => "panic:err"
    | _ => s!"ret:len={numOut}"

/-- **the regenerated decision table of `convertFactoryOutParams` is the model's `convertOut`**: for both requested arities
and both callee arities — a nil error is appended when the callee has none, a nil error is dropped, a non-nil error is
the error result when one is requested and a panic carrying it when not; always exactly `numOut` results; any other
requested arity panics -/
theorem convert_sem :
    (∀ numOut ∈ [1, 2], ∀ outLen ∈ [1, 2], ∀ errNil ∈ [true, false], (outLen = 1 → errNil = true) →
      convOutcome numOut outLen errNil = modelOutcome numOut outLen errNil) ∧
    (∀ outLen ∈ [1, 2], ∀ errNil ∈ [true, false], (outLen = 1 → errNil = true) →
      convOutcome 3 outLen errNil = "panic:other") := by decide

/-- `convertOut` in words (what `modelOutcome` abbreviates): an ok result stays, an error becomes a panic iff the
requested form has fewer results than the callee -/
theorem convertOut_spec (numOut outLen : Nat) (p : Product) (e : Err) :
    convertOut numOut outLen (.ok p) = .ok p ∧
    convertOut numOut outLen (.error e) = (if numOut < outLen then .panic e else .err e) := by
  simp [convertOut]

/-- **a config error inside the closure of a component-constructor factory** (regenerated by evaluation): a panic carrying
the error for `func() Plugin`, `(zero, err)` for `func() (Plugin, error)` — never "continues" (the constructor is not
called with a configuration whose filling failed): the model's `callFac (.wrapPlugin numOut)` error branch -/
theorem confErr_sem : confErrTable = [(1, "panic:err"), (2, "ret:zero,err"), (3, "panic:other")] := rfl

/-- the model's reading of that table: `numOut = 1` panics, otherwise the error result -/
theorem confErr_model (sh : Shape) (w : World) (st : St) (numOut : Nat) (e : Err) (hc : sh.cfg ≠ .none)
    (hg : (dcGet sh w st).2 = .error e) :
    (callFac sh w (.wrapPlugin numOut) st).2 = (if numOut = 1 then .panic e else .err e) := by
  simp [callFac, hc, hg]

/-! ### optional arguments -/

/-- `getFillConf` / `getNewDefaultConfig`: no optional argument = nil (the model's `hasFill = false` / `DefKind.absent`),
one = that argument, two or more = an expectation panic -/
theorem optional_args :
    getFillConfTable = [(0, "ret:nil"), (1, "ret:elem0"), (2, "panic:expect")] ∧
    getNewDefaultConfigTable = [(0, "ret:nil"), (1, "ret:elem0"), (2, "panic:expect")] := ⟨rfl, rfl⟩

/-- `LookupFactory(t)` = `isFactoryType(t)` and `Lookup` of the FIRST result type; `FactoryPluginType` gives that first result
exactly for factory types — the model's `requestedPlugin` -/
theorem lookupFactory_steps :
    lookupFactorySteps = ["return isFactoryType($reflect.Type) && $*Registry.Lookup($reflect.Type.Out(0))"] ∧
    factoryPluginTypeSteps = ["if isFactoryType($reflect.Type) { return $reflect.Type.Out(0), true }", "return"] :=
  ⟨rfl, rfl⟩

/-! ### plugin.go: the package-level functions are the default registry's methods -/

/-- every wrapper calls the method of its own name with its own parameters in order -/
theorem wrappers_delegate :
    defaultWrappers.all (fun r => r.1 == r.2.1 && r.2.2) = true ∧
    ["Lookup", "LookupFactory", "New", "NewFactory", "Register"].all (fun n => defaultWrappers.any (·.1 == n)) = true := by
  decide

end Pandora.Proofs.C18R6
