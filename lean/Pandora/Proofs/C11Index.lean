/-
C11 — lemmas about Go's fixed-width conversions (`goWrap`) and truncated remainder (`Int.tmod`) used by the
theorems on the index arithmetic behind the shared counters.
-/
import Pandora.Model.C11Index

namespace Pandora.Proofs.C11
open Pandora.Go Pandora.Model.C11

/-- a counter below 2^63 read back as an `int` is itself -/
theorem ctrAsInt_small (c : Int) (h0 : 0 ≤ c) (h : c < 9223372036854775808) : ctrAsInt c = c := by
  simp only [ctrAsInt, goWrap, goPow]
  have h1 : c % 18446744073709551616 = c := Int.emod_eq_of_lt h0 (by omega)
  simp only [h1, Bool.false_and, Bool.true_and, decide_eq_true_eq]
  split <;> omega

/-- from 2^63 on it is negative -/
theorem ctrAsInt_big (c : Int) (h0 : 9223372036854775808 ≤ c) (h : c < 18446744073709551616) :
    ctrAsInt c = c - 18446744073709551616 := by
  simp only [ctrAsInt, goWrap, goPow]
  have h1 : c % 18446744073709551616 = c := Int.emod_eq_of_lt (by omega) h
  simp only [h1, Bool.false_and, Bool.true_and, decide_eq_true_eq]
  split <;> omega

/-- bounds of Go's `%` with a positive divisor -/
theorem tmod_bounds (a b : Int) (hb : 0 < b) : -b < Int.tmod a b ∧ Int.tmod a b < b ∧ (0 ≤ a → 0 ≤ Int.tmod a b) ∧ (a < 0 → Int.tmod a b ≤ 0) := by
  refine ⟨?_, Int.tmod_lt_of_pos a hb, fun ha => Int.tmod_nonneg b ha, ?_⟩
  · by_cases ha : 0 ≤ a
    · have := Int.tmod_nonneg b ha; omega
    · have hn : Int.tmod a b = -Int.tmod (-a) b := by rw [Int.neg_tmod]; omega
      have := Int.tmod_lt_of_pos (-a) hb
      omega
  · intro ha
    have hn : Int.tmod a b = -Int.tmod (-a) b := by rw [Int.neg_tmod]; omega
    have := Int.tmod_nonneg (a := -a) b (by omega)
    omega

end Pandora.Proofs.C11
