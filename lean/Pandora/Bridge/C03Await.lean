/-
C03 — bridge for the pool's bookkeeping: the `case` bodies of `(*runAwaitHandle).awaitRun`, the body and the test of
`checkAllInstancesAreFinished` and the initial counters, REGENERATED from the current core/engine/engine.go
(`Pandora.Gen.InstLoop.awaitCase`, `awaitCheckCond`, `awaitCheckBody`, `awaitInit…`), do exactly what the model
`Pandora.Model.C03Await.astep` does — for EVERY state of the handle and every kind of result, not for samples:

* `await_step_eq` — receiving a result by the regenerated statements = `astep`, and no statement outside the
  statement language is met.  Independent statements of a case may be reordered, locals renamed, the test of
  `checkAllInstancesAreFinished` written another way (the proof only unfolds and decides): what must stay is what they
  do — which channel is closed, `toWait--` once, `awaitedInstances++`, the start cancelled only for an out-of-ammo
  result while the start is still running, `runCancel()` only under `isStartFinished() && awaited >= started` …
* `await_init_eq`, `await_loop_eq`, `await_startFinished_eq` — 4 results to wait for, `startedInstances = -1` until the
  start result, the loop runs while `toWait > 0`, the start is finished when `startRes == nil`.
-/
import Pandora.Gen.InstLoop
import Pandora.Model.C03Await

namespace Pandora.Bridge.C03Await
open Pandora.Model.C03Await

/-- the regenerated test and body of `checkAllInstancesAreFinished` are `checkAll` -/
theorem check_eq (s : ASt) :
    execCheck Gen.InstLoop.awaitCheckCond Gen.InstLoop.awaitCheckBody s = (checkAll s, false) := by
  unfold execCheck checkAll Gen.InstLoop.awaitCheckCond
  by_cases h : (!s.startOpen && decide (s.started ≤ (s.awaited : Int))) = true
  · have h' : (!s.startOpen && decide ((s.awaited : Int) ≥ s.started)) = true := h
    rw [if_pos h, if_pos h']; rfl
  · have h' : ¬ (!s.startOpen && decide ((s.awaited : Int) ≥ s.started)) = true := h
    rw [if_neg h, if_neg h']

theorem await_step_eq (s : ASt) (r : Res) :
    stepBy Gen.InstLoop.awaitCase Gen.InstLoop.awaitCheckCond Gen.InstLoop.awaitCheckBody s r =
      (astep s r).map (fun s' => (s', false)) := by
  obtain ⟨chan, badRun, badStart, ooa, st⟩ := r
  -- per channel: is it open, and the tests its case body makes
  cases chan
  · cases h : s.provOpen <;> cases badRun <;>
      simp [stepBy, astep, Gen.InstLoop.awaitCase, execA, h, bump, badFor, isIf]
  · cases h : s.aggrOpen <;> cases badRun <;>
      simp [stepBy, astep, Gen.InstLoop.awaitCase, execA, h, bump, badFor, isIf]
  · cases h : s.startOpen <;> cases badStart <;>
      simp [stepBy, astep, Gen.InstLoop.awaitCase, execA, h, bump, badFor, isIf, check_eq]
  · cases h : s.runOpen <;> cases badRun <;> cases ooa <;> cases h2 : s.startOpen <;>
      simp [stepBy, astep, Gen.InstLoop.awaitCase, execA, h, h2, bump, badFor, isIf, check_eq]

theorem await_init_eq :
    Gen.InstLoop.awaitInitToWait = (ainit.toWait : Int) ∧ Gen.InstLoop.awaitInitStarted = ainit.started := by decide

theorem await_loop_eq : Gen.InstLoop.awaitLoop = "for $.toWait > 0 { select }" := rfl

theorem await_startFinished_eq : Gen.InstLoop.awaitStartFinished = "$.startRes == nil" := rfl

end Pandora.Bridge.C03Await
