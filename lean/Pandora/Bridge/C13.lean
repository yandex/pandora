/-
C13 — bridge between the definitions regenerated from the current source (`Pandora.Gen.C13Src`, written by
/verif/gen area `c13src` on every check run) and the models the property theorems are about.

Each lemma holds for ALL arguments: a changed comparison, constant, operator, or order of two dependent tests in one of
the translated functions (named in the section headings below) makes its lemma fail to check.
-/
import Pandora.Gen.C13Src
import Pandora.Model.C13Funcs
import Pandora.Model.C13Multi
import Pandora.Model.C13Jsonline
import Pandora.Model.C13Grpc
import Pandora.Model.C13Cfg
import Pandora.Model.C13Csv
import Pandora.Model.C13Run

set_option linter.unusedSimpArgs false

namespace Pandora.Bridge.C13
open Pandora.Model.C13

/-- error classes are names given by the model; the regenerated code only says "an error" -/
def eraseErr {α : Type} : Res α → Res α
  | .err _ => .err "e"
  | r => r

theorem eraseErr_ok {α : Type} (r : Res α) (a : α) (h : r = .ok a) : eraseErr r = .ok a := by subst h; rfl
theorem eraseErr_err {α : Type} (r : Res α) (c : String) (h : r = .err c) : eraseErr r = .err "e" := by subst h; rfl
theorem eraseErr_returns {α : Type} (r : Res α) : (eraseErr r).returns = r.returns := by cases r <;> rfl

/-! ### `mp.calcIndex` -/

theorem calcIndex_bridge (indexStr : Bytes) (length next : Int) (rnd : Nat) :
    Gen.C13Src.calcIndex indexStr ((atoi indexStr).getD 0) (atoi indexStr).isNone length next rnd =
      eraseErr (calcIndex true indexStr length next rnd) := by
  unfold Gen.C13Src.calcIndex calcIndex isKw kwNext kwRand kwLast
  by_cases h1 : indexStr = [110, 101, 120, 116]
  · subst h1
    by_cases hl : length ≤ 0
    · simp (disch := omega) [eraseErr, hl, if_pos, if_neg]
    · by_cases hn : next ≥ length
      · have : length ≠ 0 := by omega
        simp (disch := omega) [eraseErr, hl, hn, tmodC, this, Res.bind, if_pos, if_neg]
      · simp (disch := omega) [eraseErr, hl, hn, Res.bind, if_pos, if_neg]
  · by_cases h2 : indexStr = [114, 97, 110, 100]
    · subst h2
      by_cases hl : length ≤ 0
      · simp (disch := omega) [eraseErr, hl, if_pos, if_neg]
      · simp (disch := omega) [eraseErr, hl, intnC, if_pos, if_neg]
    · by_cases h3 : indexStr = [108, 97, 115, 116]
      · subst h3
        by_cases hl : length ≤ 0
        · simp (disch := omega) [eraseErr, hl, if_pos, if_neg]
        · simp (disch := omega) [eraseErr, hl, if_pos, if_neg]
      · cases ha : atoi indexStr with
        | none => simp [eraseErr, h1, h2, h3]
        | some v =>
          by_cases hl : length ≤ 0
          · simp (disch := omega) [eraseErr, h1, h2, h3, hl, if_pos, if_neg]
          · have hne : length ≠ 0 := by omega
            by_cases hr : 0 ≤ v ∧ v < length
            · simp (disch := omega) [eraseErr, h1, h2, h3, hl, hr, if_pos, if_neg]
            · by_cases hm : Int.tmod v length < 0
              · simp (disch := omega) [eraseErr, h1, h2, h3, hl, hr, hm, tmodC, hne, Res.bind, if_pos, if_neg]
              · simp (disch := omega) [eraseErr, h1, h2, h3, hl, hr, hm, tmodC, hne, Res.bind, if_pos, if_neg]

/-! ### `templater.randInt` -/

theorem randInt_bridge (f t : Int) (rnd : Nat) :
    Gen.C13Src.randInt f t rnd = eraseErr (randInt true f t rnd) := by
  unfold Gen.C13Src.randInt randInt randIntBounds
  by_cases h : t < f
  · simp only [h, if_true]
    by_cases h0 : t = 0 ∧ f = 0
    · obtain ⟨rfl, rfl⟩ := h0
      omega
    · by_cases he : f = t
      · omega
      · by_cases hz : t = 0 ∧ f = 0
        · exact absurd hz h0
        · simp only [hz, if_false, he, Bool.true_and, decide_eq_true_eq]
          by_cases hd : wrap64 (f - t) ≤ 0
          · simp (disch := omega) [hd, eraseErr, if_pos, if_neg]
          · simp (disch := omega) [hd, eraseErr, intnC, Res.bind, if_pos, if_neg]
  · simp only [h, if_false]
    by_cases h0 : f = 0 ∧ t = 0
    · obtain ⟨rfl, rfl⟩ := h0
      simp only [and_self, if_true, Bool.true_and, decide_eq_true_eq]
      have h10 : ¬ ((10 : Int) = 0) := by omega
      simp only [h10, if_false]
      have hw : wrap64 10 = 10 := by unfold wrap64; omega
      simp (disch := omega) [eraseErr, intnC, Res.bind, hw, if_pos, if_neg]
    · simp only [h0, if_false, Bool.true_and, decide_eq_true_eq]
      by_cases he : t = f
      · subst he
        simp only [if_true]
        by_cases hd : wrap64 (wrap64 (t + 10) - t) ≤ 0
        · simp (disch := omega) [hd, eraseErr, if_pos, if_neg]
        · simp (disch := omega) [hd, eraseErr, intnC, Res.bind, if_pos, if_neg]
      · simp only [he, if_false]
        by_cases hd : wrap64 (t - f) ≤ 0
        · simp (disch := omega) [hd, eraseErr, if_pos, if_neg]
        · simp (disch := omega) [hd, eraseErr, intnC, Res.bind, if_pos, if_neg]

/-! ### `readSized` -/

/-- what `readSized` refuses before it allocates anything is what the model's reader answers with the error `size` -/
theorem readSized_bridge (size : Int) (rest : Bytes) :
    Gen.C13Src.readSizedTestFirst = true ∧
    (Gen.C13Src.readSizedRefuses size ↔ readBody true size rest = .err "size") := by
  refine ⟨rfl, ?_⟩
  unfold Gen.C13Src.readSizedRefuses readBody
  by_cases h : size < 0
  · simp (disch := omega) [h, if_pos, if_neg]
  · by_cases h2 : size > rest.length
    · simp (disch := omega) [h, h2, if_pos, if_neg]
    · simp (disch := omega) [h, h2, if_pos, if_neg]

/-- a chunk (the unit in which `readSized` allocates for sizes above it) fits the memory the model assumes -/
theorem readChunkSize_bridge : 0 < Gen.C13Src.readChunkSize ∧ Gen.C13Src.readChunkSize ≤ memCap := by
  unfold Gen.C13Src.readChunkSize memCap
  omega

/-! ### the end of a pass in the decoders' `Scan`

The regenerated `…PassEnd` functions are the statements between the end of the file and the next read, executed in source
order. Each is proved equal to the model for ALL values: reordering independent statements or writing a test in an
equivalent way leaves the proofs intact, a changed test, a test moved across `d.passNum++`, or a missing seek does not. -/

/-- 0 = read again | 1 = ErrPassLimit | 2 = ErrNoAmmo -/
def passEndCode : PassEnd → Int
  | .again => 0
  | .stop .ok => 1
  | .stop _ => 2

theorem uripostPassEnd_bridge (passes passNum ammoNum : Nat) :
    (Gen.C13Src.uripostPassEnd passes passNum ammoNum).1 = passEndCode (httpPassEnd passes (passNum + 1) ammoNum) ∧
    ((Gen.C13Src.uripostPassEnd passes passNum ammoNum).1 = 0 →
      (Gen.C13Src.uripostPassEnd passes passNum ammoNum).2.1 = ((passNum + 1 : Nat) : Int) ∧
      (Gen.C13Src.uripostPassEnd passes passNum ammoNum).2.2 = true) := by
  unfold Gen.C13Src.uripostPassEnd httpPassEnd passEndCode
  by_cases h : passes ≠ 0 ∧ passNum + 1 ≥ passes
  · simp (disch := omega) [h, if_pos, if_neg]
  · by_cases ha : ammoNum = 0
    · simp (disch := omega) [h, ha, if_pos, if_neg]
    · simp (disch := omega) [h, ha, if_pos, if_neg]

theorem rawPassEnd_bridge (passes passNum ammoNum : Nat) :
    (Gen.C13Src.rawPassEnd passes passNum ammoNum).1 = passEndCode (httpPassEnd passes (passNum + 1) ammoNum) ∧
    ((Gen.C13Src.rawPassEnd passes passNum ammoNum).1 = 0 →
      (Gen.C13Src.rawPassEnd passes passNum ammoNum).2.1 = ((passNum + 1 : Nat) : Int) ∧
      (Gen.C13Src.rawPassEnd passes passNum ammoNum).2.2 = true) := by
  unfold Gen.C13Src.rawPassEnd httpPassEnd passEndCode
  by_cases h : passes ≠ 0 ∧ passNum + 1 ≥ passes
  · simp (disch := omega) [h, if_pos, if_neg]
  · by_cases ha : ammoNum = 0
    · simp (disch := omega) [h, ha, if_pos, if_neg]
    · simp (disch := omega) [h, ha, if_pos, if_neg]

/-- the raw decoder reads a last line that lacks its newline (dbbf16d): the pass ends only on io.EOF WITHOUT data and the
read-error test lets io.EOF through - which is what `rawStep` (over `readLineU`) models; `0` (dropped) would be `rawStepDrop` -/
theorem rawLastLine_bridge : Gen.C13Src.rawLastLine = 1 := rfl

theorem uriPassEnd_bridge (passes passNum ammoNum : Nat) :
    (Gen.C13Src.uriPassEnd passes passNum ammoNum).1 = passEndCode (httpPassEnd passes (passNum + 1) ammoNum) ∧
    ((Gen.C13Src.uriPassEnd passes passNum ammoNum).1 = 0 →
      (Gen.C13Src.uriPassEnd passes passNum ammoNum).2.1 = ((passNum + 1 : Nat) : Int) ∧
      (Gen.C13Src.uriPassEnd passes passNum ammoNum).2.2 = true) := by
  unfold Gen.C13Src.uriPassEnd httpPassEnd passEndCode
  by_cases h : passes ≠ 0 ∧ passNum + 1 ≥ passes
  · simp (disch := omega) [h, if_pos, if_neg]
  · by_cases ha : ammoNum = 0
    · simp (disch := omega) [h, ha, if_pos, if_neg]
    · simp (disch := omega) [h, ha, if_pos, if_neg]

/-- the jsonline decoder tests "no ammo" before it counts the pass, and the pass limit at the top of its loop, after the seek -/
theorem jsonlinePassEnd_bridge (passes passNum ammoNum : Nat) :
    (Gen.C13Src.jsonlinePassEnd passes passNum ammoNum).1 = passEndCode (jlPassEnd passes passNum ammoNum) ∧
    ((Gen.C13Src.jsonlinePassEnd passes passNum ammoNum).1 = 0 →
      (Gen.C13Src.jsonlinePassEnd passes passNum ammoNum).2.1 = ((passNum + 1 : Nat) : Int) ∧
      (Gen.C13Src.jsonlinePassEnd passes passNum ammoNum).2.2 = true) := by
  unfold Gen.C13Src.jsonlinePassEnd jlPassEnd passEndCode
  by_cases ha : ammoNum = 0
  · simp (disch := omega) [ha, if_pos, if_neg]
  · by_cases h : passes ≠ 0 ∧ passNum + 1 ≥ passes
    · simp (disch := omega) [h, ha, if_pos, if_neg]
    · simp (disch := omega) [h, ha, if_pos, if_neg]

/-- what the provider makes of the two orders is the same: `runFullScan` answers "no ammo" to a pass limit that is reached
before anything was delivered -/
theorem jlPassEnd_http (passes passNum ammoNum : Nat) :
    jlPassEnd passes passNum ammoNum = httpPassEnd passes (passNum + 1) ammoNum ∨
    (ammoNum = 0 ∧ jlPassEnd passes passNum ammoNum = .stop (.err "noammo") ∧ httpPassEnd passes (passNum + 1) ammoNum = .stop .ok) := by
  unfold jlPassEnd httpPassEnd
  by_cases ha : ammoNum = 0
  · by_cases h : passes ≠ 0 ∧ passNum + 1 ≥ passes
    · right; simp [ha, h]
    · left; simp [ha, h]
  · left; simp [ha]

/-! ### `scanAmmos` of the jsonline decoder -/

/-- the regenerated `scanAmmos` and the model agree for every array, pass limit and pair of counters: the same refusals,
and the element handed out is the one at the regenerated index, with the same counters afterwards; in particular the
regenerated `%` never divides by zero and the regenerated index is inside the slice -/
theorem scanAmmos_bridge (elems : List Bytes) (passes : Nat) (s : JlArr) :
    match Gen.C13Src.scanAmmos elems.length passes s.passNum s.ammoNum, scanAmmos elems passes s with
    | .err c, (r, s') => s' = s ∧ ((c = "noammo" ∧ r = .noAmmo) ∨ (c = "passlimit" ∧ r = .passLimit))
    | .ok (i, pn, an), (.ammo t, s') => indexC elems i = .ok t ∧ pn = s'.passNum ∧ an = s'.ammoNum
    | _, _ => False := by
  unfold Gen.C13Src.scanAmmos scanAmmos
  by_cases hlen : elems.length = 0
  · simp (disch := omega) [hlen, if_pos, if_neg]
  · by_cases hp : passes ≠ 0 ∧ s.passNum ≥ passes
    · simp (disch := omega) [hlen, hp, if_pos, if_neg]
    · have hne : ((elems.length : Nat) : Int) ≠ 0 := by omega
      have hcast : ((s.ammoNum : Int) % (elems.length : Int)) = ((s.ammoNum % elems.length : Nat) : Int) :=
        (Int.natCast_emod _ _).symm
      have hmod : Int.tmod (s.ammoNum : Int) (elems.length : Int) = (s.ammoNum : Int) % (elems.length : Int) :=
        Int.tmod_eq_emod_of_nonneg (by omega)
      have hlt : s.ammoNum % elems.length < elems.length := Nat.mod_lt _ (by omega)
      have hidx : indexC elems ((s.ammoNum : Int) % (elems.length : Int)) = .ok elems[s.ammoNum % elems.length] := by
        rw [hcast]
        unfold indexC
        rw [if_pos (by omega)]
        simp only [Int.toNat_natCast, List.getElem?_eq_getElem hlt]
      have hb : boundC ((s.ammoNum : Int) % (elems.length : Int)) (elems.length : Int) = .ok () := by
        rw [hcast]
        unfold boundC
        rw [if_pos (by omega)]
      simp (disch := omega) [hlen, hp, tmodC, hne, hmod, hidx, hb, Res.bind, if_pos, if_neg]
      split <;> simp

/-! ### `MultiPassReader.Read` at the end of the source -/

/-- the end of the source in the model of the repaired reader is the regenerated EOF block, executed in source order:
the pass is counted, `fruitless` comes from the bytes of the pass and the provider's progress function, the early return,
the seek test. Whether the block sets `passBytes` back to 0 is read off the regenerated block (`hres`); the theorems
about the reader hold for both answers. -/
theorem mprRead_bridge (data : Bytes) (passes : Nat) (s : MPR) (hend : data[s.pos]? = none)
    (hres : s.resets = decide ((Gen.C13Src.mprEof 1 0 0 false false).2.2.1 = 0)) :
    mprReadByte true data passes s =
      (let progress := decide (Gen.C13Src.dpProgress s.ammoNum s.passStart)
       let g := Gen.C13Src.mprEof s.passBytes s.passesCount passes true progress
       let s' : MPR := { s with passesCount := g.2.2.2.toNat, passBytes := g.2.2.1.toNat,
                                passStart := if s.passBytes ≠ 0 then s.ammoNum else s.passStart }
       if g.1 = true then (.eof, s') else if g.2.1 = true then (.again, { s' with pos := 0 }) else (.eof, s')) := by
  unfold mprReadByte Gen.C13Src.dpProgress
  rw [hend]
  simp only [if_true]
  cases hr : s.resets <;> simp [Gen.C13Src.mprEof, hr] at hres
  all_goals
    unfold Gen.C13Src.mprEof
    by_cases hb : s.passBytes = 0
    · simp (disch := omega) [hb, hr, if_pos, if_neg]
    · have hb' : ¬ ((s.passBytes : Int) = 0) := by omega
      by_cases hp : s.ammoNum > s.passStart
      · have hp' : ((s.ammoNum : Int) > s.passStart) := by omega
        have hnf : ¬ (s.passBytes = 0 ∨ ¬ s.ammoNum > s.passStart) := by
          intro h; rcases h with h | h
          · exact hb h
          · exact h hp
        by_cases hs : passes = 0 ∨ s.passesCount + 1 < passes
        · have hs' : ((passes : Int) ≤ 0 ∨ (s.passesCount : Int) + 1 < passes) := by omega
          simp (disch := omega) [hb, hb', hp, hp', hs, hs', hnf, hr, if_pos, if_neg]
          all_goals omega
        · have hs' : ¬ ((passes : Int) ≤ 0 ∨ (s.passesCount : Int) + 1 < passes) := by omega
          simp (disch := omega) [hb, hb', hp, hp', hs, hs', hnf, hr, if_pos, if_neg]
          all_goals omega
      · have hp' : ¬ ((s.ammoNum : Int) > s.passStart) := by omega
        have hf : (s.passBytes = 0 ∨ ¬ s.ammoNum > s.passStart) := .inr hp
        simp (disch := omega) [hb, hb', hp, hp', hf, hr, if_pos, if_neg]
        all_goals omega

/-! ### grpc/json: pooled ammo objects

`Gen.C13Src.ammoReset` … are the methods of `ammo.Ammo` executed statement by statement, the object afterwards written out
field by field: a `Reset` that leaves a field of the pooled object as it was (the id, the invalid flag, the payload …)
is a different function and `ammoReset_bridge` fails; assignments in another order, a composite literal with or without
field names, or `a.isInvalid = false` written separately give the same function. -/

theorem ammoReset_bridge (a : GObj) (tag call metadata payload : Bytes) :
    Gen.C13Src.ammoReset a tag call metadata payload = gReset a ⟨tag, call, metadata, payload⟩ := by
  simp [Gen.C13Src.ammoReset, gReset]

theorem ammoInvalidate_bridge (a : GObj) : Gen.C13Src.ammoInvalidate a = gInvalidate a := by
  simp [Gen.C13Src.ammoInvalidate, gInvalidate]

theorem ammoSetID_bridge (a : GObj) (id : Nat) : Gen.C13Src.ammoSetID a id = gSetID a id := by
  simp [Gen.C13Src.ammoSetID, gSetID]

theorem ammoIsInvalid_bridge (a : GObj) : Gen.C13Src.ammoIsInvalid a = a.isInvalid := by
  simp [Gen.C13Src.ammoIsInvalid]

/-- the two accessors never disagree -/
theorem ammoIsValid_bridge (a : GObj) : Gen.C13Src.ammoIsValid a = !Gen.C13Src.ammoIsInvalid a := by
  simp [Gen.C13Src.ammoIsValid, Gen.C13Src.ammoIsInvalid]

/-- `decodeAmmo` as it stands resets the pooled object on BOTH paths (the model's `fixed := true`) -/
theorem decodeAmmo_bridge (parsed : Option GFields) (am : GObj) :
    Gen.C13Src.decodeAmmo parsed am = gDecodeAmmo true parsed am := by
  cases parsed <;> simp [Gen.C13Src.decodeAmmo, gDecodeAmmo, ammoReset_bridge, GFields.zero]

/-- the body of the scan loop of `Provider.start` -/
theorem startBody_bridge (coe : Bool) (chosen : Bytes → Bool) (parsed : Option GFields) (pooled : GObj) (ammoNum : Nat) :
    Gen.C13Src.startBody coe chosen parsed pooled ammoNum =
      (gBody true coe chosen parsed pooled ammoNum).map fun r => (r.1, (r.2 : Int)) := by
  unfold Gen.C13Src.startBody gBody
  rw [decodeAmmo_bridge]
  cases parsed with
  | none =>
    cases coe <;> cases hc : chosen [] <;>
      simp [gDecodeAmmo, gReset, gInvalidate, ammoInvalidate_bridge, GFields.zero, hc]
  | some f =>
    cases coe <;> cases hc : chosen f.tag <;>
      simp [gDecodeAmmo, gReset, gInvalidate, ammoInvalidate_bridge, GFields.zero, hc]

/-- the limit half of the loop condition -/
theorem startLoopCond_bridge (limit ammoNum : Nat) :
    Gen.C13Src.startLoopCond limit ammoNum ↔ ¬ (limit ≠ 0 ∧ ammoNum ≥ limit) := by
  unfold Gen.C13Src.startLoopCond
  omega

def grpcEndCode : PassEnd → Int
  | .again => 0
  | .stop .ok => 1
  | .stop (.err c) => if c == "toolong" then 3 else 2
  | .stop _ => 5

/-- one round of the outer loop: the pass counter is advanced first, the scanner's error comes before the limits, the
"no ammo" answer before the seek -/
theorem grpcPassEnd_bridge (limit passes passNum ammoNum : Nat) (scanErr : Bool) :
    Gen.C13Src.grpcPassEnd limit passes passNum ammoNum scanErr =
      grpcEndCode (grpcPassEnd true limit passes (passNum + 1) ammoNum scanErr) := by
  unfold Gen.C13Src.grpcPassEnd grpcPassEnd
  cases scanErr
  · by_cases h1 : limit ≠ 0 ∧ ammoNum ≥ limit
    · have h1' : ((limit : Int) ≠ 0 ∧ (ammoNum : Int) ≥ limit) := by omega
      simp (disch := omega) [h1, h1', grpcEndCode, if_pos, if_neg]
    · have h1' : ¬ ((limit : Int) ≠ 0 ∧ (ammoNum : Int) ≥ limit) := by omega
      by_cases h2 : passes ≠ 0 ∧ passNum + 1 ≥ passes
      · have h2' : ((passes : Int) ≠ 0 ∧ (passNum : Int) + 1 ≥ passes) := by omega
        simp (disch := omega) [h1, h1', h2, h2', grpcEndCode, if_pos, if_neg]
      · have h2' : ¬ ((passes : Int) ≠ 0 ∧ (passNum : Int) + 1 ≥ passes) := by omega
        by_cases h3 : ammoNum = 0
        · simp (disch := omega) [h1, h1', h2, h2', h3, grpcEndCode, if_pos, if_neg]
        · have h3' : ¬ ((ammoNum : Int) = 0) := by omega
          simp (disch := omega) [h1, h1', h2, h2', h3, h3', grpcEndCode, if_pos, if_neg]
  · simp [grpcEndCode]

/-! ### `runFullScan` with `chosen_cases`, the plugin name of `parseConf`, the separator of `readCsv` -/

/-- what one round of `runFullScan` does in front of `Scan`, as the model `ccMulti` / `jlArrayLoopCC` has it: the limit
first, then "a complete pass delivered nothing" -/
def fullScanHeadModel (guarded : Bool) (limit ammoNum passNum : Nat) : Int :=
  if limit ≠ 0 ∧ ammoNum ≥ limit then 1 else if guarded ∧ ammoNum = 0 ∧ passNum > 0 then 2 else 0

/-- the regenerated head of the loop is the model's, for all counters; `guarded` of the model = the decoder answers the
`passCounter` assertion -/
theorem fullScanHead_bridge (limit ammoNum passNum : Nat) (has : Bool) :
    Gen.C13Src.fullScanHead limit ammoNum has passNum = fullScanHeadModel has limit ammoNum passNum := by
  unfold Gen.C13Src.fullScanHead fullScanHeadModel
  by_cases h1 : limit ≠ 0 ∧ ammoNum ≥ limit
  · have h1' : ((limit : Int) ≠ 0 ∧ (ammoNum : Int) ≥ limit) := by omega
    simp (disch := omega) [h1, h1', if_pos, if_neg]
  · have h1' : ¬ ((limit : Int) ≠ 0 ∧ (ammoNum : Int) ≥ limit) := by omega
    cases has
    · simp (disch := omega) [h1, h1', if_pos, if_neg]
    · by_cases h2 : ammoNum = 0 ∧ passNum > 0
      · have h2' : ((ammoNum : Int) = 0 ∧ (passNum : Int) > 0) := by omega
        simp (disch := omega) [h1, h1', h2, h2', if_pos, if_neg]
      · have h2' : ¬ ((ammoNum : Int) = 0 ∧ (passNum : Int) > 0) := by omega
        simp (disch := omega) [h1, h1', h2, h2', if_pos, if_neg]

/-- every file decoder of the http provider answers the assertion `p.Decoder.(passCounter)` of `runFullScan` (from the
types of the current source: the method set of `*<decoder>` holds the interface's methods with identical signatures) -/
theorem passCounter_bridge : Gen.C13Src.passCounterDecoders.all (fun d => d.2) = true ∧
    Gen.C13Src.passCounterDecoders.map (fun d => d.1) = ["uripostDecoder", "rawDecoder", "uriDecoder", "jsonlineDecoder"] := by
  decide

/-- the block behind a failed `Scan`, as `ccMulti` has it: a pass limit with nothing delivered is "no ammo", the two limit
sentinels are the regular end, any other error is the run's error -/
theorem fullScanAfterErr_bridge (ammoNum : Nat) (isPassLimit isAmmoLimit : Bool) :
    Gen.C13Src.fullScanAfterErr ammoNum isPassLimit isAmmoLimit =
      if ammoNum = 0 ∧ isPassLimit = true then 2 else if isAmmoLimit = true ∨ isPassLimit = true then 1 else 0 := by
  unfold Gen.C13Src.fullScanAfterErr
  cases isPassLimit <;> cases isAmmoLimit <;> by_cases h : ammoNum = 0 <;>
    simp (disch := omega) [h, if_pos, if_neg] <;> omega

/-- `ammoNum` of `runFullScan` counts delivered ammo only (what the limit and the "nothing delivered" test are about) -/
theorem fullScanCounts_bridge : Gen.C13Src.fullScanCountsDelivered = true := by decide

/-- `parseConf`: the name it hands on is empty only if the string it tested is - the registry's `expect(name != "")`
cannot be reached with user data -/
theorem parseConf_bridge (raw : Bytes) : Gen.C13Src.pcReturned raw = [] → Gen.C13Src.pcTested raw = [] := by
  intro h
  simpa [Gen.C13Src.pcReturned, Gen.C13Src.pcTested] using h

/-- `readCsv`: where `delimiter[i]` is evaluated the index is inside the string, and the separator chosen is the model's -/
theorem csvComma_bridge (delimiter : Bytes) :
    (Gen.C13Src.csvCommaGuard delimiter → boundC Gen.C13Src.csvCommaIndex delimiter.length = .ok ()) ∧
    (if Gen.C13Src.csvCommaGuard delimiter then indexC delimiter Gen.C13Src.csvCommaIndex else .ok 44) = csvComma true delimiter := by
  cases delimiter <;>
    simp [Gen.C13Src.csvCommaGuard, Gen.C13Src.csvCommaIndex, boundC, csvComma, indexC] <;> omega

/-- `readCsv`: inside the loop over the column names the record is indexed only where it has the column (`i` = the key of
a `range`, so `0 ≤ i`), and exactly there - as `csvRowFrom true` has it (`if i ≥ record.length then "" else record[i]`) -/
theorem csvRecord_bridge (i recLen : Int) (hi : 0 ≤ i) :
    (Gen.C13Src.csvRecordGuard i recLen → boundC (Gen.C13Src.csvRecordIndex i recLen) recLen = .ok ()) ∧
    (Gen.C13Src.csvRecordGuard i recLen ↔ ¬ i ≥ recLen) := by
  unfold Gen.C13Src.csvRecordGuard Gen.C13Src.csvRecordIndex boundC
  constructor
  · intro h
    have : 0 ≤ i ∧ i < recLen := by omega
    simp [this]
  · omega

/-! ### the bounds on what is allocated from an announced repeat count; the end of `Run` -/

theorem maxScenarioRequests_bridge : Gen.C13Src.maxScenarioRequests = maxScenarioRequests := rfl
theorem maxSpreadSize_bridge : Gen.C13Src.maxSpreadSize = maxSpreadSize := rfl
theorem maxRandStringLength_bridge : Gen.C13Src.maxRandStringLength = maxRandStringLength := rfl

/-- the tests in front of the append loop of `convertScenarioToAmmo` (http and grpc) refuse exactly the counts the model's
`expandGo` refuses: more than what is left of `MaxScenarioRequests` (written in any equivalent way) -/
theorem repeatRefused_bridge (cnt have_ : Int) :
    (Gen.C13Src.httpRepeatRefused cnt have_ ↔ cnt > maxScenarioRequests - have_) ∧
    (Gen.C13Src.grpcRepeatRefused cnt have_ ↔ cnt > maxScenarioRequests - have_) := by
  unfold Gen.C13Src.httpRepeatRefused Gen.C13Src.grpcRepeatRefused maxScenarioRequests
  constructor <;> constructor <;> intro h <;> omega

/-- `CheckSpread` is the model's `checkSpread`, and both `decodeAmmo` call it between `SpreadNames` and the first `make` -/
theorem checkSpread_bridge (counts : List Int) (total : Int) :
    Gen.C13Src.httpDecodeAmmoChecksSpread = true ∧ Gen.C13Src.grpcDecodeAmmoChecksSpread = true ∧
    (checkSpread counts total = true ↔ (Gen.C13Src.checkSpreadTotal total ∨ ∃ c ∈ counts, Gen.C13Src.checkSpreadCount c)) := by
  refine ⟨rfl, rfl, ?_⟩
  unfold checkSpread Gen.C13Src.checkSpreadTotal Gen.C13Src.checkSpreadCount maxSpreadSize
  simp only [Bool.or_eq_true, decide_eq_true_eq, List.any_eq_true]
  -- (closed by `simp only` when the source writes the tests as the model does; the rest is for equivalent rewritings)
  try
    constructor
    · rintro (h | ⟨c, hc, h⟩)
      · left; omega
      · right; exact ⟨c, hc, by omega⟩
    · rintro (h | ⟨c, hc, h⟩)
      · left; omega
      · right; exact ⟨c, hc, by omega⟩

/-- `randString` after its `ParseInt`: the regenerated function is the model's (error classes erased) -/
theorem randStringLen_bridge (n : Int) :
    Gen.C13Src.randStringLen n = eraseErr ((randStringLen true n).bind fun k => .ok (k : Int)) := by
  unfold Gen.C13Src.randStringLen randStringLen makeRunesC maxRandStringLength maxAlloc memCap
  by_cases h0 : n = 0
  · subst h0; simp [eraseErr, Res.bind]
  · by_cases hn : n < 0
    · simp [h0, hn, eraseErr, Res.bind]
    · by_cases hb : n > 16777216
      · simp [h0, hn, hb, eraseErr, Res.bind]
      · have a : ¬ n * 4 > 281474976710656 := by omega
        have b : ¬ n * 4 > 4294967296 := by omega
        have c : ((n.toNat : Nat) : Int) = n := by omega
        simp [h0, hn, hb, a, b, c, eraseErr, Res.bind]

/-- in the `Run` of each of the four providers the defer that closes the sink stands in front of every statement that may
return (a `return` moved above it - an early error path without the close - makes this false) -/
theorem runClosesSink_bridge :
    closesOnEveryReturn Gen.C13Src.grpcRunStmts = true ∧ closesOnEveryReturn Gen.C13Src.httpRunStmts = true ∧
    closesOnEveryReturn Gen.C13Src.decodeRunStmts = true ∧ closesOnEveryReturn Gen.C13Src.scenarioRunStmts = true := by
  decide

end Pandora.Bridge.C13
