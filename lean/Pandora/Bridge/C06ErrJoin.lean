/-
Bridge lemmas for C06 (vii): what `lib/errutil.Join` and the deferred functions of `dataSinkAggregator.Run` are
on the tree that is checked (regenerated into `Pandora.Gen.AggQ` by gen/area_aggq_errs.go) is what `Model.C06ErrJoin` computes with.
* `errutilJoinCases` — Join as (condition, value) cases over its two parameters, spelled canonically (`a`, `b`;
  switch or if-chain, whatever the parameters are called) — decodes to `codeJoin`;
* `encoderDeferJoins` — per deferred function, in order of registration, the methods whose results are joined into
  the named result; deferred functions run in reverse order of registration — decodes to `codeOrder`
  (encoder Close/Flush, then sink Close, then the drop count). A guard on the named result or a plain assignment
  to it inside a deferred function shows up as an entry that does not decode.
-/
import Pandora.Gen.AggQ
import Pandora.Model.C06ErrJoin

namespace Pandora.Bridge.ErrJoin
open Pandora.Model.C06ErrJoin

def decodeCond : String → Option Cond
  | "a=nil" => some .firstNil
  | "b=nil" => some .secondNil
  | "default" => some .always
  | _ => none

def decodeRet : String → Option Ret
  | "a" => some .first
  | "b" => some .second
  | "append(a,b)" => some .both
  | _ => none

def decodeTable (l : List (String × String)) : Option JoinTable :=
  l.mapM fun cr => do pure ((← decodeCond cr.1), (← decodeRet cr.2))

def closerClose : String := "(io.Closer).Close"
def droppedErrName : String := "(*github.com/yandex/pandora/core/aggregator.Reporter).DroppedErr"
def encoderFlush : String := "(github.com/yandex/pandora/core/aggregator.SampleEncoder).Flush"

/-- one deferred function: the sink's Close and the drop count (in that order), or the encoder's final
Close-or-Flush (one joined value: whichever the encoder supports) -/
def decodeDefer (l : List String) : Option (List Joined) :=
  if l = [closerClose, droppedErrName] then some [.sinkClose, .dropped]
  else if l = [closerClose, encoderFlush] then some [.encFinal]
  else none

/-- execution order: last registered first -/
def execOrder (defers : List (List String)) : Option (List Joined) :=
  (defers.reverse.mapM decodeDefer).map List.flatten

/-- `errutil.Join` is the table the model evaluates -/
theorem join_table : decodeTable Gen.AggQ.errutilJoinCases = some codeJoin := by decide

/-- the deferred functions join: encoder's final Close/Flush, the sink's Close, the drop count -/
theorem defer_order : execOrder Gen.AggQ.encoderDeferJoins = some codeOrder := by
  simp [execOrder, Gen.AggQ.encoderDeferJoins, decodeDefer, closerClose, droppedErrName, encoderFlush, codeOrder]

end Pandora.Bridge.ErrJoin
