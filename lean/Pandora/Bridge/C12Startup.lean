/-
Bridge lemmas for C12: the definitions REGENERATED from the current /repo source (`Pandora.Gen.Startup`, rewritten by
`gen -area startup` on every check) compute what the hand-written sequential expectations of `Pandora.Model.C12` compute.
The property theorems are stated about the model; a change of `startInstances`, `runNewInstance`, `newInstance`, the
cancel wiring in `runAsync` / `awaitRun` / `buildNewInstanceSchedule`, `callbackOnFinishSchedule`, `Waiter.IsFinished` or
the loop of `instance.Run` that is not an identity breaks a lemma here.  Core Lean only.
-/
import Pandora.Gen.Startup
import Pandora.Model.C12
import Pandora.Model.C12Pool

namespace Pandora.Bridge.C12Startup
open Pandora.Go.C12 Pandora.Model.C12

/-- the start context is a child of the run context: cancelling the run cancels instance start, cancelling instance
start (out of ammo, shared RPS profile finished) never cancels the run -/
theorem startCtxParent_eq : Gen.Startup.startCtxParent = Ctx.run := rfl

/-- `startInstances(startCtx, runCtx, …)` is called with (start context, run context) -/
theorem startInstancesCtxArgs_eq : Gen.Startup.startInstancesCtxArgs = [Ctx.start, Ctx.run] := rfl

/-- the finish callback of the shared RPS schedule is given the start context and ITS cancel function -/
theorem scheduleBuilderArgs_eq : Gen.Startup.scheduleBuilderArgs = (Ctx.start, Ctx.start) := rfl

/-- the startup Waiter draws from the pool's startup schedule -/
theorem waiterSchedule_eq : Gen.Startup.waiterSchedule = "p.StartupSchedule" := rfl

theorem startInstances_loop_eq (f : Bool) (acts : List Act) (st : Int) (ws : List (Ctx → Bool)) :
    Gen.Startup.startInstances_loop f acts st .none ws = startSeqLoop acts st ws := by
  induction ws generalizing acts st with
  | nil => rfl
  | cons w ws ih =>
    simp only [Gen.Startup.startInstances_loop, startSeqLoop]
    by_cases hw : w Ctx.start = true
    · simp only [hw, if_true]; exact ih _ _
    · simp [hw]

/-- the regenerated `startInstances` is the sequential program `startSeq` the transition system refines -/
theorem startInstances_eq (f : Bool) (ws : List (Ctx → Bool)) : Gen.Startup.startInstances f ws = startSeq f ws := by
  cases ws with
  | nil => rfl
  | cons w ws =>
    simp only [Gen.Startup.startInstances, startSeq]
    by_cases hw : w Ctx.start = true
    · cases f
      · simp [hw]
      · simp only [hw, Bool.not_true, Bool.false_eq_true, if_false, if_true, bne_self_eq_false, List.nil_append]
        exact startInstances_loop_eq _ _ _ _
    · simp [hw]

/-- `runNewInstance` hands its context and its id on unchanged (to `newInstance` and to `instance.Run`) -/
theorem runNewInstance_eq (c : Ctx) (id : Int) : Gen.Startup.runNewInstance c id = (c, id, c) := rfl

/-- `newInstance` puts its context and its id into `GunDeps` (what the gun's `Bind` sees) and into the instance -/
theorem newInstance_eq (c : Ctx) (id : Int) : Gen.Startup.newInstance c id = (c, id, id) := rfl

/-- result of an instance awaited: an out-of-ammo result cancels the START context while instance start is still going
on, and does nothing but that; any other result never cancels a context: it is either ignored (the run context's own
error) or reported (the pool fails, which cancels the run).  Stated as properties, so that an equivalent rewrite of the
`if` chain (e.g. dropping the redundant `isStartFinished` guard) does not break it. -/
theorem onInstanceResult_spec (sf : Bool) (ce : Ctx → Bool) :
    Gen.Startup.onInstanceResult true false ce = [PoolAct.cancel Ctx.start] ∧
    (∀ a ∈ Gen.Startup.onInstanceResult true sf ce, a = PoolAct.cancel Ctx.start) ∧
    (∀ a ∈ Gen.Startup.onInstanceResult false sf ce, a = PoolAct.reportErr) ∧
    (ce Ctx.run = true → Gen.Startup.onInstanceResult false sf ce = []) ∧
    (ce Ctx.run = false → Gen.Startup.onInstanceResult false sf ce = [PoolAct.reportErr]) := by
  unfold Gen.Startup.onInstanceResult
  cases sf <;> cases ce Ctx.run <;> simp

/-- the run context is cancelled by the pool itself only when all instances have finished -/
theorem runCancelCallers_eq : Gen.Startup.runCancelCallers = ["checkAllInstancesAreFinished"] := rfl

/-- a finish callback is installed exactly for a shared RPS schedule -/
theorem callbackInstalled_eq (pi : Bool) : Gen.Startup.callbackInstalled pi = !pi := by
  cases pi <;> rfl

/-- the callback cancels the START context (once, unless it is already done) and nothing else -/
theorem onSharedRpsFinish_eq (cd : Ctx → Bool) :
    Gen.Startup.onSharedRpsFinish cd = if cd Ctx.start then [] else [PoolAct.cancel Ctx.start] := by
  unfold Gen.Startup.onSharedRpsFinish
  cases cd Ctx.start <;> rfl

/-- the callback runs when `Next()` has no token / `Left()` is 0 — before the caller learns it -/
theorem callbackOnNext_eq (ok : Bool) : Gen.Startup.callbackOnNext ok = !ok := rfl
theorem callbackOnLeft_eq (left : Int) : Gen.Startup.callbackOnLeft left = (left == 0) := rfl

theorem IsFinished_eq (cd : Bool) (left : Int) : Gen.Startup.IsFinished cd left = instFinished cd left := rfl

theorem runBody_eq (a w : Bool) : Gen.Startup.runBody a w = instBody a w := rfl

/-- the regenerated loop of `instance.Run` is the model's `instRun` -/
theorem instanceRun_eq (its : List RunIter) : Gen.Startup.instanceRun its = instRun its := by
  induction its with
  | nil => rfl
  | cons it rest ih =>
    simp only [Gen.Startup.instanceRun, instRun, IsFinished_eq, runBody_eq, ih]

theorem recoversShootPanic_eq : Gen.Startup.recoversShootPanic = true := rfl

/-! ### the counters of the await loop (pool layer, Model/C12Pool) -/

/-- `checkAllInstancesAreFinished` goes on exactly when instance start has finished and at least as many results were
awaited as instances were started (stated semantically: `a >= b` or `b <= a`, with or without the local variable) -/
theorem allFinished_eq (a : Await) : Gen.Startup.allFinished a = allFinished a := by
  rcases a with ⟨sf, st, aw⟩
  cases sf <;> simp [Gen.Startup.allFinished, allFinished]

/-- …and then cancels the RUN context (the only place where the pool does so by itself, `runCancelCallers_eq`) -/
theorem onAllFinished_eq : Gen.Startup.onAllFinished = [PoolAct.cancel Ctx.run] := rfl

/-- the start result: instance start counts as finished, `startedInstances` is what `startInstances` returned -/
theorem onStartResAwait_eq (a : Await) (n : Int) : Gen.Startup.onStartResAwait a n = onStartResAwait a n := rfl

/-- an error of `startInstances` that is not the start context's own (a creation error) fails the pool -/
theorem onStartResult_eq (ce : Ctx → Bool) : Gen.Startup.onStartResult ce = onStartResult ce := by
  unfold Gen.Startup.onStartResult onStartResult
  cases ce Ctx.start <;> rfl

/-- a run result: one more awaited -/
theorem onRunResAwait_eq (a : Await) : Gen.Startup.onRunResAwait a = onRunResAwait a := rfl

/-- both cases re-check "all finished" after updating their counters ("there is a race between run and start results") -/
theorem checksAll_eq : Gen.Startup.startResChecksAll = true ∧ Gen.Startup.runResChecksAll = true := ⟨rfl, rfl⟩

/-- the await loop of `Engine.Run` -/
theorem engineRun_eq (n i : Int) (evs : List EngEv) : Gen.Startup.engineRun n i evs = engSeq n i evs := by
  induction evs generalizing i with
  | nil => simp [Gen.Startup.engineRun, engSeq]
  | cons ev rest ih =>
    cases ev with
    | result errNil => simp [Gen.Startup.engineRun, engSeq, ih]
    | ctxDone => simp [Gen.Startup.engineRun, engSeq]

/-- what the pool layer does with a run result is what the regenerated case does — up to the redundant
`isStartFinished` guard (cancelling an already finished instance start changes nothing) -/
theorem onInstanceResult_model (a sf : Bool) (ce : Ctx → Bool) :
    Gen.Startup.onInstanceResult a sf ce = onRunResult a sf ce ∨
      (a = true ∧ sf = true ∧ Gen.Startup.onInstanceResult a sf ce = [PoolAct.cancel Ctx.start]) := by
  unfold Gen.Startup.onInstanceResult onRunResult
  cases a <;> cases sf <;> cases ce Ctx.run <;> simp

/-! ### how a pool fails, how its `Run` returns -/

/-- the results of `Provider.Run` and `Aggregator.Run`: an error that is not the run context's own fails the pool, nothing else
happens (in particular a provider or aggregator that RETURNS — without error, or with the context error after the run was
cancelled — stops nothing) -/
theorem onOtherResult_eq (ce : Ctx → Bool) :
    Gen.Startup.onProviderResult ce = onOtherResult ce ∧ Gen.Startup.onAggregatorResult ce = onOtherResult ce := by
  unfold Gen.Startup.onProviderResult Gen.Startup.onAggregatorResult onOtherResult
  cases ce Ctx.run <;> exact ⟨rfl, rfl⟩

/-- `(*instancePool).Run` returns nil only when the channel of the await loop was CLOSED (everything awaited), the reported error
when one was sent, and its context's error when that context is done -/
theorem poolRunSelect_eq :
    Gen.Startup.poolRunSelect .ctxDone = .ctxErr ∧
      ∀ ok, Gen.Startup.poolRunSelect (.awaitErr ok) = if ok then .reported else .nil :=
  ⟨rfl, fun _ => rfl⟩

/-- returning cancels the pool context, parent of the run context; the engine's return cancels every pool -/
theorem returnCancels_eq : Gen.Startup.poolRunCancelsOnReturn = true ∧ Gen.Startup.runCtxIsChildOfPoolCtx = true ∧
    Gen.Startup.engineReturnCancelsPools = true := ⟨rfl, rfl, rfl⟩

/-- a reported error is handed to the pool's `Run`, or given up only when the pool context is done (order of the `select`
cases is irrelevant) -/
theorem onErrAwaitedCases_eq (x : ErrCase) : x ∈ Gen.Startup.onErrAwaitedCases ↔ (x = .send ∨ x = .poolCtxDone) := by
  cases x <;> simp [Gen.Startup.onErrAwaitedCases]

theorem onErrAwaitedCases_len : Gen.Startup.onErrAwaitedCases.length = 2 := rfl

end Pandora.Bridge.C12Startup
