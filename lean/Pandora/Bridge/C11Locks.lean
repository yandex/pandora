/-
C11 — bridges between definitions regenerated into `Gen.Locks` and the model: the `substr` closure, the index arithmetic
behind the shared counters (further down), the write rows of the request build (`enrich_ops`).

`substrBody_eq` compares the regenerated body of the `substr` closure of the var/header postprocessor
(`Gen.Locks.substrBody`, re-extracted from components/providers/scenario/http/postprocessor/var_header.go on every
check: the bounds of the slice the closure returns, as a function of its two captured integers and the length of its
argument, statement by statement in SSA form) with the model's closed form `Model.C11.substrNorm`.

The two differ in one place: Go clamps in two statements, `if start < 0 {start = 0}; if start > l {start = l}`, the model
in one nested conditional. These agree for every non-negative length (`clamp_two_steps`; for a negative `l`, impossible
since `l = len(in)`, they do not, which `omega` finds at once when the hypothesis is dropped). Everything else unfolds to
the same term, whatever the locals are called and in whichever order independent statements stand; changed arithmetic
does not.
-/
import Pandora.Gen.Locks
import Pandora.Model.C11Modifiers
import Pandora.Model.C11Index

namespace Pandora.Bridge.C11Locks
open Pandora.Model.C11 Pandora.Go

theorem clamp_two_steps (x l : Int) (hl : 0 ≤ l) :
    (if (if x < 0 then 0 else x) > l then l else if x < 0 then 0 else x) = if x < 0 then 0 else if x > l then l else x := by
  omega

theorem substrBody_eq (s e l : Int) (hl : 0 ≤ l) : Pandora.Gen.Locks.substrBody s e l = substrNorm s e l := by
  simp only [Pandora.Gen.Locks.substrBody, substrNorm, clamp_two_steps _ _ hl]

/-- the closure body refers to exactly two captured integers (the parameters of `substrBody`, in order of declaration;
their names do not matter); the pair `substrBody` returns is the pair of bounds of the slice expression the closure
returns — what `Model.C11.stepMod` slices with -/
theorem substr_shape : Pandora.Gen.Locks.substrState.length = 2 := by decide

theorem clamp_bounds (x l : Int) (hl : 0 ≤ l) :
    0 ≤ (if x < 0 then 0 else if x > l then l else x) ∧ (if x < 0 then 0 else if x > l then l else x) ≤ l := by
  omega

/-- the normalised bounds are a valid slice of a string of length `l`: `in[start:end]` cannot panic. Both bounds are
clamped to `[0, l]` and then put in order. -/
theorem substrNorm_in_bounds (s e l : Int) (hl : 0 ≤ l) :
    0 ≤ (substrNorm s e l).1 ∧ (substrNorm s e l).1 ≤ (substrNorm s e l).2 ∧ (substrNorm s e l).2 ≤ l := by
  have hs := clamp_bounds (if s < 0 then l + s else s) l hl
  have he := clamp_bounds (if e ≤ 0 then l + e else e) l hl
  simp only [substrNorm]
  generalize (if (if s < 0 then l + s else s) < 0 then 0 else _) = a at hs ⊢
  generalize (if (if e ≤ 0 then l + e else e) < 0 then 0 else _) = b at he ⊢
  omega

/-! ### the index arithmetic behind the shared counters

The regenerated bodies of `lib/mp.calcIndex`, `(*NextIterator).Next` and `(*clientpool.Pool).Next` equal the closed forms
of `Model/C11Index.lean` for ALL arguments. For `calcIndex` the proof splits on the conditions and compares both sides;
the two counter bodies unfold to their closed forms. Renamed locals, reordered independent statements and an `if … else`
written as early returns leave the regenerated terms as they are; a changed comparison or conversion, another
representation of a counter or another order of two dependent steps does not. -/

theorem calcIndexBody_eq (s : String) (a : Int) (e : Bool) (len nv rv : Int) :
    Pandora.Gen.Locks.calcIndexBody s a e len nv rv = calcIndexM (idxKindOf s a e) len nv rv := by
  unfold Pandora.Gen.Locks.calcIndexBody idxKindOf
  grind [calcIndexM]

theorem iterNextBody_eq (seen : Bool) (ctr : Int) : Pandora.Gen.Locks.iterNextBody seen ctr = iterNext seen ctr := by
  cases seen <;> rfl

theorem poolNextBody_eq (n ctr : Int) : Pandora.Gen.Locks.poolNextBody n ctr = poolNext n ctr := rfl

/-- the operations `EnrichRequestWithHeaders` and the `header/date` middleware perform on the request
being built, read off the regenerated write table — exactly an element assignment into `req.Header` plus an assignment of
`req.Host` (`Model.C11.copyHdr`: every entry but `Host` is entered into the request's map, `Host` goes to `req.Host`), and
exactly one `Header.Add` per middleware (`Model.C11.hdrAdd` / `applyMws`). A `Set` instead of `Add`, a write to another
field, a second write re-open this lemma. -/
theorem enrich_ops :
    ((Pandora.Gen.Locks.ammoWrites.filter fun w => w.1 == "components/providers/http/util.EnrichRequestWithHeaders").map
        fun w => (w.2.1, w.2.2.1, w.2.2.2)) = [("param", "param0.Header[]", "assign"), ("param", "param0.Host", "assign")] ∧
    ((Pandora.Gen.Locks.ammoWrites.filter fun w => w.1 == "components/providers/http/middleware/headerdate.Middleware.UpdateRequest").map
        fun w => (w.2.1, w.2.2.1, w.2.2.2)) = [("param", "param0.Header", "call:Header.Add")] := by decide +kernel

end Pandora.Bridge.C11Locks
