/-
Bridge C20: the definitions regenerated from /repo's CURRENT source (`Pandora/Gen/GrpcGun.lean`, rewritten on every
check run) are what the hand-written model `Model/C20.lean` assumes. If the source changes any of
these, this file stops compiling and the check reports a broken obligation.
-/
import Pandora.Gen.GrpcGun
import Pandora.Model.C20Expand
import Pandora.Model.C20
import Pandora.Model.C20Net
import Pandora.Model.C20Feed

namespace Pandora.Bridge.C20
open Pandora.Model.C20

/-! ### timeouts (core.go `shoot`, scenario/core.go `shootStep`) -/

/-- the plain gun's timeout selection is the model's `effTimeoutMs` (configured value, 15 s when 0) -/
theorem gunTimeout_eq (ms : Nat) :
    Gen.GrpcGun.gunTimeoutNs ((ms : Int) * 1000000) = ((effTimeoutMs ms : Nat) : Int) * 1000000 := by
  -- the same script proves both forms the translator emits (the `if … != 0` shape and the symbolically executed one)
  unfold Gen.GrpcGun.gunTimeoutNs effTimeoutMs
  try unfold Gen.GrpcGun.gunDefaultTimeoutNs
  by_cases h : ms = 0
  · subst h; simp
  · have : ((ms : Int) * 1000000) ≠ 0 := by omega
    simp [h, this]

/-- so is the scenario gun's -/
theorem scenarioTimeout_eq (ms : Nat) :
    Gen.GrpcGun.scenarioTimeoutNs ((ms : Int) * 1000000) = ((effTimeoutMs ms : Nat) : Int) * 1000000 := by
  -- the same script proves both forms the translator emits (the `if … != 0` shape and the symbolically executed one)
  unfold Gen.GrpcGun.scenarioTimeoutNs effTimeoutMs
  try unfold Gen.GrpcGun.scenarioDefaultTimeoutNs
  by_cases h : ms = 0
  · subst h; simp
  · have : ((ms : Int) * 1000000) ≠ 0 := by omega
    simp [h, this]

/-- the selection reads the gun's configured timeout -/
theorem gunTimeoutConf_eq : Gen.GrpcGun.gunTimeoutConf = "$recv.Conf.Timeout" := rfl
theorem scenarioTimeoutConf_eq : Gen.GrpcGun.scenarioTimeoutConf = "$recv.gun.Conf.Timeout" := rfl

/-- the context given to `InvokeRpc` is `WithTimeout(Background, timeout)` wrapped by `NewOutgoingContext`: one
deadline PER CALL, made inside `shoot` / `shootStep` -/
theorem gunContextChain_eq : Gen.GrpcGun.gunContextChain = "WithTimeout>NewOutgoingContext>InvokeRpc" := rfl
theorem scenarioContextChain_eq : Gen.GrpcGun.scenarioContextChain = "WithTimeout>NewOutgoingContext>InvokeRpc" := rfl

/-! ### method, message, metadata of the call

In the regenerated strings `$recv` is the method's receiver, `$0`, `$1` … its parameters by position, `$key` / `$value` the
variables of a range statement, `resultN(e)` the N-th result of the multi-valued `e`; local variables are replaced by
their single definition. Renaming a local, a parameter or the receiver, or reordering independent statements, leaves
them unchanged. -/

/-- method descriptor = the reflected table at the ammo's `Call`; message = a dynamic message of that method's INPUT
type filled by `UnmarshalJSON` from the marshalled payload map; metadata = the ammo's metadata; sent through the
instance's stub -/
theorem gunMethodSource_eq : Gen.GrpcGun.gunMethodSource = "result0($recv.Services[$0.Call])" := rfl
theorem gunMessageSource_eq :
    Gen.GrpcGun.gunMessageSource = "dynamic.NewMessage(result0($recv.Services[$0.Call]).GetInputType())" := rfl
theorem gunMessageFill_eq : Gen.GrpcGun.gunMessageFill = "UnmarshalJSON(result0(json.Marshal($0.Payload)))" := rfl
theorem gunMetadataSent_eq : Gen.GrpcGun.gunMetadataSent = "$0.Metadata" := rfl
theorem gunStub_eq : Gen.GrpcGun.gunStub = "$recv.Stub.InvokeRpc" := rfl

/-- scenario step: the same with the step's `Call`; the message is filled from what `templ.Apply` returns for the
step's payload template; the templater renders the metadata into a CLONE of the definition's map and that clone is
what `metadata.New` gets (model variant `Variant.copy`) -/
theorem scenarioMethodSource_eq : Gen.GrpcGun.scenarioMethodSource = "result0($recv.gun.Services[$0.Call])" := rfl
theorem scenarioMessageSource_eq :
    Gen.GrpcGun.scenarioMessageSource = "dynamic.NewMessage(result0($recv.gun.Services[$0.Call]).GetInputType())" := rfl
theorem scenarioMessageFill_eq :
    Gen.GrpcGun.scenarioMessageFill =
      "UnmarshalJSON(result0($recv.templ.Apply($0.Payload, maps.Clone($0.Metadata), $3, $2, $0.Name)))" := rfl
theorem scenarioMetadataRendered_eq : Gen.GrpcGun.scenarioMetadataRendered = "maps.Clone($0.Metadata)" := rfl
theorem scenarioMetadataSent_eq : Gen.GrpcGun.scenarioMetadataSent = "maps.Clone($0.Metadata)" := rfl
theorem scenarioSendsWhatItRendered_eq : Gen.GrpcGun.scenarioSendsWhatItRendered = true := rfl
theorem scenarioApplyArgs_eq : Gen.GrpcGun.scenarioApplyArgs = "$0.Payload,$2,$0.Name" := rfl
theorem scenarioStub_eq : Gen.GrpcGun.scenarioStub = "$recv.gun.Stub.InvokeRpc" := rfl
/-- `TextTemplater.Apply` writes the rendered values into the map it is given (which is why it must be a clone) -/
theorem templaterWrites_eq : Gen.GrpcGun.templaterWrites = "1 index assignment(s) to parameter $1 (the metadata map)" := rfl

/-! ### template cache (templater_text.go): the model's cache is keyed by (gun, scenario, call, metadata key) -/

/-- the cache key is a struct of the four names, not a joined string: distinct (scenario, step, part, key) never share
a template (the model's `World.caches` + `Cache` index) -/
theorem templateCacheKey_eq : Gen.GrpcGun.templateCacheKey = "struct{scenario,step,part,key}" := rfl
theorem templateLookups_eq : Gen.GrpcGun.templateLookups =
    ["string($0) | templateKey{scenario: $3, step: $4, part: partPayload}",
     "$value | templateKey{scenario: $3, step: $4, part: partMetadata, key: $key}"] := rfl
/-- payload and metadata templates are told apart by two different constants -/
theorem templateParts_eq : Gen.GrpcGun.templateParts = [("partPayload", "payload"), ("partMetadata", "metadata")] := rfl

/-! ### instances (`Bind`, shared_deps.go) -/

theorem bindServices_eq : Gen.GrpcGun.bindServices = "result0($1.Shared.(*SharedDeps)).services" := rfl
theorem bindStub_eq : Gen.GrpcGun.bindStub =
    "if result0($1.Shared.(*SharedDeps)).clientPool != nil then result0($1.Shared.(*SharedDeps)).clientPool.Next() else grpcdynamic.NewStub(result0($recv.makeConnect()))" := rfl

/-! ### endpoints (`Model/C20Net.lean`) -/

/-- `makeConnect` dials the configured target, `makeReflectionConnect` the target with the reflection port
(`dialAddr`) -/
theorem connectTarget_eq :
    Gen.GrpcGun.connectTarget = "MakeGRPCConnect($recv.Conf.Target, $recv.Conf.TLS, $recv.Conf.DialOptions)" := rfl
theorem reflectionTarget_eq : Gen.GrpcGun.reflectionTarget =
    "MakeGRPCConnect(replacePort($recv.Conf.Target, $recv.Conf.ReflectPort), $recv.Conf.TLS, $recv.Conf.DialOptions)" := rfl
/-- only the warm-up's descriptor request uses the reflection connection; the shared pool's connections and an
instance's own connection are made by `makeConnect` (`Dial.reflection` / `Dial.pool` / `Dial.own`) -/
theorem reflectDial_eq : Gen.GrpcGun.reflectDial = "result0($recv.makeReflectionConnect())" := rfl
theorem poolDial_eq : Gen.GrpcGun.poolDial = "result0($recv.makeConnect())" := rfl
theorem bindDial_eq : Gen.GrpcGun.bindDial = "result0($recv.makeConnect())" := rfl
/-- the reflection request carries `reflect_metadata`; `shoot` / `shootStep` never look at the reflection settings -/
theorem reflectContext_eq : Gen.GrpcGun.reflectContext =
    "metadata.NewOutgoingContext(context.Background(), metadata.New($recv.Conf.ReflectMetadata))" := rfl
theorem reflectSettingsInShoot_eq : Gen.GrpcGun.reflectSettingsInShoot = [] := rfl

/-- `replacePort` is the decision list the model's `replacePort` implements: port 0 ↦ host; no `:` ↦ append; last
part not an int64 ↦ append; otherwise replace the last part -/
theorem replacePortRows_eq : Gen.GrpcGun.replacePortRows =
    [("$1 == 0", "$0"),
     ("len(strings.Split($0, \":\")) == 1", "$0 + \":\" + strconv.FormatInt($1, 10)"),
     ("result1(strconv.ParseInt(strings.Split($0, \":\")[len(strings.Split($0, \":\")) - 1], 10, 64)) != nil",
      "$0 + \":\" + strconv.FormatInt($1, 10)"),
     ("otherwise", "strings.Join(strings.Split($0, \":\"), \":\")")] := rfl
theorem replacePortStores_eq : Gen.GrpcGun.replacePortStores =
    ["strings.Split($0, \":\")[len(strings.Split($0, \":\")) - 1] = strconv.FormatInt($1, 10)"] := rfl

/-- the scenario gun hands its target, reflection settings, timeout and TLS flag down to the plain gun it wraps -/
theorem scenarioConfCopies_eq : Gen.GrpcGun.scenarioConfCopies =
    [("Target", "$0.Target"), ("ReflectPort", "$0.ReflectPort"), ("ReflectMetadata", "$0.ReflectMetadata"),
     ("Timeout", "$0.Timeout"), ("TLS", "$0.TLS")] := rfl

/-! ### the scenario gun's failure path and the life time of its variables (`Model.C20.shootStep`, `shootSteps`, `svFor`) -/

/-- a step that returns an error ends the shot (`shootSteps`: `.failed` ⇒ `.done`) -/
theorem scenarioOnStepError_eq : Gen.GrpcGun.scenarioOnStepError = "range $0.Calls: return the step's error" := rfl
/-- every shot starts with empty request variables (`runSched` starts every shot with `{ a := none, i := none }`) -/
theorem scenarioRequestVars_eq : Gen.GrpcGun.scenarioRequestVars = "$1[\"request\"] = map[string]any{}" := rfl
/-- a step's own variables are emptied before its templates are rendered (`svFor`: the `auth` step does not see the
token of an earlier `auth`) -/
theorem scenarioStepVarsReset_eq :
    Gen.GrpcGun.scenarioStepVarsReset = "$4[$0.Name] = map[string]any{}; before templ.Apply=true" := rfl
/-- exactly one sample per step, whatever path the step takes -/
theorem scenarioSampleReport_eq :
    Gen.GrpcGun.scenarioSampleReport = "defer reports the sample=true; no return before it=true" := rfl
/-- a template that cannot be parsed / executed ends the step before the call (`callBad`) -/
theorem scenarioTemplateErrorOrder_eq :
    Gen.GrpcGun.scenarioTemplateErrorOrder = "templ.Apply; if its error != nil return; … InvokeRpc" := rfl

/-! ### the templater renders EVERY metadata value -/

/-- the loop ranges over the map it was given, executes every value's template with the step's variables and stores
the result under the same key of the same map; there is no condition under which a value is skipped -/
theorem templaterLoop_eq : Gen.GrpcGun.templaterLoop =
    "range $1 | execute with $2 | store same-map-same-key=true := String() of the executed-into builder=true" := rfl
theorem templaterLoopGuards_eq : Gen.GrpcGun.templaterLoopGuards = [] := rfl
theorem templaterLoopExits_eq : Gen.GrpcGun.templaterLoopExits = [] := rfl
/-- every template (payload and metadata alike) is parsed with pandora's template functions registered -/
theorem templateParse_eq : Gen.GrpcGun.templateParse = "Funcs(templater.GetFuncs()).Parse($0)" := rfl

/-! ### configuration and ammo field names the harness writes -/

theorem gunConfigTags_timeout : ("Timeout", "timeout") ∈ Gen.GrpcGun.gunConfigTags := by decide
theorem gunConfigTags_shared : ("SharedClient", "shared-client,omitempty") ∈ Gen.GrpcGun.gunConfigTags := by decide
theorem sharedClientTags_eq :
    Gen.GrpcGun.sharedClientTags = [("ClientNumber", "client-number,omitempty"), ("Enabled", "enabled")] := rfl
theorem gunConfigTags_reflect :
    ("ReflectPort", "reflect_port") ∈ Gen.GrpcGun.gunConfigTags ∧ ("ReflectMetadata", "reflect_metadata") ∈ Gen.GrpcGun.gunConfigTags := by
  decide
theorem scenarioGunConfigTags_reflect :
    ("ReflectPort", "reflect_port") ∈ Gen.GrpcGun.scenarioGunConfigTags ∧
      ("ReflectMetadata", "reflect_metadata") ∈ Gen.GrpcGun.scenarioGunConfigTags := by
  decide
theorem scenarioGunConfigTags_timeout : ("Timeout", "timeout") ∈ Gen.GrpcGun.scenarioGunConfigTags := by decide
theorem ammoJsonTags_eq :
    Gen.GrpcGun.ammoJsonTags = [("Tag", "tag"), ("Call", "call"), ("Metadata", "metadata"), ("Payload", "payload")] := rfl

/-- grpc/json decodes every line into a fresh zero-valued ammo and resets the pooled object with all four of its
fields; `Reset` assigns the whole struct (`Model.C20.decodeAmmo`, `resetAmmo`) -/
theorem ammoDecodeInto_eq : Gen.GrpcGun.ammoDecodeInto = "&$fresh (a zero-valued local of type grpc.Ammo)" := rfl
theorem ammoResetCall_eq :
    Gen.GrpcGun.ammoResetCall =
      "$1.Reset(\"\", \"\", nil, nil);$1.Reset($fresh.Tag, $fresh.Call, $fresh.Metadata, $fresh.Payload)" := rfl
theorem ammoResetBody_eq : Gen.GrpcGun.ammoResetBody = "*$recv = Ammo{$0, $1, $2, $3, 0, false}" := rfl

/-- grpc/json keeps payload numbers as written (`json.Number`): the model's `convert` works on the literal text -/
theorem payloadNumbers_eq : Gen.GrpcGun.payloadNumbers = "json.Number" := rfl

/-! ### the example service (examples/grpc/server) and the status codes the model uses -/

theorem serviceName_eq : Gen.GrpcGun.serviceName = svc := rfl

/-- the model's method table is the one of the generated service code (methods, request fields in field-number
order with proto name, JSON name and kind) -/
theorem methodTable_eq :
    Gen.GrpcGun.methodTable = methodTable.map fun (m, fs) => (m, fs.map fun f => (f.name, f.jsonName, kindText f.kind)) := by
  decide

/-- `ConvertGrpcStatus`: OK ↦ 200, InvalidArgument ↦ 400 (the two replies of the example service, `serverCode`) -/
theorem status_ok : Gen.GrpcGun.statusOk = 200 := rfl
theorem status_invalid_argument : Gen.GrpcGun.statusInvalidArgument = 400 := rfl

/-- … and the whole of it: the switch of `ConvertGrpcStatus`, as a table from gRPC status code numbers to reported codes
with its default, is the model's `statusTable` / `statusDefault` (`convertStatus`, used for injected faults) -/
theorem statusTable_eq : Gen.GrpcGun.statusTable = statusTable := rfl
theorem statusDefault_eq : Gen.GrpcGun.statusDefault = statusDefault := rfl

/-! ### the grpc/json provider's reading loop (`Model.C20.scanPass`, `runPasses`, `action`)

Canonical statements: `$recv` the provider, `$0` the context, `$1` the file, `$int0` the ammo counter, `$int1` the pass
counter, `$int2` the line number, `$*bufio.Scanner0` the pass's scanner, `$*ammo.Ammo0` the decoded ammo. -/

/-- every pass counts itself, makes a NEW scanner and gives it the configured buffer (`Raw.long` is judged per pass) -/
theorem providerPassPrologue_eq : Gen.GrpcGun.providerPassPrologue =
    ["$int1++", "$*bufio.Scanner0 := bufio.NewScanner($1)",
     "if $recv.Config.MaxAmmoSize != 0 { var $[]byte0 []byte $*bufio.Scanner0.Buffer($[]byte0, $recv.Config.MaxAmmoSize) }"] := rfl
/-- the scanner is asked first, then the limit (`scanPass`: `isLong` before the limit) -/
theorem providerLoopCond_eq : Gen.GrpcGun.providerLoopCond =
    "$*bufio.Scanner0.Scan() && ($recv.Limit == 0 || $int0 < $recv.Limit)" := rfl
/-- decode into a pooled ammo; on an error invalidate (continueonerror) or stop; drop tags that are not chosen; count;
deliver (`action`, `scanPass`) -/
theorem providerLoopBody_eq : Gen.GrpcGun.providerLoopBody =
    ["$[]byte1 := $*bufio.Scanner0.Bytes()",
     "$*ammo.Ammo0, $error0 := decodeAmmo($[]byte1, $recv.Pool.Get().(*ammo.Ammo))",
     "if $error0 != nil { if $recv.Config.ContinueOnError { $*ammo.Ammo0.Invalidate() } else { return errors.Wrapf($error0, \"…\", $int2, $[]byte1) } }",
     "if !confutil.IsChosenCase($*ammo.Ammo0.Tag, $recv.Config.ChosenCases) { continue }",
     "$int0++",
     "select { case $recv.Sink <- $*ammo.Ammo0: case <-$0.Done(): return nil }"] := rfl
/-- after a pass: scanner error ⇒ stop; limit reached ⇒ done; passes done ⇒ done; nothing delivered at all ⇒ error;
rewind (`runPasses`) -/
theorem providerAfterPass_eq : Gen.GrpcGun.providerAfterPass =
    ["$error1 := $*bufio.Scanner0.Err()", "if $error1 != nil { return errors.Wrap($error1, \"…\") }",
     "if $recv.Limit != 0 && $int0 >= $recv.Limit { break }", "if $recv.Passes != 0 && $int1 >= $recv.Passes { break }",
     "if $int0 == 0 { return errors.New(\"…\") }", "_, $error1 = $1.Seek(0, 0)",
     "if $error1 != nil { return errors.Wrap($error1, \"…\") }"] := rfl
/-- a line that cannot be decoded leaves NOTHING of the pooled object's previous entry (`invalidEntry = zeroEntry`) … -/
theorem ammoDecodeOnError_eq : Gen.GrpcGun.ammoDecodeOnError =
    ["$1.Reset(\"\", \"\", nil, nil)", "return $1, errors.WithStack($error0)"] := rfl
/-- … and the gun does not shoot an ammo marked invalid: it returns before the method lookup, making no call (the
deferred report gives the one failed sample) -/
theorem gunInvalidAmmo_eq : Gen.GrpcGun.gunInvalidAmmo =
    "if $0.IsInvalid() { … return=true }; calls inside=0; before the method lookup=true" := rfl

/-! ### shared client pool size (`Model.C20.effClients`) -/

theorem poolGuards_eq : Gen.GrpcGun.poolGuards =
    ["if !$recv.Conf.SharedClient.Enabled { return nil, nil }",
     "if $recv.Conf.SharedClient.ClientNumber < 1 { $recv.Conf.SharedClient.ClientNumber = 1 }"] := rfl
theorem poolSize_eq : Gen.GrpcGun.poolSize = "$recv.Conf.SharedClient.ClientNumber" := rfl
theorem poolLoop_eq : Gen.GrpcGun.poolLoop =
    "for $int0 := 0; $int0 < $recv.Conf.SharedClient.ClientNumber; $int0++ | Add calls=1" := rfl

/-! ### scenario provider and gun: registry of calls, postprocessors (`Model.C20.registry`, `assertFails`) -/

/-- the registry is filled in file order by plain assignment: the last definition of a name wins; requests are resolved
through it -/
theorem scenarioCallRegistry_eq : Gen.GrpcGun.scenarioCallRegistry =
    "for $int0, $config.CallConfig0 := range $0.Calls { $map[string]config.CallConfig0[$config.CallConfig0.Name] = $config.CallConfig0 }" := rfl
theorem scenarioCallLookup_eq : Gen.GrpcGun.scenarioCallLookup = "$1[$string1]" := rfl
/-- the postprocessors run after the call, with the reply and its code; an error ends the step -/
theorem scenarioPostprocessors_eq : Gen.GrpcGun.scenarioPostprocessors =
    "range $0.Postprocessors { $map[string]any3, $error3 := $scenario.Postprocessor0.Process($protoiface.MessageV10, $int0) ; if $error3 != nil { return fmt.Errorf(\"…\", op, $error3) } ; $map[string]any0 = mergeMaps($map[string]any0, $map[string]any3) } | after InvokeRpc=true" := rfl
/-- assert/response: a configured status code other than the reply's is an error -/
theorem assertStatusCheck_eq : Gen.GrpcGun.assertStatusCheck =
    "if $recv.StatusCode != 0 && $recv.StatusCode != $1 { return an error=true }" := rfl


/-! ### code the anchored files depend on (`gen/area_grpcgun_r4.go`)

Canonical statements: receiver `$recv`, parameters `$0…`, other locals `$<type><rank>`, message strings of errors / logs masked. -/

/-- an empty ammo list is an error; both counters start at 0 (`scenRun … 0`) -/
theorem scenProviderPrologue_eq : Gen.GrpcGun.scenProviderPrologue =
    ["$uint0 := uint(len($recv.ammos))", "if $uint0 == 0 { return decoders.ErrNoAmmo }", "$uint1 := uint(0)", "$uint2 := uint(0)"] := rfl

/-- the `[next]` iterator: 0 on first use of a segment, one more on every later use, under a mutex (`drawUser`: `drawn`, `drawn + 1`) -/
theorem nextIteratorBody_eq : Gen.GrpcGun.nextIteratorBody =
    ["$recv.mx.Lock()", "defer $recv.mx.Unlock()", "$*atomic.Uint640, $bool0 := $recv.gs[$0]", "if !$bool0 { $recv.gs[$0] = &atomic.Uint64{} return 0 }", "$uint640 := $*atomic.Uint640.Add(1)", "return int($uint640)"] := rfl

/-- the gcd of all weights: `GCD(GCDM(all but the last), GCD(last two))` (`Model.goGcdm`, `C20_weights`) -/
theorem gcdmBody_eq : Gen.GrpcGun.gcdmBody =
    ["$int0 := len($0)", "if $int0 < 2 { return 0 }", "$int640 := GCD($0[$int0-2], $0[$int0-1])", "if $int0 == 2 { return $int640 }", "return GCD(GCDM($0[:$int0-1]...), $int640)"] := rfl

/-- `SpreadNames` around its loops: a single scenario once; otherwise the divisor is `GCDM` of the weights (the loops: `spreadWeight_eq`, `spreadCount_eq`; `Model.ammoList`) -/
theorem spreadNamesBody_eq : Gen.GrpcGun.spreadNamesBody =
    ["if len($0) == 0 { return nil, 0 }", "if len($0) == 1 { return map[string]int{$0[0].Name: 1}, 1 }", "$map[string]config.ScenarioConfig0 := map[string]ScenarioConfig{}", "$[]int640 := make([]int64, len($0))", "$int640 := math.GCDM($[]int640...)", "$map[string]int0 := make(map[string]int)", "$int1 := 0", "return $map[string]int0, $int1"] := rfl

/-- … and that often it is appended to the ammo list, in definition order -/
theorem scenarioSpreadLoop_eq : Gen.GrpcGun.scenarioSpreadLoop =
    "for $int5 := 0; $int5 < $int4; $int5++ { $[]*scenario.Scenario0 = append($[]*scenario.Scenario0, $*scenario.Scenario0) }" := rfl

/-- a service the reflection API lists but cannot resolve is skipped, the rest of the table is still built (`ghost=1` inputs); the key of the table is the fully qualified method name (`lookupMethod`) -/
theorem reflectServiceLoop_eq : Gen.GrpcGun.reflectServiceLoop =
    ["range $[]string0", "$*desc.ServiceDescriptor0, $error1 := $*grpcreflect.Client0.ResolveService($string0)", "if $error1 != nil { if grpcreflect.IsElementNotFoundError($error1) { continue } return nil, fmt.Errorf(\"…\", $string0, $error1) }", "$[]*desc.MethodDescriptor0 := $*desc.ServiceDescriptor0.GetMethods()", "for $int1, $*desc.MethodDescriptor0 := range $[]*desc.MethodDescriptor0 { $map[string]desc.MethodDescriptor0[$*desc.MethodDescriptor0.GetFullyQualifiedName()] = *$*desc.MethodDescriptor0 }"] := rfl

/-- `NewGun` stores the configuration unchanged (in particular `Timeout` stays what was configured) -/
theorem newGunBody_eq : Gen.GrpcGun.newGunBody =
    ["$*zap.Logger0 := answlog.Init($0.AnswLog.Path, $0.AnswLog.Enabled)", "return &Gun{Conf: $0, AnswLog: $*zap.Logger0}"] := rfl

/-- of two preprocessors defining one variable the FIRST wins (`uu` inputs: `Drv.parsePre`) -/
theorem mergeMapsBody_eq : Gen.GrpcGun.mergeMapsBody =
    ["for $string0, $any0 := range $1 { if $any1, $bool0 := $0[$string0]; !$bool0 { $0[$string0] = $any0 } }", "return $0"] := rfl

/-- `source.path` replaces `file` before the provider (and its file name) is made (`src=1` inputs) -/
theorem jsonNewProvider_eq : Gen.GrpcGun.jsonNewProvider =
    ["var $grpcjson.Provider0 Provider", "if $1.Source.Path != \"\" { $1.File = $1.Source.Path }", "$grpcjson.Provider0 = Provider{ Provider: ammo.NewProvider($0, $1.File, $grpcjson.Provider0.start), Config: $1, }", "return &$grpcjson.Provider0"] := rfl

/-- grpc/json is registered WITHOUT a default configuration: `passes` not written = 0 = unlimited (`pas=d` inputs, `C20_feed_unlimited`); both guns with their `DefaultGunConfig` -/
theorem grpcRegistrations_eq : Gen.GrpcGun.grpcRegistrations =
    [("Provider grpc/json", ""), ("Gun grpc", "grpc.DefaultGunConfig"), ("Gun grpc/scenario", "scenario.DefaultGunConfig")] := rfl


/-! ### arithmetic / control re-extracted as Lean FUNCTIONS (`gen/area_grpcgun_sym.go`) equals the model, for all inputs -/

theorem scenProvider_stops_any (len passes limit n : Nat) :
    (Gen.GrpcGun.scenProviderStops passes limit len n).any (·.1) =
      ((passes != 0 && decide (n / len ≥ passes)) || (limit != 0 && decide (n ≥ limit))) := by
  have hd : Int.tdiv (n : Int) (len : Int) = ((n / len : Nat) : Int) := rfl
  have e1 : decide ((passes : Int) ≠ 0 ∧ Int.tdiv (n : Int) (len : Int) ≥ (passes : Int)) =
      (passes != 0 && decide (n / len ≥ passes)) := by
    rw [hd]
    by_cases h : passes ≠ 0 ∧ n / len ≥ passes
    · have hi : ((passes : Int) ≠ 0 ∧ ((n / len : Nat) : Int) ≥ (passes : Int)) := ⟨by omega, by omega⟩
      rw [decide_eq_true hi]
      simp [h.1, h.2]
    · have hi : ¬ ((passes : Int) ≠ 0 ∧ ((n / len : Nat) : Int) ≥ (passes : Int)) := by
        intro hh; exact h ⟨by omega, by omega⟩
      rw [decide_eq_false hi]
      symm; simpa using h
  have e2 : decide ((limit : Int) ≠ 0 ∧ (n : Int) ≥ (limit : Int)) = (limit != 0 && decide (n ≥ limit)) := by
    by_cases h : limit ≠ 0 ∧ n ≥ limit
    · have hi : ((limit : Int) ≠ 0 ∧ (n : Int) ≥ (limit : Int)) := ⟨by omega, by omega⟩
      rw [decide_eq_true hi]
      simp [h.1, h.2]
    · have hi : ¬ ((limit : Int) ≠ 0 ∧ (n : Int) ≥ (limit : Int)) := by
        intro hh; exact h ⟨by omega, by omega⟩
      rw [decide_eq_false hi]
      symm; simpa using h
  unfold Gen.GrpcGun.scenProviderStops
  simp only [List.any_cons, List.any_nil, Bool.or_false]
  rw [e1, e2]

theorem scenProvider_index_eq (len passes limit n : Nat) :
    (Gen.GrpcGun.scenProviderIndex passes limit len n).toNat = n % len := by
  have hm : Int.tmod (n : Int) (len : Int) = ((n % len : Nat) : Int) := rfl
  unfold Gen.GrpcGun.scenProviderIndex
  rw [hm]
  exact Int.toNat_natCast _

theorem scenProvider_count_eq (len passes limit n : Nat) :
    (Gen.GrpcGun.scenProviderCount passes limit len n).toNat = n + 1 := by
  unfold Gen.GrpcGun.scenProviderCount
  omega

/-- one iteration of the generic scenario provider's loop as the source computes it IS one step of `Model.scenRun`: stop
when one of the source's checks fires, otherwise hand over ammo number `scenProviderIndex` and go on with the counter
`scenProviderCount` -/
theorem scenProvider_step_eq (len passes limit fuel n : Nat) :
    scenRun len passes limit (fuel + 1) n =
      (if (Gen.GrpcGun.scenProviderStops passes limit len n).any (·.1) then []
       else (Gen.GrpcGun.scenProviderIndex passes limit len n).toNat ::
          scenRun len passes limit fuel (Gen.GrpcGun.scenProviderCount passes limit len n).toNat) := by
  rw [scenRun, scenProvider_stops_any, scenProvider_index_eq, scenProvider_count_eq]
  by_cases hA : (passes != 0 && decide (n / len ≥ passes)) = true
  · simp only [hA, Bool.true_or, if_true]
  · have hA' : (passes != 0 && decide (n / len ≥ passes)) = false := by simpa using hA
    simp only [hA', Bool.false_or, Bool.false_eq_true, if_false]

/-- the checks are the passes check, then the limit check -/
theorem scenProvider_stops_eq (passes limit len n : Int) :
    (Gen.GrpcGun.scenProviderStops passes limit len n).map (·.2) = ["ErrPassLimit", "ErrAmmoLimit"] := rfl

/-- `calcIndex` on a written index `i ≥ 0` is the model's `fixedIndex … (.fixed i)` … -/
theorem calcIndexWritten_fixed (len i : Nat) (_h : 0 < len) :
    Gen.GrpcGun.calcIndexWritten (i : Int) (len : Int) = ((fixedIndex len (.fixed i) : Nat) : Int) := by
  have hm : Int.tmod (i : Int) (len : Int) = ((i % len : Nat) : Int) := rfl
  have hf : fixedIndex len (.fixed i) = i % len := rfl
  unfold Gen.GrpcGun.calcIndexWritten
  rw [hm, hf]
  by_cases hlt : i < len
  · have hc : ((i : Int) ≥ 0 ∧ (i : Int) < (len : Int)) := ⟨by omega, by omega⟩
    rw [if_pos hc, Nat.mod_eq_of_lt hlt]
  · have hc : ¬ ((i : Int) ≥ 0 ∧ (i : Int) < (len : Int)) := by intro h; omega
    have hn : ¬ (((i % len : Nat) : Int) < 0) := by omega
    rw [if_neg hc, if_neg hn]

/-- … and on a written negative index `-i` the model's `fixedIndex … (.neg i)` -/
theorem calcIndexWritten_neg (len i : Nat) (h : 0 < len) :
    Gen.GrpcGun.calcIndexWritten (-(i : Int)) (len : Int) = ((fixedIndex len (.neg i) : Nat) : Int) := by
  have hm : Int.tmod (-(i : Int)) (len : Int) = -((i % len : Nat) : Int) := by
    rw [Int.neg_tmod]; rfl
  have hf : fixedIndex len (.neg i) = (len - i % len) % len := rfl
  have hlt : i % len < len := Nat.mod_lt _ h
  unfold Gen.GrpcGun.calcIndexWritten
  rw [hm, hf]
  by_cases hz : i = 0
  · subst hz
    have hc : ((-((0 : Nat) : Int)) ≥ 0 ∧ (-((0 : Nat) : Int)) < (len : Int)) := ⟨by omega, by omega⟩
    rw [if_pos hc]
    simp
  · have hneg : ¬ ((-(i : Int)) ≥ 0 ∧ (-(i : Int)) < (len : Int)) := by intro hh; omega
    rw [if_neg hneg]
    by_cases hmz : i % len = 0
    · have h1 : ¬ ((-((i % len : Nat) : Int)) < 0) := by omega
      rw [if_neg h1, hmz]
      simp
    · have h1 : (-((i % len : Nat) : Int)) < 0 := by omega
      have h2 : (len - i % len) % len = len - i % len := Nat.mod_eq_of_lt (by omega)
      rw [if_pos h1, h2]
      omega

theorem calcIndexLast_eq (len : Nat) (h : 0 < len) :
    Gen.GrpcGun.calcIndexLast (len : Int) = ((fixedIndex len .last : Nat) : Int) := by
  have hf : fixedIndex len .last = len - 1 := rfl
  unfold Gen.GrpcGun.calcIndexLast
  rw [hf]
  omega

/-- `[next]`: the number the iterator returned, wrapped round the list (`drawUser`: `drawn % length`) -/
theorem calcIndexNext_eq (drawn len : Nat) (_h : 0 < len) :
    Gen.GrpcGun.calcIndexNext (drawn : Int) (len : Int) = ((drawn % len : Nat) : Int) := by
  have hm : Int.tmod (drawn : Int) (len : Int) = ((drawn % len : Nat) : Int) := rfl
  unfold Gen.GrpcGun.calcIndexNext
  rw [hm]
  by_cases hge : drawn ≥ len
  · have hc : (drawn : Int) ≥ (len : Int) := by omega
    rw [if_pos hc]
  · have hc : ¬ ((drawn : Int) ≥ (len : Int)) := by omega
    rw [if_neg hc, Nat.mod_eq_of_lt (by omega : drawn < len)]

theorem gcdLoopCond_eq (a b : Nat) : Gen.GrpcGun.gcdLoopCond a b = (decide (a > 0) && decide (b > 0)) := by
  unfold Gen.GrpcGun.gcdLoopCond
  by_cases h : a > 0 ∧ b > 0
  · have hi : ((a : Int) > 0 ∧ (b : Int) > 0) := ⟨by omega, by omega⟩
    rw [decide_eq_true hi]; simp [h.1, h.2]
  · have hi : ¬ ((a : Int) > 0 ∧ (b : Int) > 0) := by intro hh; exact h ⟨by omega, by omega⟩
    rw [decide_eq_false hi]; symm; simpa using h

theorem gcdLoopStep_eq (a b : Nat) :
    (Gen.GrpcGun.gcdLoopStep a b).1.toNat = (if a ≥ b then a % b else a) ∧
    (Gen.GrpcGun.gcdLoopStep a b).2.toNat = (if a ≥ b then b else b % a) := by
  have hm1 : Int.tmod (a : Int) (b : Int) = ((a % b : Nat) : Int) := rfl
  have hm2 : Int.tmod (b : Int) (a : Int) = ((b % a : Nat) : Int) := rfl
  unfold Gen.GrpcGun.gcdLoopStep
  rw [hm1, hm2]
  by_cases hab : a ≥ b
  · have hc : (a : Int) ≥ (b : Int) := by omega
    simp only [if_pos hc, if_pos hab]
    exact ⟨Int.toNat_natCast _, Int.toNat_natCast _⟩
  · have hc : ¬ ((a : Int) ≥ (b : Int)) := by omega
    simp only [if_neg hc, if_neg hab]
    exact ⟨Int.toNat_natCast _, Int.toNat_natCast _⟩

theorem gcdResult_eq (a b : Nat) : (Gen.GrpcGun.gcdResult a b).toNat = (if a > b then a else b) := by
  unfold Gen.GrpcGun.gcdResult
  by_cases hgt : a > b
  · have hc : (a : Int) > (b : Int) := by omega
    rw [if_pos hc, if_pos hgt]; exact Int.toNat_natCast _
  · have hc : ¬ ((a : Int) > (b : Int)) := by omega
    rw [if_neg hc, if_neg hgt]; exact Int.toNat_natCast _

/-- `math.GCD`: the model's `goGcdLoop` is the source's loop — condition, step and result -/
theorem gcdLoop_step_eq (fuel a b : Nat) :
    goGcdLoop (fuel + 1) a b =
      (if Gen.GrpcGun.gcdLoopCond a b then
         goGcdLoop fuel (Gen.GrpcGun.gcdLoopStep a b).1.toNat (Gen.GrpcGun.gcdLoopStep a b).2.toNat
       else (Gen.GrpcGun.gcdResult a b).toNat) := by
  rw [goGcdLoop, gcdLoopCond_eq, (gcdLoopStep_eq a b).1, (gcdLoopStep_eq a b).2, gcdResult_eq]
  by_cases hc : (decide (a > 0) && decide (b > 0)) = true
  · simp only [hc, if_true]
    by_cases hab : a ≥ b
    · simp only [hab, if_true]
    · simp only [hab, if_false]
  · have hc' : (decide (a > 0) && decide (b > 0)) = false := by simpa using hc
    simp only [hc', Bool.false_eq_true, if_false]

theorem gcdLoop_base_eq (a b : Nat) : goGcdLoop 0 a b = (Gen.GrpcGun.gcdResult a b).toNat := by
  rw [goGcdLoop, gcdResult_eq]

/-- `SpreadNames`: a weight 0 counts as 1 — both in the gcd AND in the division — and a scenario is listed
`weight / gcd` times (`Model.ammoList`) -/
theorem spreadWeight_eq (w : Nat) :
    Gen.GrpcGun.spreadWeightForGcd (w : Int) = (((if w == 0 then 1 else w) : Nat) : Int) ∧
    Gen.GrpcGun.spreadWeightKept (w : Int) = (((if w == 0 then 1 else w) : Nat) : Int) := by
  unfold Gen.GrpcGun.spreadWeightForGcd Gen.GrpcGun.spreadWeightKept
  by_cases h : w = 0
  · subst h; simp
  · simp [h]

theorem spreadCount_eq (w d : Nat) : Gen.GrpcGun.spreadCount (w : Int) (d : Int) = ((w / d : Nat) : Int) := rfl

/-- the DIAL timeout is `dial_options.timeout`, one second when that is not configured: a function of the dial option
alone (the request timeout `Conf.Timeout` is `gunTimeoutNs`) -/
theorem dialTimeout_eq (conf : Int) :
    Gen.GrpcGun.dialTimeoutNs conf = (if conf ≠ 0 then conf else 1000000000) := by
  unfold Gen.GrpcGun.dialTimeoutNs
  by_cases h : conf = 0 <;> simp [h]


/-! ### the scenario's request list, the step literal, the sample tag, the pooled object, the ammo provider -/

theorem scenarioExpandLoop_eq : Gen.GrpcGun.scenarioExpandLoop =
    ["for $int0, $string0 := range $0.Requests", "$string1, $int1, $int2, $error0 := config.ParseShootName($string0)",
     "if $error0 != nil { return nil, fmt.Errorf(\"…\", $string0, $error0) }",
     "if $string1 == \"sleep\" { if len($*scenario.Scenario0.Calls) == 0 { return nil, fmt.Errorf(\"…\", $string0) } $*scenario.Scenario0.Calls[len($*scenario.Scenario0.Calls)-1].Sleep += time.Millisecond * time.Duration($int1) continue }",
     "$config.CallConfig0, $bool0 := $1[$string1]", "if !$bool0 { return nil, fmt.Errorf(\"…\", $string1) }",
     "$scenario.Call0 := convertConfigToStep($config.CallConfig0, $*mp.NextIterator0)",
     "if $int2 > 0 { $scenario.Call0.Sleep += time.Millisecond * time.Duration($int2) }",
     "if $int1 > config.MaxScenarioRequests-len($*scenario.Scenario0.Calls) { return nil, fmt.Errorf(\"…\", $string0, config.MaxScenarioRequests) }",
     "for $int3 := 0; $int3 < $int1; $int3++ { $*scenario.Scenario0.Calls = append($*scenario.Scenario0.Calls, $scenario.Call0) }"] := rfl

theorem scenarioExpandAround_eq : Gen.GrpcGun.scenarioExpandAround =
    ["$*mp.NextIterator0 := mp.NewNextIterator(time.Now().UnixNano())",
     "$*scenario.Scenario0 := &gun.Scenario{Name: $0.Name, MinWaitingTime: time.Millisecond * time.Duration($0.MinWaitingTime)}",
     "return $*scenario.Scenario0, nil"] := rfl

theorem scenarioStepPrologue_eq : Gen.GrpcGun.scenarioStepPrologue =
    ["$[]scenario.Postprocessor0 := make([]gun.Postprocessor, len($0.Postprocessors))", "copy($[]scenario.Postprocessor0, $0.Postprocessors)",
     "$[]scenario.Preprocessor0 := make([]gun.Preprocessor, len($0.Preprocessors))",
     "for $int0 := range $0.Preprocessors { $[]scenario.Preprocessor0[$int0] = $0.Preprocessors[$int0] if $grpc.IteratorIniter0, $bool0 := $[]scenario.Preprocessor0[$int0].(IteratorIniter); $bool0 { $grpc.IteratorIniter0.InitIterator($1) } }"] := rfl

/-- name, tag, call, metadata and payload of a step are the definition's fields of the same name (`Model.CallDef`) -/
theorem scenarioStepFields_eq : Gen.GrpcGun.scenarioStepFields =
    ["Call=$0.Call", "Metadata=$0.Metadata", "Name=$0.Name", "Payload=[]byte($0.Payload)", "Postprocessors=$[]scenario.Postprocessor0",
     "Preprocessors=$[]scenario.Preprocessor0", "Tag=$0.Tag"] := rfl

theorem maxScenarioRequests_eq : Gen.GrpcGun.maxScenarioRequests = Pandora.Model.C20.maxScenarioRequests := rfl

/-- the sample of a step is tagged `<scenario>.<tag of the call>` (`Model.shootStep`: `scn ++ "." ++ cd.tag`) -/
theorem scenarioSampleTag_eq : Gen.GrpcGun.scenarioSampleTag = "$0.Name + \".\" + $step.Tag" := rfl

theorem ammoInvalidateBody_eq : Gen.GrpcGun.ammoInvalidateBody = ["$recv.isInvalid = true"] := rfl
theorem ammoIsInvalidBody_eq : Gen.GrpcGun.ammoIsInvalidBody = ["return $recv.isInvalid"] := rfl
theorem ammoProviderAcquire_eq : Gen.GrpcGun.ammoProviderAcquire =
    ["$*ammo.Ammo0, $bool0 := <-$recv.Sink", "if $bool0 { $*ammo.Ammo0.SetID($recv.idCounter.Add(1)) }", "return $*ammo.Ammo0, $bool0"] := rfl
/-- `Release` puts the object back AS IT IS: the pool's objects hold earlier entries (`Model.C20Pool`: the oracle) -/
theorem ammoProviderRelease_eq : Gen.GrpcGun.ammoProviderRelease = ["$recv.Pool.Put($0)"] := rfl
/-- the sink is closed by a `defer` placed before anything that can fail -/
theorem ammoProviderRun_eq : Gen.GrpcGun.ammoProviderRun =
    ["defer $recv.Close()", "$recv.ProviderDeps = $1", "defer close($recv.Sink)", "$afero.File0, $error0 := $recv.fs.Open($recv.fileName)",
     "if $error0 != nil { return errors.Wrap($error0, \"…\") }", "defer $afero.File0.Close()", "return $recv.start($0, $afero.File0)"] := rfl

end Pandora.Bridge.C20
