/-
Bridge C19: the definitions regenerated from /repo's CURRENT source (`Pandora/Gen/RespGuard.lean`, rewritten by
`gen -area respguard` on every check run) agree with the hand-written model `Pandora.Model.C19`, and the inventory
of run-time panic sites of the anchored files is exactly the audited one.  If the source changes any of these, this
file stops compiling and the check reports a broken obligation that names the lemma.
-/
import Pandora.Gen.RespGuard
import Pandora.Proofs.C19
import Pandora.Proofs.C19Vars

namespace Pandora.Bridge.C19
open Pandora.Model.C10 Pandora.Model.C19

/-! ### `substr`: the index arithmetic of the closure in var_header.go is the model's `substrBounds` -/

/-- stage by stage the closure IS the model's composition `order ∘ clamp ∘ adjust`; only the final swap is spelt
differently (one `if` over a pair there, a pair of `if`s in the model) -/
theorem substrIdx_eq (start end_ l : Int) : Gen.RespGuard.substrIdx start end_ l = substrBounds start end_ l := by
  rw [substrBounds, Proofs.C19.order_swap]; rfl

/-- hence the slice expression of the CURRENT source is within bounds for all arguments and all header values -/
theorem substrIdx_in_bounds (start end_ : Int) (len : Nat) :
    0 ≤ (Gen.RespGuard.substrIdx start end_ len).1 ∧
    (Gen.RespGuard.substrIdx start end_ len).1 ≤ (Gen.RespGuard.substrIdx start end_ len).2 ∧
    (Gen.RespGuard.substrIdx start end_ len).2 ≤ (len : Int) := by
  rw [substrIdx_eq]
  exact Proofs.C19.substrBounds_valid start end_ len (by omega)

/-- `substr(a)` is `substr(a, 0)` (the model's `Modifier.substr a 0`) -/
theorem substrDefaultEnd_eq : Gen.RespGuard.substrDefaultEnd = 0 := rfl

/-- the model's `Modifier` has one constructor per modifier name the source knows -/
theorem modifierNames_eq : Gen.RespGuard.modifierNames = ["lower", "replace", "substr", "upper"] := rfl

/-- `values[0]` is read only under `len(values) == 1` (model `varXpath`: the unwrapping cannot fail) -/
theorem xpathUnwrapGuards_eq : Gen.RespGuard.xpathUnwrapGuards = ["len(values) == 1"] := rfl

/-! ### assert/response -/

theorem sizeRejects_eq (op : String) (val len : Nat) :
    Gen.RespGuard.sizeRejects op val len = sizeFails (sizeOpOfString op) val len := by
  unfold Gen.RespGuard.sizeRejects sizeOpOfString
  repeat' split
  all_goals simp [sizeFails]
  all_goals omega

/-- the status comparison of both assertions is the model's `statusCode ≠ 0 ∧ statusCode ≠ got` -/
theorem httpStatusRejects_eq (cfg got : Nat) :
    Gen.RespGuard.httpStatusRejects cfg got = decide (cfg ≠ 0 ∧ cfg ≠ got) := by
  simp [Gen.RespGuard.httpStatusRejects, Int.natCast_inj]

theorem grpcStatusRejects_eq (cfg got : Nat) :
    Gen.RespGuard.grpcStatusRejects cfg got = decide (cfg ≠ 0 ∧ cfg ≠ got) := by
  simp [Gen.RespGuard.grpcStatusRejects, Int.natCast_inj]

/-- when the response body is read into `b`: the condition of the `if` around `io.ReadAll(body)`, as a boolean function
of its three atoms, is the model's `bodyReadCond` — body patterns OR a size block, AND a reader. Another spelling or
order of the same condition keeps this lemma; dropping `a.Size != nil` again (the size assertion would compare against
`len(nil) = 0`), dropping the `body != nil` guard or turning `||` into `&&` breaks it. -/
theorem httpBodyReadCond_eq (hasPatterns hasSize bodyPresent : Bool) :
    Gen.RespGuard.httpBodyReadCond hasPatterns hasSize bodyPresent = bodyReadCond hasPatterns hasSize bodyPresent := by
  cases hasPatterns <;> cases hasSize <;> cases bodyPresent <;> rfl

/-- every atom of that condition is one the model knows -/
theorem httpBodyReadUnknownAtoms_eq : Gen.RespGuard.httpBodyReadUnknownAtoms = [] := rfl

/-- hence `assertHttp` measures the real body exactly when the CURRENT source reads it (the guns always pass a reader) -/
theorem readsBody_eq (a : AssertCfg) :
    a.readsBody = Gen.RespGuard.httpBodyReadCond (!a.body.isEmpty) a.size.isSome true := by
  rw [httpBodyReadCond_eq]; rfl

/-- the checks of the http assertion (sorted; `assertHttp` has the same ones; every failing check is an error, none
panics; the body is read under BODYREAD-COND = `httpBodyReadCond`, a read error is an error return; canonical
spelling of that block: locals `v<i>`, error text dropped) -/
theorem httpAssertSteps_eq : Gen.RespGuard.httpAssertSteps = [
    "if BODYREAD-COND { v0, v1 = io.ReadAll(v2) if v1 != nil { return nil, fmt.Errorf(\"…\", v1) } }",
    "if a.Size != nil",
    "if a.StatusCode != 0 && a.StatusCode != resp.StatusCode",
    "range a.Body: if !bytes.Contains(b, []byte(v)) -> return error",
    "range a.Headers: if !(strings.Contains(resp.Header.Get(k), v)) -> return error",
    "return nil, nil"] := rfl

/-- the checks of the gRPC assertion (`assertGrpc`), sorted -/
theorem grpcAssertSteps_eq : Gen.RespGuard.grpcAssertSteps = [
    "if a.StatusCode != 0 && a.StatusCode != code -> return error",
    "if len(a.Payload) == 0 -> return nil, nil",
    "if out == nil -> return error",
    "o := out.String()",
    "range a.Payload: if !strings.Contains(o, v) -> return error",
    "return nil, nil"] := rfl

/-- a nil message (every failed call) is an error BEFORE `out.String()` is called: this check is what keeps a failed
call with a payload assertion from panicking (`assertGrpc`: `outNil ⇒ err`) -/
theorem grpcNilGuardBeforeUse_eq : Gen.RespGuard.grpcNilGuardBeforeUse = true := rfl

/-! ### the extractors and the postprocessor loop, statement by statement

Canonical spelling (gen `respguardCanonStmts`): locals are `v<i>` in the order of first occurrence, error texts are
dropped — renaming a local or rewording a message keeps these lemmas; a changed guard, a dropped error return, another
loop breaks them. -/

/-- `VarHeaderPostprocessor.Process` is the model's `varHeaderWith`: an unparsable mapping is an error return
(`mods = none ⇒ err`), an absent / empty header is skipped (`if v = [] then …`), otherwise the modifier chain is applied
(the only call on response data: `applyChain`, which cannot panic — `C19_no_panic`) -/
theorem varHeaderProcess_eq : Gen.RespGuard.varHeaderProcess = [
    "if len(v0.Mapping) == 0 { return nil, nil }",
    "v1 := make(map[string]any, len(v0.Mapping))",
    "for v2, v3 := range v0.Mapping { v4, v5, v6 := v0.parseValue(v3) if v6 != nil { return nil, fmt.Errorf(\"…\", v3, v6) } v7 := v8.Header.Get(v4) if v7 == \"\" { continue } v1[v2] = v5(v7) }",
    "return v1, nil"] := rfl

/-- `VarJsonpathPostprocessor.Process` is the model's `varJsonpath`: no mapping ⇒ ok; a body that does not decode ⇒
error; a path that does not match ⇒ the error is collected and returned; the result map is created before it is
written -/
theorem varJsonpathProcess_eq : Gen.RespGuard.varJsonpathProcess = [
    "if len(v0.Mapping) == 0 { return nil, nil }",
    "var v1 any",
    "v2 := json.NewDecoder(v3)",
    "v4 := v2.Decode(&v1)",
    "if v4 != nil { return nil, fmt.Errorf(\"…\", v4) }",
    "v5 := map[string]any{}",
    "for v6, v7 := range v0.Mapping { v8, v9 := jsonpath.Get(v7, v1) if v9 != nil { v4 = multierr.Append(v4, fmt.Errorf(\"…\", v7, v9)) continue } v5[v6] = v8 }",
    "return v5, v4"] := rfl

/-- `VarXpathPostprocessor.Process` / `getValuesFromDOM` are the model's `varXpath`: an expression that does not
compile ⇒ error (`invalid`), one that does not evaluate to a node set ⇒ error through the comma-ok assertion
(`scalar`), `values[0]` only under `len(values) == 1` -/
theorem varXpathProcess_eq : Gen.RespGuard.varXpathProcess = [
    "if len(v0.Mapping) == 0 { return nil, nil }",
    "v1, v2 := html.Parse(v3)",
    "if v2 != nil { return nil, v2 }",
    "v4 := make(map[string]any, len(v0.Mapping))",
    "for v5, v6 := range v0.Mapping { v7, v8 := v0.getValuesFromDOM(v1, v6) if v8 != nil { return nil, v8 } if len(v7) == 1 { v4[v5] = v7[0] } else { v4[v5] = v7 } }",
    "return v4, nil"] := rfl

theorem xpathValuesFromDOM_eq : Gen.RespGuard.xpathValuesFromDOM = [
    "v0, v1 := xpath.Compile(v2)",
    "if v1 != nil { return nil, v1 }",
    "v3, v4 := v0.Evaluate(htmlquery.CreateXPathNavigator(v5)).(*xpath.NodeIterator)",
    "if !v4 { return nil, fmt.Errorf(\"…\", v2) }",
    "var v6 []string",
    "for v3.MoveNext() { v7 := v3.Current() v6 = append(v6, v7.Value()) }",
    "return v6, nil"] := rfl

/-- the postprocessor loop of `ScenarioGun.shootStep` is the model's `runPPs`: postprocessors run in order, the first
error ends the step with that error, the variables are copied into a map created by the caller of the loop, the body
reader is rewound for the next postprocessor -/
theorem scenarioPostLoop_eq : Gen.RespGuard.scenarioPostLoop = [
    "for _, v0 := range v1 { v2, v3 = v0.Process(v4, v5) if v3 != nil { return fmt.Errorf(\"…\", op, v3) } for v6, v7 := range v2 { v8[v6] = v7 } _, v3 = v5.Seek(0, io.SeekStart) if v3 != nil { return fmt.Errorf(\"…\", op, v3) } }"] := rfl

/-! ### the http2 client -/

theorem notHTTP2PanicMsg_eq : Gen.RespGuard.notHTTP2PanicMsg = notHTTP2PanicMsg := rfl
theorem nextProtoTLS_eq : Gen.RespGuard.nextProtoTLS = nextProtoTLS := rfl

/-- `checkHTTP2` (model: `Model.C19.checkHTTP2`): nil state, protocol other than `h2`, not mutual -/
theorem checkHTTP2Conds_eq : Gen.RespGuard.checkHTTP2Conds = [
    "if state == nil -> return error",
    "if p := state.NegotiatedProtocol; p != http2.NextProtoTLS -> return error",
    "if !state.NegotiatedProtocolIsMutual -> return error",
    "return nil"] := rfl

/-- `panicOnHTTP1Client.Do` (model: `h2Panics`): on an error it panics only under `DOERR-COND` (`doErrPanics_eq`) and
otherwise returns the error; on a response it panics iff `checkHTTP2(res.TLS)` fails -/
theorem panicOnHTTP1Do_eq : Gen.RespGuard.panicOnHTTP1Do = [
    "res, err := c.Client.Do(req)",
    "if err != nil {var opError *net.OpError; if DOERR-COND {PANIC notHTTP2PanicMsg}; return nil, err}",
    "err = checkHTTP2(res.TLS)",
    "if err != nil {PANIC notHTTP2PanicMsg}",
    "return res, nil"] := rfl

/-- the condition of the error branch, as a boolean function of its three atoms, is the model's `DoErrFacts.panics`:
ALL of "an OpError", "Op is `remote error`" (an alert RECEIVED from the peer), "the text of alert 120". Reordering the
conjuncts keeps this lemma; weakening any of them (`||`, a dropped conjunct) breaks it. -/
theorem doErrPanics_eq (e : DoErrFacts) :
    Gen.RespGuard.doErrPanics e.isOpError e.opRemoteError e.textNoAppProto = e.panics := by
  obtain ⟨a, b, c⟩ := e
  cases a <;> cases b <;> cases c <;> rfl

/-- every atom of that condition is one the model knows -/
theorem doErrUnknownAtoms_eq : Gen.RespGuard.doErrUnknownAtoms = [] := rfl

/-! ### `instance.Run` -/

/-- the deferred `recover()` of `instance.Run` turns a panic into the error the pool fails with (`instanceRun`:
`poolFailed`); the harness recognises a failed pool by this text -/
theorem recoverFormat_eq : Gen.RespGuard.recoverFormat = "shoot panic: %s" := rfl

/-- `gun.Shoot` is called once, lexically inside `Run` and not on another goroutine: the recover covers it -/
theorem shootCallsInRun_eq : Gen.RespGuard.shootCallsInRun = 1 := rfl

/-! ### inventory of run-time panic sites of the anchored files

Every entry is accounted for by the model:
* `must bind before shoot`, `already binded`, `nil aggregator`, transport configuration, `unsupported network`:
  conditions of construction / binding, decided before the first request, independent of the target;
* the two `notHTTP2PanicMsg` sites: the documented fatal condition (`GunShot.documentedFatal`). -/
theorem explicitPanics_eq : Gen.RespGuard.explicitPanics = [
    "components/guns/http/base.go|BaseGun.Bind|log.Panic \"already binded\"",
    "components/guns/http/base.go|BaseGun.Bind|log.Panic \"nil aggregator\"",
    "components/guns/http/base.go|BaseGun.Shoot|zap.L().Panic \"must bind before shoot\"",
    "components/guns/http/client.go|NewHTTP2Transport|zap.L().Panic \"HTTP/2 transport configure fail\"",
    "components/guns/http/client.go|NewTransport|zap.L().Panic \"HTTP transport configure fail\"",
    "components/guns/http/client.go|panicOnHTTP1Client.Do|zap.L().Panic notHTTP2PanicMsg",
    "components/guns/http/client.go|panicOnHTTP1Client.Do|zap.L().Panic notHTTP2PanicMsg",
    "components/guns/http/connect.go|newConnectDialFunc|panic \"unsupported network \" + network",
    "components/guns/http_scenario/gun.go|ScenarioGun.Shoot|zap.L().Panic \"must bind before shoot\""] := rfl

/-- type assertions without comma-ok: the ammo type handed over by the provider of the same plugin and the
transport of the gun's own client; none is applied to response data. In particular `var/xpath` asserts
`(*xpath.NodeIterator)` WITH comma-ok (model `varXpath`: scalar ⇒ error). -/
theorem uncheckedAssertions_eq : Gen.RespGuard.uncheckedAssertions = [
    "components/guns/grpc/core.go|Gun.Shoot|am.(*ammo.Ammo)",
    "components/guns/grpc/scenario/core.go|Gun.Shoot|am.(*Scenario)",
    "components/guns/http/client.go|redirectClient.CloseIdleConnections|c.Transport.(*http.Transport)"] := rfl

/-- index / slice expressions. On response data: only `in[start:end]` (bounds: `substrIdx_in_bounds`) and
`values[0]` (guarded by `len(values) == 1`). The others index configuration text after a length check
(`args[i]`), the non-empty result of `strings.Split` (`vals[0]`, `vals[1:]`, `split[len(split)-1]`), the request
path within `ind ≤ len(path)` (autotag) and a local slice (`fields[:0]`). -/
theorem indexings_eq : Gen.RespGuard.indexings = [
    "components/guns/grpc/core.go|replacePort|split[len(split)-1]",
    "components/guns/grpc/core.go|replacePort|split[len(split)-1]",
    "components/guns/http/base.go|autotag|path[:ind]",
    "components/guns/http/base.go|autotag|path[ind]",
    "components/guns/http_scenario/gun.go|ScenarioGun.verboseLogging|fields[:0]",
    "components/providers/scenario/http/postprocessor/var_header.go|VarHeaderPostprocessor.parseModifier|args[0]",
    "components/providers/scenario/http/postprocessor/var_header.go|VarHeaderPostprocessor.parseModifier|args[1]",
    "components/providers/scenario/http/postprocessor/var_header.go|VarHeaderPostprocessor.parseValue|vals[0]",
    "components/providers/scenario/http/postprocessor/var_header.go|VarHeaderPostprocessor.parseValue|vals[0]",
    "components/providers/scenario/http/postprocessor/var_header.go|VarHeaderPostprocessor.parseValue|vals[1:]",
    "components/providers/scenario/http/postprocessor/var_header.go|VarHeaderPostprocessor.substr|args[0]",
    "components/providers/scenario/http/postprocessor/var_header.go|VarHeaderPostprocessor.substr|args[0]",
    "components/providers/scenario/http/postprocessor/var_header.go|VarHeaderPostprocessor.substr|args[1]",
    "components/providers/scenario/http/postprocessor/var_header.go|VarHeaderPostprocessor.substr|args[1]",
    "components/providers/scenario/http/postprocessor/var_header.go|VarHeaderPostprocessor.substr|in[start:end]",
    "components/providers/scenario/http/postprocessor/var_xpath.go|VarXpathPostprocessor.Process|values[0]"] := rfl

/-- writes to maps not created in the same function: `requestVars` is created by the caller (`shoot`) for every
shot, `previous` is the caller's fresh map: no nil-map write -/
theorem mapWritesWithoutMake_eq : Gen.RespGuard.mapWritesWithoutMake = [
    "components/guns/grpc/scenario/core.go|Gun.shootStep|requestVars[step.Name]",
    "components/guns/grpc/scenario/core.go|mergeMaps|previous[k]",
    "components/guns/http_scenario/gun.go|ScenarioGun.shootStep|requestVars[step.Name]"] := rfl

/-! ### gRPC status table: the switch of `ConvertGrpcStatus` is the model's `grpcToHttp` -/

theorem grpcToHttp_eq (c : Nat) : Gen.RespGuard.grpcToHttp c = grpcToHttp c := by
  -- the codes 0 … 16 by evaluation; from 17 on every comparison fails on both sides
  by_cases h : c < 17
  · exact (by decide : ∀ c < 17, Gen.RespGuard.grpcToHttp c = grpcToHttp c) c h
  · obtain ⟨k, rfl⟩ : ∃ k, c = k + 17 := ⟨c - 17, by omega⟩
    simp [Gen.RespGuard.grpcToHttp, grpcToHttp]

/-! ### the code that reads response-derived variables (lib/mp, the scenario preprocessors, template functions) -/

/-- `calcIndex` of the CURRENT source (regenerated statement by statement into the Checked monad) is the model's
`calcIndex` on the classification of the index text, for every text, every result of `strconv.Atoi`, every length and
everything the iterator may hand out. Moving the emptiness guard behind the keyword branches, dropping it, another
comparison or another modulo breaks this lemma; renaming locals does not. -/
theorem calcIndex_eq (indexStr : String) (atoi : Option Int) (length : Int) (nextV randRaw : Nat) :
    Gen.RespGuard.calcIndex indexStr atoi length nextV randRaw =
      calcIndex (indexKindOf indexStr atoi) length nextV randRaw := by
  unfold Gen.RespGuard.calcIndex indexKindOf
  by_cases h1 : indexStr = "next"
  · subst h1; cases atoi <;> simp [calcIndex]
  · by_cases h2 : indexStr = "rand"
    · subst h2; cases atoi <;> simp [calcIndex]
    · by_cases h3 : indexStr = "last"
      · subst h3; cases atoi <;> simp [calcIndex]
      · cases atoi with
        | none => simp [h1, h2, h3, calcIndex]
        | some i =>
          -- the source returns inside the branches of `if index < 0`, the model once behind them
          have hret : ∀ r : Int, (if r < 0 then Checked.ok (some (r + length)) else Checked.ok (some r))
              = Checked.ok (some (if r < 0 then r + length else r)) := fun r => by split <;> rfl
          simp [h1, h2, h3, calcIndex, hret]

/-- hence the index the CURRENT source computes never panics and lies inside the slice -/
theorem calcIndex_in_bounds (indexStr : String) (atoi : Option Int) (length : Int) (nextV randRaw : Nat) :
    ∃ r, Gen.RespGuard.calcIndex indexStr atoi length nextV randRaw = .ok r ∧ ∀ i, r = some i → 0 ≤ i ∧ i < length := by
  rw [calcIndex_eq]
  exact Proofs.C19.calcIndex_ok _ _ _ _

/-- the bound of `randString` in the CURRENT source is the model's, and `make([]rune, n)` accepts every length below it -/
theorem maxRandStringLength_eq : Gen.RespGuard.maxRandStringLength = maxRandStringLength := rfl

theorem maxRandStringLength_ok : Gen.RespGuard.maxRandStringLength ≤ maxRuneSliceLen := by decide

/-- `extractFromSlice`: the slice types are checked first (any other value is an error: model `.list false`, scalars,
maps), `valueLen` (`v1`) is the length of THE SAME value (`v4`), `calcIndex` is called with it, its error is returned … -/
theorem mpExtractFromSlice_eq : Gen.RespGuard.mpExtractFromSlice = [
    "v0 := []reflect.Type{}",
    "var v1 int",
    "var v2 bool",
    "for _, v3 := range v0 { if reflect.TypeOf(v4) == v3 { v1 = reflect.ValueOf(v4).Len() v2 = true break } }",
    "if !v2 { return nil, fmt.Errorf(\"…\", v4, v4) }",
    "v5, v6 := calcIndex(v7, v8, v1, v9)",
    "if v6 != nil { return nil, fmt.Errorf(\"…\", v4, v6) }",
    "switch vsw := v4.(type) { }",
    "return nil, fmt.Errorf(\"…\", v4, v4)"] := rfl

/-- … the accepted slice types (sorted: their order does not matter; model `Val.list true`) … -/
theorem mpSliceTypes_eq : Gen.RespGuard.mpSliceTypes = [
    "reflect.TypeOf([]any{})",
    "reflect.TypeOf([]float64{})",
    "reflect.TypeOf([]int64{})",
    "reflect.TypeOf([]int{})",
    "reflect.TypeOf([]map[string]any{})",
    "reflect.TypeOf([]map[string]string{})",
    "reflect.TypeOf([]string{})"] := rfl

/-- … and every clause of the type switch on that value (`vsw`) reads exactly `vsw[v5]`, `v5` being the index `calcIndex`
returned for the length of that very slice (model `extractFromSlice`: `goIndex xs i` with `i` from
`calcIndex k xs.length`); one clause per accepted type (sorted: reordering them is harmless) -/
theorem mpSliceCases_eq : Gen.RespGuard.mpSliceCases = [
    "case []any: return vsw[v5], nil",
    "case []float64: return vsw[v5], nil",
    "case []int64: return vsw[v5], nil",
    "case []int: return vsw[v5], nil",
    "case []map[string]any: return vsw[v5], nil",
    "case []map[string]string: w0 := make(map[string]any, len(vsw[v5])) for w1, w2 := range vsw[v5] { w0[w1] = w2 } return w0, nil",
    "case []string: return vsw[v5], nil"] := rfl

/-- `GetMapValue` (model `getMapValue`): a missing key is an error, an indexed segment goes through
`extractFromSlice`, both type assertions are comma-ok, a value that is not a map ends the path (error unless last) -/
theorem mpGetMapValue_eq : Gen.RespGuard.mpGetMapValue = [
    "if v0 == nil { return nil, nil }",
    "var v1 strings.Builder",
    "v2 := strings.Split(strings.TrimPrefix(v3, \".\"), \".\")",
    "for v4, v5 := range v2 { v5 = strings.TrimSpace(v5) v1.WriteByte('.') v1.WriteString(v5) if strings.Contains(v5, \"[\") && strings.HasSuffix(v5, \"]\") { v6 := strings.Index(v5, \"[\") v7 := strings.ToLower(strings.TrimSpace(v5[v6+1 : len(v5)-1])) v5 = v5[:v6] v8, v9 := v0[v5] if !v9 { return nil, &ErrSegmentNotFound{path: v3, segment: v5} } v10, v11 := extractFromSlice(v8, v7, v1.String(), v12) if v11 != nil { return nil, fmt.Errorf(\"…\", v5, v3, v11) } v0, v9 = v10.(map[string]any) if !v9 { if v4 != len(v2)-1 { return nil, fmt.Errorf(\"…\", v5, v3) } return v10, nil } } else { v13, v14 := v0[v5] if !v14 { return nil, &ErrSegmentNotFound{path: v3, segment: v5} } v0, v14 = v13.(map[string]any) if !v14 { if v4 != len(v2)-1 { return nil, fmt.Errorf(\"…\", v5, v3) } return v13, nil } } }",
    "return v0, nil"] := rfl

/-- `(*NextIterator).Rand` is `rand.Intn(length)` of a private generator (model `intn`: panics for `length ≤ 0`) -/
theorem mpIterRand_eq : Gen.RespGuard.mpIterRand = [
    "v0.mx.Lock()",
    "defer v0.mx.Unlock()",
    "return v0.rnd.Intn(v1)"] := rfl

/-- `(*NextIterator).Next`: 0 for a new segment, then a counter (`atomic.Uint64`; model: `nextV : Nat`) -/
theorem mpIterNext_eq : Gen.RespGuard.mpIterNext = [
    "v0.mx.Lock()",
    "defer v0.mx.Unlock()",
    "v1, v2 := v0.gs[v3]",
    "if !v2 { v0.gs[v3] = &atomic.Uint64{} return 0 }",
    "v4 := v1.Add(1)",
    "return int(v4)"] := rfl

/-- `(*Preprocessor).Process` (http): every mapping is a template function call or a path; the first error ends it
(model `preprocess`) -/
theorem preprocessHTTP_eq : Gen.RespGuard.preprocessHTTP = [
    "if v0 == nil { return nil, nil }",
    "if v1 == nil { return nil, errors.New(\"…\") }",
    "v2 := make(map[string]any, len(v0.Mapping))",
    "var ( v3 any v4 error )",
    "for v5, v6 := range v0.Mapping { v7, v8 := templater.ParseFunc(v6) if v7 != nil { v3, v4 = templater.ExecTemplateFuncWithVariables(v7, v8, v1, v0.iterator) } else { v3, v4 = mp.GetMapValue(v1, v6, v0.iterator) } if v4 != nil { return nil, fmt.Errorf(\"…\", v5, v4) } v2[v5] = v3 }",
    "return v2, nil"] := rfl

/-- `(*PreparePreprocessor).Process` (grpc): the same loop -/
theorem preprocessGRPC_eq : Gen.RespGuard.preprocessGRPC = [
    "if v0 == nil { return nil, errors.New(\"…\") }",
    "v1 := make(map[string]any, len(v2.Mapping))",
    "var ( v3 any v4 error )",
    "for v5, v6 := range v2.Mapping { v7, v8 := templater.ParseFunc(v6) if v7 != nil { v3, v4 = templater.ExecTemplateFuncWithVariables(v7, v8, v0, v2.iterator) } else { v3, v4 = mp.GetMapValue(v0, v6, v2.iterator) } if v4 != nil { return nil, fmt.Errorf(\"…\", v5, v4) } v1[v5] = v3 }",
    "return v1, nil"] := rfl

/-- `ExecTemplateFuncWithVariables`: every argument is looked up as a path, an ERROR falls back to the text
(model `resolveArgs`), then the function is called (`callTplFn`) -/
theorem execTemplateFunc_eq : Gen.RespGuard.execTemplateFunc = [
    "v0 := make([]any, len(v1))",
    "for v2 := range v1 { v3, v4 := mp.GetMapValue(v5, v1[v2], v6) if v4 == nil { v0[v2] = v3 } else { v0[v2] = v1[v2] } }",
    "switch exec := v7.(type) { case func() (string, error): return v8() case func(v9 ...any) (string, error): return v10(v0...) }",
    "return \"\", ErrUnsupportedFunctionType"] := rfl

/-- `RandString(args...)` (model `callRandString`) -/
theorem tplRandStringArgs_eq : Gen.RespGuard.tplRandStringArgs = [
    "switch len(v0) { case 0: return randString(0, \"\") case 1: return randString(v0[0], \"\") case 2: return randString(v0[0], str.FormatString(v0[1])) default: return \"\", fmt.Errorf(\"…\", len(v0)) }"] := rfl

/-- `randString`: unparsable ⇒ error, 0 ⇒ 1, negative ⇒ error, ABOVE `maxRandStringLength` ⇒ error, and only then
`str.RandStringRunes` (model `randString (some maxRandStringLength)`) -/
theorem tplRandString_eq : Gen.RespGuard.tplRandString = [
    "v0, v1 := numbers.ParseInt(v2)",
    "if v1 != nil { return \"\", v1 }",
    "if v0 == 0 { v0 = 1 }",
    "if v0 < 0 { return \"\", fmt.Errorf(\"…\", v0) }",
    "if v0 > maxRandStringLength { return \"\", fmt.Errorf(\"…\", maxRandStringLength, v0) }",
    "return str.RandStringRunes(v0, v3), nil"] := rfl

/-- `RandInt(args...)` (model `callRandInt`) -/
theorem tplRandIntArgs_eq : Gen.RespGuard.tplRandIntArgs = [
    "switch len(v0) { case 0: return randInt(0, 0) case 1: v1, v2 := numbers.ParseInt(v0[0]) if v2 != nil { return \"\", v2 } return randInt(v1, 0) case 2: v3, v4 := numbers.ParseInt(v0[0]) if v4 != nil { return \"\", v4 } v5, v4 := numbers.ParseInt(v0[1]) if v4 != nil { return \"\", v4 } return randInt(v3, v5) default: return \"\", fmt.Errorf(\"…\", len(v0)) }"] := rfl

/-- `randInt(f, t)`: swap, the two special cases, the guard `t-f <= 0` in front of `rand.Int63n(t - f)`
(model `randIntRange`) -/
theorem tplRandIntRange_eq : Gen.RespGuard.tplRandIntRange = [
    "if v0 < v1 { v0, v1 = v1, v0 }",
    "if v1 == 0 && v0 == 0 { v0 = defaultMaxRandValue }",
    "if v0 == v1 { v0 = v1 + defaultMaxRandValue }",
    "if v0-v1 <= 0 { return \"\", fmt.Errorf(\"…\", v1, v0) }",
    "v2 := rand.Int63n(v0 - v1)",
    "v2 += v1",
    "return strconv.FormatInt(v2, 10), nil"] := rfl

/-- `str.RandStringRunes`: `make([]rune, n)` with the caller's `n` (model `goMakeRunes`), letters never empty -/
theorem strRandStringRunes_eq : Gen.RespGuard.strRandStringRunes = [
    "if len(v0) == 0 { v0 = letters }",
    "if v1 < 0 { v1 = 0 }",
    "var v2 = []rune(v0)",
    "v3 := make([]rune, v1)",
    "randSourceMx.Lock()",
    "for v4 := range v3 { v3[v4] = v2[randSource.Intn(len(v2))] }",
    "randSourceMx.Unlock()",
    "return string(v3)"] := rfl

/-- no explicit panic in lib/mp, the preprocessors, the template functions, lib/str/string.go -/
theorem varsExplicitPanics_eq : Gen.RespGuard.varsExplicitPanics = [] := rfl

/-- no type assertion without comma-ok there -/
theorem varsUncheckedAssertions_eq : Gen.RespGuard.varsUncheckedAssertions = [] := rfl

/-- index / slice expressions there (local variables printed as `_`: WHICH variable indexes what is pinned by the
canonical statements above). On response-derived data: the `v[index]` of `extractFromSlice` (bounds:
`calcIndex_in_bounds`). The others index the argument lists of template functions after `switch len(args)` / within
`range args`, configuration text (`segment[...]`: the first `[` stands before the final `]`; `ParseStringFunc`, `parseStr`)
and `b[i]` / `letterRunes[Intn(len)]` within `range b` / a non-empty alphabet. -/
theorem varsIndexings_eq : Gen.RespGuard.varsIndexings = [
    "components/providers/scenario/templater/exec.go|ExecTemplateFuncWithVariables|_[_]",
    "components/providers/scenario/templater/exec.go|ExecTemplateFuncWithVariables|_[_]",
    "components/providers/scenario/templater/exec.go|ExecTemplateFuncWithVariables|_[_]",
    "components/providers/scenario/templater/exec.go|ExecTemplateFuncWithVariables|_[_]",
    "components/providers/scenario/templater/exec.go|ExecTemplateFunc|_[_]",
    "components/providers/scenario/templater/exec.go|ExecTemplateFunc|_[_]",
    "components/providers/scenario/templater/func.go|RandInt|_[0]",
    "components/providers/scenario/templater/func.go|RandInt|_[0]",
    "components/providers/scenario/templater/func.go|RandInt|_[1]",
    "components/providers/scenario/templater/func.go|RandString|_[0]",
    "components/providers/scenario/templater/func.go|RandString|_[0]",
    "components/providers/scenario/templater/func.go|RandString|_[1]",
    "components/providers/scenario/templater/func.go|parseStr|_[0]",
    "components/providers/scenario/templater/func.go|parseStr|_[0]",
    "components/providers/scenario/templater/func.go|parseStr|_[1:]",
    "components/providers/scenario/templater/func.go|parseStr|_[_]",
    "components/providers/scenario/templater/func.go|parseStr|_[_]",
    "lib/mp/map.go|GetMapValue|_[:_]",
    "lib/mp/map.go|GetMapValue|_[_+1 : len(_)-1]",
    "lib/mp/map.go|extractFromSlice|_[_]",
    "lib/mp/map.go|extractFromSlice|_[_]",
    "lib/mp/map.go|extractFromSlice|_[_]",
    "lib/mp/map.go|extractFromSlice|_[_]",
    "lib/mp/map.go|extractFromSlice|_[_]",
    "lib/mp/map.go|extractFromSlice|_[_]",
    "lib/mp/map.go|extractFromSlice|_[_]",
    "lib/mp/map.go|extractFromSlice|_[_]",
    "lib/str/string.go|ParseStringFunc|_[:_]",
    "lib/str/string.go|ParseStringFunc|_[:_]",
    "lib/str/string.go|ParseStringFunc|_[_+1:]",
    "lib/str/string.go|ParseStringFunc|_[_]",
    "lib/str/string.go|ParseStringFunc|_[_]",
    "lib/str/string.go|RandStringRunes|_[_]",
    "lib/str/string.go|RandStringRunes|_[randSource.Intn(len(_))]"] := rfl

/-- `n.gs` is created by `NewNextIterator` -/
theorem varsMapWritesWithoutMake_eq : Gen.RespGuard.varsMapWritesWithoutMake = [
    "lib/mp/iterator.go|NextIterator.Next|_.gs[_]"] := rfl

/-- the scenario gun buffers the response body whenever the step has a postprocessor (and for answlog / debug logging):
the reader every postprocessor is handed, and which the loop rewinds after each of them, is never nil (model `runPPs`:
postprocessors read the body of the response). A condition that leaves it nil for some list of postprocessors breaks this
lemma; another spelling of the same condition does not. -/
theorem scenarioBodyBuffered_eq (answlog debug hasPostprocessors : Bool) :
    Gen.RespGuard.scenarioBodyBuffered answlog debug hasPostprocessors = (answlog || debug || hasPostprocessors) := by
  cases answlog <;> cases debug <;> cases hasPostprocessors <;> rfl

theorem scenarioBodyBufferedUnknownAtoms_eq : Gen.RespGuard.scenarioBodyBufferedUnknownAtoms = [] := rfl

/-- `ScenarioGun.prepareRequest`: the error of `http.NewRequest` is returned before the request is touched (a URL rendered
from a response-derived variable may be unparsable: the step fails, `StepCfg.prepFails`). Stated as order-free FACTS
about the current source (a literal statement list alarms on a legitimate repair such as 789fa67, which changed what is
done with the headers of a request that exists): what happens to an existing request is free, using it before the error
check or returning it with an error is not (such a change sets `errorCheckedBeforeAnyUse=false`). -/
theorem scenarioPrepareFacts_eq : Gen.RespGuard.scenarioPrepareFacts = [
    "newRequestCalls=1",
    "newRequestAtTopLevel=true",
    "errorCheckedBeforeAnyUse=true",
    "requestUntouchedOnError=true",
    "returnsNilRequestAndAnError=true"] := rfl

/-- the preprocessor block of `shootStep` (model `scenarioStepsV`): the preprocessor's error is the step's error -/
theorem scenarioPreBlock_eq : Gen.RespGuard.scenarioPreBlock = [
    "if v0.Preprocessor != nil { v1, v2 := v0.Preprocessor.Process(v3) if v2 != nil { return fmt.Errorf(\"…\", op, v2) } v4[\"preprocessor\"] = v1 if v5.base.DebugLog { v5.base.GunDeps.Log.Debug(\"Preprocessor variables\", zap.Any(fmt.Sprintf(\".request.%s.preprocessor\", v0.Name), v1)) } }"] := rfl

end Pandora.Bridge.C19
