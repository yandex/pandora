/-
C01 bridge lemmas about the REGENERATED definitions (`Pandora.Gen.Schedule`, rewritten from /repo's current source on
every run):
* `NewLine_sem`   – what `NewLine` computes, in the closed form the theorems speak about (`cum`, `xk` of
  `Proofs/LineMath`). The proof accepts either of the two algebraically equal forms of `lineDoAt`
  (`(√(2ai+b²) − b)·(10⁹/a)` and the cancellation-free `2·10⁹·i / (√(2ai+b²) + b)`); any other arithmetic breaks it.
* `*_valid_iff`   – the predicates regenerated from the `validate` struct tags say exactly "rates ≥ 0, duration ≥ 1 ms,
  step ≥ 1, times ≥ 1".
* `start_fresh`, `next_started`, `left_fresh` – what the regenerated `doAtSchedule` methods do to the regenerated record.
-/
import Pandora.Bridge.Schedule

set_option linter.unusedTactic false
set_option linter.unreachableTactic false
set_option linter.unusedSimpArgs false
set_option linter.unnecessarySeqFocus false

namespace Pandora.Bridge.C01
open Pandora Pandora.Gen.Schedule Pandora.Bridge.Schedule Pandora.Proofs.LineMath

/-- `NewLine from to D` for `from ≠ to`: the count is the truncated integral over the whole duration; operation `k`
(as long as the integral reaches `k` at all) is at the ns-truncation of `xk`, the closed-form instant. -/
theorem NewLine_sem (f t : ℝ) (D : ℤ) (h : f ≠ t) (hc : Cfg (slope f t D) f (secs D)) :
    ∃ at_ : ℤ → ℤ, NewLine f t D = Sched.doAt D (Go.f2i (cum (slope f t D) f (secs D))) at_ ∧
      ∀ k : ℤ, 0 ≤ k → (k : ℝ) ≤ cum (slope f t D) f (secs D) →
        at_ k = Go.f2i (xk (slope f t D) f (k : ℝ) * 1000000000) := by
  -- `NewLine` and the closure builder `lineDoAt` are unfolded TOGETHER: how the slope, 2a or b² travel from the one to
  -- the other (which of them is a parameter, which is recomputed) is not part of the statement
  unfold NewLine lineDoAt
  schedule_aux_unfold
  try simp only [h, h.symm, if_false]      -- the `from == to` shortcut, if the source has one
  try simp only [f2i_cast_f2i]
  refine ⟨_, congrArg₂ (Sched.doAt D) ?_ rfl, ?_⟩
  · -- count and slope up to commutative-ring identities, or (the duration is not zero) field identities such as
    -- a·xn²/2 + b·xn = (from + to)·xn/2
    have hD : (D:ℝ) ≠ 0 := by
      have := hc.s_pos
      unfold secs at this
      intro h0; rw [h0] at this; simp at this
    congr 1
    first
    | (unfold cum slope secs; ring1)
    | (unfold cum slope secs; field_simp; ring1)
  · intro k hk0 hk
    have hk0' : (0:ℝ) ≤ (k:ℝ) := by exact_mod_cast hk0
    first
    | -- cancellation-free form with the `i == 0` guard
      (try beta_reduce
       split_ifs with h0
       · subst h0
         rw [Int.cast_zero, xk_zero hc]; simp [Go.f2i]
       · rw [← xk2_eq_xk hc hk0' hk]
         congr 1
         unfold xk2 slope secs
         ring_nf
         done)
    | -- the textbook form
      (try beta_reduce
       unfold xk slope secs
       congr 1
       ring_nf
       done)

theorem ConstConfig_valid_iff (ops : ℝ) (D : ℤ) : ConstConfig_valid ops D ↔ (0 ≤ ops ∧ 1000000 ≤ D) := by
  unfold ConstConfig_valid; schedule_timeval_unfold; first | done | (constructor <;> (intro h; simpa using h))

theorem LineConfig_valid_iff (f t : ℝ) (D : ℤ) : LineConfig_valid f t D ↔ (0 ≤ f ∧ 0 ≤ t ∧ 1000000 ≤ D) := by
  unfold LineConfig_valid; schedule_timeval_unfold; first | done | (constructor <;> (intro h; simpa using h))

theorem StepConfig_valid_iff (f t : ℝ) (s D : ℤ) :
    StepConfig_valid f t s D ↔ (0 ≤ f ∧ 0 ≤ t ∧ 1 ≤ s ∧ 1000000 ≤ D) := by
  unfold StepConfig_valid; schedule_timeval_unfold; first | done | (constructor <;> (intro h; simpa using h))

theorem OnceConfig_valid_iff (n : ℤ) : OnceConfig_valid n ↔ 1 ≤ n := by
  unfold OnceConfig_valid; schedule_timeval_unfold; first | done | (constructor <;> (intro h; simpa using h))

theorem f2i_intCast (z : ℤ) : Go.f2i ((z : ℤ) : ℝ) = z := by
  unfold Go.f2i
  split_ifs
  · exact Int.floor_intCast _
  · exact Int.ceil_intCast _

/-- a float64 number `v` given for an int64 option (`times`, `step`, a duration as a number of ns — JSON configs carry
every number as a float64) passes the two REGENERATED decode hooks of core/config iff it is an integer of the int64
range. Any spelling of "whole" (`v != math.Trunc(v)`, `math.Floor`, …) and of the range that means this passes. -/
theorem float_for_int64_iff (v : ℝ) :
    (¬ WholeNumberHook_rejects v ∧ NumberRangeHook_fits_float kindBits_Int64 v) ↔
      ∃ z : ℤ, (z : ℝ) = v ∧ -(2:ℤ) ^ 63 ≤ z ∧ z < (2:ℤ) ^ 63 := by
  unfold WholeNumberHook_rejects NumberRangeHook_fits_float kindBits_Int64
  simp only [false_or, or_false, ne_eq, not_not, not_le, not_lt, ge_iff_le, gt_iff_lt, Nat.reduceSub]
  constructor
  · rintro ⟨hw, hr⟩
    have hlo : -(2:ℝ) ^ 63 ≤ v := by first | exact hr.1 | exact hr.2
    have hhi : v < (2:ℝ) ^ 63 := by first | exact hr.2 | exact hr.1
    have key : ∀ z : ℤ, (z : ℝ) = v → ∃ z : ℤ, (z : ℝ) = v ∧ -(2:ℤ) ^ 63 ≤ z ∧ z < (2:ℤ) ^ 63 := by
      intro z hz
      rw [← hz] at hlo hhi
      exact ⟨z, hz, by exact_mod_cast hlo, by exact_mod_cast hhi⟩
    first
    | exact key (Go.f2i v) hw.symm
    | exact key (Go.f2i v) hw
    | exact key ⌊v⌋ hw.symm
    | exact key ⌊v⌋ hw
  · rintro ⟨z, rfl, hlo, hhi⟩
    have h1 : -(2:ℝ) ^ 63 ≤ ((z : ℤ) : ℝ) := by exact_mod_cast hlo
    have h2 : ((z : ℤ) : ℝ) < (2:ℝ) ^ 63 := by exact_mod_cast hhi
    refine ⟨?_, ?_⟩
    · first
      | rw [f2i_intCast]
      | rw [Int.floor_intCast]
    · first
      | exact ⟨h1, h2⟩
      | exact ⟨h2, h1⟩

/-- the leaf a constructor result denotes (`none` for a composite) -/
def leaf? : Sched → Option DoAtSt
  | .doAt D n f => some (NewDoAtSchedule D n f)
  | .composite _ => none

/-- state of a leaf that was started at `t0` and has answered `m` calls of `Next` -/
def startedSt (D n : ℤ) (f : ℤ → ℤ) (t0 : ℤ) (m : ℕ) : DoAtSt :=
  { duration := D, n := n, i := (m : ℤ), doAt := f, started := true, startOnce := true, start := t0 }

theorem start_fresh (D n : ℤ) (f : ℤ → ℤ) (t0 : ℤ) :
    doAtSchedule_Start (NewDoAtSchedule D n f) t0 = Except.ok ((), startedSt D n f t0 0) := by
  simp [doAtSchedule_Start, StartSync_MarkStarted, NewDoAtSchedule, startedSt]

/-- a second `Start` panics -/
theorem start_twice (D n : ℤ) (f : ℤ → ℤ) (t0 t1 : ℤ) (m : ℕ) :
    doAtSchedule_Start (startedSt D n f t0 m) t1 = Except.error "schedule is already started" := by
  simp [doAtSchedule_Start, StartSync_MarkStarted, startedSt]

theorem next_started (D n : ℤ) (f : ℤ → ℤ) (t0 now : ℤ) (m : ℕ) :
    doAtSchedule_Next now (startedSt D n f t0 m) =
      Except.ok ((if n ≤ (m : ℤ) then (t0 + D, false) else (t0 + f (m : ℤ), true)), startedSt D n f t0 (m + 1)) := by
  by_cases hm : n ≤ (m : ℤ) <;> simp [doAtSchedule_Next, startedSt, hm]

/-- a leaf that was never `Start`ed takes the clock reading of its first `Next` as its start -/
theorem next_fresh (D n : ℤ) (f : ℤ → ℤ) (now : ℤ) :
    doAtSchedule_Next now (NewDoAtSchedule D n f) =
      Except.ok ((if n ≤ 0 then (now + D, false) else (now + f 0, true)), startedSt D n f now 1) := by
  by_cases hm : n ≤ 0 <;> simp [doAtSchedule_Next, StartSync_MarkStarted, NewDoAtSchedule, startedSt, hm]

theorem left_fresh (D n : ℤ) (f : ℤ → ℤ) :
    doAtSchedule_Left (NewDoAtSchedule D n f) = Except.ok ((if n < 0 then 0 else n), NewDoAtSchedule D n f) := by
  by_cases hn : n < 0 <;> simp [doAtSchedule_Left, NewDoAtSchedule, hn]

theorem left_started (D n : ℤ) (f : ℤ → ℤ) (t0 : ℤ) (m : ℕ) :
    doAtSchedule_Left (startedSt D n f t0 m) =
      Except.ok ((if n - (m : ℤ) < 0 then 0 else n - (m : ℤ)), startedSt D n f t0 m) := by
  by_cases hn : n - (m : ℤ) < 0 <;> simp [doAtSchedule_Left, startedSt, hn]

end Pandora.Bridge.C01
