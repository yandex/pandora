/-
Bridge lemmas: what the REGENERATED definitions (current /repo source) compute,
in the closed forms the C01 theorems are stated about.  A change of the Go
arithmetic that is not an algebraic identity breaks one of these lemmas.
(The line profile's closed form, the validation predicates and the doAtSchedule state machine are bridged in
`Pandora/Bridge/C01.lean`; this file is also used by C12.)
-/
import Pandora.Gen.Schedule
import Pandora.Proofs.LineMath

set_option linter.unusedTactic false
set_option linter.unreachableTactic false
set_option linter.unusedSimpArgs false

namespace Pandora.Bridge.Schedule
open Pandora Pandora.Gen.Schedule Pandora.Proofs.LineMath

/-- duration in seconds -/
noncomputable def secs (D : ℤ) : ℝ := (D : ℝ) / 1000000000

theorem secs_pos {D : ℤ} (h : 0 < D) : 0 < secs D := by
  unfold secs
  have : (0:ℝ) < (D:ℝ) := by exact_mod_cast h
  positivity

theorem secs_nonneg {D : ℤ} (hD : 0 ≤ D) : 0 ≤ secs D := div_nonneg (Int.cast_nonneg hD) (by norm_num)

theorem secs_mul (D : ℤ) : secs D * 1000000000 = (D : ℝ) := by unfold secs; ring

theorem NewOnce_eq (n : ℤ) : NewOnce n = Sched.doAt 0 n (fun _ => 0) := rfl

/-- `int64(math.Trunc(x))`, `int64(float64(int64(x)))`: truncating twice is truncating once -/
theorem f2i_cast_f2i (x : ℝ) : Go.f2i ((Go.f2i x : ℤ) : ℝ) = Go.f2i x := by
  unfold Go.f2i
  split_ifs with h1 h2 h2
  · exact Int.floor_intCast _
  · exact absurd (by exact_mod_cast Int.floor_nonneg.mpr h1 : (0:ℝ) ≤ ((⌊x⌋ : ℤ) : ℝ)) h2
  · exact Int.floor_intCast _
  · exact Int.ceil_intCast _

theorem NewConst_eq (ops : ℝ) (D : ℤ) (h : 0 ≤ ops) :
    NewConst ops D = Sched.doAt D (Go.f2i (ops * secs D)) (fun i => Go.f2i ((i : ℝ) * (1000000000 / ops))) := by
  unfold NewConst constDoAt secs
  schedule_aux_unfold
  have : ¬ ops < 0 := not_lt.mpr h
  try simp only [this, if_false]
  try simp only [f2i_cast_f2i]
  -- up to commutative-ring identities of the two float expressions (a reordering of factors is not a change)
  all_goals
    refine congrArg₂ (Sched.doAt D) ?_ ?_
    · congr 1 <;> ring
    · funext i; congr 1 <;> ring

/-- slope of the line profile, operations per second² -/
noncomputable def slope (f t : ℝ) (D : ℤ) : ℝ := (t - f) / secs D

/-- a flat line IS the const profile of the same rate. Either the source says so (`if from == to { return NewConst(…) }`)
or — the shortcut is not needed with the cancellation-free form of `lineDoAt` — the line formula with slope 0 computes
the same count and the same instants: √(b²) = b, 2·10⁹·i/(b + b) = i·(10⁹/b), and for b = 0 both are 0 (Go: no operation
at all, n = 0). -/
theorem NewLine_flat (f : ℝ) (D : ℤ) (hf : 0 ≤ f) : NewLine f f D = NewConst f D := by
  first
  | (unfold NewLine; schedule_aux_unfold; simp; done)
  | (rw [NewConst_eq f D hf]
     unfold NewLine lineDoAt secs
     schedule_aux_unfold
     try simp only [f2i_cast_f2i]
     refine congrArg₂ (Sched.doAt D) ?_ ?_
     · congr 1
       simp only [sub_self, zero_div, zero_mul, mul_zero, zero_add]
       try ring
     · funext i
       simp only [sub_self, zero_div, zero_mul, mul_zero, zero_add]
       have hsq : Real.sqrt (f * f) = f := Real.sqrt_mul_self hf
       have hsq2 : Real.sqrt (f ^ 2) = f := Real.sqrt_sq hf
       try simp only [hsq, hsq2]
       split_ifs with h0
       · subst h0; simp [Go.f2i]
       · congr 1
         rcases eq_or_ne f 0 with hf0 | hf0
         · subst hf0; simp
         · field_simp
           ring)

theorem NewStep_flat (f : ℝ) (s D : ℤ) : NewStep f f s D = NewConst f D := by
  unfold NewStep; schedule_aux_unfold; simp

theorem NewStep_eq (f t : ℝ) (s D : ℤ) (h : f ≠ t) :
    NewStep f t s D = Sched.composite ((Go.loopLE f t (s : ℝ)).map (fun r => NewConst r D)) := by
  unfold NewStep
  schedule_aux_unfold
  simp only [h, h.symm, if_false, List.nil_append]
  congr 1
  induction (Go.loopLE f t (s:ℝ)) with
  | nil => rfl
  | cons x xs ih => simp [List.flatMap_cons, ih]

theorem NewInstanceStep_eq (f t s D : ℤ) :
    NewInstanceStep f t s D = Sched.composite
      (NewOnce f :: (Go.loopLEInt (f + s) t s).flatMap (fun _ => [NewConst 0 D, NewOnce s])) := by
  unfold NewInstanceStep
  simp

end Pandora.Bridge.Schedule
