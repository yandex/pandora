/-
Bridge lemmas for C06: what the REGENERATED tables of `Pandora.Gen.Phout` (current /repo source of
core/aggregator/netsample) say, against the model the C06 theorems are stated about. A change of the
field-index constants, of a setter, of the statement sequence of `appendPhout`, of a constant or of the
shape of `appendTimestamp`, or of the line terminator breaks one of these lemmas.
-/
import Pandora.Gen.Phout
import Pandora.Proofs.C06Phout

namespace Pandora.Bridge.Phout
open Pandora.Model.Phout

def lookupS (k : String) (tbl : List (String × String)) : Option String :=
  (tbl.find? (fun e => e.1 == k)).map (·.2)

/-- the index constants are exactly 0 … 9 -/
theorem fieldKeys_indices : Gen.Phout.fieldKeys.map (·.2) = List.range 10 := by decide

theorem fieldsNum_eq : Gen.Phout.fieldsNum = fieldsNum ∧ Gen.Phout.fieldsArrayLen = fieldsNum := by decide

/-- the regenerated index constants, in index order and read through `keyMeaning`, give the column
order of the model, which is the documented phout order -/
theorem field_order :
    Gen.Phout.fieldKeys.map (fun kv => lookupS kv.1 keyMeaning) = modelOrder.map some ∧
    modelOrder = documentedOrder := by
  constructor
  · simp [Gen.Phout.fieldKeys, lookupS, keyMeaning, modelOrder]
  · rfl

/-- every regenerated setter writes the index constant of the column its name documents -/
theorem setters_ok :
    Gen.Phout.setters.all (fun mk =>
      match lookupS mk.1 setterMeaning with
      | some col => lookupS mk.2 keyMeaning == some col
      | none => false) = true := by
  simp [Gen.Phout.setters, lookupS, setterMeaning, keyMeaning]

/-- and every setter the model knows about still exists -/
theorem setters_cover :
    setterMeaning.all (fun mc => Gen.Phout.setters.any (fun mk => mk.1 == mc.1)) = true := by
  simp [Gen.Phout.setters, setterMeaning]

/-- the loop over the fields, for any list of values -/
theorem runFor_fields (s : Sample) (vs : List Int) :
    runFor s [.byte 9, .intVar 10] vs = some (vs.flatMap fun v => TAB :: intBytes v) := by
  induction vs with
  | nil => rfl
  | cons v vs ih => simp [runFor, runAtoms, Atom.run, ih, TAB]

/-- `appendPhout`, statement by statement, is the model's `encodeBody` -/
theorem appendPhout_eq (s : Sample) (withId : Bool) :
    runStmts s withId Gen.Phout.appendPhoutStmts = encodeBody s withId := by
  have hid : (if withId then runAtoms s 0 [.byte 35, .intId 10] else some []) = some (idPart s withId) := by
    cases withId <;> simp [runAtoms, Atom.run, idPart, HASH]
  simp only [Gen.Phout.appendPhoutStmts, runStmts, Stmt.run, hid, Atom.run, runFor_fields, encodeBody, fieldsPart]
  cases appendTimestamp s.ms <;> simp [TAB]

theorem timestamp_consts :
    Gen.Phout.tsDivisor = tsDivisor ∧ Gen.Phout.tsBase = 10 ∧ Gen.Phout.tsDotFromEnd = dotFromEnd ∧
    UInt8.ofNat Gen.Phout.tsDotByte = DOT ∧ Gen.Phout.tsShiftLoop = true := by decide

theorem lineTerminator_eq : UInt8.ofNat Gen.Phout.lineTerminator = LF := by decide

end Pandora.Bridge.Phout
