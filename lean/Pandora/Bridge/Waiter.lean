/-
Bridge lemmas for C04: the definitions REGENERATED from the current /repo source (`Pandora.Gen.Waiter`, rewritten by
`gen -area waiter` on every check) compute what the hand-written model (`Pandora.Model.C04`) computes.  The property
theorems are stated about the model; a change of `Waiter.Wait`, `IsSlowDown`, `MaxOverdueDuration`, the discard code /
tag, `DiscardedShootSample` or of the fire/discard `if` in `instance.Run` that is not an identity breaks a lemma here.

`Wait_eq` is stated against the REPAIRED `Wait` (`Model.C04.wait`, /repo commit 1006bde): it does not hold of the code as it was
found, whose regenerated `Wait` equals `Model.C04.waitOld` (lateness judged against the cached reading).
`iteration_eq` ties the whole pass of the loop of `instance.Run` (order Acquire → Wait → IsSlowDown → Shoot | Report),
`IsFinished_eq` the loop head, `cliPoolDiscardOverflow_eq` + `cli_default_wiring` the default of `discard_overflow`.
-/
import Pandora.Gen.Waiter
import Pandora.Model.C04
import Pandora.Model.C04Ext

namespace Pandora.Bridge.Waiter
open Pandora.Go.C04 Pandora.Model.C04

theorem MaxOverdueDuration_eq : Gen.Waiter.MaxOverdueDuration = maxOverdue := rfl
theorem DiscardedShootCodeError_eq : Gen.Waiter.DiscardedShootCodeError = discardNetCode := rfl
theorem DiscardedShootTag_eq : Gen.Waiter.DiscardedShootTag = discardTag := rfl
theorem DiscardedShootSample_eq : Gen.Waiter.DiscardedShootSample = discardedShootSample := rfl

/-- the regenerated `(*Waiter).Wait` is the repaired model `wait` (state and result) -/
theorem Wait_eq (w : Waiter) (e : Env) : Gen.Waiter.Wait w e = ((wait w e).w, (wait w e).ok) := by
  unfold Gen.Waiter.Wait wait waitV
  by_cases hc : e.ctxDone = true
  · simp [hc]
  · cases htok : e.tok with
    | none => simp [hc]
    | some next =>
      simp only [hc]
      by_cases h1 : timeSub next w.lastNow ≤ 0
      · simp [h1]
      · by_cases h2 : timeSub next e.now ≤ 0
        · simp [h1, h2]
        · by_cases h3 : e.timerWins = true <;> simp [h1, h2, h3]

/-- the timer is armed for exactly `waitFor = next - now` (the "timer does not fire early" hypothesis of the theorems is
about a timer of that duration) -/
theorem timerArmedFor_eq (waitFor : Int) : Gen.Waiter.timerArmedFor waitFor = waitFor := rfl

theorem IsSlowDown_eq (w : Waiter) (c : Bool) : Gen.Waiter.IsSlowDown w c = isSlowDown w c := by
  unfold Gen.Waiter.IsSlowDown isSlowDown slowCond
  rw [MaxOverdueDuration_eq]

theorem fires_eq (d s : Bool) : Gen.Waiter.fires d s = fires d s := rfl

/-- the fire branch of `instance.Run` calls `gun.Shoot`; the discard branch is exactly one Report of
`DiscardedShootSample()` and contains no Shoot -/
theorem fireBranch_shoots : "i.gun.Shoot(ammo)" ∈ Gen.Waiter.fireBranch := by decide
theorem discardBranch_eq :
    Gen.Waiter.discardBranch = ["i.aggregator.Report(netsample.DiscardedShootSample())"] := rfl

theorem IsFinished_eq (c : Bool) (left : Int) : Gen.Waiter.IsFinished c left = isFinished c left := by
  unfold Gen.Waiter.IsFinished isFinished
  cases c
  · by_cases h : left = 0 <;> simp [h]
  · simp

/-- the regenerated pass of the loop of `(*instance).Run` (Acquire, Wait, IsSlowDown AFTER Wait, Shoot | Report) is the
model's `iteration` with the repaired `Wait`, hence `runLoop .fresh` is what `Run` does pass after pass (`runLoop_cons`) -/
theorem iteration_eq (d : Bool) (w : Waiter) (it : Iter) :
    Gen.Waiter.iteration d w it = iteration .fresh d w it := by
  unfold Gen.Waiter.iteration iteration
  simp only [Wait_eq, IsSlowDown_eq, DiscardedShootSample_eq, wait, fires]
  by_cases hf : it.finished = true
  · simp [hf]
  · by_cases ha : it.ammoOk = true
    · by_cases hk : (waitV .fresh w it.env).ok = true
      · simp [hf, ha, hk]
      · simp [hf, ha, hk]
    · simp [hf, ha]

/-- cli/cli.go `readConfig` + core/engine: a pool section without `discard_overflow` runs with `discardOverflow = true`:
the default is put under the very key the pool option is decoded from, into the `pools` list that is decoded afterwards,
and the instances' `discardOverflow` is copied from that option and written nowhere else. -/
theorem cliPoolDiscardOverflow_eq (g : Option Bool) : Gen.Waiter.cliPoolDiscardOverflow g = effectiveDiscard g := by
  cases g <;> rfl

theorem cli_default_wiring :
    Gen.Waiter.cliDefaultLookupKey = Gen.Waiter.poolConfigDiscardKey ∧
    Gen.Waiter.cliDefaultPutKey = Gen.Waiter.poolConfigDiscardKey ∧
    Gen.Waiter.poolConfigDiscardKey = "discard_overflow" ∧
    Gen.Waiter.cliPoolsGetKey = "pools" ∧ Gen.Waiter.cliPoolsSetKey = "pools" ∧
    Gen.Waiter.cliDecodesAfterDefault = true ∧
    (Gen.Waiter.instanceDiscardFrom ≠ [] ∧ ∀ x ∈ Gen.Waiter.instanceDiscardFrom, x = "InstancePoolConfig.DiscardOverflow") ∧
    Gen.Waiter.discardFieldAssignments = 0 := by decide

/-- docs/eng/best_practices/discard-overflow.md (regenerated `doc*` facts) promises what the source does: the only option it
names is the config key of `InstancePoolConfig.DiscardOverflow`, the default it states is the one `readConfig` applies, every net
code / tag / window length it mentions is `DiscardedShootCodeError` / `DiscardedShootTag` / `MaxOverdueDuration` (in seconds). -/
theorem doc_agrees :
    Gen.Waiter.docOptionKeys = [Gen.Waiter.poolConfigDiscardKey] ∧
    Gen.Waiter.docDefault = Gen.Waiter.cliPoolDiscardOverflow none ∧
    Gen.Waiter.docNetCodes ≠ [] ∧ (∀ c ∈ Gen.Waiter.docNetCodes, c = Gen.Waiter.DiscardedShootCodeError) ∧
    Gen.Waiter.docTags ≠ [] ∧ (∀ t ∈ Gen.Waiter.docTags, t = Gen.Waiter.DiscardedShootTag) ∧
    Gen.Waiter.docWindowSeconds ≠ [] ∧
    (∀ n ∈ Gen.Waiter.docWindowSeconds, n * 1000000000 = Gen.Waiter.MaxOverdueDuration) := by decide

/-- core/engine `buildNewInstanceSchedule` + `newInstance`: with `rps-per-instance` every instance's Waiter runs over its own
schedule, otherwise all of them over ONE schedule created once (wrapped only by the finish callback, which passes `Next`/`Left`
through); the instance's schedule is the one that function returned. -/
theorem scheduleKind_eq (perInstance : Bool) : Gen.Waiter.scheduleKind perInstance = scheduleKind perInstance := by
  cases perInstance <;> rfl

theorem schedule_wiring :
    (∀ w ∈ Gen.Waiter.sharedScheduleWrappers, w = "coreutil.NewCallbackOnFinishSchedule") ∧
    Gen.Waiter.instanceScheduleFrom = "deps.newSchedule()" := by decide

/-- the default block of `readConfig` runs for every config (its only condition is the type assertion of the `pools` list) and for
every pool section (no condition around the per-section lookup): not for some formats, sources or positions only -/
theorem cli_default_unconditional :
    Gen.Waiter.cliDefaultGuard = "type-assertion-only" ∧ Gen.Waiter.cliDefaultInnerGuards = [] := by decide

/-- `readConfig` reads the config (file or standard input) BEFORE the default block looks at its pool sections; every read of
`discardOverflow` in `(*instance).Run` resolves (go/types) to the field the wiring sets, `instanceSharedDeps.discardOverflow` — not to
a field of the same name that shadows it -/
theorem round4_wiring :
    Gen.Waiter.cliReadsConfigBeforeDefault = true ∧
    (Gen.Waiter.runReadsDiscardField ≠ [] ∧
      ∀ x ∈ Gen.Waiter.runReadsDiscardField, x = "instanceSharedDeps.discardOverflow") := by decide

/-- the only wrapper of the shared schedule, `coreutil.callbackOnFinishSchedule`, is transparent: `Next` and `Left` return what the
wrapped schedule's `Next` / `Left` returned, everything else is the embedded schedule's -/
theorem callback_schedule_transparent :
    Gen.Waiter.cbNextTransparent = true ∧ Gen.Waiter.cbLeftTransparent = true ∧ Gen.Waiter.cbEmbedsSchedule = true := by decide

/-! ### the timer, `NewWaiter`, the context of `Run`, the phout line -/

/-- the regenerated `Wait` with the state of `w.timer` threaded through (lazy `NewTimer`, `Reset`, the receive in the final
`select`) is the model's `waitT` -/
theorem WaitT_eq (w : Waiter) (tm : TimerSt) (e : Env) : Gen.Waiter.WaitT w tm e = waitT .fresh w tm e := by
  unfold Gen.Waiter.WaitT waitT TimerSt.arm
  by_cases hc : e.ctxDone = true
  · simp [hc]
  · cases htok : e.tok with
    | none => simp [hc]
    | some next =>
      by_cases h1 : timeSub next w.lastNow ≤ 0 <;> by_cases h2 : timeSub next e.now ≤ 0 <;>
        by_cases h3 : e.timerWins = true <;> simp [hc, h1, h2, h3]

/-- `NewWaiter` sets nothing but the schedule (no timer, zero cached reading, zero overdue: `Waiter.init` and the default `TimerSt`),
and nothing in the package touches a `timer` field except the arming statement and the `case <-w.timer.C` of `Wait` -/
theorem newWaiter_wiring : Gen.Waiter.newWaiterFields = ["sched"] ∧ Gen.Waiter.timerOtherUses = 0 := by decide

/-- every call of the waiter in `(*instance).Run` (`IsFinished`, `Wait`, `IsSlowDown`) gets the context parameter of `Run`, which is
never re-bound: a context that one call saw done is done for every later call (`CtxSticky`, `CtxMono`) -/
theorem run_ctx_wiring : Gen.Waiter.runWaiterCallArgs = [Gen.Waiter.runCtxParam] ∧ Gen.Waiter.runCtxRebound = 0 := by decide

/-- where the phout aggregator prints the net code: the regenerated indices of the `key…` constants are the model's,
`SetUserNet` stores under `keyErrno`, `set` is the plain store, and a line is time stamp, TAB, tags, `#id`, then every field after a TAB -/
theorem phout_wiring :
    Gen.Waiter.phKeyErrno = phKeyErrno ∧ Gen.Waiter.phKeyProtoCode = phKeyProtoCode ∧ Gen.Waiter.phFieldsNum = phFieldsNum ∧
    Gen.Waiter.phSetUserNetKey = "keyErrno" ∧ Gen.Waiter.phSetBody = "s.fields[k] = v" ∧
    Gen.Waiter.phoutLayout = ["timestamp", "TAB", "tags", "#id", "TAB+field*"] := by decide

end Pandora.Bridge.Waiter
