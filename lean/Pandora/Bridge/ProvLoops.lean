/-
Bridge C08: the definitions regenerated from the provider sources (`Pandora.Gen.ProvLoops`, rewritten on every check
run) are the ones the models `Pandora.Model.C08` / `C08Chan` / `C08Mach` use.  A change of a loop guard, of a counter
update, of a `select` branch result, of a sentinel mapping, of a channel capacity, of a deferred close or of the
MultiPassReader's end-of-file rule in the Go source changes the regenerated text and breaks the lemma here.
-/
import Pandora.Gen.ProvLoops
import Pandora.Model.C08Mach
import Pandora.Model.C08Scan
import Pandora.Model.C08Fault
import Pandora.Model.C08Pick
import Pandora.Model.C08Size
import Pandora.Spec.C08

namespace Pandora.Bridge.ProvLoops
open Pandora.Model.C08 Pandora.Gen.ProvLoops

/-! ## channel capacities, Done-branch results, deferred closes -/

theorem chanCap_eq (k : Kind) : k.chanCap =
    match k with
    | .uri | .uripost | .raw | .jsonLines | .jsonArray => chanCapHttp
    | .grpcJson => chanCapGrpc
    | .httpScenario => chanCapHttpScenario
    | .grpcScenario => chanCapGrpcScenario
    | .genericJson => chanCapQueue defaultAmmoQueueSize := by
  cases k <;> rfl

/-- the `case <-ctx.Done()` branch of every send select returns what `doneResOf` says -/
theorem doneRes_eq (k : Kind) : doneResOf k =
    match k with
    | .uri | .uripost | .raw | .jsonLines | .jsonArray => runFullScanDone
    | .grpcJson => grpcDone
    | .httpScenario | .grpcScenario => scenarioRunDone
    | .genericJson => decodeDone := by
  cases k <;> rfl

/-- … with and without preload -/
theorem doneRes_preload : runPreloadedDone = doneResOf .uri ∧ runFullScanDone = doneResOf .uri := ⟨rfl, rfl⟩

/-- every `Run` closes its sink on return (`Sys.next` sets `closed` on `.ret` and on the Done branch) -/
theorem all_close : httpRunCloses = true ∧ scenarioRunCloses = true ∧ grpcRunCloses = true ∧ decodeRunCloses = true :=
  ⟨rfl, rfl, rfl, rfl⟩

/-! ## how `Run` ends: the deferred cleanups, path by path -/

/-- the deferred function of http `Provider.Run`, executed on its six paths (loop result nil / an error × Close
absent / fine / failing), is `Model.C08.finishHttp`: the sink is closed on EVERY path, Close is called when there is
one, its error is reported alone or merged.  Closing the file before the sink gives the same table; a path that
returns before `close(p.Sink)` does not. -/
theorem httpFinish_eq (errNil : Bool) (cl : CloseOut) : httpRunFinish errNil cl = finishHttp errNil cl := by
  cases errNil <;> cases cl <;> rfl

/-- … in particular no path of it leaves the sink open -/
theorem httpFinish_closes (errNil : Bool) (cl : CloseOut) : (httpRunFinish errNil cl).closesSink = true := by
  cases errNil <;> cases cl <;> rfl

/-- the cleanup that closes the sink is registered before anything can leave `Run` (a failing open, a failing
middleware, an empty ammo list), in all four families -/
theorem defers_first :
    httpRunDeferFirst = true ∧ scenarioRunDeferFirst = true ∧ grpcRunDeferFirst = true ∧ decodeRunDeferFirst = true :=
  ⟨rfl, rfl, rfl, rfl⟩

/-- grpc and the generic JSON provider drop the result of closing the ammo file (`Model.C08.finishPlain`: keep) -/
theorem drops_close : grpcRunDropsClose = true ∧ decodeRunDropsClose = true := ⟨rfl, rfl⟩

/-- an I/O error of the ammo file ends the loops that read it with an error handed to `Run`'s caller — the `ioerr`
transition of `Model.C08.FSys` (`result := some .errOther`): grpcjson `start` (scanner.Err(), a failing Seek),
`DecodeProvider.Run` (a Decode error that is not io.EOF); for the four `Scan` loops see `scanBad_eq` -/
theorem ioErr_eq : grpcReadErr = .errOther ∧ grpcSeekErr = .errOther ∧ decodeOnErr = .errOther := ⟨rfl, rfl, rfl⟩

/-- the decoder of the http provider is constructed with Limit = 0 (the provider counts delivered ammo) -/
theorem decoderLimit_eq (l : Nat) : decoderLimit l = 0 := rfl

/-- the sentinel mapping of `Provider.Run` (preloaded path) and of the scenario provider's deferred function -/
theorem httpRunMap_eq (r : RunRes) : httpRunMap r = mapSentinel r := by
  cases r <;> simp [httpRunMap, mapSentinel]

theorem scenarioRunMap_eq (r : RunRes) : scenarioRunMap r = mapSentinel r := by
  cases r <;> simp [scenarioRunMap, mapSentinel]

/-! ## runPreloaded / scenario Run -/

def liftReplay (n : Nat) (m : RunRes → RunRes) : Act (Nat × Nat) → Act (List Nat × Nat)
  | .ret r => .ret (m r)
  | .offer i p => .offer i (List.range n, p.1)
  | .tau p => .tau (List.range n, p.1)

/-- the loop body `runPreloaded` and scenario `Run` share, over the ammo `0 … n-1`, with the sentinel mapping `m` of
the `Run` around it -/
theorem replayStep_lift (m : RunRes → RunRes) (hm : ∀ r, m r = mapSentinel r) (b : Bounds) (c : Bool) (n k : Nat)
    (hn : 0 < n) :
    replayStep b c (List.range n) k = liftReplay n m
      (if c then .ret .canceled
       else if b.passes ≠ 0 ∧ b.passes ≤ k / n then .ret .errPasses
       else if b.limit ≠ 0 ∧ b.limit ≤ k then .ret .errLimit
       else .offer (k % n) (k + 1, k / n)) := by
  obtain rfl : m = mapSentinel := funext hm
  have hget : (List.range n)[k % n]? = some (k % n) := by simp [Nat.mod_lt _ hn]
  unfold replayStep
  rw [List.length_range, hget]
  cases c
  case true => rfl
  simp only [Bool.false_eq_true, if_false]
  by_cases hp : b.passes ≠ 0 ∧ b.passes ≤ k / n
  · rw [if_pos hp, if_pos hp]; rfl
  rw [if_neg hp, if_neg hp]
  by_cases hl : b.limit ≠ 0 ∧ b.limit ≤ k
  · rw [if_pos hl, if_pos hl]; rfl
  rw [if_neg hl, if_neg hl]; rfl

theorem replayStep_http (b : Bounds) (c : Bool) (n k pn : Nat) (hn : 0 < n) :
    replayStep b c (List.range n) k = liftReplay n httpRunMap (runPreloadedStep b.passes b.limit n c k pn) :=
  replayStep_lift _ httpRunMap_eq b c n k hn

theorem replayStep_scenario (b : Bounds) (c : Bool) (n k pn : Nat) (hn : 0 < n) :
    replayStep b c (List.range n) k = liftReplay n scenarioRunMap (scenarioRunStep b.passes b.limit n c k pn) :=
  replayStep_lift _ scenarioRunMap_eq b c n k hn

/-- an empty ammo list ends `Run` with "no ammo" before the loop (`Model.C08.runPreloaded`, `stepOf … .unloaded`) -/
theorem replayPre_eq (n : Nat) :
    runPreloadedPre n = (if n = 0 then some RunRes.errNoAmmo else none) ∧
    scenarioRunPre n = (if n = 0 then some RunRes.errNoAmmo else none) := ⟨rfl, rfl⟩

/-! ## runFullScan -/

def liftStream {σ : Type} (d' : σ) : Act Nat → Act (σ × Nat)
  | .ret r => .ret r
  | .offer i k => .offer i (d', k)
  | .tau k => .tau (d', k)

theorem streamStep_eq {σ : Type} (scan : σ → ScanRes × σ) (passNum : σ → Nat) (limit : Nat) (c : Bool) (d : σ) (k : Nat) :
    streamStep scan passNum limit c d k =
      liftStream (scan d).2 (runFullScanStep limit c k (passNum d) (scan d).1 true) := by
  unfold streamStep runFullScanStep
  cases c
  · simp only [Bool.false_eq_true, if_false]
    by_cases hl : limit ≠ 0 ∧ limit ≤ k
    · have : limit ≠ 0 ∧ k ≥ limit := hl
      simp [hl, liftStream]
    · have hl' : ¬ (limit ≠ 0 ∧ k ≥ limit) := hl
      rw [if_neg hl, if_neg hl']
      by_cases h0 : k = 0 ∧ 0 < passNum d
      · have : (k = 0 ∧ True) ∧ passNum d > 0 := ⟨⟨h0.1, trivial⟩, h0.2⟩
        simp [h0, liftStream]
      · have h0' : ¬ ((k = 0 ∧ True) ∧ passNum d > 0) := fun h => h0 ⟨h.1.1, h.2⟩
        rw [if_neg h0, if_neg h0']
        rcases hs : scan d with ⟨sr, d'⟩
        cases sr <;> simp [liftStream]
        by_cases hk : k = 0 <;> simp [hk]
  · simp [liftStream]

/-! ## the JSON-array decoder -/

theorem scanArr_eq (l passes n : Nat) (d : ArrDec) :
    scanArr ⟨decoderLimit l, passes⟩ n d =
      ((scanAmmosStep passes n d.ammoNum d.passNum).1,
       ⟨(scanAmmosStep passes n d.ammoNum d.passNum).2.1, (scanAmmosStep passes n d.ammoNum d.passNum).2.2⟩) := by
  unfold scanArr scanAmmosStep decoderLimit
  rw [if_neg (fun h => h.1 rfl)]
  by_cases hn : n = 0
  · simp only [hn, if_true]
  simp only [hn, if_false, ge_iff_le]
  by_cases hp : passes ≠ 0 ∧ passes ≤ d.passNum
  · simp only [hp, and_self, if_true, ne_eq, not_false_eq_true]
  -- the last entry of a pass: `i = n - 1` in the model, `i + 1 = len` in the source
  have hi : (d.ammoNum % n = n - 1) = (d.ammoNum % n + 1 = n) := propext (by omega)
  simp only [if_neg hp, hi]

/-! ## grpc/json -/

theorem grpcStep_eq (b : Bounds) (n : Nat) (s : GrpcSt) :
    grpcStep b n s =
      if s.pos < n ∧ grpcInnerCond b.limit s.ammoNum then
        (match grpcInnerStep s.ammoNum true with
         | .offer _ a' => .offer s.pos { s with pos := s.pos + 1, ammoNum := a' }
         | .tau a' => .tau { s with pos := s.pos + 1, ammoNum := a' }
         | .ret r => .ret r)
      else match grpcAfterPass b.limit b.passes s.ammoNum s.passNum with
        | some r => .ret r
        | none => .tau { s with passNum := s.passNum + 1, pos := 0 } := by
  unfold grpcStep grpcInnerCond grpcInnerStep grpcAfterPass
  simp only [ge_iff_le, not_true_eq_false, if_false]
  -- the same tests in the same order on both sides: the inner loop's guard, then the three checks after a pass
  by_cases h1 : s.pos < n ∧ (b.limit = 0 ∨ s.ammoNum < b.limit)
  · rw [if_pos h1, if_pos h1]
  rw [if_neg h1, if_neg h1]
  by_cases h2 : b.limit ≠ 0 ∧ b.limit ≤ s.ammoNum
  · rw [if_pos h2, if_pos h2]
  rw [if_neg h2, if_neg h2]
  by_cases h3 : b.passes ≠ 0 ∧ b.passes ≤ s.passNum
  · rw [if_pos h3, if_pos h3]
  rw [if_neg h3, if_neg h3]
  by_cases h4 : s.ammoNum = 0
  · rw [if_pos h4, if_pos h4]
  rw [if_neg h4, if_neg h4]

/-- `grpcLoop` of Model.C08 starts with passNum = 1: the outer loop begins with `passNum++` -/
theorem grpcInit_eq : GrpcSt.init.passNum = 0 + 1 ∧ GrpcSt.init.ammoNum = 0 := ⟨rfl, rfl⟩

/-! ## the generic JSON provider over MultiPassReader -/

instance (n a ps : Nat) : Decidable (mprFruitless (n = 0) True (decodeProgress a ps)) := by
  unfold mprFruitless; exact inferInstance

/-- the reader with its fruitless-pass rule (`Model.C08Mach.decodeNextNow`): bypass for passes = 1, the fruitless-pass rule with the
progress function of `DecodeProvider.Run` (always set there: `True`; nothing read in a pass ⇔ the file has no entry),
then the rewind condition -/
theorem decodeNextNow_eq (passes n a fuel : Nat) (r : Mpr) (ps : Nat) :
    decodeNextNow passes n a (fuel + 1) r ps =
      if r.pos < n then (.entry r.pos, { r with pos := r.pos + 1 }, ps)
      else if mprBypass passes then (.eof, r, ps)
      else if mprFruitless (n = 0) True (decodeProgress a ps) then (.eof, { r with passesCount := r.passesCount + 1 }, a)
      else if mprRewind passes r.passesCount then decodeNextNow passes n a fuel { pos := 0, passesCount := r.passesCount + 1 } a
      else (.eof, { r with passesCount := r.passesCount + 1 }, a) := by
  unfold mprBypass mprRewind mprFruitless decodeProgress
  simp only [decodeNextNow, Nat.le_zero_eq, true_and]

/-- the reader of the sequential model `Model.C08.decodeNext` (no fruitless-pass rule: unreachable for n ≥ 1, where
every pass decodes an ammo) uses the same bypass and rewind conditions -/
theorem decodeNext_eq (passes n fuel : Nat) (r : Mpr) :
    decodeNext passes n (fuel + 1) r =
      if r.pos < n then (.entry r.pos, { r with pos := r.pos + 1 })
      else if mprBypass passes then (.eof, r)
      else if mprRewind passes r.passesCount then decodeNext passes n fuel { pos := 0, passesCount := r.passesCount + 1 }
      else (.eof, { r with passesCount := r.passesCount + 1 }) := by
  unfold mprBypass mprRewind
  simp only [decodeNext, Nat.le_zero_eq]

theorem genStep_eq (b : Bounds) (n a : Nat) (r : Mpr) (ps : Nat) :
    genStep b n a r ps =
      if ¬ decodeCond b.limit a then .ret .nil
      else match decodeNextNow b.passes n a 2 r ps with
        | (.eof, _, _) => (match decodeOnEOF with | .ret x => .ret x | .offer i k => .offer i (k, r, ps) | .tau k => .tau (k, r, ps))
        | (.spin, _, _) => .tau (a, r, ps)
        | (.entry i, r', ps') => (match decodeStep a with | .ret x => .ret x | .offer _ k => .offer i (k, r', ps') | .tau k => .tau (k, r', ps')) := by
  unfold genStep decodeCond decodeOnEOF decodeStep
  by_cases h : b.limit = 0 ∨ a < b.limit
  · have h' : b.limit ≤ 0 ∨ a < b.limit := h.imp (by omega) id
    simp only [h, h', not_true_eq_false, if_false]
    split <;> simp_all
  · have h' : ¬ (b.limit ≤ 0 ∨ a < b.limit) := fun x => h (x.imp (by omega) id)
    simp [h]

/-! ## the reading loops of the `Scan` methods, LoadAmmo

`Model.C08Scan.roundEof` / `roundTop` are the round functions `Proofs/C08Scan.lean` is about (`src_lines`: the
line-level decoder is the abstract cyclic source of every provider theorem).  The proofs go through all outcomes of the
read and all branches, so the order of independent statements in the Go loops does not matter. -/

theorem uriScanRound_eq (passes : Nat) (c : Bool) (rd : Rd) (a p : Nat) :
    uriScanRound passes c rd a p = roundEof passes c rd a p := by
  unfold uriScanRound roundEof
  cases rd <;> cases c <;> (try simp) <;> (repeat' split) <;> (try simp_all) <;> (try omega)

theorem rawScanRound_eq (passes : Nat) (c : Bool) (rd : Rd) (a p : Nat) :
    rawScanRound passes c rd a p = roundEof passes c rd a p := by
  unfold rawScanRound roundEof
  cases rd <;> cases c <;> (try simp) <;> (repeat' split) <;> (try simp_all) <;> (try omega)

theorem uripostScanRound_eq (passes : Nat) (c : Bool) (rd : Rd) (a p : Nat) :
    uripostScanRound passes c rd a p = roundEof passes c rd a p := by
  unfold uripostScanRound roundEof
  cases rd <;> cases c <;> (try simp) <;> (repeat' split) <;> (try simp_all) <;> (try omega)

theorem jsonlScanRound_eq (passes : Nat) (c : Bool) (rd : Rd) (a p : Nat) :
    jsonlScanRound passes c rd a p = roundTop passes c rd a p := by
  unfold jsonlScanRound roundTop
  cases rd <;> (try simp) <;> (repeat' split) <;> (try simp_all) <;> (try omega)

/-- the round function of every stream decoder kind -/
theorem roundOf_eq (k : Kind) : roundOf (styleOf k) =
    match k with
    | .uripost => uripostScanRound
    | .raw => rawScanRound
    | .jsonLines => jsonlScanRound
    | _ => uriScanRound := by
  funext passes c rd a p
  cases k <;> simp [styleOf, roundOf, uriScanRound_eq, rawScanRound_eq, uripostScanRound_eq, jsonlScanRound_eq]

/-- a read of the ammo file that fails (`Rd.bad`) ends `Scan` of every stream decoder with that error (json lines:
unless the pass bound was reached before the read) -/
theorem scanBad_eq (passes a p : Nat) :
    uriScanRound passes false .bad a p = .ret .failed a p ∧ rawScanRound passes false .bad a p = .ret .failed a p ∧
    uripostScanRound passes false .bad a p = .ret .failed a p ∧
    jsonlScanRound passes false .bad a p = (if passes ≠ 0 ∧ passes ≤ p then .ret .errPass a p else .ret .failed a p) := by
  refine ⟨rfl, rfl, rfl, ?_⟩
  unfold jsonlScanRound
  by_cases h : passes ≠ 0 ∧ passes ≤ p
  · have h' : passes ≠ 0 ∧ p ≥ passes := h
    simp [h]
  · have h' : ¬ (passes ≠ 0 ∧ p ≥ passes) := h
    simp only [if_neg h]

/-- uripost.go's outer loop allows as many rewinds per call as the model, and ends like it -/
theorem scanWraps_eq : scanWraps = uripostScanWraps ∧ uripostScanExhausted = .unexpected := ⟨rfl, rfl⟩

/-- the limit check that opens every `Scan` is the one of `scanFile` / `scanStream` -/
theorem scanLimit_eq (limit a : Nat) :
    (uriScanLimit limit a ↔ (limit ≠ 0 ∧ limit ≤ a)) ∧ (rawScanLimit limit a ↔ (limit ≠ 0 ∧ limit ≤ a)) ∧
    (uripostScanLimit limit a ↔ (limit ≠ 0 ∧ limit ≤ a)) ∧ (jsonlScanLimit limit a ↔ (limit ≠ 0 ∧ limit ≤ a)) := by
  unfold uriScanLimit rawScanLimit uripostScanLimit jsonlScanLimit
  refine ⟨?_, ?_, ?_, ?_⟩ <;> constructor <;> intro h <;> exact ⟨h.1, h.2⟩

/-- `LoadAmmo` scans with Passes = 1, Limit = 0 (`loadLines`, `Model.C08.loadAmmo`: `scan ⟨0, 1⟩`; whether the configured
bounds are restored afterwards does not matter: the preloading provider never scans again), keeps an ammo exactly when
the scan returned one and goes on exactly while the scan returned no error (`Scan` returns an ammo ⇔ it returns no
error ⇔ `SRes.ammo`), and hands every error on but ErrPassLimit -/
theorem loadAmmo_eq (passes limit : Nat) (r : SRes) :
    (⟨loadAmmoLimit limit, loadAmmoPasses passes⟩ : Bounds) = ⟨0, 1⟩ ∧
    loadStepOf r = ⟨loadAmmoKeeps (decide (r = .ammo)) (decide (r = .ammo)), loadAmmoGoesOn (decide (r = .ammo))⟩ ∧
    loadResOf r = loadAmmoMap r := by
  refine ⟨rfl, ?_, rfl⟩
  cases r <;> simp [loadStepOf, loadAmmoKeeps, loadAmmoGoesOn]

/-- `Provider.loadAmmo`: a failed LoadAmmo ends `Run` with the context's own error exactly when the context is
cancelled and that is what ended the load (`Model.C08Mach.stepOf … .unloaded`: `.ret .canceled`); every other failure is
wrapped (class kept) — and no ammo is dropped without a ChosenCases filter -/
theorem httpLoadFail_eq (c : Bool) (e : SRes) :
    (httpLoadFail c e = .canceled ↔ httpLoadCtxErr (c = true) (e = .canceled)) ∧ httpLoadWraps = true ∧
    (httpLoadKeeps True ↔ True) := by
  refine ⟨?_, rfl, by simp [httpLoadKeeps]⟩
  unfold httpLoadFail httpLoadCtxErr
  cases c <;> cases e <;> simp

/-! ## Acquire -/

/-- `Acquire` of every provider family is a plain blocking receive from the sink that reports the end of ammo exactly
when the receive reports the closed, drained channel — the consumer transitions of `Sys.next`: `hand` / `recv` complete
an Acquire with an ammo, `eoa` (enabled only when `closed ∧ buf = []`) with ok=false, nothing else does -/
theorem acquire_eq :
    (acquireHttpBlocks && acquireHttpEndOnClosed && acquireHttpEndOnlyOnClosed &&
     acquireScenarioBlocks && acquireScenarioEndOnClosed && acquireScenarioEndOnlyOnClosed &&
     acquireGrpcBlocks && acquireGrpcEndOnClosed && acquireGrpcEndOnlyOnClosed &&
     acquireQueueBlocks && acquireQueueEndOnClosed && acquireQueueEndOnlyOnClosed) = true ∧
    (∀ (inp : Input) (n cap cons : Nat) (s s' : Sys) (c : Nat), s.next inp n cap cons (.eoa c) = some s' →
      s.closed = true ∧ s.buf = []) := by
  refine ⟨rfl, ?_⟩
  intro inp n cap cons s s' c h
  simp only [Sys.next] at h
  split at h
  · rename_i hc; exact ⟨hc.1, hc.2.1⟩
  · cases h

/-! ## the engine's reaction to the provider's result -/

/-- `Model.C08.poolFailsOnProvider` is awaitRun's provider case over errutil.IsCtxError: nil never fails the pool,
context.Canceled (unwrapped: its Cause is the run context's error exactly when that context is cancelled) fails it
only while the run context is live, every other error does -/
theorem poolFails_eq (r : RunRes) (c : Bool) :
    poolFailsOnProvider r c = true ↔ providerFailsPool (isCtxError (r = .nil) (r = .canceled ∧ c = true)) := by
  unfold providerFailsPool isCtxError
  cases r <;> cases c <;> simp [poolFailsOnProvider]

/-! ## the chosencases filter and the counters -/

/-- an entry the chosencases filter rejects leaves runFullScan's counter alone — the limit counts DELIVERED ammo (the `else`
branch of `Model.C08.fullScan`: the same `out`): whatever else the iteration does (cancel, limit reached, a complete pass that
delivered nothing), on a rejected entry it goes round again in the same state.  Counting an entry before the filter looks at
it breaks this. -/
theorem fullScan_rejected (limit k pn i : Nat) (c : Bool) :
    runFullScanStep limit c k pn (ScanRes.ammo i) false =
      if c then Act.ret .canceled
      else if limit ≠ 0 ∧ limit ≤ k then Act.ret .nil
      else if k = 0 ∧ 0 < pn then Act.ret .errNoAmmo
      else Act.tau k := by
  simp only [runFullScanStep, ge_iff_le, gt_iff_lt, and_true, Bool.false_eq_true, not_false_eq_true, if_true]

/-- … and so does the inner loop of grpcjson `start` (`Model.C08.grpcLoop`: a rejected line advances `pos` only) -/
theorem grpcInner_rejected (k : Nat) : grpcInnerStep k false = Act.tau k := by
  unfold grpcInnerStep
  simp

/-- … a chosen one is counted once and offered -/
theorem grpcInner_chosen (k : Nat) : grpcInnerStep k true = Act.offer 0 (k + 1) := by
  unfold grpcInnerStep
  simp

/-! ## data sources of the generic JSON provider -/

/-- what `OpenSource` of every source of core/datasource hands out — classified by go/types from the current source: a value
whose static type has `Seek`, the reader the source was built from as it is, or a value whose `Seek` is hidden — is what
`Model.C08.opensOf` says.  Returning inline data behind `ioutil.NopCloser` (which hides `Seek`) breaks this at `.inline`;
dropping the ReadSeeker branch of `readerSource.OpenSource` at `.readSeeker`. -/
theorem srcOpens_eq (k : SrcKind) : opensOf k =
    match k with
    | .file => srcOpensFile
    | .inline => srcOpensInline
    | .buffer => srcOpensBuffer
    | .readSeekCloser => srcOpensReader true true
    | .readSeeker => srcOpensReader false true
    | .readCloser => srcOpensReader true false
    | .reader => srcOpensReader false false := by
  cases k <;> rfl

/-- `NewMultiPassReader` hands the source itself to the decoder — one pass — exactly when the model's `effPasses` is 1:
`passes: 1`, or a source that cannot `Seek` whatever `passes` says -/
theorem mprOnce_eq (passes : Nat) (hasSeek : Bool) : mprOnce passes hasSeek = true ↔ effPasses hasSeek passes = 1 := by
  unfold mprOnce effPasses
  cases hasSeek <;> simp

/-- … and for a source that can Seek this is the bypass rule the replay model of `MultiPassReader` starts from -/
theorem mprOnce_bypass (passes : Nat) : mprOnce passes true = true ↔ mprBypass passes := by
  unfold mprOnce mprBypass
  simp

/-- `DecodeProvider.Run` gives `NewMultiPassReader` what `OpenSource` returned, as it is (no wrapper in between that could
hide or add a `Seek`) -/
theorem decodeReads_opened : decodeReadsOpened = true := rfl

/-! ## the types of the options -/

/-- `limit` / `passes` of every provider family have the Go type `Model.C08.Kind.boundTy` says — `uint` for the http
formats and the scenario providers (so every value up to 2^64-1 is a valid option value, and `C08_replay_no_wrap` is
about the right machine integers), `int` for grpc/json and the generic JSON provider — and the streaming decoders count
in the type they compare with -/
theorem optTypes_eq :
    (∀ k : Kind, (k.boundTy, k.boundTy) =
      match k with
      | .uri | .uripost | .raw | .jsonLines | .jsonArray => httpOptTy
      | .httpScenario | .grpcScenario => scenarioOptTy
      | .grpcJson => grpcOptTy
      | .genericJson => decodeOptTy) ∧
    httpDecCtrTy = httpOptTy := by
  refine ⟨?_, rfl⟩
  intro k
  cases k <;> rfl

/-! ## the token limit of the line scanners, pass by pass -/

/-- grpc/json: the scanner of EVERY pass is given the configured buffer (`maxammosize`, else bufio.MaxScanTokenSize) — the
regenerated limit (scanner set-up executed over three iterations of the pass loop of `start`) is the one `Model.C08.lineMax`
says, whatever the pass counter.  A set-up hoisted out of the loop with a plain `bufio.NewScanner` after the seek gives
`Model.C08.lineMaxFirstOnly` instead and breaks this. -/
theorem grpcScanMax_eq (mas passNum : Nat) : lineMax .grpcJson mas passNum = some (grpcScanMax mas passNum) := by
  by_cases h : passNum ≤ 1 <;> simp [lineMax, grpcScanMax, tokMax, defaultTok, h]

/-- uri: the scanner newURIDecoder builds and the one `Scan` builds after every seek have no limit below math.MaxInt -/
theorem uriScanMax_eq (mas passNum : Nat) : lineMax .uri mas passNum = some (uriScanMax passNum) := by
  by_cases h : passNum ≤ 1 <;> simp [lineMax, uriScanMax, maxInt, h]

/-! ## option defaults -/

/-- a generic JSON provider whose config mentions neither `limit` nor `passes` gets 0 / 0 — the unbounded cell of the theorems
(`Spec.C08.expected 0 0 n = none`) —, and the registered `type: json` factory starts from exactly that default -/
theorem decodeDefaults_eq : decodeDefaultBounds = (0, 0) ∧ decodeDefaultEmbedded = true ∧
    ∀ n, Spec.C08.expected decodeDefaultBounds.1 decodeDefaultBounds.2 n = none := by
  refine ⟨rfl, rfl, fun n => rfl⟩

end Pandora.Bridge.ProvLoops
