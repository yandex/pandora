/-
C15 bridge: what /verif/gen re-extracted from the CURRENT source (`Pandora/Gen/C15Scen.lean`, area `c15scen`) IS what the
model says — so the property theorems of `Props/C15.lean` are re-checked against the code as it is now.

  `nextCode_eq`      the instruction list of `(*NextIterator).Next` is `Model.C15.nextCode`
  `nextIndex_eq`     what `calcIndex` does with the value of `iter.Next` is `rowOf`
  `GCD_eq`           lib/math.GCD  = `Model.C15.GCD`   (same loop, same fuel)
  `GCDM_eq`          lib/math.GCDM = `Model.C15.GCDM`  (recursion over prefixes = recursion over the reversed list)
  `spreadNames_eq`   `Model.C15.spreadNames` computes with the regenerated arithmetic of `config.SpreadNames`
  `refused_eq`       the weights `decodeAmmo` refuses are the negative ones
  `failed_sample_eq` the failed sample of the model carries the regenerated tag `<scenario><sep><step>|__EMPTY__` and code
-/
import Pandora.Gen.C15Scen
import Pandora.Model.C15Lock
import Pandora.Proofs.C15Gcd

namespace Pandora.Bridge.C15Scen
open Pandora.Model.C15 Pandora.Proofs.C15

theorem nextCode_eq : Gen.C15Scen.nextCode = nextCode := by decide

theorem nextIndex_eq (i L : Nat) : Gen.C15Scen.nextIndex (i : Int) (L : Int) = ((rowOf L i : Nat) : Int) := by
  unfold Gen.C15Scen.nextIndex rowOf
  by_cases h : i ≥ L
  · have h' : (i : Int) ≥ (L : Int) := by omega
    simp only [h, h', if_true]
    rw [Int.tmod_eq_emod_of_nonneg (by omega)]
    exact (Int.natCast_emod i L).symm
  · have h' : ¬ (i : Int) ≥ (L : Int) := by omega
    simp only [h, h', if_false]

theorem GCD_loop_eq : ∀ (f : Nat) (a b : Int), Gen.C15Scen.GCD_loop f a b = gcdLoop f a b
  | 0, _, _ => rfl
  | f + 1, a, b => by
    simp only [Gen.C15Scen.GCD_loop, gcdLoop, GCD_loop_eq f]

theorem GCD_eq (a b : Int) : Gen.C15Scen.GCD a b = GCD a b := by
  unfold Gen.C15Scen.GCD GCD
  rw [GCD_loop_eq]
  cases gcdLoop (a.toNat + b.toNat + 1) a b with
  | none => rfl
  | some p =>
    obtain ⟨x, y⟩ := p
    simp only [Option.map]
    split <;> rfl

theorem idx_snoc2_fst (p : List Int) (y x : Int) :
    Gen.C15Scen.idx? (p ++ [y, x]) (((p ++ [y, x]).length : Int) - 2) = some y := by
  simp [Gen.C15Scen.idx?]

theorem idx_snoc2_snd (p : List Int) (y x : Int) :
    Gen.C15Scen.idx? (p ++ [y, x]) (((p ++ [y, x]).length : Int) - 1) = some x := by
  have hl : (((p ++ [y, x]).length : Int) - 1) = ((p.length + 1 : Nat) : Int) := by simp; omega
  rw [hl]
  simp [Gen.C15Scen.idx?]
  omega

theorem slice_snoc2 (p : List Int) (y x : Int) :
    Gen.C15Scen.slice? (p ++ [y, x]) 0 (((p ++ [y, x]).length : Int) - 1) = some (p ++ [y]) := by
  have hl : (((p ++ [y, x]).length : Int) - 1) = ((p.length + 1 : Nat) : Int) := by simp; omega
  rw [hl]
  simp [Gen.C15Scen.slice?, List.take_append]
  exact ⟨by omega, List.take_of_length_le (by omega)⟩

/-- `GCDM` recursing over prefixes is the model's recursion over the reversed list -/
theorem GCDM_rec_eq : ∀ (fuel : Nat) (r : List Int), r.length < fuel →
    Gen.C15Scen.GCDM_rec fuel r.reverse = gcdmRev r
  | 0, _, h => by omega
  | fuel + 1, [], _ => by
    simp [Gen.C15Scen.GCDM_rec, gcdmRev]
  | fuel + 1, [x], _ => by
    simp [Gen.C15Scen.GCDM_rec, gcdmRev]
  | fuel + 1, x :: y :: rest, h => by
    have hrev : (x :: y :: rest).reverse = rest.reverse ++ [y, x] := by simp
    have hlen : ((rest.reverse ++ [y, x]).length : Int) = (rest.length : Int) + 2 := by simp
    have hlt : ¬ (((rest.reverse ++ [y, x]).length : Int) < 2) := by rw [hlen]; omega
    have ih := GCDM_rec_eq fuel (y :: rest) (by simp at h ⊢; omega)
    have hrev' : (y :: rest).reverse = rest.reverse ++ [y] := by simp
    rw [hrev'] at ih
    rw [hrev]
    simp only [Gen.C15Scen.GCDM_rec, hlt, if_false, idx_snoc2_fst, idx_snoc2_snd, slice_snoc2, Option.bind_some,
      GCD_eq, ih]
    rw [gcdmRev_cons2]
    cases hg : GCD y x with
    | none => rfl
    | some res =>
      simp only [Option.bind_some]
      by_cases he : rest = []
      · subst he
        simp
      · have h2 : ¬ (((rest.reverse ++ [y, x]).length : Int) = 2) := by
          rw [hlen]
          have : rest.length ≠ 0 := fun c => he (List.length_eq_zero_iff.mp c)
          omega
        have hemp : rest.isEmpty = false := by
          cases rest with
          | nil => exact absurd rfl he
          | cons _ _ => rfl
        simp only [h2, if_false, hemp, Bool.false_eq_true]
        cases gcdmRev (y :: rest) with
        | none => rfl
        | some g =>
          simp only [Option.bind_some]
          cases GCD g res <;> rfl

theorem GCDM_eq (ws : List Int) : Gen.C15Scen.GCDM ws = GCDM ws := by
  unfold Gen.C15Scen.GCDM GCDM
  have := GCDM_rec_eq (ws.length + 1) ws.reverse (by simp)
  simpa using this

/-- `SpreadNames` of the model, written with the regenerated arithmetic of `config.SpreadNames`: the early returns
for no / one scenario, the effective weight, the divisor `GCDM(weights...)`, the per-scenario count `weight / div`
and the running total -/
theorem spreadNames_eq (scs : List ScenarioCfg) :
    spreadNames scs =
      match scs with
      | [] => .ok ([], Gen.C15Scen.spreadEmpty)
      | [s] => .ok ([(s.name, Gen.C15Scen.spreadSingle.1)], Gen.C15Scen.spreadSingle.2)
      | _ =>
        let ws := scs.map fun s => Gen.C15Scen.spreadEffWeight s.weight
        match Gen.C15Scen.spreadDiv ws with
        | none => .panic "gcd-fuel"
        | some div =>
          if div == 0 then .panic "div0" else
          let cnts := ws.map fun w => Gen.C15Scen.spreadCnt w div
          .ok ((scs.map (·.name)).zip cnts, cnts.foldl Gen.C15Scen.spreadTotalStep 0) := by
  have hw : (fun (s : ScenarioCfg) => Gen.C15Scen.spreadEffWeight s.weight) =
      fun s => if s.weight == 0 then 1 else s.weight := by
    funext s
    unfold Gen.C15Scen.spreadEffWeight
    by_cases h : s.weight = 0 <;> simp [h]
  have ht : Gen.C15Scen.spreadTotalStep = fun (a b : Int) => a + b := rfl
  have hc : ∀ div, (fun (w : Int) => Gen.C15Scen.spreadCnt w div) = fun w => Int.tdiv w div := fun _ => rfl
  match scs with
  | [] => rfl
  | [s] => rfl
  | a :: b :: rest =>
    simp only [spreadNames, Gen.C15Scen.spreadDiv, GCDM_eq, hw, ht, hc]
    rfl

/-- `decodeAmmo` of the model refuses exactly the weights the code refuses -/
theorem refused_eq (scs : List ScenarioCfg) :
    (scs.any fun sc => decide (sc.weight < 0)) = scs.any fun sc => decide (Gen.C15Scen.weightRefused sc.weight) := rfl

/-- the sample `reportErr` produces for a failed step: tag `<scenario>.<step>|__EMPTY__`, proto code 0, error set -/
theorem failed_sample_eq {Req : Type} (scName stepName : String) :
    (Ev.sample (failTag (scName ++ "." ++ stepName)) 0 true : Ev Req) =
      .sample (scName ++ Gen.C15Scen.stepTagSep ++ stepName ++ Gen.C15Scen.tagSep ++ Gen.C15Scen.emptyTag)
        Gen.C15Scen.failCode Gen.C15Scen.failTagged := rfl

/-- (repair 4cfc662) the refusal of the model's `decodeAmmo` after `SpreadNames` is `config.CheckSpread` as
regenerated — the total is refused, or the count of some scenario is -/
theorem spreadRefused_iff (names : List (List Char × Int)) (total : Int) :
    spreadRefused names total = true ↔
      (Gen.C15Scen.spreadTotalRefused total ∨ ∃ nc ∈ names, Gen.C15Scen.spreadCntRefused nc.2) := by
  unfold spreadRefused Gen.C15Scen.spreadTotalRefused Gen.C15Scen.spreadCntRefused maxSpreadSize
  simp only [Bool.or_eq_true, decide_eq_true_eq, List.any_eq_true]
  -- whatever the order and spelling of the two comparisons in the source: linear arithmetic
  all_goals
    constructor
    · rintro (h | ⟨nc, hm, h⟩)
      · exact Or.inl (by omega)
      · exact Or.inr ⟨nc, hm, by omega⟩
    · rintro (h | ⟨nc, hm, h⟩)
      · exact Or.inl (by omega)
      · exact Or.inr ⟨nc, hm, by omega⟩

/-- `decodeAmmo` hands the result of `SpreadNames` to `CheckSpread` before it allocates the ring -/
theorem spreadChecked_eq : Gen.C15Scen.spreadChecked = true := rfl

end Pandora.Bridge.C15Scen
