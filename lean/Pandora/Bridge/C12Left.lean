import Pandora.Gen.C12Left
import Pandora.Proofs.C12Left

/-
C12 — bridge for the regenerated area `c12left` (core/schedule/composite.go): the loop of `NewComposite` that fills
`leftAfter` and the decision of `(*compositeSchedule).Left` ARE the model's `stepLeft` / `leftDecide`.  Stated semantically
(for all values; the loop body under the loop's own invariant "flag set ⇒ accumulator = −1", which is proved of the model's
loop, not assumed), so that harmless rewrites of the source (reordered independent assignments, `continue` instead of a
second `if`, renamed locals, `if unknown {…} else {…}`) keep them true while a change of what is computed breaks them.
-/
namespace Pandora.Bridge.C12Left
open Pandora.Go.C12Left Pandora.Model.C12Left

theorem loopOrder_eq : Pandora.Gen.C12Left.NewComposite_loopOrder = "lastToFirst" := rfl

theorem loopInit_eq : Pandora.Gen.C12Left.NewComposite_loopInit = ((0 : Int), false) := rfl

/-- the invariant of the loop under which the body is read: once a part behind is unknown the accumulator is −1 -/
def LoopInv (acc : Int) (unk : Bool) : Prop := unk = true → acc = -1

theorem loopBody_eq (acc : Int) (unk : Bool) (c : Int) (h : LoopInv acc unk) :
    Pandora.Gen.C12Left.NewComposite_loopBody acc unk c = stepLeft acc unk c := by
  unfold LoopInv at h
  unfold Pandora.Gen.C12Left.NewComposite_loopBody stepLeft
  by_cases hc : c < 0
  · cases unk <;> simp [hc]
  · cases unk
    · simp [hc]
    · have hacc : acc = -1 := h rfl
      subst hacc
      simp [hc]

theorem leftDecide_eq (n la l : Int) (st : Bool) :
    Pandora.Gen.C12Left.compositeSchedule_Left_decide n la l st = leftDecide n la l st := by
  unfold Pandora.Gen.C12Left.compositeSchedule_Left_decide leftDecide
  by_cases h1 : n = 1 <;> by_cases h2 : l = 0 <;> by_cases h3 : la ≥ 0 <;> by_cases h4 : l < 0 <;> cases st <;>
    simp [h1, h2, h3, h4] <;> omega

/-- the regenerated loop, run over the parts from the last to the first -/
def genLoop (cs : List Int) : List Int × Int × Bool :=
  loopWith Pandora.Gen.C12Left.NewComposite_loopBody Pandora.Gen.C12Left.NewComposite_loopInit cs

theorem loopFrom_inv (cs : List Int) : LoopInv (loopFrom cs).2.1 (loopFrom cs).2.2 := by
  obtain ⟨ha, hu⟩ := Pandora.Proofs.C12Left.loopFrom_acc cs
  intro h
  rw [hu] at h
  rw [ha]
  have := Pandora.Proofs.C12Left.seqLeft_range cs
  have hlt : seqLeft cs < 0 := by simpa using h
  omega

theorem genLoop_eq (cs : List Int) : genLoop cs = loopFrom cs := by
  induction cs with
  | nil => simp [genLoop, loopFrom, loopWith, loopInit_eq]
  | cons c rest ih =>
    have hinv := loopFrom_inv rest
    simp only [genLoop, loopFrom, loopWith] at ih hinv ⊢
    rw [ih, loopBody_eq _ _ _ hinv]

/-- a `once` / `const` part (`doAtSchedule`): tokens still to come, never negative -/
theorem doAtLeft_eq (n i : Int) : Pandora.Gen.C12Left.doAtSchedule_Left n i = max 0 (n - i) := by
  unfold Pandora.Gen.C12Left.doAtSchedule_Left
  by_cases h : n - i < 0 <;> simp [h] <;> omega

/-- an `unlimited` part: unknown until it has been started and its time is over, then 0 -/
theorem unlimitedLeft_eq (started nowBeforeFinish : Bool) :
    Pandora.Gen.C12Left.unlimitedSchedule_Left started nowBeforeFinish = if started && !nowBeforeFinish then 0 else -1 := by
  unfold Pandora.Gen.C12Left.unlimitedSchedule_Left
  cases started <;> cases nowBeforeFinish <;> simp

/-- `startNext` drops exactly the first part from `scheds` and from `leftAfter` and starts the new first part -/
theorem startNext_eq : Pandora.Gen.C12Left.startNext_drops = (1, 1, 0) := rfl

/-- `Left()` followed through its shifts, with the regenerated decision and the regenerated `startNext` -/
def genFullLeft (started : Bool) (fuel : Nat) (curs las : List Int) : Option Int :=
  fullLeftWith Pandora.Gen.C12Left.compositeSchedule_Left_decide Pandora.Gen.C12Left.startNext_drops.1
    Pandora.Gen.C12Left.startNext_drops.2.1 started fuel curs las

theorem genFullLeft_eq (started : Bool) (fuel : Nat) (curs las : List Int) :
    genFullLeft started fuel curs las = fullLeftWith leftDecide 1 1 started fuel curs las := by
  have : Pandora.Gen.C12Left.compositeSchedule_Left_decide = leftDecide := by
    funext n la l st; exact leftDecide_eq n la l st
  simp [genFullLeft, this, startNext_eq]

end Pandora.Bridge.C12Left
