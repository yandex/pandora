/-
C05 bridge: the regenerated paths of `coreutil.Waiter` and `callbackOnFinishSchedule`
(`Pandora.Gen.C05Wait`, rewritten from /repo on every check) ARE what `Model.C05.Inst` says the waiter does.

The lemmas read a path through predicates (`has`, return text, what precedes what) and compare SETS of outcomes, so
that reordering independent statements, renaming locals / receivers, or changing how `overdueDuration` and the timer
are kept does not break them, while a change of WHAT is returned WHEN (the context no longer looked at before a token
is taken, `Left() <= 1`, a sleep that cannot be interrupted, a finish callback that fires early or never) does.
-/
import Pandora.Gen.C05Wait
import Pandora.Model.C05Inst

namespace Pandora.Bridge.C05Wait
open Pandora.Model.C05 Pandora.Model.C05.Inst Pandora.Gen.C05Wait

/-- `case <-ctx.Done()` (the context is the first parameter of all three methods) -/
def isCtxComm (e : Ev) : Bool := e == .comm "<-‹arg0›.Done()"

/-- `case <-w.timer.C` -/
def isTimerComm (e : Ev) : Bool := e == .comm "<-‹recv›.timer.C"

/-- the events of a path before its first call of `f` -/
def before (p : Path) (f : String) : Path := p.takeWhile (· != .call f)

/-- one regenerated path through `Wait`, read as a way through the model's `waitOut` -/
def waitKind (p : Path) : Option WaitOut :=
  if !p.has (.call "Next") then
    (if p.head?.map isCtxComm == some true then some .ctxAtEntry else none)
  else if !(before p "Next").has (.comm "default") || (before p "Next").any isCtxComm then none
  else if p.has (.ncond "‹res0›") then some .noToken
  else if !p.has (.cond "‹res0›") then none
  else
    let rest := p.after (.call "Next")
    if rest.any isTimerComm then (if rest.any isCtxComm then none else some .timer)
    else if rest.any isCtxComm then some .ctxAsleep
    else some .due

def boolText (b : Bool) : String := if b then "true" else "false"

/-- `Wait`: every path is one of the five ways of the model, each way occurs, and the path returns what the model says
`Wait` returns; the context is looked at BEFORE the schedule is asked (a done context never costs a token), and a
token is taken exactly on the ways the model counts one -/
theorem wait_is_model :
    wait.all (fun p => match waitKind p with
      | some k => p.retText == boolText k.ok && (p.has (.cond "‹res0›") == k.takes)
      | none => false) = true ∧
    [WaitOut.ctxAtEntry, .noToken, .due, .timer, .ctxAsleep].all (fun k => wait.any (fun p => waitKind p == some k)) = true := by
  decide

/-- `IsFinished`: the context first (done → finished), else `Left() == 0` - the model's `isFinished` -/
theorem isFinished_is_model :
    Pandora.Gen.C05Wait.isFinished.all (fun p =>
      (p.head?.map isCtxComm == some true && p.retText == "true" && !p.has (.call "Left")) ||
      (p.head? == some (.comm "default") && p.has (.call "Left") && p.retText == "‹recv›.sched.Left() == 0")) = true ∧
    Pandora.Gen.C05Wait.isFinished.any (fun p => p.head?.map isCtxComm == some true) = true ∧
    Pandora.Gen.C05Wait.isFinished.any (fun p => p.has (.call "Left")) = true ∧
    (∀ c l, Inst.isFinished c l = (c || l == 0)) := by
  refine ⟨by decide, by decide, by decide, fun _ _ => rfl⟩

/-- `IsSlowDown`: never once the context is done, else the overdue reading against `MaxOverdueDuration` -/
theorem isSlowDown_is_model :
    Pandora.Gen.C05Wait.isSlowDown.all (fun p =>
      (p.head?.map isCtxComm == some true && p.retText == "false") ||
      (p.head? == some (.comm "default") && p.retText == "‹recv›.overdueDuration >= MaxOverdueDuration")) = true ∧
    Pandora.Gen.C05Wait.isSlowDown.length = 2 ∧
    (∀ d o, Inst.isSlowDown true d o = false) := by
  refine ⟨by decide, by decide, fun _ _ => rfl⟩

/-- the finish callback of the shared schedule (`buildNewInstanceSchedule` wraps it in `callbackOnFinishSchedule`; the
model's choice `rpsFinished`): `onFinish` runs, through the `sync.Once`, exactly on the paths on which the wrapped
schedule says it is finished - `Next()` !ok, `Left() == 0` - and what the wrapped schedule said is what is returned -/
theorem finish_callback :
    cbNext.all (fun p => p.head? == some (.call "Next") &&
      (p.has (.call "Do(‹recv›.onFinish)") == p.has (.ncond "‹res1›")) &&
      (p.has (.ncond "‹res1›") != p.has (.cond "‹res1›")) && p.retText == "") = true ∧
    cbNext.any (fun p => p.has (.call "Do(‹recv›.onFinish)")) = true ∧
    cbLeft.all (fun p => p.head? == some (.call "Left") &&
      (p.has (.call "Do(‹recv›.onFinish)") == p.has (.cond "‹Left› == 0")) &&
      (p.has (.ncond "‹Left› == 0") != p.has (.cond "‹Left› == 0")) && p.retText == "‹Left›") = true ∧
    cbLeft.any (fun p => p.has (.call "Do(‹recv›.onFinish)")) = true := by
  decide

end Pandora.Bridge.C05Wait
