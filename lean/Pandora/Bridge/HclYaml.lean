/-
Bridge C16: the regenerated tables and code shapes (`Pandora/Gen/HclYaml.lean`, rewritten from /repo's current source
on every check run) are what the model `Pandora.Model.C16` assumes.  If the source changes any of these, this file
stops compiling and the check reports a broken obligation.
-/
import Pandora.Gen.HclYaml
import Pandora.Model.C16
import Pandora.Model.C16Locals
import Pandora.Model.C16Src
import Pandora.Model.C16Text

namespace Pandora.Bridge.HclYaml
open Pandora.Go Pandora.Model.C16

/-- the struct/tag tables of the current source -/
def current : Tables :=
  ⟨Gen.HclYaml.hclStructs, Gen.HclYaml.cfgStructs, Gen.HclYaml.plugins, Gen.HclYaml.hclRoot, Gen.HclYaml.cfgRoot,
    Gen.HclYaml.pluginNameKey⟩

/-- fields of `AmmoConfig` that no decoder (scenario/http, scenario/grpc, `ExtractVariableStorage`) reads:
they cannot influence the ammo, so HCL need not feed them (`Locals`, the YAML-only home of anchors) -/
def unread : List String :=
  (cFields current current.cfgRoot).filterMap fun g =>
    if Gen.HclYaml.ammoFieldsRead.contains g.go then none else some g.go

/-- calls that only build error values -/
def notErr (c : String) : Bool := c != "fmt.Errorf" && c != "errors.New" && c != "errors.Wrap" && c != "errors.WithStack"

/-- the HCL path is `yaml.Marshal` followed by the common `DecodeMap`, and touches nothing else: whatever `DecodeMap`
does (it is shared) happens to both front-ends alike -/
theorem convert_shape :
    Gen.HclYaml.convertCalls.filter notErr = ["yaml.Marshal", "DecodeMap"] ∧
    Gen.HclYaml.convertWrites = [] := by decide

/-- the YAML path is `io.ReadAll` followed by `DecodeMap` -/
theorem parse_shape :
    Gen.HclYaml.parseAmmoCalls.filter notErr = ["io.ReadAll", "DecodeMap"] ∧
    Gen.HclYaml.parseAmmoWrites = [] := by decide

/-- `DecodeMap` still is `yaml.Unmarshal` into a generic map followed by `config.DecodeAndValidate` (checks added
after it are common to both paths) -/
theorem decodeMap_shape :
    "yaml.Unmarshal" ∈ Gen.HclYaml.decodeMapCalls ∧ "config.DecodeAndValidate" ∈ Gen.HclYaml.decodeMapCalls := by
  decide

/-- `.hcl` goes through `ParseHCLFile` + `ConvertHCLToAmmo`, `.yaml` through `ParseAmmoConfig` -/
theorem ext_switch :
    ("HasSuffix", ".hcl", "ParseHCLFile+ConvertHCLToAmmo") ∈ Gen.HclYaml.extCases ∧
    ("HasSuffix", ".yaml", "ParseAmmoConfig") ∈ Gen.HclYaml.extCases := by
  constructor <;> decide

/-- mapstructure is configured as the model's `decode` reads it: unknown keys are errors, no weak typing, fields that
are absent keep their zero value, keys come from the `config` tag, plugins are selected by `type` -/
theorem decoder_flags :
    Gen.HclYaml.decoderErrorUnused = true ∧ Gen.HclYaml.decoderWeaklyTyped = false ∧
    Gen.HclYaml.decoderZeroFields = false ∧ Gen.HclYaml.decoderTagName = "config" ∧
    Gen.HclYaml.pluginNameKey = "type" := ⟨rfl, rfl, rfl, rfl, rfl⟩

theorem roots : current.hclRoot = "AmmoHCL" ∧ current.cfgRoot = "AmmoConfig" := ⟨rfl, rfl⟩

/-! ### locals and functions (`config/hcl.go`) -/

/-- the function table of the current source: HCL name ↦ go-cty stdlib function -/
def fns : List (String × String) := Gen.HclYaml.hclFunctions

def nth (xs : List String) (i : Nat) : String := xs.getD i "?"

/-- role ("acc" = locals of the previous blocks, "new" = this block's) of the map `mergeMaps` writes INTO -/
def mergeDst : String := nth Gen.HclYaml.localsMergeArgs Gen.HclYaml.mergeMapsShape.1
/-- role of the map whose entries are written -/
def mergeSrc : String := nth Gen.HclYaml.localsMergeArgs Gen.HclYaml.mergeMapsShape.2.1
/-- `mergeMaps` returns the map it wrote into -/
def mergeReturnsDst : Bool := Gen.HclYaml.mergeMapsShape.2.2 == Gen.HclYaml.mergeMapsShape.1

/-- a later definition of a local replaces an earlier one: this block's entries are written over the accumulated ones -/
def laterWins : Bool := mergeDst == "acc" && mergeSrc == "new"

/-- after the iteration the accumulator holds the merged map (it was written into, or it is reassigned from the result) -/
def accHoldsMerged : Bool := mergeDst == "acc" || (Gen.HclYaml.localsAccReassigned && mergeReturnsDst)

/-- the context of the next iteration (and of the body) is built from the merged map -/
def ctxIsMerged : Bool :=
  (Gen.HclYaml.localsCtxFrom == "merge-result" && mergeReturnsDst) || (Gen.HclYaml.localsCtxFrom == "acc" && accHoldsMerged)

/-- `decodeLocals` / `decodeLocalBlock` / `ParseHCLFile` have the data flow of the model's `evalLocals` / `evalFile`:
every `locals` block is evaluated under the context of the PREVIOUS blocks, its entries are written over the
accumulated ones (later wins), the accumulated map survives, the next context and finally the body's context are built
from it; the locals are visible as `local.<name>`; only `locals` blocks are taken out of the body. -/
theorem locals_flow :
    laterWins = true ∧ accHoldsMerged = true ∧ ctxIsMerged = true ∧
    Gen.HclYaml.localsBlockCtx = "ctx" ∧ Gen.HclYaml.localBlockEvalUnder = "param" ∧
    Gen.HclYaml.parseHclBodyCtx = "locals-ctx" ∧ Gen.HclYaml.localsRoot = "local" ∧
    Gen.HclYaml.localsBlockTypes = ["locals"] ∧ Gen.HclYaml.localsBlockFilter = ["locals"] := by decide

/-- the functions on the way from the file to `AmmoConfig` -/
def conversionFns : List String :=
  ["ParseHCLFile", "decodeLocals", "decodeLocalBlock", "ConvertHCLToAmmo", "DecodeMap", "ParseAmmoConfig"]

/-- are the diagnostics of `f.Body.PartialContent(localsSchema())` tested and returned by `ParseHCLFile`?  (They carry
the errors about the `locals` blocks themselves — a block with a label is taken out of the body and handed to nobody.)
Was `false` for the source as it was found (finding `dropped-locals`, repaired by fixes/C16-labelled-locals.diff) -/
def schemaDiagsChecked : Bool :=
  Gen.HclYaml.errFlow.contains ("ParseHCLFile", "(hcl.Body).PartialContent", "returned")

/-- one row of the regenerated error flow is fine: the error / diagnostics value is tested by the next statement (alone
or as one disjunct of an `||` chain) and returned — no exception -/
def errRowOK (r : String × String × String) : Bool := r.2.2 == "returned"

/-- `ParseHCLFile` returns the diagnostics of `PartialContent`: a `locals` block that hcl drops with an error refuses
the file (model: `splitLocals true`) -/
theorem schema_diags_checked : schemaDiagsChecked = true := by decide

/-- no failure on the way is swallowed: a `locals` block that does not evaluate (`decodeLocalBlock` ← `Expr.Value`,
`JustAttributes`), a body that does not decode (`gohcl.DecodeBody`), a marshal / unmarshal / decode step that fails —
each is tested at once and returned, so the file is refused as a whole (model: `evalFile … = none` ⇒ refused) -/
theorem errors_propagated :
    Gen.HclYaml.errFlow.all errRowOK = true ∧
    ("decodeLocals", "decodeLocalBlock", "returned") ∈ Gen.HclYaml.errFlow ∧
    ("decodeLocalBlock", "(hcl.Expression).Value", "returned") ∈ Gen.HclYaml.errFlow ∧
    ("decodeLocalBlock", "(hcl.Body).JustAttributes", "returned") ∈ Gen.HclYaml.errFlow ∧
    ("ParseHCLFile", "decodeLocals", "returned") ∈ Gen.HclYaml.errFlow ∧
    ("ParseHCLFile", "gohcl.DecodeBody", "returned") ∈ Gen.HclYaml.errFlow ∧
    ("ConvertHCLToAmmo", "yaml.Marshal", "returned") ∈ Gen.HclYaml.errFlow ∧
    ("ConvertHCLToAmmo", "DecodeMap", "returned") ∈ Gen.HclYaml.errFlow := by decide

/-- the loops of the locals evaluation leave nothing out: `decodeLocals` skips a block only when it is nil,
`decodeLocalBlock` has no `continue` / `break` and stores every attribute's value under the attribute's name -/
theorem locals_loops_total :
    (Gen.HclYaml.localsLoopBranches.all fun b => b == "continue:blk==nil") = true ∧
    Gen.HclYaml.localBlockBranches = [] ∧ Gen.HclYaml.localBlockStoresAll = true := by decide

/-- no reader of the decoded `AmmoConfig` (scenario/http, scenario/grpc, config/decode.go, config/config.go) compares a
slice or a map with nil or uses `reflect.DeepEqual`: they range over them, take `len`, index them — a nil and an empty
collection are the same to them, as the model assumes when it identifies the two -/
theorem readers_nil_blind : Gen.HclYaml.readerNilTests = [] := by decide

/-- `ParseHCLFile` still splits the body (`PartialContent`), evaluates the locals and decodes the rest with gohcl -/
theorem parseHcl_shape :
    "f.Body.PartialContent" ∈ Gen.HclYaml.parseHclCalls ∧ "decodeLocals" ∈ Gen.HclYaml.parseHclCalls ∧
    "gohcl.DecodeBody" ∈ Gen.HclYaml.parseHclCalls := by decide

/-! ### the file name, package-level state, the providers -/

/-- the calls the name tested by the extension switch may go through on its way from the `fileName` parameter -/
def subjectStepOK (c : String) : Bool :=
  c == "strings.ToLower" || c == "(fs.FileInfo).Name" || c == "(afero.File).Stat" || c == "(afero.Fs).Open" ||
  c == "filepath.Base" || c == "path.Base" || c == "param:fileName"

/-- is the name lower-cased before the tests? -/
def nameLowered : Bool := Gen.HclYaml.extSubject.contains "strings.ToLower"

/-- what is done to every character of the name before the tests (ASCII reading of `unicode.ToLower`) -/
def subjectLc : Char → Char := if nameLowered then asciiLower else id

/-- every case of the switch tests one and the same value (gen refuses anything else), and that value is the file name
handed to `ReadAmmoConfig` — at most lower-cased and reduced to its base name, nothing else -/
theorem ext_subject :
    Gen.HclYaml.extSubject.all subjectStepOK = true ∧ Gen.HclYaml.extSubject.getLast? = some "param:fileName" := by
  decide

/-- both extensions reach their front-end whatever stands in front of them -/
theorem ext_selects :
    extSelects Gen.HclYaml.extCases ".hcl" "ParseHCLFile+ConvertHCLToAmmo" = true ∧
    extSelects Gen.HclYaml.extCases ".yaml" "ParseAmmoConfig" = true := by decide

/-- the front-ends keep nothing from one file to the next: the functions of scenario/config reachable from
`ReadAmmoConfig` only READ package-level variables (no cache, no pool, no hoisted parser or evaluation context: a
`write`, a method call on such a variable, its address or handing a reference to it on would be state) -/
theorem stateless : (Gen.HclYaml.pkgStateUses.all fun u => u.2.2 == "read") = true := by decide

def flowOf (tag : String) : List (String × Nat × String) :=
  (Gen.HclYaml.providerFlow.filter fun r => r.1 == tag).map fun r =>
    (if (tag ++ ".decodeAmmo") == r.2.1 then "decodeAmmo" else r.2.1, r.2.2.1, r.2.2.2)

def flowExpected : List (String × Nat × String) :=
  [("ReadAmmoConfig", 1, "file"), ("ExtractVariableStorage", 0, "cfg"), ("decodeAmmo", 0, "cfg")]

def sameSet (a b : List (String × Nat × String)) : Bool := a.all b.contains && b.all a.contains

/-- both providers hand the file name to `ReadAmmoConfig` and to nothing else, and build the variable storage and the
ammo from its result and nothing else: the syntax of the file can reach the ammo only through the `AmmoConfig` -/
theorem provider_flow : sameSet (flowOf "http") flowExpected = true ∧ sameSet (flowOf "grpc") flowExpected = true := by
  decide

/-! ### the text between `io.ReadAll` and the parser; the I/O shape of `ReadAmmoConfig` -/

/-- what `ParseHCLFile` does to the text of the file before `ParseHCL` (regenerated chain, translated; `none` = a call the
model does not know) -/
def hclSteps : Option (List TextStep) := stepsOf Gen.HclYaml.hclTextSteps

/-- what `ParseAmmoConfig` does to the text before `DecodeMap` -/
def yamlSteps : Option (List TextStep) := stepsOf Gen.HclYaml.yamlTextSteps

/-- the HCL front-end replaces CR LF by LF and does nothing else to the text; the YAML front-end hands the text to
`DecodeMap` (yaml.v2) as it was read -/
theorem text_steps : hclSteps = some [.replaceAll "\r\n" "\n"] ∧ yamlSteps = some [] := by decide

/-- `ReadAmmoConfig` treats the errors of Open / Stat / Close as the model `readAmmoConfig` does: each refuses the file
(the Close error through the named result, written by the deferred closure on every path) -/
def readFlowStrict : Bool :=
  Gen.HclYaml.readAmmoFlow == [("(afero.Fs).Open", "refuses"), ("(afero.File).Stat", "refuses"), ("Close", "deferred-refuses")] &&
  Gen.HclYaml.readAmmoNamedErr

theorem read_flow : readFlowStrict = true := by decide

end Pandora.Bridge.HclYaml
