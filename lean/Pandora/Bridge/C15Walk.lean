/-
C15 — bridge between what /verif/gen (area `c15walk`) re-extracted from the CURRENT source and the model.

  `walkCode_eq`, `walk_gen`        the loop body of `mp.GetMapValue` as regenerated, run by the interpreter, IS the model's `walk`
  `walkSplit_eq`                   the path is split at "." after ONE leading "." was dropped
  `calcCode_eq`, `calcIndex_gen`   the guards / keyword branches of `calcIndex` in source order compute the model's `calcIndex`
  `extract_total`                  every list type `extractFromSlice` accepts has a case (each returning row `index`)
  `strFnFacts_eq`, `funcNames_eq`, `parseFuncExact_eq`, `entryCode_eq`, `resolveEntry_gen`
                                   `parseStr` / `GetFuncs` / `ParseFunc` / `Preprocessor.Process` / `ExecTemplateFuncWithVariables`
  `feedLoop_gen`, `feedFacts_ok`   one iteration of the loop of `scenario.Provider.Run` with the regenerated arithmetic and stop conditions
-/
import Pandora.Gen.C15Walk
import Pandora.Proofs.C15Walk

namespace Pandora.Bridge.C15Walk
open Pandora.Model.C15 Pandora.Proofs.C15

theorem walkCode_eq : Gen.C15Walk.walkCode = walkCode := by decide

/-- **`GetMapValue`'s segment loop as regenerated computes the model's `walk`** -/
theorem walk_gen (id : Nat) (segs : List String) (cur : List (String × Val)) (key : String) (it : Iter) :
    walkBy Gen.C15Walk.walkCode id segs cur key it = some (walk id segs cur key it) := by
  rw [walkCode_eq]; exact walkBy_eq id segs cur key it

theorem walkSplit_eq : Gen.C15Walk.walkSplit = (".", ".") := rfl

theorem calcCode_eq : Gen.C15Walk.calcCode = calcCode := by decide

/-- **`calcIndex` as regenerated (order of the guards and keyword branches) computes the model's `calcIndex`** -/
theorem calcIndex_gen (indexStr seg : String) (len id : Nat) (it : Iter) :
    runCOps indexStr seg len id Gen.C15Walk.calcCode none it = some (outInt (calcIndex indexStr seg len id it)) := by
  rw [calcCode_eq]; exact runCOps_eq indexStr seg len id it

/-- every list type `extractFromSlice` accepts is handled by a case of its type switch (the line after the switch is
unreachable), and there is no case for a type it does not accept -/
theorem extract_total : Gen.C15Walk.extractCases = Gen.C15Walk.extractValid := by decide

theorem strFnFacts_eq : Gen.C15Walk.strFnFacts = strFnFacts := by decide

theorem funcNames_eq : Gen.C15Walk.funcNames = funcNames := by decide

theorem parseFuncExact_eq : Gen.C15Walk.parseFuncExact = true := rfl

theorem entryCode_eq : Gen.C15Walk.entryCode = entryCode := by decide

/-- **one mapping entry as regenerated**: the entry resolution with the regenerated dispatch and argument rules is the model's -/
theorem resolveEntry_gen (fn : String → List Val → Option String) (vars : List (String × Val)) (v : String) (id : Nat) (it : Iter) :
    resolveEntryBy Gen.C15Walk.entryCode fn vars v id it = resolveEntry fn vars v id it := by
  rw [entryCode_eq]; rfl

theorem parseStr_gen (v : List Char) : parseStrBy Gen.C15Walk.strFnFacts v = parseStrF v := by
  rw [strFnFacts_eq]; rfl

theorem feedFacts_ok : Gen.C15Walk.feedFacts.all (·.2) = true := by decide

/-- **one iteration of the loop of `Provider.Run` as regenerated** -/
theorem feedLoop_gen {α} (ring : List α) (p l fuel k : Nat) :
    feedLoop ring p l (fuel + 1) k =
      if Gen.C15Walk.feedPassStop p (Gen.C15Walk.feedPassNum k ring.length) then []
      else if Gen.C15Walk.feedLimitStop l k then []
      else match ring[(Gen.C15Walk.feedIndex k ring.length).toNat]? with
        | some a => a :: feedLoop ring p l fuel (k + 1)
        | none => [] := by
  have hmod : Gen.C15Walk.feedIndex k ring.length = ((k % ring.length : Nat) : Int) := (Int.ofNat_tmod k ring.length).symm
  have hdiv : Gen.C15Walk.feedPassNum k ring.length = ((k / ring.length : Nat) : Int) := (Int.ofNat_tdiv k ring.length).symm
  rw [feedLoop, hmod, hdiv]
  unfold Gen.C15Walk.feedPassStop Gen.C15Walk.feedLimitStop
  simp only [Int.toNat_natCast]
  generalize k / ring.length = q
  generalize ring[k % ring.length]? = e
  by_cases h1 : p = 0 <;> by_cases h2 : l = 0 <;> by_cases h3 : p ≤ q <;> by_cases h4 : l ≤ k <;>
    simp [h1, h2, h3, h4] <;> (try omega)
  all_goals (cases e <;> rfl)

end Pandora.Bridge.C15Walk
