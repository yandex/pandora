/-
C05 bridge: the regenerated paths of the providers (`Pandora.Gen.C05Prov`, rewritten from /repo on every check:
`core/provider.(*DecodeProvider).Run`, `(*JSONAmmoDecoder).Decode`, `(*AmmoQueue).Acquire`,
`components/providers/grpc.(*Provider).Run/Acquire`) ARE what `Model/C05Prov.lean` says the providers do.

Paths are read through predicates (what is deferred before the first call that can fail, which test guards which
return), so renaming locals, reordering independent statements or wrapping with other messages does not break the
lemmas, while a change of WHEN the queue is closed, of HOW the end of the ammo is recognised (`err == io.EOF` by
identity - not by cause, not by `errors.Is`) or of WHAT `Decode` answers in which situation does.
-/
import Pandora.Gen.C05Prov
import Pandora.Model.C05Prov

namespace Pandora.Bridge.C05Prov
open Pandora.Model.C05 Pandora.Model.C05.Prov Pandora.Gen.C05Prov

/-- an event at which a function can leave or block: a call, a channel operation, a return -/
def isAction : Ev → Bool
  | .call _ | .fail _ | .ok _ | .comm _ | .ret _ | .send _ | .loop | .go _ => true
  | _ => false

/-- `defer close(<ch>)` is registered before anything that can fail, block or return -/
def closesFirst (ch : String) (p : Path) : Bool :=
  p.has (.dfr ("close:" ++ ch)) && !((p.takeWhile (· != .dfr ("close:" ++ ch))).any isAction)

/-- `DecodeProvider.Run`: on EVERY path - the failing ones too - the deferred close of the ammo queue is in place
before the source is opened -/
theorem decodeRun_closes_queue : srcDecodeRun.all (closesFirst "OutQueue") = true ∧ srcDecodeRun ≠ [] := by
  refine ⟨by decide, by decide⟩

/-- the grpc base provider: the same for `Sink`, before the ammo file is opened -/
theorem grpcRun_closes_sink : srcGrpcRun.all (closesFirst "Sink") = true ∧ srcGrpcRun ≠ [] ∧
    srcGrpcRun.any (fun p => p.has (.fail "Open")) = true := by
  refine ⟨by decide, by decide, by decide⟩

/-- the http provider (`components/providers/http/provider`): the deferred function that closes `Sink` (and then the ammo
file) is registered before the middlewares are initialised, the ammo is loaded or scanned -/
theorem httpRun_closes_sink : srcHttpRun.all (closesFirst "Sink") = true ∧ srcHttpRun ≠ [] ∧
    srcHttpRun.any (fun p => p.has (.fail "InitMiddleware")) = true ∧
    srcHttpRun.any (fun p => p.has (.fail "loadAmmo")) = true := by
  refine ⟨by decide, by decide, by decide, by decide⟩

/-- a path that only receives from `ch` and returns what it received: no other channel, no context, no call -/
def onlyReceives (ch : String) (p : Path) : Bool :=
  p.retText == "‹rx:" ++ ch ++ "#0›, ‹rx:" ++ ch ++ "#1›" &&
  p.all (fun e => match e with | .ret _ | .cond _ | .ncond _ | .set _ => true | _ => false)

/-- `Acquire` is a bare receive from that same queue (no context, no timeout): only the close lets a waiter go -/
theorem acquire_is_receive :
    srcQueueAcquire.all (onlyReceives "OutQueue") = true ∧ srcQueueAcquire ≠ [] ∧
    srcGrpcAcquire.all (onlyReceives "Sink") = true ∧ srcGrpcAcquire ≠ [] := by
  refine ⟨by decide, by decide, by decide, by decide⟩

/-- the test by which `Run` recognises the regular end of the ammo: the decoder's answer IS `io.EOF` -/
def isEofTest (t : String) : Bool := t == "‹res0› == io.EOF" || t == "io.EOF == ‹res0›"

/-- how one path through `DecodeProvider.Run` ends -/
inductive RunKind
  | openFailed | decoderFailed | eof | decodeFailed | ctxDone | sent | limit
  deriving DecidableEq, Repr

def runKind (p : Path) : Option RunKind :=
  if p.has (.fail "OpenSource") then some .openFailed
  else if p.has (.fail "newDecoder") then some .decoderFailed
  else if !p.has (.call "Decode") then (if p.has .noloop then some .limit else none)
  else
    -- the first thing that happens to the decoder's answer is the identity test against io.EOF
    match (p.after (.call "Decode")).head? with
    | some (.cond t) => if isEofTest t then some .eof else none
    | some (.ncond t) =>
      if !isEofTest t then none
      else if p.has (.fail "Decode") then some .decodeFailed
      else if !p.has (.ok "Decode") then none
      else if p.has (.comm "<-‹arg0›.Done()") then some .ctxDone
      else if p.any (fun e => match e with | .comm _ => true | _ => false) then some .sent
      else none
    | _ => none

def RunKind.returnsNil : RunKind → Bool
  | .openFailed | .decoderFailed | .decodeFailed => false
  | _ => true

/-- `DecodeProvider.Run` is the model's `decodeRun` / `runLoop`: every path is one of the seven ways, each way occurs,
a path returns nil exactly on the ways the model returns `RunRes.nil`, and every failing way wraps (never drops) the
error it got -/
theorem decodeRun_is_model :
    srcDecodeRun.all (fun p => match runKind p with
      | some k => (p.retText == "nil") == k.returnsNil && (k.returnsNil || p.retText == "WithMessage(…)")
      | none => false) = true ∧
    [RunKind.openFailed, .decoderFailed, .eof, .decodeFailed, .ctxDone, .sent, .limit].all
      (fun k => srcDecodeRun.any (fun p => runKind p == some k)) = true := by
  refine ⟨by decide, by decide⟩

/-! ### `JSONAmmoDecoder.Decode` -/

/-- the conditions of `Decode`, read on a `DecIn` -/
def evalCond (first : Bool) (t : String) (d : DecIn) : Option Bool :=
  if t == "‹recv›.iter.WhatIsNext() == jsoniter.InvalidValue && ‹recv›.iter.Error != nil && *‹recv›.readErrorPtr != nil" then
    some (d.noValue && d.readErr0.isSome)
  else if first then none
  else if t == "‹recv›.iter.Error != nil" then some d.parseFails
  else if t == "*‹recv›.readErrorPtr == io.EOF" then some (d.readErr1 == some true)
  else if t == "*‹recv›.readErrorPtr != nil" then some d.readErr1.isSome
  else none

/-- does `d` take path `p` (`first`: `ReadVal` has not been called yet) -/
def takes (d : DecIn) : Bool → Path → Option Bool
  | _, [] => some true
  | first, .cond t :: r => match evalCond first t d with
    | some b => if b then takes d first r else some false
    | none => none
  | first, .ncond t :: r => match evalCond first t d with
    | some b => if b then some false else takes d first r
    | none => none
  | _, .call "ReadVal" :: r => takes d false r
  | first, _ :: r => takes d first r

/-- what a path returns, as a `DecRes` -/
def pathRes (d : DecIn) (p : Path) : Option DecRes :=
  let afterRead := p.has (.call "ReadVal")
  match p.retText with
  | "nil" => some .ok
  | "*‹recv›.readErrorPtr" => some (errOfPtr (if afterRead then d.readErr1 else d.readErr0))
  | "Wrap(…)" => if p.has (.call "Wrap(ammo is truncated)") then some .unexpectedEof else none
  | "‹recv›.iter.Error" => some .parseErr
  | _ => none

def allDecIn : List DecIn :=
  [false, true].flatMap fun nv => [none, some true, some false].flatMap fun r0 =>
  [false, true].flatMap fun pf => [none, some true, some false].map fun r1 => ⟨nv, r0, pf, r1⟩

theorem allDecIn_complete (d : DecIn) : d ∈ allDecIn := by
  obtain ⟨nv, r0, pf, r1⟩ := d
  cases nv <;> cases pf <;> rcases r0 with _ | (_ | _) <;> rcases r1 with _ | (_ | _) <;> decide

/-- `Decode` is the model's `jsonDecode`: in every situation exactly one regenerated path is taken, and it returns what
the model says (`io.EOF` itself only when no value starts and the source has ended; a value cut short by the end of the
source is `ammo is truncated`, never `io.EOF`) -/
theorem jsonDecode_is_model_table :
    allDecIn.all (fun d =>
      (srcJsonDecode.filter (fun p => takes d true p == some true)).map (pathRes d) == [some (jsonDecode d)] &&
      srcJsonDecode.all (fun p => (takes d true p).isSome)) = true := by
  decide +kernel

theorem jsonDecode_is_model (d : DecIn) :
    (srcJsonDecode.filter (fun p => takes d true p == some true)).map (pathRes d) = [some (jsonDecode d)] := by
  have h := List.all_eq_true.1 jsonDecode_is_model_table d (allDecIn_complete d)
  simp only [Bool.and_eq_true, beq_iff_eq] at h
  exact h.1

end Pandora.Bridge.C05Prov
