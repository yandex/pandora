/-
C19 — bridge between what `gen -area respguard` (gen/area_respguard_r4.go) reads off the CURRENT source and
Model/C19Run.lean. A harmless rewrite (renamed locals, reworded messages, logging / metrics moved around, reordered
conjuncts) keeps these lemmas; a changed condition, a moved Report, a dropped error check or a new unchecked assertion
breaks the one that names it.
-/
import Pandora.Gen.RespGuard
import Pandora.Model.C19Run

namespace Pandora.Bridge.C19
open Pandora.Model.C10 Pandora.Model.C19

/-! ## instance.Run against the clock -/

/-- the condition of the `if` around `i.gun.Shoot(ammo)` of the current source IS the model's `shootCond`, for every
valuation of its atoms -/
theorem instanceShootCond_eq (discardOverflow isSlowDown : Bool) :
    Gen.RespGuard.instanceShootCond discardOverflow isSlowDown = shootCond discardOverflow isSlowDown := by
  cases discardOverflow <;> cases isSlowDown <;> rfl

theorem instanceShootCondUnknownAtoms_eq : Gen.RespGuard.instanceShootCondUnknownAtoms = [] := rfl

/-- one iteration of the loop (model `instanceRunSched`): the ammo is acquired and its release deferred BEFORE the
waiter is asked, a cancelled wait ends the iteration, then the shot OR the report of one discarded sample -/
theorem instanceLoopEvents_eq : Gen.RespGuard.instanceLoopEvents = [
    "Acquire",
    "if !ok {return outOfAmmoErr}",
    "defer Release",
    "if !waiter.Wait(ctx) {return nil}",
    "if SHOOT-COND {Shoot} else {DiscardedShootSample;Report}",
    "return nil"] := rfl

/-! the waiter: no lemma here pins the canonical STATEMENTS of `Wait` / `IsSlowDown` (every harmless respelling would alarm).
Both are regenerated as FUNCTIONS by gen area `waiter` (`Gen.Waiter.Wait`, `IsSlowDown`) and proved equal to the model in
`Bridge.Waiter` (`Wait_eq`, `IsSlowDown_eq`), which Props/C19.lean imports through Proofs/C19Waiter.lean
(`C19_slow_answer_costs_only_late_tokens`). `Gen.RespGuard.waiterWaitStmts` stays in the generated file for information. -/

theorem maxOverdueNanos_eq : Gen.RespGuard.maxOverdueNanos = maxOverdue := rfl

theorem discardedTag_eq : Gen.RespGuard.discardedTag = discardedTag := rfl
theorem discardedNet_eq : Gen.RespGuard.discardedNet = discardedNet := rfl

/-- `DiscardedShootSample`: a fresh sample (not a pooled one) with the tag and the failure code, no status -/
theorem discardedSampleStmts_eq : Gen.RespGuard.discardedSampleStmts = [
    "v0 := &Sample{timeStamp: time.Now(), tags: DiscardedShootTag}",
    "v0.SetUserNet(DiscardedShootCodeError)",
    "return v0"] := rfl

/-- what the model's discarded sample carries is what the current constants say, and it is a FAILURE (net ≠ 0) without
a status -/
theorem discardedSample_eq :
    discardedSample = { tags := Gen.RespGuard.discardedTag, id := 0, proto := 0, net := Gen.RespGuard.discardedNet } ∧
      Gen.RespGuard.discardedNet ≠ 0 := ⟨rfl, by decide⟩

/-- a pooled sample is reset COMPLETELY (struct assignment) before it is handed out: nothing of its previous use — the
failure code of an earlier request — can show on the next one -/
theorem sampleAcquireStmts_eq : Gen.RespGuard.sampleAcquireStmts = [
    "v0 := samplePool.Get().(*Sample)",
    "*v0 = Sample{timeStamp: time.Now(), tags: v1}",
    "return v0"] := rfl

/-- the phout aggregator returns a sample to the pool AFTER its line is formatted and written (model `SampleOp.report`
is the hand-over; nobody reads the sample after `releaseSample`). Order-free FACTS about the current source (a literal
statement list alarms on a legitimate repair such as 89739df, which flushes the writer before a line that would not
fit): what else `handle` does is free; releasing before the line is formatted / written, releasing twice or touching the
sample afterwards is not. -/
theorem phoutHandleFacts_eq : Gen.RespGuard.phoutHandleFacts = [
    "releaseCalls=1",
    "releaseAtTopLevel=true",
    "lineFormattedBeforeRelease=true",
    "lineWrittenBeforeRelease=true",
    "sampleUsedAfterRelease=false"] := rfl

/-! ## the shared iterator: both methods run under the mutex (model `iterStep true`) -/

theorem mpIterNext_locked : Gen.RespGuard.mpIterNext.take 2 = ["v0.mx.Lock()", "defer v0.mx.Unlock()"] := rfl
theorem mpIterRand_locked : Gen.RespGuard.mpIterRand.take 2 = ["v0.mx.Lock()", "defer v0.mx.Unlock()"] := rfl

/-! ## lib/netutil: the DNS-caching dialer (model `dnsDial`) -/

/-- a cache hit dials the remembered address and hands the result through; a failed dial returns BEFORE anything is
read from the connection or remembered; the connection of a successful dial is closed when the address cannot be split -/
theorem dnsCachingDialStmts_eq : Gen.RespGuard.dnsCachingDialStmts = [
    "v0, v1 := v2.Get(v3)",
    "if v1 { return v4.DialContext(v5, v6, v0) }",
    "v7, v8 = v4.DialContext(v5, v6, v3)",
    "if v8 != nil { return }",
    "v9 := v7.RemoteAddr().(*net.TCPAddr)",
    "_, v10, v8 := net.SplitHostPort(v3)",
    "if v8 != nil { _ = v7.Close() return nil, errors.Wrap(v8, \"invalid address, but successful dial - should not happen\") }",
    "v2.Add(v3, net.JoinHostPort(v9.IP.String(), v10))",
    "return"] := rfl

/-- the cache: a nil map is only read under the nil check and created before the first write; every path unlocks -/
theorem dnsCacheGetStmts_eq : Gen.RespGuard.dnsCacheGetStmts = [
    "v0.rw.RLock()",
    "if v0.hostToAddr == nil { v0.rw.RUnlock() return }",
    "v1, v2 = v0.hostToAddr[v3]",
    "v0.rw.RUnlock()",
    "return"] := rfl

theorem dnsCacheAddStmts_eq : Gen.RespGuard.dnsCacheAddStmts = [
    "v0.rw.Lock()",
    "if v0.hostToAddr == nil { v0.hostToAddr = make(map[string]string) }",
    "v0.hostToAddr[v1] = v2",
    "v0.rw.Unlock()"] := rfl

/-- `PreResolveTargetAddr`: a target that cannot be reached at configuration time keeps its NAME and the caching dialer
(the gun factories ignore the error: "we should not fail shooting, we should try to connect on every shoot") -/
theorem preResolveStmts_eq : Gen.RespGuard.preResolveStmts = [
    "if !v0.Dialer.DNSCache { return v1, nil }",
    "if endpointIsResolved(v1) { v0.Dialer.DNSCache = false return v1, nil }",
    "v2, v3 := netutil.LookupReachable(v1, v0.Dialer.Timeout)",
    "if v3 != nil { zap.L().Warn(\"DNS target pre resolve failed\", zap.String(\"target\", v1), zap.Error(v3)) return v1, v3 }",
    "v0.Dialer.DNSCache = false",
    "return v2, nil"] := rfl

/-- run-time panic sites of lib/netutil/dial.go: none but the two assertions on the remote address of a CONNECTED tcp
connection (model `DialFacts.remoteIsTCP`) and the cache's map write under the nil check -/
theorem netutilInventory_eq :
    Gen.RespGuard.netutilExplicitPanics = [] ∧
    Gen.RespGuard.netutilUncheckedAssertions = [
      "lib/netutil/dial.go|LookupReachable|_.RemoteAddr().(*net.TCPAddr)",
      "lib/netutil/dial.go|NewDNSCachingDialer|_.RemoteAddr().(*net.TCPAddr)"] ∧
    Gen.RespGuard.netutilIndexings = [] ∧
    Gen.RespGuard.netutilMapWritesWithoutMake = ["lib/netutil/dial.go|SimpleDNSCache.Add|_.hostToAddr[_]"] :=
  ⟨rfl, rfl, rfl, rfl⟩

/-! ## who owns the sample of a scenario step (model `stepOps false`) -/

/-- exactly one Report per path: one in `shootStep` (success), none in `shoot` itself, one in `reportErr` (failure) -/
theorem scenarioReportCalls_eq : Gen.RespGuard.scenarioReportCalls = [1, 0, 1] := rfl

/-- `shootStep` reports the sample as its LAST use of it and cannot return an error afterwards — so `shoot` never calls
`reportErr` on a sample the aggregator already owns (the seeded order, model `stepOps true`, makes this `false`) -/
theorem scenarioReportLastUse_eq : Gen.RespGuard.scenarioReportLastUse = true := rfl

theorem scenarioReportErrStmts_eq : Gen.RespGuard.scenarioReportErrStmts = [
    "if v0 == nil { return }",
    "v1.AddTag(EmptyTag)",
    "v1.SetProtoCode(0)",
    "v1.SetErr(v0)",
    "v2.base.Aggregator.Report(v1)"] := rfl

/-- the step loop: a fresh sample per step; an error of `shootStep` is reported ON THAT sample and ends the shot -/
theorem scenarioShootLoop_eq : Gen.RespGuard.scenarioShootLoop = [
    "v0 := v1.Name + \".\" + v2.Name",
    "v3.buildLogID(&v4, v0, v1.ID, v5)",
    "v6 := netsample.Acquire(v0)",
    "v7 := v3.shootStep(v2, v6, v1.Name, v8, v9, v4.String())",
    "if v7 != nil { v3.reportErr(v6, v7) return v7 }"] := rfl

end Pandora.Bridge.C19
