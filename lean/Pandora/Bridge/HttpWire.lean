/-
Bridge lemmas for C09: the definitions REGENERATED from the current /repo source (`Pandora.Gen.HttpWire`, rewritten by
`gen -area httpwire` on every check) are what the hand-written model (`Pandora.Model.C09`) computes. The property theorems
(Props/C09) are stated about the model; a change of EnrichRequestWithHeaders, of what BaseGun.Shoot does to the request,
of getHostWithoutPort / PreResolveTargetAddr, of a decoder's merge loop or of the arguments it hands to Setup, of
BuildRequest, raw.DecodeRequest, the keep-alive wiring of the transport, the per-gun client or the gun factories that is
not an identity breaks a lemma here (or makes the translator fail) — `lake build Pandora.Props.C09` then fails.

Stated against the REPAIRED tree: uri/uripost add-if-absent merge (1aacb94), raw HTTP/1.0 close rule (2a058ea), connect
factory keeps Target (21b17ff).
-/
import Pandora.Gen.HttpWire
import Pandora.Model.C09

namespace Pandora.Bridge.HttpWire
open Pandora.Model.C09

/-! ### semantic translations -/

/-- EnrichRequestWithHeaders: one round of the loop is `enrichStep`, the model's `enrich` is its iteration -/
theorem enrich_cons (r : Req) (k : Str) (vs : List Str) (rest : Hdr) :
    enrich r ((k, vs) :: rest) = (Gen.HttpWire.enrichStep r k vs).bind (fun r' => enrich r' rest) := by
  simp only [enrich, Gen.HttpWire.enrichStep, hostKey]
  cases hget r.header (canon k) with
  | some x => rfl
  | none =>
    -- every guard decided, then computation: the proof does not depend on how the guards are nested or negated
    by_cases hk : canon k = [72, 111, 115, 116] <;> by_cases hh : r.host = [] <;> cases vs <;> simp [hk, hh]

theorem enrich_nil (r : Req) : enrich r [] = some r := rfl

/-- BaseGun.Shoot: whatever scheme and URL host the request came with, what reaches Client.Do is the model's `shoot` -/
theorem shootRewrite_eq (g : Gun) (r : Req) (sch : Scheme) (d : Str) :
    Gen.HttpWire.shootRewrite g.ssl g.target g.targetResolved
      { scheme := sch, dial := d, method := r.method, uri := r.uri, host := r.host, header := r.header, body := r.body,
        close := wantsClose r } = some (shoot g r) := by
  simp only [Gen.HttpWire.shootRewrite, shoot]
  cases g.ssl <;> by_cases hh : r.host = [] <;> simp [hh]

/-- the option-guarded blocks of Shoot that were not translated: debug logging, auto-tag, answer log, trace/dump — none
is on by default and none is part of the property's configurations -/
theorem shootSkipped_eq :
    Gen.HttpWire.shootSkipped = ["Config.AnswLog", "Config.AutoTag", "Config.HTTPTrace", "DebugLog"] := rfl

theorem getHostWithoutPort_eq (t : Str) : Gen.HttpWire.getHostWithoutPort t (splitHostPort? t) = hostWithoutPort t := by
  simp only [Gen.HttpWire.getHostWithoutPort, hostWithoutPort]
  cases splitHostPort? t <;> rfl

theorem preResolve_eq (dns isResolved : Bool) (l : Lookup) (t : Str) :
    Gen.HttpWire.preResolve dns isResolved l t = (preResolve dns isResolved l t, dnsCacheAfter dns isResolved l) := by
  cases dns <;> cases isResolved <;> cases l <;> rfl

/-- uri.go readLine / uripost.go readBlock: add-if-absent, one round -/
theorem uriMergeStep_eq (h : Hdr) (k : Str) (vv : List Str) :
    Gen.HttpWire.uriMergeStep h k vv = some (match hget h (canon k) with
      | some _ => h
      | none => hput h (canon k) vv) := by
  simp only [Gen.HttpWire.uriMergeStep]
  cases hget h (canon k) <;> rfl

theorem uripostMergeStep_eq (h : Hdr) (k : Str) (vv : List Str) :
    Gen.HttpWire.uripostMergeStep h k vv = Gen.HttpWire.uriMergeStep h k vv := by
  (simp only [Gen.HttpWire.uripostMergeStep, Gen.HttpWire.uriMergeStep]) <;> (cases hget h (canon k) <;> rfl)

theorem mergeUri_eq (common conf : Hdr) :
    mergeUri common conf = conf.foldl (fun h kv => (Gen.HttpWire.uriMergeStep h kv.1 kv.2).getD h) common := by
  simp only [mergeUri, uriMergeStep_eq, Option.getD_some]
  congr 1

/-- jsonline.go Scan and readArray: `header.Set(k, v)` -/
theorem jsonMergeStep_eq (h : Hdr) (k v : Str) :
    Gen.HttpWire.jsonScanMergeStep h k v = some (hset h k v) ∧ Gen.HttpWire.jsonArrayMergeStep h k v = some (hset h k v) :=
  ⟨rfl, rfl⟩

theorem mergeJson_eq (conf : Hdr) (lines : List (Str × Str)) :
    mergeJson conf lines = lines.foldl (fun h kv => (Gen.HttpWire.jsonScanMergeStep h kv.1 kv.2).getD h) conf := by
  simp only [mergeJson, (jsonMergeStep_eq _ _ _).1, Option.getD_some]

/-- raw.DecodeRequest: `req.Close` after it, given what http.ReadRequest stores (net/http shouldClose) -/
theorem decodeRequestClose_eq (minor : Nat) (conn : List Str) :
    Gen.HttpWire.decodeRequestClose 1 minor (goShouldClose minor conn) (hasTok conn closeTok) = decodeClose minor conn := by
  simp only [Gen.HttpWire.decodeRequestClose, decodeClose]
  by_cases h : minor = 0 <;> simp [h]

theorem http2NeedsSSL_eq (ssl : Bool) : constructible .http2 ssl = (!Gen.HttpWire.http2NeedsSSL || ssl) := by
  cases ssl <;> rfl

/-! ### shape facts: where the values handed along come from

`paramN` = N-th parameter of the function, `recv` = its receiver, `f(args)#i` = i-th result of a call, `(T).F` = field F of a
local of struct type T, `merged` = the header map the merge loop works on, `a|b` = assigned in several places. -/

/-- uri: `header := commonHeader.Clone()`, merged with the decoder's configured headers, handed to
`Setup("GET", <first word of the line>, nil, header, <rest of the line>)`; nothing else touches it -/
theorem uri_shape :
    Gen.HttpWire.uriBase = "clone(param1)" ∧ Gen.HttpWire.uriOver = "recv.decodedConfigHeaders" ∧
    Gen.HttpWire.uriSetup = ["lit:\"GET\"", "zero|strings.Cut(param0,lit:\" \")#0", "nil", "merged",
      "strings.Cut(param0,lit:\" \")#1"] ∧
    Gen.HttpWire.uriOtherUses = [] ∧
    Gen.HttpWire.uriCommonCalls = ["param1.Set(util.DecodeHeader(param0)#0,util.DecodeHeader(param0)#1)", "clone(param1)"] :=
  ⟨rfl, rfl, rfl, rfl, rfl⟩

/-- uripost: the same with `Setup("POST", uri, <bodySize bytes read after the line>, header, tag)` -/
theorem uripost_shape :
    Gen.HttpWire.uripostBase = "clone(param1)" ∧ Gen.HttpWire.uripostOver = "recv.decodedConfigHeaders" ∧
    Gen.HttpWire.uripostSetup = ["lit:\"POST\"", "uripost.DecodeURI(.ReadString(lit:10)#0|strings.TrimSpace(self))#1",
      "readSized(param0,uripost.DecodeURI(.ReadString(lit:10)#0|strings.TrimSpace(self))#0)#0", "merged",
      "uripost.DecodeURI(.ReadString(lit:10)#0|strings.TrimSpace(self))#2"] ∧
    Gen.HttpWire.uripostOtherUses = [] ∧
    Gen.HttpWire.uripostCommonCalls =
      ["param1.Set(util.DecodeHeader(.ReadString(lit:10)#0|strings.TrimSpace(self))#0,util.DecodeHeader(.ReadString(lit:10)#0|strings.TrimSpace(self))#1)",
       "clone(param1)"] :=
  ⟨rfl, rfl, rfl, rfl, rfl⟩

/-- http/json, line by line and as an array: `header := decodedConfigHeaders.Clone()`, the entity's headers `Set` over it,
`Setup(entity.Method, "http://" + entity.Host + entity.URI, []byte(entity.Body) or nil, header, entity.Tag)` -/
theorem json_shape :
    Gen.HttpWire.jsonScanBase = "clone(recv.decodedConfigHeaders)" ∧ Gen.HttpWire.jsonArrayBase = "clone(recv.decodedConfigHeaders)" ∧
    Gen.HttpWire.jsonScanOver = "(entity).Headers" ∧ Gen.HttpWire.jsonArrayOver = "(entity).Headers" ∧
    Gen.HttpWire.jsonScanSetup = ["(entity).Method", "concat(lit:\"http://\",(entity).Host,(entity).URI)",
      "zero|if(!=((entity).Body,lit:\"\"))conv((entity).Body)", "merged", "(entity).Tag"] ∧
    Gen.HttpWire.jsonArraySetup = Gen.HttpWire.jsonScanSetup ∧
    Gen.HttpWire.jsonScanOtherUses = [] ∧ Gen.HttpWire.jsonArrayOtherUses = [] :=
  ⟨rfl, rfl, rfl, rfl, rfl, rfl, rfl, rfl⟩

/-- BuildRequest: http.NewRequest(method, url, body) resp. raw.DecodeRequest(buff), ONE EnrichRequestWithHeaders with the
stored header, returned as it is -/
theorem build_shape :
    Gen.HttpWire.ammoBuild = ["req:=http.NewRequest(recv.method,recv.url,zero|if(!=(recv.body,nil))bytes.NewReader(recv.body))",
      "util.EnrichRequestWithHeaders(req,recv.header)", "return req,nil"] ∧
    Gen.HttpWire.rawBuild = ["req:=raw.DecodeRequest(recv.buff)", "util.EnrichRequestWithHeaders(req,recv.commonHeaders)",
      "return req,nil"] ∧
    Gen.HttpWire.rawSetupStore = "clone(param3)" ∧
    Gen.HttpWire.rawSetupCalls = ["readSized(recv.reader,raw.DecodeHeader(zero|.ReadString(lit:10)#0|strings.TrimSpace(self))#0)#0 ; recv.decodedConfigHeaders",
      "nil ; recv.decodedConfigHeaders"] ∧
    Gen.HttpWire.decodeRequestTouches = ["RequestURI=\"\""] :=
  ⟨rfl, rfl, rfl, rfl, rfl⟩

/-- keep-alives: the transport's DisableKeepAlives is the `disable-keep-alives` option, off by default; the Client of a gun
is built inside NewBaseGun (one transport per gun); the http2 gun insists on ssl -/
theorem transport_shape :
    Gen.HttpWire.transportDisableKeepAlives = "param0.DisableKeepAlives" ∧ Gen.HttpWire.defaultDisableKeepAlives = false ∧
    Gen.HttpWire.disableKeepAlivesOption = "disable-keep-alives" ∧
    Gen.HttpWire.baseGunClient = "param0(param1.Client,param1.Target)" ∧ Gen.HttpWire.http2NeedsSSL = true :=
  ⟨rfl, rfl, rfl, rfl, rfl⟩

/-- the three gun factories: each stores the pre-resolved address in TargetResolved and leaves Target alone (`factory`) -/
theorem factory_shape :
    Gen.HttpWire.factoryAssigns =
      ["connect: TargetResolved=phttp.PreResolveTargetAddr(&conf.Client,conf.Target)#0",
       "http2: TargetResolved=phttp.PreResolveTargetAddr(&conf.Client,conf.Target)#0",
       "http: TargetResolved=phttp.PreResolveTargetAddr(&conf.Client,conf.Target)#0"] := rfl

/-! ### the whole transport wiring -/

/-- NewTransport: every field of the http.Transport is the TransportConfig field of the same name — in particular the
idle timeout of the connection pool is `idle-conn-timeout` and nothing else -/
theorem newTransport_eq (c : TransportCfg) : Gen.HttpWire.newTransport c = newTransport c := rfl

/-- DefaultTransportConfig: keep-alives on, no idle limits, idle connections live 90s, no response-header timeout -/
theorem defaultTransportCfg_eq : Gen.HttpWire.defaultTransportCfg = defaultTransportCfg := by decide

/-- the documented option names select the fields the model's `setTransportOpt` selects -/
theorem transportTags_eq : Gen.HttpWire.transportTags = transportTags := by decide

/-- nothing else of the transport is configured except the dialer and the TLS client config; the options stand at the
top level of the gun's config; every client constructor (http, http2, connect) hands the gun's OWN TransportConfig to
NewTransport; the defaults come from DefaultTransportConfig; redirects are off by default -/
theorem transport_wiring_shape :
    Gen.HttpWire.transportOtherFields = [] ∧
    Gen.HttpWire.transportLaterAssigns = ["DialContext=param1", "TLSClientConfig=&composite:tls.Config"] ∧
    Gen.HttpWire.defaultTransportOtherFields = [] ∧
    Gen.HttpWire.transportEmbedding = "Transport:,squash in Client:,squash" ∧
    Gen.HttpWire.clientTransports =
      ["HTTP1ClientConstructor: NewTransport(param0.Transport,NewDialer(param0.Dialer).DialContext,param1)",
       "HTTP2ClientConstructor: NewHTTP2Transport(param0.Transport,NewDialer(param0.Dialer).DialContext,param1)",
       "newConnectClientVia: NewTransport(param0.Transport,newConnectDialFunc(param2,param0.ConnectSSL,NewDialer(param0.Dialer)),param1)",
       "NewHTTP2Transport: NewTransport(param0,param1,param2)"] ∧
    Gen.HttpWire.defaultClientTransport = "DefaultTransportConfig()" ∧
    Gen.HttpWire.defaultClientRedirect = "lit:false" :=
  ⟨rfl, rfl, rfl, rfl, rfl, rfl, rfl⟩

/-- BaseGun.Shoot after Client.Do (outside the option-guarded blocks): return on error, note the status, read the body to
its end into ioutil.Discard, close it on return — so the connection can go back to the pool whatever the status and
however large the body; nothing else looks at the response -/
theorem shootResponse_shape :
    Gen.HttpWire.shootResponse =
      ["_,err=io.Copy(ioutil.Discard,res.Body)", "defer res.Body.Close()", "if-err-return", "if-err-return",
       "local.SetProtoCode(res.StatusCode)"] := rfl

/-- the gun's Client hands the request to the transport as it is, exactly once: `noRedirectClient.Do` is one RoundTrip (no
retry: a request whose answer is lost does not arrive twice), redirects are followed only when `redirect` is set, the
http2 wrapper calls the wrapped client once -/
theorem clientDo_shape :
    Gen.HttpWire.clientDo =
      ["noRedirectClient.Do: return recv.Transport.RoundTrip(param0)",
       "NewRedirectingClient: if(param1){return composite:redirectClient(&composite:http.Client)} ; return composite:noRedirectClient(param0)",
       "panicOnHTTP1Client.Do: 1 inner Do calls; first: local,local:=recv.Client.Do(param0)"] := rfl

/-- http/json: entities come from a json.Decoder over the file, line by line and as an array alike (an entry may span
several lines; the layout of the file is invisible) -/
theorem jsonDecode_shape :
    Gen.HttpWire.jsonDecodeSites = ["Scan: recv.decoder.Decode(&local)", "readArray: recv.decoder.Decode(&local)"] := rfl

/-- connect gun: tunnels are opened at `TargetResolved` (defaulting to `Target`), by a TCP dial to that address followed by
`CONNECT <the address the transport asks for>` — the model's `connectTunnel` -/
theorem connect_shape :
    Gen.HttpWire.connectShape =
      ["NewConnectGun: if(==(param0.TargetResolved,lit:\"\")){param0.TargetResolved=param0.Target}",
       "NewConnectGun client: newConnectClientVia(lit0,lit1,param0.TargetResolved)",
       "NewConnectGun: return NewBaseGun(func,param0,param1)",
       "tunnel dial: param2.DialContext(lit0,lit:\"tcp\",param0)",
       "tunnel request: Method=lit:\"CONNECT\" Host=lit2"] := rfl

/-! ### GetBody, the option-guarded blocks of Shoot, shared clients, the end of a pass, the provider -/

/-- base.go GetBody IS the model's `getBody`: read everything, put an equal reader back, hand the bytes to the log -/
theorem getBody_eq (b : BodyRd) : Gen.HttpWire.getBody b = getBody b := by
  simp only [Gen.HttpWire.getBody, getBody]

/-- the option-guarded blocks of Shoot before Client.Do touch the request exactly so: the answer log calls GetBody, auto-tag
and the debug log read `req.URL`, the dump calls httputil.DumpRequest, the trace replaces `req` by `req.WithContext(…)` —
what `bodyAtDo` models; nothing assigns Method, URL, Host or Header -/
theorem shootGuarded_shape :
    Gen.HttpWire.shootGuarded = ["Config.AnswLog.Enabled: local=GetBody(req)", "Config.AutoTag.Enabled: local.AddTag(autotag(recv.Config.AutoTag.URIElements,req.URL))", "Config.HTTPTrace.DumpEnabled: def:=httputil.DumpRequest(req,lit:true)", "Config.HTTPTrace.TraceEnabled: req=req.WithContext(httptrace.WithClientTrace(req.Context(),local))", "DebugLog: recv.Log.Debug(lit:\"Prepared ammo to shoot\",zap.Stringer(lit:\"url\",req.URL))"] := rfl

/-- shared-client: the pool is built by WarmUp with `client-number` (at least one) clients, each from the gun's own
constructor with the gun's own client configuration and target; Bind takes the pool's next client; `Next` advances the
counter BEFORE it indexes (`clientOf`: the k-th gun gets `pool[(k+1) % len]`) -/
theorem sharedClient_shape :
    Gen.HttpWire.sharedClient = ["prepareClientPool: see sharedPool, sharedPoolFill", "createSharedDeps: def:=recv.prepareClientPool() ; if(!=(.prepareClientPool()#1,nil)){return nil,.prepareClientPool()#1} ; return &composite:SharedDeps,nil", "WarmUp: return recv.createSharedDeps(param0)", "Bind: def:=param1.Shared.(type) ; if(&&(param1.Shared.(type)#1,!=(param1.Shared.(type)#0.clientPool,nil))){recv.Client=param1.Shared.(type)#0.clientPool.Next()}", "NewBaseGun ClientConstructor: return param0(param1.Client,param1.Target)", "clientpool.Add: recv.pool=append(recv.pool,param0)", "clientpool.Next: if(==(len(recv.pool),lit:0)){var;return zero} ; def:=recv.i.Add(lit:1) ; return recv.pool[%(conv(recv.i.Add(lit:1)),len(recv.pool))]"] := rfl

/-- the end of a pass in the four Scan loops: the pass is counted and checked against `passes`, the common header of
uri/uripost is replaced by an EMPTY map (`scanAll` starts every pass with `[]`), the file is read again from offset 0 with a
fresh scanner / reset reader / new json.Decoder; readLine / readBlock work on the decoder's own header map, which therefore
persists across the lines of one pass (`scanUri` threads `common`) -/
theorem scanWrap_shape :
    Gen.HttpWire.scanWrap = ["uriDecoder wrap: continue ; def:=recv.file.Seek(lit:0,lit:0) ; if(!=(local,nil)){return nil,local} ; if(&&(!=(recv.config.Passes,lit:0),>=(recv.passNum,recv.config.Passes))){return nil,ErrPassLimit} ; if(==(recv.ammoNum,lit:0)){return nil,ErrNoAmmo} ; recv.Header=composite:http.Header ; recv.line=lit:0 ; recv.passNum++ ; recv.scanner=new-reader(recv.file)", "uriDecoder reads: readLine(local,recv.Header)", "uripostDecoder wrap: def:=recv.file.Seek(lit:0,lit:0) ; if(!=(local,nil)){return nil,local} ; if(&&(!=(recv.config.Passes,lit:0),>=(recv.passNum,recv.config.Passes))){return nil,ErrPassLimit} ; if(==(recv.ammoNum,lit:0)){return nil,ErrNoAmmo} ; recv.header=make(http.Header) ; recv.passNum++ ; recv.reader.Reset(recv.file)", "uripostDecoder reads: readBlock(recv.reader,recv.header)", "rawDecoder wrap: continue ; def:=recv.file.Seek(lit:0,lit:0) ; if(!=(local,nil)){return nil,local} ; if(&&(!=(recv.config.Passes,lit:0),>=(recv.passNum,recv.config.Passes))){return nil,ErrPassLimit} ; if(==(recv.ammoNum,lit:0)){return nil,ErrNoAmmo} ; recv.passNum++ ; recv.reader.Reset(recv.file)", "jsonlineDecoder wrap: _,local=recv.file.Seek(lit:0,lit:0) ; if(!=(local,nil)){return nil,local} ; if(!=(local,nil)){return nil,local} ; if(&&(!=(recv.config.Passes,lit:0),>=(recv.passNum,recv.config.Passes))){return nil,ErrPassLimit} ; if(==(recv.ammoNum,lit:0)){return nil,ErrNoAmmo} ; local=recv.scanner.Err() ; recv.decoder=new-reader(recv.file) ; recv.line=lit:0 ; recv.passNum++"] := rfl

/-- the provider: the `uris` option is the file `strings.Join(uris, "\n")`; Acquire builds the request of the ammo it took from
the sink, lets the middlewares (none by default) see it and hands THAT request to the gun; Release gives the ammo back to
the decoder unless the ammo is preloaded (preloaded ammo is used again, `provide`) -/
theorem provider_shape :
    Gen.HttpWire.urisSource = ["def:=bytes.NewReader(conv(strings.Join(param0.Uris,lit:\"\\n\")))", "def:=conv(bytes.NewReader(conv(strings.Join(param0.Uris,lit:\"\\n\"))))", "return conv(bytes.NewReader(conv(strings.Join(param0.Uris,lit:\"\\n\")))),&composite:fakeCloser,nil"] ∧
    Gen.HttpWire.providerAcquire = ["def:=<-recv.Sink", "if(!<-recv.Sink#1){return nil,lit:false}", "def:=<-recv.Sink#0.BuildRequest()", "if(!=(.BuildRequest()#1,nil)){return <-recv.Sink#0,lit:false}", "range(recv.Middlewares){def:=val.UpdateRequest(.BuildRequest()#0);if(!=(val.UpdateRequest(.BuildRequest()#0),nil)){return <-recv.Sink#0,lit:false}}", "return ammo.NewGunAmmo(.BuildRequest()#0,<-recv.Sink#0.Tag(),recv.NextID()),<-recv.Sink#1"] ∧
    Gen.HttpWire.providerRelease = ["if(recv.Preload){return }", "recv.Decoder.Release(param0)"] := ⟨rfl, rfl, rfl⟩

/-! ### which configurations get a pool of shared clients -/

/-- base.go prepareClientPool, translated statement by statement (`Gen.HttpWire.sharedPool`), IS the model's `sharedPool`:
no pool unless `shared-client.enabled`, whatever `client-number` says; with it, `client-number` clients, one when the number
is below one. Proved by case analysis on the switch and linear arithmetic on the number, so the guards may be written and
ordered in any equivalent way; a change of WHICH configurations get a pool, or of its size, is refused. -/
theorem sharedPool_eq (enabled : Bool) (n : Int) : Gen.HttpWire.sharedPool enabled n = sharedPool enabled n := by
  unfold Gen.HttpWire.sharedPool
  -- both values of the switch; every `if` / `let` of the regenerated function split into its branches; each leaf is closed by
  -- reflexivity, by linear arithmetic on the pool size, or refuted by its own path condition — whatever the order of the guards
  cases enabled <;>
    simp only [sharedPool, Bool.not_true, Bool.not_false, Bool.false_eq_true, if_true, if_false, decide_eq_true_eq] <;>
    (repeat' split) <;> first | rfl | (simp only [Option.some.injEq] <;> omega) | (exfalso; omega)

/-- the pool is filled by the gun's own client constructor (same configuration and target as a per-instance client) -/
theorem sharedPoolFill_shape : Gen.HttpWire.sharedPoolFill = ["Add(recv.ClientConstructor())"] := rfl

/-! ### util.DecodeHeader -/

private theorem last_idx (l : Str) (x : Nat) (hne : l ≠ []) :
    (l.getD (l.length - 1) 0 != x) = decide (l.getLast? ≠ some x) := by
  rw [List.getLast?_eq_getElem?, List.getD_eq_getElem?_getD]
  have : l.length - 1 < l.length := by
    cases l with
    | nil => exact absurd rfl hne
    | cons a t => simp
  rw [List.getElem?_eq_getElem this]
  by_cases e : l[l.length - 1] = x <;> simp [bne, e]

private theorem head_idx (l : Str) (x : Nat) (hne : l ≠ []) : (l.getD 0 0 != x) = decide (l.head? ≠ some x) := by
  cases l with
  | nil => exact absurd rfl hne
  | cons a t => by_cases e : a = x <;> simp [bne, e]

set_option linter.unusedSimpArgs false in
/-- util.DecodeHeader, translated statement by statement with the conditions under which Go evaluates its index and slice
expressions without a run-time panic (`Gen.HttpWire.decodeHeader`), never panics and IS the model's `decodeHeader`: `[key: value]`
with at least three bytes, cut at the FIRST colon, both parts trimmed, an empty key refused. (`cut` / `trim` stand for
strings.Cut / strings.TrimSpace.) -/
theorem decodeHeader_eq (h : Str) : Gen.HttpWire.decodeHeader h = some (decodeHeader h) := by
  unfold Gen.HttpWire.decodeHeader decodeHeader
  by_cases hl : h.length < 3
  · have hi : ((h.length : Int) < 3) := by omega
    have hi2 : ((h.length : Int) ≤ 2) := by omega
    simp [hl, hi, hi2]
  · have hne : h ≠ [] := by intro e; simp [e] at hl
    have hi : ¬ ((h.length : Int) < 3) := by omega
    have hi2 : ¬ ((h.length : Int) ≤ 2) := by omega
    have e1 : ((h.length : Int) - 1).toNat = h.length - 1 := by omega
    have hd : (h.drop 1).take (h.length - 1 - 1) = (h.drop 1).dropLast := by
      rw [List.dropLast_eq_take, List.length_drop]
    have p1 : (0:Int) < h.length := by omega
    have p2 : (0:Int) ≤ (h.length:Int) - 1 := by omega
    have p3 : (h.length:Int) - 1 < h.length := by omega
    have p4 : (1:Int) ≤ (h.length:Int) - 1 := by omega
    have p5 : (h.length:Int) - 1 ≤ h.length := by omega
    have hh := head_idx h 91 hne
    have hlast := last_idx h 93 hne
    -- the index / slice conditions hold, the tests on the first and last byte are the model's
    simp only [hl, hi, hi2, e1, p1, p2, p3, p4, p5, hh, hlast, hd, decide_true, decide_false, Int.toNat_zero, Int.toNat_one,
      Int.le_refl, Bool.or_false, Bool.false_or, Bool.true_or, Bool.or_true, Bool.and_true, Bool.true_and, Bool.and_self,
      Bool.not_true, Bool.not_false, Bool.false_eq_true, if_true, if_false, false_or]
    by_cases c1 : h.head? = some 91 <;> by_cases c2 : h.getLast? = some 93 <;>
      simp only [c1, c2, ne_eq, not_true_eq_false, not_false_eq_true, decide_true, decide_false, Bool.or_false, Bool.false_or,
        Bool.true_or, Bool.or_true, Bool.false_eq_true, if_true, if_false, or_false, false_or, or_true, true_or]
    cases hc : cut (List.drop 1 h).dropLast 58 with
    | none => simp
    | some p =>
      obtain ⟨k, v⟩ := p
      by_cases hk : trim k = [] <;> simp [hk]

/-! ### util.DecodeHTTPConfigHeaders -/

/-- the loop of DecodeHTTPConfigHeaders over the regenerated round `Gen.HttpWire.configHeaderStep`: the first bad string ends it
with its error; `none` = a round would panic -/
def runConfigHeaders : Hdr → List Str → Option (Except HdrErr Hdr)
  | st, [] => some (.ok st)
  | st, h :: rest =>
    match Gen.HttpWire.configHeaderStep st h with
    | none => none
    | some (.error e) => some (.error e)
    | some (.ok st') => runConfigHeaders st' rest

theorem runConfigHeaders_eq (strs : List Str) (acc : Hdr) :
    runConfigHeaders acc strs =
      some (match decodeAll strs with
        | .error e => .error e
        | .ok kvs => .ok (kvs.foldl (fun h kv => hadd h kv.1 kv.2) acc)) := by
  induction strs generalizing acc with
  | nil => rfl
  | cons s rest ih =>
    simp only [runConfigHeaders, Gen.HttpWire.configHeaderStep, decodeHeader_eq, Option.map_some, decodeAll]
    cases hd : decodeHeader s with
    | error e => rfl
    | ok kv =>
      obtain ⟨k, v⟩ := kv
      simp only [ih]
      cases decodeAll rest with
      | error e => rfl
      | ok kvs => rfl

/-- **The `headers` option is decoded as the model says**: the regenerated loop of DecodeHTTPConfigHeaders, started with the
regenerated (empty) map, never panics, stops at the first bad string with its error, and otherwise ADDS every decoded pair in
order — the model's `decodeAll` followed by `confHdr`. -/
theorem configHeaders_eq (strs : List Str) :
    runConfigHeaders Gen.HttpWire.configHeadersInit strs =
      some (match decodeAll strs with
        | .error e => .error e
        | .ok kvs => .ok (confHdr kvs)) := runConfigHeaders_eq strs []

/-! ### code the anchored files depend on -/

/-- lib/netutil ValidHTTPMethod (a method is a non-empty token, "" stands for GET: the model's `validMethod`); the ammo handed
to the gun carries the request BuildRequest made, its tag and id, nothing else (`NewGunAmmo`, `GunAmmo.Request`); `Ammo.Setup`
stores method / url / body / header / tag AS GIVEN after the two refusals (no copy, no normalisation: the model's `buildAmmo`
reads them back unchanged) and `Reset` clears them; `NewDecoder` decodes the `headers` option once and hands it to the decoder
of the configured type; the default gun configurations: `ssl` false for the http and connect guns, true for http2, the optional
features off, the client = DefaultClientConfig() (no redirects, DefaultTransportConfig, dialer with dns-cache, 3 s timeout); NewDialer
copies the dialer options and wraps the dialer into the DNS cache only when `dns-cache` is on. -/
theorem r6_shape :
    Gen.HttpWire.validMethodSrc = ["ValidHTTPMethod: if(==(param0,lit:\"\")){param0=lit:\"GET\"} ; return &&(>(len(param0),lit:0),==(strings.IndexFunc(param0,isNotToken),lit:-1))", "isNotToken: return !httpguts.IsTokenRune(param0)"] ∧
    Gen.HttpWire.gunAmmoSrc = ["GunAmmo.Request: def:=netsample.Acquire(recv.tag) ; netsample.Acquire(recv.tag).SetID(recv.id) ; return recv.req,netsample.Acquire(recv.tag)", "GunAmmo.IsInvalid: return recv.isInvalid", "NewGunAmmo: return GunAmmo{id=param2,req=param0,tag=param1}"] ∧
    Gen.HttpWire.ammoSetupSrc = ["Ammo.Setup: if(def:=netutil.ValidHTTPMethod(param0);!netutil.ValidHTTPMethod(param0)){return errors.New(concat(lit:\"invalid HTTP method \",param0))} ; if(def:=url.Parse(param1);!=(url.Parse(param1)#1,nil)){return fmt.Errorf(lit:\"invalid URL %s; err %w \",param1,url.Parse(param1)#1)} ; recv.method=param0 ; recv.body=param2 ; recv.url=param1 ; recv.tag=param4 ; recv.header=param3 ; return nil", "Ammo.Reset: recv.method=lit:\"\" ; recv.body=nil ; recv.url=lit:\"\" ; recv.tag=lit:\"\" ; recv.header=nil", "RawAmmo.Reset: recv.buff=nil ; recv.filePosition=lit:0 ; recv.tag=lit:\"\" ; recv.commonHeaders=nil"] ∧
    Gen.HttpWire.newDecoderSrc = ["NewDecoder: def:=util.DecodeHTTPConfigHeaders(param0.Headers) ; if(!=(util.DecodeHTTPConfigHeaders(param0.Headers)#1,nil)){return } ; stmt:switch conf.Decoder { case config.DecoderJSONLine: d, err = newJsonlineDecoder(file, conf, decodedConfigHeaders) case config.DecoderRaw: d = newRawDecoder(file, conf, decodedConfigHeaders) case config.DecoderURI: d = newURIDecoder(file, conf, decodedConfigHeaders) case config.DecoderURIPost: d = newURIPostDecoder(file, conf, decodedConfigHeaders) default: err = ErrUnknown } ; return "] ∧
    Gen.HttpWire.gunDefaults = ["DefaultHTTPGunConfig: return GunConfig{AnswLog=AnswLogConfig{Enabled=const:false,Filter=const:\"error\",Path=const:\"answ.log\"},AutoTag=AutoTagConfig{Enabled=const:false,NoTagOnly=const:true,URIElements=const:2},Client=DefaultClientConfig(),HTTPTrace=HTTPTraceConfig{DumpEnabled=const:false,TraceEnabled=const:false},SSL=const:false}", "DefaultHTTP2GunConfig: return GunConfig{AnswLog=AnswLogConfig{Enabled=const:false,Filter=const:\"error\",Path=const:\"answ.log\"},AutoTag=AutoTagConfig{Enabled=const:false,NoTagOnly=const:true,URIElements=const:2},Client=DefaultClientConfig(),HTTPTrace=HTTPTraceConfig{DumpEnabled=const:false,TraceEnabled=const:false},SSL=const:true}", "DefaultConnectGunConfig: return GunConfig{AnswLog=AnswLogConfig{Enabled=const:false,Filter=const:\"error\",Path=const:\"answ.log\"},AutoTag=AutoTagConfig{Enabled=const:false,NoTagOnly=const:true,URIElements=const:2},Client=DefaultClientConfig(),HTTPTrace=HTTPTraceConfig{DumpEnabled=const:false,TraceEnabled=const:false},SSL=const:false}"] ∧
    Gen.HttpWire.clientDefaults = ["DefaultClientConfig: return ClientConfig{Dialer=DefaultDialerConfig(),Redirect=const:false,Transport=DefaultTransportConfig()}", "DefaultDialerConfig: return DialerConfig{DNSCache=const:true,DualStack=const:true,KeepAlive=const:120000000000,Timeout=const:3000000000}", "NewDialer: def:=&net.Dialer{DualStack=param0.DualStack,FallbackDelay=param0.FallbackDelay,KeepAlive=param0.KeepAlive,Timeout=param0.Timeout} ; if(!param0.DNSCache){return &composite:net.Dialer} ; return netutil.NewDNSCachingDialer(&composite:net.Dialer,netutil.DefaultDNSCache)"] :=
  ⟨rfl, rfl, rfl, rfl, rfl, rfl⟩

end Pandora.Bridge.HttpWire
