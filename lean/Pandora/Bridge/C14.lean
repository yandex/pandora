/-
Bridge C14: the definitions regenerated on every check run from the CURRENT Go source

  Pandora.Gen.ChosenCases   (area "chosencases": confutil.IsChosenCase; provider.loadAmmo's error branch and filter loop; the methods
                             Provider.Run calls with preload on / off; protoDecoder.LoadAmmo's bounds; NewProvider's
                             source switch; loop bodies of runFullScan — with the place of the chosencases filter —
                             and runPreloaded, sentinel mapping and deferred close of Run, decoderConf.Limit,
                             capacity of Sink, jsonline scanAmmos)

  Pandora.Gen.C14Hdr        (area "c14hdr": uri readLine / uripost readBlock — the header-line branch, the map an
                             entry gets, WHETHER IT IS A FRESH CLONE, the merge of the `headers` option; what Scan does
                             with the accumulator when it wraps; jsonline Scan / readArray; raw Scan + RawAmmo.Setup;
                             one iteration of util.EnrichRequestWithHeaders)

are what `Pandora.Model.C14` (and the parts of `Pandora.Model.C08` it is built from) and `Pandora.Model.C14H` say.  A change of the filter
function, of the place where a path applies it, of a loop guard or counter update, of a `select` result, of the
sentinel mapping, of the deferred close, or of the bounds of the loading pass changes the regenerated text and
breaks a lemma here; `Props/C14.lean` imports this file, so the property theorems are re-checked against the source.
-/
import Pandora.Gen.ChosenCases
import Pandora.Gen.C14Hdr
import Pandora.Model.C14
import Pandora.Model.C14Hdr

namespace Pandora.Bridge.C14
open Pandora.Model.C08 hiding fullScan httpRun runFuel run
open Pandora.Model.C14
open Pandora.Gen.ChosenCases

variable {σ α : Type}

/-! ## confutil.IsChosenCase -/

theorem any_eq_contains (t : String) (cs : List String) : cs.any (· == t) = cs.contains t := by
  induction cs with
  | nil => rfl
  | cons c cs ih =>
    simp only [List.any_cons, List.contains_cons, ih]
    rw [BEq.comm]

/-- scanning the chosencases list with a step that answers `true` for an element equal to the tag and passes every
other element on -/
theorem findSome_chosen (t : String) (cs : List String)
    (hstep : ∀ c, isChosenCaseStep t c = if c = t then some true else none) :
    cs.findSome? (isChosenCaseStep t) = if cs.any (· == t) then some true else none := by
  induction cs with
  | nil => simp
  | cons c cs ih =>
    rw [List.findSome?_cons, hstep]
    by_cases h : c = t
    · simp [h]
    · simp [h, ih]

/-- `Model.C14.isChosen` is the regenerated `confutil.IsChosenCase` applied to the entry's tag and the chosencases list.
It is regenerated by symbolic execution, and proved whatever way the source asks whether the list is empty
(`len(l) == 0`, `len(l) < 1`, `l == nil`) and scans it: a loop (range value or indexed element, either order of the
operands of `==`, `continue` or fall-through: the step lemma is proved first) or `slices.Contains`. -/
theorem isChosen_eq_source (cases : List String) (e : Entry) : isChosen cases e = isChosenCase e.tag cases := by
  unfold isChosen isChosenCase
  set_option linter.unusedSimpArgs false in
  cases cases with
  | nil => simp
  | cons c cs =>
    first
    | (have hstep : ∀ c', isChosenCaseStep e.tag c' = if c' = e.tag then some true else none := by
         intro c'
         unfold isChosenCaseStep
         by_cases h : c' = e.tag
         · subst h; simp
         · have h' : ¬ e.tag = c' := fun e' => h e'.symm
           simp [h, h']
       simp only [findSome_chosen _ _ hstep]
       cases h : (c :: cs).any (· == e.tag) <;> simp_all)
    | (rw [any_eq_contains]
       cases h : (c :: cs).contains e.tag <;> simp_all)

/-! ## the preloaded path: loadAmmo keeps exactly the chosen ammo, in order, BEFORE the cyclic replay -/

/-- one iteration of the filter loop of `loadAmmo` (regenerated by symbolic execution — `continue` or nested
`if`, range value or indexed element, any name of the locals): a chosen ammo is appended, any other is dropped -/
theorem keepStep_source (chosen : α → Bool) (kept : List α) (a : α) :
    loadAmmoKeepStep chosen kept a = if chosen a then kept ++ [a] else kept := by
  unfold loadAmmoKeepStep
  cases h : chosen a <;> simp

theorem foldl_keep (chosen : α → Bool) (ammos acc : List α) :
    ammos.foldl (loadAmmoKeepStep chosen) acc = acc ++ ammos.filter chosen := by
  induction ammos generalizing acc with
  | nil => simp
  | cons a as ih =>
    simp only [List.foldl_cons, List.filter_cons, keepStep_source]
    cases chosen a <;> simp [ih]

theorem loadAmmoKeep_eq (chosen : α → Bool) (ammos : List α) : loadAmmoKeep chosen ammos = ammos.filter chosen := by
  unfold loadAmmoKeep; rw [foldl_keep]; simp

/-- The error branch of `Provider.loadAmmo` as regenerated (`loadAmmoFail`, whatever the order of its guards and the
nesting of its ifs) is the model's `loadFail`, as far as the property goes:
* without an error loadAmmo goes on to the filter loop (`none`), with an error it never does and never returns nil —
  a failed load ends `Run` with an error before anything is delivered;
* while the context is not cancelled the class of the decoder's error is handed on (`%w`): "no ammo" stays "no ammo";
* a cancel that ended the load is handed on as context.Canceled, cancelled context or not at the moment of the test.
(What a load error OTHER than the cancel becomes while the context is cancelled is left open beyond "an error": that
only happens with a context cancelled before `Run`, outside the property.) -/
theorem loadFail_source :
    (∀ c, loadAmmoFail c .nil = none) ∧
    (∀ c e, e ≠ .nil → (loadAmmoFail c e).isSome = true ∧ loadAmmoFail c e ≠ some .nil) ∧
    (∀ e, e ≠ .nil → loadAmmoFail false e = some (loadFail false e)) ∧
    (∀ c, loadAmmoFail c .canceled = some (loadFail c .canceled)) := by
  refine ⟨?_, ?_, ?_, ?_⟩
  · intro c; cases c <;> decide
  · intro c e; cases c <;> cases e <;> decide
  · intro e; cases e <;> decide
  · intro c; cases c <;> decide

/-- `protoDecoder.LoadAmmo` scans with Passes = 1, Limit = 0 (`Model.C08.loadAmmo` calls `scan ⟨0, 1⟩`) and only
ErrPassLimit ends it successfully -/
theorem loadBounds_eq : (⟨loadLimit, loadPasses⟩ : Bounds) = ⟨0, 1⟩ ∧ loadOkOn = ["ErrPassLimit"] := ⟨rfl, rfl⟩

/-- `runPreloaded` before its loop -/
theorem runPreloaded_pre (ammos : List α) (b : Bounds) (cancelAt : Option Nat) (fuel : Nat) :
    runPreloaded ammos b cancelAt fuel =
      match runPreloadedPre ammos.length with
      | some r => some ([], r)
      | none => preloaded ammos b cancelAt fuel 0 [] := by
  unfold runPreloaded runPreloadedPre
  by_cases h : ammos.length = 0 <;> simp [h]

/-- `Provider.Run` between its `defer` and its `return` (regenerated by symbolic execution, any nesting /
order / spelling of its tests): with preload `loadAmmo` runs and `runPreloaded` runs exactly when it returned nil, its
sentinels ErrAmmoLimit / ErrPassLimit become nil, a load error is handed on as it is; without preload `runFullScan`
runs and its result is handed on as it is; no other path method is called. -/
theorem runBody_source (preload : Bool) (l p f : RunRes) :
    httpRunBody preload l p f =
      if preload then (if l = .nil then (["loadAmmo", "runPreloaded"], mapSentinel p) else (["loadAmmo"], l))
      else (["runFullScan"], f) := by
  cases preload <;> cases l <;> cases p <;> first | rfl | (cases f <;> rfl)

theorem runMap_source (r : RunRes) : httpRunMap r = mapSentinel r := by
  unfold httpRunMap; rw [runBody_source]; rfl

/-- what `Provider.Run` makes of the result of `runPreloaded` -/
def mapped (r : Option (List α × RunRes)) : Option (List α × RunRes) := r.map fun p => (p.1, mapSentinel p.2)

/-- one iteration of `Model.C08.preloaded` is the regenerated loop body of `runPreloaded` (`k` = ammoNum; the
context is read as cancelled iff `cap` ammo have been delivered; the send succeeds) — up to the sentinel mapping
that `Provider.Run` applies to the result (regenerated `httpRunMap`), so that the order in which the two bounds
are tested is immaterial. -/
theorem preloaded_step (ammos : List α) (b : Bounds) (cancelAt : Option Nat) (fuel k pn : Nat) (out : List α) :
    mapped (preloaded ammos b cancelAt (fuel + 1) k out) =
      match runPreloadedStep b.passes b.limit ammos.length (cancelled cancelAt out.length) k pn with
      | .ret r => some (out, httpRunMap r)
      | .offer i (k', _) =>
        (match ammos[i]? with
         | some a => mapped (preloaded ammos b cancelAt fuel k' (out ++ [a]))
         | none => some (out, .errOther))
      | .tau _ => none := by
  conv => lhs; unfold preloaded
  unfold runPreloadedStep
  -- the tests of the loop body in the model's order (context, passes, limit); each case is closed by rewriting with
  -- what holds in it, so the spelling of the tests in the source does not matter
  cases cancelled cancelAt out.length
  case true => simp [mapped, runMap_source, mapSentinel]
  by_cases hp : b.passes ≠ 0 ∧ b.passes ≤ k / ammos.length
  · simp [hp, mapped, runMap_source, mapSentinel]
  by_cases hl : b.limit ≠ 0 ∧ b.limit ≤ k
  · simp [hp, hl, mapped, runMap_source, mapSentinel]
  cases hg : ammos[k % ammos.length]? <;> simp [hp, hl, hg, mapped, mapSentinel]

/-! ## the streaming path: runFullScan applies the filter to what Decoder.Scan returned -/

/-- one iteration of `Model.C14.fullScan` is the regenerated loop body of `runFullScan`: `out.length` is its
`ammoNum` (it grows exactly when an ammo is SENT, i.e. after the filter), `passNum s` is `Decoder.PassNum()`,
the filter is asked about the ammo that `Scan` just returned (and counted). -/
theorem fullScan_step (scan : σ → ScanRes × σ) (passNum : σ → Nat) (file : List α) (chosen : α → Bool)
    (limit : Nat) (cancelAt : Option Nat) (fuel : Nat) (s : σ) (out : List α) :
    fullScan scan passNum file chosen limit cancelAt (fuel + 1) s out =
      match runFullScanStep limit (cancelled cancelAt out.length) out.length (passNum s) (scan s).1
          (match (scan s).1 with
           | .ammo i => (file[i]?.map chosen).getD true
           | _ => true) with
      | .ret r => some (out, r)
      | .tau k => if k = out.length then fullScan scan passNum file chosen limit cancelAt fuel (scan s).2 out else none
      | .offer i k =>
        (match file[i]? with
         | some a =>
           if k = (out ++ [a]).length then fullScan scan passNum file chosen limit cancelAt fuel (scan s).2 (out ++ [a])
           else none
         | none => some (out, .errOther)) := by
  conv => lhs; unfold fullScan
  unfold runFullScanStep
  -- as in `preloaded_step`: context, limit, "a pass completed and nothing sent", then what `Scan` returned
  cases cancelled cancelAt out.length
  case true => simp
  by_cases hl : limit ≠ 0 ∧ limit ≤ out.length
  · simp [hl]
  by_cases hp : out.length = 0 ∧ 0 < passNum s
  · simp [hp, -List.length_eq_zero_iff]
  rcases scan s with ⟨sr, s'⟩
  cases sr with
  | ammo i =>
    cases hf : file[i]? with
    | none => simp [hl, hp, hf, -List.length_eq_zero_iff]
    | some a => cases hch : chosen a <;> simp [hl, hp, hf, hch, -List.length_eq_zero_iff]
  | errPass => by_cases h0 : out.length = 0 <;> simp [hl, h0, -List.length_eq_zero_iff]
  | _ => simp [hl, hp, -List.length_eq_zero_iff]

/-! ## the JSON-array decoder (`scanAmmos`) is `Model.C08.scanArr` with the decoder's Limit = 0 -/

theorem scanArr_eq (l passes n : Nat) (d : ArrDec) :
    scanArr ⟨decoderLimit l, passes⟩ n d =
      ((scanAmmosStep passes n d.ammoNum d.passNum).1,
       ⟨(scanAmmosStep passes n d.ammoNum d.passNum).2.1, (scanAmmosStep passes n d.ammoNum d.passNum).2.2⟩) := by
  unfold scanArr scanAmmosStep decoderLimit
  rw [if_neg (fun h => h.1 rfl)]
  by_cases hn : n = 0
  · simp only [hn, if_true]
  simp only [hn, if_false, ge_iff_le]
  by_cases hp : passes ≠ 0 ∧ passes ≤ d.passNum
  · simp only [hp, and_self, if_true, ne_eq, not_false_eq_true]
  -- the last entry of a pass: `i = n - 1` in the model, `i + 1 = len` in the source
  have hi : (d.ammoNum % n = n - 1) = (d.ammoNum % n + 1 = n) := propext (by omega)
  simp only [if_neg hp, hi]

/-! ## Provider.Run -/

/-- `Model.C14.httpRun` in terms of the regenerated pieces: which methods run for preload on / off, the decoder's
Limit, the error branch (`loadFail`, see `loadFail_source`) and the filter of `loadAmmo`, the sentinel mapping
(preloaded path only) and the deferred close. -/
theorem httpRun_source (scan : Bounds → σ → ScanRes × σ) (passNum : σ → Nat) (init : σ) (file : List α)
    (chosen : α → Bool) (preload : Bool) (b : Bounds) (cancelAt : Option Nat) (fuel : Nat) :
    (∀ l p f, httpRunBody preload l p f =
      if preload then (if l = .nil then (["loadAmmo", "runPreloaded"], mapSentinel p) else (["loadAmmo"], l))
      else (["runFullScan"], f)) ∧
    httpRun scan passNum init file chosen preload b cancelAt fuel =
      if preload then
        match loadAmmo scan file fuel init [] with
        | none => none
        | some (.error e) => some ⟨[], loadFail (cancelled cancelAt 0) e, httpRunCloses⟩
        | some (.ok ammos) =>
          match runPreloaded (loadAmmoKeep chosen ammos) b cancelAt fuel with
          | none => none
          | some (out, e) => some ⟨out, httpRunMap e, httpRunCloses⟩
      else
        match fullScan (scan ⟨decoderLimit b.limit, b.passes⟩) passNum file chosen b.limit cancelAt fuel init [] with
        | none => none
        | some (out, e) => some ⟨out, e, httpRunCloses⟩ := by
  refine ⟨runBody_source preload, ?_⟩
  have hmap : ∀ r, httpRunMap r = mapSentinel r := runMap_source
  unfold httpRun
  simp only [loadAmmoKeep_eq, hmap, httpRunCloses, decoderLimit]
  cases preload
  · simp only [Bool.false_eq_true, if_false]
    cases fullScan (scan ⟨0, b.passes⟩) passNum file chosen b.limit cancelAt fuel init [] with
    | none => rfl
    | some p => rfl
  · simp only [if_true]
    cases loadAmmo scan file fuel init [] with
    | none => rfl
    | some r =>
      cases r with
      | error e => rfl
      | ok ammos =>
        simp only
        cases runPreloaded (List.filter chosen ammos) b cancelAt fuel with
        | none => rfl
        | some p => rfl

/-- `runFullScan` learns the number of complete passes through `p.Decoder.(passCounter)`: every file decoder implements it -/
theorem passCounter_source : passCounterImplemented = true := rfl

/-- both paths answer a cancellation noticed in the send `select` the same way -/
theorem done_same : runPreloadedDone = runFullScanDone ∧ runFullScanDone = RunRes.canceled := ⟨rfl, rfl⟩

/-- the sink is unbuffered: an ammo counted as delivered has been received by a consumer -/
theorem sink_unbuffered : chanCapHttp = 0 := rfl

/-- NewProvider: inline `uris` (joined by a newline into one text) or the file are only two sources of the SAME
decoder, built after the switch -/
theorem source_switch (n : Nat) :
    sourceOf n = (if n > 0 then "uriReadSeekCloser" else "fileReadSeekCloser") ∧ decoderAfterSourceSwitch = true ∧
    urisSeparator = "\n" := by
  refine ⟨?_, rfl, rfl⟩
  -- `len(conf.Uris) > 0` and `len(conf.Uris) != 0` are the same test (one of the two hypotheses is unused by simp)
  set_option linter.unusedSimpArgs false in
  unfold sourceOf
  by_cases h : n > 0
  · have h' : n ≠ 0 := by omega
    simp [h, h']
  · have h' : n = 0 := by omega
    simp [h']

/-! ## the epilogue of `Run` (deferred function) -/

/-- the deferred function of `Provider.Run` as regenerated (whatever the nesting / order of its tests) is the model's
`epilogue`: the sink is closed, the source is closed exactly once when `p.Close` is set, a failing `Close` becomes the
result of a run that ended with nil and is combined with the error of a run that did not (into an error in which
errors.Is finds neither — xerrors.Errorf with two `%w`) -/
theorem epilogue_source (hasClose closeFails : Bool) (e : EV) :
    httpRunDefer hasClose closeFails e = epilogue hasClose closeFails e := by
  rcases e with ⟨r, c⟩
  cases hasClose <;> cases closeFails <;> cases r <;> cases c <;> decide

/-- the source is closed by that deferred function only (no other call of the `Close` field in package provider),
the `defer` stands before every `return` of Run, and NewProvider fills the field: every run that returns has closed
its source exactly once, after its path ended — with preload on and off -/
theorem close_sites_source : closeCallsElsewhere = 0 ∧ deferBeforeReturns = true ∧ newProviderSetsClose = true :=
  ⟨rfl, rfl, rfl⟩

/-- NewProvider's source switch with the regenerated guards of uriReadSeekCloser / fileReadSeekCloser is the model's
`sourceAccepted` (no guard asks for `Preload`: the translator reads only the decoder type and the file name in them) -/
theorem source_guards_source (k : Fmt) (nUris : Nat) (hasFile : Bool) :
    sourceAccepted k nUris hasFile =
      !(if sourceOf nUris = "uriReadSeekCloser" then urisRejected (k == .uri) hasFile else fileRejected hasFile) := by
  by_cases h : nUris > 0
  · have hs : sourceOf nUris = "uriReadSeekCloser" := by rw [(source_switch nUris).1]; simp [h]
    rw [hs]
    simp only [sourceAccepted, h, if_true]
    cases (k == Fmt.uri) <;> cases hasFile <;> decide
  · have hs : sourceOf nUris ≠ "uriReadSeekCloser" := by rw [(source_switch nUris).1]; simp [h]
    rw [if_neg hs]
    simp only [sourceAccepted, h, if_false]
    cases hasFile <;> decide

/-! ## headers (area "c14hdr") -/

section Headers
open Pandora.Model.C14H

/-- every decoder gives every ammo a header map of its OWN (a clone, defined once, on the path to `Setup`): this is
what lets the model treat the map of an entry as a value.  `false` for one of them = entries share a map that the
decoder keeps writing to. -/
theorem hdr_fresh_source :
    Gen.C14Hdr.uriEntryHeaderFresh = true ∧ Gen.C14Hdr.uripostEntryHeaderFresh = true ∧
    Gen.C14Hdr.jsonScanFresh = true ∧ Gen.C14Hdr.jsonArrayFresh = true ∧ Gen.C14Hdr.rawCommonFresh = true :=
  ⟨rfl, rfl, rfl, rfl, rfl⟩

/-- the map an entry of a uri / uripost source gets = the model's `mergeMissing` of the accumulator and the option -/
theorem hdr_entry_source (acc cfg : HMap) :
    Gen.C14Hdr.uriEntryHeader acc cfg = mergeMissing acc cfg ∧ Gen.C14Hdr.uripostEntryHeader acc cfg = mergeMissing acc cfg :=
  ⟨rfl, rfl⟩

/-- a header line is `Set` on the accumulator -/
theorem hdr_line_source (acc : HMap) (kv : String × String) :
    Gen.C14Hdr.uriHeaderLine acc kv.1 kv.2 = acc.setH kv ∧ Gen.C14Hdr.uripostHeaderLine acc kv.1 kv.2 = acc.setH kv :=
  ⟨rfl, rfl⟩

/-- Scan replaces the accumulator by an empty map when it wraps to the next pass -/
theorem hdr_wrap_source : Gen.C14Hdr.uriWrapAcc = some [] ∧ Gen.C14Hdr.uripostWrapAcc = some [] := ⟨rfl, rfl⟩

/-! the pass / limit / end-of-ammo logic of the four `Scan` functions -/

/-- uri, uripost and raw end a pass in the same way -/
theorem eof_same : Gen.C14Hdr.uripostEof = Gen.C14Hdr.uriEof ∧ Gen.C14Hdr.rawEof = Gen.C14Hdr.uriEof ∧
    Gen.C14Hdr.uripostScanLimit = Gen.C14Hdr.uriScanLimit ∧ Gen.C14Hdr.rawScanLimit = Gen.C14Hdr.uriScanLimit ∧
    Gen.C14Hdr.jsonScanLimit = Gen.C14Hdr.uriScanLimit := ⟨rfl, rfl, rfl, rfl, rfl⟩

/-- `Model.C08.scanStream`: the limit check that opens every `Scan` is the regenerated one -/
theorem scanStream_limit_source (style : Style) (b : Bounds) (n : Nat) (d : Dec) :
    scanStream style b n d =
      if Gen.C14Hdr.uriScanLimit b.limit d.ammoNum then (.errLimit, d) else scanLoop style b.passes n 2 d := by
  unfold scanStream Gen.C14Hdr.uriScanLimit
  by_cases h : b.limit ≠ 0 ∧ b.limit ≤ d.ammoNum
  · simp [h]
  · have h' : ¬ (¬ b.limit = 0 ∧ b.limit ≤ d.ammoNum) := h
    simp [h']

/-- one round of the loop of the uri / uripost / raw `Scan` of `Model.C08`, written with the regenerated end-of-file block -/
theorem scanLoop_eof_source (passes n fuel : Nat) (d : Dec) :
    scanLoop .eofCheck passes n (fuel + 1) d =
      if d.pos < n then (.ammo d.pos, { d with pos := d.pos + 1, ammoNum := d.ammoNum + 1 })
      else match Gen.C14Hdr.uriEof passes d.ammoNum d.passNum with
        | .ret r pn => (r, { d with passNum := pn })
        | .again pn => scanLoop .eofCheck passes n fuel { d with passNum := pn, pos := 0 } := by
  conv => lhs; unfold scanLoop
  unfold Gen.C14Hdr.uriEof
  by_cases h1 : d.pos < n
  · simp [h1]
  · by_cases h2 : ¬ passes = 0 ∧ passes ≤ d.passNum + 1
    · simp [h1, h2]
    · by_cases h3 : d.ammoNum = 0 <;> simp [h1, h2, h3]

/-- … and of the http/json stream decoder, with the regenerated top check and end-of-file block -/
theorem scanLoop_top_source (passes n fuel : Nat) (d : Dec) :
    scanLoop .topCheck passes n (fuel + 1) d =
      if Gen.C14Hdr.jsonTopCheck passes d.passNum then (.errPass, d)
      else if d.pos < n then (.ammo d.pos, { d with pos := d.pos + 1, ammoNum := d.ammoNum + 1 })
      else match Gen.C14Hdr.jsonEof passes d.ammoNum d.passNum with
        | .ret r pn => (r, { d with passNum := pn })
        | .again pn => scanLoop .topCheck passes n fuel { d with pos := 0, passNum := pn } := by
  conv => lhs; unfold scanLoop
  unfold Gen.C14Hdr.jsonTopCheck Gen.C14Hdr.jsonEof
  by_cases h0 : ¬ passes = 0 ∧ passes ≤ d.passNum
  · simp [h0]
  · by_cases h1 : d.pos < n
    · simp [h0, h1]
    · by_cases h3 : d.ammoNum = 0
      · cases d; simp_all
      · simp [h0, h1, h3]

/-- one round of the model's uri / uripost `Scan` WITH the accumulator, written with the regenerated pieces only -/
theorem scanLines_source (s : Source) (passes fuel : Nat) (d : LDec) :
    scanLinesLoop s passes (fuel + 1) d =
      (let acc := (s.block d.pos).foldl (fun a kv => Gen.C14Hdr.uriHeaderLine a kv.1 kv.2) d.acc
       if d.pos < s.n then
         (.ammo d.pos, { d with pos := d.pos + 1, acc := acc, ammoNum := d.ammoNum + 1,
                                 last := Gen.C14Hdr.uriEntryHeader acc (cfgMap s.ch) })
       else match Gen.C14Hdr.uriEof passes d.ammoNum d.passNum with
         | .ret r pn => (r, { d with acc := acc, passNum := pn })
         | .again pn => scanLinesLoop s passes fuel { d with passNum := pn, pos := 0, acc := Gen.C14Hdr.uriWrapAcc.getD acc }) := by
  have hacc : (s.block d.pos).foldl (fun a kv => Gen.C14Hdr.uriHeaderLine a kv.1 kv.2) d.acc
      = (s.block d.pos).foldl HMap.setH d.acc := rfl
  simp only [hacc]
  conv => lhs; unfold scanLinesLoop
  unfold Gen.C14Hdr.uriEof
  by_cases h1 : d.pos < s.n
  · simp [h1, Gen.C14Hdr.uriEntryHeader, mergeMissing]
  · by_cases h2 : ¬ passes = 0 ∧ passes ≤ d.passNum + 1
    · simp [h1, h2]
    · by_cases h3 : d.ammoNum = 0 <;> simp [h1, h2, h3, Gen.C14Hdr.uriWrapAcc]

/-- http/json: the option, the entry's own headers Set over it -/
theorem hdr_json_source (s : Source) (i : Nat) : hdrJson s i = Gen.C14Hdr.jsonEntryHeader (cfgMap s.ch) (s.block i) := rfl

/-- the request: `EnrichRequestWithHeaders` folds the regenerated step over the ammo's header map -/
theorem hdr_enrich_source (k : Fmt) (e : EntryH) :
    reqOf k e = e.hdr.foldl Gen.C14Hdr.enrichStep ((match k with | .uri | .uripost => "" | _ => entryHost), e.own) := rfl

end Headers

end Pandora.Bridge.C14
