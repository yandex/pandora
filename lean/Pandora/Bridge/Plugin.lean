/-
C18 — bridge between what /verif/gen reads out of core/plugin, core/register and core/engine on every check run
(`Pandora/Gen/Plugin.lean`) and the model (`Model/C18`, `Model/C18Engine`).

* `accepts` — a registration goes through `newImplConstructor` and `newDefaultConfigContainer` (`entryChecks`); it is
  accepted iff every regenerated expectation holds.  `accepts_eq_supported`: for EVERY abstract Go type of the constructor
  and of the optional default-config function this is exactly the declarative list of supported forms (`supported`);
  `accepts_shape`: on the Go types of the 144 shapes the driver registers it is the model's `registerOk`.
* the regenerated structural facts (where user code is called: once per NewFactory or inside the closure = once per
  product; what the engine calls how often; the steps of `get` / `Register` / `Lookup`, of the config hooks and of
  `parseConf`; the decoder flags) equal what the model assumes.
* `convertFactoryOutParams` and the config-error switch of the MakeFunc closure are tied in `Proofs/C18R6` (`convert_sem`,
  `confErr_sem`, `confErr_model`), by decision tables obtained by evaluating the Go functions on their whole abstract
  input space: a behaviour-preserving rewrite of those functions breaks no obligation, a semantic change does.
-/
import Pandora.Gen.Plugin
import Pandora.Model.C18
import Pandora.Model.C18Engine
import Pandora.Model.C18Reg

set_option linter.unusedSimpArgs false

namespace Pandora.Bridge.Plugin
open Pandora.Model.C18Ty Pandora.Model.C18 Pandora.Model.C18Reg Pandora.Gen.Plugin

/-- `Registry.Register` → `newNameRegistryEntry` → `newImplConstructor` + `newDefaultConfigContainer`: accepted iff no
expectation fails -/
def accepts (pluginType ctor : Ty) (dflt : Option Ty) : Bool :=
  (newImplConstructorExpects pluginType ctor ++ newDefaultConfigContainerExpects ctor dflt).all id

theorem entryChecks_eq : entryChecks =
    ["newImplConstructor($reflect.Type, $any)", "newDefaultConfigContainer(reflect.TypeOf($any), $any#1)"] := rfl

theorem registerStores_eq :
    registerStores = "$nameRegistry[$string] = newNameRegistryEntry($reflect.Type, $any, $any#1)" := rfl

theorem tys_len_zero {ts : Tys} (h : ts.len = 0) : ts = .nil := by
  cases ts with
  | nil => rfl
  | cons _ _ => simp [Tys.len] at h

def lenLe1 : Tys → Bool
  | .nil => true
  | .cons _ .nil => true
  | _ => false

def lenIs0 : Tys → Bool
  | .nil => true
  | _ => false

/-- the regenerated expectations of `expectPluginConstructor`, for a func type -/
theorem expectPlugin_func (p : Ty) (ins outs : Tys) (allowed : Bool) :
    (expectPluginConstructorExpects p (.func ins outs) allowed).all id =
      ((if allowed then lenLe1 ins else lenIs0 ins) &&
       outImplements p outs) := by
  rcases ins with _ | ⟨a, _ | ⟨b, ri⟩⟩ <;> rcases outs with _ | ⟨x, _ | ⟨e, _ | ⟨e2, r⟩⟩⟩ <;> cases allowed <;>
    simp [expectPluginConstructorExpects, Ty.kind, Ty.numIn, Ty.numOut, Ty.out, Tys.len, Tys.get, outsOk, outImplements,
      lenLe1, lenIs0]
  -- left: two results, the second one compared with `error`
  all_goals by_cases he : e = Ty.error <;> simp [he]

theorem factoryOk_eq (p f : Ty) (h : f.kind = .func) :
    (expectPluginConstructorExpects p f false).all id = factoryOk p f := by
  cases f with
  | base k i m =>
    simp [Ty.kind] at h; subst h
    simp [expectPluginConstructorExpects, Ty.kind, Ty.numIn, Ty.numOut, factoryOk]
  | ptr e m => simp [Ty.kind] at h
  | func ins outs =>
    rw [expectPlugin_func]
    cases ins with
    | nil => simp [lenIs0, factoryOk]
    | cons a r => simp [lenIs0, factoryOk]

@[simp] theorem kind_func (a b : Tys) : (Ty.func a b).kind = .func := rfl
@[simp] theorem kind_ptr (e : Ty) (m : Impls) : (Ty.ptr e m).kind = .ptr := rfl
@[simp] theorem kind_base (k : Kind) (i : Nat) (m : Impls) : (Ty.base k i m).kind = k := rfl

/-- the default-config side, for a func type -/
theorem dfltExpects_func (ins outs : Tys) (d : Option Ty) :
    (newDefaultConfigContainerExpects (.func ins outs) d).all id =
      (match ins with
       | .nil => d.isNone
       | .cons c .nil => cfgOk c && (match d with | none => true | some f => f == Ty.funcOf0 c)
       | _ => false) := by
  rcases ins with _ | ⟨c, _ | ⟨c2, ri⟩⟩ <;> cases d <;>
    simp [newDefaultConfigContainerExpects, Ty.numIn, Ty.inp, Tys.len, Tys.get, cfgOk]

theorem implExpects_func (p : Ty) (ins : Tys) (x : Ty) (r : Tys) :
    (newImplConstructorExpects p (.func ins (.cons x r))).all id =
      (lenLe1 ins &&
        (if x.kind == .func then
          (match r with
           | .nil => true
           | .cons e .nil => e == Ty.error
           | _ => false) && factoryOk p x
         else outImplements p (.cons x r))) := by
  by_cases hx : x.kind = .func
  · have hf := factoryOk_eq p x hx
    rcases ins with _ | ⟨c, _ | ⟨c2, ri⟩⟩ <;> rcases r with _ | ⟨e, _ | ⟨e2, ro⟩⟩ <;>
      simp [newImplConstructorExpects, newFactoryConstructorExpects, Ty.numIn, Ty.numOut, Ty.out, Tys.len,
        Tys.get, hx, hf, lenLe1, List.all_append]
  · have hp := expectPlugin_func p ins (.cons x r) true
    simp only [if_true] at hp
    have hx' : (x.kind == Kind.func) = false := by simp [hx]
    simp [newImplConstructorExpects, newPluginConstructorExpects, Ty.numOut, Ty.out, Tys.len, Tys.get, hx, hx',
      hp, List.all_append]

/-- **for every Go type of the constructor and of the optional default-config function: `Register` accepts the
registration iff it has one of the supported forms** -/
theorem accepts_eq_supported (p t : Ty) (d : Option Ty) : accepts p t d = supported p t d := by
  unfold accepts supported
  rw [List.all_append]
  cases t with
  | base k i m =>
    simp [newImplConstructorExpects, supportedCtor, Ty.numOut]
  | ptr e m =>
    simp [newImplConstructorExpects, supportedCtor, Ty.numOut]
  | func ins outs =>
    rw [dfltExpects_func]
    cases outs with
    | nil => simp [newImplConstructorExpects, supportedCtor, Ty.numOut, Tys.len, outsOk]
    | cons x r =>
      rw [implExpects_func]
      rcases r with _ | ⟨e, _ | ⟨e2, ro⟩⟩
      · rcases ins with _ | ⟨c, _ | ⟨c2, ri⟩⟩ <;> cases d <;> by_cases hx : x.kind = .func <;>
        simp [supportedCtor, supportedDflt, insOk, outsOk, outImplements, lenLe1, hx, Ty.numIn, Ty.inp, Tys.len, Tys.get, Bool.and_comm,
          Bool.and_assoc, Bool.and_left_comm]
      · by_cases he : e = Ty.error <;>
        rcases ins with _ | ⟨c, _ | ⟨c2, ri⟩⟩ <;> cases d <;> by_cases hx : x.kind = .func <;>
        simp [supportedCtor, supportedDflt, insOk, outsOk, outImplements, lenLe1, hx, he, Ty.numIn, Ty.inp, Tys.len, Tys.get, Bool.and_comm,
          Bool.and_assoc, Bool.and_left_comm]
      · rcases ins with _ | ⟨c, _ | ⟨c2, ri⟩⟩ <;> cases d <;> by_cases hx : x.kind = .func <;>
        simp [supportedCtor, supportedDflt, insOk, outsOk, outImplements, lenLe1, hx, Ty.numIn, Ty.inp, Tys.len, Tys.get, Bool.and_comm,
          Bool.and_assoc, Bool.and_left_comm]

/-- on the shapes of the model the regenerated expectations are the model's `registerOk` -/
theorem accepts_shape (sh : Shape) : accepts plugT (ctorTy sh) (dfltTy sh) = registerOk sh := by
  rw [accepts_eq_supported]
  obtain ⟨factory, cfg, ctorErr, factErr, iface, dflt⟩ := sh
  cases factory <;> cases cfg <;> cases ctorErr <;> cases factErr <;> cases iface <;> cases dflt <;> decide

/-- `newImplConstructor` takes exactly the factory shapes as factory constructors -/
theorem isFactoryConstructor_shape (sh : Shape) : isFactoryConstructor plugT (ctorTy sh) = sh.factory := by
  obtain ⟨factory, cfg, ctorErr, factErr, iface, dflt⟩ := sh
  cases factory <;> cases cfg <;> cases ctorErr <;> cases factErr <;> cases iface <;> cases dflt <;> decide

theorem isFactoryType_forms : isFactoryType (formTy 1) = true ∧ isFactoryType (formTy 2) = true := by decide

/-- `NewFactory` hands out the registered function itself iff its type IS the requested type
(`pluginShortcut` / `factoryShortcut`): exactly the model's `direct` / `directFactory` conditions -/
theorem shortcut_plugin (sh : Shape) (n : Nat) (hn : n = 1 ∨ n = 2) (hf : sh.factory = false) :
    (ctorTy sh == formTy n) = (sh.cfg = .none && sh.iface && (outLen sh.ctorErr == n)) := by
  obtain ⟨factory, cfg, ctorErr, factErr, iface, dflt⟩ := sh
  simp only at hf; subst hf
  rcases hn with rfl | rfl <;> cases cfg <;> cases ctorErr <;> cases factErr <;> cases iface <;> cases dflt <;> decide

theorem shortcut_factory (sh : Shape) (n : Nat) (hn : n = 1 ∨ n = 2) (hf : sh.factory = true) :
    ((ctorTy sh).out 0 == formTy n) = (sh.iface && (outLen sh.factErr == n)) := by
  obtain ⟨factory, cfg, ctorErr, factErr, iface, dflt⟩ := sh
  simp only at hf; subst hf
  rcases hn with rfl | rfl <;> cases cfg <;> cases ctorErr <;> cases factErr <;> cases iface <;> cases dflt <;> decide

theorem shortcuts_eq :
    pluginShortcut = "$*pluginConstructor.newPlugin.Type() == $reflect.Type => return $*pluginConstructor.newPlugin.Interface(), nil" ∧
    factoryShortcut = "$reflect.Value.Type() == $reflect.Type => return $reflect.Value.Interface(), nil" := ⟨rfl, rfl⟩

/-- `Register`'s own three expectations are the model's `regSelfOk` -/
theorem registerExpects_eq (pt : Ty) (name : String) (dup : Bool) :
    (registerExpects pt name dup).all id = regSelfOk pt (name == "") dup := by
  -- whichever order the three expectations come in
  by_cases hn : name = "" <;> cases dup <;> cases hk : (pt.kind == Kind.iface) <;>
    simp [registerExpects, regSelfOk, hn, bne, hk]

/-- `Register`'s own expectations hold for an interface plugin type, a non-empty name, a name not yet taken -/
theorem registerExpects_ok : (registerExpects plugT "x" false).all id = true := by decide
theorem registerExpects_refuses :
    (registerExpects confT "x" false).all id = false ∧ (registerExpects plugT "" false).all id = false ∧
    (registerExpects plugT "x" true).all id = false := by decide

/-! ### where user code is called -/

/-- (outside function literals, inside function literals, inside loops) -/
def site (tbl : List (String × String × Nat × Nat × Nat)) (fn callee : String) : Option (Nat × Nat × Nat) :=
  (tbl.find? fun r => r.1 == fn && r.2.1 == callee).map (·.2.2)

/-- `Registry.New` = one `Get` + one `NewPlugin` (model `regNew`) -/
theorem sites_New :
    site callSites "Registry.New" "$nameRegistryEntry.defaultConfig.Get" = some (1, 0, 0) ∧
    site callSites "Registry.New" "$nameRegistryEntry.constructor.NewPlugin" = some (1, 0, 0) := by decide

/-- `Registry.NewFactory`: `Get` only inside the `getMaybeConfig` closure, the empty-struct fillConf check outside,
one `NewFactory` of the constructor (model `regNewFactory`) -/
theorem sites_NewFactory :
    site callSites "Registry.NewFactory" "$nameRegistryEntry.defaultConfig.Get" = some (0, 1, 0) ∧
    site callSites "Registry.NewFactory" "$func" = some (1, 0, 0) ∧
    site callSites "Registry.NewFactory" "$nameRegistryEntry.constructor.NewFactory" = some (1, 0, 0) ∧
    newFactoryBranches = ["$nameRegistryEntry.defaultConfig.configRequired()", "$func != nil"] := by
  refine ⟨?_, ?_, ?_, rfl⟩ <;> decide

/-- `Get` = at most one `new` + at most one fillConf; `new` = one call of the default-config function (model `dcGet`,
`dcNew`) -/
theorem sites_Get :
    site callSites "defaultConfigContainer.Get" "$defaultConfigContainer.new" = some (1, 0, 0) ∧
    site callSites "defaultConfigContainer.Get" "$func" = some (1, 0, 0) ∧
    site callSites "defaultConfigContainer.new" "$defaultConfigContainer.newValue.Call" = some (1, 0, 0) := by decide

/-- a struct default value is copied into an addressable config, a nil pointer is replaced by a new zero config
(model `dcNew`) -/
theorem newConfig_eq : newConfigSwitch =
    [("reflect.Struct", "if !$reflect.Value.CanAddr() { $reflect.Value#1 := reflect.New($reflect.Value.Type()).Elem() ; $reflect.Value#1.Set($reflect.Value) ; $reflect.Value = $reflect.Value#1 } ; $any = $reflect.Value.Addr().Interface()"),
     ("reflect.Ptr", "if $reflect.Value.IsNil() { $reflect.Value = reflect.New($reflect.Value.Type().Elem()) } ; $any = $reflect.Value.Interface()"),
     ("default", "panic(\"unexpected type \" + $reflect.Value.String())")] := rfl

/-- **component constructor**: config and constructor are called INSIDE the closure handed to reflect.MakeFunc — once
per product (model `callFac (.wrapPlugin _)`); `NewPlugin` calls the constructor once (model `pluginCtor`) -/
theorem sites_pluginConstructor :
    site callSites "pluginConstructor.NewFactory" "$func" = some (0, 1, 0) ∧
    site callSites "pluginConstructor.NewFactory" "$*pluginConstructor.newPlugin.Call" = some (0, 1, 0) ∧
    site callSites "pluginConstructor.NewFactory" "convertFactoryOutParams" = some (0, 1, 0) ∧
    site callSites "pluginConstructor.NewPlugin" "$*pluginConstructor.newPlugin.Call" = some (1, 0, 0) := by decide

/-- **factory constructor**: config and constructor are called OUTSIDE the closure — once per `NewFactory` — and only the
registered factory inside — once per product (model `ctorNewFactory`, `callFac (.wrapFactory _ _)`); `NewPlugin` calls
constructor and factory once each (model `newPlugin`) -/
theorem sites_factoryConstructor :
    site callSites "factoryConstructor.NewFactory" "$func" = some (1, 0, 0) ∧
    site callSites "factoryConstructor.NewFactory" "$*factoryConstructor.callNewFactory" = some (1, 0, 0) ∧
    site callSites "factoryConstructor.NewFactory" "$reflect.Value.Call" = some (0, 1, 0) ∧
    site callSites "factoryConstructor.NewFactory" "convertFactoryOutParams" = some (0, 1, 0) ∧
    site callSites "factoryConstructor.NewPlugin" "$*factoryConstructor.callNewFactory" = some (1, 0, 0) ∧
    site callSites "factoryConstructor.NewPlugin" "$reflect.Value.Call" = some (1, 0, 0) ∧
    site callSites "factoryConstructor.callNewFactory" "$*factoryConstructor.newFactory.Call" = some (1, 0, 0) := by decide

/-! ### the engine's use of the factories, core/register -/

open Pandora.Model.C18Engine in
/-- `warmUpGun` calls `NewGun` once, `newInstance` calls `newGun` (= `p.NewGun`) and `newSchedule` once each and is
itself called once for the first instance and once per further instance (`runNewInstance`, in the start loop); the
shared rps schedule is made by one `NewRPSSchedule` call, the per-instance one is `NewRPSSchedule` itself -/
theorem engine_sites :
    site engineSites "instancePool.warmUpGun" "$*instancePool.NewGun" = some (warmupGunCalls, 0, 0) ∧
    site engineSites "newInstance" "$instanceDeps.newGun" = some (gunCallsPerInstance, 0, 0) ∧
    site engineSites "newInstance" "$instanceDeps.newSchedule" = some (1, 0, 0) ∧
    site engineSites "runNewInstance" "newInstance" = some (1, 0, 0) ∧
    site engineSites "instancePool.startInstances" "newInstance" = some (1, 0, 0) ∧
    site engineSites "instancePool.startInstances" "runNewInstance" = some (0, 1, 1) ∧
    site engineSites "instancePool.startInstances" "$*instancePool.NewGun" = some (0, 0, 0) ∧
    site engineSites "instancePool.buildNewInstanceSchedule" "$*instancePool.NewRPSSchedule" = some (1, 0, 0) ∧
    engineDeps = ["newGun: $*instancePool.NewGun", "newSchedule: $func"] ∧
    enginePerInstanceBranch = "if $*instancePool.RPSPerInstance { return $*instancePool.NewRPSSchedule, nil }" := by
  refine ⟨?_, ?_, ?_, ?_, ?_, ?_, ?_, ?_, rfl, rfl⟩ <;> decide

/-- core/register: every helper registers for the plugin interface of its name through `plugin.Register` -/
theorem register_helpers :
    registerPtrBody = "plugin.Register(plugin.PtrType($any), $string, $any#1, $[]any...)" ∧
    registerHelpers =
      [("Aggregator", "*core.Aggregator", "RegisterPtr($*core.Aggregator, $string, $any, $[]any...)"),
       ("DataSink", "*core.DataSink", "RegisterPtr($*core.DataSink, $string, $any, $[]any...)"),
       ("DataSource", "*core.DataSource", "RegisterPtr($*core.DataSource, $string, $any, $[]any...)"),
       ("Gun", "*core.Gun", "RegisterPtr($*core.Gun, $string, $any, $[]any...)"),
       ("Limiter", "*core.Schedule", "RegisterPtr($*core.Schedule, $string, $any, $[]any...)"),
       ("Provider", "*core.Provider", "RegisterPtr($*core.Provider, $string, $any, $[]any...)")] :=
  ⟨rfl, rfl⟩

/-! ### lookup and registration in a registry that holds several registrations (model: `Model/C18Sess`) -/

/-- `get`: the plugin type is looked up first, then the name in that type's table; each miss leaves with an error result
and nothing else happens — the model's `findSlot` / `Out.noEntry` -/
theorem get_steps : getSteps =
    ["lookup $*Registry.typeToNameReg[$reflect.Type]", "if !$bool { $error = errors.Errorf(…) ; return }",
     "lookup $nameRegistry[$string]", "if !$bool { $error = errors.Errorf(…) }", "return"] ∧
    site callSites "Registry.get" "errors.Errorf" = some (2, 0, 0) := ⟨rfl, by decide⟩

/-- `Register`: two expectations (interface, non-empty name), THEN the name table of the plugin type is fetched or created
and stored, then the duplicate check on (type, name), then constructor checks and the
store of the entry — the order the model's `exec (.register r)` follows (a refused constructor leaves the table behind) -/
theorem register_steps : registerSteps =
    ["expect", "expect", "$nameRegistry := $*Registry.typeToNameReg[$reflect.Type]",
     "if $nameRegistry == nil { $nameRegistry = newNameRegistry() ; $*Registry.typeToNameReg[$reflect.Type] = $nameRegistry }",
     "_, $bool := $nameRegistry[$string]", "expect",
     "$nameRegistry[$string] = newNameRegistryEntry($reflect.Type, $any, $any#1)"] := rfl

/-- `Lookup` answers whether the plugin type owns a name table (model: `sst.types.contains t`) -/
theorem lookup_steps : lookupSteps = ["_, $bool := $*Registry.typeToNameReg[$reflect.Type]", "return $bool"] := rfl

/-! ### the config hooks (model: `Model/C18Hook`) -/

/-- `Hook` / `FactoryHook`: first `Lookup` / `LookupFactory` of the field's type — data handed back untouched when it
answers no —, then `parseConf` whose error is the hook's error, then the creation by the parsed name with the parsed
fillConf: the model's `hook` -/
theorem hook_steps :
    hookSteps = ["if !plugin.Lookup($reflect.Type#1) { return $any, nil }",
      "$string, $func, $error := parseConf($reflect.Type#1, $any)", "if $error != nil { return }",
      "return plugin.New($reflect.Type#1, $string, $func)"] ∧
    factoryHookSteps = ["if !plugin.LookupFactory($reflect.Type#1) { return $any, nil }",
      "$string, $func, $error := parseConf($reflect.Type#1, $any)", "if $error != nil { return }",
      "return plugin.NewFactory($reflect.Type#1, $string, $func)"] := ⟨rfl, rfl⟩

/-- `parseConf`: the plugin-name key is compared after lower-casing, its value must be a string, there must be neither
none nor several of them, and exactly the key that was met is deleted from the data (membership, not equality: the
repair of the empty-name defect adds one more test) -/
theorem parseConf_checks :
    "PluginNameKey == strings.ToLower($string#1)" ∈ parseConfConds ∧ "!$bool" ∈ parseConfConds ∧
    "len($[]string) == 0" ∈ parseConfConds ∧ "len($[]string) > 1" ∈ parseConfConds ∧
    parseConfDeletes = ["delete($map[string]interface{}, $string#1)"] := by
  refine ⟨?_, ?_, ?_, ?_, rfl⟩ <;> decide

/-- a `return` of `parseConf` that cannot hand out a nil error: it sits under `if err != nil`, or right after
`err = errors.Errorf(…)` (named results, no explicit result list) -/
def isErrorReturn (e : String × String × String × String × String) : Bool :=
  e.1 == "ret" && e.2.2.2.2 == "" &&
    (e.2.1 == "$error != nil" || (e.2.2.1 == "$error" && e.2.2.2.1 == "errors.Errorf"))

/-- every way out of `parseConf` before the fillConf result is assigned is an error return; the assignment is
unconditional and assigns a closure; after it there is only the final plain `return` -/
def flowAlwaysFills (l : List (String × String × String × String × String)) : Bool :=
  match l.span (fun e => e.1 != "fill") with
  | (before, [("fill", "", "", "func", ""), ("ret", "", _, _, "")]) => before.all isErrorReturn
  | _ => false

/-- **whoever gets a nil error from `parseConf` gets a fillConf** (never a nil one — also when the user's settings are
empty after the `type` key was taken out), and that fillConf is `config.DecodeAndValidate`: decode AND validate.  This is
what makes `Spec.C18.validating` (fillConf always given, fails on an invalid configuration) the world of the hook path:
`plugin.New` / `NewFactory` skip the fill step — and with it the validation of the default configuration — for a nil
fillConf.  Robust against further checks (each must leave with `err = errors.Errorf(…); return`), reordered checks and
renamed locals. -/
theorem parseConf_fills : flowAlwaysFills parseConfFlow = true ∧
    (parseConfDecoder = ["config.DecodeAndValidate"] ∨ parseConfDecoder = ["config.Decode", "config.Validate"]) := by
  decide

/-- `toStringKeyMap` hands `parseConf` a COPY of the decoder's data (its map result is only ever assigned a fresh `make`,
and the only map it writes to is that result): taking the `type` key out never changes the data a factory decodes again
for its next product (`C18_hook`'s "the user's settings are all other entries" holds at EVERY fillConf invocation) -/
theorem keyMap_copies :
    keyMapFrom ≠ [] ∧ keyMapFrom.all (· == "make") = true ∧
    keyMapWrites.all (· == "$map[string]interface{}") = true := by decide

/-! ### the decoder of the hook path (core/config `newDecoderConfig`, `Decode`, `DecodeAndValidate`) -/

/-- the flags `Model/C18Over.decode` is instantiated with: ZeroFields = false (a map / pointer / array option keeps what the
registered default holds and the settings do not name, an explicit null leaves the default alone), unknown keys are
errors, no weak typing -/
theorem decoder_flags : decoderZeroFields = false ∧ decoderErrorUnused = true ∧ decoderWeaklyTyped = false := by decide

/-- every `Decode` works on a DecoderConfig of its own whose Result is the configuration it was given: concurrent
creations (every instance of a pool builds its gun in its own goroutine) cannot decode into each other's configuration.
Robust against building the literal in a local variable first and against renamed parameters. -/
theorem decoder_fresh :
    decoderFresh = true ∧ decoderResultFrom = "$any" ∧ decodeMakes = ["newDecoderConfig($any#1)"] := ⟨rfl, rfl, rfl⟩

/-- the fillConf of the hook path validates what it decoded (`parseConf_fills` says the closure calls this function) -/
theorem decode_validates : decodeAndValidateCalls = ["Decode($any, $any#1)", "Validate($any#1)"] := rfl

end Pandora.Bridge.Plugin
