/-
C15 bridge: what /verif/gen re-extracted from the CURRENT source (`Pandora/Gen/C15Flow.lean`, area `c15flow`) IS
what the model says.

  `stepCode_eq`, `onStepErr_eq`   the instruction list of `shootStep` and the error branch of `shoot` are the ones
                                  `Proofs.C15.runShootCode_eq` interprets into the model's `shootLoop`
  `parseShoot_eq`                 `config.ParseShootName` (defaults, guards, argument positions) = `parseShootName`
  `convShoot_eq`, `expand_gen`    the loop body of `convertScenarioToAmmo` = `parseShootName` + `expandItem`
  `ringCopies_eq`                 `decodeAmmo` appends a scenario `ns` times
  `assertSizeFails_eq`, `assertReadsBody_iff`, `assertStatusFails_iff`, `assertChecks_eq`   assert/response
  `substrBounds_eq`               the index arithmetic of the `substr` modifier of var/header
  `idxNumeric_range`, `calcIndex_numeric`, `idxEmptyRefused_iff`, `idxLast_eq`              `calcIndex`
  `preLoopCode_eq`                the mapping loop of `Preprocessor.Process`: resolve, return on error, store
-/
import Pandora.Gen.C15Flow
import Pandora.Model.C15Flow
import Pandora.Proofs.C15Flow
import Pandora.Proofs.C15Post
import Pandora.Proofs.C15Prep

namespace Pandora.Bridge.C15Flow
open Pandora.Model.C15 Pandora.Proofs.C15

theorem stepCode_eq : Gen.C15Flow.stepCode = stepCode := by decide
theorem onStepErr_eq : Gen.C15Flow.onStepErr = onStepErr := by decide
theorem requestVarsPerShot_eq : Gen.C15Flow.requestVarsPerShot = true := rfl
theorem preLoopCode_eq : Gen.C15Flow.preLoopCode = ["resolve", "chk", "store"] := rfl
theorem assertChecks_eq : Gen.C15Flow.assertChecks = ["body", "headers", "status", "size"] := rfl

theorem errClass_parse1 : errClass "failed to parse count: %w" = "parse" := by decide
theorem errClass_parse2 : errClass "failed to parse shoot %s: %w" = "parse" := by decide
theorem errClass_sleep : errClass "%s must follow a request" = "sleepfirst" := by decide +kernel
theorem errClass_notfound : errClass "request %s not found" = "notfound" := by decide +kernel
theorem errClass_toomany : errClass "%s: a scenario may hold at most %d requests" = "toomany" := by decide +kernel

/-- `ParseShootName` as regenerated is the model's `parseShootName` -/
theorem parseShoot_eq (s : List Char) :
    Gen.C15Flow.parseShoot atoi s =
      match parseShootName s with
      | .error _ => .err "parse"
      | .ok it => .ok (it.name, it.cnt, it.sleep) := by
  unfold Gen.C15Flow.parseShoot parseShootName
  cases hp : parseStringFunc s with
  | error e => rfl
  | ok r =>
    obtain ⟨name, args⟩ := r
    simp only [bind, Except.bind, pure, Except.pure]
    generalize args.getD [] = a
    rcases a with _ | ⟨x, _ | ⟨y, rest⟩⟩
    · simp [argStep, condAnd]
    · by_cases hx : x = []
      · subst hx; simp [argStep, condAnd, strIdx?]
      · have hx' : x.isEmpty = false := by cases x <;> simp_all
        have hb : (x != []) = true := by simp [hx]
        cases ha : atoi x <;> simp [argStep, condAnd, strIdx?, hx', hb, ha, errClass_parse1]
    · have em : ∀ z : List Char, z ≠ [] → z.isEmpty = false ∧ (z != []) = true := by
        intro z hz; cases z <;> simp_all
      have l0 : ((0 : Int) < (rest.length : Int) + 1 + 1) := by omega
      have l1 : ((1 : Int) < (rest.length : Int) + 1 + 1) := by omega
      by_cases hx : x = [] <;> by_cases hy : y = []
      · subst hx; subst hy; simp [argStep, condAnd, strIdx?, l0, l1]
      · subst hx
        obtain ⟨h1, h2⟩ := em y hy
        cases hb : atoi y <;> simp [argStep, condAnd, strIdx?, h1, h2, hb, errClass_parse1, l0, l1]
      · subst hy
        obtain ⟨h1, h2⟩ := em x hx
        cases ha : atoi x <;> simp [argStep, condAnd, strIdx?, h1, h2, ha, errClass_parse1, l0, l1]
      · obtain ⟨h1, h2⟩ := em x hx
        obtain ⟨h3, h4⟩ := em y hy
        cases ha : atoi x <;> cases hb : atoi y <;>
          simp [argStep, condAnd, strIdx?, h1, h2, h3, h4, ha, hb, errClass_parse1, l0, l1]

theorem addSleepAt_last {ρ} (acc : List (Step ρ)) (ms : Int) (h : acc ≠ []) :
    addSleepAt acc ((acc.length : Int) - 1) ms =
      match bumpLast acc ms with
      | some a => .ok a
      | none => .panic "index" := by
  unfold addSleepAt bumpLast
  obtain ⟨pre, l, rfl⟩ : ∃ pre l, acc = pre ++ [l] := ⟨acc.dropLast, acc.getLast h, (List.dropLast_concat_getLast h).symm⟩
  have hl : (((pre ++ [l]).length : Int) - 1) = (pre.length : Int) := by simp
  rw [hl]
  simp

/-- the loop body of `convertScenarioToAmmo` as regenerated is `parseShootName` followed by the model's `expandItem` -/
theorem convShoot_eq {ρ} (reqs : List Char → Option ρ) (sh : List Char) (acc : List (Step ρ)) :
    Gen.C15Flow.convShoot atoi reqs sh acc =
      match parseShootName sh with
      | .error _ => .err "parse"
      | .ok it => expandItem reqs acc it := by
  unfold Gen.C15Flow.convShoot
  rw [parseShoot_eq]
  cases parseShootName sh with
  | error e => simp [errClass_parse2]
  | ok it =>
    simp only [show ("sleep".toList = sleepName) from rfl]
    unfold expandItem
    by_cases hs : it.name = sleepName
    · simp only [hs, if_true]
      by_cases he : acc = []
      · subst he
        simp [bumpLast, errClass_sleep]
      · have hl : ¬ ((acc.length : Int) = 0) := by
          intro c; exact he (List.length_eq_zero_iff.mp (by omega))
        simp only [hl, if_false, Int.one_mul]
        rw [addSleepAt_last acc it.cnt he]
        have hb : bumpLast acc it.cnt ≠ none := by
          unfold bumpLast
          cases hg : acc.getLast? with
          | none => exact absurd (List.getLast?_eq_none_iff.mp hg) he
          | some l => simp
        cases hbl : bumpLast acc it.cnt with
        | none => exact absurd hbl hb
        | some a => rfl
    · have hs' : (it.name == sleepName) = false := by simp [hs]
      simp only [hs, hs', if_false, Bool.false_eq_true]
      cases reqs it.name with
      | none => simp [errClass_notfound]
      | some r =>
        simp only [appendLoop, Int.one_mul, Int.sub_zero, Bool.false_eq_true, if_false, errClass_toomany]
        -- the refusal in whatever (linear) arithmetic form the source states it: both conditions are split and the two
        -- contradictory combinations are closed by `omega`
        by_cases hp : it.sleep > 0 <;> simp only [hp, if_true, if_false] <;>
          (split <;> split <;>
            first
              | rfl
              | (exfalso; unfold maxScenarioRequests at *; omega)
              | (simp))


/-- `convertScenarioToAmmo` of the model is the loop over the regenerated body -/
theorem expand_gen {ρ} (reqs : List Char → Option ρ) (sh : List Char) (rest : List (List Char)) (acc : List (Step ρ)) :
    expand reqs (sh :: rest) acc =
      match Gen.C15Flow.convShoot atoi reqs sh acc with
      | .ok acc' => expand reqs rest acc'
      | .err e => .err e
      | .panic p => .panic p := by
  rw [convShoot_eq, expand]
  cases parseShootName sh with
  | error e => rfl
  | ok it =>
    simp only []
    cases expandItem reqs acc it <;> rfl

theorem ringCopies_eq (ns : Int) : (Gen.C15Flow.ringCopies ns).toNat = ns.toNat := by
  simp [Gen.C15Flow.ringCopies]

theorem assertSizeFails_eq (op : String) (val len : Int) : Gen.C15Flow.assertSizeFails op val len = sizeFails op val len := by
  unfold Gen.C15Flow.assertSizeFails sizeFails
  split
  · by_cases h : val = len <;> simp [h]
  · split
    · simp
    · split
      · simp
      · rfl

theorem assertReadsBody_iff (a : AssertCfg) :
    Gen.C15Flow.assertReadsBody (a.body.length : Int) (a.size.isSome = true) ↔ readsBody a = true := by
  unfold Gen.C15Flow.assertReadsBody readsBody
  simp

theorem assertStatusFails_iff (want got : Int) :
    ¬ Gen.C15Flow.assertStatusFails want got ↔ (want = 0 ∨ want = got) := by
  unfold Gen.C15Flow.assertStatusFails
  omega

theorem substrBounds_eq (start stop l : Int) : Gen.C15Flow.substrBounds start stop l = substrBounds start stop l := by
  rfl


theorem idxEmptyRefused_iff (L : Nat) : Gen.C15Flow.idxEmptyRefused (L : Int) ↔ L = 0 := by
  unfold Gen.C15Flow.idxEmptyRefused
  omega

theorem idxLast_eq (L : Nat) (h : 0 < L) : Gen.C15Flow.idxLast (L : Int) = ((L - 1 : Nat) : Int) := by
  unfold Gen.C15Flow.idxLast
  omega

/-- a numeric index — any integer — selects a row of a non-empty list: never out of range -/
theorem idxNumeric_range (i : Int) (L : Nat) (h : 0 < L) :
    0 ≤ Gen.C15Flow.idxNumeric i L ∧ Gen.C15Flow.idxNumeric i L < L := by
  unfold Gen.C15Flow.idxNumeric
  have hL : (0 : Int) < L := by omega
  split
  · omega
  · simp only []
    have h1 : Int.tmod i L < L := Int.tmod_lt_of_pos i hL
    have h2 : -(L : Int) < Int.tmod i L := by
      have := Int.tmod_lt_of_pos (-i) hL
      rw [Int.neg_tmod] at this
      omega
    split <;> omega

/-- what the model's `calcIndex` does with a numeric index is the regenerated arithmetic -/
theorem calcIndex_numeric (indexStr seg : String) (L id : Nat) (it : Iter) (i : Int) (hL : 0 < L)
    (hi : atoi indexStr.toList = some i) (h1 : indexStr ≠ "last") (h2 : indexStr ≠ "rand") (h3 : indexStr ≠ "next") :
    calcIndex indexStr seg L id it = .ok ((Gen.C15Flow.idxNumeric i L).toNat, it) := by
  unfold calcIndex Gen.C15Flow.idxNumeric
  have e1 : (indexStr == "last") = false := by simpa using h1
  have e2 : (indexStr == "rand") = false := by simpa using h2
  have e3 : (indexStr == "next") = false := by simpa using h3
  have e4 : (L == 0) = false := by simpa using Nat.ne_of_gt hL
  simp only [e1, e2, e3, e4, hi, Bool.or_self, Option.isNone_some, Bool.false_and, Bool.false_eq_true, if_false]
  by_cases hr : 0 ≤ i ∧ i < (L : Int)
  · simp [hr]
  · simp only [hr, if_false]

/-- `prepareRequest` as regenerated is the statement list `Proofs.C15.runPrep_eq` interprets into the direct reading -/
theorem prepCode_eq : Gen.C15Flow.prepCode = prepCode := by decide

/-- the min_waiting_time rule at the end of `shoot` as regenerated -/
theorem mwtPause_eq (m spent : Int) : Gen.C15Flow.mwtPause m spent = mwtPause m spent := rfl

end Pandora.Bridge.C15Flow
