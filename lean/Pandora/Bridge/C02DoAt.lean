/-
C02 — bridge for the leaf: the regenerated `doAtSchedule` (`Pandora/Gen/Schedule.lean`, area `schedule`:
core/schedule/do_at.go + start_sync.go re-translated on every check) does what the C02 model's finite leaf
`Leaf.fin` does.  `toLeaf` reads a regenerated state as a model leaf: the offsets are `doAt 0 … doAt (n-1)`, the
`sync.Once` is "start is known".  Under the state invariant `WF` (counters non-negative, `started` and `startOnce`
agree — true initially and preserved) `Start`, `Next` and `Left` commute with `toLeaf`, including the double-start
panic, the overshooting index and the clamp of `Left` at 0.
-/
import Pandora.Gen.Schedule
import Pandora.Model.C02Sched

namespace Pandora.Bridge.C02DoAt
open Pandora.Gen.Schedule Pandora.Model.C02

def offsOf (s : DoAtSt) : List Int := (List.range s.n.toNat).map (fun (k : Nat) => s.doAt (Int.ofNat k))

def toLeaf (s : DoAtSt) : Leaf :=
  Leaf.fin (offsOf s) s.duration s.i.toNat (if s.startOnce then some s.start else none)

structure WF (s : DoAtSt) : Prop where
  i_nonneg : 0 ≤ s.i
  n_nonneg : 0 ≤ s.n
  flags : s.started = s.startOnce

theorem wf_new (duration n : Int) (doAt : Int → Int) (hn : 0 ≤ n) : WF (NewDoAtSchedule duration n doAt) :=
  ⟨by simp [NewDoAtSchedule], hn, rfl⟩

theorem new_leaf (duration n : Int) (doAt : Int → Int) :
    toLeaf (NewDoAtSchedule duration n doAt) = Leaf.fin ((List.range n.toNat).map (fun (k : Nat) => doAt (Int.ofNat k))) duration 0 none := by
  simp [toLeaf, NewDoAtSchedule, offsOf]

theorem offs_length (s : DoAtSt) : (offsOf s).length = s.n.toNat := by
  unfold offsOf; rw [List.length_map, List.length_range]

/-- the offset at the current index, in the source's terms -/
theorem offs_at (s : DoAtSt) (hi : 0 ≤ s.i) :
    (offsOf s)[s.i.toNat]? = if s.i < s.n then some (s.doAt s.i) else none := by
  unfold offsOf
  rw [List.getElem?_map]
  by_cases h : s.i < s.n
  · rw [List.getElem?_range (by omega), if_pos h, Option.map_some, Int.ofNat_eq_natCast, Int.toNat_of_nonneg hi]
  · rw [List.getElem?_eq_none (by rw [List.length_range]; omega), if_neg h]; rfl

/-- `Start` -/
theorem start_bridge (s : DoAtSt) (h : WF s) (t : Int) :
    (∃ s', doAtSchedule_Start s t = .ok ((), s') ∧ Leaf.start (toLeaf s) t = .ok (toLeaf s') ∧ WF s') ∨
    (doAtSchedule_Start s t = .error "schedule is already started" ∧ Leaf.start (toLeaf s) t = .error alreadyStarted) := by
  obtain ⟨hi, hn, hf⟩ := h
  cases hst : s.started with
  | true =>
    right
    have hso : s.startOnce = true := by rw [← hf]; exact hst
    refine ⟨by simp [doAtSchedule_Start, StartSync_MarkStarted, hst], ?_⟩
    simp [toLeaf, hso, Leaf.start]
  | false =>
    left
    have hso : s.startOnce = false := by rw [← hf]; exact hst
    refine ⟨{ s with started := true, startOnce := true, start := t }, ?_, ?_, ⟨hi, hn, rfl⟩⟩
    · simp [doAtSchedule_Start, StartSync_MarkStarted, hst, hso]
    · simp [toLeaf, hso, Leaf.start, offsOf]

/-- the state `startOnce.Do` leaves behind: started at `now` unless it was started before -/
def afterOnce (s : DoAtSt) (now : Int) : DoAtSt :=
  { s with started := true, startOnce := true, start := if s.startOnce then s.start else now }

/-- `Next` of the source in one piece: the once, then the index is taken and incremented -/
theorem next_eq (s : DoAtSt) (h : WF s) (now : Int) :
    doAtSchedule_Next now s =
      .ok (((afterOnce s now).start + (if s.i < s.n then s.doAt s.i else s.duration), decide (s.i < s.n)),
        { afterOnce s now with i := s.i + 1 }) := by
  obtain ⟨dur, n, i, doAt, started, startOnce, start⟩ := s
  have hf : started = startOnce := h.flags
  subst hf
  unfold doAtSchedule_Next StartSync_MarkStarted afterOnce
  by_cases hlt : i < n
  · have hge : ¬ i ≥ n := by omega
    cases started <;> simp only [hlt, hge, Bool.false_eq_true, if_false, if_true, Int.add_sub_cancel, decide_true]
  · have hge : i ≥ n := by omega
    cases started <;> simp only [hlt, hge, Bool.false_eq_true, if_false, if_true, Int.add_sub_cancel, decide_false]

/-- `Next` (`now` = what `time.Now()` returns) -/
theorem next_bridge (s : DoAtSt) (h : WF s) (now : Int) :
    ∃ s' tx ok, doAtSchedule_Next now s = .ok ((tx, ok), s') ∧ Leaf.next (toLeaf s) now = .ok (toLeaf s', tx, ok) ∧ WF s' := by
  have hi := h.i_nonneg
  refine ⟨_, _, _, next_eq s h now, ?_, ⟨by show 0 ≤ s.i + 1; omega, h.n_nonneg, rfl⟩⟩
  have hsucc : (s.i + 1).toNat = s.i.toNat + 1 := by omega
  have hst : (if s.startOnce then some s.start else none).getD now = if s.startOnce then s.start else now := by
    cases s.startOnce <;> rfl
  show Leaf.next (Leaf.fin (offsOf s) s.duration s.i.toNat _) now =
    .ok (Leaf.fin (offsOf s) s.duration (s.i + 1).toNat (some _), _, _)
  simp only [Leaf.next, offs_at s hi, hst, hsucc]
  by_cases hlt : s.i < s.n <;> simp only [hlt, if_true, if_false, decide_true, decide_false] <;> rfl

/-- `Left`: the source clamps `n - i` at 0, the model subtracts in ℕ -/
theorem left_bridge (s : DoAtSt) (h : WF s) (now : Int) :
    ∃ l, doAtSchedule_Left s = .ok (l, s) ∧ Leaf.left (toLeaf s) now = .ok (toLeaf s, l) := by
  have hi := h.i_nonneg
  have hn := h.n_nonneg
  have hl : ∀ l : Int, l = ((s.n.toNat - s.i.toNat : Nat) : Int) → Leaf.left (toLeaf s) now = .ok (toLeaf s, l) := by
    rintro l rfl
    simp only [toLeaf, Leaf.left, offs_length]
  unfold doAtSchedule_Left
  by_cases hlt : s.n - s.i < 0
  · exact ⟨0, by rw [if_pos hlt], hl 0 (by omega)⟩
  · exact ⟨s.n - s.i, by rw [if_neg hlt], hl _ (by omega)⟩

end Pandora.Bridge.C02DoAt
