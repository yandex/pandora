/-
Bridge lemmas for C05: what the source says NOW (`Pandora.Gen.C05Engine`, regenerated on every check run from
lib/errutil/errutil.go, core/engine/{engine,instance}.go, cli/cli.go) is the code the model `Pandora.Model.C05`
describes.

* `isCtxError_spec`, `isCtxError_abs`: the regenerated `errutil.IsCtxError` is "nil, or caused by THIS context's
  error", and under the abstraction `absRet` it is exactly the model's `Ret.isCtxError`.
* `srcCfg`: the three variation points of the model (`Cfg`) computed from the regenerated paths;
  `srcCfg_repaired : srcCfg = Cfg.repaired`. Reverting one of the repairs makes this fail.
* the cases of the await loop, `checkAllInstancesAreFinished`, `instancePool.Run`, `awaitRunAsync`, `warmUpGun`,
  `newInstance`, `runNewInstance`, `startInstances`, `closeGun`, the deferred `recover`, `runAsync`, `Engine.Run`,
  `Engine.Wait`, `newPool` and the CLI's reaction to the result of `Engine.Run`: each summary is computed in Lean
  from the regenerated paths, and `step` of the model is shown to be the reading of these summaries
  (`awaitProv_src` … `awaitRun_src`, `checkAll_src`).
-/
import Pandora.Gen.C05Engine
import Pandora.Model.C05Src
import Pandora.Model.C05Cli

namespace Pandora.Bridge.C05Engine
open Pandora.Model.C05 Pandora.Gen.C05Engine

/-! ### `errutil.IsCtxError` -/

/-- the regenerated function computes the intended predicate: nil, or the cause is `ctx.Err()` itself -/
theorem isCtxError_spec (c : Option CtxKind) (e : Option GoErr) : isCtxError c e = isCtxErrorSpec c e := by
  cases e with
  | none => rfl
  | some g =>
    cases g with
    | other n => cases c <;> simp [isCtxError, isCtxErrorSpec, causeOf]
    | ctxKind k => cases c with
      | none => simp [isCtxError, isCtxErrorSpec, causeOf]
      | some k' => cases k <;> cases k' <;> decide

/-- … and that is the model's `Ret.isCtxError` under the abstraction of Go errors to `Ret` (relative to the context
the error is compared with): an error caused by a context-kind error that is NOT this context's `Err()` is a
component error for the model, and the real function agrees -/
theorem isCtxError_abs (c : Option CtxKind) (e : Option GoErr) :
    isCtxError c e = (absRet c e).isCtxError c.isSome := by
  rw [isCtxError_spec]
  cases e with
  | none => rfl
  | some g =>
    cases g with
    | other n => rfl
    | ctxKind k => cases c with
      | none => cases k <;> rfl
      | some k' => cases k <;> cases k' <;> decide

/-- a component's own deadline is never taken for the cancellation of the engine's (cancel-only) contexts -/
theorem foreign_deadline_is_component_error :
    isCtxError (some .canceled) (some (.ctxKind .deadlineExceeded)) = false ∧
    isCtxError none (some (.ctxKind .canceled)) = false ∧
    isCtxError none (some (.ctxKind .deadlineExceeded)) = false := by decide

/-! ### the code variant -/

def firstComm : Path → Option String
  | [] => none
  | .comm t :: _ => some t
  | _ :: r => firstComm r

/-- the cases of the select in `onErrAwaited` -/
def onErrComms : List String := (onErrAwaited.filterMap firstComm).eraseDups

/-- (`‹arg0›`: the error handed to `onErrAwaited`; local variables are spelled by what defines them, see gen/area_c05engine.go) -/
theorem onErrComms_eq : onErrComms = ["awaitErr <- ‹arg0›", "<-poolCtx.Done()"] := by decide

/-- every way through `onErrAwaited` goes through the select (no path drops the error without waiting) -/
theorem onErr_always_selects : onErrAwaited.all (fun p => (firstComm p).isSome) = true := by decide

/-- calls of `onWaitDone` that one execution of `Pool.Run` along path `p` leads to: its own calls, plus the one of the
await goroutine when `awaitRunAsync` was started -/
def waitDoneCalls (p : Path) : Nat :=
  p.count (.call "onWaitDone") + (if p.has (.call "awaitRunAsync") then awaitRunAsync.length else 0)

/-- the model's variation points, read off the regenerated paths -/
def srcCfg : Cfg where
  fixSelect := onErrComms.contains "<-poolCtx.Done()" && !onErrComms.contains "<-runCtx.Done()"
  fixWaitDone := poolRun.all fun p => p.failed != some "runAsync" || p.count (.call "onWaitDone") == 1
  fixClose :=
    (warmUpGun.all fun p => !p.has (.ok "NewGun") || p.releasedAfter "NewGun" "closeGun") &&
    (newInstance.all fun p => !(p.failed == some "Bind") || p.releasedAfter "newGun" "closeGun")

/-- the source is the repaired variant of the model -/
theorem srcCfg_repaired : srcCfg = Cfg.repaired := by decide

/-! ### `instancePool.Run` / `awaitRunAsync`: who calls `onWaitDone` -/

/-- exactly one `onWaitDone` per `Pool.Run`, on every path: the warm-up failure path and the `runAsync` failure path
call it themselves, every other path has started the await goroutine, whose deferred function calls it -/
theorem poolRun_one_waitDone : poolRun.all (fun p => waitDoneCalls p == 1) = true := by decide

theorem poolRun_outcomes :
    poolRun.map (fun p => (p.failed, p.count (.call "onWaitDone"), p.has (.call "awaitRunAsync"), p.retText)) =
      [(some "warmUpGun", 1, false, "‹warmUpGun(arg0)›"), (some "runAsync", 1, false, "‹runAsync(arg0)#1›"),
       (none, 0, true, "Err(…)"), (none, 0, true, "‹rx:awaitRunAsync#0›"), (none, 0, true, "nil")] := by decide

/-- the final select of `Pool.Run`: the pool context, or the channel `awaitRunAsync` returned; a received value is the
result, a closed channel is success -/
theorem poolRun_select :
    (poolRun.filter (fun p => p.has (.call "awaitRunAsync"))).map (fun p => (firstComm p, p.filter (fun e => match e with | .cond _ => true | .ncond _ => true | _ => false))) =
      [(some "<-‹arg0›.Done()", []),
       (some "‹rx:awaitRunAsync#0›, ‹rx:awaitRunAsync#1› := <-‹awaitRunAsync(runAsync#0)›", [.cond "‹rx:awaitRunAsync#1›"]),
       (some "‹rx:awaitRunAsync#0›, ‹rx:awaitRunAsync#1› := <-‹awaitRunAsync(runAsync#0)›", [.ncond "‹rx:awaitRunAsync#1›"])] := by decide

/-- the deferred `cancel()` of the pool context is registered before anything else on every path -/
theorem poolRun_cancels : poolRun.all (fun p => p.head? == some (.dfr "‹WithCancel(arg0)#1›")) = true := by decide

/-- the await goroutine: runs `awaitRun`, and its deferred function closes `awaitErr` and calls `onWaitDone`, once -/
theorem awaitRunAsync_goroutine :
    awaitRunAsync.map (fun p => (p.count (.go "awaitRun"), p.count (.go "defer:close:awaitErr"), p.count (.go "defer:onWaitDone"))) =
      [(1, 1, 1)] := by decide

/-! ### guns -/

theorem warmUpGun_outcomes :
    warmUpGun.map (fun p => p.resource "NewGun" "closeGun") =
      [(some "NewGun", false, false), (some "WarmUp", true, true), (none, true, true), (none, true, true)] := by decide

/-- `newInstance`: the schedule is asked for first, then the gun is created, then bound; a failure of the first two
leaves no gun behind, a failed `Bind` closes the gun, success hands the (open) gun to the instance: the four
constructors of the model's `NewOut` -/
theorem newInstance_outcomes :
    newInstance.map (fun p => p.resource "newGun" "closeGun") =
      [(some "newSchedule", false, false), (some "newGun", false, false), (some "Bind", true, true), (none, true, false)] := by
  decide

/-- no path of `newInstance` that fails leaves a created gun unclosed -/
theorem newInstance_no_leak :
    newInstance.all (fun p => !(p.failed.isSome && p.has (.ok "newGun")) || p.releasedAfter "newGun" "closeGun") = true := by
  decide

/-- an instance that was created is closed when its `Run` returns (first instance and later ones) -/
theorem runNewInstance_outcomes :
    runNewInstance.map (fun p => (p.failed,
      -- `defer instance.Close()` before `Run`, or (Run recovers every panic itself) a plain `Close()` after it
      (p.has (.dfr "Close") && (p.after (.dfr "Close")).contains (.call "Run")) ||
      (p.after (.call "Run")).contains (.call "Close"))) =
      [(some "newInstance", false), (none, true)] := by decide

def goEvents (p : Path) : List String := p.filterMap fun e => match e with | .go t => some t | _ => none
def callEvents (p : Path) : List String := p.filterMap fun e => match e with | .call t => some t | _ => none

def startEvents (p : Path) : List Ev := p.filter fun e => match e with | .go _ => true | .fail _ => true | _ => false

theorem startInstances_outcomes :
    startInstances.map startEvents =
      [[], [.fail "newInstance"], [.go "Close", .go "Run", .go "send:‹arg3›"],
       [.go "Close", .go "Run", .go "send:‹arg3›", .go "runNewInstance", .go "send:‹arg3›"]] := by decide

/-- the start goroutine waits for its startup schedule on the instance-start context (`‹arg0›`, its first parameter)
— both waits — and reports the error of that context: cancelling the instance start (out of ammo, end of the shared
schedule) ends it, and its result is judged against the context it really ended by -/
theorem startInstances_start_ctx :
    startInstances.all (fun p => (callEvents p).all fun c => c == "Wait(‹arg0›)" || c == "Err(‹arg0›)" || c == "newInstance") = true ∧
    startInstances.map (fun p => p.count (.call "Wait(‹arg0›)")) = [1, 1, 2, 2] := by decide

theorem instanceClose_closes_gun : instanceClose.all (fun p => p.has (.call "closeGun")) = true := by decide

/-- `closeGun`: `Close` is called iff the gun is an `io.Closer` -/
theorem closeGun_outcomes : closeGun.map (fun p => (p.has (.cond "‹assert:io.Closer#1›"), p.has (.call "Close"))) =
    [(false, false), (true, true)] := by decide

/-- `instance.Run` recovers a panic of `Shoot` into its (named) result -/
theorem instanceRun_recovers :
    instanceRunDefers.all (fun p => p.has (.dfr "recover") && p.has (.dfr "if:‹recover› != nil") && p.has (.dfr "set:<result>=Errorf")) = true := by
  decide

/-! ### `instance.Run`: the shooting loop (`Model.C05.instRun`) -/

/-- one regenerated iteration (the function literal called in the loop body) read as what the model's `instRun`
meets: out of ammo (the private sentinel is returned; nothing was acquired), the schedule wait said no (the acquired
ammo is released by the deferred `Release`, nil), a shot or a discarded shot (released, nil) -/
def iterKind (p : Path) : Option Iter :=
  let calls := callEvents p
  if p.retText == "outOfAmmoErr" then
    (if calls == ["Acquire"] && p.has (.ncond "‹Acquire#1›") && !p.has (.dfr "Release") then some .outOfAmmo else none)
  else if p.retText != "nil" || !p.has (.cond "‹Acquire#1›") || !p.has (.dfr "Release") then none
  else if p.has (.ncond "Wait(‹arg0›)") then (if calls == ["Acquire", "Wait(‹arg0›)"] then some .waitFalse else none)
  else if p.has (.cond "Wait(‹arg0›)") && (calls.contains "Shoot" != calls.contains "Report") then some .shot
  else none

theorem instanceRun_iterations :
    instanceRunIter.map iterKind = [some .outOfAmmo, some .waitFalse, some .shot, some .shot] := by decide

/-- the loop around it: an iteration's error ends `Run` with that error (`instRun … (.outOfAmmo :: _) = .ooa`; a panic
goes through the deferred `recover`: `instanceRun_recovers`); a nil iteration is followed by the loop condition
`IsFinished(ctx)` again; when that says yes `Run` returns `ctx.Err()` (`instRun d [] = if d then .ctx else .ok`) -/
theorem instanceRun_loop :
    instanceRunLoop.map (fun p => (p.has .loop, p.failed, (callEvents p).filter (· != "‹iteration›"), p.retText)) =
      [(true, some "‹iteration›", ["IsFinished(‹arg0›)"], "‹<literal>›"),
       (false, none, ["IsFinished(‹arg0›)", "Err(‹arg0›)"], "Err(…)"),
       (true, none, ["IsFinished(‹arg0›)", "Err(‹arg0›)"], "Err(…)")] := by decide

/-- the model's `instRun` is that loop: what each kind of iteration contributes -/
theorem instRun_is_loop (d : Bool) (rest : List Iter) (e : ErrId) :
    instRun d [] = (if d then .ctx else .ok) ∧ instRun d (.outOfAmmo :: rest) = .ooa ∧
    instRun d (.shot :: rest) = instRun d rest ∧ instRun d (.waitFalse :: rest) = instRun d [] ∧
    instRun d (.shotPanic e :: rest) = .err e := by
  refine ⟨rfl, rfl, rfl, rfl, rfl⟩

/-! ### the await loop -/

/-- what the model needs to know about one case of the select in `awaitRun` -/
structure AwaitCase where
  dec : Nat                 -- `toWait--` on every path (0 if not on every path exactly that often)
  ctx : List String         -- the context(s) `IsCtxError` is asked about
  msg : List String         -- the `WithMessage` texts
  forwards : Bool           -- `onErrAwaited` is called exactly on the paths where `IsCtxError` said no (and not for out-of-ammo)
  chk : Bool                -- `checkAllInstancesAreFinished` is the last call of every path
  deriving DecidableEq, Repr

def ctxArgs (p : Path) : List String :=
  p.filterMap fun e => match e with
    | .call "IsCtxError(runCtx)" => some "runCtx"
    | .call "IsCtxError(instanceStartCtx)" => some "instanceStartCtx"
    | .call "IsCtxError(poolCtx)" => some "poolCtx"
    | .call t => if t == "IsCtxError(?)" then some "?" else none
    | _ => none

def isCtxCond : Ev → Option Bool
  | .cond "IsCtxError(runCtx)" | .cond "IsCtxError(instanceStartCtx)" | .cond "IsCtxError(poolCtx)" => some true
  | .ncond "IsCtxError(runCtx)" | .ncond "IsCtxError(instanceStartCtx)" | .ncond "IsCtxError(poolCtx)" => some false
  | _ => none

def msgs (p : Path) : List String :=
  p.filterMap fun e => match e with
    | .call "WithMessage(provider failed)" => some "provider failed"
    | .call "WithMessage(aggregator failed)" => some "aggregator failed"
    | .call "WithMessage(instances start failed)" => some "instances start failed"
    | .call "WithMessage(instance %q run failed)" => some "instance %q run failed"
    | _ => none

def lastCall : Path → Option String
  | [] => none
  | .call f :: r => (lastCall r).or (some f)
  | _ :: r => lastCall r

def awaitCase (ps : List Path) : AwaitCase where
  dec := if ps.all (fun p => p.count (.dec "toWait") == 1) then 1 else if ps.all (fun p => p.count (.dec "toWait") == 0) then 0 else 99
  ctx := (ps.flatMap ctxArgs).eraseDups
  msg := (ps.flatMap msgs).eraseDups
  forwards := ps.all fun p => (p.count (.call "onErrAwaited") == 1) == ((p.filterMap isCtxCond) == [false])
  chk := ps.all fun p => lastCall p == some "checkAllInstancesAreFinished"

theorem awaitChannels_eq : awaitChannels = ["providerErr", "aggregatorErr", "startRes", "runRes"] := by decide
theorem awaitLoop_eq : awaitLoopCond = "toWait > 0" ∧ resultsToWait = 4 ∧ isStartFinished = "startRes == nil" := by decide

theorem await_providerErr_case : awaitCase await_providerErr = ⟨1, ["runCtx"], ["provider failed"], true, false⟩ := by decide
theorem await_aggregatorErr_case : awaitCase await_aggregatorErr = ⟨1, ["runCtx"], ["aggregator failed"], true, false⟩ := by decide
theorem await_startRes_case : awaitCase await_startRes = ⟨1, ["instanceStartCtx"], ["instances start failed"], true, true⟩ := by decide
theorem await_runRes_case : awaitCase await_runRes = ⟨0, ["runCtx"], ["instance %q run failed"], true, true⟩ := by decide

/-- each of the three one-shot channels is set to nil in its case (it cannot fire twice); the start result is stored -/
theorem await_one_shot :
    await_providerErr.all (fun p => p.has (.set "providerErr=nil")) = true ∧
    await_aggregatorErr.all (fun p => p.has (.set "aggregatorErr=nil")) = true ∧
    await_startRes.all (fun p => p.has (.set "startRes=nil") && p.has (.set "startedInstances=‹rx:startRes›.Started")) = true ∧
    await_runRes.all (fun p => p.count (.inc "awaitedInstances") == 1) = true := by decide

/-- the out-of-ammo result of an instance is no error: it cancels the instance start unless that has finished -/
theorem await_runRes_ooa :
    (await_runRes.filter (fun p => p.has (.cond "‹rx:runRes›.Err == outOfAmmoErr"))).map
        (fun p => (p.has (.cond "isStartFinished"), p.has (.call "instanceStartCancel"), p.has (.call "onErrAwaited"))) =
      [(false, true, false), (true, false, false)] := by decide

/-! the model's `step` is the reading of these summaries -/

/-- the context a name of the source stands for -/
def ctxDone (s : State) : String → Bool
  | "poolCtx" => s.poolC
  | "runCtx" => s.runC
  | "instanceStartCtx" => s.startC
  | _ => false

def wrapOf (id : Nat) : String → Wrap
  | "provider failed" => .provider
  | "aggregator failed" => .aggregator
  | "instances start failed" => .start
  | "instance %q run failed" => .instance id
  | _ => .raw

def theCtx (c : AwaitCase) : String := c.ctx.headD "?"
def theMsg (c : AwaitCase) : String := c.msg.headD "?"

theorem awaitProv_src (cfg : Cfg) (s : State) :
    step cfg s .awaitProv =
      match s.aw, s.prov with
      | .loop, .ready r =>
        let c := awaitCase await_providerErr
        handleRes { s with prov := .taken, toWait := s.toWait - c.dec } (wrapOf 0 (theMsg c)) r (ctxDone s (theCtx c)) c.chk
      | _, _ => s := by
  rw [await_providerErr_case]; rfl

theorem awaitAgg_src (cfg : Cfg) (s : State) :
    step cfg s .awaitAgg =
      match s.aw, s.agg with
      | .loop, .ready r =>
        let c := awaitCase await_aggregatorErr
        handleRes { s with agg := .taken, toWait := s.toWait - c.dec } (wrapOf 0 (theMsg c)) r (ctxDone s (theCtx c)) c.chk
      | _, _ => s := by
  rw [await_aggregatorErr_case]; rfl

theorem awaitStart_src (cfg : Cfg) (s : State) :
    step cfg s .awaitStart =
      match s.aw, s.startTaken, s.startRes with
      | .loop, false, some (n, r) =>
        let c := awaitCase await_startRes
        handleRes { s with startTaken := true, toWait := s.toWait - c.dec, startedInstances := n } (wrapOf 0 (theMsg c)) r
          (ctxDone s (theCtx c)) c.chk
      | _, _, _ => s := by
  rw [await_startRes_case]; rfl

theorem awaitRun_src (cfg : Cfg) (s : State) :
    step cfg s .awaitRun =
      match s.aw, s.runResOpen, s.buf with
      | .loop, true, (id, r) :: rest =>
        let c := awaitCase await_runRes
        let s1 := { s with buf := rest, awaited := s.awaited + 1, toWait := s.toWait - c.dec }
        if r = .ooa then
          afterErr (if s1.startTaken then s1 else { s1 with startC := true }) c.chk
        else handleRes s1 (wrapOf id (theMsg c)) r (ctxDone s (theCtx c)) c.chk
      | _, _, _ => s := by
  rw [await_runRes_case]; rfl

/-! ### `checkAllInstancesAreFinished` -/

/-- the regenerated guard is the model's: the start result was taken and every started instance was awaited -/
theorem checkAllGuard_eq (st : Bool) (a b : Nat) :
    checkAllGuard st (a : Int) (b : Int) = (st && decide (b ≤ a)) := by
  simp [checkAllGuard]

/-- once the guard holds: `runRes` is closed and set to nil, `toWait` is decremented once, the run context is cancelled;
a result that is still in the closed channel is a `log.Panic` -/
theorem checkAll_effects :
    checkAllEffects.map (fun p => (p.count (.call "close:runRes"), p.count (.set "runRes=nil"), p.count (.dec "toWait"),
        p.count (.call "runCancel"), p.has (.cond "‹rx:runRes#1›"), p.has (.call "Panic"))) =
      [(1, 1, 1, 1, true, true), (1, 1, 1, 1, false, false)] := by decide

theorem checkAll_src (s : State) :
    checkAll s =
      if checkAllGuard s.startTaken (s.awaited : Int) (s.startedInstances : Int) then
        if s.runResOpen = false then { s with panicked := true }
        else if s.buf ≠ [] then { s with panicked := true }
        else { s with runResOpen := false, toWait := s.toWait - 1, runC := true, startC := true }
      else s := by
  rw [checkAllGuard_eq]
  unfold checkAll
  by_cases h1 : s.startTaken = true <;> by_cases h2 : s.startedInstances ≤ s.awaited <;> simp [h1, h2]

/-! ### `runAsync`: the context tree and what is started -/

/-- the same elements, in any order -/
def sameElems (a b : List String) : Bool := a.length == b.length && a.all b.contains && b.all a.contains

/-- the run context is a child of the pool context (`‹arg0›`, the parameter) and the instance-start context a child of
the run context (in this order); the shared schedule is built before anything is started, and its failure starts
nothing -/
theorem runAsync_contexts :
    runAsync.map (fun p => (callEvents p, p.failed, goEvents p == [])) =
      [(["WithCancel(‹arg0›)", "WithCancel(‹WithCancel(arg0)#0›)", "buildNewInstanceSchedule"], some "buildNewInstanceSchedule", true),
       (["WithCancel(‹arg0›)", "WithCancel(‹WithCancel(arg0)#0›)", "buildNewInstanceSchedule"], none, false)] := by decide

/-- the value stored in a field of the handle `runAsync` returns -/
def handleField (f : String) : String := ((runAsyncHandle.find? (·.1 == f)).map (·.2)).getD "?"

/-- the handle carries the contexts under the names the await loop uses them by: `poolCtx` is the parameter, `runCtx` /
`runCancel` the first derived context and its cancel, `instanceStartCtx` / `instanceStartCancel` the context derived from
THAT and its cancel -/
theorem runAsync_handle_contexts :
    (["poolCtx", "runCtx", "runCancel", "instanceStartCtx", "instanceStartCancel"].map handleField) =
      ["‹arg0›", "‹WithCancel(arg0)#0›", "‹WithCancel(arg0)#1›", "‹WithCancel(WithCancel#0)#0›", "‹WithCancel(WithCancel#0)#1›"] := by
  decide

/-- what is started (in whatever order): provider and aggregator on the run context, the start goroutine on the
instance-start context, each sending its result on the channel the handle stores in the field the await loop reads it
from; the four channels are different ones -/
theorem runAsync_starts :
    (runAsync.filter (fun p => p.failed == none)).map (fun p => sameElems (goEvents p)
        ["Provider.Run(" ++ handleField "runCtx" ++ ")", "send:" ++ handleField "providerErr",
         "Aggregator.Run(" ++ handleField "runCtx" ++ ")", "send:" ++ handleField "aggregatorErr",
         "startInstances(" ++ handleField "instanceStartCtx" ++ ")", "send:" ++ handleField "startRes"]) = [true] ∧
    (["providerErr", "aggregatorErr", "startRes", "runRes"].map handleField).eraseDups.length = 4 ∧
    !(["providerErr", "aggregatorErr", "startRes", "runRes"].map handleField).contains "?" := by decide +kernel

/-- a result is sent right after the call that produces it -/
def sentAfter (p : Path) (call chan : String) : Bool := ((p.after (.go call)).head? == some (.go chan))

theorem runAsync_result_channels :
    (runAsync.filter (fun p => p.failed == none)).all (fun p =>
      sentAfter p ("Provider.Run(" ++ handleField "runCtx" ++ ")") ("send:" ++ handleField "providerErr") &&
      sentAfter p ("Aggregator.Run(" ++ handleField "runCtx" ++ ")") ("send:" ++ handleField "aggregatorErr") &&
      sentAfter p ("startInstances(" ++ handleField "instanceStartCtx" ++ ")") ("send:" ++ handleField "startRes")) = true := by decide

/-- with `rps-per-instance` the factory itself goes to the instances (the model's `.sched none`, failures show up in
`newInstance`); otherwise ONE schedule is built here, its failure is the failure of `runAsync` (`.sched (some e)`),
and when it runs out its callback cancels the instance start unless that is already done (`.rpsFinished`) -/
theorem buildSchedule_outcomes :
    buildNewInstanceSchedule.map (fun p => (p.has (.cond "‹recv›.RPSPerInstance"), callEvents p, p.failed)) =
      [(true, [], none), (false, ["NewRPSSchedule"], some "NewRPSSchedule"),
       (false, ["NewRPSSchedule", "NewCallbackOnFinishSchedule"], none)] ∧
    sharedScheduleFinished.map (fun p => (firstComm p, callEvents p)) =
      [(some "<-‹arg0›.Done()", []), (some "default", ["‹arg1›"])] := by decide

/-! ### `Engine.Run`, `Engine.Wait`, `newPool` -/

/-- per pool: `e.wait.Add(1)`, the pool gets `e.wait.Done` as its `onWaitDone`, `pool.Run` in a goroutine whose result
is sent on `runRes` unless the engine context is done -/
def enginePoolEvents (p : Path) : List Ev :=
  p.filter fun e => match e with | .call "Add" => true | .call "newPool(‹recv›.wait.Done)" => true | .go _ => true | _ => false

theorem engineRun_pool_start :
    (engineRun.map enginePoolEvents).eraseDups.map (fun p => p.take 3) =
      [[], [.call "Add", .call "newPool(‹recv›.wait.Done)", .go "Run"]] ∧
    -- the two cases of the goroutine's select, in whatever order they are written
    (engineRun.map enginePoolEvents).eraseDups.map (fun p => sameElems ((goEvents p).drop 1)
      ["comm:‹make(…,…)› <- poolRunResult{ID: ‹newPool(log,metrics,wait.Done,range#1)›.ID, Err: ‹Run(arg0)›}",
       "comm:<-‹arg0›.Done()"]) = [false, true] := by
  constructor <;> decide +kernel

theorem newPool_waitDone : newPoolWaitDoneParam = 2 := by decide

/-- the result loop of `Engine.Run`: what follows the last `loop` event -/
def afterLastLoop : Path → Path
  | [] => []
  | .loop :: r => if r.contains .loop then afterLastLoop r else r
  | _ :: r => afterLastLoop r

def engineResultEvents (p : Path) : List Ev :=
  (if p.contains .loop then afterLastLoop p else p).filter fun e =>
    match e with | .comm _ => true | .cond _ => true | .ncond _ => true | .ret _ => true | .call "WithMessage(‹rx:make›.Err)" => true | _ => false

/-- a pool error is returned (wrapped) unless the engine context is done, then `ctx.Err()`; `ctx.Done()` ends the
loop with `ctx.Err()`; a nil pool result continues; after the loop the result is nil: the model's `engRun` -/
theorem engineRun_results :
    ((engineRun.map engineResultEvents).filter (fun p => p.any fun e => match e with | .comm _ => true | _ => false)).eraseDups =
      [[.comm "‹rx:make› := <-‹make(…,…)›", .cond "‹rx:make›.Err != nil", .comm "<-‹arg0›.Done()", .ret "Err(…)"],
       [.comm "‹rx:make› := <-‹make(…,…)›", .cond "‹rx:make›.Err != nil", .comm "default", .call "WithMessage(‹rx:make›.Err)", .ret "WithMessage(…)"],
       [.comm "<-‹arg0›.Done()", .ret "Err(…)"],
       [.comm "‹rx:make› := <-‹make(…,…)›", .ncond "‹rx:make›.Err != nil", .ret "nil"]] := by decide

/-- the variant of the goroutine system `Sys` read off the source: a pool goroutine of `Engine.Run` hands its result
over inside a `select` that also listens on the engine context; and the result loop has an iteration that consists of
the `ctx.Done()` case alone - the receive of a pool result is one case of a `select` whose other case is the engine
context, not a plain receive (of which the extractor shows nothing) -/
def srcEngCfg : Sys.EngCfg :=
  ⟨(engineRun.filter (·.contains (.go "Run"))).all (·.contains (.go "comm:<-‹arg0›.Done()")),
   (engineRun.map engineResultEvents).any (fun p => p.head? == some (.comm "<-‹arg0›.Done()")) &&
   (engineRun.map engineResultEvents).any (fun p => p.head? == some (.comm "‹rx:make› := <-‹make(…,…)›"))⟩

theorem srcEngCfg_code : srcEngCfg = Sys.EngCfg.code := by decide

theorem engineRun_cancels : engineRun.all (fun p => p.head? == some (.dfr "‹WithCancel(arg0)#1›")) = true := by decide

theorem engineWait_waits : engineWait = [[.call "Wait", .ret ""]] := by decide

/-! ### the CLI's reaction to the result of `Engine.Run` -/

/-- `runEngine` forwards the result of `Engine.Run` -/
theorem cli_forwards : cliRunEngine.all (fun p => (p.after (.call "Run")).contains (.send "‹arg2›")) = true := by decide

/-- a nil result ends the process normally; any error cancels, waits for the engine's tasks and ends in `log.Fatal`
(exit status 1) -/
theorem cli_outcomes :
    cliEngineReturned.map (fun p => (p.head?, p.filter (fun e => match e with | .call _ => true | _ => false))) =
      [(some (.swc "‹rx:arg2@2›=nil"), []),
       (some (.swc "‹rx:arg2@2›=‹rx:arg2@2›"), [.call "‹arg1›", .call "Wait", .call "Fatal"]),
       (some (.swc "‹rx:arg2@2›=<none>"), [])] := by decide

/-! ### `awaitPandoraTermination` is the model `Cli.run`

Every regenerated path of the two cases of its outer select is read twice: as the list of events its selects (and
the blocking `Engine.Wait`) consume, and as the list of actions it performs up to the first `log.Fatal` (which does not
return; the extractor does not know that and goes on).  The model, run on the events, performs exactly these actions
(`rcv` is a log line, which the extractor drops). -/

/-- a path up to and including the first `log.Fatal` -/
def untilFatal : Path → Path
  | [] => []
  | .call "Fatal" :: _ => [.call "Fatal"]
  | e :: r => e :: untilFatal r

/-- the names: `‹arg1›` = gracefulShutdown and `‹arg2›` = errs (parameters), `‹make(…,…)›` = the signal channel,
`‹rx:…›` = a value received from that channel, `‹After(expr)›` = the timeout channel, `‹make(…)›` = waitDone -/
def evOf : Ev → List Cli.Ev
  | .swc "‹rx:make›=syscall.SIGINT" => [.sig .int]
  | .swc "‹rx:make›=syscall.SIGTERM" => [.sig .term]
  | .swc "‹rx:make›=default" => [.sig .other]
  | .swc "‹rx:arg2@2›=nil" => [.err true]
  | .swc "‹rx:arg2@2›=‹rx:arg2@2›" => [.err false]
  | .comm "<-‹After(expr)›" => [.timeout]
  | .comm "‹rx:make@2› := <-‹make(…,…)›" => [.sig .int]
  | .comm "‹rx:make@3› := <-‹make(…,…)›" => [.sig .int]
  | .comm "‹rx:arg2› := <-‹arg2›" => [.err false]
  | .comm "<-‹make(…)›" => [.waitDone]
  | .call "Wait" => [.waitDone]
  | _ => []

def actOf : Ev → List Cli.Act
  | .call "‹arg1›" => [.shutdown]
  | .go "Wait" => [.wait]
  | .call "Wait" => [.wait, .waited]
  | .comm "<-‹make(…)›" => [.waited]
  | .call "Fatal" => [.exit 1]
  | .ret _ => [.exit 0]
  | _ => []

def cliEvs (p : Path) : List Cli.Ev := (untilFatal p).flatMap evOf
def cliActs (p : Path) : List Cli.Act := (untilFatal p).flatMap actOf

/-- `Engine.Run` returned first: nil ⇒ exit 0; an error ⇒ shutdown, `Engine.Wait`, exit 1 -/
theorem cli_returned_model :
    (cliEngineReturned.filter (fun p => p.head? != some (.swc "‹rx:arg2@2›=<none>"))).all
      (fun p => Cli.run (cliEvs p) == cliActs p) = true := by decide

/-- a signal came first: every path through the nested selects -/
theorem cli_signalled_model :
    cliSignalled.all (fun p => (Cli.run (cliEvs p)).filter (· != .rcv) == cliActs p) = true := by decide

/-- all three kinds of signal and all continuations are there (5 per handled signal) -/
theorem cli_signalled_cases :
    (cliSignalled.map (·.head?)).eraseDups =
      [some (.swc "‹rx:make›=syscall.SIGINT"), some (.swc "‹rx:make›=syscall.SIGTERM"), some (.swc "‹rx:make›=default")] ∧
    (cliSignalled.filter (fun p => p.head? == some (.swc "‹rx:make›=syscall.SIGINT"))).length = 5 ∧
    (cliSignalled.filter (fun p => p.head? == some (.swc "‹rx:make›=syscall.SIGTERM"))).length = 5 := by decide

end Pandora.Bridge.C05Engine
