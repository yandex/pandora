/-
C02 — bridges for `Pandora/Gen/C02Src.lean` (area `c02src`, re-translated from core/schedule on every check):

  * `unlimitedSchedule` (unlilmited.go + start_sync.go) does what the model leaf `Leaf.unl` does: read through
    `toLeaf`, `NewUnlimited` is the unstarted leaf and `Start` / `Next` / `Left` commute with `Leaf.start/next/left`
    (double-start panic, auto-start by the first `Next`, no time before the part's start, finish time after the end);
  * the loop of `NewComposite` is the model's `mkLeftAfter` (last child first, the unknown latch), its shortcuts
    are `newComposite`'s;
  * what `compositeSchedule.Left` decides after its reader section is what the model's `leftReader` (concurrent)
    and `compLeftAux` (one caller) decide;
  * `compositeSchedule.Next` before `RLock`, from `RLock` to the point before `Lock`, and from `Lock` on is
    `nextBegin` / `nextReader` / `nextWriter`; the writer section of `Left` is `leftWriter`; `startNext` and the
    statements of `Start` are the model's;
  * the loop body and the `Left` decision re-translated in machine integers equal the ones over ℤ below 2^63;
  * the `New…Conf` wrappers hand their fields to the constructors unchanged.
-/
import Pandora.Gen.C02Src
import Pandora.Proofs.C02Par

namespace Pandora.Bridge.C02Src
open Pandora.Go Pandora.Gen.C02Src Pandora.Model.C02 Pandora.Model.C02.Par Pandora.Proofs.C02Sem Pandora.Proofs.C02Par

/-! ### unlimitedSchedule -/

def toLeaf (s : UnlSt) : Leaf := Leaf.unl s.duration (if s.startOnce then some s.finish else none)

/-- `started` and the `sync.Once` agree: true of `NewUnlimited`, kept by every method -/
def WF (s : UnlSt) : Prop := s.started = s.startOnce

theorem wf_new (duration now : Int) : WF (NewUnlimited duration now) := rfl

theorem new_leaf (duration now : Int) : toLeaf (NewUnlimited duration now) = Leaf.unl duration none := rfl

theorem start_bridge (s : UnlSt) (h : WF s) (t : Int) :
    (∃ s', unlimitedSchedule_Start s t = .ok ((), s') ∧ Leaf.start (toLeaf s) t = .ok (toLeaf s') ∧ WF s') ∨
    (unlimitedSchedule_Start s t = .error "schedule is already started" ∧ Leaf.start (toLeaf s) t = .error alreadyStarted) := by
  unfold WF at h
  cases hst : s.started with
  | true =>
    right
    have hso : s.startOnce = true := by rw [← h]; exact hst
    exact ⟨by simp [unlimitedSchedule_Start, StartSync_MarkStarted, hst, hso], by simp [toLeaf, hso, Leaf.start]⟩
  | false =>
    left
    have hso : s.startOnce = false := by rw [← h]; exact hst
    refine ⟨{ s with started := true, startOnce := true, finish := t + s.duration }, ?_, ?_, rfl⟩
    · simp [unlimitedSchedule_Start, StartSync_MarkStarted, hst, hso]
    · simp [toLeaf, hso, Leaf.start]

theorem next_bridge (s : UnlSt) (h : WF s) (now : Int) :
    ∃ s' tx ok, unlimitedSchedule_Next now s = .ok ((tx, ok), s') ∧ Leaf.next (toLeaf s) now = .ok (toLeaf s', tx, ok) ∧ WF s' := by
  unfold WF at h
  cases hso : s.startOnce with
  | true =>
    by_cases hlt : now < s.finish
    · by_cases hb : now < s.finish + -s.duration
      · refine ⟨s, s.finish + -s.duration, true, ?_, ?_, h⟩
        · simp [unlimitedSchedule_Next, hso, hlt, hb]
        · have : max now (s.finish - s.duration) = s.finish + -s.duration := by omega
          simp [toLeaf, hso, Leaf.next, hlt, this]
      · refine ⟨s, now, true, ?_, ?_, h⟩
        · simp [unlimitedSchedule_Next, hso, hlt, hb]
        · have : max now (s.finish - s.duration) = now := by omega
          simp [toLeaf, hso, Leaf.next, hlt, this]
    · refine ⟨s, s.finish, false, ?_, ?_, h⟩
      · simp [unlimitedSchedule_Next, hso, hlt]
      · simp [toLeaf, hso, Leaf.next, hlt]
  | false =>
    have hst : s.started = false := by rw [h]; exact hso
    by_cases hlt : now < now + s.duration
    · refine ⟨{ s with started := true, startOnce := true, finish := now + s.duration }, now, true, ?_, ?_, rfl⟩
      · have hb : ¬ (now < now + s.duration + -s.duration) := by omega
        simp [unlimitedSchedule_Next, StartSync_MarkStarted, hso, hst, hlt, hb]
      · simp [toLeaf, hso, Leaf.next, hlt]
    · refine ⟨{ s with started := true, startOnce := true, finish := now + s.duration }, now + s.duration, false, ?_, ?_, rfl⟩
      · simp [unlimitedSchedule_Next, StartSync_MarkStarted, hso, hst, hlt]
      · simp [toLeaf, hso, Leaf.next, hlt]

theorem left_bridge (s : UnlSt) (h : WF s) (now : Int) :
    ∃ l, unlimitedSchedule_Left now s = .ok (l, s) ∧ Leaf.left (toLeaf s) now = .ok (toLeaf s, l) := by
  unfold WF at h
  cases hso : s.startOnce with
  | false =>
    have hst : s.started = false := by rw [h]; exact hso
    exact ⟨-1, by simp [unlimitedSchedule_Left, StartSync_IsStarted, hst], by simp [toLeaf, hso, Leaf.left]⟩
  | true =>
    have hst : s.started = true := by rw [h]; exact hso
    by_cases hlt : now < s.finish
    · exact ⟨-1, by simp [unlimitedSchedule_Left, StartSync_IsStarted, hst, hlt], by simp [toLeaf, hso, Leaf.left, hlt]⟩
    · exact ⟨0, by simp [unlimitedSchedule_Left, StartSync_IsStarted, hst, hlt], by simp [toLeaf, hso, Leaf.left, hlt]⟩

/-! ### NewComposite -/

/-- closed form of the regenerated loop body -/
theorem loopBody_eq (acc : Int) (unknown : Bool) (l : Int) :
    NewComposite_loopBody acc unknown l =
      (acc, (if l < 0 then -1 else if unknown then acc else acc + l), (if l < 0 then true else unknown)) := by
  unfold NewComposite_loopBody
  by_cases hl : l < 0
  · simp [hl]
  · cases unknown <;> simp [hl]

/-- the model's `mkLeftAfter` is that loop: children from the last to the first, `left[i]` = the accumulator before child i -/
theorem mkLeftAfter_is_source {σ : Type} (ops : Ops σ) (now : Int) (c : σ) (rest : List σ) :
    NewComposite_loopOrder = "lastToFirst" ∧
    mkLeftAfter ops now (c :: rest) = (do
      let (rest', laRest, acc, unknown) ← mkLeftAfter ops now rest
      let (c', l) ← ops.left c now
      let r := NewComposite_loopBody acc unknown l
      pure (c' :: rest', r.1 :: laRest, r.2.1, r.2.2)) := by
  refine ⟨rfl, ?_⟩
  simp only [mkLeftAfter, loopBody_eq]
  cases mkLeftAfter ops now rest with
  | error e => rfl
  | ok x =>
    obtain ⟨rest', laRest, acc, unknown⟩ := x
    simp only [bind, Except.bind]
    cases ops.left c now with
    | error e => rfl
    | ok y =>
      obtain ⟨c', l⟩ := y
      simp only [pure, Except.pure]
      by_cases hl : l < 0
      · simp [hl]
      · cases unknown <;> simp [hl]

/-- no children: `NewOnce(0)`; one child: the child itself — as in `newComposite` -/
theorem shortcuts_are_source : NewComposite_shortcuts = [(0, "NewOnce(0)"), (1, "scheds[0]")] := rfl

theorem newComposite_shortcuts {σ : Type} (ops : Ops σ) (now : Int) (c : σ) :
    newComposite ops now [] = .ok (.inl ops.once0) ∧ newComposite ops now [c] = .ok (.inl c) := ⟨rfl, rfl⟩

/-! ### compositeSchedule.Left -/

def outOf (seen : Nat) : C02LeftAct → Out
  | .ret n => .ret (.cnt n)
  | .shift => .goto (.leftW seen)

/-- with a part behind the head, the source decides as the model does (`leftDecide`) -/
theorem leftDecide_is_source (n la0 left : Int) (st : Bool) (hn : n ≠ 1) :
    compositeSchedule_Left_decide n la0 left st =
      (match leftDecide la0 left st with | some k => .ret k | none => .shift) := by
  unfold compositeSchedule_Left_decide leftDecide
  simp only [hn, decide_false, Bool.false_eq_true, if_false, decide_eq_true_eq, Bool.or_eq_true, ge_iff_le]
  by_cases h0 : left = 0
  · by_cases hla : 0 ≤ la0 <;> cases st <;> simp [h0, hla]
  · simp only [h0, if_false]; split <;> rfl

/-- the reader section of the concurrent model decides what the source decides -/
theorem leftReader_is_source {σ : Type} (ops : Ops σ) (s : Sh σ) (now : Int) (c : σ) (rest : List σ) (hcs : s.cs = c :: rest)
    (c' : σ) (left : Int) (hl : ops.left c now = .ok (c', left)) :
    leftReader ops s now = ({ s with cs := c' :: rest },
      outOf (rest.length + 1) (compositeSchedule_Left_decide ((rest.length : Int) + 1) (s.la.headD 0) left s.started)) := by
  obtain ⟨cs, la, st⟩ := s
  simp only at hcs
  subst hcs
  cases rest with
  | nil => simp [leftReader, hl, compositeSchedule_Left_decide, outOf]
  | cons h t =>
    rw [leftReader_decide c h t la st now c' left hl,
      leftDecide_is_source _ _ _ _ (by simp only [List.length_cons]; omega)]
    cases leftDecide (la.headD 0) left st <;> rfl

/-- what the one-caller model does when the source says "shift" -/
def seqShift {σ : Type} (ops : Ops σ) (started : Bool) (c' : σ) (rest : List σ) (la : List Int) (now : Int) :
    Except String (Comp σ × Int) :=
  match rest with
  | [] => .error indexPanic
  | h :: t => do
    let (_, tx, ok) ← ops.next c' now
    if ok then throw "current schedule is not finished"
    let h1 ← ops.start h tx
    compLeftAux ops started h1 t la.tail now

/-- … and the one-caller model decides what the source decides -/
theorem compLeftAux_is_source {σ : Type} (ops : Ops σ) (started : Bool) (c : σ) (rest : List σ) (la : List Int) (now : Int) :
    compLeftAux ops started c rest la now = (do
      let (c', left) ← ops.left c now
      match compositeSchedule_Left_decide ((rest.length : Int) + 1) (la.headD 0) left started with
      | .ret n => pure (⟨c' :: rest, la, started⟩, n)
      | .shift => seqShift ops started c' rest la now) := by
  cases rest with
  | nil =>
    rw [compLeftAux]
    cases ops.left c now <;> simp [compositeSchedule_Left_decide, bind, Except.bind, pure, Except.pure]
  | cons h t =>
    rw [compLeftAux_decide]
    cases ops.left c now with
    | error e => rfl
    | ok y =>
      simp only [bind, Except.bind]
      rw [leftDecide_is_source _ _ _ _ (by simp only [List.length_cons]; omega)]
      cases leftDecide (la.headD 0) y.2 started <;> rfl

/-! ### compositeSchedule.Next, section by section -/

/-- before `RLock`, `Next` only sets the started flag (`nextBegin`) -/
theorem next_prologue_is_source : compositeSchedule_Next_prologue = ["s.started.Store(true)"] := rfl

/-- closes what is left after the structural case analysis: two nests of `if`s over comparisons of `len(s.scheds)`
(as `Int` in the source, as `Nat` in the model) that decide the same way, however the source spells them -/
macro "c02_close" : tactic => `(tactic|
  first
  | rfl
  | (simp; done)
  | (simp; omega)
  | (simp; (repeat' split) <;> first | rfl | omega | (exfalso; omega))
  | ((repeat' split) <;> first | rfl | omega | (exfalso; omega) | (simp_all; done) | (simp_all; omega)))

/-- the reader section of the concurrent model is the reader section of the source -/
theorem nextReader_is_source {σ : Type} (ops : Ops σ) (s : Sh σ) (now : Int) :
    compositeSchedule_Next_reader ops s now = nextReader ops s now := by
  unfold compositeSchedule_Next_reader nextReader cChildNext cLen
  cases hcs : s.cs with
  | nil => rfl
  | cons c rest =>
    simp only
    cases ops.next c now with
    | error e => rfl
    | ok x =>
      obtain ⟨c', tx, ok⟩ := x
      simp only
      cases ok with
      | true => c02_close
      | false =>
        cases rest with
        | nil => c02_close
        | cons h t => c02_close

/-- the writer section of the concurrent model is the writer section of the source: who shifted is re-checked, the head
is started with the finish time carried over from the reader section, the two retry conditions -/
theorem nextWriter_is_source {σ : Type} (ops : Ops σ) (s : Sh σ) (tx : Int) (seen : Nat) (now : Int) :
    compositeSchedule_Next_writer ops s tx seen now = nextWriter ops s tx seen now := by
  unfold compositeSchedule_Next_writer nextWriter cChildNext cStartNext cLen
  by_cases hlt : s.cs.length < seen
  · have h1 : ((s.cs.length : Nat) : Int) < (seen : Int) := by omega
    have h2 : (seen : Int) > ((s.cs.length : Nat) : Int) := by omega
    have h3 : ¬ (seen : Int) ≤ ((s.cs.length : Nat) : Int) := by omega
    simp only [hlt, h1, h2, h3, decide_true, decide_false, if_true, if_false, Bool.not_true, Bool.not_false]
    cases hcs : s.cs with
    | nil => c02_close
    | cons c rest =>
      simp only
      cases ops.next c now with
      | error e => c02_close
      | ok x =>
        obtain ⟨c', tx', ok⟩ := x
        cases ok <;> cases rest <;> c02_close
  · have h1 : ¬ ((s.cs.length : Nat) : Int) < (seen : Int) := by omega
    have h2 : ¬ (seen : Int) > ((s.cs.length : Nat) : Int) := by omega
    have h3 : (seen : Int) ≤ ((s.cs.length : Nat) : Int) := by omega
    simp only [hlt, h1, h2, h3, decide_true, decide_false, if_true, if_false, Bool.false_eq_true, Bool.not_true, Bool.not_false]
    cases startNext ops s tx with
    | error e => c02_close
    | ok s1 =>
      simp only
      cases hcs1 : s1.cs with
      | nil => c02_close
      | cons c rest =>
        simp only
        cases ops.next c now with
        | error e => c02_close
        | ok x =>
          obtain ⟨c', tx', ok⟩ := x
          cases ok <;> c02_close

/-- the writer section of `Left` in the concurrent model is the writer section of the source: the re-check of who
shifted, the panic if the head still had a token, `startNext` with the head's finish time, then the retry -/
theorem leftWriter_is_source {σ : Type} (ops : Ops σ) (s : Sh σ) (seen : Nat) (now : Int) :
    compositeSchedule_Left_writer ops s seen now = leftWriter ops s seen now := by
  unfold compositeSchedule_Left_writer leftWriter cChildNext cStartNext cLen
  by_cases he : s.cs.length = seen
  · have h1 : ((s.cs.length : Nat) : Int) = (seen : Int) := by omega
    have h2 : (seen : Int) = ((s.cs.length : Nat) : Int) := by omega
    have h3 : (s.cs.length == seen) = true := by simp [he]
    simp only [h1, h3, decide_true, if_true]
    cases hcs : s.cs with
    | nil => c02_close
    | cons c rest =>
      simp only
      cases ops.next c now with
      | error e => c02_close
      | ok x =>
        obtain ⟨c', tx', ok⟩ := x
        cases ok with
        | true => c02_close
        | false =>
          simp only [Bool.false_eq_true, if_false]
          cases startNext ops { s with cs := c' :: rest } tx' <;> c02_close
  · have h1 : ¬ ((s.cs.length : Nat) : Int) = (seen : Int) := by omega
    have h2 : ¬ (seen : Int) = ((s.cs.length : Nat) : Int) := by omega
    have h3 : (s.cs.length == seen) = false := by simp [he]
    simp only [h1, h2, h3, decide_false, if_false, Bool.false_eq_true]
    try c02_close

/-- `startNext` of the source — drop the head of `scheds` and of `leftAfter`, start the new head with the time given, in
whichever order the source does it — is the model's `startNext` (as long as `leftAfter` is not empty: it is as long as
`scheds`) -/
theorem startNext_is_source {σ : Type} (ops : Ops σ) (s : Sh σ) (t : Int) (hla : s.la ≠ []) :
    compositeSchedule_startNext ops s t = startNext ops s t := by
  unfold compositeSchedule_startNext startNext eShiftScheds eShiftLeftAfter eStartAt
  obtain ⟨cs, la, st⟩ := s
  cases la with
  | nil => exact absurd rfl hla
  | cons l0 lr =>
    cases cs with
    | nil => rfl
    | cons c r =>
      cases r with
      | nil => rfl
      | cons h tl =>
        simp only [bind, Except.bind, pure, Except.pure, List.getElem?_cons_zero, List.getElem?_cons_succ, List.set_cons_zero,
          List.set_cons_succ, List.tail_cons]
        cases ops.start h t <;> rfl

/-- `Start` sets the started flag and starts the head with the time it was given, under the write lock — `compStart` -/
theorem start_is_source :
    compositeSchedule_Start = ["defer s.rwMu.Unlock()", "s.rwMu.Lock()", "s.scheds[0].Start(t)", "s.started.Store(true)"] := rfl

/-! ### machine integers: the suffix sums and `Left` do not wrap -/

/-- a 64-bit machine integer holds every value of its range unchanged -/
theorem wrap64_id (x : Int) (h1 : -9223372036854775808 ≤ x) (h2 : x < 9223372036854775808) : wrapInt 64 x = x := by
  unfold wrapInt
  have e1 : (2 : Int) ^ (64 - 1) = 9223372036854775808 := by decide
  have e2 : (2 : Int) ^ 64 = 18446744073709551616 := by decide
  rw [e1, e2]
  omega

/-- `NewComposite` stores its suffix sums in 64-bit elements and `compositeSchedule` keeps them in 64-bit elements -/
theorem elemBits_are_source : NewComposite_leftElemBits = 64 ∧ compositeSchedule_leftAfter_elemBits = 64 := ⟨rfl, rfl⟩

/-- the loop body in machine integers is the loop body over the integers as long as the running sum stays below 2^63
(`acc` = tokens after child i or -1, `l` = what the child's `Left()` returned, any int) -/
theorem loopBodyW_eq (acc : Int) (unknown : Bool) (l : Int) (hacc : -1 ≤ acc) (hl : -9223372036854775808 ≤ l)
    (hsum : acc + l < 9223372036854775808) (ha : acc < 9223372036854775808) :
    NewComposite_loopBodyW acc unknown l = NewComposite_loopBody acc unknown l := by
  rw [loopBody_eq]
  unfold NewComposite_loopBodyW
  have hw : wrapInt 64 acc = acc := wrap64_id acc (by omega) ha
  by_cases hl0 : l < 0
  · simp [hl0, hw]
  · have hs : wrapInt 64 (acc + l) = acc + l := wrap64_id _ (by omega) hsum
    cases unknown <;> simp [hl0, hw, hs]

/-- … and so is the decision of `Left` (`la` = the stored suffix sum, `left` = the head's count) -/
theorem leftDecideW_eq (n la left : Int) (started : Bool) (hla : -1 ≤ la) (hleft : -1 ≤ left)
    (hsum : left + la < 9223372036854775808) (h1 : la < 9223372036854775808) (h2 : left < 9223372036854775808) :
    compositeSchedule_Left_decideW n la left started = compositeSchedule_Left_decide n la left started := by
  unfold compositeSchedule_Left_decideW compositeSchedule_Left_decide
  -- every machine operation of the source acts on a value inside the 64-bit range (whichever way the source writes
  -- the conversions): all `wrapInt 64` disappear
  simp (disch := omega) only [wrap64_id]

/-! ### config wrappers -/

/-- `NewCompositeConf`, `NewInstanceStepConf`, `NewUnlimitedConf` hand every field of their config to the constructor
unchanged, in the constructor's parameter order (whatever locals they go through): what the driver builds through the
`New…Conf` constructors and what the config route decodes IS what the model's constructors are given -/
theorem conf_forwards : confForwards =
    [("NewCompositeConf", "NewComposite(Nested...)"),
     ("NewInstanceStepConf", "NewInstanceStep(From, To, Step, StepDuration)"),
     ("NewUnlimitedConf", "NewUnlimited(Duration)")] := rfl

end Pandora.Bridge.C02Src
