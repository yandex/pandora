/-
Bridge C14: the facts about a cancellation that lands inside `Scan` (Model/C14Mid.lean) regenerated from the
current Go source:

  Gen.C14Hdr.{uri,uripost,raw,json}ScanChecksCtx   does the reading loop of the decoder's Scan look at the context
  Gen.C14Hdr.{uri,uripost,raw}ScanCtxBare          … and hand on ctx.Err() ITSELF (not an error wrapped with %w)
  Gen.ChosenCases.loadAmmoFailBare                 the error branch of Provider.loadAmmo, read for the KIND of value returned

A decoder that wraps the cancelled context's error (`xerrors.Errorf("…: %w", ctx.Err())`) turns `…ScanCtxBare` to false and
breaks `scan_ctx_source`; a loadAmmo that hands the decoder's error on wrapped instead of the context's own breaks
`loadFail_bare_source`.
-/
import Pandora.Bridge.C14
import Pandora.Model.C14Mid

namespace Pandora.Bridge.C14
open Pandora.Model.C08 hiding fullScan httpRun runFuel run
open Pandora.Model.C14

/-- the CtxRet of a format according to the regenerated facts -/
def ctxRetOf : Fmt → CtxRet
  | .uri => if Gen.C14Hdr.uriScanCtxBare then .bare else .wrapped
  | .uripost => if Gen.C14Hdr.uripostScanCtxBare then .bare else .wrapped
  | .raw => if Gen.C14Hdr.rawScanCtxBare then .bare else .wrapped
  | .jsonLines | .jsonArray => if Gen.C14Hdr.jsonScanCtxBare then .bare else .wrapped

/-- which decoders look at the context in their reading loop (`Model.C14.scanChecksCtx`), and every one that does
returns the context's own error -/
theorem scan_ctx_source :
    (Gen.C14Hdr.uriScanChecksCtx = scanChecksCtx .uri ∧ Gen.C14Hdr.uripostScanChecksCtx = scanChecksCtx .uripost ∧
      Gen.C14Hdr.rawScanChecksCtx = scanChecksCtx .raw ∧ Gen.C14Hdr.jsonScanChecksCtx = scanChecksCtx .jsonLines ∧
      Gen.C14Hdr.jsonScanChecksCtx = scanChecksCtx .jsonArray) ∧
    (∀ k, ctxRetOf k = .bare) := by
  refine ⟨by decide, ?_⟩
  intro k; cases k <;> decide

/-- `Provider.loadAmmo`: a cancel that ended the load is handed on as the context's own error, however the decoder
wrapped it (`loadCancelEnd true`); every other error of the load is wrapped (`%w`) -/
theorem loadFail_bare_source :
    (∀ eb, Gen.ChosenCases.loadAmmoFailBare true .canceled eb = some true) ∧
    (∀ c e eb, Gen.ChosenCases.loadAmmoFailBare c e eb = none ↔ Gen.ChosenCases.loadAmmoFail c e = none) := by
  refine ⟨?_, ?_⟩
  · intro eb; cases eb <;> decide
  · intro c e eb; cases c <;> cases e <;> cases eb <;> decide

/-- the provider's OWN cancellation checks (top of the loops of runFullScan / runPreloaded, Done branch of their `select`)
return the class `canceled` and return it bare: `Model.C14.ownCtxEnd` -/
theorem own_ctx_source :
    ownCtxEnd = ⟨Gen.ChosenCases.runFullScanDone, Gen.ChosenCases.runFullScanCtxBare⟩ ∧
    ownCtxEnd = ⟨Gen.ChosenCases.runPreloadedDone, Gen.ChosenCases.runPreloadedCtxBare⟩ := by decide

/-- the only readers of the config field `Preload` are Run and Release -/
theorem preload_sites_source : Gen.ChosenCases.preloadReadSites = preloadSites := by decide

/-- `Provider.Release` hands the ammo back to the decoder exactly when the provider is not preloading -/
theorem release_source (preload : Bool) : Gen.ChosenCases.releaseToPool preload = releasesToPool preload := by
  cases preload <;> rfl

end Pandora.Bridge.C14
