/-
Bridge C17: the regenerated facts (`Pandora/Gen/Config.lean`, rewritten from /repo's current source on every check
run) are what the hand-written model `Pandora.Model.C17` assumes.  If the source changes any of them this file stops
compiling and the check reports a broken obligation.
-/
import Pandora.Gen.Config
import Pandora.Model.C17

namespace Pandora.Bridge.Config
open Pandora.Model.C17

/-- `newDecoderConfig` + position of `VariableInjectHook` in `DefaultHooks()` are the model's flags -/
theorem flags_eq :
    (⟨Gen.Config.errorUnused, Gen.Config.zeroFields, Gen.Config.defaultHooks.head? == some "VariableInjectHook",
      Gen.Config.defaultHooks.contains "WholeNumberHook", Gen.Config.defaultHooks.contains "NumberRangeHook"⟩ : Flags) =
      repoFlags := by decide

/-- the model covers the strict kind switch only -/
theorem weaklyTyped_off : Gen.Config.weaklyTypedInput = false := rfl

/-- squash only through the `,squash` tag; no unset-field errors; untagged fields are decoded -/
theorem other_flags : Gen.Config.squashFlag = false ∧ Gen.Config.errorUnset = false ∧
    Gen.Config.ignoreUntaggedFields = false ∧ Gen.Config.tagName = "config" := ⟨rfl, rfl, rfl, rfl⟩

/-- no other field of `mapstructure.DecoderConfig` is set (`MatchName` stays `strings.EqualFold`, no `Metadata`) -/
theorem decoderFields_eq :
    Gen.Config.decoderFields = ["DecodeHook", "ErrorUnused", "Result", "TagName", "WeaklyTypedInput", "ZeroFields"] := rfl

/-- the hook chain: placeholders first, then the whole-number and number-range guards, the text / duration / url / ip / size hooks, then (core/import) the sink
string shortcut, the schedule list shortcut and the two plugin hooks — the order `decode` applies them in -/
theorem hooks_eq :
    Gen.Config.hooksInit = "DefaultHooks()" ∧
    Gen.Config.defaultHooks = ["VariableInjectHook", "WholeNumberHook", "NumberRangeHook", "DebugHook", "TextUnmarshallerHook",
      "mapstructure.StringToTimeDurationHookFunc()", "StringToURLHook", "StringToIPHook", "StringToDataSizeHook"] ∧
    Gen.Config.importHooks = ["sinkStringHook", "scheduleSliceToCompositeConfigHook", "pluginconfig.AddHooks()"] ∧
    Gen.Config.pluginHooks = ["Hook", "FactoryHook"] ∧
    Gen.Config.pluginNameKey = "type" := ⟨rfl, rfl, rfl, rfl, rfl⟩

/-- `WholeNumberHook` as `decodeScalarWith` has it: only a float source, only integer target kinds (time.Duration is
an int64), refused when the number has a fractional part (`fractional`) -/
theorem whole_number_hook :
    Gen.Config.wholeNumberPass = "f != reflect.Float32 && f != reflect.Float64" ∧
    Gen.Config.wholeNumberKinds = ["Int", "Int8", "Int16", "Int32", "Int64", "Uint", "Uint8", "Uint16", "Uint32", "Uint64"] ∧
    Gen.Config.wholeNumberRefuses = "math.IsInf(v, 0) || v != math.Trunc(v)" := ⟨rfl, rfl, rfl⟩

/-- `NumberRangeHook` as `fitsKind` / `decodeScalarWith` have it (x1 the target kind, x2 the number; locals replaced by
what they are bound to, so renamed or reordered declarations do not disturb the pin): an integer target of width b holds an
integer source iff shifting it right by b-1 leaves 0 or -1 (−2^(b−1) ≤ n < 2^(b−1)), an unsigned source iff that shift
leaves 0, a float source iff −2^(b−1) ≤ x < 2^(b−1); an unsigned target of width b holds a non-negative integer iff the
shift by b leaves 0 (64 bits: always), a float iff x < 2^b (a negative source is passed on: the kind switch reports it); a
float32 holds a finite float iff its magnitude is at most math.MaxFloat32; the hook refuses exactly when the verdict is
false; the widths are 8, 16, 32, 64 and strconv.IntSize for Int / Uint -/
theorem number_range_hook :
    Gen.Config.numberRangeTable = [
      ("Float32", "Float32,Float64", "math.IsInf(reflect.ValueOf(x2).Float(), 0) || !(math.Abs(reflect.ValueOf(x2).Float()) > math.MaxFloat32)"),
      ("Int,Int8,Int16,Int32,Int64", "Float32,Float64", "-math.Ldexp(1, kindBits(x1)-1) <= reflect.ValueOf(x2).Float() && reflect.ValueOf(x2).Float() < math.Ldexp(1, kindBits(x1)-1)"),
      ("Int,Int8,Int16,Int32,Int64", "Int,Int8,Int16,Int32,Int64", "reflect.ValueOf(x2).Int()>>(kindBits(x1)-1) == 0 || reflect.ValueOf(x2).Int()>>(kindBits(x1)-1) == -1"),
      ("Int,Int8,Int16,Int32,Int64", "Uint,Uint8,Uint16,Uint32,Uint64", "reflect.ValueOf(x2).Uint()>>(kindBits(x1)-1) == 0"),
      ("Uint,Uint8,Uint16,Uint32,Uint64", "Float32,Float64", "reflect.ValueOf(x2).Float() < math.Ldexp(1, kindBits(x1))"),
      ("Uint,Uint8,Uint16,Uint32,Uint64", "Int,Int8,Int16,Int32,Int64", "reflect.ValueOf(x2).Int() < 0 || kindBits(x1) == 64 || reflect.ValueOf(x2).Int()>>kindBits(x1) == 0"),
      ("Uint,Uint8,Uint16,Uint32,Uint64", "Uint,Uint8,Uint16,Uint32,Uint64", "kindBits(x1) == 64 || reflect.ValueOf(x2).Uint()>>kindBits(x1) == 0")] ∧
    Gen.Config.numberRangeRefuses = "!VERDICT" ∧
    Gen.Config.kindBitsTable = [("Int16,Uint16", "16"), ("Int32,Uint32", "32"), ("Int64,Uint64", "64"), ("Int8,Uint8", "8")] ∧
    Gen.Config.kindBitsDefault = "strconv.IntSize" := ⟨rfl, rfl, rfl, rfl⟩

/-- the registered resolvers are the ones `resolveTag` knows: `""` and `env` read the environment, `property` a file -/
theorem resolvers_eq :
    Gen.Config.tagResolvers = [("", "confutil.EnvTagResolver"), ("env", "confutil.EnvTagResolver"),
      ("property", "confutil.PropertyTagResolver")] ∧
    Gen.Config.resolverBindings = [("confutil.EnvTagResolver", "envTokenResolver"),
      ("confutil.PropertyTagResolver", "propertyTokenResolver")] := ⟨rfl, rfl⟩

/-- resolver errors are errors: unset variable, malformed / unreadable / incomplete property file; they are returned;
a tag of an unregistered type is left alone -/
theorem resolver_errors :
    Gen.Config.envUnsetIsError = true ∧ Gen.Config.propertyMissingIsError = true ∧
    Gen.Config.propertyErrorReturns.length = 3 ∧
    Gen.Config.resolverErrorReturned = true ∧ Gen.Config.unregisteredTagSkipped = true := ⟨rfl, rfl, rfl, rfl, rfl⟩

/-- `envTokenResolver` as `Model.lookupEnv` has it (read by what it returns on which path, see
gen/area_config_env.go): the value of `os.LookupEnv(<the name>)` when that reports the variable as set, an error when it
does not — on EVERY path: no second source (no scan of `os.Environ`, no `os.Getenv`, no `os.ExpandEnv`) answers for a
name that is not set, so a variable whose name differs in letter case only is not the variable (`C17_env_exact`).
Layout-independent: `if !ok { return "", err }; return val, nil`, an early `return v, nil` under `if v, found := …; found`
and an if/else regenerate to the same two rows. -/
theorem env_resolver_exact :
    Gen.Config.envResolverPaths = ["found:value,nil", "missing:empty,error"] ∧
    Gen.Config.envResolverOsCalls = ["os.LookupEnv"] := ⟨rfl, rfl⟩

/-- `propertyTokenResolver` as `lookupProp` / `findProp` / `lineKV` have it: the argument is cut at the first `#`; the
file is read line by line; only a line that contains `=` is an entry; it is split at its FIRST `=` and the left part is
compared with the key by `==` (exact: no prefix, no trimming, no case folding); the first match returns the right part.
Locals are printed by number in order of first appearance (x0 the argument, x1 file name, x2 the key, x3 ok, x6 the
scanner, x7 the line, x8 its two parts), so renaming them does not disturb the pin. -/
theorem property_lookup :
    Gen.Config.propertyCut = "x1, x2, x3 := strings.Cut(x0, \"#\")" ∧
    Gen.Config.propertyLoop = ["for x6.Scan()", "x7 := x6.Text()", "if strings.Contains(x7, \"=\") {",
      "x8 := strings.SplitN(x7, \"=\", 2)", "if x8[0] == x2 {", "return x8[1], nil", "}", "}"] := ⟨rfl, rfl⟩

/-- the shortcut hooks of core/import as `sinkMap` / the `plugin` case of `decode` have them: exactly the strings
`stdout`, `stderr`, `stdin` name a sink plugin by themselves, any other string is the `file` sink with `path` that string; a
list at a schedule position is `{type: composite, nested: <the list>}` -/
theorem shortcuts_eq :
    Gen.Config.sinkShortcutNames.map String.toList = ["stderr".toList, "stdin".toList, "stdout".toList] ∧
    (∀ n, sinkNames.contains n = (Gen.Config.sinkShortcutNames.map String.toList).contains n) ∧
    Gen.Config.sinkFallbackType = "file" ∧ Gen.Config.sinkFallbackEntries = ["path=data"] ∧
    sinkMap "out.log".toList = [("type".toList, .str Gen.Config.sinkFallbackType.toList), ("path".toList, .str "out.log".toList)] ∧
    Gen.Config.schedShortcutEntries = ["nested=data", "type=\"composite\""] := by
  refine ⟨by decide, ?_, rfl, rfl, rfl, rfl⟩
  intro n
  simp only [sinkNames, Gen.Config.sinkShortcutNames, List.map, List.contains_cons, List.contains_nil, Bool.or_false]
  cases h1 : n == "stdout".toList <;> cases h2 : n == "stderr".toList <;> cases h3 : n == "stdin".toList <;> rfl

/-- the plugin hooks as the `plugin` case of `decode` has them: exactly one string `type` key (compared lower-cased), and
an empty name is an error (it is no registered name: `decode` reports `pluginname`), and
the fillConf closure ALWAYS runs `config.DecodeAndValidate(confData, conf)` on the rest of the block — also when the rest
is empty — and returns its error; `Hook` / `FactoryHook` hand that closure to `plugin.New` / `plugin.NewFactory` -/
theorem plugin_fill :
    Gen.Config.parseConfConds = ["!x11", "PluginNameKey == strings.ToLower(x8)", "len(x7) == 0", "len(x7) > 1",
      "x2 == \"\"", "x5 != nil"] ∧
    Gen.Config.fillConfStmts = ["x13 := config.DecodeAndValidate(x6, x12)", "if x13 != nil", "return x13"] ∧
    Gen.Config.fillConfReturns = ["return x13"] ∧
    Gen.Config.pluginHookCalls = ["Hook: plugin.New(t, name, fillConf)", "FactoryHook: plugin.NewFactory(t, name, fillConf)"] :=
  ⟨rfl, rfl, rfl, rfl⟩

/-- `DecodeAndValidate` = `Decode`, then (only without error) `Validate` — `settle` / `decodeAndValidate` -/
theorem decode_then_validate :
    Gen.Config.decodeAndValidateStmts = ["x2 := Decode(x0, x1)", "if x2 != nil {", "return x2", "}", "return Validate(x1)"] ∧
    Gen.Config.validateStmts = ["return errors.WithStack(defaultValidator.Struct(x0))"] := ⟨rfl, rfl⟩

/-- the validator reads the `validate` tag; the repo's own validations are registered under these names -/
theorem validator_table :
    Gen.Config.validateTagName = "validate" ∧
    Gen.Config.registeredValidations = [("min-time", "MinTimeValidation"), ("max-time", "MaxTimeValidation"),
      ("min-size", "MinSizeValidation"), ("max-size", "MaxSizeValidation"), ("endpoint", "EndpointStringValidation"),
      ("url-path", "URLPathStringValidation")] := ⟨rfl, rfl⟩

/-- `EndpointStringValidation`, whatever its layout (single expression, early returns, renamed locals): host, port and
error come from `net.SplitHostPort` of the value, and as a function of its four atomic conditions the result is
`err == nil && (host == "" || IsHost(host)) && IsPort(port)` — `endpointShape`, what `endpointOk` computes.  An empty
host does NOT excuse the port: `endpointShape true true _ false = false`. -/
theorem endpoint_validation :
    Gen.Config.vEndpointBinds = ["net.SplitHostPort(arg0)"] ∧
    Gen.Config.vEndpointAtoms = ["call:govalidator.IsHost(net.SplitHostPort#0)",
      "call:govalidator.IsPort(net.SplitHostPort#1)", "empty:net.SplitHostPort#0", "eqnil:net.SplitHostPort#2"] ∧
    (∀ isHost isPort hostEmpty errNil,
      Gen.Config.vEndpoint isHost isPort hostEmpty errNil = endpointShape errNil hostEmpty isHost isPort) ∧
    (∀ isHost, endpointShape true true isHost false = false) := by
  refine ⟨rfl, rfl, ?_, ?_⟩
  · intro a b c d; cases a <;> cases b <;> cases c <;> cases d <;> rfl
  · intro a; cases a <;> rfl

/-- `MinTimeValidation` / `MaxTimeValidation` / `MinSizeValidation` / `MaxSizeValidation`: value (`#0`), bound (`#1`)
and `ok` (`#2`) come from the helper; the result is `ok && bound <= value` resp. `ok && value <= bound` — `boundShape`,
an INCLUSIVE bound, what `tagFail` computes for `.minTime` / `.maxTime` -/
theorem bound_validations :
    Gen.Config.vMinTimeBinds = ["getTimeForValidation(arg0.Field().Interface(), arg0.Param())"] ∧
    Gen.Config.vMaxTimeBinds = ["getTimeForValidation(arg0.Field().Interface(), arg0.Param())"] ∧
    Gen.Config.vMinSizeBinds = ["getSizeForValidation(arg0.Field().Interface(), arg0.Param())"] ∧
    Gen.Config.vMaxSizeBinds = ["getSizeForValidation(arg0.Field().Interface(), arg0.Param())"] ∧
    Gen.Config.vMinTimeAtoms = ["le:getTimeForValidation#1,getTimeForValidation#0", "var:getTimeForValidation#2"] ∧
    Gen.Config.vMaxTimeAtoms = ["le:getTimeForValidation#0,getTimeForValidation#1", "var:getTimeForValidation#2"] ∧
    Gen.Config.vMinSizeAtoms = ["le:getSizeForValidation#1,getSizeForValidation#0", "var:getSizeForValidation#2"] ∧
    Gen.Config.vMaxSizeAtoms = ["le:getSizeForValidation#0,getSizeForValidation#1", "var:getSizeForValidation#2"] ∧
    (∀ le ok, Gen.Config.vMinTime le ok = boundShape ok le ∧ Gen.Config.vMaxTime le ok = boundShape ok le ∧
      Gen.Config.vMinSize le ok = boundShape ok le ∧ Gen.Config.vMaxSize le ok = boundShape ok le) ∧
    (∀ ns i, tagFail (.minTime ns) (.int i) = !Gen.Config.vMinTime (decide (ns ≤ i)) true) ∧
    (∀ ns i, tagFail (.maxTime ns) (.int i) = !Gen.Config.vMaxTime (decide (i ≤ ns)) true) := by
  refine ⟨rfl, rfl, rfl, rfl, rfl, rfl, rfl, rfl, ?_, ?_, ?_⟩
  · intro a b; cases a <;> cases b <;> exact ⟨rfl, rfl, rfl, rfl⟩
  · intro ns i
    have h : ∀ b, Gen.Config.vMinTime b true = boundShape true b := by intro b; cases b <;> rfl
    simp [tagFail, h]
  · intro ns i
    have h : ∀ b, Gen.Config.vMaxTime b true = boundShape true b := by intro b; cases b <;> rfl
    simp [tagFail, h]

/-- the helpers, by what they RETURN (read by symbolic execution of the body, so an early return, an else branch,
the type assertion before or after the parse, renamed locals all give the same facts): results are (actual, check, ok);
`ok` is true exactly when the tag's parameter parsed (`err == nil`) AND the field's value has the expected type; whenever
`ok` can be true, `actual` is the field's value asserted to the type and `check` is what was parsed from the parameter -/
theorem bound_helpers :
    Gen.Config.timeHelperParams = ["interface{}", "string"] ∧
    Gen.Config.timeHelperResults = ["time.Duration", "time.Duration", "bool"] ∧
    Gen.Config.timeHelperOkAtoms = ["eqnil:time.ParseDuration(arg1)#1", "var:arg0.(time.Duration)#1"] ∧
    (∀ parsed isDur, Gen.Config.timeHelperOk parsed isDur = (parsed && isDur)) ∧
    Gen.Config.timeHelperWhenOk = ["arg0.(time.Duration)#0", "time.ParseDuration(arg1)#0"] ∧
    Gen.Config.sizeHelperParams = ["interface{}", "string"] ∧
    Gen.Config.sizeHelperResults = ["datasize.ByteSize", "datasize.ByteSize", "bool"] ∧
    Gen.Config.sizeHelperOkAtoms = ["eqnil:([]byte(arg1)).UnmarshalText#0", "var:arg0.(datasize.ByteSize)#1"] ∧
    (∀ parsed isSize, Gen.Config.sizeHelperOk parsed isSize = (parsed && isSize)) ∧
    Gen.Config.sizeHelperWhenOk = ["arg0.(datasize.ByteSize)#0", "([]byte(arg1)).UnmarshalText!recv"] := by
  refine ⟨rfl, rfl, rfl, ?_, rfl, rfl, rfl, rfl, ?_, rfl⟩
  · intro a b; cases a <;> cases b <;> rfl
  · intro a b; cases a <;> cases b <;> rfl

/-- `URLPathStringValidation` is the match of the value against this regular expression (`urlPathOk` is its language:
one or more `/segment`, segments non-empty, of the listed characters); a string validation of a non-string field fails -/
theorem url_path_validation :
    Gen.Config.vUrlPathBinds = [] ∧ Gen.Config.vUrlPathAtoms = ["call:pathRegexp.MatchString(arg0)"] ∧
    (∀ m, Gen.Config.vUrlPath m = m) ∧
    Gen.Config.urlPathRegexp = "^(/[a-zA-Z0-9._~!$&'()*+,;=:@%-]+)+$" ∧
    Gen.Config.stringValidationWrapper = ["return func(x1 validator.FieldLevel) bool { if x2, x3 := x1.Field().Interface().(string); x3 { return x0(x2) } return false }"] := by
  refine ⟨rfl, rfl, ?_, rfl, rfl⟩
  intro m; cases m <;> rfl

/-- the constraints of the component configs (`validate` struct tags), pinned: a tag that is dropped, renamed (`valid:`)
or weakened in the source breaks this lemma; harness/cmd/c17 carries the same table and still generates the failing input -/
theorem validate_tags :
    Gen.Config.validateTags = [
      ("cli.expvarConfig", "Port", "required"),
      ("components/guns/grpc.AnswLogConfig", "Filter", "omitempty,eq=all|eq=warning|eq=error"),
      ("components/guns/grpc.GunConfig", "Target", "required"),
      ("components/guns/grpc/scenario.AnswLogConfig", "Filter", "omitempty,eq=all|eq=warning|eq=error"),
      ("components/guns/grpc/scenario.GunConfig", "Target", "required"),
      ("components/guns/http.AnswLogConfig", "Filter", "omitempty,eq=all|eq=warning|eq=error"),
      ("components/guns/http.AutoTagConfig", "URIElements", "min=1"),
      ("components/guns/http.GunConfig", "Target", "endpoint,required"),
      ("components/providers/grpc/grpcjson.Config", "Limit", "min=0"),
      ("components/providers/grpc/grpcjson.Config", "Passes", "min=0"),
      ("core/aggregator.EncoderAggregatorConfig", "Sink", "required"),
      ("core/aggregator.ReporterConfig", "SampleQueueSize", "min=1"),
      ("core/aggregator/netsample.PhoutConfig", "SampleQueueSize", "min=0"),
      ("core/datasink.FileConfig", "Path", "required"),
      ("core/datasource.FileConfig", "Path", "required"),
      ("core/datasource.InlineConfig", "Data", "required"),
      ("core/engine.Config", "Pools", "required,dive"),
      ("core/engine.InstancePoolConfig", "Aggregator", "required"),
      ("core/engine.InstancePoolConfig", "NewGun", "required"),
      ("core/engine.InstancePoolConfig", "NewRPSSchedule", "required"),
      ("core/engine.InstancePoolConfig", "Provider", "required"),
      ("core/engine.InstancePoolConfig", "StartupSchedule", "required"),
      ("core/provider.AmmoQueueConfig", "AmmoQueueSize", "min=1"),
      ("core/provider.DecodeProviderConfig", "Limit", "min=0"),
      ("core/provider.DecodeProviderConfig", "Passes", "min=0"),
      ("core/provider.DecodeProviderConfig", "Source", "required"),
      ("core/schedule.ConstConfig", "Duration", "min-time=1ms"),
      ("core/schedule.ConstConfig", "Ops", "min=0"),
      ("core/schedule.InstanceStepConfig", "From", "min=0"),
      ("core/schedule.InstanceStepConfig", "Step", "min=1"),
      ("core/schedule.InstanceStepConfig", "StepDuration", "min-time=1ms"),
      ("core/schedule.InstanceStepConfig", "To", "min=0"),
      ("core/schedule.LineConfig", "Duration", "min-time=1ms"),
      ("core/schedule.LineConfig", "From", "min=0"),
      ("core/schedule.LineConfig", "To", "min=0"),
      ("core/schedule.OnceConfig", "Times", "min=1"),
      ("core/schedule.StepConfig", "Duration", "min-time=1ms"),
      ("core/schedule.StepConfig", "From", "min=0"),
      ("core/schedule.StepConfig", "Step", "min=1"),
      ("core/schedule.StepConfig", "To", "min=0"),
      ("core/schedule.UnlimitedConfig", "Duration", "min-time=1ms")] := rfl

/-- the grammar `scan` models and the condition under which the resolved text is cast -/
theorem tag_grammar :
    Gen.Config.tagRegexp = "\\$\\{(?:([^}]+?):)?([^{}]+?)\\}" ∧
    Gen.Config.castCondition = "len(tokens) == 1 && strings.TrimSpace(s) == tokens[0].string" := ⟨rfl, rfl⟩

/-- `confutil.cast` as `castTo` has it: signed kinds parse signed, UNSIGNED KINDS PARSE UNSIGNED, each at the bit size
of the target, base 0; floats at the bit size of the target too (a text beyond the float32 range is no float32: `castFloat`);
bool through ParseBool; strings unchanged -/
theorem cast_table :
    Gen.Config.castTable = [("Bool", "castBool"), ("Float32", "castFloat"), ("Float64", "castFloat"), ("Int", "castInt"),
      ("Int16", "castInt"), ("Int32", "castInt"), ("Int64", "castInt"), ("Int8", "castInt"), ("String", "return v"),
      ("Uint", "castUint"), ("Uint16", "castUint"), ("Uint32", "castUint"), ("Uint64", "castUint"), ("Uint8", "castUint")] ∧
    Gen.Config.castOtherwise = "nil, ErrUnsupportedKind" ∧
    Gen.Config.castParse = [("castBool", "strconv.ParseBool"), ("castFloat", "strconv.ParseFloat t.Bits()"),
      ("castInt", "strconv.ParseInt 0 t.Bits()"), ("castUint", "strconv.ParseUint 0 t.Bits()")] ∧
    Gen.Config.castKinds = [("castBool", []), ("castFloat", ["Float32", "Float64"]),
      ("castInt", ["Int", "Int8", "Int16", "Int32", "Int64"]), ("castUint", ["Uint", "Uint8", "Uint16", "Uint32", "Uint64"])] :=
  ⟨rfl, rfl, rfl, rfl⟩

/-- `cli.readConfig`: the key, the value, and that the defaulting happens before the decode -/
theorem discard_eq :
    Gen.Config.discardKey = "discard_overflow" ∧ Gen.Config.discardDefault = discardDefault ∧
    Gen.Config.discardBeforeDecode = true := ⟨rfl, rfl, rfl⟩

/-- the calls of one function of core/plugin (regenerated: callee(argument types) @closure depth [if guards], sorted) -/
def pluginCallsOf (f : String) : List String :=
  ((Gen.Config.pluginCalls.find? (fun r => r.1 == f)).map (·.2)).getD []

/-- does some call of `f` start with `pre` and run at closure depth `d` (0 = when `f` runs, 1 = when the closure /
factory that `f` returns is called)? -/
def pluginIsPre : List Char → List Char → Bool
  | [], _ => true
  | _ :: _, [] => false
  | a :: p, b :: s => a == b && pluginIsPre p s

def pluginHasInfix (p : List Char) : List Char → Bool
  | [] => p.isEmpty
  | c :: s => pluginIsPre p (c :: s) || pluginHasInfix p s

def pluginCallAt (f pre : String) (d : String) : Bool :=
  (pluginCallsOf f).any fun c =>
    pluginIsPre pre.toList c.toList && pluginHasInfix (" @".toList ++ d.toList) c.toList

/-- **core/plugin as the `plugin` case of `decode`, `DVal.plugin` / `.factory` and `C17_plugin_instance_config` assume it**.
Every `Get` builds a NEW default config (`new()` calls the registered
default-config constructor whenever it runs, and `Get` calls `new()` whenever a config is required) and runs `fillConf` on
it when there is one; `Registry.New` hands what `Get` returned to the registered constructor at once; `Registry.NewFactory`
wraps `Get(fillConf)` in a closure (depth 1) when the plugin takes a config and otherwise still runs `fillConf` on an empty
struct at once (an unknown key below a plugin without config is reported); a constructor that builds a PLUGIN runs that
closure at every factory call, inside the factory (depth 1: the config is filled at the call, fresh for every instance —
`late` errors of the model), a constructor that builds a FACTORY runs it once, before the factory exists (depth 0: errors
at decode time). -/
theorem plugin_registry :
    pluginCallsOf "defaultConfigContainer.new" = ["defaultConfigContainer.newValue.Call(nil) @0"] ∧
    pluginCallsOf "defaultConfigContainer.Get" =
      ["defaultConfigContainer.new() @0 if defaultConfigContainer.configRequired()",
       "func(interface{}) error(interface{}) @0 if func(interface{}) error != nil"] ∧
    pluginCallsOf "Registry.New" =
      ["Registry.get(reflect.Type, string) @0", "nameRegistryEntry.constructor.NewPlugin([]reflect.Value) @0",
       "nameRegistryEntry.defaultConfig.Get(func(interface{}) error) @0"] ∧
    pluginCallsOf "Registry.NewFactory" =
      ["Registry.get(reflect.Type, string) @0",
       "func(interface{}) error(&struct{}{}) @0 if !(nameRegistryEntry.defaultConfig.configRequired()) && func(interface{}) error != nil",
       "nameRegistryEntry.constructor.NewFactory(reflect.Type, func() ([]reflect.Value, error)) @0",
       "nameRegistryEntry.defaultConfig.Get(func(interface{}) error) @1"] ∧
    pluginCallsOf "pluginConstructor.NewPlugin" = ["pluginConstructor.newPlugin.Call([]reflect.Value) @0"] ∧
    pluginCallsOf "pluginConstructor.NewFactory" =
      ["func() ([]reflect.Value, error)() @1 if func() ([]reflect.Value, error) != nil",
       "pluginConstructor.newPlugin.Call([]reflect.Value) @1"] ∧
    pluginCallsOf "factoryConstructor.NewPlugin" =
      ["factoryConstructor.callNewFactory([]reflect.Value) @0", "reflect.Value.Call(nil) @0"] ∧
    pluginCallsOf "factoryConstructor.NewFactory" =
      ["factoryConstructor.callNewFactory([]reflect.Value) @0",
       "func() ([]reflect.Value, error)() @0 if func() ([]reflect.Value, error) != nil", "reflect.Value.Call(nil) @1"] ∧
    pluginCallsOf "factoryConstructor.callNewFactory" = ["factoryConstructor.newFactory.Call([]reflect.Value) @0"] :=
  -- `rfl`, not `decide`: only the lookup by name is evaluated, the rows are compared as literals
  ⟨rfl, rfl, rfl, rfl, rfl, rfl, rfl, rfl, rfl⟩

/-- the reading of `plugin_registry` the model uses: where the config of an instance is filled -/
theorem plugin_fill_time :
    -- a plugin constructor behind a factory: filled inside the factory, at every call
    pluginCallAt "pluginConstructor.NewFactory" "func() ([]reflect.Value, error)()" "1" = true ∧
    pluginCallAt "pluginConstructor.NewFactory" "func() ([]reflect.Value, error)()" "0" = false ∧
    -- a factory constructor: filled once, when the factory is created
    pluginCallAt "factoryConstructor.NewFactory" "func() ([]reflect.Value, error)()" "0" = true ∧
    pluginCallAt "factoryConstructor.NewFactory" "func() ([]reflect.Value, error)()" "1" = false ∧
    -- the closure NewFactory hands down fills a new default config at every run; New fills at once
    pluginCallAt "Registry.NewFactory" "nameRegistryEntry.defaultConfig.Get(" "1" = true ∧
    pluginCallAt "Registry.New" "nameRegistryEntry.defaultConfig.Get(" "0" = true ∧
    pluginCallAt "defaultConfigContainer.Get" "defaultConfigContainer.new()" "0" = true ∧
    pluginCallAt "defaultConfigContainer.new" "defaultConfigContainer.newValue.Call(nil)" "0" = true := by
  obtain ⟨hnew, hGet, hNew, hNewFactory, _, hpFactory, _, hfFactory, _⟩ := plugin_registry
  simp only [pluginCallAt, hnew, hGet, hNew, hNewFactory, hpFactory, hfFactory, List.any_cons, List.any_nil]
  -- the kernel reads a literal as `String.ofList` of its characters: no string is decoded
  repeat rw [String.toList_ofList]
  decide

end Pandora.Bridge.Config
