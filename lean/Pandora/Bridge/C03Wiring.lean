/-
C03 — bridge for the glue facts regenerated by gen/area_instloop_r6.go (see `Pandora.Model.C03Wiring`).
All comparisons are on normalised, sorted tables restricted to the fields the model relies on: reordering the fields of
a literal, building the literal in several steps, renaming the receiver / parameters / locals, or adding an unrelated field
does not break them; wiring a field to something else does.
-/
import Pandora.Gen.InstLoop
import Pandora.Model.C03Wiring

namespace Pandora.Bridge.C03Wiring
open Pandora.Model.C03Wiring

theorem deps_eq : restrict Gen.InstLoop.depsWiring deps = deps := by decide
theorem pool_eq : restrict Gen.InstLoop.poolWiring pool = pool := by decide
theorem engine_newPool_eq : Gen.InstLoop.engineNewPoolCalls = engineNewPool := by decide

/-- the out-of-ammo sentinel is returned as it is and compared by identity -/
theorem out_of_ammo_sentinel :
    Gen.InstLoop.outOfAmmoReturns = outOfAmmoReturns ∧ Gen.InstLoop.outOfAmmoTests = outOfAmmoTests := by decide

/-- the counters: one atomic operation each, the delta unchanged -/
theorem counter_atomic :
    Gen.InstLoop.counterAddAccesses = counterAdd ∧ Gen.InstLoop.counterAddPassesDelta = true ∧
    Gen.InstLoop.counterGetAccesses = counterGet := by decide

/-- a discarded request is REPORTED AS discarded: the sample `DiscardedShootSample` builds carries the constant tag
`DiscardedShootTag` (what the aggregators — and the harness — recognise it by), a non-empty string -/
theorem discarded_tag :
    Gen.InstLoop.discardedSampleTag.1 = Gen.InstLoop.discardedSampleTag.2 ∧ Gen.InstLoop.discardedSampleTag.1 ≠ "\"\"" ∧
    Gen.InstLoop.discardedSampleTag.1 ≠ "?" := by decide

/-- the built-in `dummy` provider hands out the untyped nil as a valid item (`ok = true`) for ever -/
theorem dummy_acquire : Gen.InstLoop.dummyAcquireReturns = ["nil, true"] := by decide

end Pandora.Bridge.C03Wiring
