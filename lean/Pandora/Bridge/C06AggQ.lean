/-
Bridge lemmas for C06 (ii)–(v) and (ix): the control skeletons REGENERATED from /repo (`Pandora.Gen.AggQ`, see
gen/area_aggq.go for what a skeleton keeps; function-local names — parameters, receivers, locals, labels — are
`$0`, `$1` … in order of first appearance, so renaming a local does not matter) are the ones the transition systems `Model.AggQueue`,
`Model.C06Pool`, `Model.C06Engine`, `Model.C06Start`, `Model.C06PoolRun` and `Model.CliShutdown` were written from. A change of the statement structure of any of
these functions (a select case, the order of the deferred flush and close, the drain loop, the drop counter,
the await loop of the pool, the signal branch …) breaks one of these lemmas; then the models have to be
re-read against the code. The file sink's open flags are compared as numbers.
-/
import Pandora.Gen.AggQ
import Pandora.Model.C06Engine

namespace Pandora.Bridge.AggQ
open Pandora.Gen.AggQ

/-- `Reporter.Report`: one non-blocking send; `default:` is the drop — model `step (.report r)`, kind `.encoder` -/
def reporterReportExpected : String :=
  "func($0 core.Sample) {select{case $1.Incomming <- $0:{} default:{$1.dropSample}}}"
theorem reporterReport_eq : reporterReport = reporterReportExpected := rfl

/-- `dropSample`: one `samplesDropped.Inc()` per dropped sample — model `droppedCount + 1` -/
def reporterDropSampleExpected : String :=
  "func($0 core.Sample) {$1.samplesDropped.Inc coreutil.ReturnSampleIfBorrowed}"
theorem reporterDropSample_eq : reporterDropSample = reporterDropSampleExpected := rfl

/-- `DroppedErr`: nil iff the counter is 0, else the counter — model `droppedErr` -/
def reporterDroppedErrExpected : String :=
  "func() error {$0.samplesDropped.Load if($1 == 0){return(nil)} return(&SomeSamplesDropped{$1})}"
theorem reporterDroppedErr_eq : reporterDroppedErr = reporterDroppedErrExpected := rfl

/-- the text of the error: `<N> samples were dropped` -/
def droppedErrorTextExpected : String :=
  "func() string {return(fmt.Sprintf(\"%v samples were dropped\", $0.Dropped))}"
theorem droppedErrorText_eq : droppedErrorText = droppedErrorTextExpected := rfl

/-- the queue is a channel of capacity `SampleQueueSize` — model `cfg.cap` -/
def newReporterExpected : String :=
  "func($0 ReporterConfig) *Reporter {return(&Reporter{ Incomming: make(chan core.Sample, $0.SampleQueueSize), })}"
theorem newReporter_eq : newReporter = newReporterExpected := rfl

/-- `dataSinkAggregator.Run`: deferred [sink.Close, DroppedErr] registered BEFORE the deferred encoder Close/Flush (so it runs after it); main select {sample | flushTick (flush only when nothing was flushed since the last tick) | ctx.Done → leave the loop}; drain loop {sample | default → return nil} — model `.recv`, `.tick`, `.seeCancel`, `.drain` -/
def encoderRunExpected : String :=
  "func($0 context.Context, $1 core.AggregatorDeps) ($2 error) {set($3.AggregatorDeps=$1) $3.conf.Sink.OpenSink if($2 != nil){return()} defer{$4.Close $3.DroppedErr} $3.newEncoder defer{if($5){$6.Close return()} $7.Flush} if($3.conf.FlushInterval > 0){time.NewTicker} $8:for{select{case <-$0.Done():{break $8} case <-$9:{if($10 == $11){$7.Flush if($2 != nil){return()}}} case $12 := <-$3.Incomming:{$3.handleSample if($2 != nil){return()}}}} for{select{case $13 := <-$3.Incomming:{$3.handleSample if($2 != nil){return()}} default:{return(nil)}}}}"
theorem encoderRun_eq : encoderRun = encoderRunExpected := rfl

/-- `handleSample`: Encode, error → return -/
def encoderHandleSampleExpected : String :=
  "func($0 SampleEncoder, $1 core.Sample) error {$0.Encode if($2 != nil){return(errors.WithMessage($2, \"…\"))} coreutil.ReturnSampleIfBorrowed return(nil)}"
theorem encoderHandleSample_eq : encoderHandleSample = encoderHandleSampleExpected := rfl

/-- `jsonEncoder.Encode`: the value, then the raw line terminator -/
def jsonEncodeExpected : String :=
  "func($0 core.Sample) error {$1.WriteVal $1.WriteRaw return($1.Error)}"
theorem jsonEncode_eq : jsonEncode = jsonEncodeExpected := rfl

/-- `jsonEncoder.Flush`: the jsoniter stream, then the bufio layer -/
def jsonFlushExpected : String :=
  "func() error {$0.Stream.Flush $0.buf.Flush return($1)}"
theorem jsonFlush_eq : jsonFlush = jsonFlushExpected := rfl

/-- jsonlines is the encoder aggregator over the JSON encoder -/
def newJSONLinesAggregatorExpected : String :=
  "func($0 JSONLineAggregatorConfig) core.Aggregator {return(NewEncoderAggregator($1, $0.EncoderAggregatorConfig))}"
theorem newJSONLinesAggregator_eq : newJSONLinesAggregator = newJSONLinesAggregatorExpected := rfl

/-- stream over a bufio.Writer -/
def newJSONEncoderExpected : String :=
  "func($0 io.Writer, $1 JSONLineEncoderConfig) SampleEncoder {$2.Froze $1.BufferSizeOrDefault bufio.NewWriterSize $1.BufferSizeOrDefault jsoniter.NewStream return(&jsonEncoder{$3, $4})}"
theorem newJSONEncoder_eq : newJSONEncoder = newJSONEncoderExpected := rfl

/-- `fileSink.OpenSink` -/
def fileOpenSinkExpected : String :=
  "func() ($0 io.WriteCloser, $1 error) {return($2.fs.open)}"
theorem fileOpenSink_eq : fileOpenSink = fileOpenSinkExpected := rfl

/-- `checkAllInstancesAreFinished`: the guard, close(runRes), toWait--, runCancel — model `PSt.check` -/
def engineCheckAllFinishedExpected : String :=
  "func() {$0.isStartFinished let $1=($0.isStartFinished() && $0.awaitedInstances >= $0.startedInstances) if(!$1){return()} close($0.runRes) recv($0.runRes) if($2){panic} $0.toWait-- set($0.runRes=nil) $0.runCancel}"
theorem engineCheckAllFinished_eq : engineCheckAllFinished = engineCheckAllFinishedExpected := rfl

/-- `isStartFinished` is `startRes == nil` -/
def engineIsStartFinishedExpected : String :=
  "func() bool {return($0.startRes == nil)}"
theorem engineIsStartFinished_eq : engineIsStartFinished = engineIsStartFinishedExpected := rfl

/-- `awaitRun`: loop while toWait > 0 over the four result channels; start and run results call the check — model `.awaitProv/.awaitAgg/.awaitStart/.awaitInst` -/
def engineAwaitRunExpected : String :=
  "func() {for($0.toWait > 0){select{case $1 := <-$0.aggregatorErr:{$0.toWait-- set($0.aggregatorErr=nil) errutil.IsCtxError($0.runCtx) if(!errutil.IsCtxError($0.runCtx, $1)){$0.onErrAwaited}} case $2 := <-$0.providerErr:{$0.toWait-- set($0.providerErr=nil) errutil.IsCtxError($0.runCtx) if(!errutil.IsCtxError($0.runCtx, $2)){$0.onErrAwaited}} case $3 := <-$0.runRes:{$0.awaitedInstances++ if($3.Err == outOfAmmoErr){$0.isStartFinished if(!$0.isStartFinished()){$0.instanceStartCancel}}else{errutil.IsCtxError($0.runCtx) if(!errutil.IsCtxError($0.runCtx, $3.Err)){$0.onErrAwaited}} $0.checkAllInstancesAreFinished} case $4 := <-$0.startRes:{$0.toWait-- set($0.startRes=nil) set($0.startedInstances=$4.Started) errutil.IsCtxError($0.instanceStartCtx) if(!errutil.IsCtxError($0.instanceStartCtx, $4.Err)){$0.onErrAwaited} $0.checkAllInstancesAreFinished}}}}"
theorem engineAwaitRun_eq : engineAwaitRun = engineAwaitRunExpected := rfl

/-- `awaitRunAsync`: after awaitRun: close(awaitErr), onWaitDone — model `.waitDone` -/
def engineAwaitRunAsyncExpected : String :=
  "func($0 *poolAsyncRunHandle) <-chan error {$1.newAwaitRunHandle go{defer{close($2.awaitErr) if($1.onWaitDone != nil){$1.onWaitDone}} $2.awaitRun} return($3)}"
theorem engineAwaitRunAsync_eq : engineAwaitRunAsync = engineAwaitRunAsyncExpected := rfl

/-- `Engine.Wait` waits for every pool's onWaitDone -/
def engineWaitExpected : String :=
  "func() {$0.wait.Wait}"
theorem engineWait_eq : engineWait = engineWaitExpected := rfl

/-- `Engine.Run`: one goroutine per pool runs `pool.Run(ctx)` and offers its result on `runRes` (or drops it when the engine's context is done); the loop receives exactly `len(Pools)` results, returns at the first non-nil one or when the context is done, and `nil` only after all of them were nil — model `C06Engine` `.poolSend/.engRecv/.engCtxDone` -/
def engineRunExpected : String :=
  "func($0 context.Context) error {ctx($0, $1 <- $0) defer{$1} range($2.config.Pools){if($3.ID == \"\"){set($3.ID=…)} $2.wait.Add newPool go{$4.Run($0) select{case <-$0.Done():{} case $5 <- poolRunResult{Err: $6, ID: $4.ID}:{}}}} for($7 < len($2.config.Pools); $7++){select{case <-$0.Done():{return($0.Err())} case $8 := <-$5:{if($8.Err != nil){select{case <-$0.Done():{return($0.Err())} default:{}} return(errors.WithMessage($8.Err, fmt.Sprintf(\"…\", $8.ID)))}}}} return(nil)}"
theorem engineRun_eq : engineRun = engineRunExpected := rfl

/-- `instancePool.Run`: after `awaitRunAsync` the only `return nil` is under `case err, ok := <-awaitErr` with `!ok` — the channel was closed, which `awaitRunAsync` does after `awaitRun` returned; the context case returns `ctx.Err()` — model `C06Engine` `.poolRetClosed/.poolRetErr/.poolRetCtx` -/
def enginePoolRunExpected : String :=
  "func($0 context.Context) error {ctx($0, $1 <- $0) defer{$1} $2.warmUpGun($0) if($3 != nil){$2.onWaitDone return($3)} $2.runAsync($0) if($4 != nil){if($2.onWaitDone != nil){$2.onWaitDone} return($4)} $2.awaitRunAsync select{case <-$0.Done():{return($0.Err())} case $5, $6 := <-$7:{if($6){return($5)} return(nil)}}}"
theorem enginePoolRun_eq : enginePoolRun = enginePoolRunExpected := rfl

/-- `runAsync`: `runCtx` is a child of the pool context, `instanceStartCtx` a child of `runCtx`; provider and aggregator run under `runCtx`, `startInstances` gets (`instanceStartCtx`, `runCtx`); the handle keeps both cancel functions — model `C06Engine.cancelledBy` -/
def engineRunAsyncExpected : String :=
  "func($0 context.Context) (*poolAsyncRunHandle, error) {ctx($1, $2 <- $0) ctx($3, $4 <- $1) $5.buildNewInstanceSchedule($3, $4) if($6 != nil){return(nil, $6)} go{$5.Aggregator.Run($1) send($7)} go{$5.Provider.Run($1) send($8)} go{$5.startInstances($3, $1) send($9)} return(&poolAsyncRunHandle{ aggregatorErr: $7, instanceStartCancel: $4, instanceStartCtx: $3, poolCtx: $0, providerErr: $8, runCancel: $2, runCtx: $1, runRes: $10, startRes: $9, }, nil)}"
theorem engineRunAsync_eq : engineRunAsync = engineRunAsyncExpected := rfl

/-- `startInstances`: instances are created under the second context (`runCtx`), every instance goroutine sends its `Run` result on `runRes` after `Run` returned, `started` counts the goroutines — model `C06Pool` `.launch/.finish/.startDone` -/
def engineStartInstancesExpected : String :=
  "func( $0, $1 context.Context, $2 func() (core.Schedule, error), $3 chan<- instanceRunResult) ($4 int, $5 error) {coreutil.NewWaiter $6.Wait($0) if(!$7){$0.Err return()} newInstance($1) if($5 != nil){return()} $4++ go{defer{$8.Close} return($8.Run($1)) send($3)} for($6.Wait($0); $4++){go{runNewInstance($1) send($3)}} $0.Err return()}"
theorem engineStartInstances_eq : engineStartInstances = engineStartInstancesExpected := rfl

/-- `onErrAwaited`: the error is handed to `pool.Run` or dropped when the pool's context is done; it never closes anything -/
def engineOnErrAwaitedExpected : String :=
  "func($0 error) {select{case <-$1.poolCtx.Done():{$1.poolCtx.Err} case $1.awaitErr <- $0:{}}}"
theorem engineOnErrAwaited_eq : engineOnErrAwaited = engineOnErrAwaitedExpected := rfl

/-- `runNewInstance`: `instance.Run(ctx)` synchronously, gun closed afterwards -/
def engineRunNewInstanceExpected : String :=
  "func($0 context.Context, $1 *zap.Logger, $2 string, $3 int, $4 instanceDeps) error {newInstance($0) if($5 != nil){return($5)} defer{$6.Close} return($6.Run($0))}"
theorem engineRunNewInstance_eq : engineRunNewInstance = engineRunNewInstanceExpected := rfl

/-- `instance.Run`: `gun.Shoot` and the discarded-shoot `aggregator.Report` are plain calls of the loop: `Run` returns only after the last of them returned — the reading behind `C06Pool` `.report` being enabled only while the instance is running -/
def engineInstanceRunExpected : String :=
  "func($0 context.Context) ($1 error) {defer{if($2 != nil){errors.Errorf} $3.metrics.InstanceFinish.Add} $3.metrics.InstanceStart.Add coreutil.NewWaiter for(!$4.IsFinished($0)){$3.provider.Acquire if(!$5){return(outOfAmmoErr)} defer{$3.provider.Release} $4.Wait($0) if(!$4.Wait($0)){return(nil)} $4.IsSlowDown($0) if(!$3.discardOverflow || !$4.IsSlowDown($0)){$3.metrics.Request.Add $3.gun.Shoot $3.metrics.Response.Add}else{netsample.DiscardedShootSample $3.aggregator.Report} return(nil) if($6 != nil){return($6)}} return($0.Err())}"
theorem engineInstanceRun_eq : engineInstanceRun = engineInstanceRunExpected := rfl

/-- `phoutAggregator.Run`: deferred Flush then Close; select {sample (+ flush if the 1 s ticker fired) | time.After flush | ctx.Done → drain until `default`} — model kind `.phout` -/
def phoutRunExpected : String :=
  "func($0 context.Context, $1 core.AggregatorDeps) error {time.NewTicker defer{$2.writer.Flush $2.file.Close} $3:for{select{case <-$0.Done():{for{select{case $4 := <-$2.sink:{$2.handle if($5 != nil){return($5)}} default:{break $3}}}} case <-time.After(1 * time.Second):{$2.writer.Flush} case $6 := <-$2.sink:{$2.handle if($7 != nil){return($7)} select{case <-$8.C:{$2.writer.Flush} default:{}}}}} return(nil)}"
theorem phoutRun_eq : phoutRun = phoutRunExpected := rfl

/-- `phoutAggregator.Report`: a blocking send -/
def phoutReportExpected : String :=
  "func($0 *Sample) {send($1.sink)}"
theorem phoutReport_eq : phoutReport = phoutReportExpected := rfl

/-- `NewPhout`: the destination is opened once through the file system it is given (`Create` or `OpenFile`: the same
operation, the flags are `phoutOpenFlags`, see `phout_flags`), bufio writer of the configured size -/
def newPhoutExpected : String :=
  "func($0 afero.Fs, $1 PhoutConfig) ($2 Aggregator, $3 error) {if($4 != \"\"){$0.open} if($3 != nil){return()} $1.Buffer.BufferSizeOrDefault bufio.NewWriterSize return()}"
theorem newPhout_eq : newPhout = newPhoutExpected := rfl

/-- `awaitPandoraTermination` — model `CliShutdown.step` -/
def cliAwaitTerminationExpected : String :=
  "func($0 *engine.Engine, $1 func(), $2 chan error, $3 *zap.Logger) {signal.Notify select{case $4 := <-$2:{switch($4){case nil:{} case $4:{$1 time.AfterFunc $0.Wait exit}}} case $5 := <-$6:{switch($5){case syscall.SIGINT:{$1} case syscall.SIGTERM:{$1} default:{exit}} time.After select{case <-$7:{exit} case $8 := <-$6:{exit} case $9 := <-$2:{go{$0.Wait close($10)} select{case <-$7:{exit} case <-$10:{} case $11 := <-$6:{exit}} exit}}}}}"
theorem cliAwaitTermination_eq : cliAwaitTermination = cliAwaitTerminationExpected := rfl

/-- `runEngine`: `errs <- engine.Run(ctx)` -/
def cliRunEngineExpected : String :=
  "func($0 context.Context, $1 *engine.Engine, $2 chan error) {ctx($0, $3 <- $0) defer{$3} $1.Run($0) send($2)}"
theorem cliRunEngine_eq : cliRunEngine = cliRunEngineExpected := rfl

/-- `ReadConfigAndRunEngine`: the engine runs under the context whose cancel function is handed to `awaitPandoraTermination` as `gracefulShutdown` -/
def cliReadConfigAndRunEngineExpected : String :=
  "func() {flag.Args readConfig newLogger startMonitoring defer{$0} newEngineMetrics startReport engine.New ctx($1, $2 <- context.Background()) defer{$2} go{runEngine($1)} awaitPandoraTermination($2)}"
theorem cliReadConfigAndRunEngine_eq : cliReadConfigAndRunEngine = cliReadConfigAndRunEngineExpected := rfl

/-- `phoutAggregator.handle`: encode into the reused line buffer, terminator, (89739df) flush first when the line does not
fit into what is left of the writer's buffer — only whole lines reach the destination, `Model.C06WholeLines.handle true` —,
`writer.Write`, reset the buffer, and only THEN hand the sample back to the pool; the write error is returned — model
`St.handle`, `C06SinkFail.handle` -/
def phoutHandleExpected : String :=
  "func($0 *Sample) error {appendPhout set($1.buf=append($1.buf, '\\n')) $1.writer.Available if($1.writer.Available() < len($1.buf)){$1.writer.Flush} $1.writer.Write set($1.buf=$1.buf[:0]) releaseSample return($2)}"
theorem phoutHandle_eq : phoutHandle = phoutHandleExpected := rfl

/-- `Acquire`: a pooled sample is overwritten as a whole (`*s = Sample{…}`): id, all ten fields and the error read as zero on a sample a gun gets — what `Model.Phout.Sample` values built by setters assume -/
def sampleAcquireExpected : String :=
  "func($0 string) *Sample {samplePool.Get time.Now set(*$1=Sample{ timeStamp: time.Now(), tags: $0, }) return($1)}"
theorem sampleAcquire_eq : sampleAcquire = sampleAcquireExpected := rfl

/-- `releaseSample`: back into the pool -/
def sampleReleaseExpected : String :=
  "func($0 *Sample) {samplePool.Put}"
theorem sampleRelease_eq : sampleRelease = sampleReleaseExpected := rfl

/-- `DiscardedShootSample`: a fresh sample (not from the pool) with the current time and the 777 net code — what `instance.Run` reports for an overdue token -/
def sampleDiscardedExpected : String :=
  "func() *Sample {time.Now $0.SetUserNet return($0)}"
theorem sampleDiscarded_eq : sampleDiscarded = sampleDiscardedExpected := rfl


/-! ### the helpers every sample / byte goes through, the rest of the pool's start-up path -/

/-- `aggregatorWrapper.Report` (what `core/import` wraps phout in): exactly one synchronous `Report` of the wrapped aggregator per call — a Report that returned has queued its sample -/
def wrapReportExpected : String :=
  "func($0 core.Sample) {$1.Aggregator.Report}"
theorem wrapReport_eq : wrapReport = wrapReportExpected := rfl

/-- `WrapAggregator`: the wrapper around the given aggregator, nothing else -/
def wrapAggregatorExpected : String :=
  "func($0 Aggregator) core.Aggregator {return(&aggregatorWrapper{$0})}"
theorem wrapAggregator_eq : wrapAggregator = wrapAggregatorExpected := rfl

/-- `ioutil2.NewCallbackWriter` (between the JSON encoder's bufio layer and the sink): the callback, then the bytes and the result of the wrapped writer, unchanged -/
def callbackWriterExpected : String :=
  "func($0 io.Writer, $1 func()) WriterFunc {return(func($2 []byte) ($3 int, $4 error) { $1() return $0.Write($2) })}"
theorem callbackWriter_eq : callbackWriter = callbackWriterExpected := rfl

/-- `coreutil.ReturnSampleIfBorrowed`: one `Return` for a borrowed sample, nothing otherwise — model `C06Borrow` -/
def returnIfBorrowedExpected : String :=
  "func($0 core.Sample) {if(!$1){return()} $2.Return}"
theorem returnIfBorrowed_eq : returnIfBorrowed = returnIfBorrowedExpected := rfl

/-- `BufferSizeOrDefault`: 0 → the default, up to the minimum → the minimum, else the configured size -/
def bufferSizeOrDefaultExpected : String :=
  "func() int {if($0 == 0){return(DefaultBufferSize)} if($0 <= MinimalBufferSize){return(MinimalBufferSize)} return($0)}"
theorem bufferSizeOrDefault_eq : bufferSizeOrDefault = bufferSizeOrDefaultExpected := rfl

/-- `errutil.IsCtxError`: nil, or the cause is the context's own error — what the await loop does NOT hand to `onErrAwaited` -/
def isCtxErrorExpected : String :=
  "func($0 context.Context, $1 error) bool {if($1 == nil){return(true)} return($0.Err() == errors.Cause($1))}"
theorem isCtxError_eq : isCtxError = isCtxErrorExpected := rfl

/-- `buildNewInstanceSchedule`: per-instance schedules as they are; a shared one is wrapped with the on-finish callback -/
def engineBuildScheduleExpected : String :=
  "func($0 context.Context, $1 context.CancelFunc) ( func() (core.Schedule, error), error, ) {if($2.RPSPerInstance){return($2.NewRPSSchedule, nil)} $2.NewRPSSchedule if($3 != nil){return(nil, $3)} coreutil.NewCallbackOnFinishSchedule return(func() (core.Schedule, error) { return $4, $3 }, nil)}"
theorem engineBuildSchedule_eq : engineBuildSchedule = engineBuildScheduleExpected := rfl

/-- the shared schedule's on-finish callback: calls its second parameter (the cancel function) unless the first (the context) is done already; nothing else -/
def engineScheduleFinishExpected : String :=
  "func($0 context.Context, $1 context.CancelFunc) ( func() (core.Schedule, error), error, ) onfinish{select{case <-$0.Done():{return()} default:{$1}}}"
theorem engineScheduleFinish_eq : engineScheduleFinish = engineScheduleFinishExpected := rfl

/-- `coreutil.NewCallbackOnFinishSchedule`: the wrapper keeps the schedule and the callback it is given -/
def newCallbackScheduleExpected : String :=
  "func($0 core.Schedule, $1 func()) core.Schedule {return(&callbackOnFinishSchedule{ Schedule: $0, onFinish: $1, })}"
theorem newCallbackSchedule_eq : newCallbackSchedule = newCallbackScheduleExpected := rfl

/-- its `Next`: the wrapped schedule's token; the callback goes through a `sync.Once` and only when there is no token -/
def callbackScheduleNextExpected : String :=
  "func() ($0 time.Time, $1 bool) {$2.Schedule.Next if(!$1){$2.onFinishOnce.Do} return()}"
theorem callbackScheduleNext_eq : callbackScheduleNext = callbackScheduleNextExpected := rfl

/-- its `Left`: the same `Once`, when nothing is left -/
def callbackScheduleLeftExpected : String :=
  "func() int {$0.Schedule.Left if($1 == 0){$0.onFinishOnce.Do} return($1)}"
theorem callbackScheduleLeft_eq : callbackScheduleLeft = callbackScheduleLeftExpected := rfl

/-- `warmUpGun`: a gun is made, warmed up when it can be, closed; any failure is returned -/
def engineWarmUpGunExpected : String :=
  "func($0 context.Context) error {$1.NewGun if($2 != nil){return(fmt.Errorf(\"can't initiate a gun: %w\", $2))} defer{closeGun} if($3){$4.WarmUp if($2 != nil){return(fmt.Errorf(\"gun warm up failed: %w\", $2))}} return(nil)}"
theorem engineWarmUpGun_eq : engineWarmUpGun = engineWarmUpGunExpected := rfl

/-- `newInstance`: schedule, gun, `Bind` to the pool's aggregator; a failure returns no instance -/
def engineNewInstanceExpected : String :=
  "func($0 context.Context, $1 *zap.Logger, $2 string, $3 int, $4 instanceDeps) (*instance, error) {$4.newSchedule if($5 != nil){return(nil, $5)} $4.newGun if($5 != nil){return(nil, $5)} $6.Bind if($5 != nil){closeGun return(nil, $5)} return($7, nil)}"
theorem engineNewInstance_eq : engineNewInstance = engineNewInstanceExpected := rfl

/-- `newAwaitRunHandle`: no calls -/
def engineNewAwaitRunHandleExpected : String :=
  "func($0 *poolAsyncRunHandle) (*runAwaitHandle, <-chan error) {return($1, $2)}"
theorem engineNewAwaitRunHandle_eq : engineNewAwaitRunHandle = engineNewAwaitRunHandleExpected := rfl

/-- `newPool`: the pool keeps the `onWaitDone` it is given (`Engine.wait.Done`) -/
def engineNewPoolExpected : String :=
  "func($0 *zap.Logger, $1 Metrics, $2 func(), $3 InstancePoolConfig) *instancePool {return(&instancePool{InstancePoolConfig: $3, log: $0, metrics: $1, onWaitDone: $2})}"
theorem engineNewPool_eq : engineNewPool = engineNewPoolExpected := rfl

/-- `NewEncoderAggregator`: a fresh `Reporter` of the configured queue size per aggregator -/
def newEncoderAggregatorExpected : String :=
  "func( $0 NewSampleEncoder, $1 EncoderAggregatorConfig, ) core.Aggregator {return(&dataSinkAggregator{ Reporter: *NewReporter($1.ReporterConfig), newEncoder: $0, conf: $1, })}"
theorem newEncoderAggregator_eq : newEncoderAggregator = newEncoderAggregatorExpected := rfl

/-- the file sink opens for writing, creates, TRUNCATES (a result file never keeps lines of an earlier run), does
not append, is not exclusive (stated on the flag bits, so that `Create`, another order of the flags or
O_RDWR instead of O_WRONLY change nothing) -/
theorem file_flags :
    fileOpenFlags &&& osTRUNC = osTRUNC ∧ fileOpenFlags &&& osCREATE = osCREATE ∧
    fileOpenFlags &&& osAPPEND = 0 ∧ fileOpenFlags &&& osEXCL = 0 ∧
    (fileOpenFlags &&& (osWRONLY ||| osRDWR) = osWRONLY ∨ fileOpenFlags &&& (osWRONLY ||| osRDWR) = osRDWR) := by decide

/-- the ten numeric fields of a sample are kept as 64-bit machine integers (`int` on the platforms pandora
is built for, or `int64`): every value the setters accept — durations in µs up to ±2^63, byte counts beyond 2^31 —
is written as it was reported; the line theorems (`C06_phout_wellformed`: ALL integer values) and the harness's
int64 field values rely on it -/
theorem sample_fields_wide : (sampleFieldsElem = "int" ∨ sampleFieldsElem = "int64") ∧ sampleFieldsLen = 10 := by decide

/-- phout's destination is opened for writing, created when missing, TRUNCATED, not appended to, not
exclusive — whichever of `Fs.Create` / `Fs.OpenFile` the code calls and whichever of O_WRONLY / O_RDWR it asks for:
a result file never keeps bytes of an earlier run -/
theorem phout_flags :
    phoutOpenFlags &&& osTRUNC = osTRUNC ∧ phoutOpenFlags &&& osCREATE = osCREATE ∧
    phoutOpenFlags &&& osAPPEND = 0 ∧ phoutOpenFlags &&& osEXCL = 0 ∧
    (phoutOpenFlags &&& (osWRONLY ||| osRDWR) = osWRONLY ∨ phoutOpenFlags &&& (osWRONLY ||| osRDWR) = osRDWR) := by decide

/-- the pool waits for four results: provider, aggregator, instance start, instance runs -/
theorem results_to_wait : engineResultsToWait = 4 := by decide

/-- `Engine.Run` awaits one result per pool: the loop runs while `i < len(e.config.Pools)` — model `awaitN = n` -/
def engineRunLoopBoundExpected : String := "$0 < len($1.config.Pools)"
theorem engineRunLoopBound_eq : engineRunLoopBound = engineRunLoopBoundExpected := rfl

/-- `instance.Run` starts no goroutine: `gun.Shoot` and `aggregator.Report` are calls of the instance's own
goroutine, made through the instance's fields -/
theorem instance_run_synchronous :
    engineInstanceGoStmts = 0 ∧ engineInstanceCalls.contains "gun.Shoot" = true ∧
    engineInstanceCalls.contains "aggregator.Report" = true := by
  simp [engineInstanceGoStmts, engineInstanceCalls]

open Pandora.Model.C06Engine in
/-- **who is cancelled by what** (contexts and cancel functions are runAsync's locals, numbered):
provider and aggregator run under the context the handle keeps as `runCtx`; `startInstances` gets
(`instanceStartCtx`, `runCtx`); `runCancel` — what `checkAllInstancesAreFinished` calls — cancels the
aggregator's context; `instanceStartCancel` — called on "out of ammo" while instances are still running, and by the
shared schedule's finish callback — cancels `instanceStartCtx` ONLY, not the aggregator; a cancel of the pool's
own context (Engine.Run's cancel, SIGINT/SIGTERM) reaches the aggregator. -/
theorem ctx_tree :
    engineAggregatorRunCtx = [engineHandleRunCtx] ∧ engineProviderRunCtx = [engineHandleRunCtx] ∧
    engineStartInstancesCtx = [engineHandleInstanceStartCtx, engineHandleRunCtx] ∧
    engineHandlePoolCtx = enginePoolCtxParam ∧
    (cancelledBy engineCtxDerive engineHandleRunCancel).contains engineHandleRunCtx = true ∧
    (cancelledBy engineCtxDerive engineHandleRunCancel).contains engineHandleInstanceStartCtx = true ∧
    cancelledBy engineCtxDerive engineHandleInstanceStartCancel = [engineHandleInstanceStartCtx] ∧
    (cancelledBy engineCtxDerive engineHandleInstanceStartCancel).contains engineHandleRunCtx = false ∧
    (doneWith engineCtxDerive enginePoolCtxParam).contains engineHandleRunCtx = true ∧
    (doneWith engineCtxDerive engineHandleRunCtx).contains enginePoolCtxParam = false := by decide

/-! ### option tables, defaults, plugin registration -/

/-- option table lookup: Go field ↦ (option name, validate tag) -/
def optionOf (t : List (String × String × String)) (field : String) : Option (String × String) :=
  (t.find? fun r => r.1 == field).map (·.2)

def defaultOf (t : List (String × Int)) (field : String) : Option Int :=
  (t.find? fun r => r.1 == field).map (·.2)

/-- what is registered under (kind, name): (constructor, default-config function) -/
def registered (kind name : String) : Option (String × String) :=
  (importRegistrations.find? fun r => r.1 == kind && r.2.1 == name).map (·.2.2)

/-- **option names and validation** the harness (`kind=conf`) and the queue model rely on: the queue size of both
aggregators is the option `sample-queue-size` (phout: `min=0` — an unbuffered channel is allowed, the queue model
over-approximates it by one slot; encoder aggregators: `min=1`, the model's `cap ≥ 1`), ids are switched on by `id`,
the destination is `destination` (phout) / `sink` + `path` (jsonlines over the file sink, both required), the
writer's buffer is `buffer-size`, the flush period `flush-interval` -/
theorem options :
    optionOf phoutConfigFields "SampleQueueSize" = some ("sample-queue-size", "min=0") ∧
    optionOf phoutConfigFields "ID" = some ("id", "") ∧
    optionOf phoutConfigFields "Destination" = some ("destination", "") ∧
    optionOf phoutConfigFields "Buffer.BufferSize" = some ("buffer-size", "") ∧
    optionOf jsonlinesConfigFields "EncoderAggregatorConfig.ReporterConfig.SampleQueueSize" = some ("sample-queue-size", "min=1") ∧
    optionOf jsonlinesConfigFields "EncoderAggregatorConfig.Sink" = some ("sink", "required") ∧
    optionOf jsonlinesConfigFields "EncoderAggregatorConfig.FlushInterval" = some ("flush-interval", "") ∧
    optionOf jsonlinesConfigFields "JSONLineEncoderConfig.BufferSizeConfig.BufferSize" = some ("buffer-size", "") ∧
    optionOf fileSinkConfigFields "Path" = some ("path", "required") := by
  simp [optionOf, phoutConfigFields, jsonlinesConfigFields, fileSinkConfigFields]

/-- the default configurations pass their own validation: the encoder aggregators' default queue holds at least one
sample, phout's is not negative (no default at all is 0: an unbuffered channel, allowed by `min=0`); the defaults are reached through the default-config functions that are registered -/
theorem queue_defaults :
    (defaultOf reporterDefaults "SampleQueueSize").any (fun n => decide (1 ≤ n)) = true ∧
    (defaultOf phoutDefaults "SampleQueueSize").all (fun n => decide (0 ≤ n)) = true ∧
    encoderDefaults.any (fun r => r.1 == "ReporterConfig=DefaultReporterConfig") = true ∧
    jsonlinesDefaults.any (fun r => r.1 == "EncoderAggregatorConfig=DefaultEncoderAggregatorConfig") = true := by
  simp [defaultOf, reporterDefaults, phoutDefaults, encoderDefaults, jsonlinesDefaults]

/-- **what a config's `type: phout` / `jsonlines` / `json` / sink `file` builds**: phout is `NewPhout` over the
process's file system, wrapped by `WrapAggregator` (so every Report goes through `aggregatorWrapper.Report`), with
`DefaultPhoutConfig` underneath the user's options; jsonlines / json are `NewJSONLinesAggregator` over
`DefaultJSONLinesAggregatorConfig`; the `file` sink is `datasink.NewFile` over the same file system -/
theorem registrations :
    registered "Aggregator" "phout" =
      some ("func($0 netsample.PhoutConfig) (core.Aggregator, error) {netsample.NewPhout return(netsample.WrapAggregator($1), $2)}",
            "netsample.DefaultPhoutConfig") ∧
    registered "Aggregator" "jsonlines" = some ("aggregator.NewJSONLinesAggregator", "aggregator.DefaultJSONLinesAggregatorConfig") ∧
    registered "Aggregator" "json" = some ("aggregator.NewJSONLinesAggregator", "aggregator.DefaultJSONLinesAggregatorConfig") ∧
    registered "DataSink" "file" = some ("func($0 datasink.FileConfig) core.DataSink {return(datasink.NewFile($1, $0))}", "") := by
  simp [registered, importRegistrations]

/-- `BufferSizeOrDefault` as its skeleton reads, over the regenerated constants -/
def bufSize (n : Nat) : Nat :=
  if n = 0 then bufferDefaultSize else if n ≤ bufferMinimalSize then bufferMinimalSize else n

/-- whatever `buffer-size` says, the writers are built with a positive size of at least the minimum; a size above the
minimum is taken as it is -/
theorem bufSize_ok (n : Nat) : 0 < bufSize n ∧ bufferMinimalSize ≤ bufSize n ∧ (bufferMinimalSize < n → bufSize n = n) := by
  have hle : bufferMinimalSize ≤ bufferDefaultSize := by decide
  have hpos : 0 < bufferMinimalSize := by decide
  unfold bufSize
  split
  · omega
  · split <;> omega

/-- the shared schedule's on-finish callback gets runAsync's `instanceStartCtx` / `instanceStartCancel`: when the
shared RPS schedule runs out it stops the START of further instances, and — `ctx_tree` — cancels neither the
aggregator nor the instances that are still shooting -/
theorem schedule_finish_args :
    engineBuildScheduleArgs = [engineHandleInstanceStartCtx, engineHandleInstanceStartCancel] := by decide

end Pandora.Bridge.AggQ
