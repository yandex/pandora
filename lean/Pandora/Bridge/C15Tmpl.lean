/-
C15 — bridge between what /verif/gen (area `c15tmpl`) re-extracted from the CURRENT source of the templaters
(`templater_text.go`, `templater_html.go`, `template_key.go`) and of `ammo.go`, and the model (Model/C15Tmpl.lean).

  `applyCodeText_eq`, `applyCodeHTML_eq`   the three regions of `Apply` (URL, one header, body) as statement lists, their cache-key sites
  `getCodeText_eq`, `getCodeHTML_eq`       `getTemplate`: load; on a miss parse, check, store; return
  `keyFields_eq`                           `templateKey` has exactly the four string fields the sites fill
  `partsFresh_ok`                          `GetHeaders` / `GetBody` hand copies to `Apply`
  `sites_distinct`, `keyOf_inj`            different slots (scenario, step, part, header name) have different cache keys
  `applies_gen`                            every sequence of `Apply` calls as regenerated renders every part on its own
  `jsonpathCode_eq`, `jsonpath_gen`        `var/jsonpath`'s `Process` as regenerated is `varJsonpath` (empty mapping / decode / every path must resolve)
-/
import Pandora.Gen.C15Tmpl
import Pandora.Proofs.C15Tmpl
import Pandora.Proofs.C15Jpath

namespace Pandora.Bridge.C15Tmpl
open Pandora.Model.C15 Pandora.Proofs.C15

theorem applyCodeText_eq : Gen.C15Tmpl.applyCodeText = applyCode := by decide
theorem applyCodeHTML_eq : Gen.C15Tmpl.applyCodeHTML = applyCode := by decide
theorem getCodeText_eq : Gen.C15Tmpl.getCodeText = getCode := by decide
theorem getCodeHTML_eq : Gen.C15Tmpl.getCodeHTML = getCode := by decide
theorem keyFields_eq : Gen.C15Tmpl.keyFields = ["scenario", "step", "part", "key"] := by decide
theorem partsFresh_ok : Gen.C15Tmpl.partsFresh.all (·.2) = true := by decide

/-- the `part` constants of the three sites are pairwise different, every site fills scenario and step, only the header
site fills `key` -/
theorem sites_distinct :
    let a := Gen.C15Tmpl.applyCodeText
    a.url.site.part ≠ a.header.site.part ∧ a.url.site.part ≠ a.body.site.part ∧ a.header.site.part ≠ a.body.site.part ∧
    [a.url.site, a.header.site, a.body.site].all (fun s => s.scen && s.step) = true ∧
    a.header.site.keyed = true := by decide

/-- two slots share a cache key only if they are the same slot -/
theorem keyOf_inj (s s' : TSite) (scn stp hk scn' stp' hk' : String)
    (hs : (s.scen && s.step) = true) (hs' : (s'.scen && s'.step) = true)
    (h : s.keyOf scn stp hk = s'.keyOf scn' stp' hk') :
    s.part = s'.part ∧ scn = scn' ∧ stp = stp' ∧ (s.keyed = true → s'.keyed = true → hk = hk') := by
  simp only [Bool.and_eq_true] at hs hs'
  simp only [TSite.keyOf, hs.1, hs.2, hs'.1, hs'.2, ↓reduceIte, TKey.mk.injEq] at h
  refine ⟨h.2.2.1, h.1, h.2.1, ?_⟩
  intro k k'
  simpa [k, k'] using h.2.2.2

/-- **the cache of the templater as regenerated is invisible** -/
theorem applies_gen {τ V : Type} (parse : String → Option τ) (exec : τ → V → String × Bool)
    (defs : String → String → TParts) (calls : List (String × String × TParts × V))
    (hf : ∀ x ∈ calls, Fits defs x.1 x.2.1 x.2.2.1) :
    runApplies Gen.C15Tmpl.applyCodeText Gen.C15Tmpl.getCodeText parse exec id [] calls =
      calls.map fun x => applyPure parse exec x.2.2.1 x.2.2.2 := by
  rw [applyCodeText_eq, getCodeText_eq]
  exact runApplies_ok parse exec defs calls [] (cacheOK_nil parse _) hf

theorem jsonpathCode_eq : Gen.C15Tmpl.jsonpathCode = jsonpathCode := by decide

/-- **`var/jsonpath` as regenerated** -/
theorem jsonpath_gen {β J V : Type} (decode : β → Option J) (get : String → J → Option V)
    (mapping : List (String × String)) (body : β) :
    runJsonpath decode get Gen.C15Tmpl.jsonpathCode mapping body = varJsonpath decode get mapping body := by
  rw [jsonpathCode_eq]; exact runJsonpath_eq decode get mapping body

end Pandora.Bridge.C15Tmpl
