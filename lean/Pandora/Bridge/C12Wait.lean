import Pandora.Gen.Startup
import Pandora.Model.C12Wait

/-
C12 — bridge for the termination bookkeeping of the pool's await loop (`toWait`), regenerated by the area
`startup` (`resultsToWait`, `awaitLoopGoesOn`, `awaitCases`, `allFinishedToWait`): the table read from the source IS the
table the model `Model/C12Wait` runs with.  The cases are looked up by the channel they receive from, so their order in
the `select` and the order of the statements inside a case do not matter.
-/
namespace Pandora.Bridge.C12Wait
open Pandora.Model.C12Wait

/-- the table as regenerated -/
def genTab : Tab :=
  { init := Pandora.Gen.Startup.resultsToWait,
    prov := (Pandora.Gen.Startup.awaitCases.lookup "providerErr").getD (0, false),
    aggr := (Pandora.Gen.Startup.awaitCases.lookup "aggregatorErr").getD (0, false),
    start := (Pandora.Gen.Startup.awaitCases.lookup "startRes").getD (0, false),
    allFin := Pandora.Gen.Startup.allFinishedToWait }

theorem genTab_eq : genTab = stdTab := by decide

/-- receiving the result of an instance does not touch `toWait` and keeps `runRes` in the select; there is no fifth case -/
theorem runRes_case : Pandora.Gen.Startup.awaitCases.lookup "runRes" = some (0, false) ∧
    Pandora.Gen.Startup.awaitCases.length = 4 := by decide

theorem goesOn_eq (s : WSt) : Pandora.Gen.Startup.awaitLoopGoesOn s.toWait = goesOn s := by
  simp [Pandora.Gen.Startup.awaitLoopGoesOn, goesOn]

end Pandora.Bridge.C12Wait
