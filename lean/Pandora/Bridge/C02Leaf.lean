/-
C02 — bridge for `Pandora/Gen/C02Leaf.lean` (area `c02leaf`, re-extracted from core/schedule on every check): the
statements by which the leaves touch their shared state are the ones the concurrent leaf model
`Model/C02LeafPar.lean` is made of — `Next`: the once, then ONE statement of accesses; `Left`: ONE statement — and
every plain field of a leaf is written inside its once only.
-/
import Pandora.Gen.C02Leaf
import Pandora.Model.C02LeafPar
import Pandora.Model.C02Pub

namespace Pandora.Bridge.C02Leaf
open Pandora.Gen.C02Leaf Pandora.Model.C02.LeafPar

/-- per (type, method) ALL accesses in source order, statement boundaries forgotten (splitting a condition into two
statements or merging two changes nothing) -/
def flatAccesses (t : List (String × String × List (List String))) : List (String × String × List String) :=
  t.map fun r => (r.1, r.2.1, r.2.2.flatten)

/-- the regenerated accesses are those of the model -/
theorem accesses_eq : flatAccesses leafAccesses =
    [("doAtSchedule", "Left", doAtLeftAccesses.flatten), ("doAtSchedule", "Next", doAtNextAccesses.flatten),
     ("unlimitedSchedule", "Left", unlLeftAccesses.flatten), ("unlimitedSchedule", "Next", unlNextAccesses.flatten)] := rfl

/-- what a call does to shared state once the once is behind it -/
def afterOnce (t : List String) : List String := t.filter (fun s => s != "startOnce.Do")

/-- reads of write-once locations (`finish` and the started flag are written inside the once only) -/
def isRead (a : String) : Bool := a == "finish.Load" || a == "IsStarted()" || a == "started.Load"

def nodupB : List String → Bool
  | [] => true
  | a :: r => !r.contains a && nodupB r

/-- the structural reason for linearizability: apart from the once, every `Next` and every `Left` of every leaf either
performs exactly ONE operation on shared state (the fetch-and-increment `i.Inc`, the load `i.Load`) or only reads
distinct write-once locations (`finish`, the started flag: written inside the once only); and `Next` passes the once
first -/
theorem one_access : ∀ r ∈ flatAccesses leafAccesses,
    ((afterOnce r.2.2).length = 1 ∨ ((afterOnce r.2.2).all isRead = true ∧ nodupB (afterOnce r.2.2) = true)) ∧
    (r.2.1 = "Next" → r.2.2.head? = some "startOnce.Do") ∧
    (r.2.1 = "Left" → afterOnce r.2.2 = r.2.2) := by decide

/-- the token index is taken by ONE fetch-and-increment (not a load and a store, not a load and an increment), and
`Left` loads it once -/
theorem index_is_fetch_and_increment :
    (flatAccesses leafAccesses).filter (fun r => r.1 == "doAtSchedule") =
      [("doAtSchedule", "Left", ["i.Load"]), ("doAtSchedule", "Next", ["startOnce.Do", "i.Inc"])] := rfl

/-- plain fields of a leaf are written inside the once only (so reading them after the once is not an access) -/
theorem plain_writes_in_once : ∀ r ∈ leafPlainWrites, r.2.2.2 = true := by decide

/-! ### the ORDER in which a starting unlimited leaf publishes, and in which `Left` reads -/

open Pandora.Model.C02.Pub in
/-- accesses of one method in execution order -/
def orderOf (ty m : String) : List String :=
  ((leafOrder.filter (fun r => r.1 == ty && r.2.1 == m)).map (·.2.2)).flatten

open Pandora.Model.C02.Pub in
/-- **the source stores the finish time BEFORE it raises the started flag** — in `Next` (inside the once) and in
`Start` — **and `Left` loads the flag BEFORE the finish time**: the orders `Proofs/C02Pub.lean publish_safe` is about.
Only the relative order of these stores / loads is compared (other accesses, helper methods, renamed locals and
split statements do not matter); swapping the two stores (the code before fix 4d9aa06) or the two loads breaks it. -/
theorem unlimited_publish_order :
    wOrder (orderOf "unlimitedSchedule" "Next") = [.storeFinish, .storeStarted] ∧
    wOrder (orderOf "unlimitedSchedule" "Start") = [.storeFinish, .storeStarted] ∧
    rOrder (orderOf "unlimitedSchedule" "Left") = [.loadStarted, .loadFinish] := by decide

end Pandora.Bridge.C02Leaf
