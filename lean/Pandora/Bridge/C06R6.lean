/-
Bridge lemmas for C06 (x)–(xii): the structural facts regenerated by gen/area_aggq_r6.go say that the code is the
configuration of `Model.C06Shared` / `Model.C06FailCancel` / `Model.C06BufRace` the theorems are about.
* an aggregator without destination (standard output) gets a closer that calls nothing, and the deferred function of
  `phoutAggregator.Run` reaches `writer.Flush()` and then `file.Close()` on every path (no guarded return before them);
* `Run` and `handle` start no goroutine and are the only functions of the package that touch the buffered writer: every
  `Write` and every `Flush` happen in one goroutine (`Model.C06BufRace.Sequential`);
* when a pool fails, at least one of the redundant cancels of the healthy pools' context is there (`Engine.Run`'s own
  deferred cancel, `gracefulShutdown()` in the engine-failed branch of cli.go); which of them are is `failCfg`.
On a tree where one of these is not so the lemma fails (`no-failing-input-found` unless the harness shows the loss:
kind=stdout, kind=queue … dur=, kind=proc sig=FAULT).
-/
import Pandora.Gen.AggQ
import Pandora.Proofs.C06R6

namespace Pandora.Bridge.C06R6
open Pandora.Gen.AggQ

/-- the configuration of the shared-output model that the regenerated facts describe -/
def sharedCfg : Pandora.Model.C06Shared.Cfg :=
  { closesShared := !phoutStdoutCloserNoop, finalFlush := phoutDeferFlushes }

theorem shared_is_code : sharedCfg = Pandora.Proofs.C06R6.codeCfg := by decide

/-- a destination of its own is closed after the final flush, on every path of the deferred function -/
theorem phout_defer_closes : phoutDeferFlushes = true ∧ phoutDeferCloses = true := by decide

/-- one goroutine uses the writer -/
theorem writer_single_goroutine : phoutRunGoStmts = 0 ∧ phoutWriterUsers = ["Run", "handle"] := by decide

/-- who cancels the healthy pools when one pool fails -/
def failCfg : Pandora.Model.C06FailCancel.Cfg :=
  { engineCancels := engineRunCancelsOnReturn, cliCancels := cliFailBranchCancels, runEngineCancels := cliRunEngineCancels }

/-- at least one cancel that is issued no later than the moment the main goroutine starts to wait -/
theorem fail_cancel_source : failCfg.engineCancels = true ∨ failCfg.cliCancels = true := by decide

end Pandora.Bridge.C06R6
