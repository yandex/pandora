/-
Bridge C10: the regenerated definitions (`Pandora/Gen/GrpcStatus.lean`, rewritten from /repo's current source on
every check run) agree with what the hand-written model assumes.  If the source changes any of these, this file
stops compiling and the check reports a broken obligation.
-/
import Pandora.Gen.GrpcStatus
import Pandora.Model.C10
import Pandora.Model.C10Paths
import Pandora.Model.C10R6
import Pandora.Spec.C10

namespace Pandora.Bridge.GrpcStatus
open Pandora.Model.C10

/-- the model's gRPC table is the switch of `ConvertGrpcStatus` -/
theorem grpcToHttp_eq (c : Nat) : Gen.GrpcStatus.grpcToHttp c = grpcToHttp c := by
  -- the codes 0 … 16 by evaluation; from 17 on every comparison fails on both sides
  by_cases h : c < 17
  · exact (by decide : ∀ c < 17, Gen.GrpcStatus.grpcToHttp c = grpcToHttp c) c h
  · obtain ⟨k, rfl⟩ : ∃ k, c = k + 17 := ⟨c - 17, by omega⟩
    simp [Gen.GrpcStatus.grpcToHttp, grpcToHttp]

theorem protoCodeError_eq : Gen.GrpcStatus.protoCodeError = protoCodeError := rfl
theorem errnoDefault_eq : Gen.GrpcStatus.errnoDefault = protoCodeError := rfl
theorem timeoutErrno_eq : Gen.GrpcStatus.timeoutErrno = timeoutErrno := rfl
theorem emptyTag_eq : Gen.GrpcStatus.emptyTag = emptyTag := rfl
theorem scenarioEmptyTag_eq : Gen.GrpcStatus.scenarioEmptyTag = emptyTag := rfl

/-- `getErrno` follows `.Err` of exactly the three wrapper types of `Err.opError/syscallError/urlError`
and returns the value of a `syscall.Errno` leaf -/
theorem errnoUnwrapTypes_eq :
    Gen.GrpcStatus.errnoUnwrapTypes = ["*net.OpError", "*os.SyscallError", "*url.Error"] := rfl
theorem errnoLeafType_eq : Gen.GrpcStatus.errnoLeafType = "syscall.Errno" := rfl

/-- model hypothesis `connectHook = none`: no non-test code of the repo sets `BaseGun.Connect` -/
theorem no_connect_hook : Gen.GrpcStatus.connectHookAssignments = [] := rfl

/-! ### the documented table -/

/-- look a code up in table rows, with a default -/
def lookupRows (rows : List (Nat × Nat)) (d c : Nat) : Nat :=
  match rows.find? (fun r => r.1 == c) with
  | some r => r.2
  | none => d

/-- the hand-written `Spec.C10.docTable` (what the executable Spec judges real samples by) IS the table of
docs/eng/grpc-generator.md as regenerated from the markdown file, for every code -/
theorem docTable_eq_doc (c : Nat) :
    Spec.C10.docTable c = lookupRows Gen.GrpcStatus.docRows Gen.GrpcStatus.docDefault c := by
  by_cases h : c < 17
  · have hfin : ∀ c, c < 17 → Spec.C10.docTable c = lookupRows Gen.GrpcStatus.docRows Gen.GrpcStatus.docDefault c := by
      decide
    exact hfin c h
  · obtain ⟨k, rfl⟩ : ∃ k, c = k + 17 := ⟨c - 17, by omega⟩
    simp [lookupRows, Gen.GrpcStatus.docRows, Gen.GrpcStatus.docDefault, Spec.C10.docTable, List.find?]

/-! ### the id counter: `Model.C10.nextID` is one atomic `Add(1)` on a `uint64` that nothing else touches -/

theorem idCounterType_eq : Gen.GrpcStatus.idCounterType = "sync/atomic.Uint64" := rfl
theorem nextIDShape_eq : Gen.GrpcStatus.nextIDShape = "return idCounter.Add(1)" := rfl
theorem idCounterOtherUses_eq : Gen.GrpcStatus.idCounterOtherUses = [] := rfl

/-! ### sample-relevant slices: the decision trees of `Model.C10` (`shootHttp`, `stepHttp`/`shootScenario`, `shootGrpc`,
`stepGrpc`/`shootGrpcScenario`, `addTag`, `autotagChars`, `ShotPlan.toShot`) were written against exactly this code.
A change to any statement that creates, fills or reports a sample breaks one of these lemmas; renaming locals
(printed as v1, v2 … in order of appearance), reordering independent setter calls and touching statements outside the
slice (logging, tracing, dumping, timing) does not (see gen/area_grpcstatus_slices.go). -/

theorem sliceBaseShoot_eq : Gen.GrpcStatus.sliceBaseShoot = [
  "if v1.Aggregator == nil {",
  "  zap.L().Panic(\"must bind before shoot\")",
  "}",
  "if v1.Connect != nil {",
  "  v2 := v1.Connect(v1.Ctx)",
  "  if v2 != nil {",
  "    return",
  "  }",
  "}",
  "v3, v4 := v5.Request()",
  "if v5.IsInvalid() {",
  "  v4.AddTag(EmptyTag)",
  "  v4.SetProtoCode(0)",
  "  v1.Aggregator.Report(v4)",
  "  return",
  "}",
  "if v1.Config.AutoTag.Enabled && (!v1.Config.AutoTag.NoTagOnly || v4.Tags() == \"\") {",
  "  v4.AddTag(autotag(v1.Config.AutoTag.URIElements, v3.URL))",
  "}",
  "if v4.Tags() == \"\" {",
  "  v4.AddTag(EmptyTag)",
  "}",
  "var v6 error",
  "defer func() {",
  "  if v6 != nil {",
  "    v4.SetErr(v6)",
  "  }",
  "  v1.Aggregator.Report(v4)",
  "  v6 = errors.WithStack(v6)",
  "}()",
  "v7, v6 = v1.Client.Do(v3)",
  "if v6 != nil {",
  "  return",
  "}",
  "v4.SetProtoCode(v7.StatusCode)",
  "_, v6 = io.Copy(ioutil.Discard, v7.Body)",
  "if v6 != nil {",
  "  return",
  "}"] := rfl

theorem srcAutotag_eq : Gen.GrpcStatus.srcAutotag = [
  "v1 := v2.Path",
  "var v3 int",
  "for ; v3 < len(v1); v3++ { if v1[v3] == '/' { if v4 == 0 { break } v4-- } }",
  "return v1[:v3]"] := rfl

theorem sliceScenarioShoot_eq : Gen.GrpcStatus.sliceScenarioShoot = [
  "if v1.base.Aggregator == nil {",
  "  zap.L().Panic(\"must bind before shoot\")",
  "}",
  "if v1.base.Connect != nil {",
  "  v2 := v1.base.Connect(v1.base.Ctx)",
  "  if v2 != nil {",
  "    return",
  "  }",
  "}",
  "v3 := v1.shoot(v4, map[string]any{ \"source\": v4.VariableStorage.Variables(), })",
  "if v3 != nil {",
  "  return",
  "}"] := rfl

theorem sliceScenarioShootLoop_eq : Gen.GrpcStatus.sliceScenarioShootLoop = [
  "for _, v1 := range v2.Requests {",
  "  v3 := v2.Name + \".\" + v1.Name",
  "  v4 := netsample.Acquire(v3)",
  "  v5 := v6.shootStep(v1, v4, v2.Name, v7, v8, v9.String())",
  "  if v5 != nil {",
  "    v6.reportErr(v4, v5)",
  "    return v5",
  "  }",
  "}",
  "return nil"] := rfl

theorem sliceScenarioShootStep_eq : Gen.GrpcStatus.sliceScenarioShootStep = [
  "if v1.Preprocessor != nil {",
  "  v2, v3 := v1.Preprocessor.Process(v4)",
  "  if v3 != nil {",
  "    return fmt.Errorf(\"%s preProcessor %w\", v5, v3)",
  "  }",
  "}",
  "if v6 := v1.Templater.Apply(&v7, v4, v8, v1.Name); v6 != nil {",
  "  return fmt.Errorf(\"%s templater.Apply %w\", v5, v6)",
  "}",
  "v9, v10 := v11.prepareRequest(v7)",
  "if v10 != nil {",
  "  return fmt.Errorf(\"%s prepareRequest %w\", v5, v10)",
  "}",
  "v12, v10 := v11.base.Client.Do(v9)",
  "if v10 != nil {",
  "  return fmt.Errorf(\"%s g.Do %w\", v5, v10)",
  "}",
  "v13 := v1.Postprocessors",
  "if v11.base.Config.AnswLog.Enabled || v11.base.DebugLog || len(v13) > 0 {",
  "  v14, v10 = io.ReadAll(v12.Body)",
  "} else {",
  "  _, v10 = io.Copy(io.Discard, v12.Body)",
  "}",
  "if v10 != nil {",
  "  return fmt.Errorf(\"%s io.Copy %w\", v5, v10)",
  "}",
  "for _, v15 := range v13 {",
  "  v16, v10 = v15.Process(v12, v17)",
  "  if v10 != nil {",
  "    return fmt.Errorf(\"%s postprocessor.Postprocess %w\", v5, v10)",
  "  }",
  "  _, v10 = v17.Seek(0, io.SeekStart)",
  "  if v10 != nil {",
  "    return fmt.Errorf(\"%s postprocessor.Postprocess %w\", v5, v10)",
  "  }",
  "}",
  "v18.SetProtoCode(v12.StatusCode)",
  "v11.base.Aggregator.Report(v18)",
  "return nil"] := rfl

theorem sliceScenarioReportErr_eq : Gen.GrpcStatus.sliceScenarioReportErr = [
  "if v1 == nil {",
  "  return",
  "}",
  "v2.AddTag(EmptyTag)",
  "v2.SetErr(v1)",
  "v2.SetProtoCode(0)",
  "v3.base.Aggregator.Report(v2)"] := rfl

theorem sliceGrpcShoot_eq : Gen.GrpcStatus.sliceGrpcShoot = [
  "v1.shoot(v2.(*ammo.Ammo))"] := rfl

theorem sliceGrpcShootInner_eq : Gen.GrpcStatus.sliceGrpcShootInner = [
  "v1 := 0",
  "v2 := netsample.Acquire(v3.Tag)",
  "defer func() {",
  "  v2.SetProtoCode(v1)",
  "  v4.Aggr.Report(v2)",
  "}()",
  "if v3.IsInvalid() {",
  "  return",
  "}",
  "v5, v6 := v4.Services[v3.Call]",
  "if !v6 {",
  "  return",
  "}",
  "v7, v8 := json.Marshal(v3.Payload)",
  "if v8 != nil {",
  "  return",
  "}",
  "v8 = v9.UnmarshalJSON(v7)",
  "if v8 != nil {",
  "  v1 = 400",
  "  return",
  "}",
  "v10, v11 := v4.Stub.InvokeRpc(v12, &v5, v9)",
  "v1 = ConvertGrpcStatus(v11)"] := rfl

theorem sliceGrpcScenarioShoot_eq : Gen.GrpcStatus.sliceGrpcScenarioShoot = [
  "v1 := v2.shoot(v3, v4)",
  "if v1 != nil {",
  "  return",
  "}"] := rfl

theorem sliceGrpcScenarioShootLoop_eq : Gen.GrpcStatus.sliceGrpcScenarioShootLoop = [
  "for _, v1 := range v2.Calls {",
  "  v3 := v4.shootStep(&v1, netsample.Acquire(v2.Name + \".\" + v1.Tag), v2.Name, v5, v6)",
  "  if v3 != nil {",
  "    return v3",
  "  }",
  "}",
  "return nil"] := rfl

theorem sliceGrpcScenarioShootStep_eq : Gen.GrpcStatus.sliceGrpcScenarioShootStep = [
  "v1 := 0",
  "defer func() {",
  "  v2.SetProtoCode(v1)",
  "  v3.gun.Aggr.Report(v2)",
  "}()",
  "for _, v4 := range v5.Preprocessors {",
  "  v6, v7 := v4.Process(v5, v8)",
  "  if v7 != nil {",
  "    return fmt.Errorf(\"%s preProcessor %w\", v9, v7)",
  "  }",
  "}",
  "v10, v11 := v3.templ.Apply(v5.Payload, v12, v8, v13, v5.Name)",
  "if v11 != nil {",
  "  return fmt.Errorf(\"%s templater.Apply %w\", v9, v11)",
  "}",
  "v14, v15 := v3.gun.Services[v5.Call]",
  "if !v15 {",
  "  return fmt.Errorf(\"%s invalid step.Call\", v9)",
  "}",
  "v11 = v16.UnmarshalJSON(v10)",
  "if v11 != nil {",
  "  v1 = 400",
  "  return fmt.Errorf(\"%s invalid payload. Cant unmarshal gRPC\", v9)",
  "}",
  "v17, v18 := v3.gun.Stub.InvokeRpc(v19, &v14, v16)",
  "v1 = grpcgun.ConvertGrpcStatus(v18)",
  "v2.SetProtoCode(v1)",
  "for _, v20 := range v5.Postprocessors {",
  "  v21, v22 := v20.Process(v17, v1)",
  "  if v22 != nil {",
  "    return fmt.Errorf(\"%s postProcessor %w\", v9, v22)",
  "  }",
  "}",
  "if v17 != nil {",
  "  v11 = v16.ConvertFrom(v17)",
  "  if v11 != nil {",
  "    return fmt.Errorf(\"%s message.ConvertFrom `%s`; err: %w\", v9, v17.String(), v11)",
  "  }",
  "  v23, v24 := v16.MarshalJSON()",
  "  if v24 != nil {",
  "    return fmt.Errorf(\"%s message.MarshalJSON %w\", v9, v24)",
  "  }",
  "  v24 = json.Unmarshal(v23, &v25)",
  "  if v24 != nil {",
  "    return fmt.Errorf(\"%s json.Unmarshal %w\", v9, v24)",
  "  }",
  "}",
  "return nil"] := rfl

theorem srcAcquire_eq : Gen.GrpcStatus.srcAcquire = [
  "v1 := samplePool.Get().(*Sample)",
  "*v1 = Sample{ timeStamp: time.Now(), tags: v2, }",
  "return v1"] := rfl

theorem srcAddTag_eq : Gen.GrpcStatus.srcAddTag = [
  "if v1.tags == \"\" { v1.tags = v2 return }",
  "v1.tags += \"|\" + v2"] := rfl

theorem srcSetID_eq : Gen.GrpcStatus.srcSetID = [
  "v1.id = v2"] := rfl

theorem srcSetProtoCode_eq : Gen.GrpcStatus.srcSetProtoCode = [
  "v1.set(keyProtoCode, v2)",
  "v1.setRTT()"] := rfl

theorem srcSetErr_eq : Gen.GrpcStatus.srcSetErr = [
  "v1.err = v2",
  "v1.set(keyErrno, getErrno(v2))",
  "v1.setRTT()"] := rfl

theorem srcGunAmmoRequest_eq : Gen.GrpcStatus.srcGunAmmoRequest = [
  "v1 := netsample.Acquire(v2.tag)",
  "v1.SetID(v2.id)",
  "return v2.req, v1"] := rfl

theorem srcNewGunAmmo_eq : Gen.GrpcStatus.srcNewGunAmmo = [
  "return GunAmmo{ req: v1, id: v2, tag: v3, }"] := rfl

theorem sliceHTTPProviderAcquire_eq : Gen.GrpcStatus.sliceHTTPProviderAcquire = [
  "v1, v2 := <-v3.Sink",
  "if !v2 {",
  "  return nil, false",
  "}",
  "v4, v5 := v1.BuildRequest()",
  "if v5 != nil {",
  "  return v1, false",
  "}",
  "for _, v6 := range v3.Middlewares {",
  "  v7 := v6.UpdateRequest(v4)",
  "  if v7 != nil {",
  "    return v1, false",
  "  }",
  "}",
  "return httpProvider.NewGunAmmo(v4, v1.Tag(), v3.NextID()), v2"] := rfl

/-! ### which client does the exchange, the pause of a scenario step -/

/-- `Model.C10.clientDo`: the path summary of `NewRedirectingClient` — `redirect` (its second argument) true returns a
`redirectClient` (an `*http.Client` with the default policy: `followDo`), false a `noRedirectClient` … (a path summary:
reordering the branches or naming the results does not change it, returning a `redirectClient` for `false` does) -/
theorem pathsNewRedirectingClient_eq : sameSet Gen.GrpcStatus.pathsNewRedirectingClient
    [("redirectClient", ["arg1=true"]), ("noRedirectClient", ["arg1=false"])] = true := by decide

/-- … whose `Do` is the bare `RoundTrip` (`bareDo`: the first answer is handed back as it came, `Location` unread) -/
theorem srcNoRedirectClientDo_eq : Gen.GrpcStatus.srcNoRedirectClientDo = [
  "return v1.Transport.RoundTrip(v2)"] := rfl

/-- `PauseMode.sleeps`: the pause of a scenario step is `time.Sleep`, which no context interrupts -/
theorem srcScenarioPause_eq : Gen.GrpcStatus.srcScenarioPause = [
  "if v1.Sleep > 0 { time.Sleep(v1.Sleep) }"] := rfl
theorem srcGrpcScenarioPause_eq : Gen.GrpcStatus.srcGrpcScenarioPause = [
  "if v1.Sleep > 0 { time.Sleep(v1.Sleep) }"] := rfl

/-! ### PATH SUMMARIES. The translator walks every path through the functions that report samples (callees
inlined, deferred closures run at the exits that passed them) and keeps, per path, the exit and the events: setter calls,
`Report` calls, the exchange results the path branches on. Nothing of the source TEXT survives in them (names, temporaries,
order of independent statements, logging / tracing / templating code), so these lemmas survive refactorings that the
slices above report; a path that reports twice, not at all, before the code is set or without the error breaks them.
Each regenerated set is (as a set) the set of paths the MODEL's decision tree takes (`Model/C10Paths.lean`). -/

section paths
open Gen.GrpcStatus

/-- `BaseGun.Shoot`: apart from the "must bind before shoot" panic (before anything happens) its paths are `shootHttp`'s -/
theorem pathsBaseShoot_model : sameSet (pathsBaseShoot.filter (·.1 != "panic")) httpPaths = true := by decide
theorem pathsBaseShoot_panic : pathsBaseShoot.filter (·.1 == "panic") = [("panic", [])] := by decide

/-- http scenario `shootStep` = `stepHttp`; the step loop run for at most one step = `shootScenario`'s iteration;
`Shoot` adds nothing but the bind check -/
theorem pathsScenarioShootStep_model : sameSet pathsScenarioShootStep stepPaths = true := by decide
theorem pathsScenarioShootLoop_model : sameSet pathsScenarioShootLoop loopPaths = true := by decide
theorem pathsScenarioShoot_model :
    sameSet (pathsScenarioShoot.filter (·.1 != "panic")) (loopPaths.map fun p => ("void", p.2)) = true := by decide
theorem pathsScenarioShoot_panic : pathsScenarioShoot.filter (·.1 == "panic") = [("panic", [])] := by decide

/-- gRPC gun `shoot` = `shootGrpc`; gRPC scenario `shootStep` = `stepGrpc`, its loop = `shootGrpcScenario`'s iteration -/
theorem pathsGrpcShoot_model : sameSet pathsGrpcShoot grpcPaths = true := by decide
theorem pathsGrpcScenarioShootStep_model : sameSet pathsGrpcScenarioShootStep grpcStepPaths = true := by decide
theorem pathsGrpcScenarioShootLoop_model : sameSet pathsGrpcScenarioShootLoop grpcLoopPaths = true := by decide

/-! what the property needs, read off the REGENERATED sets directly -/

/-- every path of the plain guns that does not panic reports exactly once -/
theorem paths_report_once :
    (∀ p ∈ pathsBaseShoot, p.1 ≠ "panic" → reportCount p.2 = 1) ∧ (∀ p ∈ pathsGrpcShoot, reportCount p.2 = 1) := by decide

/-- a scenario shot reports exactly once per step it enters (the loop run for at most one step: no `Report` only when no
step was entered), whether the step passes or fails, with or without a pause -/
theorem paths_scenario_report_once_per_step :
    (∀ p ∈ pathsScenarioShootLoop, reportCount p.2 ≤ 1 ∧ (reportCount p.2 = 0 → p.2.all (· == "Sleep") = true)) ∧
    (∀ p ∈ pathsGrpcScenarioShootLoop, reportCount p.2 ≤ 1 ∧ (reportCount p.2 = 0 → p.2.all (· == "Sleep") = true)) ∧
    (∀ p ∈ pathsGrpcScenarioShootStep, reportCount p.2 = 1) := by decide

/-- the status is on the sample before it is reported whenever a response was received; the error whenever the exchange
or the body failed -/
theorem paths_codes_before_report :
    (∀ p ∈ pathsBaseShoot, p.2.contains "Do=ok" = true → (beforeReport p.2).contains "SetProtoCode" = true) ∧
    (∀ p ∈ pathsBaseShoot, (p.2.contains "Do=err" || p.2.contains "Body=err") = true → (beforeReport p.2).contains "SetErr" = true) ∧
    (∀ p ∈ pathsScenarioShootLoop, reportCount p.2 = 1 → (beforeReport p.2).contains "SetProtoCode" = true) ∧
    (∀ p ∈ pathsScenarioShootLoop, p.1 = "err" → (beforeReport p.2).contains "SetErr" = true) := by decide

/-- a step's pause comes after its sample has been reported (http) and never ends the step with an error -/
theorem paths_pause_after_report :
    (∀ p ∈ pathsScenarioShootStep, p.2.contains "Sleep" = true → p.1 = "nil" ∧ (beforeReport p.2).contains "Sleep" = false) ∧
    (∀ p ∈ pathsGrpcScenarioShootStep, p.2.contains "Sleep" = true → p.1 = "nil") := by decide

end paths

/-! ### the dialers of the http guns, the grpc/json line decoder -/

/-- `NewDNSCachingDialer` builds no error from the error of its dial (`Model.C10.cachingDial` is the identity); the
one error it does build wraps what `SplitHostPort` said about an address that was dialled successfully -/
theorem dnsCachingDialer_returns_dial_error_as_is :
    Gen.GrpcStatus.dialWrapsDNSCachingDialer.all (fun w => w.2 != "DialContext") = true := by decide

/-- `newConnectDialFunc` wraps the error of its dial once, with `errors.WithStack` (`Model.C10.connectDial` = one
`causer` around it) -/
theorem connectDialFunc_wraps_dial_error :
    (Gen.GrpcStatus.dialWrapsConnectDialFunc.filter (fun w => w.2 == "DialContext")) = [("WithStack", "DialContext")] := by
  decide

/-- `decodeAmmo` unmarshals the line into a variable of its own and overwrites the pooled object by `Reset` — with the
decoded fields, or with nothing when the line cannot be decoded (`Model.C10.deliver`); `Reset` assigns the WHOLE struct
(`AmmoObj.reset`: also the id and the invalid flag) -/
theorem decodeAmmo_eq :
    Gen.GrpcStatus.decodeAmmoTarget = "local" ∧
    Gen.GrpcStatus.decodeAmmoResets = ["\"\", \"\", nil, nil", "fresh.Tag, fresh.Call, fresh.Metadata, fresh.Payload"] ∧
    Gen.GrpcStatus.srcGrpcAmmoReset = ["*v1 = Ammo{v2, v3, v4, v5, 0, false}"] := ⟨rfl, rfl, rfl⟩

/-- the instances' `Release` puts the ammo object back into the pool AS IT IS (`Model.C10.runAmmoPool`: the delivered
object `a` itself goes back; the harness's pre-seeded pool states are the states a release leaves) -/
theorem grpcProviderRelease_eq : Gen.GrpcStatus.srcGrpcProviderRelease = ["v1.Pool.Put(v2)"] := rfl

/-! ### option defaults, registrations, the discarded-shot sample -/

/-- the http-family guns and the defaults function each decodes its config over (`register.Gun`) -/
theorem gunDefaultConfig_eq : Gen.GrpcStatus.gunDefaultConfig =
    [("connect", "DefaultConnectGunConfig"), ("http", "DefaultHTTPGunConfig"), ("http/scenario", "DefaultHTTPGunConfig"),
     ("http2", "DefaultHTTP2GunConfig"), ("http2/scenario", "DefaultHTTP2GunConfig")] := rfl

/-- every defaults function builds the model's `defaultAutoTag` … -/
theorem autoTagDefaults_model : ∀ row ∈ Gen.GrpcStatus.autoTagDefaults,
    row.2 = (Model.C10.defaultAutoTag.enabled, Model.C10.defaultAutoTag.uriElements, Model.C10.defaultAutoTag.noTagOnly) := by decide

/-- … and every registered gun's defaults function is one of them: whichever http-family gun a pool names, an `auto-tag`
section is decoded over `Model.C10.defaultAutoTag` -/
theorem registered_guns_autoTag_default : ∀ g ∈ Gen.GrpcStatus.gunDefaultConfig,
    Gen.GrpcStatus.autoTagDefaults.lookup g.2 = some (false, 2, true) := by decide

/-- the model's defaults are the DOCUMENTED ones (docs/eng/http-generator.md, regenerated) -/
theorem docAutoTagDefaults_eq : Gen.GrpcStatus.docAutoTagDefaults =
    [("no-tag-only", toString Spec.C10.docNoTagOnly), ("uri-elements", toString Spec.C10.docUriElements)] := rfl

theorem defaultAutoTag_documented : Model.C10.defaultAutoTag.enabled = false ∧
    Model.C10.defaultAutoTag.uriElements = Spec.C10.docUriElements ∧ Model.C10.defaultAutoTag.noTagOnly = Spec.C10.docNoTagOnly := ⟨rfl, rfl, rfl⟩

/-- `netsample.DiscardedShootSample()`: a NEW sample (not one of the pool) tagged `DiscardedShootTag` whose net code is set to
`DiscardedShootCodeError` by `SetUserNet` (= `set(keyErrno, …)`): `Model.C10.discardedSample` -/
theorem discardedShootSample_eq :
    Gen.GrpcStatus.discardedShootSampleFacts =
      ["call:SetUserNet(DiscardedShootCodeError)", "lit:tags=DiscardedShootTag", "lit:timeStamp=time.Now()", "pool:false", "returns:it"] ∧
    Gen.GrpcStatus.srcSetUserNet = ["v1.set(keyErrno, v2)"] ∧
    Gen.GrpcStatus.discardedTag = Model.C10.discardedTag ∧ Gen.GrpcStatus.discardedNet = Model.C10.discardedNet ∧
    Model.C10.discardedTag = Spec.C10.discardedTag ∧ Model.C10.discardedNet = Spec.C10.discardedNet := ⟨rfl, rfl, rfl, rfl, rfl, rfl⟩

/-- `(*Waiter).IsSlowDown`: false once the context is done, else `overdueDuration >= MaxOverdueDuration`, and the threshold is
two seconds (`Model.C10.isSlowDown`, `maxOverdueNanos`) -/
theorem isSlowDown_eq :
    Gen.GrpcStatus.isSlowDownFacts = ["done:false", "live:recv.overdueDuration >= MaxOverdueDuration"] ∧
    Gen.GrpcStatus.maxOverdueNanos = Model.C10.maxOverdueNanos := ⟨rfl, rfl⟩

end Pandora.Bridge.GrpcStatus
