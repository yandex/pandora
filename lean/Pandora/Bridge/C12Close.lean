/-
Bridge for the gen area `c12close`: the cleanup / accounting facts re-extracted from core/engine are what the model and
the harness rely on — an instance's gun is closed on EVERY path out of `instance.Run` (the `Close()` is deferred before `Run` is
called, in every function body that calls `Run`), `InstanceStart` / `InstanceFinish` are counted once per run of an instance
whatever its outcome (the finish inside a deferred function registered before the start is counted), and a gun whose `Bind` failed is
closed.  The harness observes an instance's end as the `Close` of its gun and compares `Metrics.InstanceStart/InstanceFinish` with
the bound / closed guns (Spec key `metric`); the pool layer's events `iter … (sends a result)` / `panic id` assume exactly this.
The lemmas do not name the callers: extracting the first-instance closure into a function, or creating the first instance through
`runNewInstance` too, keeps them true; dropping a defer, closing only on the nil path, counting the finish outside the defer do not.
-/
import Pandora.Gen.C12Close

namespace Pandora.Bridge.C12Close
open Pandora.Gen.C12Close

/-- every function body that calls `Run` on an instance defers that instance's `Close()` first (and there is such a body) -/
theorem runCallers_defer_close : runCallers ≠ [] ∧ ∀ r ∈ runCallers, r.2 = true := by decide

/-- the start of an instance is counted unconditionally, its finish inside a deferred function registered before that and nowhere
else; `newInstance` closes the gun when `Bind` fails -/
theorem counting_and_bind_cleanup :
    startCountedUnconditionally = true ∧ finishCountedInDefer = true ∧ finishDeferBeforeStartCount = true ∧
    finishCountedElsewhere = 0 ∧ closesGunWhenBindFails = true := by decide

end Pandora.Bridge.C12Close
